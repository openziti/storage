import StorageModel.C10.ListenTreeProofs
/-
  C10 — the listener on complete derivations: sort by / skip / limit, and ExitQueryStmt on the tail of a
  query.
-/
namespace StorageModel.C10

def sortFieldNode (f : SortFieldTree) : SV := .node (.sortField (.sym f.ident.text) f.asc)

theorem effOn_dir (d : Token) (h : (kindIs d .ASC || kindIs d .DESC) = true) (pre : List SV) :
    EffOn (tokEv d) pre (some (.sortdir (d.kind == .ASC) :: pre)) := by
  simp only [Bool.or_eq_true, kindIs, beq_iff_eq] at h
  rcases h with h | h
  · rw [tokEv_of_kind d _ h (by decide)]
    simp only [h, beq_self_eq_true]
    exact effOn_step _ _ _ fun _ _ => rfl
  · rw [tokEv_of_kind d _ h (by decide)]
    simp only [h, show (TK.DESC == TK.ASC) = false from rfl]
    exact effOn_step _ _ _ fun _ _ => rfl

theorem effOn_sortField (f : SortFieldTree) (h : f.wf = true) (pre : List SV) :
    EffOn f.events pre (some (sortFieldNode f :: pre)) := by
  obtain ⟨ident, dir⟩ := f
  simp only [SortFieldTree.wf, Bool.and_eq_true] at h
  have e1 := effOn_ident ident h.1 pre
  cases dir with
  | none =>
    simp only [SortFieldTree.events, List.append_nil]
    exact effOn_seq e1 (effOn_step _ _ _ fun s c => rfl)
  | some wd =>
    simp only [Bool.and_eq_true] at h
    simp only [SortFieldTree.events, List.append_assoc]
    exact effOn_seq e1 (effOn_seq (effOn_dir wd.2 h.2.2 _) (effOn_step _ _ _ fun s c => rfl))

theorem effOn_sortFields : ∀ (fs : List SortFieldTree) (pre : List SV), fs.all SortFieldTree.wf = true →
    EffOn (fs.flatMap SortFieldTree.events) pre (some ((fs.reverse.map sortFieldNode) ++ pre)) := by
  intro fs
  induction fs with
  | nil => intro pre _; simpa using effOn_nil pre
  | cons f rest ih =>
    intro pre h
    simp only [List.all_cons, Bool.and_eq_true] at h
    simp only [List.flatMap_cons]
    have := effOn_seq (effOn_sortField f h.1 pre) (ih (sortFieldNode f :: pre) h.2)
    simpa [List.reverse_cons, List.map_append, List.append_assoc] using this

theorem sortFieldsOf_nodes : ∀ (fs : List SortFieldTree), sortFieldsOf (fs.map sortFieldNode) = some (sortFieldsU fs) := by
  intro fs
  induction fs with
  | nil => rfl
  | cons f rest ih => simp [sortFieldNode, sortFieldsOf, sortFieldsU, ih]

theorem sortBy_events_eq (s : SortByTree) :
    s.events = .eSB :: ((s.first :: s.more.map (·.2.2.2)).flatMap SortFieldTree.events ++ [.xSB]) := by
  simp [SortByTree.events, List.flatMap_cons, List.flatMap_map, List.append_assoc]

theorem effOn_sortBy (t : SortByTree) (h : t.wf = true) (pre : List SV) :
    EffOn t.events pre (some (.node t.build :: pre)) := by
  simp only [SortByTree.wf, Bool.and_eq_true] at h
  rw [sortBy_events_eq]
  show EffOn _ pre ((some (t.first :: t.more.map (·.2.2.2))).map fun fs => SV.node (.sortBy (sortFieldsU fs)) :: pre)
  refine effOn_group (stk := fun fs => fs.reverse.map sortFieldNode) (fun _ => rfl)
    (fun pre => effOn_sortFields _ pre (all_items (q := SortFieldTree.wf) h.1.2 h.2)) (fun fs _ outer s => ?_) pre
  simp only [step, exitSortBy, List.map_reverse, List.reverse_reverse, sortFieldsOf_nodes]
  rfl

theorem effOn_intArg {ev : Ev} {mk : Int → U}
    (hint : ∀ s i c, step ⟨s, .node (.lit (.int i)) :: c, false⟩ ev = .ok ⟨s, .node (mk i) :: c, false⟩)
    (hflt : ∀ s q c, ∃ st', step ⟨s, .node (.lit (.flt q)) :: c, false⟩ ev = .ok st' ∧ st'.err = true)
    (t : Token) (ht : t.kind = .NUMBER ∨ t.kind = .NONE) (pre : List SV) :
    EffOn (tokEv t ++ [ev]) pre ((intOfToken t).map fun i => .node (mk i) :: pre) := by
  have e1 := effOn_literal t (by rcases ht with h | h <;> simp [h]) pre
  unfold intOfToken
  rcases ht with hk | hk <;> simp only [litOfToken, hk] at e1 ⊢
  · cases hc : classifyNumber t.text with
    | int i =>
      simp only [hc, Option.map_some] at e1 ⊢
      exact effOn_seq e1 (effOn_step _ _ _ fun s c => hint s i _)
    | float q =>
      simp only [hc, Option.map_some] at e1 ⊢
      exact effOn_seq e1 (effOn_step_fail _ _ fun s c => hflt s q _)
    | bad =>
      simp only [hc, Option.map_none] at e1 ⊢
      exact effOn_fail_left e1
  · exact effOn_seq e1 (effOn_step _ _ _ fun s c => hint s (-1) _)

theorem effOn_skip (k : KwNumTree) (h : skipWf k = true) (pre : List SV) :
    EffOn (skipEvents k) pre ((intOfToken k.arg).map fun i => .node (.skipE i) :: pre) := by
  simp only [skipWf, Bool.and_eq_true, kindIs, beq_iff_eq] at h
  exact effOn_intArg (fun _ _ _ => rfl) (fun _ _ _ => ⟨_, rfl, rfl⟩) k.arg (.inl h.2) pre

theorem effOn_limit (k : KwNumTree) (h : limitWf k = true) (pre : List SV) :
    EffOn (limitEvents k) pre ((intOfToken k.arg).map fun i => .node (.limitE i) :: pre) := by
  simp only [limitWf, Bool.and_eq_true, Bool.or_eq_true, kindIs, beq_iff_eq] at h
  exact effOn_intArg (fun _ _ _ => rfl) (fun _ _ _ => ⟨_, rfl, rfl⟩) k.arg h.2 pre

/-- the nodes of the optional parts, limit on top; `sf` is the field list of the `sort by` -/
def tailStack (sf : Option U) (sk li : Option Int) : List SV :=
  (match li with | some j => [SV.node (.limitE j)] | none => []) ++
  (match sk with | some i => [SV.node (.skipE i)] | none => []) ++
  (match sf with | some f => [SV.node (.sortBy f)] | none => [])

def sortOf : Option U → U
  | some f => .sortBy f
  | none => .noSort

def sbFields (sb : Option (WSs × SortByTree)) : Option U :=
  sb.map fun x => sortFieldsU (x.2.first :: x.2.more.map (·.2.2.2))

theorem tailParts_sort (sb : Option (WSs × SortByTree)) (sk li : Option (WSs × KwNumTree)) (su : U) (a b : Option Int)
    (h : tailParts sb sk li = some (su, a, b)) : su = sortOf (sbFields sb) := by
  unfold tailParts at h
  cases h1 : optInt sk <;> cases h2 : optInt li <;> simp [h1, h2] at h
  obtain ⟨hs, _, _⟩ := h
  subst hs
  cases sb <;> rfl

theorem effOn_optKw {evs : KwNumTree → List Ev} {wf : KwNumTree → Bool} {mk : Int → U}
    (hpart : ∀ k, wf k = true → ∀ pre, EffOn (evs k) pre ((intOfToken k.arg).map fun i => .node (mk i) :: pre))
    (x : Option (WSs × KwNumTree)) (hx : x.all (wf ·.2) = true) (pre : List SV) :
    EffOn (optEvents evs x) pre
      ((optInt x).map fun a => (match a with | some i => [SV.node (mk i)] | none => []) ++ pre) := by
  match x, hx with
  | none, _ => exact effOn_nil pre
  | some (w, k), hx =>
    exact effOn_congr (hpart k hx pre) (by simp only [optInt]; cases intOfToken k.arg <;> rfl)

/-- the hypotheses leave out the white space in front of each part: it does not reach the listener -/
theorem effOn_tail (t : TailTree) (h1 : t.sortBy.all (·.2.wf) = true) (h2 : t.skip.all (skipWf ·.2) = true)
    (h3 : t.limit.all (limitWf ·.2) = true) (pre : List SV) :
    EffOn t.events pre
      ((tailParts t.sortBy t.skip t.limit).map fun r => tailStack (sbFields t.sortBy) r.2.1 r.2.2 ++ pre) := by
  obtain ⟨sb, sk, li⟩ := t
  have es : EffOn (optEvents SortByTree.events sb) pre (some (tailStack (sbFields sb) none none ++ pre)) := by
    match sb, h1 with
    | none, _ => exact effOn_nil pre
    | some (w, t), h1 => exact effOn_sortBy t h1 pre
  simp only [TailTree.events, List.append_assoc]
  refine effOn_congr (effOn_seq es (effOn_bind (effOn_optKw effOn_skip sk h2 _)
    fun mid _ => effOn_optKw effOn_limit li h3 mid)) ?_
  unfold tailParts
  cases optInt sk with
  | none => cases optInt li <;> rfl
  | some a =>
    cases optInt li with
    | none => rfl
    | some b => cases a <;> cases b <;> rfl

def notPaging : U → Bool
  | .limitE _ | .skipE _ | .sortBy _ => false
  | _ => true

def takeLimit (st : LState) : Option Int × LState :=
  match peek st with
  | some (.node (.limitE i)) => (some i, dropTop st)
  | _ => (none, st)

def takeSkip (st : LState) : Option Int × LState :=
  match peek st with
  | some (.node (.skipE i)) => (some i, dropTop st)
  | _ => (none, st)

def takeSort (st : LState) : U × LState :=
  match peek st with
  | some (.node (.sortBy f)) => (.sortBy f, dropTop st)
  | _ => (.noSort, st)

/-- the end of ExitQueryStmt: the node on top, or the constant true, becomes the predicate -/
def pushQuery (sortBy : U) (skip limit : Option Int) (st : LState) : LState :=
  let (pred, st4) := match peek st with
    | some (.node _) => popNode st
    | _ => (some (U.boolC true), st)
  match pred, st4.err with
  | some p, false => push st4 (.node (.query p sortBy skip limit))
  | _, _ => st4

theorem exitQueryStmt_eq (st : LState) :
    exitQueryStmt st =
      pushQuery (takeSort (takeSkip (takeLimit st).2).2).1 (takeSkip (takeLimit st).2).1 (takeLimit st).1
        (takeSort (takeSkip (takeLimit st).2).2).2 := by
  unfold exitQueryStmt
  rfl

def plainTop : List SV → Prop
  | .node u :: _ => notPaging u = true
  | _ => True

theorem take_plain (s : List (List SV)) {b : List SV} (hb : plainTop b) :
    takeLimit ⟨s, b, false⟩ = (none, ⟨s, b, false⟩) ∧ takeSkip ⟨s, b, false⟩ = (none, ⟨s, b, false⟩) ∧
      takeSort ⟨s, b, false⟩ = (.noSort, ⟨s, b, false⟩) := by
  match b, hb with
  | [], _ | .binop _ :: _, _ | .setfn _ :: _, _ | .sortdir _ :: _, _ => exact ⟨rfl, rfl, rfl⟩
  | .node u :: _, hb =>
    cases u with
    | limitE _ | skipE _ | sortBy _ => cases hb
    | _ => exact ⟨rfl, rfl, rfl⟩

section
variable (sf : Option U) (sk li : Option Int) (s : List (List SV)) {b : List SV} (hb : plainTop b)
include hb

/- Each part finds on top the first of the parts below it that is present, or the plain top of `b`. -/
theorem takeSort_tail : takeSort ⟨s, tailStack sf none none ++ b, false⟩ = (sortOf sf, ⟨s, b, false⟩) := by
  cases sf with
  | none => exact (take_plain s hb).2.2
  | some f => rfl

theorem takeSkip_tail :
    takeSkip ⟨s, tailStack sf sk none ++ b, false⟩ = (sk, ⟨s, tailStack sf none none ++ b, false⟩) := by
  cases sk with
  | some i => rfl
  | none =>
    cases sf with
    | none => exact (take_plain s hb).2.1
    | some f => rfl

theorem takeLimit_tail :
    takeLimit ⟨s, tailStack sf sk li ++ b, false⟩ = (li, ⟨s, tailStack sf sk none ++ b, false⟩) := by
  cases li with
  | some j => rfl
  | none =>
    cases sk with
    | some i => rfl
    | none =>
      cases sf with
      | none => exact (take_plain s hb).1
      | some f => rfl

theorem exitQ_tail :
    exitQueryStmt ⟨s, tailStack sf sk li ++ b, false⟩ = pushQuery (sortOf sf) sk li ⟨s, b, false⟩ := by
  rw [exitQueryStmt_eq, takeLimit_tail sf sk li s hb, takeSkip_tail sf sk s hb, takeSort_tail sf s hb]

end

/-- the optional parts and ExitQueryStmt, from any stack whose top is none of their nodes (`plainTop`): the
    predicate's node for a query with predicate (`effOn_tailQ`), the empty stack for a top-level query without -/
theorem run_tailQ (t : TailTree) (h1 : t.sortBy.all (·.2.wf) = true) (h2 : t.skip.all (skipWf ·.2) = true)
    (h3 : t.limit.all (limitWf ·.2) = true) (s : List (List SV)) {b : List SV} (hb : plainTop b) :
    match tailParts t.sortBy t.skip t.limit with
    | some r => run ⟨s, b, false⟩ (t.events ++ [.xQ]) = .ok (pushQuery r.1 r.2.1 r.2.2 ⟨s, b, false⟩)
    | none => ∃ st', run ⟨s, b, false⟩ (t.events ++ [.xQ]) = .ok st' ∧ st'.err = true := by
  have ht := effOn_tail t h1 h2 h3 [] ⟨s, b, false⟩ b rfl rfl
  rw [run_append]
  cases hp : tailParts t.sortBy t.skip t.limit with
  | none =>
    rw [hp] at ht
    obtain ⟨st', hr, he⟩ := ht
    rw [hr]
    exact run_err _ st' he
  | some r =>
    obtain ⟨su, i, j⟩ := r
    rw [hp] at ht
    simp only [Option.map_some, List.append_nil] at ht
    rw [ht, tailParts_sort _ _ _ su i j hp]
    exact congrArg Outcome.ok (exitQ_tail (sbFields t.sortBy) i j s hb)

theorem effOn_tailQ (t : TailTree) (h1 : t.sortBy.all (·.2.wf) = true) (h2 : t.skip.all (skipWf ·.2) = true)
    (h3 : t.limit.all (limitWf ·.2) = true) (p : U) (hp : notPaging p = true) (pre : List SV) :
    EffOn (t.events ++ [.xQ]) (.node p :: pre)
      ((tailParts t.sortBy t.skip t.limit).map fun r => .node (.query p r.1 r.2.1 r.2.2) :: pre) := by
  intro st c hst hc
  obtain ⟨s, cur, e⟩ := st
  simp only at hst hc; subst hst; subst hc
  have := run_tailQ t h1 h2 h3 s (b := .node p :: pre ++ c) hp
  generalize tailParts t.sortBy t.skip t.limit = x at this ⊢
  cases x <;> exact this

end StorageModel.C10
