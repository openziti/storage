import StorageModel.C10.Lex
/-
  C10 — the grammar file zitiql/ZitiQl.g4 as data, and what the Lean side computes from it.

  /verif/extract (c10_lexer.go) parses the grammar file and emits every rule as an `Rx` syntax
  tree (Generated/C10Lexer.lean).  Here:

  * `compileLexer` resolves fragment / rule references and numbers the tokens the way ANTLR does
    (implicit literals of the parser rules first, then the non-fragment lexer rules in file
    order), giving the rule table `List (TK × Pat)` that the reference lexer interprets;
  * `lexerAtnOk` / `parserAtnOk` compute, from the grammar rules, what the generated Go lexer and
    parser must contain — rule names, symbolic and literal names, rule → token type, the
    precedence rules, and per rule the multiset of non-epsilon transition labels of its ATN
    (character / token classes after ANTLR's set merging, rule calls with their precedence
    argument, precedence predicates of a left-recursive rule) — and compare it with the summary
    of the `serializedATN` literals decoded by the extractor (Generated/C10Atn.lean).
-/
namespace StorageModel.C10.G4

/-- right-hand side of a grammar rule, as written in the file -/
inductive Rx where
  | eps
  | lit (cps : List Nat)                          -- 'text'
  | set (neg : Bool) (ranges : List (Nat × Nat))  -- [a-z…]  /  ~[…]   (sorted, merged ranges)
  | ref (name : String)
  | seq (a b : Rx)
  | alt (a b : Rx)
  | opt (a : Rx)
  | star (a : Rx)
  | plus (a : Rx)
deriving DecidableEq, Repr, Inhabited

structure Rule where
  name : String
  fragment : Bool
  body : Rx
  /-- labels (`#Name`) of the top-level alternatives, "" when absent -/
  labels : List String
deriving DecidableEq, Repr, Inhabited

/-- a non-epsilon transition label of an ATN -/
inductive Leaf where
  | cls (neg : Bool) (ranges : List (Nat × Nat))   -- ATOM / RANGE / SET / NOT_SET (EOF = 0 in a parser)
  | call (rule prec : Nat)                         -- RULE transition
  | pred (p : Nat)                                 -- precedence predicate
  | other (kind : Nat)                             -- ACTION (6) / PREDICATE (4) / WILDCARD (9)
deriving DecidableEq, Repr, Inhabited

structure AtnSummary where
  /-- SHA-256 of the whole generated Go file -/
  fileSha256 : String
  note : String
  sha256 : String
  length : Nat
  version : Nat
  grammarType : Nat
  maxTokenType : Nat
  states : Nat
  decisions : Nat
  modes : Nat
  lexerActions : Nat
  ruleTokenType : List Nat
  precedenceRules : List Nat
  ruleStates : List Nat
  literalNames : List String
  symbolicNames : List String
  ruleNames : List String
  leaves : List (List Leaf)
deriving Repr, Inhabited

def isLexerName (s : String) : Bool :=
  match s.toList with
  | c :: _ => c.isUpper
  | [] => false

def lexerRules (g : List Rule) : List Rule := g.filter fun r => isLexerName r.name
def parserRules (g : List Rule) : List Rule := g.filter fun r => !isLexerName r.name
def findRule (g : List Rule) (n : String) : Option Rule := g.find? fun r => r.name == n

/-- quoted literals of a rule body, left to right -/
def litsOf : Rx → List (List Nat)
  | .eps => [] | .set _ _ => [] | .ref _ => []
  | .lit cps => [cps]
  | .seq a b => litsOf a ++ litsOf b
  | .alt a b => litsOf a ++ litsOf b
  | .opt a => litsOf a | .star a => litsOf a | .plus a => litsOf a

/-- the token rule that is exactly this literal, if any (then the literal is an alias of it) -/
def aliasOf (g : List Rule) (cps : List Nat) : Option Rule :=
  (lexerRules g).find? fun r => !r.fragment && r.body == .lit cps

/-- implicit tokens `T__0, T__1, …`: literals of the parser rules that no token rule defines -/
def implicitLits (g : List Rule) : List (List Nat) :=
  (((parserRules g).flatMap fun r => litsOf r.body).filter fun l => (aliasOf g l).isNone).eraseDups

def quoted (cps : List Nat) : String := "'" ++ String.ofList (cps.map Char.ofNat) ++ "'"

/-- the tokens in type-number order: (name, body) -/
def tokenRules (g : List Rule) : List (String × Rx) :=
  (implicitLits g).map (fun l => (quoted l, Rx.lit l)) ++
  ((lexerRules g).filter fun r => !r.fragment).map fun r => (r.name, r.body)

def litPat : List Nat → Pat
  | [] => .eps
  | [c] => .set ⟨false, [(c, c)]⟩
  | c :: cs => .seq (.set ⟨false, [(c, c)]⟩) (litPat cs)

/-- a rule body with every reference replaced by the body of the lexer rule it names (`none`:
    unknown name, reference to a parser rule, or nesting deeper than the fuel — a recursive rule) -/
def resolve (g : List Rule) : Nat → Rx → Option Pat
  | 0, _ => none
  | _ + 1, .eps => some .eps
  | _ + 1, .lit cps => some (litPat cps)
  | _ + 1, .set neg rs => some (.set ⟨neg, rs⟩)
  | n + 1, .ref name =>
    match findRule (lexerRules g) name with
    | some r => resolve g n r.body
    | none => none
  | n + 1, .seq a b => do let x ← resolve g n a; let y ← resolve g n b; pure (.seq x y)
  | n + 1, .alt a b => do let x ← resolve g n a; let y ← resolve g n b; pure (.alt x y)
  | n + 1, .opt a => do let x ← resolve g n a; pure (.opt x)
  | n + 1, .star a => do let x ← resolve g n a; pure (.star x)
  | n + 1, .plus a => do let x ← resolve g n a; pure (.plus x)

def resolveFuel : Nat := 48

/-- the rule table the reference lexer interprets -/
def compileLexer (g : List Rule) : Option (List (TK × Pat)) :=
  (tokenRules g).mapM fun (name, body) => do
    let k ← TK.ofName name
    let p ← resolve g resolveFuel body
    pure (k, p)

/-! ## what the generated code must look like -/

def lexerRuleNames (g : List Rule) : List String :=
  ((List.range (implicitLits g).length).map fun i => "T__" ++ toString i) ++ (lexerRules g).map (·.name)

def parserRuleNames (g : List Rule) : List String := (parserRules g).map (·.name)

/-- token type of every lexer rule (0 for a fragment) -/
def tokenTypesFrom : Nat → List Rule → List Nat
  | _, [] => []
  | n, r :: rs => if r.fragment then 0 :: tokenTypesFrom n rs else n :: tokenTypesFrom (n + 1) rs

def lexerRuleTokenTypes (g : List Rule) : List Nat :=
  let k := (implicitLits g).length
  (List.range k).map (· + 1) ++ tokenTypesFrom (k + 1) (lexerRules g)

def symbolicNames (g : List Rule) : List String :=
  "" :: (tokenRules g).map fun (n, _) => if n.toList.head? == some '\'' then "" else n

def dropTrailingEmpty (l : List String) : List String := (l.reverse.dropWhile (· == "")).reverse

def literalNames (g : List Rule) : List String :=
  dropTrailingEmpty ("" :: (tokenRules g).map fun (_, b) => match b with | .lit cps => quoted cps | _ => "")

def tokenType (g : List Rule) (name : String) : Option Nat :=
  ((tokenRules g).map (·.1)).idxOf? name |>.map (· + 1)

/-! ### ranges -/

def insRange (r : Nat × Nat) : List (Nat × Nat) → List (Nat × Nat)
  | [] => [r]
  | x :: xs => if r.1 < x.1 || (r.1 == x.1 && r.2 ≤ x.2) then r :: x :: xs else x :: insRange r xs

/-- merge a sorted list of ranges, structurally: `acc` is the current range -/
def mergeFrom (acc : Nat × Nat) : List (Nat × Nat) → List (Nat × Nat)
  | [] => [acc]
  | y :: rest => if y.1 ≤ acc.2 + 1 then mergeFrom (acc.1, max acc.2 y.2) rest else acc :: mergeFrom y rest

def normRanges (rs : List (Nat × Nat)) : List (Nat × Nat) :=
  match rs.foldr insRange [] with
  | [] => []
  | x :: xs => mergeFrom x xs

/-! ### leaves -/

def flattenAlt : Rx → List Rx
  | .alt a b => flattenAlt a ++ flattenAlt b
  | r => [r]

def flattenSeq : Rx → List Rx
  | .seq a b => flattenSeq a ++ flattenSeq b
  | r => [r]

/-- a lexer alternative that is a single character class (candidate for ANTLR's set merging) -/
def lexSimple : Rx → Option (List (Nat × Nat))
  | .lit [c] => some [(c, c)]
  | .set false rs => some rs
  | _ => none

/-- merge maximal runs (length ≥ 2) of consecutive simple alternatives into one class; `run` is
    the run collected so far (ranges, number of alternatives in it), `single` what a run of
    length one is emitted as -/
def mergeRuns (simple : Rx → Option (List (Nat × Nat))) (leaves : Rx → List Leaf) :
    List Rx → Option (List (Nat × Nat) × Rx × Nat) → List Leaf
  | [], none => []
  | [], some (rs, one, n) => if n ≥ 2 then [.cls false (normRanges rs)] else leaves one
  | a :: rest, run =>
    match simple a, run with
    | some rs, none => mergeRuns simple leaves rest (some (rs, a, 1))
    | some rs, some (acc, one, n) => mergeRuns simple leaves rest (some (acc ++ rs, one, n + 1))
    | none, none => leaves a ++ mergeRuns simple leaves rest none
    | none, some (acc, one, n) =>
      (if n ≥ 2 then [.cls false (normRanges acc)] else leaves one) ++ leaves a ++ mergeRuns simple leaves rest none

/-- transition labels of a lexer rule body (fuel: nesting depth) -/
def lexLeaves (names : List String) : Nat → Rx → List Leaf
  | 0, _ => [.other 0]
  | _ + 1, .eps => []
  | _ + 1, .lit cps => cps.map fun c => .cls false [(c, c)]
  | _ + 1, .set neg rs => [.cls neg rs]
  | _ + 1, .ref name => match names.idxOf? name with | some i => [.call i 0] | none => [.other 1]
  | n + 1, .seq a b => lexLeaves names n a ++ lexLeaves names n b
  | n + 1, .alt a b => mergeRuns lexSimple (lexLeaves names n) (flattenAlt (.alt a b)) none
  | n + 1, .opt a => lexLeaves names n a
  | n + 1, .star a => lexLeaves names n a
  | n + 1, .plus a => lexLeaves names n a

/-- parser side: a token reference / literal as a token type -/
def tokOf (g : List Rule) : Rx → Option Nat
  | .ref "EOF" => some 0
  | .ref name => if isLexerName name then tokenType g name else none
  | .lit cps => match aliasOf g cps with
    | some r => tokenType g r.name
    | none => tokenType g (quoted cps)
  | _ => none

/-- transition labels of a parser rule body; every rule call carries the precedence argument 0
    (the calls of a left-recursive rule to itself get theirs in `precAltLeaves`) -/
def parLeaves (g : List Rule) (names : List String) : Nat → Rx → List Leaf
  | 0, _ => [.other 0]
  | _ + 1, .eps => []
  | _ + 1, .set _ _ => [.other 2]
  | _ + 1, .lit cps => match tokOf g (.lit cps) with | some t => [.cls false [(t, t)]] | none => [.other 3]
  | _ + 1, .ref name =>
    match tokOf g (.ref name) with
    | some t => [.cls false [(t, t)]]
    | none => match names.idxOf? name with | some i => [.call i 0] | none => [.other 1]
  | n + 1, .seq a b => parLeaves g names n a ++ parLeaves g names n b
  | n + 1, .alt a b =>
    let as := flattenAlt (.alt a b)
    -- a block whose alternatives are ALL single tokens becomes one set transition
    match as.mapM (tokOf g) with
    | some ts => [.cls false (normRanges (ts.map fun t => (t, t)))]
    | none => as.flatMap (parLeaves g names n)
  | n + 1, .opt a => parLeaves g names n a
  | n + 1, .star a => parLeaves g names n a
  | n + 1, .plus a => parLeaves g names n a

def leafFuel : Nat := 40

def isSelf (name : String) : Rx → Bool
  | .ref n => n == name
  | _ => false

/-- is the rule directly left-recursive (some alternative starts with a reference to itself) -/
def leftRecursive (r : Rule) : Bool :=
  (flattenAlt r.body).any fun a => match flattenSeq a with | x :: _ => isSelf r.name x | [] => false

def seqOf : List Rx → Rx
  | [] => .eps
  | [x] => x
  | x :: xs => .seq x (seqOf xs)

/-- leaves of one alternative of a left-recursive rule, ANTLR's precedence-climbing rewrite:
    alternative `i` of `n` (0-based) has precedence `n - i`; a binary alternative `self … self` and
    a suffix alternative `self …` lose the leading reference and get a precedence predicate (the
    trailing operand of a binary alternative is called with precedence + 1), a prefix alternative
    `… self` calls its operand with the alternative's precedence; every other self call has 0 -/
def precAltLeaves (g : List Rule) (names : List String) (self : String) (selfIdx : Nat) (prec : Nat) (a : Rx) : List Leaf :=
  let es := flattenSeq a
  let startsSelf := match es with | x :: _ :: _ => isSelf self x | _ => false
  let endsSelf := match es.reverse with | x :: _ :: _ => isSelf self x | _ => false
  if startsSelf && endsSelf then
    .pred prec :: parLeaves g names leafFuel (seqOf (es.drop 1).dropLast) ++ [.call selfIdx (prec + 1)]
  else if startsSelf then
    .pred prec :: parLeaves g names leafFuel (seqOf (es.drop 1))
  else if endsSelf then
    parLeaves g names leafFuel (seqOf es.dropLast) ++ [.call selfIdx prec]
  else parLeaves g names leafFuel a

def enumFrom' {α} : Nat → List α → List (Nat × α)
  | _, [] => []
  | n, x :: xs => (n, x) :: enumFrom' (n + 1) xs

def parserRuleLeaves (g : List Rule) (names : List String) (r : Rule) : List Leaf :=
  if leftRecursive r then
    let as := flattenAlt r.body
    let idx := (names.idxOf? r.name).getD 0
    -- the rewritten rule starts with an (empty) action
    .other 6 :: (enumFrom' 0 as).flatMap fun (i, a) => precAltLeaves g names r.name idx (as.length - i) a
  else parLeaves g names leafFuel r.body

def expectedLexerLeaves (g : List Rule) : List (List Leaf) :=
  let names := lexerRuleNames g
  (implicitLits g).map (fun l => lexLeaves names leafFuel (.lit l)) ++
  (lexerRules g).map fun r => lexLeaves names leafFuel r.body

def expectedParserLeaves (g : List Rule) : List (List Leaf) :=
  let names := parserRuleNames g
  (parserRules g).map (parserRuleLeaves g names)

def permAll : List (List Leaf) → List (List Leaf) → Bool
  | [], [] => true
  | a :: as, b :: bs => a.isPerm b && permAll as bs
  | _, _ => false

def lexerAtnOk (g : List Rule) (a : AtnSummary) : Bool :=
  a.note == "" && a.version == 4 && a.grammarType == 0 && a.modes == 1 && a.lexerActions == 0 &&
  a.maxTokenType == (tokenRules g).length &&
  a.ruleNames == lexerRuleNames g &&
  a.symbolicNames == symbolicNames g &&
  a.literalNames == literalNames g &&
  a.ruleTokenType == lexerRuleTokenTypes g &&
  a.precedenceRules == [] &&
  permAll a.leaves (expectedLexerLeaves g)

def precedenceRuleIdx (g : List Rule) : List Nat :=
  (enumFrom' 0 (parserRules g)).filterMap fun (i, r) => if leftRecursive r then some i else none

def parserAtnOk (g : List Rule) (a : AtnSummary) : Bool :=
  a.note == "" && a.version == 4 && a.grammarType == 1 &&
  a.maxTokenType == (tokenRules g).length &&
  a.ruleNames == parserRuleNames g &&
  a.symbolicNames == symbolicNames g &&
  a.literalNames == literalNames g &&
  a.precedenceRules == precedenceRuleIdx g &&
  permAll a.leaves (expectedParserLeaves g)

/-! ## relational meaning of the parser rules -/

/-- the token type a quoted literal in a parser rule stands for (only implicit tokens: `','`) -/
def litKind (cps : List Nat) : Option TK := TK.ofName (quoted cps)

/-- `Derives g r ks`: the token-kind sequence `ks` is derived from the right-hand side `r` in the
    grammar `g` (white space is an ordinary token in this grammar; `EOF` derives nothing) -/
inductive Derives (g : List Rule) : Rx → List TK → Prop where
  | eps : Derives g .eps []
  | eof : Derives g (.ref "EOF") []
  | tok {name k} : isLexerName name = true → TK.ofName name = some k → Derives g (.ref name) [k]
  | lit {cps k} : litKind cps = some k → Derives g (.lit cps) [k]
  | rule {name r w} : isLexerName name = false → findRule g name = some r → Derives g r.body w →
      Derives g (.ref name) w
  | seq {a b x y} : Derives g a x → Derives g b y → Derives g (.seq a b) (x ++ y)
  | altL {a b x} : Derives g a x → Derives g (.alt a b) x
  | altR {a b x} : Derives g b x → Derives g (.alt a b) x
  | optNone {a} : Derives g (.opt a) []
  | optSome {a x} : Derives g a x → Derives g (.opt a) x
  | starNil {a} : Derives g (.star a) []
  | starCons {a x y} : Derives g a x → Derives g (.star a) y → Derives g (.star a) (x ++ y)
  | plus {a x y} : Derives g a x → Derives g (.star a) y → Derives g (.plus a) (x ++ y)

/-- a sentence of the grammar, as a sequence of token kinds -/
def Sentence (g : List Rule) (ks : List TK) : Prop := Derives g (.ref "start") ks

end StorageModel.C10.G4
