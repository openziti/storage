import StorageModel.C10.BoltSort
import StorageModel.C10.EvalProofs
/-
  C10 — no function of BoltSort panics: every dereference, index and slice comes after the test (in `setPaging`:
  the assignment) that makes it safe.  The exception is `FieldToString`, which needs the stored value to be one the
  TypedBucket setters write (`Stored.wellFormed`).
-/
namespace StorageModel.C10

theorem compareNillable_np (s1 s2 : Option Unit) (lt gt forward : Bool) :
    (compareNillable s1 s2 lt gt forward).isPanic = false := by
  cases s1 <;> cases s2 <;> cases lt <;> cases gt <;> cases forward <;> rfl

theorem bytesToBool_np (len : Nat) : (bytesToBool len).isPanic = false := by
  unfold bytesToBool
  by_cases h : len = 0
  · simp [h, Outcome.isPanic]
  · have : 0 < len := Nat.pos_of_ne_zero h
    simp [h, this, Outcome.isPanic]

theorem fieldToBool_np (v : Stored) : (fieldToBool v).isPanic = false := by
  unfold fieldToBool
  split
  · exact bytesToBool_np _
  · rfl

theorem fieldToInt64_ok (v : Stored) : ∃ r, fieldToInt64 v = .ok r := by
  unfold fieldToInt64
  split
  · cases h : bytesToInt32 v.len <;> simp [deref]
  · exact ⟨_, rfl⟩
  · exact ⟨_, rfl⟩

theorem fieldToInt64_np (v : Stored) : (fieldToInt64 v).isPanic = false := by
  obtain ⟨r, hr⟩ := fieldToInt64_ok v
  rw [hr]
  rfl

theorem fieldToFloat64_np (v : Stored) : (fieldToFloat64 v).isPanic = false := by
  obtain ⟨r, hr⟩ := fieldToInt64_ok v
  unfold fieldToFloat64
  split
  · rw [hr]
    cases r <;> simp [deref, Outcome.isPanic]
  · rw [hr]
    cases r <;> simp [deref, Outcome.isPanic]
  · rfl
  · rfl

theorem fieldToDatetime_np (v : Stored) : (fieldToDatetime v).isPanic = false := by
  unfold fieldToDatetime
  split <;> rfl

/-- `FieldToString` is the one conversion that can panic — on a value no `Set*` method writes -/
theorem fieldToString_np (v : Stored) (h : v.wellFormed = true) : (fieldToString v).isPanic = false := by
  obtain ⟨tag, len, tok⟩ := v
  cases tag <;> simp only [Stored.wellFormed, beq_iff_eq] at h <;>
    simp [fieldToString, fieldToBool, bytesToBool, fieldToInt64, fieldToFloat64, fieldToDatetime, bytesToInt32, bytesToInt64,
      bytesToFloat64, deref, Outcome.isPanic, h]

theorem convert_np (k : CmpKind) (v : Stored) (h : v.wellFormed = true) : (k.convert v).isPanic = false := by
  cases k
  · exact fieldToBool_np v
  · exact fieldToDatetime_np v
  · exact fieldToFloat64_np v
  · exact fieldToInt64_np v
  · exact fieldToString_np v h

theorem symbolCompare_np (k : CmpKind) (forward : Bool) (v1 v2 : Stored) (lt gt : Bool)
    (h1 : v1.wellFormed = true) (h2 : v2.wellFormed = true) : (symbolCompare k forward v1 v2 lt gt).isPanic = false := by
  unfold symbolCompare
  refine np_bind (convert_np k v1 h1) fun s1 => ?_
  refine np_bind (convert_np k v2 h2) fun s2 => ?_
  exact compareNillable_np ..

theorem rowCompare_np : ∀ (l : List (CmpKind × Bool × Stored × Stored × Bool × Bool)),
    (∀ x ∈ l, x.2.2.1.wellFormed = true ∧ x.2.2.2.1.wellFormed = true) → (rowCompare l).isPanic = false
  | [], _ => rfl
  | (k, fwd, v1, v2, lt, gt) :: rest, h => by
    have hx := h _ (List.mem_cons_self ..)
    simp only [rowCompare]
    refine np_bind (symbolCompare_np k fwd v1 v2 lt gt hx.1 hx.2) fun r => ?_
    split
    · rfl
    · exact rowCompare_np rest fun x hx => h x (List.mem_cons_of_mem _ hx)

theorem newRowComparator_np : ∀ (l : List (SortSym × Bool)), (newRowComparator l).isPanic = false
  | [] => rfl
  | (.missing, _) :: _ | (.set, _) :: _ => rfl
  | (.typed t, fwd) :: rest => by
    have ih := newRowComparator_np rest
    cases t with
    | anyType | other => rfl
    | _ => exact np_bind ih fun _ => rfl

/-- `sort[:SortMax]` is taken only of a longer list, `sort[0]` only of a non-empty one -/
theorem newScanner_np (sort : List (Bool × Bool)) : (newScanner sort).isPanic = false := by
  unfold newScanner
  split
  case' isTrue h => refine np_bind (np_if_pos (Nat.le_of_lt h) rfl) fun s => ?_
  case' isFalse => refine np_bind rfl fun s => ?_
  all_goals
    cases s with
    | nil => rfl
    | cons x xs => obtain ⟨a, b⟩ := x; cases a <;> cases b <;> rfl

/-- both dereferences are of pointers that the lines before them have just set where they were nil -/
theorem setPaging_np (skip limit : Option Int) : (setPaging skip limit).isPanic = false := by
  refine np_bind (np_deref_some _ (by cases skip <;> rfl)) fun _ => ?_
  cases limit with
  | none => rfl
  | some l =>
    exact np_bind rfl fun _ => np_bind rfl fun neg => np_bind (np_deref_some _ (by cases neg <;> rfl)) fun _ => rfl

end StorageModel.C10
