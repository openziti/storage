import StorageModel.C10.Shapes
/-
  C10 — the SymbolValidator pass never indexes its empty type stack: a sub-query whose symbol is
  an identifier pushes before it pops.
-/
namespace StorageModel.C10

/-- every sub-query has an identifier in symbol position -/
def vShape : U → Bool
  | .logic _ _ l r => vShape l && vShape r
  | .binary _ l r => vShape l && vShape r
  | .inArr l r => vShape l && vShape r
  | .between l lo hi => vShape l && vShape lo && vShape hi
  | .setFn _ s => vShape s
  | .unot e => vShape e
  | .notE e => vShape e
  | .query p s _ _ => vShape p && vShape s
  | .subQ s q => isSymU s && vShape q
  | .sortBy f => vShape f
  | .sfCons s _ rest => vShape s && vShape rest
  | _ => true

def VInv (v : VState) : Prop := v.err = true ∨ v.onDeck = none

def VPost (v v' : VState) : Prop :=
  (v.err = true → v'.err = true) ∧ (v'.err = true ∨ (v'.onDeck = none ∧ v'.typeStack = v.typeStack))

theorem vpost_inv {v v' : VState} (h : VPost v v') : VInv v' := by
  rcases h.2 with h | h
  · exact Or.inl h
  · exact Or.inr h.1

theorem vpost_trans {a b c : VState} (h1 : VPost a b) (h2 : VPost b c) : VPost a c := by
  refine ⟨fun h => h2.1 (h1.1 h), ?_⟩
  rcases h2.2 with h | h
  · exact Or.inl h
  · rcases h1.2 with h' | h'
    · exact Or.inl (h2.1 h')
    · exact Or.inr ⟨h.1, by rw [h.2, h'.2]⟩

theorem visit_spec (v : VState) (n : Name) :
    (v.err = true → (visitUntypedSymbol v n).err = true) ∧
    ((visitUntypedSymbol v n).err = true ∨
      ((visitUntypedSymbol v n).onDeck = none ∧
       (visitUntypedSymbol v n).typeStack = if v.onDeck.isSome then v.symbolTypes :: v.typeStack else v.typeStack)) := by
  obtain ⟨isf, stt, err, ts, od⟩ := v
  unfold visitUntypedSymbol
  cases hs : stt.isSet n with
  | none => simp [VState.setErr]
  | some b => cases od <;> cases isf <;> cases b <;> simp [VState.setErr]

/-- VisitUntypedSubQueryNodeStart -/
def subStart (v : VState) (n : Name) : VState :=
  match v.symbolTypes.sub n with
  | none => v.setErr
  | some t => { v with onDeck := some t }

/-- VisitUntypedSubQueryNodeEnd -/
def subEnd (v2 : VState) : Outcome VState :=
  if v2.err then .ok v2 else
  match v2.typeStack with
  | [] => .panic "SymbolValidator.VisitUntypedSubQueryNodeEnd: typeStack[0] on empty stack"
  | t :: rest => .ok { v2 with symbolTypes := t, typeStack := rest }

theorem validate_subQ_sym (v : VState) (n : Name) (q : U) :
    validate v (.subQ (.sym n) q) = (validate (visitUntypedSymbol (subStart v n) n) q >>= subEnd) := by
  simp only [validate, Outcome.bind_ok, U.symbolName, subStart]
  rfl

theorem visit_post (v : VState) (n : Name) (hv : VInv v) : VPost v (visitUntypedSymbol v n) := by
  refine ⟨(visit_spec v n).1, ?_⟩
  rcases hv with he | hd
  · exact Or.inl ((visit_spec v n).1 he)
  · simpa [hd] using (visit_spec v n).2

def VOk (x : Outcome VState) (v : VState) : Prop := ∃ v', x = .ok v' ∧ VPost v v'

theorem vok_bind {x : Outcome VState} {f : VState → Outcome VState} {v : VState} (hx : VOk x v)
    (hf : ∀ v', VInv v' → VOk (f v') v') : VOk (x >>= f) v := by
  obtain ⟨v1, rfl, h1⟩ := hx
  obtain ⟨v2, h2e, h2⟩ := hf v1 (vpost_inv h1)
  exact ⟨v2, by simpa using h2e, vpost_trans h1 h2⟩

theorem vpost_refl (v : VState) (hv : VInv v) : VPost v v := by
  refine ⟨id, ?_⟩
  rcases hv with h | h
  · exact Or.inl h
  · exact Or.inr ⟨h, rfl⟩

theorem vok_ok (v : VState) (hv : VInv v) : VOk (.ok v) v := ⟨v, rfl, vpost_refl v hv⟩

/-- the symbol of a sub-query pushes: the state after it is `VPost`-related to `v` with one more table on its
    stack (when the push does not happen the state is in error, and `VPost` then asks nothing of the stack) -/
theorem visit_subStart (v : VState) (n : Name) :
    ∃ top, VPost { v with typeStack := top :: v.typeStack } (visitUntypedSymbol (subStart v n) n) := by
  have h := visit_spec (subStart v n) n
  unfold subStart at h ⊢
  cases hsub : v.symbolTypes.sub n with
  | none => rw [hsub] at h; exact ⟨v.symbolTypes, fun _ => h.1 rfl, Or.inl (h.1 rfl)⟩
  | some t => rw [hsub] at h; exact ⟨v.symbolTypes, h⟩

theorem subEnd_ok {v v2 : VState} {top : SymTab} (h : VPost { v with typeStack := top :: v.typeStack } v2) :
    VOk (subEnd v2) v := by
  unfold subEnd
  by_cases he2 : v2.err = true
  · rw [if_pos he2]
    exact ⟨v2, rfl, h.1, Or.inl he2⟩
  · rw [if_neg he2]
    obtain ⟨hd, hts⟩ := h.2.resolve_left he2
    rw [hts]
    exact ⟨_, rfl, fun h' => absurd (h.1 h') he2, Or.inr ⟨hd, rfl⟩⟩

theorem validate_ok (u : U) :
    (vShape u = true → ∀ v, VInv v → VOk (validate v u) v) ∧
    (vShape u = true → ∀ v, VInv v → VOk (validateSort v u) v) := by
  induction u with
  | sym n =>
    refine ⟨fun _ v hv => ?_, fun _ v hv => ?_⟩
    · exact ⟨_, by simp [validate], visit_post v n hv⟩
    · exact vok_ok v hv
  | logic op g l r ihl ihr | binary op l r ihl ihr | inArr l r ihl ihr =>
    refine ⟨fun h v hv => ?_, fun _ v hv => vok_ok v hv⟩
    simp only [vShape, Bool.and_eq_true] at h
    simp only [validate]
    exact vok_bind (ihl.1 h.1 v hv) (ihr.1 h.2)
  | between l lo hi ihl ihlo ihhi =>
    refine ⟨fun h v hv => ?_, fun _ v hv => vok_ok v hv⟩
    simp only [vShape, Bool.and_eq_true] at h
    simp only [validate]
    exact vok_bind (ihl.1 h.1.1 v hv) fun v1 hv1 => vok_bind (ihlo.1 h.1.2 v1 hv1) (ihhi.1 h.2)
  | setFn f s ih =>
    refine ⟨fun h v hv => ?_, fun _ v hv => vok_ok v hv⟩
    simp only [vShape] at h
    simp only [validate]
    have hv0 : VInv { v with inSetFunction := true } := hv
    obtain ⟨v1, h1e, h1⟩ := ih.1 h { v with inSetFunction := true } hv0
    rw [h1e]
    simp only [Outcome.bind_ok]
    have hp : VPost v { v1 with inSetFunction := false } := ⟨h1.1, h1.2⟩
    split
    · refine ⟨_, rfl, ⟨fun _ => rfl, Or.inl rfl⟩⟩
    · exact ⟨_, rfl, hp⟩
  | unot e ih | notE e ih =>
    refine ⟨fun h v hv => ?_, fun _ v hv => vok_ok v hv⟩
    simp only [vShape] at h
    simp only [validate]
    exact ih.1 h v hv
  | query p s sk li ihp ihs =>
    refine ⟨fun h v hv => ?_, fun _ v hv => vok_ok v hv⟩
    simp only [vShape, Bool.and_eq_true] at h
    simp only [validate]
    exact vok_bind (ihp.1 h.1 v hv) (ihs.2 h.2)
  | subQ s q ihs ihq =>
    refine ⟨fun h v hv => ?_, fun _ v hv => vok_ok v hv⟩
    simp only [vShape, Bool.and_eq_true] at h
    cases s with
    | sym n =>
      rw [validate_subQ_sym]
      obtain ⟨top, h1⟩ := visit_subStart v n
      obtain ⟨v2, h2e, h2⟩ := ihq.1 h.2 _ (vpost_inv h1)
      rw [h2e]
      -- an error before the sub-query's body persists; otherwise the body leaves the stack as it found it
      exact subEnd_ok (vpost_trans h1 h2)
    | _ => cases h.1
  | sortBy f ih =>
    refine ⟨fun h v hv => ?_, fun h v hv => ?_⟩
    · simp only [vShape] at h
      simp only [validate]
      exact ih.2 h v hv
    · simp only [vShape] at h
      simp only [validateSort]
      exact ih.2 h v hv
  | sfCons s asc rest ihs ihr =>
    refine ⟨fun _ v hv => vok_ok v hv, fun h v hv => ?_⟩
    simp only [vShape, Bool.and_eq_true] at h
    simp only [validateSort]
    exact vok_bind (ihs.1 h.1 v hv) (ihr.2 h.2)
  | _ =>
    refine ⟨fun _ v hv => vok_ok v hv, fun _ v hv => vok_ok v hv⟩

theorem shSort_vShape : ∀ (f : U), shSort f = true → vShape f = true := by
  intro f
  induction f with
  | sfCons s asc rest _ ih =>
    intro h
    cases s <;> simp [shSort] at h
    simp [vShape, ih h]
  | sfNil => intro _; simp [vShape]
  | _ => intro h; simp [shSort] at h

theorem vShape_of_isRhsU (r : U) (h : isRhsU r = true) : vShape r = true := by
  cases r with
  | lit _ | boolC _ | nullC => rfl
  | _ => cases h

theorem vShape_of_isArrU (r : U) (h : isArrU r = true) : vShape r = true := by
  cases r with
  | strArr _ | intArr _ | fltArr _ | dtArr _ => rfl
  | _ => cases h

theorem sh_vShape (u : U) :
    (shLhs u = true → vShape u = true) ∧ (shSetExpr u = true → vShape u = true) ∧
    (shBool u = true → vShape u = true) ∧ (shNotArg u = true → vShape u = true) ∧
    (shQuery u = true → vShape u = true) := by
  induction u with
  | logic op g l r ihl ihr =>
    refine ⟨nofun, nofun, fun h => ?_, nofun, nofun⟩
    simp only [shBool, Bool.and_eq_true] at h
    simp [vShape, ihl.2.2.1 h.1, ihr.2.2.1 h.2]
  | binary op l r ihl ihr =>
    refine ⟨nofun, nofun, fun h => ?_, nofun, nofun⟩
    simp only [shBool, Bool.and_eq_true] at h
    simp [vShape, ihl.1 h.1, vShape_of_isRhsU r h.2]
  | inArr l r ihl ihr =>
    have key : shLhs l = true ∧ isArrU r = true → vShape (.inArr l r) = true := fun h => by
      simp [vShape, ihl.1 h.1, vShape_of_isArrU r h.2]
    refine ⟨nofun, nofun, fun h => ?_, fun h => ?_, nofun⟩ <;>
      (simp only [shBool, shNotArg, Bool.and_eq_true] at h; exact key h)
  | between l lo hi ihl _ _ =>
    have key : (shLhs l = true ∧ isRhsU lo = true) ∧ isRhsU hi = true → vShape (.between l lo hi) = true := fun h => by
      simp [vShape, ihl.1 h.1.1, vShape_of_isRhsU lo h.1.2, vShape_of_isRhsU hi h.2]
    refine ⟨nofun, nofun, fun h => ?_, fun h => ?_, nofun⟩ <;>
      (simp only [shBool, shNotArg, Bool.and_eq_true] at h; exact key h)
  | setFn f s ih =>
    refine ⟨fun h => ?_, nofun, fun h => ?_, nofun, nofun⟩
    · simp only [shLhs, Bool.or_eq_true, Bool.and_eq_true] at h
      rcases h with ⟨_, hs⟩ | ⟨_, hs⟩
      · cases s with
        | sym n => rfl
        | _ => cases hs
      · exact ih.2.1 hs
    · simp only [shBool, Bool.and_eq_true] at h
      exact ih.2.1 h.2
  | unot e ih => exact ⟨nofun, nofun, ih.2.2.1, nofun, nofun⟩
  | notE e ih => exact ⟨nofun, nofun, ih.2.2.2.1, nofun, nofun⟩
  | query p s sk li ihp _ =>
    refine ⟨nofun, nofun, nofun, nofun, fun h => ?_⟩
    simp only [shQuery, Bool.and_eq_true] at h
    have hs : vShape s = true := by
      cases s with
      | noSort => rfl
      | sortBy f => exact shSort_vShape f h.2
      | _ => cases h.2
    simp [vShape, ihp.2.2.1 h.1, hs]
  | subQ s q _ ihq =>
    refine ⟨nofun, fun h => ?_, nofun, nofun, nofun⟩
    simp only [shSetExpr, Bool.and_eq_true] at h
    simp [vShape, h.1, ihq.2.2.2.2 h.2]
  | sortBy f _ | sfCons s a r _ _ => exact ⟨nofun, nofun, nofun, nofun, nofun⟩
  | _ => exact ⟨fun _ => rfl, fun _ => rfl, fun _ => rfl, fun _ => rfl, fun _ => rfl⟩

end StorageModel.C10
