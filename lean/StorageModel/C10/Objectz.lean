import StorageModel.C10.BoltSortProofs
/-
  C10 — objectz (the in-memory object store): the partial operations of
  objectz/object_store.go (`newRowComparator`, `setPaging`, `memSortingScanner.Scan`) and
  objectz/object_cursor.go (`ObjectCursor.eval`), with every unchecked type assertion, dereference
  and method call on a possibly-nil interface as an explicit `panic` branch.  Filter typing and
  evaluation are the shared ast code (`transform_no_panic`, `eval_no_panic`); the comparators of
  object_store_sort.go have the body modelled by `compareNillable`.
-/
namespace StorageModel.C10

/-- the five symbol classes `Add…Symbol` registers; `GetType()` is constant per class -/
inductive ObjSymClass where
  | bool | datetime | float64 | int64 | string
deriving DecidableEq, Repr

def ObjSymClass.getType : ObjSymClass → NodeType
  | .bool => .bool | .datetime => .datetime | .float64 => .float64 | .int64 => .int64 | .string => .string

/-- `symbol.(*Object<X>Symbol[T])` -/
def assertClass (site : String) (c want : ObjSymClass) : Outcome ObjSymClass :=
  if c == want then .ok c else .panic site

/-- `ObjectStore.newRowComparator` over the looked-up symbols (`none`: not in the map) -/
def objNewRowComparator : List (Option ObjSymClass × Bool) → Outcome (List (ObjSymClass × Bool))
  | [] => .ok []
  | (none, _) :: _ => .err "no such sort field"
  | (some c, fwd) :: rest => do
    let k ← match c.getType with
      | .bool => assertClass "newRowComparator: symbol.(*ObjectBoolSymbol[T])" c .bool
      | .datetime => assertClass "newRowComparator: symbol.(*ObjectDatetimeSymbol[T])" c .datetime
      | .float64 => assertClass "newRowComparator: symbol.(*ObjectFloat64Symbol[T])" c .float64
      | .int64 => assertClass "newRowComparator: symbol.(*ObjectInt64Symbol[T])" c .int64
      | .string => assertClass "newRowComparator: symbol.(*ObjectStringSymbol[T])" c .string
      | _ => .err "unsupported sort field type"
    let more ← objNewRowComparator rest
    .ok ((k, fwd) :: more)

/-- `ObjectCursor.eval(name)`: `self.store.symbols[name]` and then `symbol.Eval(…)` — a method call on
    a nil interface when the name is not registered -/
def objEval (registered : Bool) : Outcome Unit :=
  if registered then .ok () else .panic "ObjectCursor.eval: symbol.Eval on a nil ObjectSymbol"

/-- `memSortingScanner.Scan` up to its loop: paging, comparator, `cursor := store.iteratorF()`, then —
    in the order the code has them, `nilTestFirst` being regenerated from the source
    (`Generated.C10.objScanNilTestFirst`) — the `if cursor == nil` test and the first use
    `cursor.Current()`.  Returns whether the scan goes on to iterate. -/
def objScanPrologue (nilTestFirst : Bool) (skip limit : Option Int) (fields : List (Option ObjSymClass × Bool))
    (cursor : Option Unit) : Outcome Bool := do
  let _ ← setPaging skip limit
  let _ ← objNewRowComparator fields
  if nilTestFirst then
    if cursor.isNone then .ok false else do
      let _ ← deref "memSortingScanner.Scan: cursor.Current() on a nil iterator" cursor
      .ok true
  else do
    let _ ← deref "memSortingScanner.Scan: cursor.Current() on a nil iterator" cursor
    if cursor.isNone then .ok false else .ok true

/-- each class is asserted to be the class its own `GetType()` selects -/
theorem objNewRowComparator_np : ∀ (l : List (Option ObjSymClass × Bool)), (objNewRowComparator l).isPanic = false
  | [] => rfl
  | (none, _) :: _ => rfl
  | (some c, fwd) :: rest => by
    have ih := objNewRowComparator_np rest
    cases c <;> exact np_bind rfl fun _ => np_bind ih fun _ => rfl

theorem objScanPrologue_np (nf : Bool) (skip limit : Option Int) (fields : List (Option ObjSymClass × Bool)) (cursor : Option Unit)
    (hc : nf = true ∨ cursor.isSome = true) : (objScanPrologue nf skip limit fields cursor).isPanic = false := by
  unfold objScanPrologue
  refine np_bind (setPaging_np skip limit) fun _ => ?_
  refine np_bind (objNewRowComparator_np fields) fun _ => ?_
  cases cursor with
  | none =>
    rcases hc with rfl | hc
    · rfl
    · simp at hc
  | some u => cases nf <;> rfl

end StorageModel.C10
