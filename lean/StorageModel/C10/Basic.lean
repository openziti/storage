import StorageModel.C10.Lex
/-
  C10 — shared basics: the three-valued outcome of a modelled Go function, and the meaning of
  literal token texts as the listener computes it (strconv.ParseInt / ParseFloat range
  behaviour, zitiql.ParseZqlDatetime + time.Parse(RFC3339), zitiql.ParseZqlString).
-/
namespace StorageModel.C10

/-- result of a modelled Go function: a value, an `error` return, or a run-time panic
    (unchecked type assertion that fails, nil dereference, index out of range) -/
inductive Outcome (α : Type) where
  | ok (a : α)
  | err (e : String)
  | panic (site : String)
deriving Repr

namespace Outcome
def bind {α β} (x : Outcome α) (f : α → Outcome β) : Outcome β :=
  match x with
  | .ok a => f a
  | .err e => .err e
  | .panic s => .panic s
instance : Monad Outcome where
  pure := .ok
  bind := bind
def isPanic {α} : Outcome α → Bool
  | .panic _ => true
  | _ => false
@[simp] theorem bind_ok {α β} (a : α) (f : α → Outcome β) : (Outcome.ok a >>= f) = f a := rfl
@[simp] theorem bind_err {α β} (e : String) (f : α → Outcome β) : (Outcome.err e >>= f) = .err e := rfl
@[simp] theorem bind_panic {α β} (s : String) (f : α → Outcome β) : (Outcome.panic s >>= f) = .panic s := rfl
@[simp] theorem pure_eq {α} (a : α) : (pure a : Outcome α) = .ok a := rfl
end Outcome

def digitVal (c : Char) : Nat := c.toNat - 48
def isDigit (c : Char) : Bool := '0' ≤ c && c ≤ '9'

def natOfDigits (ds : List Char) : Nat := ds.foldl (fun acc c => acc * 10 + digitVal c) 0

/-- a NUMBER token text split as sign, integer digits, fraction digits, exponent (sign, digits) -/
structure NumParts where
  neg : Bool
  intDigits : List Char
  fracDigits : List Char
  hasExp : Bool
  expNeg : Bool
  expDigits : List Char
deriving Repr

def splitNumber (s : List Char) : NumParts :=
  let (neg, s1) := match s with
    | '-' :: r => (true, r)
    | _ => (false, s)
  let intDigits := s1.takeWhile isDigit
  let s2 := s1.dropWhile isDigit
  let (fracDigits, s3) := match s2 with
    | '.' :: r => (r.takeWhile isDigit, r.dropWhile isDigit)
    | _ => ([], s2)
  match s3 with
  | e :: r =>
    if e == 'e' || e == 'E' then
      let (expNeg, r1) := match r with
        | '-' :: r' => (true, r')
        | '+' :: r' => (false, r')
        | _ => (false, r)
      ⟨neg, intDigits, fracDigits, true, expNeg, r1.takeWhile isDigit⟩
    else ⟨neg, intDigits, fracDigits, false, false, []⟩
  | [] => ⟨neg, intDigits, fracDigits, false, false, []⟩

inductive NumLit where
  | int (i : Int)
  | float (q : Rat)
  | bad          -- neither ParseInt nor ParseFloat accepts it (range error: ±Inf)
deriving Repr, DecidableEq

def int64Min : Int := -9223372036854775808
def int64Max : Int := 9223372036854775807

/-- the smallest magnitude that strconv.ParseFloat(…, 64) reports as out of range:
    halfway between MaxFloat64 and 2^1024 (round-half-even rounds it up to +Inf) -/
def floatOverflow : Nat := 2 ^ 1024 - 2 ^ 970

/-- `appendNumberNode`: ParseInt(text, 10, 64), else ParseFloat(text, 64).  The float is kept
    as the exact decimal value (the nearest float64 in Go); only the out-of-range decision
    matters for totality. -/
def classifyNumber (s : List Char) : NumLit :=
  let p := splitNumber s
  let mant : Nat := natOfDigits (p.intDigits ++ p.fracDigits)
  let sign : Int := if p.neg then -1 else 1
  if p.fracDigits.isEmpty && !p.hasExp &&
      int64Min ≤ sign * (natOfDigits p.intDigits : Int) && sign * (natOfDigits p.intDigits : Int) ≤ int64Max then
    .int (sign * (natOfDigits p.intDigits : Int))
  else
    let e : Int := (if p.expNeg then -1 else 1) * (natOfDigits p.expDigits : Int) - (p.fracDigits.length : Int)
    if mant == 0 then .float 0
    else if e > 400 then .bad                       -- mant ≥ 1, so the value exceeds 10^400
    else if e < -800 - (p.intDigits.length + p.fracDigits.length : Int) then .float 0   -- underflows to 0
    else
      let q : Rat := if e ≥ 0 then (mant * 10 ^ e.toNat : Nat) else (mant : Rat) / ((10 ^ (-e).toNat : Nat) : Rat)
      -- overflow test on integers: mant * 10^e ≥ floatOverflow
      let over : Bool := if e ≥ 0 then mant * 10 ^ e.toNat ≥ floatOverflow else mant ≥ floatOverflow * 10 ^ (-e).toNat
      if over then .bad else .float (sign * q)

/-- zitiql.ParseZqlString: trim one leading and one trailing `"`, then a single left-to-right
    pass of the replacer (`\\`→`\`, `\"`→`"`, `\f \n \r \t`) -/
def unescapeGo : List Char → List Char
  | '\\' :: '\\' :: r => '\\' :: unescapeGo r
  | '\\' :: '"' :: r => '"' :: unescapeGo r
  | '\\' :: 'f' :: r => '\x0c' :: unescapeGo r
  | '\\' :: 'n' :: r => '\n' :: unescapeGo r
  | '\\' :: 'r' :: r => '\r' :: unescapeGo r
  | '\\' :: 't' :: r => '\t' :: unescapeGo r
  | c :: r => c :: unescapeGo r
  | [] => []

def trimSuffixQuote (s : List Char) : List Char :=
  match s.reverse with
  | '"' :: r => r.reverse
  | _ => s

def parseZqlString (s : List Char) : List Char :=
  let s1 := match s with
    | '"' :: r => r
    | _ => s
  unescapeGo (trimSuffixQuote s1)

def isLeap (y : Nat) : Bool := (y % 4 == 0 && y % 100 != 0) || y % 400 == 0

def daysIn (m y : Nat) : Nat :=
  match m with
  | 2 => if isLeap y then 29 else 28
  | 4 | 6 | 9 | 11 => 30
  | _ => 31

/-- days from 1970-01-01 to y-m-d (proleptic Gregorian), Howard Hinnant's algorithm -/
def daysFromCivil (y m d : Nat) : Int :=
  let y' : Int := if m ≤ 2 then (y : Int) - 1 else y
  let era : Int := (if y' ≥ 0 then y' else y' - 399) / 400
  let yoe : Int := y' - era * 400
  let mp : Int := if m > 2 then (m : Int) - 3 else (m : Int) + 9
  let doy : Int := (153 * mp + 2) / 5 + (d : Int) - 1
  let doe : Int := yoe * 365 + yoe / 4 - yoe / 100 + doy
  era * 146097 + doe - 719468

def isWsChar (c : Char) : Bool := c == ' ' || c == '\n' || c == '\t' || c == '\r'

/-- the text between `datetime(` and `)` with surrounding white space removed -/
def datetimeInner (s : List Char) : List Char :=
  let s1 := (s.drop 9).dropWhile isWsChar
  let r := (s1.reverse.dropWhile (fun c => c == ')' || isWsChar c)).reverse
  r

/-- `ParseZqlDatetime` on a DATETIME token text: `some nanoseconds-since-epoch` when
    time.Parse(time.RFC3339, …) accepts it, `none` when it returns an error (year not four
    digits, day out of range for the month, second 60). -/
def parseDatetime (s : List Char) : Option Int :=
  let inner := datetimeInner s
  let yearDs := inner.takeWhile isDigit
  let r1 := (inner.dropWhile isDigit).drop 1          -- '-'
  let monthDs := r1.take 2
  let r2 := r1.drop 3
  let dayDs := r2.take 2
  let r3 := r2.drop 3                                  -- 'T'
  let hourDs := r3.take 2
  let r4 := r3.drop 3
  let minDs := r4.take 2
  let r5 := r4.drop 3
  let secDs := r5.take 2
  let r6 := r5.drop 2
  let (fracDs, r7) := match r6 with
    | '.' :: r => (r.takeWhile isDigit, r.dropWhile isDigit)
    | _ => ([], r6)
  let y := natOfDigits yearDs
  let mo := natOfDigits monthDs
  let d := natOfDigits dayDs
  let h := natOfDigits hourDs
  let mi := natOfDigits minDs
  let sec := natOfDigits secDs
  let offSecs : Int := match r7 with
    | '+' :: r => ((natOfDigits (r.take 2) * 3600 + natOfDigits ((r.drop 3).take 2) * 60 : Nat) : Int)
    | '-' :: r => -((natOfDigits (r.take 2) * 3600 + natOfDigits ((r.drop 3).take 2) * 60 : Nat) : Int)
    | _ => 0
  if yearDs.length != 4 then none
  else if d < 1 || d > daysIn mo y then none
  else if sec ≥ 60 then none
  else
    let frac9 := (fracDs ++ List.replicate 9 '0').take 9
    let nanos : Int := natOfDigits frac9
    some (((daysFromCivil y mo d) * 86400 + (h * 3600 + mi * 60 + sec : Nat) - offSecs) * 1000000000 + nanos)

def lowerAscii (s : List Char) : List Char := s.map Char.toLower

def containsSub (needle hay : List Char) : Bool :=
  (List.range (hay.length + 1)).any fun i => needle.isPrefixOf (hay.drop i)

end StorageModel.C10
