import StorageModel.C10.ListenTreeProofs2
import StorageModel.C10.ParseProofs
/-
  C10 — what a derivation denotes is a grammar-shaped untyped tree, and the listener builds exactly that
  tree: the mutual inductions over boolean expressions, left-hand sides, set expressions and queries,
  and the top level.
-/
namespace StorageModel.C10

theorem litOfToken_rhs (t : Token) (u : U) (h : litOfToken t = some u) : isRhsU u = true := by
  unfold litOfToken at h
  split at h
  · cases h; rfl
  · split at h <;> cases h <;> rfl
  · cases hp : parseDatetime t.text <;> simp [hp] at h
    subst h
    rfl
  · cases hp : parseBoolText t.text <;> simp [hp] at h
    subst h
    rfl
  · cases h; rfl
  · cases h; rfl
  · cases h

theorem arr_build_shape (a : ArrTree) (u : U) (h : a.build = some u) : isArrU u = true := by
  unfold ArrTree.build at h
  split at h
  · cases h
  · cases hk : a.kind <;> simp only [hk] at h
    · cases h; rfl
    · split at h <;> cases h <;> rfl
    · cases h; rfl

theorem shSort_fields : ∀ (fs : List SortFieldTree), shSort (sortFieldsU fs) = true := by
  intro fs
  induction fs with
  | nil => rfl
  | cons f rest ih => exact ih

theorem tailParts_shape (sb : Option (WSs × SortByTree)) (sk li : Option (WSs × KwNumTree)) (su : U) (a b : Option Int)
    (h : tailParts sb sk li = some (su, a, b)) :
    sortOK su = true := by
  rw [tailParts_sort sb sk li su a b h]
  cases sb with
  | none => rfl
  | some x => exact shSort_fields _

/-! `x.wf`, `x.build` and the shape predicates compute, on a production, to a Boolean conjunction or a
chain of `Option.bind`s.  The inductions below take these apart and put them together up to that
computation, with `Bool.and_eq_true_iff`, `and_join` and `Option.bind_eq_some_iff`; unfolding the mutual model
functions by `simp` instead would have their equation lemmas derived, which is slow. -/

theorem and_join {a b : Bool} (ha : a = true) (hb : b = true) : (a && b) = true := (Bool.and_eq_true a b).mpr ⟨ha, hb⟩

theorem optWf_all {α} {f : α → Bool} {x : Option (WSs × α)} (h : optWf f x = true) : x.all (f ·.2) = true := by
  match x, h with
  | none, _ => rfl
  | some (w, a), h => exact (Bool.and_eq_true_iff.mp h).2

theorem shBool_markGrouped (u : U) (h : shBool u = true) : shBool (markGrouped u) = true := by
  -- only the `grouped` flag of a `logic` node changes, and `shBool` does not read it
  cases u <;> exact h

theorem shBool_andNode (a b : U) (ha : shBool a = true) (hb : shBool b = true) : shBool (andNode a b) = true := by
  unfold andNode
  split
  · next rl rr =>
    obtain ⟨hl, hr⟩ := Bool.and_eq_true_iff.mp hb
    exact and_join (and_join ha hl) hr
  · exact and_join ha hb

mutual
theorem bool_shaped : ∀ (t : BoolTree), t.wf = true → ∀ u, t.build = some u → shBool u = true
  | .inArr lhs w0 op w1 arr, h, u, hb => by
    have h := Bool.and_eq_true_iff.mp h
    simp only [Bool.and_eq_true] at h
    obtain ⟨l, hl, hb⟩ := Option.bind_eq_some_iff.mp hb
    obtain ⟨a, ha, hb⟩ := Option.bind_eq_some_iff.mp hb
    have hu := and_join (lhs_shaped lhs h.1.1.1.1.1.1 l hl) (arr_build_shape arr a ha)
    split at hb <;> cases hb <;> exact hu
  | .between lhs w0 op w1 lo w2 a w3 hi, h, u, hb => by
    have h := Bool.and_eq_true_iff.mp h
    simp only [Bool.and_eq_true] at h
    obtain ⟨l, hl, hb⟩ := Option.bind_eq_some_iff.mp hb
    obtain ⟨x, h1, hb⟩ := Option.bind_eq_some_iff.mp hb
    obtain ⟨y, h2, hb⟩ := Option.bind_eq_some_iff.mp hb
    have hu := and_join (and_join (lhs_shaped lhs h.1.1.1.1.1.1.1.1.1.1.1.1 l hl) (litOfToken_rhs lo x h1))
      (litOfToken_rhs hi y h2)
    split at hb <;> cases hb <;> exact hu
  | .binary lhs w0 op w1 rhs, h, u, hb => by
    have h := Bool.and_eq_true_iff.mp h
    simp only [Bool.and_eq_true] at h
    obtain ⟨l, hl, hb⟩ := Option.bind_eq_some_iff.mp hb
    obtain ⟨x, h1, hb⟩ := Option.bind_eq_some_iff.mp hb
    cases hb
    exact and_join (lhs_shaped lhs h.1.1.1.1 l hl) (litOfToken_rhs rhs x h1)
  | .group lp w0 e w1 rp, h, u, hb => by
    have h := Bool.and_eq_true_iff.mp h
    simp only [Bool.and_eq_true] at h
    obtain ⟨x, h1, hb⟩ := Option.bind_eq_some_iff.mp hb
    cases hb
    exact shBool_markGrouped x (bool_shaped e h.1.1.2 x h1)
  | .and l w0 op w1 r, h, u, hb => by
    have h := Bool.and_eq_true_iff.mp h
    simp only [Bool.and_eq_true] at h
    obtain ⟨a, h1, hb⟩ := Option.bind_eq_some_iff.mp hb
    obtain ⟨b, h2, hb⟩ := Option.bind_eq_some_iff.mp hb
    cases hb
    exact shBool_andNode a b (bool_shaped l h.1.1.1.1.1.1 a h1) (bool_shaped r h.2 b h2)
  | .or l w0 op w1 r, h, u, hb => by
    have h := Bool.and_eq_true_iff.mp h
    simp only [Bool.and_eq_true] at h
    obtain ⟨a, h1, hb⟩ := Option.bind_eq_some_iff.mp hb
    obtain ⟨b, h2, hb⟩ := Option.bind_eq_some_iff.mp hb
    cases hb
    exact and_join (bool_shaped l h.1.1.1.1.1.1 a h1) (bool_shaped r h.2 b h2)
  | .boolConst t, h, u, hb => by
    have hb : litOfToken t = some u := hb
    simp only [litOfToken, kindIs_iff.1 h] at hb
    cases hp : parseBoolText t.text <;> simp [hp] at hb
    subst hb; rfl
  | .isEmpty kw lp w0 s w1 rp, h, u, hb => by
    have h := Bool.and_eq_true_iff.mp h
    simp only [Bool.and_eq_true] at h
    obtain ⟨x, h1, hb⟩ := Option.bind_eq_some_iff.mp hb
    cases hb
    exact and_join rfl (setExpr_shaped s h.1.1.2 x h1)
  | .symbol t, _, u, hb => by
    cases (hb : some (U.sym t.text) = some u); rfl
  | .not kw w e, h, u, hb => by
    obtain ⟨x, h1, hb⟩ := Option.bind_eq_some_iff.mp hb
    cases hb
    exact bool_shaped e (Bool.and_eq_true_iff.mp h).2 x h1
theorem lhs_shaped : ∀ (t : LhsTree), t.wf = true → ∀ u, t.build = some u → shLhs u = true
  | .ident t, _, u, hb => by cases (hb : some (U.sym t.text) = some u); rfl
  | .setFn fn lp w0 id w1 rp, h, u, hb => by
    have h := Bool.and_eq_true_iff.mp h
    simp only [Bool.and_eq_true, Bool.or_eq_true, kindIs, beq_iff_eq] at h
    cases (hb : some (U.setFn (setFnOfToken fn) (.sym id.text)) = some u)
    rcases h.1.1.1.1.1 with hk | hk <;> simp only [setFnOfToken, hk] <;> rfl
  | .count fn lp w0 s w1 rp, h, u, hb => by
    have h := Bool.and_eq_true_iff.mp h
    simp only [Bool.and_eq_true] at h
    obtain ⟨x, h1, hb⟩ := Option.bind_eq_some_iff.mp hb
    cases hb
    exact setExpr_shaped s h.1.1.2 x h1
theorem setExpr_shaped : ∀ (t : SetExprTree), t.wf = true → ∀ u, t.build = some u → shSetExpr u = true
  | .ident t, _, u, hb => by cases (hb : some (U.sym t.text) = some u); rfl
  | .subQuery f w0 id w1 wh w2 (.pred e tail), h, u, hb => by
    obtain ⟨x, h1, hb⟩ := Option.bind_eq_some_iff.mp hb
    cases hb
    exact and_join rfl (query_shaped (.pred e tail) (Bool.and_eq_true_iff.mp h).2 x h1)
  | .subQuery _ _ _ _ _ _ (.sort ..), _, _, hb | .subQuery _ _ _ _ _ _ (.skip ..), _, _, hb
  | .subQuery _ _ _ _ _ _ (.limit _), _, _, hb => nomatch hb
theorem query_shaped : ∀ (t : QueryTree), t.wf = true → ∀ u, t.build = some u → shQuery u = true
  | .pred e tail, h, u, hb => by
    obtain ⟨p, h1, hb⟩ := Option.bind_eq_some_iff.mp hb
    obtain ⟨⟨su, a, b⟩, h2, hb⟩ := Option.bind_eq_some_iff.mp hb
    cases hb
    exact and_join (bool_shaped e (Bool.and_eq_true_iff.mp h).1 p h1) (tailParts_shape _ _ _ su a b h2)
  | .sort s sk li, _, u, hb | .skip s li, _, u, hb | .limit l, _, u, hb => by
    obtain ⟨⟨su, a, b⟩, h2, hb⟩ := Option.bind_eq_some_iff.mp hb
    cases hb
    exact and_join rfl (tailParts_shape _ _ _ su a b h2)
end

theorem shBool_notPaging (u : U) (h : shBool u = true) : notPaging u = true := by
  cases u <;> first | rfl | exact (Bool.false_ne_true h).elim

theorem effOn_predQuery (e : BoolTree) (tail : TailTree) (hwf : (QueryTree.pred e tail).wf = true)
    (ihe : ∀ pre, EffOn e.events pre (e.build.map fun u => .node u :: pre)) (pre : List SV) :
    EffOn (QueryTree.pred e tail).events pre ((QueryTree.pred e tail).build.map fun u => .node u :: pre) := by
  have hwf := Bool.and_eq_true_iff.mp hwf
  simp only [TailTree.wf, Bool.and_eq_true] at hwf
  show EffOn (_ ++ _) pre _
  rw [List.append_assoc]
  refine effOn_bindNode (ihe pre) fun p hp => ?_
  refine effOn_congr (effOn_tailQ tail (optWf_all hwf.2.1.1) (optWf_all hwf.2.1.2) (optWf_all hwf.2.2) p
    (shBool_notPaging p (bool_shaped e hwf.1 p hp)) pre) ?_
  cases tailParts tail.sortBy tail.skip tail.limit <;> rfl

/-- a query without predicate is a tail (no white space in front of its first part) and ExitQueryStmt -/
theorem nopred_events (q : QueryTree) (hq : q.wf = true) (hnp : ∀ e t, q ≠ .pred e t) :
    ∃ t : TailTree, t.sortBy.all (·.2.wf) = true ∧ t.skip.all (skipWf ·.2) = true ∧ t.limit.all (limitWf ·.2) = true ∧
      q.events = t.events ++ [.xQ] ∧
      q.build = (tailParts t.sortBy t.skip t.limit).map fun r => .query (.boolC true) r.1 r.2.1 r.2.2 := by
  cases q with
  | pred e t => exact absurd rfl (hnp e t)
  | sort s sk li =>
    have hq := Bool.and_eq_true_iff.mp hq
    simp only [Bool.and_eq_true] at hq
    refine ⟨⟨some ([], s), sk, li⟩, hq.1.1, optWf_all hq.1.2, optWf_all hq.2, rfl, ?_⟩
    show (tailParts (some ([], s)) sk li).bind _ = _
    cases tailParts (some ([], s)) sk li <;> rfl
  | skip s li =>
    have hq := Bool.and_eq_true_iff.mp hq
    refine ⟨⟨none, some ([], s), li⟩, rfl, hq.1, optWf_all hq.2, rfl, ?_⟩
    show (tailParts none (some ([], s)) li).bind _ = _
    cases tailParts none (some ([], s)) li <;> rfl
  | limit l =>
    refine ⟨⟨none, none, some ([], l)⟩, rfl, rfl, hq, rfl, ?_⟩
    show (tailParts none none (some ([], l))).bind _ = _
    cases tailParts none none (some ([], l)) <;> rfl

/-- `from id where <sort/skip/limit only>`: ExitQueryStmt takes the identifier for the predicate, and
    ExitSubQuery then finds the set-function marker instead of the identifier: the listener latches an error -/
theorem effOn_subQuery_nopred (f : Token) (w0 : WSs) (id : Token) (w1 : WSs) (wh : Token) (w2 : WSs) (q : QueryTree)
    (hwf : (SetExprTree.subQuery f w0 id w1 wh w2 q).wf = true) (hnp : ∀ e t, q ≠ .pred e t) (fn : SetFn) (pre : List SV) :
    EffOn (SetExprTree.subQuery f w0 id w1 wh w2 q).events (.setfn fn :: pre) none := by
  have hwf := Bool.and_eq_true_iff.mp hwf
  simp only [Bool.and_eq_true] at hwf
  obtain ⟨t, h1, h2, h3, hev, _⟩ := nopred_events q hwf.2 hnp
  have e2 := effOn_ident id hwf.1.1.1.1.1.1.2 (.setfn fn :: pre)
  have e3 := effOn_tailQ t h1 h2 h3 (.sym id.text) rfl (.setfn fn :: pre)
  rw [← hev] at e3
  show EffOn (_ ++ _) _ _
  simp only [List.append_assoc]
  refine effOn_seq e2 (effOn_congr (effOn_bind (k := fun _ => none) e3 fun mid hm => ?_)
    (by cases tailParts t.sortBy t.skip t.limit <;> rfl))
  cases ht : tailParts t.sortBy t.skip t.limit with
  | none => simp [ht] at hm
  | some r =>
    simp only [ht, Option.map_some, Option.some.injEq] at hm
    subst hm
    exact effOn_step_fail _ _ fun s c => ⟨_, rfl, rfl⟩

theorem shSetExpr_symbol (x : U) (h : shSetExpr x = true) : impl x.cls .SymbolNode = true := by
  cases x with
  | sym _ | subQ _ _ => rfl
  | _ => exact (Bool.false_ne_true h).elim

theorem effOn_setCall (fn : Token) (hfn : fn.kind = .COUNT ∨ fn.kind = .ISEMPTY) (t : SetExprTree) (ht : t.wf = true)
    (iht : ∀ f pre, EffOn t.events (.setfn f :: pre) (t.build.map fun x => .node x :: .setfn f :: pre)) (pre : List SV) :
    EffOn (tokEv fn ++ t.events ++ [.xSF]) pre
      ((t.build.bind fun x => some (.setFn (setFnOfToken fn) x)).map fun u => .node u :: pre) := by
  have e1 := effOn_setfn fn (by rcases hfn with h | h <;> simp [h]) pre
  rw [List.append_assoc]
  refine effOn_seq e1 (effOn_bindNode (iht _ _) fun x hx => effOn_step _ _ _ fun s c => ?_)
  have := shSetExpr_symbol x (setExpr_shaped t ht x hx)
  simp [step, pushSetFunction, popSymbol, popSetFn, push, this]

theorem rhs_kind_literal (op rhs : TK) (h : rhsOk op rhs = true) :
    rhs = .STRING ∨ rhs = .NUMBER ∨ rhs = .DATETIME ∨ rhs = .BOOL ∨ rhs = .NULL ∨ rhs = .NONE := by
  rcases rhsOk_cases h with ⟨_, rfl | rfl | rfl⟩ | ⟨_, rfl | rfl⟩ | ⟨_, rfl | rfl⟩ | ⟨_, rfl⟩ <;> simp

theorem rhsOk_op (op rhs : TK) (h : rhsOk op rhs = true) :
    op = .EQ ∨ op = .LT ∨ op = .GT ∨ op = .IN ∨ op = .BETWEEN ∨ op = .CONTAINS ∨ op = .ICONTAINS := by
  rcases rhsOk_cases h with ⟨rfl | rfl | rfl, _⟩ | ⟨rfl, _⟩ | ⟨rfl, _⟩ | ⟨rfl, _⟩ <;> simp

theorem exitGroupCtx_node (s : List (List SV)) (x : U) (c : List SV) :
    exitGroupCtx ⟨s, .node x :: c, false⟩ = ⟨s, .node (markGrouped x) :: c, false⟩ := by
  cases x <;> rfl

mutual
theorem effOn_bool : ∀ (t : BoolTree), t.wf = true → ∀ pre, EffOn t.events pre (t.build.map fun u => .node u :: pre)
  | .inArr lhs w0 op w1 arr, h, pre => by
    have h := Bool.and_eq_true_iff.mp h
    simp only [Bool.and_eq_true, kindIs, beq_iff_eq] at h
    show EffOn (_ ++ _) pre _
    simp only [List.append_assoc]
    refine effOn_bindNode (effOn_lhs lhs h.1.1.1.1.1.1 pre) fun l _ =>
      effOn_seq (effOn_op op (.inr (.inr (.inr (.inl h.1.1.1.2)))) _) <|
      effOn_bindNode (effOn_array arr h.2 _) fun a _ => ?_
    -- the operator token says whether the node is wrapped in a *NotExprNode, for `build` and the listener alike
    have hop : opOfToken op = if hasNot op.text then .notIn else .in_ := by simp only [opOfToken, h.1.1.1.2]
    rw [hop]
    cases hasNot op.text <;> exact effOn_step _ _ _ fun s c => rfl
  | .between lhs w0 op w1 lo w2 a w3 hi, h, pre => by
    have h := Bool.and_eq_true_iff.mp h
    simp only [Bool.and_eq_true, Bool.or_eq_true, kindIs, beq_iff_eq] at h
    have hlo : lo.kind = .NUMBER ∨ lo.kind = .DATETIME := h.1.1.1.1.1.1.2
    have hhi : hi.kind = .NUMBER ∨ hi.kind = .DATETIME := by rw [h.2]; exact hlo
    show EffOn (_ ++ _) pre _
    simp only [List.append_assoc]
    refine effOn_bindNode (effOn_lhs lhs h.1.1.1.1.1.1.1.1.1.1.1.1 pre) fun l _ =>
      effOn_seq (effOn_op op (.inr (.inr (.inr (.inr (.inl h.1.1.1.1.1.1.1.1.1.2))))) _) <|
      effOn_bindNode (effOn_literal lo (by rcases hlo with h' | h' <;> simp [h']) _) fun x _ =>
      effOn_bindNode (effOn_literal hi (by rcases hhi with h' | h' <;> simp [h']) _) fun y _ => ?_
    have hop : opOfToken op = if hasNot op.text then .notBetween else .between := by
      simp only [opOfToken, h.1.1.1.1.1.1.1.1.1.2]
    rw [hop]
    cases hasNot op.text <;> exact effOn_step _ _ _ fun s c => rfl
  | .binary lhs w0 op w1 rhs, h, pre => by
    have h := Bool.and_eq_true_iff.mp h
    simp only [Bool.and_eq_true] at h
    show EffOn (_ ++ _) pre _
    simp only [List.append_assoc]
    exact effOn_bindNode (effOn_lhs lhs h.1.1.1.1 pre) fun l _ =>
      effOn_seq (effOn_op op (rhsOk_op _ _ h.1.2) _) <|
      effOn_bindNode (effOn_literal rhs (rhs_kind_literal _ _ h.1.2) _) fun r _ =>
      effOn_step _ _ _ fun s c => rfl
  | .group lp w0 e w1 rp, h, pre => by
    have h := Bool.and_eq_true_iff.mp h
    simp only [Bool.and_eq_true] at h
    exact effOn_bindNode (effOn_bool e h.1.1.2 pre) fun x _ =>
      effOn_step _ _ _ fun s c => congrArg Outcome.ok (exitGroupCtx_node s x _)
  | .and l w0 op w1 r, h, pre => by
    have h := Bool.and_eq_true_iff.mp h
    simp only [Bool.and_eq_true] at h
    show EffOn (_ ++ _) pre _
    simp only [List.append_assoc]
    exact effOn_bindNode (effOn_bool l h.1.1.1.1.1.1 pre) fun a _ =>
      effOn_bindNode (effOn_bool r h.2 _) fun b _ =>
      effOn_step _ _ _ fun s c => rfl
  | .or l w0 op w1 r, h, pre => by
    have h := Bool.and_eq_true_iff.mp h
    simp only [Bool.and_eq_true] at h
    show EffOn (_ ++ _) pre _
    simp only [List.append_assoc]
    exact effOn_bindNode (effOn_bool l h.1.1.1.1.1.1 pre) fun a _ =>
      effOn_bindNode (effOn_bool r h.2 _) fun b _ =>
      effOn_step _ _ _ fun s c => rfl
  | .boolConst t, h, pre => by
    exact effOn_literal t (.inr (.inr (.inr (.inl (kindIs_iff.1 h))))) pre
  | .symbol t, h, pre => effOn_ident t h pre
  | .not kw w e, h, pre => by
    have h := Bool.and_eq_true_iff.mp h
    simp only [Bool.and_eq_true] at h
    exact effOn_bindNode (effOn_bool e h.2 pre) fun x _ =>
      effOn_step _ _ _ fun s c => rfl
  | .isEmpty kw lp w0 t w1 rp, h, pre => by
    have h := Bool.and_eq_true_iff.mp h
    simp only [Bool.and_eq_true, kindIs, beq_iff_eq] at h
    have := effOn_setCall kw (.inr h.1.1.1.1.1) t h.1.1.2 (effOn_setExpr t h.1.1.2) pre
    simp only [setFnOfToken, h.1.1.1.1.1] at this
    exact this
theorem effOn_lhs : ∀ (t : LhsTree), t.wf = true → ∀ pre, EffOn t.events pre (t.build.map fun u => .node u :: pre)
  | .ident t, h, pre => effOn_ident t h pre
  | .setFn fn lp w0 id w1 rp, h, pre => by
    have h := Bool.and_eq_true_iff.mp h
    simp only [Bool.and_eq_true, Bool.or_eq_true, kindIs, beq_iff_eq] at h
    have hfn : fn.kind = .ALL_OF ∨ fn.kind = .ANY_OF := h.1.1.1.1.1
    show EffOn (_ ++ _) pre _
    simp only [List.append_assoc]
    exact effOn_seq (effOn_setfn fn (by rcases hfn with h' | h' <;> simp [h']) pre) <|
      effOn_seq (effOn_ident id (kindIs_iff.2 h.1.1.2) _) <|
      effOn_step _ _ _ fun s c => rfl
  | .count fn lp w0 t w1 rp, h, pre => by
    have h := Bool.and_eq_true_iff.mp h
    simp only [Bool.and_eq_true, kindIs, beq_iff_eq] at h
    have := effOn_setCall fn (.inl h.1.1.1.1.1) t h.1.1.2 (effOn_setExpr t h.1.1.2) pre
    simp only [setFnOfToken, h.1.1.1.1.1] at this
    exact this
theorem effOn_setExpr : ∀ (t : SetExprTree), t.wf = true → ∀ f pre,
    EffOn t.events (.setfn f :: pre) (t.build.map fun x => .node x :: .setfn f :: pre)
  | .ident t, h, _, _ => effOn_ident t h _
  | .subQuery fr w0 id w1 wh w2 (.pred e tail), h, _, _ => by
    have h := Bool.and_eq_true_iff.mp h
    simp only [Bool.and_eq_true] at h
    show EffOn (_ ++ _) _ _
    simp only [List.append_assoc]
    exact effOn_seq (effOn_ident id h.1.1.1.1.1.1.2 _) <|
      effOn_bindNode (effOn_predQuery e tail h.2 (effOn_bool e (Bool.and_eq_true_iff.mp h.2).1) _) fun q _ =>
      effOn_step _ _ _ fun s c => rfl
  | .subQuery fr w0 id w1 wh w2 (.sort ..), h, f, pre | .subQuery fr w0 id w1 wh w2 (.skip ..), h, f, pre
  | .subQuery fr w0 id w1 wh w2 (.limit _), h, f, pre =>
    effOn_subQuery_nopred fr w0 id w1 wh w2 _ h (fun _ _ hc => nomatch hc) f pre
end

/-- `getQuery` after a walk that left one node, or latched the error; `hx` is only there because `getQueryU`
    answers `.ok` for a `query` node alone -/
theorem listen_of_run {evs : List Ev} {x : Option U} (hx : ∀ u, x = some u → shQuery u = true)
    (h : match (generalizing := false) x with
      | some u => run .init evs = .ok ⟨[], [.node u], false⟩
      | none => ∃ st', run .init evs = .ok st' ∧ st'.err = true) :
    listen evs = (match (generalizing := false) x with
      | some u => .ok u
      | none => .err "listener error") := by
  cases x with
  | none =>
    obtain ⟨st', hr, herr⟩ := h
    simp [listen, hr, getQueryU, herr]
  | some u =>
    simp only [listen, h]
    cases u with
    | query p s sk li => rfl
    | _ => exact (Bool.false_ne_true (hx _ rfl)).elim

theorem listen_tree (t : StartTree) (h : t.wf = true) :
    listen t.events = (match t.build with
      | some u => .ok u
      | none => .err "listener error") := by
  simp only [StartTree.wf, Bool.and_eq_true] at h
  have hq := h.1.2
  refine listen_of_run (query_shaped t.q hq) ?_
  simp only [StartTree.events, StartTree.build]
  cases hqt : t.q with
  | pred e tail =>
    rw [hqt] at hq
    have he : e.wf = true := (Bool.and_eq_true_iff.mp hq).1
    have := effOn_predQuery e tail hq (effOn_bool e he) [] LState.init [] rfl rfl
    generalize (QueryTree.pred e tail).build = x at this ⊢
    cases x <;> exact this
  | _ =>
    rw [hqt] at hq
    obtain ⟨tl, h1, h2, h3, hev, hb⟩ := nopred_events _ hq (by intro e t hc; cases hc)
    have := run_tailQ tl h1 h2 h3 [] (b := []) trivial
    rw [hev, hb]
    generalize tailParts tl.sortBy tl.skip tl.limit = x at this ⊢
    cases x <;> exact this

end StorageModel.C10
