import StorageModel.C10.Listener
/-
  C10 — the array group: the three array exits as one function of the array kind, and their loop on a stack of
  literals.  From this, the listener cannot panic on any `clean` callback sequence (the shape of ANTLR walks: argued
  in the docstring of `clean`, assumed, not proved): inside an array group the latch is set or the stack holds
  literals only (`arrInv`).
-/
namespace StorageModel.C10

/-- the stack of an array group whose elements were all accepted: literal nodes only -/
def litNodes (lits : List Lit) : List SV := lits.map fun l => .node (.lit l)

def arrInv (st : LState) : Prop := st.err = true ∨ ∃ lits, st.cur = litNodes lits

/-- The loop of the three array exits, with the comma-ok assertions on the popped node as a test `ok`
    of its class: `popArrayLoop` and `popNumberLoop` are instances. -/
def popLoop (ok : Cls → Bool) (site : String) : Nat → LState → List Lit → Outcome (Option (List Lit) × LState)
  | 0, st, acc => .ok (some acc.reverse, st)
  | n + 1, st, acc =>
    if st.cur.isEmpty then .ok (some acc.reverse, st) else
    let (node, st1) := popNode st
    match node with
    | none => .panic site
    | some u =>
      if ok u.cls then
        match litOf u with
        | some l => popLoop ok site n st1 (l :: acc)
        | none => .ok (none, setErr st1)
      else .ok (none, setErr st1)

theorem popArrayLoop_eq (want : Iface) (site : String) (n : Nat) (st : LState) (acc : List Lit) :
    popArrayLoop want site n st acc = popLoop (impl · want) site n st acc := by
  induction n generalizing st acc with
  | zero => rfl
  | succ n ih => simp only [popArrayLoop, popLoop, ih]; rfl

theorem popNumberLoop_eq (n : Nat) (st : LState) (acc : List Lit) :
    popNumberLoop n st acc =
      popLoop (fun c => impl c .Int64Node || impl c .Float64Node) "ExitNumberArray: node.GetType() on nil" n st acc := by
  induction n generalizing st acc with
  | zero => rfl
  | succ n ih => simp only [popNumberLoop, popLoop, ih]; rfl

theorem popLoop_litNodes (ok : Cls → Bool) (site : String) : ∀ (lits : List Lit) (n : Nat) (s : List (List SV)) (acc : List Lit),
    lits.length < n →
    ∃ r, popLoop ok site n ⟨s, litNodes lits, false⟩ acc = .ok r ∧
      ((∀ l ∈ lits, ok l.cls = true) → r = (some (acc.reverse ++ lits), ⟨s, [], false⟩)) := by
  intro lits
  induction lits with
  | nil =>
    intro n s acc hn
    cases n with
    | zero => omega
    | succ n => exact ⟨_, rfl, fun _ => by simp [litNodes]⟩
  | cons l rest ih =>
    intro n s acc hn
    cases n with
    | zero => omega
    | succ n =>
      simp only [popLoop, litNodes, List.map_cons, List.isEmpty_cons, Bool.false_eq_true, if_false, popNode, U.cls, litOf]
      cases hl : ok l.cls with
      | false => exact ⟨_, rfl, fun h => by simp [h l (List.mem_cons_self ..)] at hl⟩
      | true =>
        obtain ⟨r, hr, hv⟩ := ih n s (l :: acc) (by simp at hn; omega)
        refine ⟨r, hr, fun h => ?_⟩
        rw [hv fun x hx => h x (List.mem_cons_of_mem _ hx)]
        simp [List.reverse_cons, List.append_assoc]

def ArrKind.enterEv : ArrKind → Ev | .str => .eSA | .num => .eNA | .dt => .eDA
def ArrKind.exitEv : ArrKind → Ev | .str => .xSA | .num => .xNA | .dt => .xDA

/-- the comma-ok assertions of the array exit of kind `k`, as a test of the popped node's class -/
def ArrKind.ok : ArrKind → Cls → Bool
  | .str, c => impl c .StringNode
  | .num, c => impl c .Int64Node || impl c .Float64Node
  | .dt, c => impl c .DatetimeNode

def ArrKind.site : ArrKind → String
  | .str => "ExitStringArray: node.GetType() on nil"
  | .num => "ExitNumberArray: node.GetType() on nil"
  | .dt => "ExitDatetimeArray: node.GetType() on nil"

/-- the array node built from the popped literals -/
def arrNode : ArrKind → List Lit → U
  | .str, lits => .strArr lits
  | .dt, lits => .dtArr (lits.filterMap Lit.dt?)
  | .num, lits => if lits.all Lit.isInt then .intArr (lits.filterMap Lit.int?) else .fltArr (lits.map litToRat)

theorem step_exitEv (k : ArrKind) (st : LState) :
    step st k.exitEv =
      if st.err then .ok st else
      match popLoop k.ok k.site (st.cur.length + 1) st [] with
      | .ok (some vals, st1) => .ok (push (exitGroup st1) (.node (arrNode k vals)))
      | .ok (none, st1) => .ok st1
      | .err e => .err e
      | .panic s => .panic s := by
  cases k with
  | str => show exitStringArray st = _; unfold exitStringArray; rw [popArrayLoop_eq]; rfl
  | dt => show exitDatetimeArray st = _; unfold exitDatetimeArray; rw [popArrayLoop_eq]; rfl
  | num =>
    show exitNumberArray st = _
    unfold exitNumberArray
    rw [popNumberLoop_eq]
    split
    · rfl
    · show (match popLoop ArrKind.num.ok ArrKind.num.site _ st [] with
        | .ok (some vals, st1) => _ | .ok (none, st1) => _ | .err e => _ | .panic s => _) = _
      generalize popLoop ArrKind.num.ok ArrKind.num.site _ st [] = x
      rcases x with ⟨_ | vals, st1⟩ | _ | _
      · rfl
      · -- `exitNumberArray` has its `if allInt` around the two pushes, `arrNode` inside the node that is pushed
        simp only [arrNode]; split <;> rfl
      · rfl
      · rfl

theorem arrayExit_no_panic (k : ArrKind) (st : LState) (h : arrInv st) : (step st k.exitEv).isPanic = false := by
  rw [step_exitEv]
  split
  · rfl
  · next herr =>
    obtain ⟨s, cur, err⟩ := st
    obtain ⟨lits, rfl⟩ : ∃ lits, cur = litNodes lits := h.resolve_left herr
    cases (Bool.eq_false_iff.mpr herr : err = false)
    obtain ⟨r, hr, _⟩ := popLoop_litNodes k.ok k.site lits ((litNodes lits).length + 1) s [] (by simp [litNodes])
    rw [hr]
    rcases r with ⟨_ | _, _⟩ <;> rfl

theorem step_arrayExit (k : ArrKind) (lits : List Lit) (hk : ∀ l ∈ lits, k.ok l.cls = true) (outer : List SV)
    (s : List (List SV)) :
    step ⟨outer :: s, litNodes lits, false⟩ k.exitEv = .ok ⟨s, .node (arrNode k lits) :: outer, false⟩ := by
  obtain ⟨r, hr, hv⟩ := popLoop_litNodes k.ok k.site lits ((litNodes lits).length + 1) (outer :: s) [] (by simp [litNodes])
  rw [step_exitEv, if_neg Bool.false_ne_true, hr, hv hk]
  rfl

theorem step_ok_of_not_arrayExit (st : LState) (e : Ev) (h : e ≠ .xSA ∧ e ≠ .xNA ∧ e ≠ .xDA) :
    ∃ st', step st e = .ok st' := by
  cases e with
  | xSA => exact absurd rfl h.1
  | xNA => exact absurd rfl h.2.1
  | xDA => exact absurd rfl h.2.2
  | _ => exact ⟨_, rfl⟩

theorem visitTerminal_arrInv (st : LState) (k : TK) (text : List Char) (hk : arrayTerminal k = true)
    (h : arrInv st) : arrInv (visitTerminal st k text) := by
  obtain ⟨s, cur, err⟩ := st
  cases err with
  | true => exact Or.inl rfl
  | false =>
    obtain ⟨lits, rfl⟩ : ∃ lits, cur = litNodes lits := h.resolve_left Bool.false_ne_true
    have hpush : ∀ x : Lit, arrInv ⟨s, .node (.lit x) :: litNodes lits, false⟩ := fun x => Or.inr ⟨x :: lits, rfl⟩
    simp only [arrayTerminal, Bool.or_eq_true, beq_iff_eq] at hk
    rcases hk with (rfl | rfl) | rfl
    · exact hpush _
    · simp only [visitTerminal, Bool.false_eq_true, if_false]
      split
      · exact hpush _
      · exact hpush _
      · exact Or.inl rfl
    · simp only [visitTerminal, Bool.false_eq_true, if_false]
      split
      · exact hpush _
      · exact Or.inl rfl

theorem run_cons_no_panic {st : LState} {e : Ev} {es : List Ev} (hp : (step st e).isPanic = false)
    (h : ∀ st', step st e = .ok st' → (run st' es).isPanic = false) : (run st (e :: es)).isPanic = false := by
  simp only [run]
  cases hs : step st e with
  | ok st' => exact h st' hs
  | err x => rfl
  | panic s => rw [hs] at hp; cases hp

theorem run_no_panic_of_clean : ∀ (evs : List Ev) (b : Bool) (st : LState), clean b evs = true →
    (b = true → arrInv st) → (run st evs).isPanic = false := by
  intro evs
  induction evs with
  | nil => intro b st _ _; rfl
  | cons e es ih =>
    intro b st hc hinv
    cases b with
    | false =>
      cases e with
      | eSA | eNA | eDA => exact ih true (enterGroup st) hc (fun _ => Or.inr ⟨[], rfl⟩)
      | xSA | xNA | xDA => cases hc
      | _ => exact ih false _ hc nofun
    | true =>
      have hinv' := hinv rfl
      cases e with
      | term k text =>
        have hc : arrayTerminal k = true ∧ clean true es = true := (Bool.and_eq_true _ _).mp hc
        exact ih true _ hc.2 (fun _ => visitTerminal_arrInv st k text hc.1 hinv')
      | xSA => exact run_cons_no_panic (arrayExit_no_panic .str st hinv') (fun st' _ => ih false st' hc nofun)
      | xNA => exact run_cons_no_panic (arrayExit_no_panic .num st hinv') (fun st' _ => ih false st' hc nofun)
      | xDA => exact run_cons_no_panic (arrayExit_no_panic .dt st hinv') (fun st' _ => ih false st' hc nofun)
      | _ => cases hc

theorem listen_no_panic_of_run (evs : List Ev) (h : (run .init evs).isPanic = false) : (listen evs).isPanic = false := by
  simp only [listen]
  cases hr : run .init evs with
  | ok st =>
    simp only [getQueryU]
    split
    · rfl
    · split <;> rfl
  | err e => rfl
  | panic s => simp [hr, Outcome.isPanic] at h

end StorageModel.C10
