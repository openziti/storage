import StorageModel.C10.Build
import StorageModel.C10.ListenerProofs
/-
  C10 — the listener on complete derivations: the callbacks of a well-formed tree either latch an
  error (a literal is refused) or leave exactly the node `build` describes on the stack.  `EffOn` says
  this of a piece of the walk, whatever lies below on the stack, so that pieces compose (`effOn_bind`);
  here for terminals, bracketed groups and arrays.
-/
namespace StorageModel.C10

theorem run_append (st : LState) (a b : List Ev) :
    run st (a ++ b) = (match run st a with
      | .ok st' => run st' b
      | .err x => .err x
      | .panic s => .panic s) := by
  induction a generalizing st with
  | nil => simp [run]
  | cons e es ih =>
    simp only [List.cons_append, run]
    cases step st e with
    | ok st1 => exact ih st1
    | err x => rfl
    | panic s => rfl

theorem popNode_err (st : LState) (h : st.err = true) : popNode st = (none, st) := by simp [popNode, h]
theorem popBinop_err (st : LState) (h : st.err = true) : popBinop st = (none, st) := by simp [popBinop, h]
theorem popSetFn_err (st : LState) (h : st.err = true) : popSetFn st = (none, st) := by simp [popSetFn, h]
theorem popSymbol_err (st : LState) (h : st.err = true) : popSymbol st = (none, st) := by simp [popSymbol, h]
theorem push_err (st : LState) (v : SV) (h : st.err = true) : push st v = st := by simp [push, h]
theorem peek_err (st : LState) (h : st.err = true) : peek st = none := by simp [peek, h]

/-- every callback tests the latch first, itself or in the helper it calls first (`peekStack`, the `pop*`), so on a
    set latch it computes to a state that has it set; except ExitSortByExpr, which looks at the group's stack
    before it comes to `SetError` or `pushStack` -/
theorem step_err (st : LState) (e : Ev) (h : st.err = true) : ∃ st', step st e = .ok st' ∧ st'.err = true := by
  obtain ⟨s, cur, err⟩ := st
  cases h
  cases e with
  | xSB =>
    refine ⟨_, rfl, ?_⟩
    unfold exitSortBy
    split
    · rfl
    · cases s <;> rfl
  | _ => exact ⟨_, rfl, rfl⟩

theorem run_err (evs : List Ev) : ∀ (st : LState), st.err = true → ∃ st', run st evs = .ok st' ∧ st'.err = true := by
  induction evs with
  | nil => intro st h; exact ⟨st, rfl, h⟩
  | cons e es ih =>
    intro st h
    obtain ⟨st1, h1, he1⟩ := step_err st e h
    obtain ⟨st2, h2, he2⟩ := ih st1 he1
    exact ⟨st2, by simp [run, h1, h2], he2⟩

/-- the callbacks replace the top segment `pre` of the current stack by `post` (whatever lies
    below), or latch the error when `post = none` -/
def EffOn (evs : List Ev) (pre : List SV) (post : Option (List SV)) : Prop :=
  ∀ (st : LState) (c : List SV), st.err = false → st.cur = pre ++ c →
    match post with
    | some p => run st evs = .ok { st with cur := p ++ c }
    | none => ∃ st', run st evs = .ok st' ∧ st'.err = true

theorem effOn_bind {a b : List Ev} {pre : List SV} {m : Option (List SV)} {k : List SV → Option (List SV)}
    (ha : EffOn a pre m) (hb : ∀ mid, m = some mid → EffOn b mid (k mid)) : EffOn (a ++ b) pre (m.bind k) := by
  intro st c hst hc
  have h1 := ha st c hst hc
  rw [run_append]
  cases m with
  | none =>
    obtain ⟨st', hr, he⟩ := h1
    simp only [Option.bind_none, hr]
    exact run_err b st' he
  | some mid =>
    simp only at h1
    simp only [Option.bind_some, h1]
    exact hb mid rfl { st with cur := mid ++ c } c hst rfl

theorem effOn_seq {a b : List Ev} {pre mid : List SV} {post : Option (List SV)}
    (ha : EffOn a pre (some mid)) (hb : EffOn b mid post) : EffOn (a ++ b) pre post := by
  have := effOn_bind (k := fun _ => post) ha (fun m hm => by cases hm; exact hb)
  simpa using this

theorem effOn_nil (pre : List SV) : EffOn [] pre (some pre) := by
  intro st c _ hc; simp [run, ← hc]

theorem effOn_congr {evs : List Ev} {pre : List SV} {p q : Option (List SV)} (h : EffOn evs pre p) (hpq : p = q) :
    EffOn evs pre q := hpq ▸ h

theorem effOn_fail_left {a b : List Ev} {pre : List SV} (ha : EffOn a pre none) : EffOn (a ++ b) pre none :=
  effOn_congr (effOn_bind (k := fun _ => none) ha (fun mid hm => by cases hm)) rfl

theorem effOn_step (e : Ev) (pre : List SV) (post : List SV)
    (h : ∀ (s : List (List SV)) (c : List SV), step ⟨s, pre ++ c, false⟩ e = .ok ⟨s, post ++ c, false⟩) :
    EffOn [e] pre (some post) := by
  intro st c hst hc
  obtain ⟨s, cur, e'⟩ := st
  simp only at hst hc; subst hst; subst hc
  simp [run, h s c]

theorem effOn_step_fail (e : Ev) (pre : List SV)
    (h : ∀ (s : List (List SV)) (c : List SV), ∃ st', step ⟨s, pre ++ c, false⟩ e = .ok st' ∧ st'.err = true) :
    EffOn [e] pre none := by
  intro st c hst hc
  obtain ⟨s, cur, e'⟩ := st
  simp only at hst hc; subst hst; subst hc
  obtain ⟨st', hs, he⟩ := h s c
  exact ⟨st', by simp [run, hs], he⟩

/-- a part that pushes a node, then callbacks that go on from that node: `Option.bind` on what is
    built, since a literal refused in the first part latches the error for the rest -/
theorem effOn_bindNode {a b : List Ev} {pre q : List SV} {x : Option U} {k : U → Option U}
    (ha : EffOn a pre (x.map fun u => .node u :: pre))
    (hb : ∀ u, x = some u → EffOn b (.node u :: pre) ((k u).map fun v => .node v :: q)) :
    EffOn (a ++ b) pre ((x.bind k).map fun v => .node v :: q) := by
  cases x with
  | none => exact effOn_fail_left ha
  | some u => exact effOn_seq ha (hb u rfl)

theorem effOn_term_push (k : TK) (text : List Char) (v : SV)
    (h : ∀ st : LState, st.err = false → visitTerminal st k text = push st v) (pre : List SV) :
    EffOn [.term k text] pre (some (v :: pre)) :=
  effOn_step _ _ _ fun s c => by simp [step, h ⟨s, pre ++ c, false⟩ rfl, push]

theorem effOn_term_fail (k : TK) (text : List Char)
    (h : ∀ st : LState, st.err = false → visitTerminal st k text = setErr st) (pre : List SV) :
    EffOn [.term k text] pre none :=
  effOn_step_fail _ _ fun s c => ⟨setErr ⟨s, pre ++ c, false⟩, by simp [step, h ⟨s, pre ++ c, false⟩ rfl], rfl⟩

theorem tokEv_of_kind (t : Token) (k : TK) (hk : t.kind = k) (hl : listenerKinds.contains k = true) :
    tokEv t = [.term k t.text] := by
  subst hk; simp only [tokEv, hl, if_true]

theorem tokEv_silent (t : Token) (k : TK) (hk : t.kind = k) (hl : listenerKinds.contains k = false) : tokEv t = [] := by
  subst hk; simp only [tokEv, hl, Bool.false_eq_true, if_false]

theorem effOn_ident (t : Token) (h : kindIs t .IDENTIFIER = true) (pre : List SV) :
    EffOn (tokEv t) pre (some (.node (.sym t.text) :: pre)) := by
  rw [tokEv_of_kind t .IDENTIFIER (by simpa [kindIs] using h) (by decide)]
  exact effOn_step _ _ _ fun _ _ => rfl

theorem effOn_literal (t : Token)
    (h : t.kind = .STRING ∨ t.kind = .NUMBER ∨ t.kind = .DATETIME ∨ t.kind = .BOOL ∨ t.kind = .NULL ∨ t.kind = .NONE)
    (pre : List SV) : EffOn (tokEv t) pre ((litOfToken t).map fun u => .node u :: pre) := by
  rcases h with h | h | h | h | h | h
  · rw [tokEv_of_kind t _ h (by decide)]
    simp only [litOfToken, h, Option.map_some]
    exact effOn_step _ _ _ fun _ _ => rfl
  · rw [tokEv_of_kind t _ h (by decide)]
    simp only [litOfToken, h]
    cases hc : classifyNumber t.text with
    | int i => exact effOn_term_push _ _ _ (fun st hst => by simp [visitTerminal, hst, hc]) pre
    | float q => exact effOn_term_push _ _ _ (fun st hst => by simp [visitTerminal, hst, hc]) pre
    | bad => exact effOn_term_fail _ _ (fun st hst => by simp [visitTerminal, hst, hc]) pre
  · rw [tokEv_of_kind t _ h (by decide)]
    simp only [litOfToken, h]
    cases hc : parseDatetime t.text with
    | some ns => exact effOn_term_push _ _ _ (fun st hst => by simp [visitTerminal, hst, hc]) pre
    | none => exact effOn_term_fail _ _ (fun st hst => by simp [visitTerminal, hst, hc]) pre
  · rw [tokEv_of_kind t _ h (by decide)]
    simp only [litOfToken, h]
    cases hc : parseBoolText t.text with
    | some b => exact effOn_term_push _ _ _ (fun st hst => by simp [visitTerminal, hst, hc]) pre
    | none => exact effOn_term_fail _ _ (fun st hst => by simp [visitTerminal, hst, hc]) pre
  · rw [tokEv_of_kind t _ h (by decide)]
    simp only [litOfToken, h, Option.map_some]
    exact effOn_step _ _ _ fun _ _ => rfl
  · rw [tokEv_of_kind t _ h (by decide)]
    simp only [litOfToken, h, Option.map_some]
    exact effOn_step _ _ _ fun _ _ => rfl

theorem effOn_op (t : Token)
    (h : t.kind = .EQ ∨ t.kind = .LT ∨ t.kind = .GT ∨ t.kind = .IN ∨ t.kind = .BETWEEN ∨ t.kind = .CONTAINS ∨ t.kind = .ICONTAINS)
    (pre : List SV) : EffOn (tokEv t) pre (some (.binop (opOfToken t) :: pre)) := by
  rcases h with h | h | h | h | h | h | h <;>
    (rw [tokEv_of_kind t _ h (by decide)]
     simp only [opOfToken, h]
     exact effOn_step _ _ _ fun _ _ => rfl)

theorem effOn_setfn (t : Token) (h : t.kind = .ALL_OF ∨ t.kind = .ANY_OF ∨ t.kind = .COUNT ∨ t.kind = .ISEMPTY)
    (pre : List SV) : EffOn (tokEv t) pre (some (.setfn (setFnOfToken t) :: pre)) := by
  rcases h with h | h | h | h <;>
    (rw [tokEv_of_kind t _ h (by decide)]
     simp only [setFnOfToken, h]
     exact effOn_step _ _ _ fun _ _ => rfl)

theorem litOfToken_kind (k : ArrKind) (t : Token) (h : kindIs t k.tk = true) :
    (t.kind = .STRING ∨ t.kind = .NUMBER ∨ t.kind = .DATETIME ∨ t.kind = .BOOL ∨ t.kind = .NULL ∨ t.kind = .NONE) ∧
    (∀ u, litOfToken t = some u → ∃ l, u = .lit l ∧ k.ok l.cls = true) := by
  simp only [kindIs, beq_iff_eq] at h
  cases k <;> simp only [ArrKind.tk] at h
  · refine ⟨Or.inl h, ?_⟩
    intro u hu
    simp only [litOfToken, h] at hu
    cases hu
    exact ⟨_, rfl, rfl⟩
  · refine ⟨Or.inr (Or.inl h), ?_⟩
    intro u hu
    simp only [litOfToken, h] at hu
    cases hc : classifyNumber t.text <;> simp [hc] at hu <;> subst hu <;> exact ⟨_, rfl, rfl⟩
  · refine ⟨Or.inr (Or.inr (Or.inl h)), ?_⟩
    intro u hu
    simp only [litOfToken, h] at hu
    cases hc : parseDatetime t.text <;> simp [hc] at hu
    subst hu; exact ⟨_, rfl, rfl⟩

theorem effOn_elems (k : ArrKind) : ∀ (els : List Token), els.all (fun t => kindIs t k.tk) = true →
    (∀ pre, EffOn (els.flatMap tokEv) pre ((litsOfTokens els).map fun lits => litNodes lits.reverse ++ pre)) ∧
    (∀ lits, litsOfTokens els = some lits → ∀ l ∈ lits, k.ok l.cls = true) := by
  intro els
  induction els with
  | nil =>
    refine fun _ => ⟨effOn_nil, fun lits h l hl => ?_⟩
    cases (h : some [] = some lits)
    cases hl
  | cons t rest ih =>
    intro h
    simp only [List.all_cons, Bool.and_eq_true] at h
    obtain ⟨ihe, ihk⟩ := ih h.2
    obtain ⟨hkind, hlit⟩ := litOfToken_kind k t h.1
    refine ⟨fun pre => ?_, ?_⟩
    · simp only [List.flatMap_cons]
      refine effOn_congr (effOn_bind (effOn_literal t hkind pre) fun mid _ => ihe mid) ?_
      simp only [litsOfTokens]
      cases hl : litOfToken t with
      | none => simp
      | some u =>
        obtain ⟨l, rfl, _⟩ := hlit u hl
        simp only [Option.map_some, Option.bind_some]
        cases hr : litsOfTokens rest with
        | none => simp
        | some ls => simp [litNodes, List.reverse_cons, List.append_assoc]
    · intro lits hls l hl
      simp only [litsOfTokens] at hls
      cases hlt : litOfToken t with
      | none => simp [hlt] at hls
      | some u =>
        obtain ⟨l0, rfl, hk0⟩ := hlit u hlt
        cases hr : litsOfTokens rest with
        | none => simp [hlt, hr] at hls
        | some ls =>
          simp [hlt, hr] at hls
          subst hls
          rcases List.mem_cons.mp hl with rfl | hl'
          · exact hk0
          · exact ihk ls hr l hl'

theorem arr_build_eq (a : ArrTree) :
    a.build = (litsOfTokens (a.first :: a.more.map (·.2.2.2))).map fun lits => arrNode a.kind lits.reverse := by
  unfold ArrTree.build
  cases litsOfTokens (a.first :: a.more.map (·.2.2.2)) with
  | none => rfl
  | some lits =>
    cases a.kind
    · rfl
    · simp only [arrNode, Option.map_some]; split <;> rfl
    · rfl

theorem arr_events_eq (a : ArrTree) :
    a.events = a.kind.enterEv :: ((a.first :: a.more.map (·.2.2.2)).flatMap tokEv ++ [a.kind.exitEv]) := by
  cases hk : a.kind <;> simp [ArrTree.events, hk, ArrKind.enterEv, ArrKind.exitEv, List.flatMap_cons, List.flatMap_map,
    List.append_assoc]

/-- a bracketed group (an array, a `sort by`): the enter callback sets the current stack aside, the part inside
    runs on an empty one, and the exit callback turns what it finds there into one node on the stack set aside -/
theorem effOn_group {α : Type} {enter exit : Ev} {inner : List Ev} {x : Option α} {stk : α → List SV} {mk : α → U}
    (henter : ∀ st, step st enter = .ok (enterGroup st))
    (hin : ∀ pre, EffOn inner pre (x.map fun a => stk a ++ pre))
    (hexit : ∀ a, x = some a → ∀ outer s, step ⟨outer :: s, stk a, false⟩ exit = .ok ⟨s, .node (mk a) :: outer, false⟩)
    (pre : List SV) : EffOn (enter :: (inner ++ [exit])) pre (x.map fun a => .node (mk a) :: pre) := by
  intro st c hst hc
  obtain ⟨s, cur, e⟩ := st
  simp only at hst hc; subst hst; subst hc
  have hin := hin [] ⟨(pre ++ c) :: s, [], false⟩ [] rfl rfl
  simp only [run, henter, enterGroup]
  rw [run_append]
  cases x with
  | none =>
    obtain ⟨st', hr, he⟩ := hin
    rw [hr]
    exact run_err _ st' he
  | some a =>
    simp only [Option.map_some, List.append_nil] at hin
    simp only [hin, run, hexit a rfl, Option.map_some, List.cons_append]

/-- the items of `X (WS* ',' WS* X)*`, as `wf` states them -/
theorem all_items {α : Type} {p : WSs × Token × WSs × α → Bool} {q : α → Bool} {first : α} {more : List (WSs × Token × WSs × α)}
    (h1 : q first = true) (h2 : more.all (fun m => p m && q m.2.2.2) = true) : (first :: more.map (·.2.2.2)).all q = true := by
  simp only [List.all_cons, List.all_map, Bool.and_eq_true, List.all_eq_true] at h2 ⊢
  exact ⟨h1, fun m hm => (h2 m hm).2⟩

theorem effOn_array (a : ArrTree) (h : a.wf = true) (pre : List SV) :
    EffOn a.events pre (a.build.map fun u => .node u :: pre) := by
  simp only [ArrTree.wf, Bool.and_eq_true] at h
  obtain ⟨heff, hkinds⟩ := effOn_elems a.kind _ (all_items (q := fun t => kindIs t a.kind.tk) h.1.1.1.2 h.1.1.2)
  rw [arr_events_eq, arr_build_eq]
  refine effOn_congr (effOn_group (mk := fun lits => arrNode a.kind lits.reverse) (by cases a.kind <;> exact fun _ => rfl) heff
    (fun lits hl outer s => step_arrayExit a.kind lits.reverse
      (fun l hl' => hkinds lits hl l (List.mem_reverse.mp hl')) outer s) pre) ?_
  cases litsOfTokens (a.first :: a.more.map (·.2.2.2)) <;> rfl

end StorageModel.C10
