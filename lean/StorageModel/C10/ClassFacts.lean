import StorageModel.C10.Classes
/-
  C10 — the facts about the regenerated class table that the proofs use: `impl c i` for every node
  class and interface, and the constant `GetType()` of every class.  Each is read off `Cls.row`, the
  table by class instead of by position, which the kernel checks against Generated/C10Classes.lean
  on every build (`classRows_row`).
-/
namespace StorageModel.C10

/-- the numeric table the model evaluates is the string table in numbers -/
theorem class_rows_agree : tablesAgree = true := by decide +kernel

/-- the entry of `Generated.C10.classRows` for a class (interface mask, `GetType()` code), classes
    with the same entry together -/
def Cls.row : Cls → Nat × Nat
  | .AllOfSetExprNode | .AnyOfSetExprNode | .BoolSymbolNode | .IsEmptySetExprNode => (2114, 0)
  | .AndExprNode | .BetweenExprNode | .BinaryExprNode | .BooleanLogicExprNode | .InArrayExprNode
  | .NotExprNode | .OrExprNode | .UntypedNotExprNode | .untypedQueryNode => (70, 0)
  | .AnyTypeSymbolNode => (3194, 5)
  | .BinaryBoolExprNode | .BinaryDatetimeExprNode | .BinaryInt64ExprNode | .BoolConstNode
  | .DatetimeBetweenExprNode | .Float64BetweenExprNode | .InDatetimeArrayExprNode
  | .InFloat64ArrayExprNode | .InInt64ArrayExprNode | .InStringArrayExprNode
  | .Int64BetweenExprNode | .IsNilExprNode => (66, 0)
  | .BinaryFloat64ExprNode => (66, 2)
  | .BinaryStringExprNode => (322, 0)
  | .CountSetExprNode | .Int64SymbolNode => (3168, 3)
  | .DatetimeArrayNode | .NullConstNode => (64, 6)
  | .DatetimeConstNode => (72, 1)
  | .DatetimeSymbolNode => (2120, 1)
  | .Float64ArrayNode | .Int64ArrayNode | .StringArrayNode => (65, 6)
  | .Float64ConstNode | .Int64ToFloat64Node => (1104, 2)
  | .Float64SymbolNode => (3152, 2)
  | .Int64ConstNode | .LimitExprNode | .SkipExprNode => (1120, 3)
  | .SetFunctionNode => (4160, 7)
  | .SortByNode => (4160, 6)
  | .SortFieldNode => (6720, 6)
  | .StringConstNode | .StringFuncNode => (1088, 4)
  | .StringSymbolNode => (3136, 4)
  | .UntypedSubQueryNode | .UntypedSymbolNode => (6208, 6)
  | .queryNode => (198, 0)
  | .subQueryNode => (2112, 6)

theorem classRows_row (c : Cls) : Generated.C10.classRows[c.idx]? = some c.row := by
  cases c <;> decide +kernel

theorem testBit_eq_beq (m k : Nat) : m.testBit k = Nat.beq (Nat.mod (Nat.shiftRight m k) 2) 1 := by
  rw [Nat.testBit_eq_decide_div_mod_eq, ← Nat.shiftRight_eq_div_pow]
  exact Bool.eq_iff_iff.2 (by rw [decide_eq_true_iff, Nat.beq_eq]; exact Iff.rfl)

/- The bit is spelt with the bare `Nat` functions, which reduce on literals in one step each; through
   `Nat.testBit` and its `BEq`/`HAnd` instances the same `rfl` is several times slower to check, once
   per class and interface below. -/
theorem impl_of_row {c : Cls} {i : Iface} {b : Bool}
    (h : Nat.beq (Nat.mod (Nat.shiftRight c.row.1 i.idx) 2) 1 = b) : impl c i = b := by
  rw [impl, classRows_row, ← h]; exact testBit_eq_beq ..

theorem getType_of_row {c : Cls} {t : Option NodeType} (h : NodeType.ofCode c.row.2 = t) :
    getTypeConst c = t := by
  rw [getTypeConst, classRows_row]; exact h

@[simp] theorem impl_AllOfSetExprNode_AsStringArrayable : impl .AllOfSetExprNode .AsStringArrayable = false := impl_of_row rfl
@[simp] theorem impl_AllOfSetExprNode_BoolNode : impl .AllOfSetExprNode .BoolNode = true := impl_of_row rfl
@[simp] theorem impl_AllOfSetExprNode_BoolTypeTransformable : impl .AllOfSetExprNode .BoolTypeTransformable = false := impl_of_row rfl
@[simp] theorem impl_AllOfSetExprNode_DatetimeNode : impl .AllOfSetExprNode .DatetimeNode = false := impl_of_row rfl
@[simp] theorem impl_AllOfSetExprNode_Float64Node : impl .AllOfSetExprNode .Float64Node = false := impl_of_row rfl
@[simp] theorem impl_AllOfSetExprNode_Int64Node : impl .AllOfSetExprNode .Int64Node = false := impl_of_row rfl
@[simp] theorem impl_AllOfSetExprNode_Node : impl .AllOfSetExprNode .Node = true := impl_of_row rfl
@[simp] theorem impl_AllOfSetExprNode_Query : impl .AllOfSetExprNode .Query = false := impl_of_row rfl
@[simp] theorem impl_AllOfSetExprNode_SeekOptimizableBoolNode : impl .AllOfSetExprNode .SeekOptimizableBoolNode = false := impl_of_row rfl
@[simp] theorem impl_AllOfSetExprNode_SortField : impl .AllOfSetExprNode .SortField = false := impl_of_row rfl
@[simp] theorem impl_AllOfSetExprNode_StringNode : impl .AllOfSetExprNode .StringNode = false := impl_of_row rfl
@[simp] theorem impl_AllOfSetExprNode_SymbolNode : impl .AllOfSetExprNode .SymbolNode = true := impl_of_row rfl
@[simp] theorem impl_AllOfSetExprNode_TypeTransformable : impl .AllOfSetExprNode .TypeTransformable = false := impl_of_row rfl
@[simp] theorem getType_AllOfSetExprNode : getTypeConst .AllOfSetExprNode = some .bool := getType_of_row rfl
@[simp] theorem impl_AndExprNode_AsStringArrayable : impl .AndExprNode .AsStringArrayable = false := impl_of_row rfl
@[simp] theorem impl_AndExprNode_BoolNode : impl .AndExprNode .BoolNode = true := impl_of_row rfl
@[simp] theorem impl_AndExprNode_BoolTypeTransformable : impl .AndExprNode .BoolTypeTransformable = true := impl_of_row rfl
@[simp] theorem impl_AndExprNode_DatetimeNode : impl .AndExprNode .DatetimeNode = false := impl_of_row rfl
@[simp] theorem impl_AndExprNode_Float64Node : impl .AndExprNode .Float64Node = false := impl_of_row rfl
@[simp] theorem impl_AndExprNode_Int64Node : impl .AndExprNode .Int64Node = false := impl_of_row rfl
@[simp] theorem impl_AndExprNode_Node : impl .AndExprNode .Node = true := impl_of_row rfl
@[simp] theorem impl_AndExprNode_Query : impl .AndExprNode .Query = false := impl_of_row rfl
@[simp] theorem impl_AndExprNode_SeekOptimizableBoolNode : impl .AndExprNode .SeekOptimizableBoolNode = false := impl_of_row rfl
@[simp] theorem impl_AndExprNode_SortField : impl .AndExprNode .SortField = false := impl_of_row rfl
@[simp] theorem impl_AndExprNode_StringNode : impl .AndExprNode .StringNode = false := impl_of_row rfl
@[simp] theorem impl_AndExprNode_SymbolNode : impl .AndExprNode .SymbolNode = false := impl_of_row rfl
@[simp] theorem impl_AndExprNode_TypeTransformable : impl .AndExprNode .TypeTransformable = false := impl_of_row rfl
@[simp] theorem getType_AndExprNode : getTypeConst .AndExprNode = some .bool := getType_of_row rfl
@[simp] theorem impl_AnyOfSetExprNode_AsStringArrayable : impl .AnyOfSetExprNode .AsStringArrayable = false := impl_of_row rfl
@[simp] theorem impl_AnyOfSetExprNode_BoolNode : impl .AnyOfSetExprNode .BoolNode = true := impl_of_row rfl
@[simp] theorem impl_AnyOfSetExprNode_BoolTypeTransformable : impl .AnyOfSetExprNode .BoolTypeTransformable = false := impl_of_row rfl
@[simp] theorem impl_AnyOfSetExprNode_DatetimeNode : impl .AnyOfSetExprNode .DatetimeNode = false := impl_of_row rfl
@[simp] theorem impl_AnyOfSetExprNode_Float64Node : impl .AnyOfSetExprNode .Float64Node = false := impl_of_row rfl
@[simp] theorem impl_AnyOfSetExprNode_Int64Node : impl .AnyOfSetExprNode .Int64Node = false := impl_of_row rfl
@[simp] theorem impl_AnyOfSetExprNode_Node : impl .AnyOfSetExprNode .Node = true := impl_of_row rfl
@[simp] theorem impl_AnyOfSetExprNode_Query : impl .AnyOfSetExprNode .Query = false := impl_of_row rfl
@[simp] theorem impl_AnyOfSetExprNode_SeekOptimizableBoolNode : impl .AnyOfSetExprNode .SeekOptimizableBoolNode = false := impl_of_row rfl
@[simp] theorem impl_AnyOfSetExprNode_SortField : impl .AnyOfSetExprNode .SortField = false := impl_of_row rfl
@[simp] theorem impl_AnyOfSetExprNode_StringNode : impl .AnyOfSetExprNode .StringNode = false := impl_of_row rfl
@[simp] theorem impl_AnyOfSetExprNode_SymbolNode : impl .AnyOfSetExprNode .SymbolNode = true := impl_of_row rfl
@[simp] theorem impl_AnyOfSetExprNode_TypeTransformable : impl .AnyOfSetExprNode .TypeTransformable = false := impl_of_row rfl
@[simp] theorem getType_AnyOfSetExprNode : getTypeConst .AnyOfSetExprNode = some .bool := getType_of_row rfl
@[simp] theorem impl_AnyTypeSymbolNode_AsStringArrayable : impl .AnyTypeSymbolNode .AsStringArrayable = false := impl_of_row rfl
@[simp] theorem impl_AnyTypeSymbolNode_BoolNode : impl .AnyTypeSymbolNode .BoolNode = true := impl_of_row rfl
@[simp] theorem impl_AnyTypeSymbolNode_BoolTypeTransformable : impl .AnyTypeSymbolNode .BoolTypeTransformable = false := impl_of_row rfl
@[simp] theorem impl_AnyTypeSymbolNode_DatetimeNode : impl .AnyTypeSymbolNode .DatetimeNode = true := impl_of_row rfl
@[simp] theorem impl_AnyTypeSymbolNode_Float64Node : impl .AnyTypeSymbolNode .Float64Node = true := impl_of_row rfl
@[simp] theorem impl_AnyTypeSymbolNode_Int64Node : impl .AnyTypeSymbolNode .Int64Node = true := impl_of_row rfl
@[simp] theorem impl_AnyTypeSymbolNode_Node : impl .AnyTypeSymbolNode .Node = true := impl_of_row rfl
@[simp] theorem impl_AnyTypeSymbolNode_Query : impl .AnyTypeSymbolNode .Query = false := impl_of_row rfl
@[simp] theorem impl_AnyTypeSymbolNode_SeekOptimizableBoolNode : impl .AnyTypeSymbolNode .SeekOptimizableBoolNode = false := impl_of_row rfl
@[simp] theorem impl_AnyTypeSymbolNode_SortField : impl .AnyTypeSymbolNode .SortField = false := impl_of_row rfl
@[simp] theorem impl_AnyTypeSymbolNode_StringNode : impl .AnyTypeSymbolNode .StringNode = true := impl_of_row rfl
@[simp] theorem impl_AnyTypeSymbolNode_SymbolNode : impl .AnyTypeSymbolNode .SymbolNode = true := impl_of_row rfl
@[simp] theorem impl_AnyTypeSymbolNode_TypeTransformable : impl .AnyTypeSymbolNode .TypeTransformable = false := impl_of_row rfl
@[simp] theorem getType_AnyTypeSymbolNode : getTypeConst .AnyTypeSymbolNode = some .anyType := getType_of_row rfl
@[simp] theorem impl_BetweenExprNode_AsStringArrayable : impl .BetweenExprNode .AsStringArrayable = false := impl_of_row rfl
@[simp] theorem impl_BetweenExprNode_BoolNode : impl .BetweenExprNode .BoolNode = true := impl_of_row rfl
@[simp] theorem impl_BetweenExprNode_BoolTypeTransformable : impl .BetweenExprNode .BoolTypeTransformable = true := impl_of_row rfl
@[simp] theorem impl_BetweenExprNode_DatetimeNode : impl .BetweenExprNode .DatetimeNode = false := impl_of_row rfl
@[simp] theorem impl_BetweenExprNode_Float64Node : impl .BetweenExprNode .Float64Node = false := impl_of_row rfl
@[simp] theorem impl_BetweenExprNode_Int64Node : impl .BetweenExprNode .Int64Node = false := impl_of_row rfl
@[simp] theorem impl_BetweenExprNode_Node : impl .BetweenExprNode .Node = true := impl_of_row rfl
@[simp] theorem impl_BetweenExprNode_Query : impl .BetweenExprNode .Query = false := impl_of_row rfl
@[simp] theorem impl_BetweenExprNode_SeekOptimizableBoolNode : impl .BetweenExprNode .SeekOptimizableBoolNode = false := impl_of_row rfl
@[simp] theorem impl_BetweenExprNode_SortField : impl .BetweenExprNode .SortField = false := impl_of_row rfl
@[simp] theorem impl_BetweenExprNode_StringNode : impl .BetweenExprNode .StringNode = false := impl_of_row rfl
@[simp] theorem impl_BetweenExprNode_SymbolNode : impl .BetweenExprNode .SymbolNode = false := impl_of_row rfl
@[simp] theorem impl_BetweenExprNode_TypeTransformable : impl .BetweenExprNode .TypeTransformable = false := impl_of_row rfl
@[simp] theorem getType_BetweenExprNode : getTypeConst .BetweenExprNode = some .bool := getType_of_row rfl
@[simp] theorem impl_BinaryBoolExprNode_AsStringArrayable : impl .BinaryBoolExprNode .AsStringArrayable = false := impl_of_row rfl
@[simp] theorem impl_BinaryBoolExprNode_BoolNode : impl .BinaryBoolExprNode .BoolNode = true := impl_of_row rfl
@[simp] theorem impl_BinaryBoolExprNode_BoolTypeTransformable : impl .BinaryBoolExprNode .BoolTypeTransformable = false := impl_of_row rfl
@[simp] theorem impl_BinaryBoolExprNode_DatetimeNode : impl .BinaryBoolExprNode .DatetimeNode = false := impl_of_row rfl
@[simp] theorem impl_BinaryBoolExprNode_Float64Node : impl .BinaryBoolExprNode .Float64Node = false := impl_of_row rfl
@[simp] theorem impl_BinaryBoolExprNode_Int64Node : impl .BinaryBoolExprNode .Int64Node = false := impl_of_row rfl
@[simp] theorem impl_BinaryBoolExprNode_Node : impl .BinaryBoolExprNode .Node = true := impl_of_row rfl
@[simp] theorem impl_BinaryBoolExprNode_Query : impl .BinaryBoolExprNode .Query = false := impl_of_row rfl
@[simp] theorem impl_BinaryBoolExprNode_SeekOptimizableBoolNode : impl .BinaryBoolExprNode .SeekOptimizableBoolNode = false := impl_of_row rfl
@[simp] theorem impl_BinaryBoolExprNode_SortField : impl .BinaryBoolExprNode .SortField = false := impl_of_row rfl
@[simp] theorem impl_BinaryBoolExprNode_StringNode : impl .BinaryBoolExprNode .StringNode = false := impl_of_row rfl
@[simp] theorem impl_BinaryBoolExprNode_SymbolNode : impl .BinaryBoolExprNode .SymbolNode = false := impl_of_row rfl
@[simp] theorem impl_BinaryBoolExprNode_TypeTransformable : impl .BinaryBoolExprNode .TypeTransformable = false := impl_of_row rfl
@[simp] theorem getType_BinaryBoolExprNode : getTypeConst .BinaryBoolExprNode = some .bool := getType_of_row rfl
@[simp] theorem impl_BinaryDatetimeExprNode_AsStringArrayable : impl .BinaryDatetimeExprNode .AsStringArrayable = false := impl_of_row rfl
@[simp] theorem impl_BinaryDatetimeExprNode_BoolNode : impl .BinaryDatetimeExprNode .BoolNode = true := impl_of_row rfl
@[simp] theorem impl_BinaryDatetimeExprNode_BoolTypeTransformable : impl .BinaryDatetimeExprNode .BoolTypeTransformable = false := impl_of_row rfl
@[simp] theorem impl_BinaryDatetimeExprNode_DatetimeNode : impl .BinaryDatetimeExprNode .DatetimeNode = false := impl_of_row rfl
@[simp] theorem impl_BinaryDatetimeExprNode_Float64Node : impl .BinaryDatetimeExprNode .Float64Node = false := impl_of_row rfl
@[simp] theorem impl_BinaryDatetimeExprNode_Int64Node : impl .BinaryDatetimeExprNode .Int64Node = false := impl_of_row rfl
@[simp] theorem impl_BinaryDatetimeExprNode_Node : impl .BinaryDatetimeExprNode .Node = true := impl_of_row rfl
@[simp] theorem impl_BinaryDatetimeExprNode_Query : impl .BinaryDatetimeExprNode .Query = false := impl_of_row rfl
@[simp] theorem impl_BinaryDatetimeExprNode_SeekOptimizableBoolNode : impl .BinaryDatetimeExprNode .SeekOptimizableBoolNode = false := impl_of_row rfl
@[simp] theorem impl_BinaryDatetimeExprNode_SortField : impl .BinaryDatetimeExprNode .SortField = false := impl_of_row rfl
@[simp] theorem impl_BinaryDatetimeExprNode_StringNode : impl .BinaryDatetimeExprNode .StringNode = false := impl_of_row rfl
@[simp] theorem impl_BinaryDatetimeExprNode_SymbolNode : impl .BinaryDatetimeExprNode .SymbolNode = false := impl_of_row rfl
@[simp] theorem impl_BinaryDatetimeExprNode_TypeTransformable : impl .BinaryDatetimeExprNode .TypeTransformable = false := impl_of_row rfl
@[simp] theorem getType_BinaryDatetimeExprNode : getTypeConst .BinaryDatetimeExprNode = some .bool := getType_of_row rfl
@[simp] theorem impl_BinaryExprNode_AsStringArrayable : impl .BinaryExprNode .AsStringArrayable = false := impl_of_row rfl
@[simp] theorem impl_BinaryExprNode_BoolNode : impl .BinaryExprNode .BoolNode = true := impl_of_row rfl
@[simp] theorem impl_BinaryExprNode_BoolTypeTransformable : impl .BinaryExprNode .BoolTypeTransformable = true := impl_of_row rfl
@[simp] theorem impl_BinaryExprNode_DatetimeNode : impl .BinaryExprNode .DatetimeNode = false := impl_of_row rfl
@[simp] theorem impl_BinaryExprNode_Float64Node : impl .BinaryExprNode .Float64Node = false := impl_of_row rfl
@[simp] theorem impl_BinaryExprNode_Int64Node : impl .BinaryExprNode .Int64Node = false := impl_of_row rfl
@[simp] theorem impl_BinaryExprNode_Node : impl .BinaryExprNode .Node = true := impl_of_row rfl
@[simp] theorem impl_BinaryExprNode_Query : impl .BinaryExprNode .Query = false := impl_of_row rfl
@[simp] theorem impl_BinaryExprNode_SeekOptimizableBoolNode : impl .BinaryExprNode .SeekOptimizableBoolNode = false := impl_of_row rfl
@[simp] theorem impl_BinaryExprNode_SortField : impl .BinaryExprNode .SortField = false := impl_of_row rfl
@[simp] theorem impl_BinaryExprNode_StringNode : impl .BinaryExprNode .StringNode = false := impl_of_row rfl
@[simp] theorem impl_BinaryExprNode_SymbolNode : impl .BinaryExprNode .SymbolNode = false := impl_of_row rfl
@[simp] theorem impl_BinaryExprNode_TypeTransformable : impl .BinaryExprNode .TypeTransformable = false := impl_of_row rfl
@[simp] theorem getType_BinaryExprNode : getTypeConst .BinaryExprNode = some .bool := getType_of_row rfl
@[simp] theorem impl_BinaryFloat64ExprNode_AsStringArrayable : impl .BinaryFloat64ExprNode .AsStringArrayable = false := impl_of_row rfl
@[simp] theorem impl_BinaryFloat64ExprNode_BoolNode : impl .BinaryFloat64ExprNode .BoolNode = true := impl_of_row rfl
@[simp] theorem impl_BinaryFloat64ExprNode_BoolTypeTransformable : impl .BinaryFloat64ExprNode .BoolTypeTransformable = false := impl_of_row rfl
@[simp] theorem impl_BinaryFloat64ExprNode_DatetimeNode : impl .BinaryFloat64ExprNode .DatetimeNode = false := impl_of_row rfl
@[simp] theorem impl_BinaryFloat64ExprNode_Float64Node : impl .BinaryFloat64ExprNode .Float64Node = false := impl_of_row rfl
@[simp] theorem impl_BinaryFloat64ExprNode_Int64Node : impl .BinaryFloat64ExprNode .Int64Node = false := impl_of_row rfl
@[simp] theorem impl_BinaryFloat64ExprNode_Node : impl .BinaryFloat64ExprNode .Node = true := impl_of_row rfl
@[simp] theorem impl_BinaryFloat64ExprNode_Query : impl .BinaryFloat64ExprNode .Query = false := impl_of_row rfl
@[simp] theorem impl_BinaryFloat64ExprNode_SeekOptimizableBoolNode : impl .BinaryFloat64ExprNode .SeekOptimizableBoolNode = false := impl_of_row rfl
@[simp] theorem impl_BinaryFloat64ExprNode_SortField : impl .BinaryFloat64ExprNode .SortField = false := impl_of_row rfl
@[simp] theorem impl_BinaryFloat64ExprNode_StringNode : impl .BinaryFloat64ExprNode .StringNode = false := impl_of_row rfl
@[simp] theorem impl_BinaryFloat64ExprNode_SymbolNode : impl .BinaryFloat64ExprNode .SymbolNode = false := impl_of_row rfl
@[simp] theorem impl_BinaryFloat64ExprNode_TypeTransformable : impl .BinaryFloat64ExprNode .TypeTransformable = false := impl_of_row rfl
@[simp] theorem getType_BinaryFloat64ExprNode : getTypeConst .BinaryFloat64ExprNode = some .float64 := getType_of_row rfl
@[simp] theorem impl_BinaryInt64ExprNode_AsStringArrayable : impl .BinaryInt64ExprNode .AsStringArrayable = false := impl_of_row rfl
@[simp] theorem impl_BinaryInt64ExprNode_BoolNode : impl .BinaryInt64ExprNode .BoolNode = true := impl_of_row rfl
@[simp] theorem impl_BinaryInt64ExprNode_BoolTypeTransformable : impl .BinaryInt64ExprNode .BoolTypeTransformable = false := impl_of_row rfl
@[simp] theorem impl_BinaryInt64ExprNode_DatetimeNode : impl .BinaryInt64ExprNode .DatetimeNode = false := impl_of_row rfl
@[simp] theorem impl_BinaryInt64ExprNode_Float64Node : impl .BinaryInt64ExprNode .Float64Node = false := impl_of_row rfl
@[simp] theorem impl_BinaryInt64ExprNode_Int64Node : impl .BinaryInt64ExprNode .Int64Node = false := impl_of_row rfl
@[simp] theorem impl_BinaryInt64ExprNode_Node : impl .BinaryInt64ExprNode .Node = true := impl_of_row rfl
@[simp] theorem impl_BinaryInt64ExprNode_Query : impl .BinaryInt64ExprNode .Query = false := impl_of_row rfl
@[simp] theorem impl_BinaryInt64ExprNode_SeekOptimizableBoolNode : impl .BinaryInt64ExprNode .SeekOptimizableBoolNode = false := impl_of_row rfl
@[simp] theorem impl_BinaryInt64ExprNode_SortField : impl .BinaryInt64ExprNode .SortField = false := impl_of_row rfl
@[simp] theorem impl_BinaryInt64ExprNode_StringNode : impl .BinaryInt64ExprNode .StringNode = false := impl_of_row rfl
@[simp] theorem impl_BinaryInt64ExprNode_SymbolNode : impl .BinaryInt64ExprNode .SymbolNode = false := impl_of_row rfl
@[simp] theorem impl_BinaryInt64ExprNode_TypeTransformable : impl .BinaryInt64ExprNode .TypeTransformable = false := impl_of_row rfl
@[simp] theorem getType_BinaryInt64ExprNode : getTypeConst .BinaryInt64ExprNode = some .bool := getType_of_row rfl
@[simp] theorem impl_BinaryStringExprNode_AsStringArrayable : impl .BinaryStringExprNode .AsStringArrayable = false := impl_of_row rfl
@[simp] theorem impl_BinaryStringExprNode_BoolNode : impl .BinaryStringExprNode .BoolNode = true := impl_of_row rfl
@[simp] theorem impl_BinaryStringExprNode_BoolTypeTransformable : impl .BinaryStringExprNode .BoolTypeTransformable = false := impl_of_row rfl
@[simp] theorem impl_BinaryStringExprNode_DatetimeNode : impl .BinaryStringExprNode .DatetimeNode = false := impl_of_row rfl
@[simp] theorem impl_BinaryStringExprNode_Float64Node : impl .BinaryStringExprNode .Float64Node = false := impl_of_row rfl
@[simp] theorem impl_BinaryStringExprNode_Int64Node : impl .BinaryStringExprNode .Int64Node = false := impl_of_row rfl
@[simp] theorem impl_BinaryStringExprNode_Node : impl .BinaryStringExprNode .Node = true := impl_of_row rfl
@[simp] theorem impl_BinaryStringExprNode_Query : impl .BinaryStringExprNode .Query = false := impl_of_row rfl
@[simp] theorem impl_BinaryStringExprNode_SeekOptimizableBoolNode : impl .BinaryStringExprNode .SeekOptimizableBoolNode = true := impl_of_row rfl
@[simp] theorem impl_BinaryStringExprNode_SortField : impl .BinaryStringExprNode .SortField = false := impl_of_row rfl
@[simp] theorem impl_BinaryStringExprNode_StringNode : impl .BinaryStringExprNode .StringNode = false := impl_of_row rfl
@[simp] theorem impl_BinaryStringExprNode_SymbolNode : impl .BinaryStringExprNode .SymbolNode = false := impl_of_row rfl
@[simp] theorem impl_BinaryStringExprNode_TypeTransformable : impl .BinaryStringExprNode .TypeTransformable = false := impl_of_row rfl
@[simp] theorem getType_BinaryStringExprNode : getTypeConst .BinaryStringExprNode = some .bool := getType_of_row rfl
@[simp] theorem impl_BoolConstNode_AsStringArrayable : impl .BoolConstNode .AsStringArrayable = false := impl_of_row rfl
@[simp] theorem impl_BoolConstNode_BoolNode : impl .BoolConstNode .BoolNode = true := impl_of_row rfl
@[simp] theorem impl_BoolConstNode_BoolTypeTransformable : impl .BoolConstNode .BoolTypeTransformable = false := impl_of_row rfl
@[simp] theorem impl_BoolConstNode_DatetimeNode : impl .BoolConstNode .DatetimeNode = false := impl_of_row rfl
@[simp] theorem impl_BoolConstNode_Float64Node : impl .BoolConstNode .Float64Node = false := impl_of_row rfl
@[simp] theorem impl_BoolConstNode_Int64Node : impl .BoolConstNode .Int64Node = false := impl_of_row rfl
@[simp] theorem impl_BoolConstNode_Node : impl .BoolConstNode .Node = true := impl_of_row rfl
@[simp] theorem impl_BoolConstNode_Query : impl .BoolConstNode .Query = false := impl_of_row rfl
@[simp] theorem impl_BoolConstNode_SeekOptimizableBoolNode : impl .BoolConstNode .SeekOptimizableBoolNode = false := impl_of_row rfl
@[simp] theorem impl_BoolConstNode_SortField : impl .BoolConstNode .SortField = false := impl_of_row rfl
@[simp] theorem impl_BoolConstNode_StringNode : impl .BoolConstNode .StringNode = false := impl_of_row rfl
@[simp] theorem impl_BoolConstNode_SymbolNode : impl .BoolConstNode .SymbolNode = false := impl_of_row rfl
@[simp] theorem impl_BoolConstNode_TypeTransformable : impl .BoolConstNode .TypeTransformable = false := impl_of_row rfl
@[simp] theorem getType_BoolConstNode : getTypeConst .BoolConstNode = some .bool := getType_of_row rfl
@[simp] theorem impl_BoolSymbolNode_AsStringArrayable : impl .BoolSymbolNode .AsStringArrayable = false := impl_of_row rfl
@[simp] theorem impl_BoolSymbolNode_BoolNode : impl .BoolSymbolNode .BoolNode = true := impl_of_row rfl
@[simp] theorem impl_BoolSymbolNode_BoolTypeTransformable : impl .BoolSymbolNode .BoolTypeTransformable = false := impl_of_row rfl
@[simp] theorem impl_BoolSymbolNode_DatetimeNode : impl .BoolSymbolNode .DatetimeNode = false := impl_of_row rfl
@[simp] theorem impl_BoolSymbolNode_Float64Node : impl .BoolSymbolNode .Float64Node = false := impl_of_row rfl
@[simp] theorem impl_BoolSymbolNode_Int64Node : impl .BoolSymbolNode .Int64Node = false := impl_of_row rfl
@[simp] theorem impl_BoolSymbolNode_Node : impl .BoolSymbolNode .Node = true := impl_of_row rfl
@[simp] theorem impl_BoolSymbolNode_Query : impl .BoolSymbolNode .Query = false := impl_of_row rfl
@[simp] theorem impl_BoolSymbolNode_SeekOptimizableBoolNode : impl .BoolSymbolNode .SeekOptimizableBoolNode = false := impl_of_row rfl
@[simp] theorem impl_BoolSymbolNode_SortField : impl .BoolSymbolNode .SortField = false := impl_of_row rfl
@[simp] theorem impl_BoolSymbolNode_StringNode : impl .BoolSymbolNode .StringNode = false := impl_of_row rfl
@[simp] theorem impl_BoolSymbolNode_SymbolNode : impl .BoolSymbolNode .SymbolNode = true := impl_of_row rfl
@[simp] theorem impl_BoolSymbolNode_TypeTransformable : impl .BoolSymbolNode .TypeTransformable = false := impl_of_row rfl
@[simp] theorem getType_BoolSymbolNode : getTypeConst .BoolSymbolNode = some .bool := getType_of_row rfl
@[simp] theorem impl_BooleanLogicExprNode_AsStringArrayable : impl .BooleanLogicExprNode .AsStringArrayable = false := impl_of_row rfl
@[simp] theorem impl_BooleanLogicExprNode_BoolNode : impl .BooleanLogicExprNode .BoolNode = true := impl_of_row rfl
@[simp] theorem impl_BooleanLogicExprNode_BoolTypeTransformable : impl .BooleanLogicExprNode .BoolTypeTransformable = true := impl_of_row rfl
@[simp] theorem impl_BooleanLogicExprNode_DatetimeNode : impl .BooleanLogicExprNode .DatetimeNode = false := impl_of_row rfl
@[simp] theorem impl_BooleanLogicExprNode_Float64Node : impl .BooleanLogicExprNode .Float64Node = false := impl_of_row rfl
@[simp] theorem impl_BooleanLogicExprNode_Int64Node : impl .BooleanLogicExprNode .Int64Node = false := impl_of_row rfl
@[simp] theorem impl_BooleanLogicExprNode_Node : impl .BooleanLogicExprNode .Node = true := impl_of_row rfl
@[simp] theorem impl_BooleanLogicExprNode_Query : impl .BooleanLogicExprNode .Query = false := impl_of_row rfl
@[simp] theorem impl_BooleanLogicExprNode_SeekOptimizableBoolNode : impl .BooleanLogicExprNode .SeekOptimizableBoolNode = false := impl_of_row rfl
@[simp] theorem impl_BooleanLogicExprNode_SortField : impl .BooleanLogicExprNode .SortField = false := impl_of_row rfl
@[simp] theorem impl_BooleanLogicExprNode_StringNode : impl .BooleanLogicExprNode .StringNode = false := impl_of_row rfl
@[simp] theorem impl_BooleanLogicExprNode_SymbolNode : impl .BooleanLogicExprNode .SymbolNode = false := impl_of_row rfl
@[simp] theorem impl_BooleanLogicExprNode_TypeTransformable : impl .BooleanLogicExprNode .TypeTransformable = false := impl_of_row rfl
@[simp] theorem getType_BooleanLogicExprNode : getTypeConst .BooleanLogicExprNode = some .bool := getType_of_row rfl
@[simp] theorem impl_CountSetExprNode_AsStringArrayable : impl .CountSetExprNode .AsStringArrayable = false := impl_of_row rfl
@[simp] theorem impl_CountSetExprNode_BoolNode : impl .CountSetExprNode .BoolNode = false := impl_of_row rfl
@[simp] theorem impl_CountSetExprNode_BoolTypeTransformable : impl .CountSetExprNode .BoolTypeTransformable = false := impl_of_row rfl
@[simp] theorem impl_CountSetExprNode_DatetimeNode : impl .CountSetExprNode .DatetimeNode = false := impl_of_row rfl
@[simp] theorem impl_CountSetExprNode_Float64Node : impl .CountSetExprNode .Float64Node = false := impl_of_row rfl
@[simp] theorem impl_CountSetExprNode_Int64Node : impl .CountSetExprNode .Int64Node = true := impl_of_row rfl
@[simp] theorem impl_CountSetExprNode_Node : impl .CountSetExprNode .Node = true := impl_of_row rfl
@[simp] theorem impl_CountSetExprNode_Query : impl .CountSetExprNode .Query = false := impl_of_row rfl
@[simp] theorem impl_CountSetExprNode_SeekOptimizableBoolNode : impl .CountSetExprNode .SeekOptimizableBoolNode = false := impl_of_row rfl
@[simp] theorem impl_CountSetExprNode_SortField : impl .CountSetExprNode .SortField = false := impl_of_row rfl
@[simp] theorem impl_CountSetExprNode_StringNode : impl .CountSetExprNode .StringNode = true := impl_of_row rfl
@[simp] theorem impl_CountSetExprNode_SymbolNode : impl .CountSetExprNode .SymbolNode = true := impl_of_row rfl
@[simp] theorem impl_CountSetExprNode_TypeTransformable : impl .CountSetExprNode .TypeTransformable = false := impl_of_row rfl
@[simp] theorem getType_CountSetExprNode : getTypeConst .CountSetExprNode = some .int64 := getType_of_row rfl
@[simp] theorem impl_DatetimeArrayNode_AsStringArrayable : impl .DatetimeArrayNode .AsStringArrayable = false := impl_of_row rfl
@[simp] theorem impl_DatetimeArrayNode_BoolNode : impl .DatetimeArrayNode .BoolNode = false := impl_of_row rfl
@[simp] theorem impl_DatetimeArrayNode_BoolTypeTransformable : impl .DatetimeArrayNode .BoolTypeTransformable = false := impl_of_row rfl
@[simp] theorem impl_DatetimeArrayNode_DatetimeNode : impl .DatetimeArrayNode .DatetimeNode = false := impl_of_row rfl
@[simp] theorem impl_DatetimeArrayNode_Float64Node : impl .DatetimeArrayNode .Float64Node = false := impl_of_row rfl
@[simp] theorem impl_DatetimeArrayNode_Int64Node : impl .DatetimeArrayNode .Int64Node = false := impl_of_row rfl
@[simp] theorem impl_DatetimeArrayNode_Node : impl .DatetimeArrayNode .Node = true := impl_of_row rfl
@[simp] theorem impl_DatetimeArrayNode_Query : impl .DatetimeArrayNode .Query = false := impl_of_row rfl
@[simp] theorem impl_DatetimeArrayNode_SeekOptimizableBoolNode : impl .DatetimeArrayNode .SeekOptimizableBoolNode = false := impl_of_row rfl
@[simp] theorem impl_DatetimeArrayNode_SortField : impl .DatetimeArrayNode .SortField = false := impl_of_row rfl
@[simp] theorem impl_DatetimeArrayNode_StringNode : impl .DatetimeArrayNode .StringNode = false := impl_of_row rfl
@[simp] theorem impl_DatetimeArrayNode_SymbolNode : impl .DatetimeArrayNode .SymbolNode = false := impl_of_row rfl
@[simp] theorem impl_DatetimeArrayNode_TypeTransformable : impl .DatetimeArrayNode .TypeTransformable = false := impl_of_row rfl
@[simp] theorem getType_DatetimeArrayNode : getTypeConst .DatetimeArrayNode = some .other := getType_of_row rfl
@[simp] theorem impl_DatetimeBetweenExprNode_AsStringArrayable : impl .DatetimeBetweenExprNode .AsStringArrayable = false := impl_of_row rfl
@[simp] theorem impl_DatetimeBetweenExprNode_BoolNode : impl .DatetimeBetweenExprNode .BoolNode = true := impl_of_row rfl
@[simp] theorem impl_DatetimeBetweenExprNode_BoolTypeTransformable : impl .DatetimeBetweenExprNode .BoolTypeTransformable = false := impl_of_row rfl
@[simp] theorem impl_DatetimeBetweenExprNode_DatetimeNode : impl .DatetimeBetweenExprNode .DatetimeNode = false := impl_of_row rfl
@[simp] theorem impl_DatetimeBetweenExprNode_Float64Node : impl .DatetimeBetweenExprNode .Float64Node = false := impl_of_row rfl
@[simp] theorem impl_DatetimeBetweenExprNode_Int64Node : impl .DatetimeBetweenExprNode .Int64Node = false := impl_of_row rfl
@[simp] theorem impl_DatetimeBetweenExprNode_Node : impl .DatetimeBetweenExprNode .Node = true := impl_of_row rfl
@[simp] theorem impl_DatetimeBetweenExprNode_Query : impl .DatetimeBetweenExprNode .Query = false := impl_of_row rfl
@[simp] theorem impl_DatetimeBetweenExprNode_SeekOptimizableBoolNode : impl .DatetimeBetweenExprNode .SeekOptimizableBoolNode = false := impl_of_row rfl
@[simp] theorem impl_DatetimeBetweenExprNode_SortField : impl .DatetimeBetweenExprNode .SortField = false := impl_of_row rfl
@[simp] theorem impl_DatetimeBetweenExprNode_StringNode : impl .DatetimeBetweenExprNode .StringNode = false := impl_of_row rfl
@[simp] theorem impl_DatetimeBetweenExprNode_SymbolNode : impl .DatetimeBetweenExprNode .SymbolNode = false := impl_of_row rfl
@[simp] theorem impl_DatetimeBetweenExprNode_TypeTransformable : impl .DatetimeBetweenExprNode .TypeTransformable = false := impl_of_row rfl
@[simp] theorem getType_DatetimeBetweenExprNode : getTypeConst .DatetimeBetweenExprNode = some .bool := getType_of_row rfl
@[simp] theorem impl_DatetimeConstNode_AsStringArrayable : impl .DatetimeConstNode .AsStringArrayable = false := impl_of_row rfl
@[simp] theorem impl_DatetimeConstNode_BoolNode : impl .DatetimeConstNode .BoolNode = false := impl_of_row rfl
@[simp] theorem impl_DatetimeConstNode_BoolTypeTransformable : impl .DatetimeConstNode .BoolTypeTransformable = false := impl_of_row rfl
@[simp] theorem impl_DatetimeConstNode_DatetimeNode : impl .DatetimeConstNode .DatetimeNode = true := impl_of_row rfl
@[simp] theorem impl_DatetimeConstNode_Float64Node : impl .DatetimeConstNode .Float64Node = false := impl_of_row rfl
@[simp] theorem impl_DatetimeConstNode_Int64Node : impl .DatetimeConstNode .Int64Node = false := impl_of_row rfl
@[simp] theorem impl_DatetimeConstNode_Node : impl .DatetimeConstNode .Node = true := impl_of_row rfl
@[simp] theorem impl_DatetimeConstNode_Query : impl .DatetimeConstNode .Query = false := impl_of_row rfl
@[simp] theorem impl_DatetimeConstNode_SeekOptimizableBoolNode : impl .DatetimeConstNode .SeekOptimizableBoolNode = false := impl_of_row rfl
@[simp] theorem impl_DatetimeConstNode_SortField : impl .DatetimeConstNode .SortField = false := impl_of_row rfl
@[simp] theorem impl_DatetimeConstNode_StringNode : impl .DatetimeConstNode .StringNode = false := impl_of_row rfl
@[simp] theorem impl_DatetimeConstNode_SymbolNode : impl .DatetimeConstNode .SymbolNode = false := impl_of_row rfl
@[simp] theorem impl_DatetimeConstNode_TypeTransformable : impl .DatetimeConstNode .TypeTransformable = false := impl_of_row rfl
@[simp] theorem getType_DatetimeConstNode : getTypeConst .DatetimeConstNode = some .datetime := getType_of_row rfl
@[simp] theorem impl_DatetimeSymbolNode_AsStringArrayable : impl .DatetimeSymbolNode .AsStringArrayable = false := impl_of_row rfl
@[simp] theorem impl_DatetimeSymbolNode_BoolNode : impl .DatetimeSymbolNode .BoolNode = false := impl_of_row rfl
@[simp] theorem impl_DatetimeSymbolNode_BoolTypeTransformable : impl .DatetimeSymbolNode .BoolTypeTransformable = false := impl_of_row rfl
@[simp] theorem impl_DatetimeSymbolNode_DatetimeNode : impl .DatetimeSymbolNode .DatetimeNode = true := impl_of_row rfl
@[simp] theorem impl_DatetimeSymbolNode_Float64Node : impl .DatetimeSymbolNode .Float64Node = false := impl_of_row rfl
@[simp] theorem impl_DatetimeSymbolNode_Int64Node : impl .DatetimeSymbolNode .Int64Node = false := impl_of_row rfl
@[simp] theorem impl_DatetimeSymbolNode_Node : impl .DatetimeSymbolNode .Node = true := impl_of_row rfl
@[simp] theorem impl_DatetimeSymbolNode_Query : impl .DatetimeSymbolNode .Query = false := impl_of_row rfl
@[simp] theorem impl_DatetimeSymbolNode_SeekOptimizableBoolNode : impl .DatetimeSymbolNode .SeekOptimizableBoolNode = false := impl_of_row rfl
@[simp] theorem impl_DatetimeSymbolNode_SortField : impl .DatetimeSymbolNode .SortField = false := impl_of_row rfl
@[simp] theorem impl_DatetimeSymbolNode_StringNode : impl .DatetimeSymbolNode .StringNode = false := impl_of_row rfl
@[simp] theorem impl_DatetimeSymbolNode_SymbolNode : impl .DatetimeSymbolNode .SymbolNode = true := impl_of_row rfl
@[simp] theorem impl_DatetimeSymbolNode_TypeTransformable : impl .DatetimeSymbolNode .TypeTransformable = false := impl_of_row rfl
@[simp] theorem getType_DatetimeSymbolNode : getTypeConst .DatetimeSymbolNode = some .datetime := getType_of_row rfl
@[simp] theorem impl_Float64ArrayNode_AsStringArrayable : impl .Float64ArrayNode .AsStringArrayable = true := impl_of_row rfl
@[simp] theorem impl_Float64ArrayNode_BoolNode : impl .Float64ArrayNode .BoolNode = false := impl_of_row rfl
@[simp] theorem impl_Float64ArrayNode_BoolTypeTransformable : impl .Float64ArrayNode .BoolTypeTransformable = false := impl_of_row rfl
@[simp] theorem impl_Float64ArrayNode_DatetimeNode : impl .Float64ArrayNode .DatetimeNode = false := impl_of_row rfl
@[simp] theorem impl_Float64ArrayNode_Float64Node : impl .Float64ArrayNode .Float64Node = false := impl_of_row rfl
@[simp] theorem impl_Float64ArrayNode_Int64Node : impl .Float64ArrayNode .Int64Node = false := impl_of_row rfl
@[simp] theorem impl_Float64ArrayNode_Node : impl .Float64ArrayNode .Node = true := impl_of_row rfl
@[simp] theorem impl_Float64ArrayNode_Query : impl .Float64ArrayNode .Query = false := impl_of_row rfl
@[simp] theorem impl_Float64ArrayNode_SeekOptimizableBoolNode : impl .Float64ArrayNode .SeekOptimizableBoolNode = false := impl_of_row rfl
@[simp] theorem impl_Float64ArrayNode_SortField : impl .Float64ArrayNode .SortField = false := impl_of_row rfl
@[simp] theorem impl_Float64ArrayNode_StringNode : impl .Float64ArrayNode .StringNode = false := impl_of_row rfl
@[simp] theorem impl_Float64ArrayNode_SymbolNode : impl .Float64ArrayNode .SymbolNode = false := impl_of_row rfl
@[simp] theorem impl_Float64ArrayNode_TypeTransformable : impl .Float64ArrayNode .TypeTransformable = false := impl_of_row rfl
@[simp] theorem getType_Float64ArrayNode : getTypeConst .Float64ArrayNode = some .other := getType_of_row rfl
@[simp] theorem impl_Float64BetweenExprNode_AsStringArrayable : impl .Float64BetweenExprNode .AsStringArrayable = false := impl_of_row rfl
@[simp] theorem impl_Float64BetweenExprNode_BoolNode : impl .Float64BetweenExprNode .BoolNode = true := impl_of_row rfl
@[simp] theorem impl_Float64BetweenExprNode_BoolTypeTransformable : impl .Float64BetweenExprNode .BoolTypeTransformable = false := impl_of_row rfl
@[simp] theorem impl_Float64BetweenExprNode_DatetimeNode : impl .Float64BetweenExprNode .DatetimeNode = false := impl_of_row rfl
@[simp] theorem impl_Float64BetweenExprNode_Float64Node : impl .Float64BetweenExprNode .Float64Node = false := impl_of_row rfl
@[simp] theorem impl_Float64BetweenExprNode_Int64Node : impl .Float64BetweenExprNode .Int64Node = false := impl_of_row rfl
@[simp] theorem impl_Float64BetweenExprNode_Node : impl .Float64BetweenExprNode .Node = true := impl_of_row rfl
@[simp] theorem impl_Float64BetweenExprNode_Query : impl .Float64BetweenExprNode .Query = false := impl_of_row rfl
@[simp] theorem impl_Float64BetweenExprNode_SeekOptimizableBoolNode : impl .Float64BetweenExprNode .SeekOptimizableBoolNode = false := impl_of_row rfl
@[simp] theorem impl_Float64BetweenExprNode_SortField : impl .Float64BetweenExprNode .SortField = false := impl_of_row rfl
@[simp] theorem impl_Float64BetweenExprNode_StringNode : impl .Float64BetweenExprNode .StringNode = false := impl_of_row rfl
@[simp] theorem impl_Float64BetweenExprNode_SymbolNode : impl .Float64BetweenExprNode .SymbolNode = false := impl_of_row rfl
@[simp] theorem impl_Float64BetweenExprNode_TypeTransformable : impl .Float64BetweenExprNode .TypeTransformable = false := impl_of_row rfl
@[simp] theorem getType_Float64BetweenExprNode : getTypeConst .Float64BetweenExprNode = some .bool := getType_of_row rfl
@[simp] theorem impl_Float64ConstNode_AsStringArrayable : impl .Float64ConstNode .AsStringArrayable = false := impl_of_row rfl
@[simp] theorem impl_Float64ConstNode_BoolNode : impl .Float64ConstNode .BoolNode = false := impl_of_row rfl
@[simp] theorem impl_Float64ConstNode_BoolTypeTransformable : impl .Float64ConstNode .BoolTypeTransformable = false := impl_of_row rfl
@[simp] theorem impl_Float64ConstNode_DatetimeNode : impl .Float64ConstNode .DatetimeNode = false := impl_of_row rfl
@[simp] theorem impl_Float64ConstNode_Float64Node : impl .Float64ConstNode .Float64Node = true := impl_of_row rfl
@[simp] theorem impl_Float64ConstNode_Int64Node : impl .Float64ConstNode .Int64Node = false := impl_of_row rfl
@[simp] theorem impl_Float64ConstNode_Node : impl .Float64ConstNode .Node = true := impl_of_row rfl
@[simp] theorem impl_Float64ConstNode_Query : impl .Float64ConstNode .Query = false := impl_of_row rfl
@[simp] theorem impl_Float64ConstNode_SeekOptimizableBoolNode : impl .Float64ConstNode .SeekOptimizableBoolNode = false := impl_of_row rfl
@[simp] theorem impl_Float64ConstNode_SortField : impl .Float64ConstNode .SortField = false := impl_of_row rfl
@[simp] theorem impl_Float64ConstNode_StringNode : impl .Float64ConstNode .StringNode = true := impl_of_row rfl
@[simp] theorem impl_Float64ConstNode_SymbolNode : impl .Float64ConstNode .SymbolNode = false := impl_of_row rfl
@[simp] theorem impl_Float64ConstNode_TypeTransformable : impl .Float64ConstNode .TypeTransformable = false := impl_of_row rfl
@[simp] theorem getType_Float64ConstNode : getTypeConst .Float64ConstNode = some .float64 := getType_of_row rfl
@[simp] theorem impl_Float64SymbolNode_AsStringArrayable : impl .Float64SymbolNode .AsStringArrayable = false := impl_of_row rfl
@[simp] theorem impl_Float64SymbolNode_BoolNode : impl .Float64SymbolNode .BoolNode = false := impl_of_row rfl
@[simp] theorem impl_Float64SymbolNode_BoolTypeTransformable : impl .Float64SymbolNode .BoolTypeTransformable = false := impl_of_row rfl
@[simp] theorem impl_Float64SymbolNode_DatetimeNode : impl .Float64SymbolNode .DatetimeNode = false := impl_of_row rfl
@[simp] theorem impl_Float64SymbolNode_Float64Node : impl .Float64SymbolNode .Float64Node = true := impl_of_row rfl
@[simp] theorem impl_Float64SymbolNode_Int64Node : impl .Float64SymbolNode .Int64Node = false := impl_of_row rfl
@[simp] theorem impl_Float64SymbolNode_Node : impl .Float64SymbolNode .Node = true := impl_of_row rfl
@[simp] theorem impl_Float64SymbolNode_Query : impl .Float64SymbolNode .Query = false := impl_of_row rfl
@[simp] theorem impl_Float64SymbolNode_SeekOptimizableBoolNode : impl .Float64SymbolNode .SeekOptimizableBoolNode = false := impl_of_row rfl
@[simp] theorem impl_Float64SymbolNode_SortField : impl .Float64SymbolNode .SortField = false := impl_of_row rfl
@[simp] theorem impl_Float64SymbolNode_StringNode : impl .Float64SymbolNode .StringNode = true := impl_of_row rfl
@[simp] theorem impl_Float64SymbolNode_SymbolNode : impl .Float64SymbolNode .SymbolNode = true := impl_of_row rfl
@[simp] theorem impl_Float64SymbolNode_TypeTransformable : impl .Float64SymbolNode .TypeTransformable = false := impl_of_row rfl
@[simp] theorem getType_Float64SymbolNode : getTypeConst .Float64SymbolNode = some .float64 := getType_of_row rfl
@[simp] theorem impl_InArrayExprNode_AsStringArrayable : impl .InArrayExprNode .AsStringArrayable = false := impl_of_row rfl
@[simp] theorem impl_InArrayExprNode_BoolNode : impl .InArrayExprNode .BoolNode = true := impl_of_row rfl
@[simp] theorem impl_InArrayExprNode_BoolTypeTransformable : impl .InArrayExprNode .BoolTypeTransformable = true := impl_of_row rfl
@[simp] theorem impl_InArrayExprNode_DatetimeNode : impl .InArrayExprNode .DatetimeNode = false := impl_of_row rfl
@[simp] theorem impl_InArrayExprNode_Float64Node : impl .InArrayExprNode .Float64Node = false := impl_of_row rfl
@[simp] theorem impl_InArrayExprNode_Int64Node : impl .InArrayExprNode .Int64Node = false := impl_of_row rfl
@[simp] theorem impl_InArrayExprNode_Node : impl .InArrayExprNode .Node = true := impl_of_row rfl
@[simp] theorem impl_InArrayExprNode_Query : impl .InArrayExprNode .Query = false := impl_of_row rfl
@[simp] theorem impl_InArrayExprNode_SeekOptimizableBoolNode : impl .InArrayExprNode .SeekOptimizableBoolNode = false := impl_of_row rfl
@[simp] theorem impl_InArrayExprNode_SortField : impl .InArrayExprNode .SortField = false := impl_of_row rfl
@[simp] theorem impl_InArrayExprNode_StringNode : impl .InArrayExprNode .StringNode = false := impl_of_row rfl
@[simp] theorem impl_InArrayExprNode_SymbolNode : impl .InArrayExprNode .SymbolNode = false := impl_of_row rfl
@[simp] theorem impl_InArrayExprNode_TypeTransformable : impl .InArrayExprNode .TypeTransformable = false := impl_of_row rfl
@[simp] theorem getType_InArrayExprNode : getTypeConst .InArrayExprNode = some .bool := getType_of_row rfl
@[simp] theorem impl_InDatetimeArrayExprNode_AsStringArrayable : impl .InDatetimeArrayExprNode .AsStringArrayable = false := impl_of_row rfl
@[simp] theorem impl_InDatetimeArrayExprNode_BoolNode : impl .InDatetimeArrayExprNode .BoolNode = true := impl_of_row rfl
@[simp] theorem impl_InDatetimeArrayExprNode_BoolTypeTransformable : impl .InDatetimeArrayExprNode .BoolTypeTransformable = false := impl_of_row rfl
@[simp] theorem impl_InDatetimeArrayExprNode_DatetimeNode : impl .InDatetimeArrayExprNode .DatetimeNode = false := impl_of_row rfl
@[simp] theorem impl_InDatetimeArrayExprNode_Float64Node : impl .InDatetimeArrayExprNode .Float64Node = false := impl_of_row rfl
@[simp] theorem impl_InDatetimeArrayExprNode_Int64Node : impl .InDatetimeArrayExprNode .Int64Node = false := impl_of_row rfl
@[simp] theorem impl_InDatetimeArrayExprNode_Node : impl .InDatetimeArrayExprNode .Node = true := impl_of_row rfl
@[simp] theorem impl_InDatetimeArrayExprNode_Query : impl .InDatetimeArrayExprNode .Query = false := impl_of_row rfl
@[simp] theorem impl_InDatetimeArrayExprNode_SeekOptimizableBoolNode : impl .InDatetimeArrayExprNode .SeekOptimizableBoolNode = false := impl_of_row rfl
@[simp] theorem impl_InDatetimeArrayExprNode_SortField : impl .InDatetimeArrayExprNode .SortField = false := impl_of_row rfl
@[simp] theorem impl_InDatetimeArrayExprNode_StringNode : impl .InDatetimeArrayExprNode .StringNode = false := impl_of_row rfl
@[simp] theorem impl_InDatetimeArrayExprNode_SymbolNode : impl .InDatetimeArrayExprNode .SymbolNode = false := impl_of_row rfl
@[simp] theorem impl_InDatetimeArrayExprNode_TypeTransformable : impl .InDatetimeArrayExprNode .TypeTransformable = false := impl_of_row rfl
@[simp] theorem getType_InDatetimeArrayExprNode : getTypeConst .InDatetimeArrayExprNode = some .bool := getType_of_row rfl
@[simp] theorem impl_InFloat64ArrayExprNode_AsStringArrayable : impl .InFloat64ArrayExprNode .AsStringArrayable = false := impl_of_row rfl
@[simp] theorem impl_InFloat64ArrayExprNode_BoolNode : impl .InFloat64ArrayExprNode .BoolNode = true := impl_of_row rfl
@[simp] theorem impl_InFloat64ArrayExprNode_BoolTypeTransformable : impl .InFloat64ArrayExprNode .BoolTypeTransformable = false := impl_of_row rfl
@[simp] theorem impl_InFloat64ArrayExprNode_DatetimeNode : impl .InFloat64ArrayExprNode .DatetimeNode = false := impl_of_row rfl
@[simp] theorem impl_InFloat64ArrayExprNode_Float64Node : impl .InFloat64ArrayExprNode .Float64Node = false := impl_of_row rfl
@[simp] theorem impl_InFloat64ArrayExprNode_Int64Node : impl .InFloat64ArrayExprNode .Int64Node = false := impl_of_row rfl
@[simp] theorem impl_InFloat64ArrayExprNode_Node : impl .InFloat64ArrayExprNode .Node = true := impl_of_row rfl
@[simp] theorem impl_InFloat64ArrayExprNode_Query : impl .InFloat64ArrayExprNode .Query = false := impl_of_row rfl
@[simp] theorem impl_InFloat64ArrayExprNode_SeekOptimizableBoolNode : impl .InFloat64ArrayExprNode .SeekOptimizableBoolNode = false := impl_of_row rfl
@[simp] theorem impl_InFloat64ArrayExprNode_SortField : impl .InFloat64ArrayExprNode .SortField = false := impl_of_row rfl
@[simp] theorem impl_InFloat64ArrayExprNode_StringNode : impl .InFloat64ArrayExprNode .StringNode = false := impl_of_row rfl
@[simp] theorem impl_InFloat64ArrayExprNode_SymbolNode : impl .InFloat64ArrayExprNode .SymbolNode = false := impl_of_row rfl
@[simp] theorem impl_InFloat64ArrayExprNode_TypeTransformable : impl .InFloat64ArrayExprNode .TypeTransformable = false := impl_of_row rfl
@[simp] theorem getType_InFloat64ArrayExprNode : getTypeConst .InFloat64ArrayExprNode = some .bool := getType_of_row rfl
@[simp] theorem impl_InInt64ArrayExprNode_AsStringArrayable : impl .InInt64ArrayExprNode .AsStringArrayable = false := impl_of_row rfl
@[simp] theorem impl_InInt64ArrayExprNode_BoolNode : impl .InInt64ArrayExprNode .BoolNode = true := impl_of_row rfl
@[simp] theorem impl_InInt64ArrayExprNode_BoolTypeTransformable : impl .InInt64ArrayExprNode .BoolTypeTransformable = false := impl_of_row rfl
@[simp] theorem impl_InInt64ArrayExprNode_DatetimeNode : impl .InInt64ArrayExprNode .DatetimeNode = false := impl_of_row rfl
@[simp] theorem impl_InInt64ArrayExprNode_Float64Node : impl .InInt64ArrayExprNode .Float64Node = false := impl_of_row rfl
@[simp] theorem impl_InInt64ArrayExprNode_Int64Node : impl .InInt64ArrayExprNode .Int64Node = false := impl_of_row rfl
@[simp] theorem impl_InInt64ArrayExprNode_Node : impl .InInt64ArrayExprNode .Node = true := impl_of_row rfl
@[simp] theorem impl_InInt64ArrayExprNode_Query : impl .InInt64ArrayExprNode .Query = false := impl_of_row rfl
@[simp] theorem impl_InInt64ArrayExprNode_SeekOptimizableBoolNode : impl .InInt64ArrayExprNode .SeekOptimizableBoolNode = false := impl_of_row rfl
@[simp] theorem impl_InInt64ArrayExprNode_SortField : impl .InInt64ArrayExprNode .SortField = false := impl_of_row rfl
@[simp] theorem impl_InInt64ArrayExprNode_StringNode : impl .InInt64ArrayExprNode .StringNode = false := impl_of_row rfl
@[simp] theorem impl_InInt64ArrayExprNode_SymbolNode : impl .InInt64ArrayExprNode .SymbolNode = false := impl_of_row rfl
@[simp] theorem impl_InInt64ArrayExprNode_TypeTransformable : impl .InInt64ArrayExprNode .TypeTransformable = false := impl_of_row rfl
@[simp] theorem getType_InInt64ArrayExprNode : getTypeConst .InInt64ArrayExprNode = some .bool := getType_of_row rfl
@[simp] theorem impl_InStringArrayExprNode_AsStringArrayable : impl .InStringArrayExprNode .AsStringArrayable = false := impl_of_row rfl
@[simp] theorem impl_InStringArrayExprNode_BoolNode : impl .InStringArrayExprNode .BoolNode = true := impl_of_row rfl
@[simp] theorem impl_InStringArrayExprNode_BoolTypeTransformable : impl .InStringArrayExprNode .BoolTypeTransformable = false := impl_of_row rfl
@[simp] theorem impl_InStringArrayExprNode_DatetimeNode : impl .InStringArrayExprNode .DatetimeNode = false := impl_of_row rfl
@[simp] theorem impl_InStringArrayExprNode_Float64Node : impl .InStringArrayExprNode .Float64Node = false := impl_of_row rfl
@[simp] theorem impl_InStringArrayExprNode_Int64Node : impl .InStringArrayExprNode .Int64Node = false := impl_of_row rfl
@[simp] theorem impl_InStringArrayExprNode_Node : impl .InStringArrayExprNode .Node = true := impl_of_row rfl
@[simp] theorem impl_InStringArrayExprNode_Query : impl .InStringArrayExprNode .Query = false := impl_of_row rfl
@[simp] theorem impl_InStringArrayExprNode_SeekOptimizableBoolNode : impl .InStringArrayExprNode .SeekOptimizableBoolNode = false := impl_of_row rfl
@[simp] theorem impl_InStringArrayExprNode_SortField : impl .InStringArrayExprNode .SortField = false := impl_of_row rfl
@[simp] theorem impl_InStringArrayExprNode_StringNode : impl .InStringArrayExprNode .StringNode = false := impl_of_row rfl
@[simp] theorem impl_InStringArrayExprNode_SymbolNode : impl .InStringArrayExprNode .SymbolNode = false := impl_of_row rfl
@[simp] theorem impl_InStringArrayExprNode_TypeTransformable : impl .InStringArrayExprNode .TypeTransformable = false := impl_of_row rfl
@[simp] theorem getType_InStringArrayExprNode : getTypeConst .InStringArrayExprNode = some .bool := getType_of_row rfl
@[simp] theorem impl_Int64ArrayNode_AsStringArrayable : impl .Int64ArrayNode .AsStringArrayable = true := impl_of_row rfl
@[simp] theorem impl_Int64ArrayNode_BoolNode : impl .Int64ArrayNode .BoolNode = false := impl_of_row rfl
@[simp] theorem impl_Int64ArrayNode_BoolTypeTransformable : impl .Int64ArrayNode .BoolTypeTransformable = false := impl_of_row rfl
@[simp] theorem impl_Int64ArrayNode_DatetimeNode : impl .Int64ArrayNode .DatetimeNode = false := impl_of_row rfl
@[simp] theorem impl_Int64ArrayNode_Float64Node : impl .Int64ArrayNode .Float64Node = false := impl_of_row rfl
@[simp] theorem impl_Int64ArrayNode_Int64Node : impl .Int64ArrayNode .Int64Node = false := impl_of_row rfl
@[simp] theorem impl_Int64ArrayNode_Node : impl .Int64ArrayNode .Node = true := impl_of_row rfl
@[simp] theorem impl_Int64ArrayNode_Query : impl .Int64ArrayNode .Query = false := impl_of_row rfl
@[simp] theorem impl_Int64ArrayNode_SeekOptimizableBoolNode : impl .Int64ArrayNode .SeekOptimizableBoolNode = false := impl_of_row rfl
@[simp] theorem impl_Int64ArrayNode_SortField : impl .Int64ArrayNode .SortField = false := impl_of_row rfl
@[simp] theorem impl_Int64ArrayNode_StringNode : impl .Int64ArrayNode .StringNode = false := impl_of_row rfl
@[simp] theorem impl_Int64ArrayNode_SymbolNode : impl .Int64ArrayNode .SymbolNode = false := impl_of_row rfl
@[simp] theorem impl_Int64ArrayNode_TypeTransformable : impl .Int64ArrayNode .TypeTransformable = false := impl_of_row rfl
@[simp] theorem getType_Int64ArrayNode : getTypeConst .Int64ArrayNode = some .other := getType_of_row rfl
@[simp] theorem impl_Int64BetweenExprNode_AsStringArrayable : impl .Int64BetweenExprNode .AsStringArrayable = false := impl_of_row rfl
@[simp] theorem impl_Int64BetweenExprNode_BoolNode : impl .Int64BetweenExprNode .BoolNode = true := impl_of_row rfl
@[simp] theorem impl_Int64BetweenExprNode_BoolTypeTransformable : impl .Int64BetweenExprNode .BoolTypeTransformable = false := impl_of_row rfl
@[simp] theorem impl_Int64BetweenExprNode_DatetimeNode : impl .Int64BetweenExprNode .DatetimeNode = false := impl_of_row rfl
@[simp] theorem impl_Int64BetweenExprNode_Float64Node : impl .Int64BetweenExprNode .Float64Node = false := impl_of_row rfl
@[simp] theorem impl_Int64BetweenExprNode_Int64Node : impl .Int64BetweenExprNode .Int64Node = false := impl_of_row rfl
@[simp] theorem impl_Int64BetweenExprNode_Node : impl .Int64BetweenExprNode .Node = true := impl_of_row rfl
@[simp] theorem impl_Int64BetweenExprNode_Query : impl .Int64BetweenExprNode .Query = false := impl_of_row rfl
@[simp] theorem impl_Int64BetweenExprNode_SeekOptimizableBoolNode : impl .Int64BetweenExprNode .SeekOptimizableBoolNode = false := impl_of_row rfl
@[simp] theorem impl_Int64BetweenExprNode_SortField : impl .Int64BetweenExprNode .SortField = false := impl_of_row rfl
@[simp] theorem impl_Int64BetweenExprNode_StringNode : impl .Int64BetweenExprNode .StringNode = false := impl_of_row rfl
@[simp] theorem impl_Int64BetweenExprNode_SymbolNode : impl .Int64BetweenExprNode .SymbolNode = false := impl_of_row rfl
@[simp] theorem impl_Int64BetweenExprNode_TypeTransformable : impl .Int64BetweenExprNode .TypeTransformable = false := impl_of_row rfl
@[simp] theorem getType_Int64BetweenExprNode : getTypeConst .Int64BetweenExprNode = some .bool := getType_of_row rfl
@[simp] theorem impl_Int64ConstNode_AsStringArrayable : impl .Int64ConstNode .AsStringArrayable = false := impl_of_row rfl
@[simp] theorem impl_Int64ConstNode_BoolNode : impl .Int64ConstNode .BoolNode = false := impl_of_row rfl
@[simp] theorem impl_Int64ConstNode_BoolTypeTransformable : impl .Int64ConstNode .BoolTypeTransformable = false := impl_of_row rfl
@[simp] theorem impl_Int64ConstNode_DatetimeNode : impl .Int64ConstNode .DatetimeNode = false := impl_of_row rfl
@[simp] theorem impl_Int64ConstNode_Float64Node : impl .Int64ConstNode .Float64Node = false := impl_of_row rfl
@[simp] theorem impl_Int64ConstNode_Int64Node : impl .Int64ConstNode .Int64Node = true := impl_of_row rfl
@[simp] theorem impl_Int64ConstNode_Node : impl .Int64ConstNode .Node = true := impl_of_row rfl
@[simp] theorem impl_Int64ConstNode_Query : impl .Int64ConstNode .Query = false := impl_of_row rfl
@[simp] theorem impl_Int64ConstNode_SeekOptimizableBoolNode : impl .Int64ConstNode .SeekOptimizableBoolNode = false := impl_of_row rfl
@[simp] theorem impl_Int64ConstNode_SortField : impl .Int64ConstNode .SortField = false := impl_of_row rfl
@[simp] theorem impl_Int64ConstNode_StringNode : impl .Int64ConstNode .StringNode = true := impl_of_row rfl
@[simp] theorem impl_Int64ConstNode_SymbolNode : impl .Int64ConstNode .SymbolNode = false := impl_of_row rfl
@[simp] theorem impl_Int64ConstNode_TypeTransformable : impl .Int64ConstNode .TypeTransformable = false := impl_of_row rfl
@[simp] theorem getType_Int64ConstNode : getTypeConst .Int64ConstNode = some .int64 := getType_of_row rfl
@[simp] theorem impl_Int64SymbolNode_AsStringArrayable : impl .Int64SymbolNode .AsStringArrayable = false := impl_of_row rfl
@[simp] theorem impl_Int64SymbolNode_BoolNode : impl .Int64SymbolNode .BoolNode = false := impl_of_row rfl
@[simp] theorem impl_Int64SymbolNode_BoolTypeTransformable : impl .Int64SymbolNode .BoolTypeTransformable = false := impl_of_row rfl
@[simp] theorem impl_Int64SymbolNode_DatetimeNode : impl .Int64SymbolNode .DatetimeNode = false := impl_of_row rfl
@[simp] theorem impl_Int64SymbolNode_Float64Node : impl .Int64SymbolNode .Float64Node = false := impl_of_row rfl
@[simp] theorem impl_Int64SymbolNode_Int64Node : impl .Int64SymbolNode .Int64Node = true := impl_of_row rfl
@[simp] theorem impl_Int64SymbolNode_Node : impl .Int64SymbolNode .Node = true := impl_of_row rfl
@[simp] theorem impl_Int64SymbolNode_Query : impl .Int64SymbolNode .Query = false := impl_of_row rfl
@[simp] theorem impl_Int64SymbolNode_SeekOptimizableBoolNode : impl .Int64SymbolNode .SeekOptimizableBoolNode = false := impl_of_row rfl
@[simp] theorem impl_Int64SymbolNode_SortField : impl .Int64SymbolNode .SortField = false := impl_of_row rfl
@[simp] theorem impl_Int64SymbolNode_StringNode : impl .Int64SymbolNode .StringNode = true := impl_of_row rfl
@[simp] theorem impl_Int64SymbolNode_SymbolNode : impl .Int64SymbolNode .SymbolNode = true := impl_of_row rfl
@[simp] theorem impl_Int64SymbolNode_TypeTransformable : impl .Int64SymbolNode .TypeTransformable = false := impl_of_row rfl
@[simp] theorem getType_Int64SymbolNode : getTypeConst .Int64SymbolNode = some .int64 := getType_of_row rfl
@[simp] theorem impl_Int64ToFloat64Node_AsStringArrayable : impl .Int64ToFloat64Node .AsStringArrayable = false := impl_of_row rfl
@[simp] theorem impl_Int64ToFloat64Node_BoolNode : impl .Int64ToFloat64Node .BoolNode = false := impl_of_row rfl
@[simp] theorem impl_Int64ToFloat64Node_BoolTypeTransformable : impl .Int64ToFloat64Node .BoolTypeTransformable = false := impl_of_row rfl
@[simp] theorem impl_Int64ToFloat64Node_DatetimeNode : impl .Int64ToFloat64Node .DatetimeNode = false := impl_of_row rfl
@[simp] theorem impl_Int64ToFloat64Node_Float64Node : impl .Int64ToFloat64Node .Float64Node = true := impl_of_row rfl
@[simp] theorem impl_Int64ToFloat64Node_Int64Node : impl .Int64ToFloat64Node .Int64Node = false := impl_of_row rfl
@[simp] theorem impl_Int64ToFloat64Node_Node : impl .Int64ToFloat64Node .Node = true := impl_of_row rfl
@[simp] theorem impl_Int64ToFloat64Node_Query : impl .Int64ToFloat64Node .Query = false := impl_of_row rfl
@[simp] theorem impl_Int64ToFloat64Node_SeekOptimizableBoolNode : impl .Int64ToFloat64Node .SeekOptimizableBoolNode = false := impl_of_row rfl
@[simp] theorem impl_Int64ToFloat64Node_SortField : impl .Int64ToFloat64Node .SortField = false := impl_of_row rfl
@[simp] theorem impl_Int64ToFloat64Node_StringNode : impl .Int64ToFloat64Node .StringNode = true := impl_of_row rfl
@[simp] theorem impl_Int64ToFloat64Node_SymbolNode : impl .Int64ToFloat64Node .SymbolNode = false := impl_of_row rfl
@[simp] theorem impl_Int64ToFloat64Node_TypeTransformable : impl .Int64ToFloat64Node .TypeTransformable = false := impl_of_row rfl
@[simp] theorem getType_Int64ToFloat64Node : getTypeConst .Int64ToFloat64Node = some .float64 := getType_of_row rfl
@[simp] theorem impl_IsEmptySetExprNode_AsStringArrayable : impl .IsEmptySetExprNode .AsStringArrayable = false := impl_of_row rfl
@[simp] theorem impl_IsEmptySetExprNode_BoolNode : impl .IsEmptySetExprNode .BoolNode = true := impl_of_row rfl
@[simp] theorem impl_IsEmptySetExprNode_BoolTypeTransformable : impl .IsEmptySetExprNode .BoolTypeTransformable = false := impl_of_row rfl
@[simp] theorem impl_IsEmptySetExprNode_DatetimeNode : impl .IsEmptySetExprNode .DatetimeNode = false := impl_of_row rfl
@[simp] theorem impl_IsEmptySetExprNode_Float64Node : impl .IsEmptySetExprNode .Float64Node = false := impl_of_row rfl
@[simp] theorem impl_IsEmptySetExprNode_Int64Node : impl .IsEmptySetExprNode .Int64Node = false := impl_of_row rfl
@[simp] theorem impl_IsEmptySetExprNode_Node : impl .IsEmptySetExprNode .Node = true := impl_of_row rfl
@[simp] theorem impl_IsEmptySetExprNode_Query : impl .IsEmptySetExprNode .Query = false := impl_of_row rfl
@[simp] theorem impl_IsEmptySetExprNode_SeekOptimizableBoolNode : impl .IsEmptySetExprNode .SeekOptimizableBoolNode = false := impl_of_row rfl
@[simp] theorem impl_IsEmptySetExprNode_SortField : impl .IsEmptySetExprNode .SortField = false := impl_of_row rfl
@[simp] theorem impl_IsEmptySetExprNode_StringNode : impl .IsEmptySetExprNode .StringNode = false := impl_of_row rfl
@[simp] theorem impl_IsEmptySetExprNode_SymbolNode : impl .IsEmptySetExprNode .SymbolNode = true := impl_of_row rfl
@[simp] theorem impl_IsEmptySetExprNode_TypeTransformable : impl .IsEmptySetExprNode .TypeTransformable = false := impl_of_row rfl
@[simp] theorem getType_IsEmptySetExprNode : getTypeConst .IsEmptySetExprNode = some .bool := getType_of_row rfl
@[simp] theorem impl_IsNilExprNode_AsStringArrayable : impl .IsNilExprNode .AsStringArrayable = false := impl_of_row rfl
@[simp] theorem impl_IsNilExprNode_BoolNode : impl .IsNilExprNode .BoolNode = true := impl_of_row rfl
@[simp] theorem impl_IsNilExprNode_BoolTypeTransformable : impl .IsNilExprNode .BoolTypeTransformable = false := impl_of_row rfl
@[simp] theorem impl_IsNilExprNode_DatetimeNode : impl .IsNilExprNode .DatetimeNode = false := impl_of_row rfl
@[simp] theorem impl_IsNilExprNode_Float64Node : impl .IsNilExprNode .Float64Node = false := impl_of_row rfl
@[simp] theorem impl_IsNilExprNode_Int64Node : impl .IsNilExprNode .Int64Node = false := impl_of_row rfl
@[simp] theorem impl_IsNilExprNode_Node : impl .IsNilExprNode .Node = true := impl_of_row rfl
@[simp] theorem impl_IsNilExprNode_Query : impl .IsNilExprNode .Query = false := impl_of_row rfl
@[simp] theorem impl_IsNilExprNode_SeekOptimizableBoolNode : impl .IsNilExprNode .SeekOptimizableBoolNode = false := impl_of_row rfl
@[simp] theorem impl_IsNilExprNode_SortField : impl .IsNilExprNode .SortField = false := impl_of_row rfl
@[simp] theorem impl_IsNilExprNode_StringNode : impl .IsNilExprNode .StringNode = false := impl_of_row rfl
@[simp] theorem impl_IsNilExprNode_SymbolNode : impl .IsNilExprNode .SymbolNode = false := impl_of_row rfl
@[simp] theorem impl_IsNilExprNode_TypeTransformable : impl .IsNilExprNode .TypeTransformable = false := impl_of_row rfl
@[simp] theorem getType_IsNilExprNode : getTypeConst .IsNilExprNode = some .bool := getType_of_row rfl
@[simp] theorem impl_LimitExprNode_AsStringArrayable : impl .LimitExprNode .AsStringArrayable = false := impl_of_row rfl
@[simp] theorem impl_LimitExprNode_BoolNode : impl .LimitExprNode .BoolNode = false := impl_of_row rfl
@[simp] theorem impl_LimitExprNode_BoolTypeTransformable : impl .LimitExprNode .BoolTypeTransformable = false := impl_of_row rfl
@[simp] theorem impl_LimitExprNode_DatetimeNode : impl .LimitExprNode .DatetimeNode = false := impl_of_row rfl
@[simp] theorem impl_LimitExprNode_Float64Node : impl .LimitExprNode .Float64Node = false := impl_of_row rfl
@[simp] theorem impl_LimitExprNode_Int64Node : impl .LimitExprNode .Int64Node = true := impl_of_row rfl
@[simp] theorem impl_LimitExprNode_Node : impl .LimitExprNode .Node = true := impl_of_row rfl
@[simp] theorem impl_LimitExprNode_Query : impl .LimitExprNode .Query = false := impl_of_row rfl
@[simp] theorem impl_LimitExprNode_SeekOptimizableBoolNode : impl .LimitExprNode .SeekOptimizableBoolNode = false := impl_of_row rfl
@[simp] theorem impl_LimitExprNode_SortField : impl .LimitExprNode .SortField = false := impl_of_row rfl
@[simp] theorem impl_LimitExprNode_StringNode : impl .LimitExprNode .StringNode = true := impl_of_row rfl
@[simp] theorem impl_LimitExprNode_SymbolNode : impl .LimitExprNode .SymbolNode = false := impl_of_row rfl
@[simp] theorem impl_LimitExprNode_TypeTransformable : impl .LimitExprNode .TypeTransformable = false := impl_of_row rfl
@[simp] theorem getType_LimitExprNode : getTypeConst .LimitExprNode = some .int64 := getType_of_row rfl
@[simp] theorem impl_NotExprNode_AsStringArrayable : impl .NotExprNode .AsStringArrayable = false := impl_of_row rfl
@[simp] theorem impl_NotExprNode_BoolNode : impl .NotExprNode .BoolNode = true := impl_of_row rfl
@[simp] theorem impl_NotExprNode_BoolTypeTransformable : impl .NotExprNode .BoolTypeTransformable = true := impl_of_row rfl
@[simp] theorem impl_NotExprNode_DatetimeNode : impl .NotExprNode .DatetimeNode = false := impl_of_row rfl
@[simp] theorem impl_NotExprNode_Float64Node : impl .NotExprNode .Float64Node = false := impl_of_row rfl
@[simp] theorem impl_NotExprNode_Int64Node : impl .NotExprNode .Int64Node = false := impl_of_row rfl
@[simp] theorem impl_NotExprNode_Node : impl .NotExprNode .Node = true := impl_of_row rfl
@[simp] theorem impl_NotExprNode_Query : impl .NotExprNode .Query = false := impl_of_row rfl
@[simp] theorem impl_NotExprNode_SeekOptimizableBoolNode : impl .NotExprNode .SeekOptimizableBoolNode = false := impl_of_row rfl
@[simp] theorem impl_NotExprNode_SortField : impl .NotExprNode .SortField = false := impl_of_row rfl
@[simp] theorem impl_NotExprNode_StringNode : impl .NotExprNode .StringNode = false := impl_of_row rfl
@[simp] theorem impl_NotExprNode_SymbolNode : impl .NotExprNode .SymbolNode = false := impl_of_row rfl
@[simp] theorem impl_NotExprNode_TypeTransformable : impl .NotExprNode .TypeTransformable = false := impl_of_row rfl
@[simp] theorem getType_NotExprNode : getTypeConst .NotExprNode = some .bool := getType_of_row rfl
@[simp] theorem impl_NullConstNode_AsStringArrayable : impl .NullConstNode .AsStringArrayable = false := impl_of_row rfl
@[simp] theorem impl_NullConstNode_BoolNode : impl .NullConstNode .BoolNode = false := impl_of_row rfl
@[simp] theorem impl_NullConstNode_BoolTypeTransformable : impl .NullConstNode .BoolTypeTransformable = false := impl_of_row rfl
@[simp] theorem impl_NullConstNode_DatetimeNode : impl .NullConstNode .DatetimeNode = false := impl_of_row rfl
@[simp] theorem impl_NullConstNode_Float64Node : impl .NullConstNode .Float64Node = false := impl_of_row rfl
@[simp] theorem impl_NullConstNode_Int64Node : impl .NullConstNode .Int64Node = false := impl_of_row rfl
@[simp] theorem impl_NullConstNode_Node : impl .NullConstNode .Node = true := impl_of_row rfl
@[simp] theorem impl_NullConstNode_Query : impl .NullConstNode .Query = false := impl_of_row rfl
@[simp] theorem impl_NullConstNode_SeekOptimizableBoolNode : impl .NullConstNode .SeekOptimizableBoolNode = false := impl_of_row rfl
@[simp] theorem impl_NullConstNode_SortField : impl .NullConstNode .SortField = false := impl_of_row rfl
@[simp] theorem impl_NullConstNode_StringNode : impl .NullConstNode .StringNode = false := impl_of_row rfl
@[simp] theorem impl_NullConstNode_SymbolNode : impl .NullConstNode .SymbolNode = false := impl_of_row rfl
@[simp] theorem impl_NullConstNode_TypeTransformable : impl .NullConstNode .TypeTransformable = false := impl_of_row rfl
@[simp] theorem getType_NullConstNode : getTypeConst .NullConstNode = some .other := getType_of_row rfl
@[simp] theorem impl_OrExprNode_AsStringArrayable : impl .OrExprNode .AsStringArrayable = false := impl_of_row rfl
@[simp] theorem impl_OrExprNode_BoolNode : impl .OrExprNode .BoolNode = true := impl_of_row rfl
@[simp] theorem impl_OrExprNode_BoolTypeTransformable : impl .OrExprNode .BoolTypeTransformable = true := impl_of_row rfl
@[simp] theorem impl_OrExprNode_DatetimeNode : impl .OrExprNode .DatetimeNode = false := impl_of_row rfl
@[simp] theorem impl_OrExprNode_Float64Node : impl .OrExprNode .Float64Node = false := impl_of_row rfl
@[simp] theorem impl_OrExprNode_Int64Node : impl .OrExprNode .Int64Node = false := impl_of_row rfl
@[simp] theorem impl_OrExprNode_Node : impl .OrExprNode .Node = true := impl_of_row rfl
@[simp] theorem impl_OrExprNode_Query : impl .OrExprNode .Query = false := impl_of_row rfl
@[simp] theorem impl_OrExprNode_SeekOptimizableBoolNode : impl .OrExprNode .SeekOptimizableBoolNode = false := impl_of_row rfl
@[simp] theorem impl_OrExprNode_SortField : impl .OrExprNode .SortField = false := impl_of_row rfl
@[simp] theorem impl_OrExprNode_StringNode : impl .OrExprNode .StringNode = false := impl_of_row rfl
@[simp] theorem impl_OrExprNode_SymbolNode : impl .OrExprNode .SymbolNode = false := impl_of_row rfl
@[simp] theorem impl_OrExprNode_TypeTransformable : impl .OrExprNode .TypeTransformable = false := impl_of_row rfl
@[simp] theorem getType_OrExprNode : getTypeConst .OrExprNode = some .bool := getType_of_row rfl
@[simp] theorem impl_SetFunctionNode_AsStringArrayable : impl .SetFunctionNode .AsStringArrayable = false := impl_of_row rfl
@[simp] theorem impl_SetFunctionNode_BoolNode : impl .SetFunctionNode .BoolNode = false := impl_of_row rfl
@[simp] theorem impl_SetFunctionNode_BoolTypeTransformable : impl .SetFunctionNode .BoolTypeTransformable = false := impl_of_row rfl
@[simp] theorem impl_SetFunctionNode_DatetimeNode : impl .SetFunctionNode .DatetimeNode = false := impl_of_row rfl
@[simp] theorem impl_SetFunctionNode_Float64Node : impl .SetFunctionNode .Float64Node = false := impl_of_row rfl
@[simp] theorem impl_SetFunctionNode_Int64Node : impl .SetFunctionNode .Int64Node = false := impl_of_row rfl
@[simp] theorem impl_SetFunctionNode_Node : impl .SetFunctionNode .Node = true := impl_of_row rfl
@[simp] theorem impl_SetFunctionNode_Query : impl .SetFunctionNode .Query = false := impl_of_row rfl
@[simp] theorem impl_SetFunctionNode_SeekOptimizableBoolNode : impl .SetFunctionNode .SeekOptimizableBoolNode = false := impl_of_row rfl
@[simp] theorem impl_SetFunctionNode_SortField : impl .SetFunctionNode .SortField = false := impl_of_row rfl
@[simp] theorem impl_SetFunctionNode_StringNode : impl .SetFunctionNode .StringNode = false := impl_of_row rfl
@[simp] theorem impl_SetFunctionNode_SymbolNode : impl .SetFunctionNode .SymbolNode = false := impl_of_row rfl
@[simp] theorem impl_SetFunctionNode_TypeTransformable : impl .SetFunctionNode .TypeTransformable = true := impl_of_row rfl
@[simp] theorem getType_SetFunctionNode : getTypeConst .SetFunctionNode = none := getType_of_row rfl
@[simp] theorem impl_SkipExprNode_AsStringArrayable : impl .SkipExprNode .AsStringArrayable = false := impl_of_row rfl
@[simp] theorem impl_SkipExprNode_BoolNode : impl .SkipExprNode .BoolNode = false := impl_of_row rfl
@[simp] theorem impl_SkipExprNode_BoolTypeTransformable : impl .SkipExprNode .BoolTypeTransformable = false := impl_of_row rfl
@[simp] theorem impl_SkipExprNode_DatetimeNode : impl .SkipExprNode .DatetimeNode = false := impl_of_row rfl
@[simp] theorem impl_SkipExprNode_Float64Node : impl .SkipExprNode .Float64Node = false := impl_of_row rfl
@[simp] theorem impl_SkipExprNode_Int64Node : impl .SkipExprNode .Int64Node = true := impl_of_row rfl
@[simp] theorem impl_SkipExprNode_Node : impl .SkipExprNode .Node = true := impl_of_row rfl
@[simp] theorem impl_SkipExprNode_Query : impl .SkipExprNode .Query = false := impl_of_row rfl
@[simp] theorem impl_SkipExprNode_SeekOptimizableBoolNode : impl .SkipExprNode .SeekOptimizableBoolNode = false := impl_of_row rfl
@[simp] theorem impl_SkipExprNode_SortField : impl .SkipExprNode .SortField = false := impl_of_row rfl
@[simp] theorem impl_SkipExprNode_StringNode : impl .SkipExprNode .StringNode = true := impl_of_row rfl
@[simp] theorem impl_SkipExprNode_SymbolNode : impl .SkipExprNode .SymbolNode = false := impl_of_row rfl
@[simp] theorem impl_SkipExprNode_TypeTransformable : impl .SkipExprNode .TypeTransformable = false := impl_of_row rfl
@[simp] theorem getType_SkipExprNode : getTypeConst .SkipExprNode = some .int64 := getType_of_row rfl
@[simp] theorem impl_SortByNode_AsStringArrayable : impl .SortByNode .AsStringArrayable = false := impl_of_row rfl
@[simp] theorem impl_SortByNode_BoolNode : impl .SortByNode .BoolNode = false := impl_of_row rfl
@[simp] theorem impl_SortByNode_BoolTypeTransformable : impl .SortByNode .BoolTypeTransformable = false := impl_of_row rfl
@[simp] theorem impl_SortByNode_DatetimeNode : impl .SortByNode .DatetimeNode = false := impl_of_row rfl
@[simp] theorem impl_SortByNode_Float64Node : impl .SortByNode .Float64Node = false := impl_of_row rfl
@[simp] theorem impl_SortByNode_Int64Node : impl .SortByNode .Int64Node = false := impl_of_row rfl
@[simp] theorem impl_SortByNode_Node : impl .SortByNode .Node = true := impl_of_row rfl
@[simp] theorem impl_SortByNode_Query : impl .SortByNode .Query = false := impl_of_row rfl
@[simp] theorem impl_SortByNode_SeekOptimizableBoolNode : impl .SortByNode .SeekOptimizableBoolNode = false := impl_of_row rfl
@[simp] theorem impl_SortByNode_SortField : impl .SortByNode .SortField = false := impl_of_row rfl
@[simp] theorem impl_SortByNode_StringNode : impl .SortByNode .StringNode = false := impl_of_row rfl
@[simp] theorem impl_SortByNode_SymbolNode : impl .SortByNode .SymbolNode = false := impl_of_row rfl
@[simp] theorem impl_SortByNode_TypeTransformable : impl .SortByNode .TypeTransformable = true := impl_of_row rfl
@[simp] theorem getType_SortByNode : getTypeConst .SortByNode = some .other := getType_of_row rfl
@[simp] theorem impl_SortFieldNode_AsStringArrayable : impl .SortFieldNode .AsStringArrayable = false := impl_of_row rfl
@[simp] theorem impl_SortFieldNode_BoolNode : impl .SortFieldNode .BoolNode = false := impl_of_row rfl
@[simp] theorem impl_SortFieldNode_BoolTypeTransformable : impl .SortFieldNode .BoolTypeTransformable = false := impl_of_row rfl
@[simp] theorem impl_SortFieldNode_DatetimeNode : impl .SortFieldNode .DatetimeNode = false := impl_of_row rfl
@[simp] theorem impl_SortFieldNode_Float64Node : impl .SortFieldNode .Float64Node = false := impl_of_row rfl
@[simp] theorem impl_SortFieldNode_Int64Node : impl .SortFieldNode .Int64Node = false := impl_of_row rfl
@[simp] theorem impl_SortFieldNode_Node : impl .SortFieldNode .Node = true := impl_of_row rfl
@[simp] theorem impl_SortFieldNode_Query : impl .SortFieldNode .Query = false := impl_of_row rfl
@[simp] theorem impl_SortFieldNode_SeekOptimizableBoolNode : impl .SortFieldNode .SeekOptimizableBoolNode = false := impl_of_row rfl
@[simp] theorem impl_SortFieldNode_SortField : impl .SortFieldNode .SortField = true := impl_of_row rfl
@[simp] theorem impl_SortFieldNode_StringNode : impl .SortFieldNode .StringNode = false := impl_of_row rfl
@[simp] theorem impl_SortFieldNode_SymbolNode : impl .SortFieldNode .SymbolNode = true := impl_of_row rfl
@[simp] theorem impl_SortFieldNode_TypeTransformable : impl .SortFieldNode .TypeTransformable = true := impl_of_row rfl
@[simp] theorem getType_SortFieldNode : getTypeConst .SortFieldNode = some .other := getType_of_row rfl
@[simp] theorem impl_StringArrayNode_AsStringArrayable : impl .StringArrayNode .AsStringArrayable = true := impl_of_row rfl
@[simp] theorem impl_StringArrayNode_BoolNode : impl .StringArrayNode .BoolNode = false := impl_of_row rfl
@[simp] theorem impl_StringArrayNode_BoolTypeTransformable : impl .StringArrayNode .BoolTypeTransformable = false := impl_of_row rfl
@[simp] theorem impl_StringArrayNode_DatetimeNode : impl .StringArrayNode .DatetimeNode = false := impl_of_row rfl
@[simp] theorem impl_StringArrayNode_Float64Node : impl .StringArrayNode .Float64Node = false := impl_of_row rfl
@[simp] theorem impl_StringArrayNode_Int64Node : impl .StringArrayNode .Int64Node = false := impl_of_row rfl
@[simp] theorem impl_StringArrayNode_Node : impl .StringArrayNode .Node = true := impl_of_row rfl
@[simp] theorem impl_StringArrayNode_Query : impl .StringArrayNode .Query = false := impl_of_row rfl
@[simp] theorem impl_StringArrayNode_SeekOptimizableBoolNode : impl .StringArrayNode .SeekOptimizableBoolNode = false := impl_of_row rfl
@[simp] theorem impl_StringArrayNode_SortField : impl .StringArrayNode .SortField = false := impl_of_row rfl
@[simp] theorem impl_StringArrayNode_StringNode : impl .StringArrayNode .StringNode = false := impl_of_row rfl
@[simp] theorem impl_StringArrayNode_SymbolNode : impl .StringArrayNode .SymbolNode = false := impl_of_row rfl
@[simp] theorem impl_StringArrayNode_TypeTransformable : impl .StringArrayNode .TypeTransformable = false := impl_of_row rfl
@[simp] theorem getType_StringArrayNode : getTypeConst .StringArrayNode = some .other := getType_of_row rfl
@[simp] theorem impl_StringConstNode_AsStringArrayable : impl .StringConstNode .AsStringArrayable = false := impl_of_row rfl
@[simp] theorem impl_StringConstNode_BoolNode : impl .StringConstNode .BoolNode = false := impl_of_row rfl
@[simp] theorem impl_StringConstNode_BoolTypeTransformable : impl .StringConstNode .BoolTypeTransformable = false := impl_of_row rfl
@[simp] theorem impl_StringConstNode_DatetimeNode : impl .StringConstNode .DatetimeNode = false := impl_of_row rfl
@[simp] theorem impl_StringConstNode_Float64Node : impl .StringConstNode .Float64Node = false := impl_of_row rfl
@[simp] theorem impl_StringConstNode_Int64Node : impl .StringConstNode .Int64Node = false := impl_of_row rfl
@[simp] theorem impl_StringConstNode_Node : impl .StringConstNode .Node = true := impl_of_row rfl
@[simp] theorem impl_StringConstNode_Query : impl .StringConstNode .Query = false := impl_of_row rfl
@[simp] theorem impl_StringConstNode_SeekOptimizableBoolNode : impl .StringConstNode .SeekOptimizableBoolNode = false := impl_of_row rfl
@[simp] theorem impl_StringConstNode_SortField : impl .StringConstNode .SortField = false := impl_of_row rfl
@[simp] theorem impl_StringConstNode_StringNode : impl .StringConstNode .StringNode = true := impl_of_row rfl
@[simp] theorem impl_StringConstNode_SymbolNode : impl .StringConstNode .SymbolNode = false := impl_of_row rfl
@[simp] theorem impl_StringConstNode_TypeTransformable : impl .StringConstNode .TypeTransformable = false := impl_of_row rfl
@[simp] theorem getType_StringConstNode : getTypeConst .StringConstNode = some .string := getType_of_row rfl
@[simp] theorem impl_StringFuncNode_AsStringArrayable : impl .StringFuncNode .AsStringArrayable = false := impl_of_row rfl
@[simp] theorem impl_StringFuncNode_BoolNode : impl .StringFuncNode .BoolNode = false := impl_of_row rfl
@[simp] theorem impl_StringFuncNode_BoolTypeTransformable : impl .StringFuncNode .BoolTypeTransformable = false := impl_of_row rfl
@[simp] theorem impl_StringFuncNode_DatetimeNode : impl .StringFuncNode .DatetimeNode = false := impl_of_row rfl
@[simp] theorem impl_StringFuncNode_Float64Node : impl .StringFuncNode .Float64Node = false := impl_of_row rfl
@[simp] theorem impl_StringFuncNode_Int64Node : impl .StringFuncNode .Int64Node = false := impl_of_row rfl
@[simp] theorem impl_StringFuncNode_Node : impl .StringFuncNode .Node = true := impl_of_row rfl
@[simp] theorem impl_StringFuncNode_Query : impl .StringFuncNode .Query = false := impl_of_row rfl
@[simp] theorem impl_StringFuncNode_SeekOptimizableBoolNode : impl .StringFuncNode .SeekOptimizableBoolNode = false := impl_of_row rfl
@[simp] theorem impl_StringFuncNode_SortField : impl .StringFuncNode .SortField = false := impl_of_row rfl
@[simp] theorem impl_StringFuncNode_StringNode : impl .StringFuncNode .StringNode = true := impl_of_row rfl
@[simp] theorem impl_StringFuncNode_SymbolNode : impl .StringFuncNode .SymbolNode = false := impl_of_row rfl
@[simp] theorem impl_StringFuncNode_TypeTransformable : impl .StringFuncNode .TypeTransformable = false := impl_of_row rfl
@[simp] theorem getType_StringFuncNode : getTypeConst .StringFuncNode = some .string := getType_of_row rfl
@[simp] theorem impl_StringSymbolNode_AsStringArrayable : impl .StringSymbolNode .AsStringArrayable = false := impl_of_row rfl
@[simp] theorem impl_StringSymbolNode_BoolNode : impl .StringSymbolNode .BoolNode = false := impl_of_row rfl
@[simp] theorem impl_StringSymbolNode_BoolTypeTransformable : impl .StringSymbolNode .BoolTypeTransformable = false := impl_of_row rfl
@[simp] theorem impl_StringSymbolNode_DatetimeNode : impl .StringSymbolNode .DatetimeNode = false := impl_of_row rfl
@[simp] theorem impl_StringSymbolNode_Float64Node : impl .StringSymbolNode .Float64Node = false := impl_of_row rfl
@[simp] theorem impl_StringSymbolNode_Int64Node : impl .StringSymbolNode .Int64Node = false := impl_of_row rfl
@[simp] theorem impl_StringSymbolNode_Node : impl .StringSymbolNode .Node = true := impl_of_row rfl
@[simp] theorem impl_StringSymbolNode_Query : impl .StringSymbolNode .Query = false := impl_of_row rfl
@[simp] theorem impl_StringSymbolNode_SeekOptimizableBoolNode : impl .StringSymbolNode .SeekOptimizableBoolNode = false := impl_of_row rfl
@[simp] theorem impl_StringSymbolNode_SortField : impl .StringSymbolNode .SortField = false := impl_of_row rfl
@[simp] theorem impl_StringSymbolNode_StringNode : impl .StringSymbolNode .StringNode = true := impl_of_row rfl
@[simp] theorem impl_StringSymbolNode_SymbolNode : impl .StringSymbolNode .SymbolNode = true := impl_of_row rfl
@[simp] theorem impl_StringSymbolNode_TypeTransformable : impl .StringSymbolNode .TypeTransformable = false := impl_of_row rfl
@[simp] theorem getType_StringSymbolNode : getTypeConst .StringSymbolNode = some .string := getType_of_row rfl
@[simp] theorem impl_UntypedNotExprNode_AsStringArrayable : impl .UntypedNotExprNode .AsStringArrayable = false := impl_of_row rfl
@[simp] theorem impl_UntypedNotExprNode_BoolNode : impl .UntypedNotExprNode .BoolNode = true := impl_of_row rfl
@[simp] theorem impl_UntypedNotExprNode_BoolTypeTransformable : impl .UntypedNotExprNode .BoolTypeTransformable = true := impl_of_row rfl
@[simp] theorem impl_UntypedNotExprNode_DatetimeNode : impl .UntypedNotExprNode .DatetimeNode = false := impl_of_row rfl
@[simp] theorem impl_UntypedNotExprNode_Float64Node : impl .UntypedNotExprNode .Float64Node = false := impl_of_row rfl
@[simp] theorem impl_UntypedNotExprNode_Int64Node : impl .UntypedNotExprNode .Int64Node = false := impl_of_row rfl
@[simp] theorem impl_UntypedNotExprNode_Node : impl .UntypedNotExprNode .Node = true := impl_of_row rfl
@[simp] theorem impl_UntypedNotExprNode_Query : impl .UntypedNotExprNode .Query = false := impl_of_row rfl
@[simp] theorem impl_UntypedNotExprNode_SeekOptimizableBoolNode : impl .UntypedNotExprNode .SeekOptimizableBoolNode = false := impl_of_row rfl
@[simp] theorem impl_UntypedNotExprNode_SortField : impl .UntypedNotExprNode .SortField = false := impl_of_row rfl
@[simp] theorem impl_UntypedNotExprNode_StringNode : impl .UntypedNotExprNode .StringNode = false := impl_of_row rfl
@[simp] theorem impl_UntypedNotExprNode_SymbolNode : impl .UntypedNotExprNode .SymbolNode = false := impl_of_row rfl
@[simp] theorem impl_UntypedNotExprNode_TypeTransformable : impl .UntypedNotExprNode .TypeTransformable = false := impl_of_row rfl
@[simp] theorem getType_UntypedNotExprNode : getTypeConst .UntypedNotExprNode = some .bool := getType_of_row rfl
@[simp] theorem impl_UntypedSubQueryNode_AsStringArrayable : impl .UntypedSubQueryNode .AsStringArrayable = false := impl_of_row rfl
@[simp] theorem impl_UntypedSubQueryNode_BoolNode : impl .UntypedSubQueryNode .BoolNode = false := impl_of_row rfl
@[simp] theorem impl_UntypedSubQueryNode_BoolTypeTransformable : impl .UntypedSubQueryNode .BoolTypeTransformable = false := impl_of_row rfl
@[simp] theorem impl_UntypedSubQueryNode_DatetimeNode : impl .UntypedSubQueryNode .DatetimeNode = false := impl_of_row rfl
@[simp] theorem impl_UntypedSubQueryNode_Float64Node : impl .UntypedSubQueryNode .Float64Node = false := impl_of_row rfl
@[simp] theorem impl_UntypedSubQueryNode_Int64Node : impl .UntypedSubQueryNode .Int64Node = false := impl_of_row rfl
@[simp] theorem impl_UntypedSubQueryNode_Node : impl .UntypedSubQueryNode .Node = true := impl_of_row rfl
@[simp] theorem impl_UntypedSubQueryNode_Query : impl .UntypedSubQueryNode .Query = false := impl_of_row rfl
@[simp] theorem impl_UntypedSubQueryNode_SeekOptimizableBoolNode : impl .UntypedSubQueryNode .SeekOptimizableBoolNode = false := impl_of_row rfl
@[simp] theorem impl_UntypedSubQueryNode_SortField : impl .UntypedSubQueryNode .SortField = false := impl_of_row rfl
@[simp] theorem impl_UntypedSubQueryNode_StringNode : impl .UntypedSubQueryNode .StringNode = false := impl_of_row rfl
@[simp] theorem impl_UntypedSubQueryNode_SymbolNode : impl .UntypedSubQueryNode .SymbolNode = true := impl_of_row rfl
@[simp] theorem impl_UntypedSubQueryNode_TypeTransformable : impl .UntypedSubQueryNode .TypeTransformable = true := impl_of_row rfl
@[simp] theorem getType_UntypedSubQueryNode : getTypeConst .UntypedSubQueryNode = some .other := getType_of_row rfl
@[simp] theorem impl_UntypedSymbolNode_AsStringArrayable : impl .UntypedSymbolNode .AsStringArrayable = false := impl_of_row rfl
@[simp] theorem impl_UntypedSymbolNode_BoolNode : impl .UntypedSymbolNode .BoolNode = false := impl_of_row rfl
@[simp] theorem impl_UntypedSymbolNode_BoolTypeTransformable : impl .UntypedSymbolNode .BoolTypeTransformable = false := impl_of_row rfl
@[simp] theorem impl_UntypedSymbolNode_DatetimeNode : impl .UntypedSymbolNode .DatetimeNode = false := impl_of_row rfl
@[simp] theorem impl_UntypedSymbolNode_Float64Node : impl .UntypedSymbolNode .Float64Node = false := impl_of_row rfl
@[simp] theorem impl_UntypedSymbolNode_Int64Node : impl .UntypedSymbolNode .Int64Node = false := impl_of_row rfl
@[simp] theorem impl_UntypedSymbolNode_Node : impl .UntypedSymbolNode .Node = true := impl_of_row rfl
@[simp] theorem impl_UntypedSymbolNode_Query : impl .UntypedSymbolNode .Query = false := impl_of_row rfl
@[simp] theorem impl_UntypedSymbolNode_SeekOptimizableBoolNode : impl .UntypedSymbolNode .SeekOptimizableBoolNode = false := impl_of_row rfl
@[simp] theorem impl_UntypedSymbolNode_SortField : impl .UntypedSymbolNode .SortField = false := impl_of_row rfl
@[simp] theorem impl_UntypedSymbolNode_StringNode : impl .UntypedSymbolNode .StringNode = false := impl_of_row rfl
@[simp] theorem impl_UntypedSymbolNode_SymbolNode : impl .UntypedSymbolNode .SymbolNode = true := impl_of_row rfl
@[simp] theorem impl_UntypedSymbolNode_TypeTransformable : impl .UntypedSymbolNode .TypeTransformable = true := impl_of_row rfl
@[simp] theorem getType_UntypedSymbolNode : getTypeConst .UntypedSymbolNode = some .other := getType_of_row rfl
@[simp] theorem impl_queryNode_AsStringArrayable : impl .queryNode .AsStringArrayable = false := impl_of_row rfl
@[simp] theorem impl_queryNode_BoolNode : impl .queryNode .BoolNode = true := impl_of_row rfl
@[simp] theorem impl_queryNode_BoolTypeTransformable : impl .queryNode .BoolTypeTransformable = true := impl_of_row rfl
@[simp] theorem impl_queryNode_DatetimeNode : impl .queryNode .DatetimeNode = false := impl_of_row rfl
@[simp] theorem impl_queryNode_Float64Node : impl .queryNode .Float64Node = false := impl_of_row rfl
@[simp] theorem impl_queryNode_Int64Node : impl .queryNode .Int64Node = false := impl_of_row rfl
@[simp] theorem impl_queryNode_Node : impl .queryNode .Node = true := impl_of_row rfl
@[simp] theorem impl_queryNode_Query : impl .queryNode .Query = true := impl_of_row rfl
@[simp] theorem impl_queryNode_SeekOptimizableBoolNode : impl .queryNode .SeekOptimizableBoolNode = false := impl_of_row rfl
@[simp] theorem impl_queryNode_SortField : impl .queryNode .SortField = false := impl_of_row rfl
@[simp] theorem impl_queryNode_StringNode : impl .queryNode .StringNode = false := impl_of_row rfl
@[simp] theorem impl_queryNode_SymbolNode : impl .queryNode .SymbolNode = false := impl_of_row rfl
@[simp] theorem impl_queryNode_TypeTransformable : impl .queryNode .TypeTransformable = false := impl_of_row rfl
@[simp] theorem getType_queryNode : getTypeConst .queryNode = some .bool := getType_of_row rfl
@[simp] theorem impl_subQueryNode_AsStringArrayable : impl .subQueryNode .AsStringArrayable = false := impl_of_row rfl
@[simp] theorem impl_subQueryNode_BoolNode : impl .subQueryNode .BoolNode = false := impl_of_row rfl
@[simp] theorem impl_subQueryNode_BoolTypeTransformable : impl .subQueryNode .BoolTypeTransformable = false := impl_of_row rfl
@[simp] theorem impl_subQueryNode_DatetimeNode : impl .subQueryNode .DatetimeNode = false := impl_of_row rfl
@[simp] theorem impl_subQueryNode_Float64Node : impl .subQueryNode .Float64Node = false := impl_of_row rfl
@[simp] theorem impl_subQueryNode_Int64Node : impl .subQueryNode .Int64Node = false := impl_of_row rfl
@[simp] theorem impl_subQueryNode_Node : impl .subQueryNode .Node = true := impl_of_row rfl
@[simp] theorem impl_subQueryNode_Query : impl .subQueryNode .Query = false := impl_of_row rfl
@[simp] theorem impl_subQueryNode_SeekOptimizableBoolNode : impl .subQueryNode .SeekOptimizableBoolNode = false := impl_of_row rfl
@[simp] theorem impl_subQueryNode_SortField : impl .subQueryNode .SortField = false := impl_of_row rfl
@[simp] theorem impl_subQueryNode_StringNode : impl .subQueryNode .StringNode = false := impl_of_row rfl
@[simp] theorem impl_subQueryNode_SymbolNode : impl .subQueryNode .SymbolNode = true := impl_of_row rfl
@[simp] theorem impl_subQueryNode_TypeTransformable : impl .subQueryNode .TypeTransformable = false := impl_of_row rfl
@[simp] theorem getType_subQueryNode : getTypeConst .subQueryNode = some .other := getType_of_row rfl
@[simp] theorem impl_untypedQueryNode_AsStringArrayable : impl .untypedQueryNode .AsStringArrayable = false := impl_of_row rfl
@[simp] theorem impl_untypedQueryNode_BoolNode : impl .untypedQueryNode .BoolNode = true := impl_of_row rfl
@[simp] theorem impl_untypedQueryNode_BoolTypeTransformable : impl .untypedQueryNode .BoolTypeTransformable = true := impl_of_row rfl
@[simp] theorem impl_untypedQueryNode_DatetimeNode : impl .untypedQueryNode .DatetimeNode = false := impl_of_row rfl
@[simp] theorem impl_untypedQueryNode_Float64Node : impl .untypedQueryNode .Float64Node = false := impl_of_row rfl
@[simp] theorem impl_untypedQueryNode_Int64Node : impl .untypedQueryNode .Int64Node = false := impl_of_row rfl
@[simp] theorem impl_untypedQueryNode_Node : impl .untypedQueryNode .Node = true := impl_of_row rfl
@[simp] theorem impl_untypedQueryNode_Query : impl .untypedQueryNode .Query = false := impl_of_row rfl
@[simp] theorem impl_untypedQueryNode_SeekOptimizableBoolNode : impl .untypedQueryNode .SeekOptimizableBoolNode = false := impl_of_row rfl
@[simp] theorem impl_untypedQueryNode_SortField : impl .untypedQueryNode .SortField = false := impl_of_row rfl
@[simp] theorem impl_untypedQueryNode_StringNode : impl .untypedQueryNode .StringNode = false := impl_of_row rfl
@[simp] theorem impl_untypedQueryNode_SymbolNode : impl .untypedQueryNode .SymbolNode = false := impl_of_row rfl
@[simp] theorem impl_untypedQueryNode_TypeTransformable : impl .untypedQueryNode .TypeTransformable = false := impl_of_row rfl
@[simp] theorem getType_untypedQueryNode : getTypeConst .untypedQueryNode = some .bool := getType_of_row rfl

end StorageModel.C10
