import StorageModel.C10.Pipeline
/-
  C10 — process-wide configuration.  `ast.EnableQueryDebug` (an atomic.Bool nobody sets by default) switches on a
  debug branch inside ast.Parse.  The model carries the bit.  What the branch may touch is regenerated from
  ast/helper.go (`Generated.C10.astParseDebugReadsOnlyInput`, extract/c10_buckets.go): `true` = every statement guarded
  by `EnableQueryDebug.Load()` mentions only the parameters of Parse (the text, the symbol table), no local of the
  function — then the branch cannot see the (possibly nil) result.  `false` = it reads a local: the model then lets
  the branch call a method on the result, which for a filter refused AFTER the syntax check is a nil Query.
-/
namespace StorageModel.C10

structure Config where
  queryDebug : Bool
deriving DecidableEq, Repr

def parseModelCfg (debugReadsOnlyInput : Bool) (cfg : Config) (st : SymTab) (s : List Char) : Outcome T :=
  let r := parseModel st s
  if cfg.queryDebug && !debugReadsOnlyInput then
    match r with
    | .err e =>
      -- syntax errors are returned before the result exists
      if e == "syntax" then r else .panic "ast.Parse debug trace: method call on the nil Query of a refused filter"
    | _ => r
  else r

theorem parseModelCfg_independent (cfg : Config) (st : SymTab) (s : List Char) :
    parseModelCfg true cfg st s = parseModel st s := by
  simp [parseModelCfg]

theorem parseModelCfg_leaks (st : SymTab) (s : List Char) (e : String) (h : parseModel st s = .err e) (he : (e == "syntax") = false) :
    (parseModelCfg false ⟨true⟩ st s).isPanic = true ∧ parseModelCfg false ⟨false⟩ st s = .err e := by
  simp [parseModelCfg, h, he, Outcome.isPanic]

end StorageModel.C10
