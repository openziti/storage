import StorageModel.C10.Lex
/-
  C10 — the reference lexer of Lex.lean, for any rule table.  A successful run is a tokenisation
  (`Tokenises`): `rests` is sound for `Matches`, `shortest` / `pickFrom` return what some rule matched.
  An error is at a position where `pickFrom` finds nothing (`rests` is not shown complete for `Matches`).
  `GoodTable` is the decidable well-formedness of a table under which a character outside the recognised
  alphabet can only sit inside a STRING token.
-/
namespace StorageModel.C10

theorem starLoop_ind (step : List Char → List (List Char)) (P : List Char → Prop)
    (hstep : ∀ x y, P x → y ∈ step x → P y) (n : Nat) (fr acc : List (List Char)) :
    (∀ x ∈ fr, P x) → (∀ x ∈ acc, P x) → ∀ r ∈ starLoop step n fr acc, P r := by
  fun_induction starLoop step n fr acc
  all_goals intro hfr hacc
  · exact hacc
  · exact hacc
  · next new _ ih =>
    have hnew : ∀ x ∈ new, P x := by
      intro x hx
      obtain ⟨y, hy, hxy⟩ := List.mem_flatMap.mp (List.mem_eraseDups.mp (List.mem_filter.mp hx).1)
      exact hstep y x (hfr y hy) hxy
    exact ih hnew fun x hx => (List.mem_append.mp hx).elim (hacc x) (hnew x)

theorem Matches.star_append {a : Pat} {x y : List Char} (hx : Matches (.star a) x) (hy : Matches (.star a) y) :
    Matches (.star a) (x ++ y) := by
  generalize hp : Pat.star a = p at hy
  induction hy with
  | starNil => cases hp; simpa using hx
  | starSnoc h1 h2 ih1 _ =>
    cases hp
    rw [← List.append_assoc]
    exact .starSnoc (ih1 rfl) h2
  | _ => cases hp

/-- the `star` case of `rests_sound`; `plus a` is `a`, then `star a` -/
theorem rests_star_sound {a : Pat} (iha : ∀ s r, r ∈ rests a s → ∃ pre, s = pre ++ r ∧ Matches a pre) (s r : List Char)
    (h : r ∈ rests (.star a) s) : ∃ pre, s = pre ++ r ∧ Matches (.star a) pre := by
  simp only [rests] at h
  refine starLoop_ind (rests a) (fun x => ∃ pre, s = pre ++ x ∧ Matches (.star a) pre) ?_ _ [s] [s] ?_ ?_ r h
  · intro x y ⟨pre, hs, hm⟩ hy
    obtain ⟨w, hw, mw⟩ := iha x y hy
    exact ⟨pre ++ w, by rw [hs, hw, List.append_assoc], .starSnoc hm mw⟩
  all_goals intro x hx; simp only [List.mem_singleton] at hx; exact ⟨[], by simp [hx], .starNil⟩

theorem rests_sound : ∀ (p : Pat) (s r : List Char), r ∈ rests p s → ∃ pre, s = pre ++ r ∧ Matches p pre := by
  intro p
  induction p with
  | eps =>
    intro s r h
    simp only [rests, List.mem_singleton] at h
    exact ⟨[], by simp [h], .eps⟩
  | set cs =>
    intro s r h
    cases s with
    | nil => simp [rests] at h
    | cons c t =>
      simp only [rests] at h
      split at h
      · next hc =>
        simp only [List.mem_singleton] at h
        exact ⟨[c], by simp [h], .set hc⟩
      · simp at h
  | seq a b iha ihb =>
    intro s r h
    simp only [rests] at h
    obtain ⟨m, hm, hr⟩ := List.mem_flatMap.mp (List.mem_eraseDups.mp h)
    obtain ⟨p1, h1, m1⟩ := iha s m hm
    obtain ⟨p2, h2, m2⟩ := ihb m r hr
    exact ⟨p1 ++ p2, by rw [h1, h2, List.append_assoc], .seq m1 m2⟩
  | alt a b iha ihb =>
    intro s r h
    simp only [rests] at h
    rcases List.mem_append.mp (List.mem_eraseDups.mp h) with h | h
    · obtain ⟨p1, h1, m1⟩ := iha s r h; exact ⟨p1, h1, .altL m1⟩
    · obtain ⟨p1, h1, m1⟩ := ihb s r h; exact ⟨p1, h1, .altR m1⟩
  | opt a iha =>
    intro s r h
    simp only [rests] at h
    rcases List.mem_cons.mp (List.mem_eraseDups.mp h) with h | h
    · exact ⟨[], by simp [h], .optNone⟩
    · obtain ⟨p1, h1, m1⟩ := iha s r h; exact ⟨p1, h1, .optSome m1⟩
  | star a iha => exact rests_star_sound iha
  | plus a iha =>
    intro s r h
    simp only [rests] at h
    obtain ⟨m, hm, hr⟩ := List.mem_flatMap.mp (List.mem_eraseDups.mp h)
    obtain ⟨p1, h1, m1⟩ := iha s m hm
    obtain ⟨p2, h2, m2⟩ := rests_star_sound iha m r hr
    exact ⟨p1 ++ p2, by rw [h1, h2, List.append_assoc], .plus m1 m2⟩

theorem shortest_spec (s : List Char) (l : List (List Char)) : ∀ r, shortest s l = some r → r ∈ l ∧ r.length < s.length := by
  fun_induction shortest s l
  all_goals intro r h; try cases h
  next hlt _ => exact ⟨List.mem_cons_self .., hlt⟩
  next b hb hlt ih => exact ⟨List.mem_cons_self .., Nat.lt_trans hlt (ih b hb).2⟩
  next b hb _ ih => exact ⟨List.mem_cons_of_mem _ (ih b hb).1, (ih b hb).2⟩

theorem longest_spec {p : Pat} {s r : List Char} (h : longest p s = some r) :
    r.length < s.length ∧ ∃ pre, s = pre ++ r ∧ Matches p pre := by
  have ⟨hm, hl⟩ := shortest_spec s _ r h
  exact ⟨hl, rests_sound p s r hm⟩

theorem pickFrom_spec (s : List Char) (rs : List (TK × Pat)) : ∀ (k : TK) (r : List Char),
    pickFrom s rs = some (k, r) → ∃ p, (k, p) ∈ rs ∧ longest p s = some r := by
  fun_induction pickFrom s rs
  all_goals intro k r h; try cases h
  next ih => exact (ih k r h).imp fun _ hp => ⟨List.mem_cons_of_mem _ hp.1, hp.2⟩
  next hl _ => exact ⟨_, List.mem_cons_self .., hl⟩
  next hs _ _ ih => exact (ih _ _ hs).imp fun _ hp => ⟨List.mem_cons_of_mem _ hp.1, hp.2⟩
  next hl _ _ => exact ⟨_, List.mem_cons_self .., hl⟩

theorem pickFrom_matches {rules : List (TK × Pat)} {s r : List Char} {k : TK} (h : pickFrom s rules = some (k, r)) :
    r.length < s.length ∧ ∃ p pre, (k, p) ∈ rules ∧ s = pre ++ r ∧ Matches p pre := by
  obtain ⟨p, hp, hl⟩ := pickFrom_spec s rules k r h
  obtain ⟨hlt, pre, hs, hm⟩ := longest_spec hl
  exact ⟨hlt, p, pre, hp, hs, hm⟩

theorem take_of_append {s pre r : List Char} (h : s = pre ++ r) : s.take (s.length - r.length) = pre := by
  subst h; simp

/-- what a successful run of the lexer returns: a tokenisation of the input in which every token
    text is matched by the rule of its kind -/
inductive Tokenises (rules : List (TK × Pat)) : List Char → List Token → Prop where
  | nil : Tokenises rules [] []
  | cons {s r pre k p ts} : (k, p) ∈ rules → Matches p pre → pre ≠ [] → s = pre ++ r → Tokenises rules r ts →
      Tokenises rules s (⟨k, pre⟩ :: ts)

theorem lexAuxWith_tokenises (rules : List (TK × Pat)) (n : Nat) (s : List Char) (pos : Nat) : ∀ ts,
    lexAuxWith rules n s pos = .ok ts → Tokenises rules s ts := by
  fun_induction lexAuxWith rules n s pos
  all_goals intro ts h; try cases h
  · exact .nil
  · next hp text _ hrec ih =>
    obtain ⟨hlt, p, pre, hmem, hs, hm⟩ := pickFrom_matches hp
    have hne : pre ≠ [] := by
      intro hnil; subst hnil; simp at hs; rw [hs] at hlt; omega
    rw [show text = pre from take_of_append hs]
    exact .cons hmem hm hne hs (ih _ hrec)

theorem Tokenises.flatten {rules s ts} (h : Tokenises rules s ts) : (ts.map (·.text)).flatten = s := by
  induction h with
  | nil => rfl
  | cons _ _ _ hs _ ih => simp [ih, hs]

/-- the fuel hypothesis is what `lexWith` provides -/
theorem lexAuxWith_error (rules : List (TK × Pat)) (n : Nat) (s : List Char) (pos : Nat) : ∀ e, s.length < n →
    lexAuxWith rules n s pos = .error e →
    ∃ pre rest, s = pre ++ rest ∧ rest ≠ [] ∧ e = pos + pre.length ∧ pickFrom rest rules = none := by
  fun_induction lexAuxWith rules n s pos
  all_goals intro e hn h; try cases h
  · omega
  · next hp => exact ⟨[], _, rfl, by simp, rfl, hp⟩
  · next hp text _ hrec ih =>
    obtain ⟨hlt, p, pre, hmem, hs, hm⟩ := pickFrom_matches hp
    obtain ⟨pre2, rest, hr, hne, he, hpick⟩ := ih _ (by simp only [List.length_cons] at hn hlt; omega) hrec
    refine ⟨pre ++ pre2, rest, by rw [hs, hr, List.append_assoc], hne, ?_, hpick⟩
    rw [he, show text = pre from take_of_append hs]; simp; omega

theorem pickFrom_none (s : List Char) (rs : List (TK × Pat)) : pickFrom s rs = none →
    ∀ kp ∈ rs, longest kp.2 s = none := by
  fun_induction pickFrom s rs
  all_goals intro h; try cases h
  · intro kp hm; cases hm
  · next hl ih => exact List.forall_mem_cons.mpr ⟨hl, ih h⟩

def posRanges : Pat → Option (List (Nat × Nat))
  | .eps => some []
  | .set cs => if cs.neg then none else some cs.ranges
  | .seq a b => do let x ← posRanges a; let y ← posRanges b; pure (x ++ y)
  | .alt a b => do let x ← posRanges a; let y ← posRanges b; pure (x ++ y)
  | .opt a => posRanges a
  | .star a => posRanges a
  | .plus a => posRanges a

theorem inRanges_append (a b : List (Nat × Nat)) (c : Char) :
    inRanges (a ++ b) c = (inRanges a c || inRanges b c) := by
  simp [inRanges, List.any_append]

theorem posRanges_append_eq_some {oa ob : Option (List (Nat × Nat))} {rs : List (Nat × Nat)}
    (h : (do let x ← oa; let y ← ob; pure (x ++ y)) = some rs) : ∃ x y, oa = some x ∧ ob = some y ∧ rs = x ++ y := by
  cases oa with
  | none => cases h
  | some x =>
    cases ob with
    | none => cases h
    | some y => cases h; exact ⟨x, y, rfl, rfl, rfl⟩

/-- a pattern without negated sets consumes only characters of its ranges -/
theorem Matches.mem_posRanges {p : Pat} {w : List Char} (h : Matches p w) :
    ∀ rs, posRanges p = some rs → ∀ c ∈ w, inRanges rs c = true := by
  induction h with
  | eps | optNone | starNil => intro _ _ c hc; cases hc
  | set hm =>
    intro rs hr c hc
    simp only [posRanges] at hr
    split at hr
    · cases hr
    · next hneg =>
      cases hr; simp only [List.mem_singleton] at hc; subst hc
      simpa [CharSet.mem, hneg] using hm
  | altL _ ih =>
    intro rs hr c hc
    obtain ⟨x, y, ha, _, rfl⟩ := posRanges_append_eq_some hr
    simp [inRanges_append, ih x ha c hc]
  | altR _ ih =>
    intro rs hr c hc
    obtain ⟨x, y, _, hb, rfl⟩ := posRanges_append_eq_some hr
    simp [inRanges_append, ih y hb c hc]
  | seq _ _ ih1 ih2 =>
    intro rs hr c hc
    obtain ⟨x, y, ha, hb, rfl⟩ := posRanges_append_eq_some hr
    rw [inRanges_append, Bool.or_eq_true]
    exact (List.mem_append.mp hc).imp (ih1 x ha c) (ih2 y hb c)
  | optSome _ ih => exact ih
  | starSnoc _ _ ih1 ih2 | plus _ _ ih1 ih2 =>
    intro rs hr c hc
    exact (List.mem_append.mp hc).elim (ih1 rs hr c) (ih2 rs hr c)

/-- a superset of the code points that occur in a token other than STRING: white space,
    `! ' ( ) + , - . 0-9 : < = > A-Z [ ] _ a-z`, and `"` and `\`, which no rule but STRING has
    (they keep `32–34` and `65–93` one range each) -/
def recognisedRanges : List (Nat × Nat) :=
  [(9, 10), (13, 13), (32, 34), (39, 41), (43, 46), (48, 58), (60, 62), (65, 93), (95, 95), (97, 122)]

def recognised (c : Char) : Bool := inRanges recognisedRanges c

def rangesWithin (rs big : List (Nat × Nat)) : Bool :=
  rs.all fun r => big.any fun b => b.1 ≤ r.1 && r.2 ≤ b.2

theorem inRanges_within {rs big : List (Nat × Nat)} (h : rangesWithin rs big = true) (c : Char)
    (hc : inRanges rs c = true) : inRanges big c = true := by
  simp only [inRanges, List.any_eq_true, Bool.and_eq_true, decide_eq_true_eq] at hc ⊢
  obtain ⟨r, hr, h1, h2⟩ := hc
  simp only [rangesWithin, List.all_eq_true, List.any_eq_true, Bool.and_eq_true, decide_eq_true_eq] at h
  obtain ⟨b, hb, hb1, hb2⟩ := h r hr
  exact ⟨b, hb, by omega, by omega⟩

/-- every rule except STRING only consumes recognised characters (checked on the rule table) -/
def ruleAlphabetOk (kp : TK × Pat) : Bool :=
  kp.1 == .STRING ||
    match posRanges kp.2 with
    | some rs => rangesWithin rs recognisedRanges
    | none => false

def nullable : Pat → Bool
  | .eps => true
  | .set _ => false
  | .seq a b => nullable a && nullable b
  | .alt a b => nullable a || nullable b
  | .opt _ => true
  | .star _ => true
  | .plus a => nullable a

/-- **well-formedness of a lexer rule table** (decidable; instantiated by `decide` at the table
    compiled from the regenerated grammar file):
    * there is exactly one rule per token type, in the order of the ANTLR token numbers
      (`TK.num`), so "the rule of a token's kind" is well defined and the numbers the harness
      compares are the positions in the table;
    * no rule is `nullable` (ANTLR rejects a token rule that can match the empty string; no theorem
      needs this clause: that a token is never empty comes from `shortest`);
    * every rule except STRING consumes only characters of the recognised alphabet, and contains
      no negated set. -/
def GoodTable (rules : List (TK × Pat)) : Bool :=
  rules.map (·.1) == TK.all && rules.all (fun kp => !nullable kp.2) && rules.all ruleAlphabetOk

theorem GoodTable.kinds {rules} (h : GoodTable rules = true) : rules.map (·.1) = TK.all := by
  simp only [GoodTable, Bool.and_eq_true, beq_iff_eq] at h; exact h.1.1

theorem GoodTable.alphabet {rules} (h : GoodTable rules = true) : ∀ kp ∈ rules, ruleAlphabetOk kp = true := by
  simp only [GoodTable, Bool.and_eq_true, List.all_eq_true] at h; exact h.2

theorem TK.all_nodup : TK.all.Nodup := by decide +kernel

theorem TK.mem_all (k : TK) : k ∈ TK.all := by cases k <;> decide +kernel

theorem GoodTable.rule_unique {rules} (h : GoodTable rules = true) {k : TK} {p q : Pat}
    (hp : (k, p) ∈ rules) (hq : (k, q) ∈ rules) : p = q := by
  have hnd : (rules.map (·.1)).Nodup := by rw [GoodTable.kinds h]; exact TK.all_nodup
  clear h
  induction rules with
  | nil => cases hp
  | cons x xs ih =>
    simp only [List.map_cons, List.nodup_cons, List.mem_map, not_exists, not_and] at hnd
    rcases List.mem_cons.mp hp with rfl | hp'
    · rcases List.mem_cons.mp hq with hq' | hq'
      · cases hq'; rfl
      · exact absurd rfl (hnd.1 (k, q) hq')
    · rcases List.mem_cons.mp hq with rfl | hq'
      · exact absurd rfl (hnd.1 (k, p) hp')
      · exact ih hp' hq' hnd.2

theorem Tokenises.recognised {rules s ts} (hg : GoodTable rules = true) (ht : Tokenises rules s ts) :
    ∀ t ∈ ts, t.kind ≠ .STRING → ∀ c ∈ t.text, recognised c = true := by
  induction ht with
  | nil => intro t ht; cases ht
  | cons hmem hm _ _ _ ih =>
    intro t ht hk c hc
    rcases List.mem_cons.mp ht with rfl | ht'
    · have hok := GoodTable.alphabet hg _ hmem
      simp only [ruleAlphabetOk, Bool.or_eq_true, beq_iff_eq] at hok
      rcases hok with hs | hr
      · exact absurd hs hk
      · split at hr
        · next rs hrs => exact inRanges_within hr c (hm.mem_posRanges rs hrs c hc)
        · cases hr
    · exact ih t ht' hk c hc

theorem GoodTable.rule_exists {rules} (h : GoodTable rules = true) (k : TK) : ∃ p, (k, p) ∈ rules := by
  have hk : k ∈ rules.map (·.1) := by rw [GoodTable.kinds h]; exact TK.mem_all k
  obtain ⟨kp, hm, rfl⟩ := List.mem_map.mp hk
  exact ⟨kp.2, hm⟩

end StorageModel.C10
