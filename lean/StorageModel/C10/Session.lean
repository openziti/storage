import StorageModel.C10.Pipeline
import StorageModel.C10.Dump
import StorageModel.C10.ClassFacts
/-
  C10 — HISTORIES of `ast.Parse` calls in one process (ast/helper.go Parse, ast/bolt_listener.go
  NewListener / getQuery, zitiql/util.go parse).

  `parseModel` is one call of ast.Parse seen in isolation.  The property speaks about every input
  string whatever was parsed before it, so this file models a sequence of calls and the one piece of
  ast-level state a call can find lying around: a ToBoltListener (its operand stacks and its error
  latch) left behind by an earlier call.

  * `listenerAtEntry perCall found`: the listener a call walks the tree with.  `perCall = true` is
    the code as it is (`listener := NewListener()` inside Parse: empty stacks, latch clear) — the flag
    is regenerated from the source as `Generated.C10.astParseListenerPerCall`.  For `false` the
    listener is whatever an earlier call left (the worst case of every policy other than
    construction per call).
  * a call on text that is NOT a sentence still walks a tree: `zitiql.parse` walks the
    error-recovered tree before the collected errors are looked at.  ANTLR's recovery is not
    modelled; the callback sequence of that walk is a parameter (`recEvs`, ANY event list), and the
    listener is left in the state that sequence drives it to.
-/
namespace StorageModel.C10

/-- the walk of a listener that starts in state `st0`, then `getQuery` up to PostProcess -/
def listenFrom (st0 : LState) (evs : List Ev) : Outcome U :=
  match run st0 evs with
  | .ok st => getQueryU st
  | .err e => .err e
  | .panic s => .panic s

theorem listenFrom_init (evs : List Ev) : listenFrom .init evs = listen evs := rfl

/-- the state a walk leaves the listener in.  `run` has no `.err` outcome, and a walk that panics in an
    array exit leaves nothing to go on from (the panic leaves ast.Parse): `st0`, the state before the
    whole walk, only fills that place -/
def stateAfterWalk (st0 : LState) (evs : List Ev) : LState :=
  match run st0 evs with
  | .ok st => st
  | _ => st0

/-- `getQuery`'s effect on the listener: nothing when the latch is set, else `popNode` -/
def afterGetQuery (st : LState) : LState := if st.err then st else (popNode st).2

/-- the listener a call of ast.Parse hands to zitiql.Parse -/
def listenerAtEntry (perCall : Bool) (found : LState) : LState := if perCall then .init else found

deriving instance DecidableEq for Outcome

/-- the front half of a call, up to PostProcess, with a listener that starts in `entry`: syntax
    error, listener error, or the untyped query -/
def untypedFrom (entry : LState) (s : List Char) : Outcome U :=
  match lex s with
  | .error _ => .err "syntax"
  | .ok ts =>
    match parseStart ts with
    | none => .err "syntax"
    | some tree =>
      match listenFrom entry tree.events with
      | .ok u => .ok u
      | .err _ => .err "listener"
      | .panic p => .panic p

/-- the state the listener is left in: after `getQuery` for a sentence, after the walk of the
    recovered tree otherwise -/
def leftover (entry : LState) (s : List Char) (recEvs : List Ev) : LState :=
  match lex s with
  | .error _ => stateAfterWalk entry recEvs
  | .ok ts =>
    match parseStart ts with
    | none => stateAfterWalk entry recEvs
    | some tree => afterGetQuery (stateAfterWalk entry tree.events)

/-- one call of `ast.Parse(symbols, s)`: `found` = the listener state earlier calls left behind,
    `recEvs` = the callback sequence of the error-recovered tree if `s` is not a sentence.
    Returns the result and the listener state this call leaves behind. -/
def parseCall (perCall : Bool) (found : LState) (st : SymTab) (s : List Char) (recEvs : List Ev) : Outcome T × LState :=
  if s.isEmpty then (.ok (.query (.boolC true) (some []) none none), found) else
  let entry := listenerAtEntry perCall found
  (match untypedFrom entry s with
    | .ok u => postProcess st u
    | .err e => .err e
    | .panic p => .panic p,
   leftover entry s recEvs)

/-- one element of a history: the symbol table of the store queried, the text, and (for text that
    is not a sentence) the callbacks of the recovered tree -/
structure Call where
  symbols : SymTab
  text : List Char
  recEvs : List Ev

/-- a sequence of calls in one process: the results, in order -/
def parseHistory (perCall : Bool) : LState → List Call → List (Outcome T)
  | _, [] => []
  | found, c :: rest =>
    (parseCall perCall found c.symbols c.text c.recEvs).1 ::
      parseHistory perCall (parseCall perCall found c.symbols c.text c.recEvs).2 rest

/-- what the property demands of a history: every call answers as if it were the only one -/
def standalone (h : List Call) : List (Outcome T) := h.map fun c => parseModel c.symbols c.text

theorem parseCall_perCall (found : LState) (st : SymTab) (s : List Char) (recEvs : List Ev) :
    (parseCall true found st s recEvs).1 = parseModel st s := by
  unfold parseCall parseModel
  split
  · rfl
  · simp only [listenerAtEntry, if_true, untypedFrom]
    cases lex s with
    | error e => rfl
    | ok ts =>
      simp only
      cases parseStart ts with
      | none => rfl
      | some tree =>
        simp only [listenFrom_init]
        cases listen tree.events <;> rfl

theorem parseHistory_perCall (found : LState) (h : List Call) : parseHistory true found h = standalone h := by
  induction h generalizing found with
  | nil => rfl
  | cons c rest ih =>
    simp only [parseHistory, standalone, List.map_cons, parseCall_perCall]
    exact congrArg _ (ih _)

def noSymbols : SymTab := .mk (fun _ => none) (fun _ => none) (fun _ => none)

/-- `true )` is rejected (ANTLR drops the `)`; the recovered tree is walked: BOOL, ExitQueryStmt;
    getQuery is not reached) — then the predicate-less `limit 5` -/
def leakHistory : List Call :=
  [⟨noSymbols, "true )".toList, [.term .BOOL "true".toList, .xQ]⟩, ⟨noSymbols, "limit 5".toList, []⟩]

def staleState : LState := ⟨[], [.node (.query (.boolC true) .noSort none none)], false⟩

deriving instance DecidableEq for Except

/-- the reference lexer on the sample texts of C10, evaluated together so that `rules` is compiled
    from the grammar file once (that compilation is most of the work of running the lexer) -/
theorem lex_samples :
    lex "a = 1 @".toList = .error 6 ∧
    lex "a = 1".toList = .ok [⟨.IDENTIFIER, ['a']⟩, ⟨.WS, [' ']⟩, ⟨.EQ, ['=']⟩, ⟨.WS, [' ']⟩, ⟨.NUMBER, ['1']⟩] ∧
    lex "true".toList = .ok [⟨.BOOL, "true".toList⟩] ∧
    lex "true )".toList = .ok [⟨.BOOL, "true".toList⟩, ⟨.WS, [' ']⟩, ⟨.RPAREN, [')']⟩] ∧
    lex "limit 5".toList = .ok [⟨.LIMIT_ROWS, "limit".toList⟩, ⟨.WS, [' ']⟩, ⟨.NUMBER, ['5']⟩] := by
  decide +kernel

/-- The three closed evaluations behind `leak_history`: the texts are lexed in `lex_samples`; what is
    evaluated here is the recogniser on the tokens and the listener's walk from the state it finds. -/
theorem leak_evals :
    (parseCall false .init noSymbols "true )".toList [.term .BOOL "true".toList, .xQ]).2 = staleState ∧
    untypedFrom staleState "limit 5".toList = .ok (.query (.query (.boolC true) .noSort none none) .noSort none (some 5)) ∧
    untypedFrom .init "limit 5".toList = .ok (.query (.boolC true) .noSort none (some 5)) := by
  refine ⟨?_, ?_⟩
  · simp only [parseCall]
    rw [leftover, lex_samples.2.2.2.1]
    decide +kernel
  · rw [untypedFrom, untypedFrom, lex_samples.2.2.2.2]
    decide +kernel

theorem leak_leftover : (parseCall false .init noSymbols "true )".toList [.term .BOOL "true".toList, .xQ]).2 = staleState :=
  leak_evals.1

theorem postProcess_limit (st : SymTab) :
    postProcess st (.query (.boolC true) .noSort none (some 5)) = .ok (.query (.boolC true) none none (some 5)) := by
  have hv : validate ⟨false, st, false, [], none⟩ (.query (.boolC true) .noSort none (some 5)) =
      .ok ⟨false, st, false, [], none⟩ := rfl
  simp [postProcess, hv, typeTransformBool, transformTypes, keep, bind, Outcome.bind, U.cls, T.cls]

theorem postProcess_leak (st : SymTab) :
    postProcess st (.query (.query (.boolC true) .noSort none none) .noSort none (some 5))
      = .ok (.query (.query (.boolC true) none none none) none none (some 5)) := by
  have hv : validate ⟨false, st, false, [], none⟩ (.query (.query (.boolC true) .noSort none none) .noSort none (some 5)) =
      .ok ⟨false, st, false, [], none⟩ := rfl
  simp [postProcess, hv, typeTransformBool, transformTypes, keep, bind, Outcome.bind, U.cls, T.cls]

theorem parseCall_fst (perCall : Bool) (found : LState) (st : SymTab) (s : List Char) (recEvs : List Ev) (h : s.isEmpty = false) :
    (parseCall perCall found st s recEvs).1 =
      match untypedFrom (listenerAtEntry perCall found) s with
      | .ok u => postProcess st u
      | .err e => .err e
      | .panic p => .panic p := by
  unfold parseCall
  simp [h]

/-- the second call of `leakHistory` with a listener that outlives its call: the stale query of the
    rejected text has become the predicate of `limit 5` -/
theorem leak_second_call :
    (parseCall false staleState noSymbols "limit 5".toList []).1
      = .ok (.query (.query (.boolC true) none none none) none none (some 5)) := by
  rw [parseCall_fst _ _ _ _ _ (by decide)]
  have h : listenerAtEntry false staleState = staleState := rfl
  rw [h, leak_evals.2.1]
  exact postProcess_leak _

theorem alone_second_call : parseModel noSymbols "limit 5".toList = .ok (.query (.boolC true) none none (some 5)) := by
  rw [← parseCall_perCall .init noSymbols "limit 5".toList [], parseCall_fst _ _ _ _ _ (by decide)]
  have h : listenerAtEntry true .init = .init := rfl
  rw [h, leak_evals.2.2]
  exact postProcess_limit _

/-- with a listener that is reused as it was left, the history `true )`, `limit 5` is NOT answered
    call by call as the texts alone are -/
theorem leak_history : parseHistory false .init leakHistory ≠ standalone leakHistory := by
  intro h
  simp only [leakHistory, parseHistory, standalone, List.map_cons, List.map_nil, leak_leftover, leak_second_call,
    alone_second_call, List.cons.injEq] at h
  have := h.2.1
  injection this with h1
  injection h1 with h2
  cases h2

/-- the predicate of an untyped query result -/
def predOf : Outcome U → Option U
  | .ok (.query p _ _ _) => some p
  | _ => none

def traces (rs : List (Outcome T)) : List (List String) :=
  rs.map fun r => match r with
    | .ok t => t.trace
    | .err e => ["err", e]
    | .panic p => ["panic", p]

end StorageModel.C10
