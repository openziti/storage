import StorageModel.C10.BoltSortProofs
import StorageModel.Generated.C10Buckets
/-
  C10 — the read APIs of a boltz store against a database file in which structural buckets were NEVER
  created (boltz/query_scanners.go Scan / ScanCursor of both scanners, boltz/store_query.go QueryIdsC,
  QueryWithCursorC, IterateIds, IterateValidIds, boltz/store.go GetEntitiesBucket / GetEntityBucket,
  boltz/store_crud.go FindById, GetRelatedEntitiesIdList, GetRelatedEntitiesCursor, boltz/indexes.go
  uniqueIndex.Read / setIndex.Read).

  A bucket that does not exist is a nil `*TypedBucket` (`Option Unit` here).  Of the methods the read path calls on
  one, only `GetBucket`, `GetBucketByKey`, `GetPath` and `GetStringList` are safe on a nil receiver (the regenerated
  `Generated.C10.nilSafeMethods` must list them); every other member selected on a bucket that may be nil is a
  `panic` branch (`recv`).  Whether the code tests for nil first is NOT assumed: the `Guards` are read from the regenerated site
  inventory `Generated.C10.bucketSites` (extract/c10_buckets.go).  What a scan over EXISTING buckets returns is the
  business of the other models (`Ans.scanned`).
-/
namespace StorageModel.C10

/-- the structural buckets of the database file, seen from the store and the id a read API is called with -/
structure Buckets where
  /-- base path + entity type (for a child store: the parent's) -/
  entities : Bool
  /-- the entity bucket of the id asked for (meaningful only below `entities`) -/
  entity : Bool
  /-- child store: its data path inside the entity bucket -/
  childData : Bool
  /-- the set / link field bucket inside the entity bucket -/
  field : Bool
  /-- the index bucket -/
  index : Bool
deriving DecidableEq, Repr

/-- does the code test for nil before it selects a member on the bucket -/
structure Guards where
  scanUnique : Bool
  scanSorting : Bool
  iterateIds : Bool
  findById : Bool
  relatedCursor : Bool
  setIndexRead : Bool
  /-- `TypedBucket.GetBucket`, `GetBucketByKey`, `GetPath`, `GetStringList` are safe on a nil receiver -/
  getBucketNilSafe : Bool
deriving DecidableEq, Repr

def Guards.all : Guards := ⟨true, true, true, true, true, true, true⟩

/-- the functions of the read path the model attributes sites to -/
def scanKnownFuncs : List String :=
  ["uniqueIndexScanner.Scan", "sortingScanner.Scan", "BaseStore.IterateIds", "BaseStore.FindById", "BaseStore.LoadById",
   "BaseStore.LoadEntity", "BaseStore.GetRelatedEntitiesCursor", "BaseStore.IsEntityRelated", "setIndex.Read", "setIndex.ReadKeys",
   "setIndex.OpenKeyCursor", "setIndex.OpenValueCursor", "linkCollectionImpl.IterateLinks", "LinkedSetSymbol.IsLinked",
   "TypedBucket.GetMap", "TypedBucket.GetStringList", "TypedBucket.IsStringListEmpty", "TypedBucket.getMarshaled",
   "entitySetSymbolImpl.openBoltCursor"]

/-- every site of `funcs` — and of any function of `file` the model does not know (a helper the sites moved
    into) — is guarded -/
def sitesGuarded (sites : List (String × String × String × Nat × Bool)) (file : String) (funcs : List String) : Bool :=
  sites.all fun s =>
    !(s.1 == file && (funcs.contains s.2.1 || !scanKnownFuncs.contains s.2.1)) || s.2.2.2.2

def guardsOf (sites : List (String × String × String × Nat × Bool)) (nilSafe : List String) : Guards where
  scanUnique := sitesGuarded sites "boltz/query_scanners.go" ["uniqueIndexScanner.Scan"]
  scanSorting := sitesGuarded sites "boltz/query_scanners.go" ["sortingScanner.Scan"]
  iterateIds := sitesGuarded sites "boltz/store_query.go" ["BaseStore.IterateIds"]
  findById := sitesGuarded sites "boltz/store_crud.go" ["BaseStore.FindById", "BaseStore.LoadById", "BaseStore.LoadEntity"]
  relatedCursor := sitesGuarded sites "boltz/store_crud.go" ["BaseStore.GetRelatedEntitiesCursor", "BaseStore.IsEntityRelated"]
  setIndexRead := sitesGuarded sites "boltz/indexes.go" ["setIndex.Read"]
  getBucketNilSafe := nilSafe.contains "GetBucket" && nilSafe.contains "GetBucketByKey" && nilSafe.contains "GetPath"
    && nilSafe.contains "GetStringList"

/-- the guards of the code as it is -/
def codeGuards : Guards := guardsOf Generated.C10.bucketSites Generated.C10.nilSafeMethods

/-- a cursor handed to `ScanCursor`: Go nil, a cursor over nothing, a cursor over rows -/
inductive Cur where
  | nilC | emptyC | rowsC
deriving DecidableEq, Repr

/-- `empty`: no row / not found / nil; `scanned`: the call went on to read existing buckets -/
inductive Ans where
  | empty | scanned
deriving DecidableEq, Repr

/-- a member selected on a `*TypedBucket` by a method that does not test its receiver -/
def recv (site : String) (p : Option Unit) : Outcome Unit := deref site p

def optOf (b : Bool) : Option Unit := if b then some () else none

def curAns : Cur → Ans
  | .rowsC => .scanned
  | _ => .empty          -- `cursor == nil` → `return nil, 0, nil`; an empty cursor: `!cursor.IsValid()` at once

/-- `uniqueIndexScanner.ScanCursor` -/
def scanCursorUnique (c : Cur) (skip limit : Option Int) : Outcome Ans :=
  setPaging skip limit >>= fun _ => .ok (curAns c)

/-- `sortingScanner.ScanCursor`: the comparator is built BEFORE the cursor is asked for -/
def scanCursorSorting (c : Cur) (sortSyms : List (SortSym × Bool)) (skip limit : Option Int) : Outcome Ans :=
  setPaging skip limit >>= fun _ =>
  newRowComparator (sortSyms ++ [(.typed .string, true)]) >>= fun _ => .ok (curAns c)

/-- the cursor `entityBucket.OpenCursor` yields on an existing entities bucket -/
def entitiesCursor (b : Buckets) : Cur := if b.entity then .rowsC else .emptyC

/-- `Scan` of either scanner: `entityBucket := store.GetEntitiesBucket(tx)`, then — guarded — `if entityBucket == nil
    { return nil, 0, nil }`, then the method value `entityBucket.OpenCursor` -/
def scanEntry (guarded : Bool) (b : Buckets) (k : Cur → Outcome Ans) : Outcome Ans :=
  if guarded && !b.entities then .ok .empty
  else recv "GetEntitiesBucket(tx).OpenCursor" (optOf b.entities) >>= fun _ => k (entitiesCursor b)

structure Q where
  /-- per sort field: (symbol is `id`, ascending) -/
  sort : List (Bool × Bool)
  sortSyms : List (SortSym × Bool)
  skip : Option Int
  limit : Option Int
  /-- the store is a child store / an extended child store -/
  child : Bool
  extended : Bool

/-- `BaseStore.QueryIdsC` -/
def queryIdsC (g : Guards) (b : Buckets) (q : Q) : Outcome Ans :=
  newScanner q.sort >>= fun k =>
  match k with
  | .sorting => scanEntry g.scanSorting b fun c => scanCursorSorting c q.sortSyms q.skip q.limit
  | _ => scanEntry g.scanUnique b fun c => scanCursorUnique c q.skip q.limit

/-- `BaseStore.QueryWithCursorC` with whatever the caller's provider yields -/
def queryWithCursorC (c : Cur) (q : Q) : Outcome Ans :=
  newScanner q.sort >>= fun k =>
  match k with
  | .sorting => scanCursorSorting c q.sortSyms q.skip q.limit
  | _ => scanCursorUnique c q.skip q.limit

/-- `BaseStore.GetEntityBucket`: `baseBucket.GetBucket(id)` on a possibly nil base bucket, and for a child store
    `if entityBucket == nil { return nil }`, `entityBucket.GetPath(...)` -/
def getEntityBucket (g : Guards) (b : Buckets) (child : Bool) : Outcome (Option Unit) :=
  (if g.getBucketNilSafe then .ok () else recv "baseBucket.GetBucket" (optOf b.entities)) >>= fun _ =>
  let eb := optOf (b.entities && b.entity)
  if !child then .ok eb
  else if eb.isNone then .ok none
  else .ok (optOf b.childData)

/-- `BaseStore.IterateIds` (newFilteredCursor sets the paging of a Query filter) -/
def iterateIds (g : Guards) (b : Buckets) (q : Q) : Outcome Ans :=
  if g.iterateIds && !b.entities then .ok .empty
  else recv "entitiesBucket.OpenSeekableCursor" (optOf b.entities) >>= fun _ =>
    setPaging q.skip q.limit >>= fun _ => .ok (curAns (entitiesCursor b))

/-- `BaseStore.IterateValidIds`: for an extended store every id is looked up with GetEntityBucket -/
def iterateValidIds (g : Guards) (b : Buckets) (q : Q) : Outcome Ans :=
  iterateIds g b q >>= fun a =>
  match a with
  | .empty => .ok .empty
  | .scanned => if q.extended then getEntityBucket g b q.child >>= fun _ => .ok .scanned else .ok .scanned

/-- `BaseStore.FindById` through getEntityBucketForLoad -/
def findById (g : Guards) (b : Buckets) (q : Q) : Outcome Ans :=
  getEntityBucket g b q.child >>= fun bk =>
  (if bk.isNone && q.extended then getEntityBucket g b false else .ok bk) >>= fun bk =>
  if g.findById && bk.isNone then .ok .empty
  else recv "bucket.HasError" bk >>= fun _ => .ok .scanned

/-- `BaseStore.GetRelatedEntitiesIdList`: `bucket.GetStringList(field)` is nil-safe down to the list bucket -/
def relatedIds (g : Guards) (b : Buckets) (q : Q) : Outcome Ans :=
  getEntityBucket g b q.child >>= fun bk =>
  if bk.isNone then .ok .empty else .ok (if b.field then .scanned else .empty)

/-- `BaseStore.GetRelatedEntitiesCursor` -/
def relatedCursor (g : Guards) (b : Buckets) (q : Q) : Outcome Ans :=
  getEntityBucket g b q.child >>= fun bk =>
  if bk.isNone then .ok .empty
  else if g.relatedCursor && !b.field then .ok .empty
  else recv "listBucket.OpenTypedCursor" (optOf b.field) >>= fun _ => .ok .scanned

/-- `setIndex.Read`: `Path(tx, indexPath...)`, `indexBaseBucket.Bucket.Bucket(key)` -/
def setIndexRead (g : Guards) (b : Buckets) : Outcome Ans :=
  if g.setIndexRead && !b.index then .ok .empty
  else recv "indexBaseBucket.Bucket" (optOf b.index) >>= fun _ => .ok .scanned

/-- `uniqueIndex.Read`: getIndexBucket never yields nil — a missing index bucket becomes `GetOrCreatePath`, which in a
    read-only transaction is an `ErrBucket` (`indexBucket.Err != nil` → nil answer) -/
def uniqueIndexRead (b : Buckets) : Outcome Ans :=
  if !b.index then .ok .empty else .ok .scanned

inductive Api where
  | queryIdsC | queryCursor (c : Cur) | iterateIds | iterateValidIds | findById | relatedIds | relatedCursor
  | uniqueRead | setRead
deriving DecidableEq, Repr

def readApi (g : Guards) (api : Api) (b : Buckets) (q : Q) : Outcome Ans :=
  match api with
  | .queryIdsC => queryIdsC g b q
  | .queryCursor c => queryWithCursorC c q
  | .iterateIds => iterateIds g b q
  | .iterateValidIds => iterateValidIds g b q
  | .findById => findById g b q
  | .relatedIds => relatedIds g b q
  | .relatedCursor => relatedCursor g b q
  | .uniqueRead => uniqueIndexRead b
  | .setRead => setIndexRead g b

/-- can the answer contain rows -/
def Outcome.rows : Outcome Ans → Bool
  | .ok .scanned => true
  | _ => false

/-- the structural bucket the API starts from does not exist -/
def Api.missing (api : Api) (b : Buckets) : Bool :=
  match api with
  | .queryCursor c => c != .rowsC
  | .uniqueRead | .setRead => !b.index
  | _ => !b.entities

theorem rows_bind {α} (x : Outcome α) (f : α → Outcome Ans) (hf : ∀ a, x = .ok a → (f a).rows = false) :
    (x >>= f).rows = false := by
  cases x with
  | ok a => simpa using hf a rfl
  | err e => rfl
  | panic p => rfl

/-- `true && !x` is what a guard `g.… && !b.…` is under `Guards.all`, by unfolding alone: in this shape the lemma
    (and `guarded_missing` below) applies to the bodies of the APIs as they stand -/
theorem np_guarded_recv (site : String) (x : Bool) (k : Unit → Outcome Ans) (hk : NP (k ())) :
    NP (if (true && !x) = true then .ok .empty else recv site (optOf x) >>= k) := by
  cases x
  · rfl
  · exact hk

theorem scanCursorUnique_np (c : Cur) (skip limit : Option Int) : (scanCursorUnique c skip limit).isPanic = false :=
  np_bind (setPaging_np skip limit) fun _ => rfl

theorem scanCursorSorting_np (c : Cur) (ss : List (SortSym × Bool)) (skip limit : Option Int) :
    (scanCursorSorting c ss skip limit).isPanic = false :=
  np_bind (setPaging_np skip limit) fun _ => np_bind (newRowComparator_np _) fun _ => rfl

theorem scanEntry_np (b : Buckets) (k : Cur → Outcome Ans) (hk : ∀ c, (k c).isPanic = false) :
    (scanEntry true b k).isPanic = false :=
  np_guarded_recv _ _ _ (hk _)

theorem getEntityBucket_np (b : Buckets) (child : Bool) : (getEntityBucket Guards.all b child).isPanic = false := by
  obtain ⟨e1, e2, e3, e4, e5⟩ := b
  cases child <;> cases e1 <;> cases e2 <;> cases e3 <;> rfl

theorem iterateIds_np (b : Buckets) (q : Q) : (iterateIds Guards.all b q).isPanic = false :=
  np_guarded_recv _ _ _ (np_bind (setPaging_np _ _) fun _ => rfl)

theorem readApi_np (api : Api) (b : Buckets) (q : Q) : (readApi Guards.all api b q).isPanic = false := by
  cases api with
  | queryIdsC =>
    refine np_bind (newScanner_np _) fun k => ?_
    cases k
    · exact scanEntry_np b _ fun c => scanCursorUnique_np c _ _
    · exact scanEntry_np b _ fun c => scanCursorUnique_np c _ _
    · exact scanEntry_np b _ fun c => scanCursorSorting_np c _ _ _
  | queryCursor c =>
    refine np_bind (newScanner_np _) fun k => ?_
    cases k
    · exact scanCursorUnique_np c _ _
    · exact scanCursorUnique_np c _ _
    · exact scanCursorSorting_np c _ _ _
  | iterateIds => exact iterateIds_np b q
  | iterateValidIds =>
    refine np_bind (iterateIds_np b q) fun a => ?_
    cases a
    · rfl
    · exact np_if (np_bind (getEntityBucket_np b _) fun _ => rfl) rfl
  | findById =>
    refine np_bind (getEntityBucket_np b _) fun _ => np_bind (np_if (getEntityBucket_np b _) rfl) fun bk => ?_
    cases bk <;> rfl
  | relatedIds => exact np_bind (getEntityBucket_np b _) fun _ => np_if rfl rfl
  | relatedCursor => exact np_bind (getEntityBucket_np b _) fun _ => np_if rfl (np_guarded_recv _ _ _ rfl)
  | uniqueRead => exact np_if rfl rfl
  | setRead => exact np_guarded_recv _ _ _ rfl

/-- a read that tests its bucket for nil answers empty when the bucket is missing -/
theorem guarded_missing (site : String) {x : Bool} (k : Unit → Outcome Ans) (h : (!x) = true) :
    (if (true && !x) = true then .ok .empty else recv site (optOf x) >>= k) = .ok .empty := by
  cases x
  · rfl
  · cases h

theorem iterateIds_missing (b : Buckets) (q : Q) (h : (!b.entities) = true) : iterateIds Guards.all b q = .ok .empty :=
  guarded_missing _ _ h

theorem getEntityBucket_missing (b : Buckets) (child : Bool) (h : (!b.entities) = true) :
    getEntityBucket Guards.all b child = .ok none := by
  rw [Bool.not_eq_true'] at h
  unfold getEntityBucket
  cases child <;> simp [Guards.all, h, optOf]

theorem scanCursor_rows_unique (c : Cur) (skip limit : Option Int) (h : (c != .rowsC) = true) :
    (scanCursorUnique c skip limit).rows = false :=
  rows_bind _ _ fun _ _ => by cases c <;> simp_all [curAns, Outcome.rows]

theorem scanCursor_rows_sorting (c : Cur) (ss : List (SortSym × Bool)) (skip limit : Option Int) (h : (c != .rowsC) = true) :
    (scanCursorSorting c ss skip limit).rows = false :=
  rows_bind _ _ fun _ _ => rows_bind _ _ fun _ _ => by cases c <;> simp_all [curAns, Outcome.rows]

theorem readApi_missing_is_empty (api : Api) (b : Buckets) (q : Q) (h : api.missing b = true) :
    (readApi Guards.all api b q).rows = false := by
  cases api with
  | queryIdsC =>
    refine rows_bind _ _ fun k _ => ?_
    cases k <;> exact congrArg Outcome.rows (guarded_missing _ _ h)
  | queryCursor c =>
    refine rows_bind _ _ fun k _ => ?_
    cases k
    · exact scanCursor_rows_unique c _ _ h
    · exact scanCursor_rows_unique c _ _ h
    · exact scanCursor_rows_sorting c _ _ _ h
  | iterateIds => rw [readApi, iterateIds_missing b q h]; rfl
  | iterateValidIds => rw [readApi, iterateValidIds, iterateIds_missing b q h]; rfl
  | findById =>
    simp only [readApi, findById, getEntityBucket_missing b _ h]
    cases q.extended <;> rfl
  | relatedIds => rw [readApi, relatedIds, getEntityBucket_missing b _ h]; rfl
  | relatedCursor => rw [readApi, relatedCursor, getEntityBucket_missing b _ h]; rfl
  | uniqueRead => rw [readApi, uniqueIndexRead, if_pos (show (!b.index) = true from h)]; rfl
  | setRead => exact congrArg Outcome.rows (guarded_missing _ _ h)

/-- the model follows the code the other way too: a scanner whose `Scan` selects `OpenCursor` on the entities bucket
    without a nil test panics on a never-written store, for every query without a sort clause (even the empty filter) -/
theorem unguarded_scan_panics (g : Guards) (b : Buckets) (q : Q) (hg : g.scanUnique = false) (hb : b.entities = false)
    (hq : q.sort = []) : (readApi g .queryIdsC b q).isPanic = true := by
  show (queryIdsC g b q).isPanic = true
  unfold queryIdsC
  rw [hq]
  simp [newScanner, scanEntry, hg, hb, recv, deref, optOf, Outcome.isPanic]

end StorageModel.C10
