import StorageModel.C10.Typing
/-
  C10 — evaluation of a well-typed tree never panics, whatever the dataset.
-/
namespace StorageModel.C10

abbrev NP {α : Type} (x : Outcome α) : Prop := x.isPanic = false

theorem np_ok {α : Type} (a : α) : NP (Outcome.ok a) := rfl
theorem np_err {α : Type} (e : String) : NP (Outcome.err e : Outcome α) := rfl

theorem np_bind {α β : Type} {x : Outcome α} {f : α → Outcome β} (hx : NP x) (hf : ∀ a, NP (f a)) :
    NP (x >>= f) := by
  cases x with
  | ok a => exact hf a
  | err e => rfl
  | panic s => simp [NP, Outcome.isPanic] at hx

theorem np_deref_some {α : Type} (site : String) {o : Option α} (h : o.isSome = true) : NP (deref site o) := by
  cases o with
  | none => simp at h
  | some a => rfl

theorem np_if {α : Type} {c : Prop} [Decidable c] {x y : Outcome α} (hx : NP x) (hy : NP y) : NP (if c then x else y) := by
  split <;> assumption

theorem np_if_pos {α : Type} {c : Prop} [Decidable c] {x y : Outcome α} (hc : c) (hx : NP x) : NP (if c then x else y) := by
  rwa [if_pos hc]

theorem np_guarded_deref {α β : Type} (site : String) (r : Option α) (f : α → Outcome β) (z : Outcome β)
    (hf : ∀ a, NP (f a)) (hz : NP z) :
    NP (if r.isSome = true then (deref site r >>= f) else z) := by
  cases r with
  | none => simpa using hz
  | some a => simpa [deref] using hf a

theorem np_guarded_deref' {α β : Type} (site : String) (r : Option α) (f : α → Outcome β) (z : Outcome β)
    (hf : ∀ a, NP (f a)) (hz : NP z) :
    NP (if r.isNone = true then z else (deref site r >>= f)) := by
  cases r with
  | none => simpa using hz
  | some a => simpa [deref] using hf a

theorem np_deref2 {α β γ : Type} (s1 s2 : String) (a : Option α) (b : Option β) (z : Outcome γ) (f : α → β → Outcome γ)
    (hz : NP z) (hf : ∀ x y, NP (f x y)) :
    NP (if a.isNone || b.isNone then z else do
      let x ← deref s1 a
      let y ← deref s2 b
      f x y) := by
  cases a with
  | none => exact hz
  | some x =>
    cases b with
    | none => exact hz
    | some y => exact hf x y

theorem np_binCompare {α : Type} (site : String) (lt eq : α → α → Bool) (op : BinOp) (l r : Option α) :
    NP (binCompare site lt eq op l r) :=
  np_deref2 _ _ l r _ _ (np_if rfl rfl) fun _ _ => rfl

theorem np_betweenEval {α : Type} (site : String) (lt : α → α → Bool) (l lo hi : Option α) :
    NP (betweenEval site lt l lo hi) := by
  cases l <;> cases lo <;> cases hi <;> rfl

theorem np_inLoop {α : Type} (site : String) (eq : α → α → Bool) (left : Option α) :
    ∀ (l : List (Option α)), NP (inLoop site eq left l)
  | [] => rfl
  | r :: rest => by
    have ih := np_inLoop site eq left rest
    rw [inLoop]
    cases left with
    | none => exact ih
    | some a =>
      cases r with
      | none => exact ih
      | some b => exact np_if (c := eq a b = true) rfl ih

theorem np_anyLoop (f : Env → Outcome (Bool × Env)) (n : Name) (hf : ∀ e, NP (f e)) : ∀ l e, NP (anyLoop f n l e)
  | [], _ => rfl
  | v :: rest, e => by
    rw [anyLoop]
    exact np_bind (hf _) fun (_, e1) => np_if rfl (np_anyLoop f n hf rest e1)

theorem np_allLoop (f : Env → Outcome (Bool × Env)) (n : Name) (hf : ∀ e, NP (f e)) : ∀ l e, NP (allLoop f n l e)
  | [], _ => rfl
  | v :: rest, e => by
    rw [allLoop]
    exact np_bind (hf _) fun (_, e1) => np_if (np_allLoop f n hf rest e1) rfl

theorem np_filterKids (f : Row → Outcome Bool) (hf : ∀ r, NP (f r)) : ∀ l i, NP (filterKids f i l)
  | [], _ => rfl
  | v :: rest, i => by
    rw [filterKids]
    exact np_bind (hf v) fun _ => np_bind (np_filterKids f hf rest (i + 1)) fun _ => rfl

theorem np_fst {α : Type} {x : Outcome (α × Env)} (h : NP x) : NP (x >>= fun p => Outcome.ok p.1) :=
  np_bind h (fun _ => rfl)

theorem np_compare2 {α : Type} {x : Outcome (Option α × Env)} {y : Env → Outcome (Option α × Env)}
    (hx : NP x) (hy : ∀ e, NP (y e)) (site : String) (lt eq : α → α → Bool) (op : BinOp) :
    NP (do
      let (a, e1) ← x
      let (b, e2) ← y e1
      let v ← binCompare site lt eq op a b
      Outcome.ok (v, e2)) :=
  np_bind hx fun _ => np_bind (hy _) fun _ => np_bind (np_binCompare ..) fun _ => rfl

theorem np_between3 {α : Type} {x : Outcome (Option α × Env)} {y z : Env → Outcome (Option α × Env)}
    (hx : NP x) (hy : ∀ e, NP (y e)) (hz : ∀ e, NP (z e)) (site : String) (lt : α → α → Bool) :
    NP (do
      let (a, e1) ← x
      if a.isNone then Outcome.ok (false, e1) else
      let (b, e2) ← y e1
      if b.isNone then Outcome.ok (false, e2) else
      let (c, e3) ← z e2
      let v ← betweenEval site lt a b c
      Outcome.ok (v, e3)) :=
  np_bind hx fun _ => np_if rfl <| np_bind (hy _) fun _ => np_if rfl <|
    np_bind (hz _) fun _ => np_bind (np_betweenEval ..) fun _ => rfl

theorem np_inArr {α : Type} {x : Outcome (Option α × Env)} (hx : NP x) (site : String) (eq : α → α → Bool)
    (arr : List (Option α)) :
    NP (do
      let (a, e1) ← x
      let v ← inLoop site eq a arr
      Outcome.ok (v, e1)) :=
  np_bind hx fun _ => np_bind (np_inLoop ..) fun _ => rfl

theorem and_left {a b : Bool} (h : (a && b) = true) : a = true := (Bool.and_eq_true_iff.mp h).1
theorem and_right {a b : Bool} (h : (a && b) = true) : b = true := (Bool.and_eq_true_iff.mp h).2

theorem okBool_anyOf_seek {n : Name} {p : T} (h : okBool (.anyOf n p true) = true) :
    ∃ op l r, p = .binStr op l r ∧ okStr r = true := by
  cases p with
  | binStr op l r => exact ⟨op, l, r, rfl, and_right h⟩
  | _ => cases h

/-- `seekRhs` serves the seek shortcut of `anyOf`, which evaluates the right operand of its string
    comparison on its own. -/
structure NoPanicAt (t : T) : Prop where
  bool : okBool t = true → ∀ sk e, NP (evalBool sk e t)
  str : okStr t = true → ∀ sk e, NP (evalString sk e t)
  int : okInt t = true → ∀ sk e, NP (evalInt64 sk e t)
  flt : okFlt t = true → ∀ sk e, NP (evalFloat64 sk e t)
  dt : okDt t = true → ∀ sk e, NP (evalDatetime sk e t)
  seekRhs : match t with
    | .binStr _ _ r => okStr r = true → ∀ sk e, NP (evalString sk e r)
    | _ => True

theorem NoPanicAt.kids {q : T} (ihq : NoPanicAt q) (hq : okBool q = true) (sk : Bool) (rows : List Row) :
    NP (filterKids (fun r => do let (b, _) ← evalBool sk ⟨r, []⟩ q; Outcome.ok b) 0 rows) :=
  np_filterKids _ (fun _ => np_bind (ihq.bool hq sk _) fun _ => rfl) _ _

theorem noPanicAt (t : T) : NoPanicAt t := by
  induction t with
  | nullC | strArr l | intArr l | fltArr l | dtArr l | setFnT f s _ | subQueryT s q _ _ =>
    exact ⟨nofun, nofun, nofun, nofun, nofun, trivial⟩
  | boolC b => exact ⟨fun _ _ _ => rfl, nofun, nofun, nofun, nofun, trivial⟩
  | isEmptySet s _ => exact ⟨fun _ _ _ => rfl, nofun, nofun, nofun, nofun, trivial⟩
  | lit l =>
    refine ⟨nofun, ?_, ?_, ?_, ?_, trivial⟩ <;> intro h sk e <;> cases l <;> first | rfl | cases h
  | symT k n =>
    -- for four of the methods the typing is the very test the method starts with
    refine ⟨fun h sk e => ?_, fun h sk e => ?_, fun h sk e => ?_, fun h sk e => ?_, fun h sk e => ?_, trivial⟩
    · rw [evalBool]
      refine np_if_pos h ?_
      exact np_guarded_deref _ _ _ _ (fun _ => rfl) rfl
    · cases k with
      | string | anyType => rfl
      | int64 | float64 => exact np_guarded_deref _ _ _ _ (fun _ => rfl) rfl
      | bool | datetime => cases h
    · rw [evalInt64]
      exact np_if_pos h rfl
    · rw [evalFloat64]
      exact np_if_pos h rfl
    · rw [evalDatetime]
      exact np_if_pos h rfl
  | i2f w ih =>
    refine ⟨nofun, fun h sk e => ?_, nofun, fun h sk e => ?_, nofun, trivial⟩
    · rw [evalString]
      exact ih.str h sk e
    · rw [evalFloat64]
      exact np_bind (ih.int h sk e) fun _ => np_guarded_deref' _ _ _ _ (fun _ => rfl) rfl
  | strFunc x ih =>
    refine ⟨nofun, fun h sk e => ?_, nofun, nofun, nofun, trivial⟩
    rw [evalString]
    exact np_bind (ih.str h sk e) fun _ => np_guarded_deref' _ _ _ _ (fun _ => rfl) rfl
  | countSet s _ =>
    refine ⟨nofun, fun _ sk e => ?_, fun _ _ _ => rfl, nofun, nofun, trivial⟩
    rfl
  | countSetQ s q _ ihq =>
    refine ⟨nofun, fun h sk e => ?_, fun h sk e => ?_, nofun, nofun, trivial⟩
    · rw [evalString]
      exact np_bind (ihq.kids h sk _) fun _ => rfl
    · rw [evalInt64]
      exact np_bind (ihq.kids h sk _) fun _ => rfl
  | isEmptySetQ s q _ ihq =>
    refine ⟨fun h sk e => ?_, nofun, nofun, nofun, nofun, trivial⟩
    rw [evalBool]
    exact np_bind (ihq.kids h sk _) fun _ => rfl
  | notE x ih =>
    refine ⟨fun h sk e => ?_, nofun, nofun, nofun, nofun, trivial⟩
    rw [evalBool]
    exact np_bind (ih.bool h sk e) (fun _ => rfl)
  | andE l r ihl ihr | orE l r ihl ihr =>
    refine ⟨fun h sk e => ?_, nofun, nofun, nofun, nofun, trivial⟩
    rw [evalBool]
    exact np_bind (ihl.bool (and_left h) sk e) fun _ => np_if rfl (ihr.bool (and_right h) sk _)
  | binBool op l r ihl ihr =>
    refine ⟨fun h sk e => ?_, nofun, nofun, nofun, nofun, trivial⟩
    rw [evalBool]
    refine np_if (np_if rfl rfl) ?_
    refine np_bind (ihl.bool (and_left h) sk e) fun _ => np_bind (ihr.bool (and_right h) sk _) fun _ => ?_
    dsimp only
    split <;> rfl
  | binDt op l r ihl ihr =>
    refine ⟨fun h sk e => ?_, nofun, nofun, nofun, nofun, trivial⟩
    rw [evalBool]
    exact np_compare2 (ihl.dt (and_left h) sk e) (ihr.dt (and_right h) sk) ..
  | binFlt op l r ihl ihr =>
    refine ⟨fun h sk e => ?_, nofun, nofun, nofun, nofun, trivial⟩
    rw [evalBool]
    exact np_compare2 (ihl.flt (and_left h) sk e) (ihr.flt (and_right h) sk) ..
  | binInt op l r ihl ihr =>
    refine ⟨fun h sk e => ?_, nofun, nofun, nofun, nofun, trivial⟩
    rw [evalBool]
    exact np_compare2 (ihl.int (and_left h) sk e) (ihr.int (and_right h) sk) ..
  | binStr op l r ihl ihr =>
    refine ⟨fun h sk e => ?_, nofun, nofun, nofun, nofun, ihr.str⟩
    rw [evalBool]
    refine np_bind (ihl.str (and_left h) sk e) fun (a, e1) => np_bind (ihr.str (and_right h) sk e1) fun (b, e2) => ?_
    refine np_deref2 _ _ a b _ _ (np_if rfl (np_if rfl rfl)) fun x y => ?_
    split <;> rfl
  | isNil s op _ =>
    refine ⟨fun h sk e => ?_, nofun, nofun, nofun, nofun, trivial⟩
    simp only [evalBool]
    split <;> rfl
  | intBtw l lo hi ihl ihlo ihhi =>
    refine ⟨fun h sk e => ?_, nofun, nofun, nofun, nofun, trivial⟩
    rw [evalBool]
    exact np_between3 (ihl.int (and_left (and_left h)) sk e) (ihlo.int (and_right (and_left h)) sk)
      (ihhi.int (and_right h) sk) ..
  | fltBtw l lo hi ihl ihlo ihhi =>
    refine ⟨fun h sk e => ?_, nofun, nofun, nofun, nofun, trivial⟩
    rw [evalBool]
    exact np_between3 (ihl.flt (and_left (and_left h)) sk e) (ihlo.flt (and_right (and_left h)) sk)
      (ihhi.flt (and_right h) sk) ..
  | dtBtw l lo hi ihl ihlo ihhi =>
    refine ⟨fun h sk e => ?_, nofun, nofun, nofun, nofun, trivial⟩
    rw [evalBool]
    exact np_between3 (ihl.dt (and_left (and_left h)) sk e) (ihlo.dt (and_right (and_left h)) sk)
      (ihhi.dt (and_right h) sk) ..
  | inStr l arr ihl =>
    refine ⟨fun h sk e => ?_, nofun, nofun, nofun, nofun, trivial⟩
    rw [evalBool]
    exact np_inArr (ihl.str h sk e) ..
  | inInt l arr ihl =>
    refine ⟨fun h sk e => ?_, nofun, nofun, nofun, nofun, trivial⟩
    rw [evalBool]
    exact np_inArr (ihl.int h sk e) ..
  | inFlt l arr ihl =>
    refine ⟨fun h sk e => ?_, nofun, nofun, nofun, nofun, trivial⟩
    rw [evalBool]
    exact np_inArr (ihl.flt h sk e) ..
  | inDt l arr ihl =>
    refine ⟨fun h sk e => ?_, nofun, nofun, nofun, nofun, trivial⟩
    rw [evalBool]
    exact np_inArr (ihl.dt h sk e) ..
  | allOf n p ihp =>
    refine ⟨fun h sk e => ?_, nofun, nofun, nofun, nofun, trivial⟩
    rw [evalBool]
    exact np_allLoop _ n (ihp.bool h sk) _ _
  | anyOf n p seek ihp =>
    refine ⟨fun h sk e => ?_, nofun, nofun, nofun, nofun, trivial⟩
    cases seek with
    | false =>
      simp only [evalBool, Bool.false_and, Bool.false_eq_true, if_false]
      exact np_anyLoop _ n (ihp.bool h sk) _ _
    | true =>
      obtain ⟨op, l, r, rfl, hr⟩ := okBool_anyOf_seek h
      rw [evalBool]
      refine np_if (np_bind (ihp.seekRhs hr sk _) fun (rr, e1) => ?_) (np_anyLoop _ n (ihp.bool h sk) _ _)
      refine np_guarded_deref _ rr _ _ (fun v => ?_) rfl
      dsimp only
      split
      · rfl
      · exact ihp.bool h sk _
  | query p sort skip limit ihp =>
    refine ⟨fun h sk e => ?_, nofun, nofun, nofun, nofun, trivial⟩
    rw [evalBool]
    exact ihp.bool h sk e

theorem eval_np (t : T) :
    (okBool t = true → ∀ sk e, NP (evalBool sk e t)) ∧
    (okStr t = true → ∀ sk e, NP (evalString sk e t)) ∧
    (okInt t = true → ∀ sk e, NP (evalInt64 sk e t)) ∧
    (okFlt t = true → ∀ sk e, NP (evalFloat64 sk e t)) ∧
    (okDt t = true → ∀ sk e, NP (evalDatetime sk e t)) :=
  have h := noPanicAt t
  ⟨h.bool, h.str, h.int, h.flt, h.dt⟩

theorem evalRow_np (t : T) (h : okBool t = true) (sk : Bool) (row : Row) : NP (evalRow sk t row) := by
  have := (noPanicAt t).bool h sk ⟨row, []⟩
  unfold evalRow
  cases hx : evalBool sk ⟨row, []⟩ t with
  | ok p => rfl
  | err e => rfl
  | panic s => rw [hx] at this; exact absurd this (by simp [NP, Outcome.isPanic])

end StorageModel.C10
