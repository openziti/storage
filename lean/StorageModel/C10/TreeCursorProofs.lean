import StorageModel.C10.TreeCursor
/-
  C10 (shared with C14) — the tree cursor enumerates the tree in order and never dereferences nil: what is
  still to come (`TC.rem`) loses its head at every `Next`.
-/
namespace StorageModel.C10

/-- what the nodes waiting on the path still yield, top first: a node its element, then its right subtree.
    (The library pushes no nil; in the model a nil popped into `current` ends the walk, so nothing below it counts.) -/
def stackRem : List LTree → List Bytes
  | [] => []
  | .nil :: _ => []
  | .node _ e r :: rest => e :: r.inorder ++ stackRem rest

/-- elements still to come: the current node is one more waiting node -/
def TC.rem (c : TC) : List Bytes := stackRem (c.current :: c.stack)

theorem tcNext_spec : ∀ (l : LTree) (e : Bytes) (r : LTree) (stk : List LTree),
    ∃ c, tcNext (.node l e r) stk = .ok c ∧ c.rem = (LTree.node l e r).inorder ++ stackRem stk
  | .nil, e, r, stk => ⟨⟨stk, .node .nil e r⟩, rfl, rfl⟩
  | .node a b c, e, r, stk => by
    obtain ⟨cur, hc, hrem⟩ := tcNext_spec a b c (.node (.node a b c) e r :: stk)
    refine ⟨cur, by simpa [tcNext] using hc, ?_⟩
    simpa [LTree.inorder, stackRem, List.append_assoc] using hrem

theorem tcNew_spec (t : LTree) : ∃ c, tcNew t = .ok c ∧ c.rem = t.inorder := by
  cases t with
  | nil => exact ⟨⟨[], .nil⟩, rfl, rfl⟩
  | node l e r =>
    obtain ⟨c, hc, hrem⟩ := tcNext_spec l e r []
    exact ⟨c, hc, hrem.trans (List.append_nil _)⟩

theorem tcStep_spec (c : TC) : ∃ c', tcStep c = .ok c' ∧ c'.rem = c.rem.tail := by
  obtain ⟨stk, cur⟩ := c
  cases cur with
  | nil => exact ⟨⟨stk, .nil⟩, rfl, rfl⟩
  | node l e r =>
    cases r with
    | nil =>
      cases stk with
      | nil => exact ⟨⟨[], .nil⟩, rfl, rfl⟩
      | cons top rest => exact ⟨⟨rest, top⟩, rfl, rfl⟩
    | node rl re rr => exact tcNext_spec rl re rr stk

theorem tcDrain_spec : ∀ (n : Nat) (c : TC), c.rem.length < n →
    ∃ c', tcDrain n c = .ok (c.rem, c') ∧ tcValid c' = false := by
  intro n
  induction n with
  | zero => intro c h; omega
  | succ n ih =>
    rintro ⟨stk, cur⟩ hlen
    cases cur with
    | nil => exact ⟨_, rfl, rfl⟩
    | node l e r =>
      obtain ⟨c1, hstep, hrem1⟩ := tcStep_spec ⟨stk, .node l e r⟩
      obtain ⟨c2, hd, hv2⟩ := ih c1 (by rw [hrem1]; exact Nat.lt_of_succ_lt_succ hlen)
      refine ⟨c2, ?_, hv2⟩
      simp only [tcDrain, tcValid, LTree.isNil, tcCurrent, hstep, hd, hrem1]
      rfl

theorem tcExtra_spec : ∀ (n : Nat) (c : TC), tcValid c = false → tcExtra n c = .ok (List.replicate n false) := by
  intro n
  induction n with
  | zero => intro c _; rfl
  | succ n ih =>
    intro c hv
    obtain ⟨stk, cur⟩ := c
    cases cur with
    | node l e r => simp [tcValid, LTree.isNil] at hv
    | nil =>
      have : tcStep ⟨stk, .nil⟩ = .ok ⟨stk, .nil⟩ := by simp [tcStep]
      simp only [tcExtra, this, ih ⟨stk, .nil⟩ hv, hv, List.replicate_succ]

theorem inorder_length (t : LTree) : t.inorder.length = t.size := by
  induction t with
  | nil => rfl
  | node l e r ihl ihr =>
    show (l.inorder ++ e :: r.inorder).length = l.size + 1 + r.size
    rw [List.length_append, List.length_cons, ihl, ihr, Nat.add_assoc, Nat.add_comm 1]

end StorageModel.C10
