import StorageModel.C10.Shapes
import StorageModel.C10.EvalProofs
import StorageModel.C10.ClassFacts
/-
  C10 — the type transformation never panics on a grammar-shaped tree, for any symbol table, and
  what it returns is well typed (so that evaluation cannot panic either).
-/
namespace StorageModel.C10

def isSymT : T → Bool | .symT _ _ => true | _ => false
def isQueryT : T → Bool | .query .. => true | _ => false

def leafT : T → Bool
  | .symT _ _ => true
  | .countSet s => isSymT s
  | .countSetQ s q => isSymT s && okBool q
  | .lit _ | .boolC _ | .nullC => true
  | _ => false

def rhsT : T → Bool | .lit _ | .boolC _ | .nullC => true | _ => false
def arrT : T → Bool | .strArr _ | .intArr _ | .fltArr _ | .dtArr _ => true | _ => false

/-- what `transformTypes` makes of a binaryLhs -/
def operandT : T → Bool
  | .symT _ _ => true
  | .countSet s => isSymT s
  | .countSetQ s q => isSymT s && okBool q
  | .setFnT f s => isCompare f && isSymT s
  | _ => false

/-- what `transformTypes` makes of a setExpr -/
def setExprT : T → Bool
  | .symT _ _ => true
  | .subQueryT s q => isSymT s && okBool q && isQueryT q
  | _ => false

structure LeafOk (t : T) : Prop where
  bool : impl t.cls .BoolNode = true → okBool t = true
  str : impl t.cls .StringNode = true → okStr t = true
  int : impl t.cls .Int64Node = true → okInt t = true
  flt : impl t.cls .Float64Node = true → okFlt t = true
  dt : impl t.cls .DatetimeNode = true → okDt t = true

theorem leaf_ok (t : T) (h : leafT t = true) : LeafOk t := by
  suffices hs : _ ∧ _ ∧ _ ∧ _ ∧ _ from ⟨hs.1, hs.2.1, hs.2.2.1, hs.2.2.2.1, hs.2.2.2.2⟩
  cases t with
  | boolC b => simp [T.cls, okBool]
  | nullC => simp [T.cls]
  | lit l => cases l <;> simp [T.cls, Lit.cls, okStr, okInt, okFlt, okDt]
  | symT k n => cases k <;> simp [T.cls, SymK.cls, okBool, okStr, okInt, okFlt, okDt]
  | countSet s => simp [T.cls, okStr, okInt]
  | countSetQ s q => simp [T.cls, okStr, okInt, and_right h]
  | _ => cases h

/-- `anyType` is the type of `AnyTypeSymbolNode`, which implements all four interfaces -/
structure LeafGetType (t : T) : Prop where
  bool : t.getType = .bool ∨ t.getType = .anyType → impl t.cls .BoolNode = true
  datetime : t.getType = .datetime ∨ t.getType = .anyType → impl t.cls .DatetimeNode = true
  float64 : t.getType = .float64 ∨ t.getType = .anyType → impl t.cls .Float64Node = true
  int64 : t.getType = .int64 ∨ t.getType = .anyType → impl t.cls .Int64Node = true

theorem leaf_getType (t : T) (h : leafT t = true) : LeafGetType t := by
  suffices hs : _ ∧ _ ∧ _ ∧ _ from ⟨hs.1, hs.2.1, hs.2.2.1, hs.2.2.2⟩
  cases t with
  | boolC b => simp [T.getType, T.cls]
  | nullC => simp [T.getType, T.cls]
  | lit l => cases l <;> simp [T.getType, T.cls, Lit.cls]
  | symT k n => cases k <;> simp [T.getType, T.cls, SymK.cls]
  | countSet s => simp [T.getType, T.cls]
  | countSetQ s q => simp [T.getType, T.cls]
  | _ => cases h

theorem assertI_ok (site : String) (t : T) (i : Iface) (h : impl t.cls i = true) : assertI site t i = .ok () := by
  simp [assertI, h]

theorem okFlt_toFloat64 (t : T) (h : okInt t = true) : okFlt (toFloat64 t) = true := by
  unfold toFloat64
  split
  · rfl
  · rfl
  · exact h

def TRes (x : Outcome T) (P : T → Prop) : Prop := NP x ∧ ∀ t, x = .ok t → P t

theorem tres_err {P : T → Prop} (e : String) : TRes (.err e) P := ⟨rfl, by intro t h; cases h⟩
theorem tres_ok {P : T → Prop} {t : T} (h : P t) : TRes (.ok t) P := ⟨rfl, by intro t' h'; cases h'; exact h⟩

theorem tres_bind {P Q : T → Prop} {x : Outcome T} {f : T → Outcome T} (hx : TRes x P)
    (hf : ∀ a, P a → TRes (f a) Q) : TRes (x >>= f) Q := by
  cases x with
  | ok a => exact hf a (hx.2 a rfl)
  | err e => exact tres_err e
  | panic s => exact absurd hx.1 (by simp [NP, Outcome.isPanic])

/-- a comma-ok assertion whose failure is an error return: what follows may use the asserted fact -/
theorem tres_assert {c : Bool} {e : String} {y : Outcome T} {P : T → Prop} (hy : c = true → TRes y P) :
    TRes (if (!c) = true then .err e else y) P := by
  cases c
  · exact tres_err e
  · exact hy rfl

theorem tres_bind_np {α : Type} {P : T → Prop} {x : Outcome α} {f : α → Outcome T} (hx : NP x)
    (hf : ∀ a, TRes (f a) P) : TRes (x >>= f) P := by
  cases x with
  | ok a => exact hf a
  | err e => exact tres_err e
  | panic s => cases hx

theorem tres_mono {P Q : T → Prop} {x : Outcome T} (h : TRes x P) (hpq : ∀ t, P t → Q t) : TRes x Q :=
  ⟨h.1, fun t ht => hpq t (h.2 t ht)⟩

theorem tres_ite {c : Bool} {x y : Outcome T} {P : T → Prop} (hx : c = true → TRes x P) (hy : TRes y P) :
    TRes (if c = true then x else y) P := by
  cases c
  · exact hy
  · exact hx rfl

/-- the branch `if r.GetType() == τ` of a `handle*Ops` -/
theorem tres_ifType {a b : NodeType} {x y : Outcome T} {P : T → Prop} (hx : a = b → TRes x P) (hy : TRes y P) :
    TRes (if (a == b) = true then x else y) P :=
  tres_ite (fun h => hx (beq_iff_eq.mp h)) hy

theorem tres_assertI {site : String} {t : T} {i : Iface} {y : Outcome T} {P : T → Prop}
    (h : impl t.cls i = true) (hy : TRes y P) : TRes (assertI site t i >>= fun _ => y) P := by
  rw [assertI, if_pos h]
  exact hy

theorem np_bind_tres {β : Type} {P : T → Prop} {x : Outcome T} {f : T → Outcome β} (hx : TRes x P)
    (hf : ∀ a, P a → NP (f a)) : NP (x >>= f) := by
  cases x with
  | ok a => exact hf a (hx.2 a rfl)
  | err e => rfl
  | panic s => exact hx.1

def GoodB (x : Outcome T) : Prop := NP x ∧ ∀ t, x = .ok t → okBool t = true

theorem goodB_invalid : GoodB invalidOpTypes := tres_err _

theorem okStr_toUpperNode (t : T) (h : okStr t = true) : okStr (toUpperNode t) = true := by
  unfold toUpperNode
  split
  · simp [okStr]
  · split
    · simp [okStr]
    · simpa [okStr] using h

theorem good_handleIsNullOps (op : BinOp) (l : T) : GoodB (handleIsNullOps op l) :=
  tres_ite (fun _ => tres_ok rfl) goodB_invalid

theorem good_handleStringOps (op : BinOp) (l r : T) (hl : leafT l = true) (hr : leafT r = true) :
    GoodB (handleStringOps op l r) :=
  tres_ite (fun h1 => tres_ite (fun h2 =>
      have ol := (leaf_ok l hl).str h1
      have or := (leaf_ok r hr).str h2
      tres_ite (fun _ => tres_ok (by simp [okBool, okStr_toUpperNode, ol, or])) (tres_ok (by simp [okBool, ol, or])))
    goodB_invalid) goodB_invalid

theorem good_handleBoolOps (op : BinOp) (l r : T) (hl : leafT l = true) (hr : leafT r = true)
    (hlb : impl l.cls .BoolNode = true) : GoodB (handleBoolOps op l r) :=
  tres_ite (fun h =>
      have hrb := (leaf_getType r hr).bool (.inl (beq_iff_eq.mp (and_left h)))
      tres_assertI hlb <| tres_assertI hrb <|
        tres_ok (by simp [okBool, (leaf_ok l hl).bool hlb, (leaf_ok r hr).bool hrb]))
    goodB_invalid

theorem good_handleInt64Ops (op : BinOp) (l r : T) (hl : leafT l = true) (hr : leafT r = true)
    (hli : impl l.cls .Int64Node = true) : GoodB (handleInt64Ops op l r) :=
  have oli := (leaf_ok l hl).int hli
  have gr := leaf_getType r hr
  have okr := leaf_ok r hr
  tres_assertI hli <|
    tres_ifType (fun h => tres_assertI (gr.int64 (.inl h)) (tres_ok (by simp [okBool, oli, okr.int (gr.int64 (.inl h))]))) <|
    tres_ifType (fun h => tres_assertI (gr.float64 (.inl h))
      (tres_ok (by simp [okBool, okFlt_toFloat64 l oli, okr.flt (gr.float64 (.inl h))]))) goodB_invalid

theorem good_handleFloat64Ops (op : BinOp) (l r : T) (hl : leafT l = true) (hr : leafT r = true)
    (hlf : impl l.cls .Float64Node = true) : GoodB (handleFloat64Ops op l r) :=
  have olf := (leaf_ok l hl).flt hlf
  have gr := leaf_getType r hr
  have okr := leaf_ok r hr
  tres_assertI hlf <|
    tres_ifType (fun h => tres_assertI (gr.float64 (.inl h)) (tres_ok (by simp [okBool, olf, okr.flt (gr.float64 (.inl h))]))) <|
    tres_ifType (fun h => tres_assertI (gr.int64 (.inl h))
      (tres_ok (by simp [okBool, olf, okFlt_toFloat64 r (okr.int (gr.int64 (.inl h)))]))) goodB_invalid

theorem good_handleDatetimeOps (op : BinOp) (l r : T) (hl : leafT l = true) (hr : leafT r = true)
    (hld : impl l.cls .DatetimeNode = true) : GoodB (handleDatetimeOps op l r) :=
  have gr := leaf_getType r hr
  tres_assertI hld <|
    tres_ifType (fun h => tres_assertI (gr.datetime (.inl h))
      (tres_ok (by simp [okBool, (leaf_ok l hl).dt hld, (leaf_ok r hr).dt (gr.datetime (.inl h))]))) goodB_invalid

/-- the type `BinaryExprNode.getTypedExpr` dispatches on is the left operand's or, when that is `anyType`,
    the right one's: either way the left operand has the handler's type or `anyType` -/
theorem decidingType {a b τ : NodeType} (h : (if (a == .anyType) = true then b else a) = τ) : a = τ ∨ a = .anyType := by
  split at h
  · next ha => exact .inr (beq_iff_eq.mp ha)
  · exact .inl h

theorem good_binaryTypedExpr (op : BinOp) (l r : T) (hl : leafT l = true) (hr : leafT r = true) :
    GoodB (binaryTypedExpr op l r) := by
  have gl := leaf_getType l hl
  fun_cases binaryTypedExpr op l r
  · exact good_handleIsNullOps op l
  · exact good_handleStringOps op l r hl hr
  · next h => exact good_handleBoolOps op l r hl hr (gl.bool (decidingType h))
  · next h => exact good_handleDatetimeOps op l r hl hr (gl.datetime (decidingType h))
  · next h => exact good_handleFloat64Ops op l r hl hr (gl.float64 (decidingType h))
  · next h => exact good_handleInt64Ops op l r hl hr (gl.int64 (decidingType h))
  · exact good_handleStringOps op l r hl hr
  · exact goodB_invalid

/-- each branch of `InArrayExprNode.getTypedExpr` has just asserted the interface its result needs -/
theorem good_inArrayTypedExpr (l r : T) (hl : leafT l = true) : GoodB (inArrayTypedExpr l r) :=
  have ok := leaf_ok l hl
  tres_ite (fun h => tres_ok (ok.dt (and_left h)))
    (tres_ite (fun h => tres_ok (ok.int (and_left h)))
    (tres_ite (fun h => tres_ok (okFlt_toFloat64 l (ok.int (and_left h))))
    (tres_ite (fun h => tres_ok (ok.flt (and_left h)))
    (tres_ite (fun h => tres_ok (ok.flt (and_left h)))
    (tres_ite (fun h => tres_ok (ok.str (and_left h)))
    (tres_err _))))))

theorem okFlt_asFloat64Node (t a : T) (hl : leafT t = true) (h : asFloat64Node t = some a) : okFlt a = true := by
  unfold asFloat64Node at h
  split at h
  · next hi =>
    cases h
    exact okFlt_toFloat64 t ((leaf_ok t hl).int hi)
  · split at h
    · next hf =>
      cases h
      exact (leaf_ok t hl).flt hf
    · cases h

theorem good_betweenTypedExpr (l lo hi : T) (hl : leafT l = true) (hlo : leafT lo = true) (hhi : leafT hi = true) :
    GoodB (betweenTypedExpr l lo hi) := by
  unfold betweenTypedExpr
  split
  · next h =>
    simp only [Bool.and_eq_true] at h
    exact tres_ok (by simp [okBool, (leaf_ok l hl).dt h.1.1, (leaf_ok lo hlo).dt h.1.2, (leaf_ok hi hhi).dt h.2])
  · split
    · next h =>
      simp only [Bool.and_eq_true] at h
      exact tres_ok (by simp [okBool, (leaf_ok l hl).int h.1.1, (leaf_ok lo hlo).int h.1.2, (leaf_ok hi hhi).int h.2])
    · split
      · next a b c ha hb hc =>
        exact tres_ok (by simp [okBool, okFlt_asFloat64Node l a hl ha, okFlt_asFloat64Node lo b hlo hb,
          okFlt_asFloat64Node hi c hhi hc])
      · exact tres_err _

theorem okBool_anyOf (n : Name) {e : T} {seek : Bool} (h : okBool e = true) (hs : seek = true → isSeekable e = true) :
    okBool (.anyOf n e seek) = true := by
  cases seek with
  | false => exact h
  | true =>
    -- only a string comparison is seekable, and `anyOf` with the shortcut is typed as that comparison
    cases e with
    | binStr op l r => exact h
    | _ => cases hs rfl

theorem good_moveUpTree (f : SetFn) (sym e : T) (h : okBool e = true) : GoodB (moveUpTree f sym e) := by
  unfold moveUpTree
  split
  · exact tres_ok (by simpa [okBool] using h)
  · exact tres_ok (okBool_anyOf _ h and_right)
  · exact tres_err _

theorem transformSymbol_spec (st : SymTab) (n : Name) :
    TRes (transformSymbol st n) fun t => ∃ k, t = .symT k n := by
  unfold transformSymbol
  split
  · exact tres_err _
  · split
    · next sk _ => exact tres_ok ⟨sk, rfl⟩
    · exact tres_err _

theorem symT_SymbolNode (k : SymK) (n : Name) : impl (T.symT k n).cls .SymbolNode = true := by
  cases k <;> rfl

theorem symT_not_BoolTypeTransformable (k : SymK) (n : Name) : impl (T.symT k n).cls .BoolTypeTransformable = false := by
  cases k <;> rfl

theorem transformTypes_rhs (st : SymTab) (r : U) (h : isRhsU r = true) :
    ∃ t, transformTypes st r = .ok t ∧ leafT t = true := by
  cases r <;> simp [isRhsU] at h
  case boolC b => exact ⟨.boolC b, by simp [transformTypes, U.cls, keep], rfl⟩
  case nullC => exact ⟨.nullC, by simp [transformTypes, U.cls, keep], rfl⟩
  case lit l => exact ⟨.lit l, by cases l <;> simp [transformTypes, U.cls, Lit.cls, keep], rfl⟩

theorem transformTypes_arr (st : SymTab) (r : U) (h : isArrU r = true) : ∃ t, transformTypes st r = .ok t := by
  cases r <;> simp [isArrU] at h
  case strArr l => exact ⟨.strArr l, by simp [transformTypes, U.cls, keep]⟩
  case intArr l => exact ⟨.intArr l, by simp [transformTypes, U.cls, keep]⟩
  case fltArr l => exact ⟨.fltArr l, by simp [transformTypes, U.cls, keep]⟩
  case dtArr l => exact ⟨.dtArr l, by simp [transformTypes, U.cls, keep]⟩

theorem np_transformSort (st : SymTab) : ∀ (f : U), NP (transformSort st f) := by
  intro f
  induction f with
  | sfCons s asc rest _ ih =>
    cases s with
    | sym n =>
      rw [transformSort]
      refine np_bind_tres (transformSymbol_spec st n) fun _ ⟨k, hk⟩ => ?_
      rw [hk, assertI_ok _ _ _ (symT_SymbolNode k n), Outcome.bind_ok]
      exact np_bind ih fun _ => rfl
    | _ => rfl
  | _ => rfl

theorem operand_cases (tl : T) (h : operandT tl = true) :
    leafT tl = true ∨ ∃ f sym, tl = .setFnT f sym ∧ isCompare f = true ∧ leafT sym = true := by
  cases tl with
  | symT k n => exact .inl rfl
  | countSet s | countSetQ s q => exact .inl h
  | setFnT f s =>
    refine .inr ⟨f, s, rfl, and_left h, ?_⟩
    cases s with
    | symT k n => rfl
    | _ => cases and_right h
  | _ => cases h

theorem operandT_not_BoolTypeTransformable (t : T) (h : operandT t = true) :
    impl t.cls .BoolTypeTransformable = false := by
  cases t with
  | symT k n => exact symT_not_BoolTypeTransformable k n
  | countSet s | countSetQ s q | setFnT f s => rfl
  | _ => cases h

theorem setExprT_cases (ts : T) (h : setExprT ts = true) :
    (∃ k n, ts = .symT k n) ∨ ∃ sym q, ts = .subQueryT sym q ∧ isSymT sym = true ∧ okBool q = true := by
  cases ts with
  | symT k n => exact .inl ⟨k, n, rfl⟩
  | subQueryT sym q => exact .inr ⟨sym, q, rfl, and_left (and_left h), and_right (and_left h)⟩
  | _ => cases h

theorem shQuery_cls (q : U) (h : shQuery q = true) : q.cls = .untypedQueryNode := by
  cases q with
  | query p s sk li => rfl
  | _ => cases h

theorem isQueryT_cls (t : T) (h : isQueryT t = true) : t.cls = .queryNode := by
  cases t with
  | query p s sk li => rfl
  | _ => cases h

theorem goodB_weaken {x : Outcome T} (h : GoodB x) :
    NP x ∧ ∀ t, x = .ok t → impl t.cls .BoolNode = true → okBool t = true :=
  ⟨h.1, fun t ht _ => h.2 t ht⟩

/-- comparison / in / between with a transformed left operand -/
theorem good_withLhs (tl : T) (h : operandT tl = true) (g : T → Outcome T)
    (hg : ∀ l, leafT l = true → GoodB (g l)) :
    GoodB (match tl with
      | .setFnT f sym => if isCompare f = true then (g sym >>= fun e => moveUpTree f sym e) else g tl
      | _ => g tl) := by
  rcases operand_cases tl h with hl | ⟨f, sym, rfl, hf, hs⟩
  · split
    · cases hl
    · exact hg tl hl
  · simp only [hf, if_true]
    exact tres_bind (hg sym hs) (good_moveUpTree f sym)

/-- the same for the three `TypeTransformBool` methods as they are written: `x` transforms the left operand, `g` is the
    method's `getTypedExpr` with the other operands in place, `k` what the method does with a `*SetFunctionNode` -/
theorem good_bindLhs {x : Outcome T} (hx : TRes x fun t => operandT t = true) {g : T → Outcome T}
    (hg : ∀ l, leafT l = true → GoodB (g l)) {k : T → SetFn → T → Outcome T}
    (hk : ∀ {tl f sym}, isCompare f = true → k tl f sym = g sym >>= fun e => moveUpTree f sym e) :
    GoodB (x >>= fun tl => match tl with | .setFnT f sym => k tl f sym | _ => g tl) :=
  tres_bind hx fun tl h => by
    rcases operand_cases tl h with hl | ⟨f, sym, rfl, hf, hs⟩
    · split
      · cases hl
      · exact hg tl hl
    · simp only [hk hf]
      exact tres_bind (hg sym hs) (good_moveUpTree f sym)

theorem transformTypes_eq_typeTransformBool (st : SymTab) (u : U) (h1 : impl u.cls .TypeTransformable = false)
    (h2 : impl u.cls .BoolTypeTransformable = true) : transformTypes st u = typeTransformBool st u := by
  unfold transformTypes
  simp [h1, h2]

/-- a `BoolTypeTransformable` node in a position where any node may stand -/
theorem tres_boolNode {st : SymTab} {u : U} (h1 : impl u.cls .TypeTransformable = false)
    (h2 : impl u.cls .BoolTypeTransformable = true) (hx : TRes (typeTransformBool st u) fun t => okBool t = true) :
    TRes (transformTypes st u) fun t => impl t.cls .BoolNode = true → okBool t = true :=
  transformTypes_eq_typeTransformBool st u h1 h2 ▸ tres_mono hx fun _ ht _ => ht

theorem tres_of_goodB {x : Outcome T} (h : GoodB x) : TRes x (fun t => okBool t = true) := h
theorem goodB_of_tres {x : Outcome T} (h : TRes x (fun t => okBool t = true)) : GoodB x := h

theorem tres_transformTypes {st : SymTab} {u : U} {P : T → Prop} (hu : impl u.cls .TypeTransformable = true)
    (hx : TRes (typeTransform st u) fun t => impl t.cls .BoolTypeTransformable = false ∧ P t) :
    TRes (transformTypes st u) P := by
  rw [transformTypes, if_pos hu]
  exact tres_bind hx fun t ht => by rw [if_neg (by simp [ht.1])]; exact tres_ok ht.2

theorem tres_sym (st : SymTab) (n : Name) {P : T → Prop} (hP : ∀ k, P (.symT k n)) :
    TRes (transformTypes st (.sym n)) P := by
  refine tres_transformTypes impl_UntypedSymbolNode_TypeTransformable ?_
  rw [typeTransform]
  exact tres_mono (transformSymbol_spec st n) fun _ ⟨k, hk⟩ => hk ▸ ⟨symT_not_BoolTypeTransformable k n, hP k⟩

/-- the five positions of the grammar at once (they are mutually recursive) -/
theorem transform_good (u : U) :
    (shLhs u = true → ∀ st, TRes (transformTypes st u) (fun t => operandT t = true)) ∧
    (shSetExpr u = true → ∀ st, TRes (transformTypes st u) (fun t => setExprT t = true)) ∧
    (shBool u = true → ∀ st, TRes (transformTypes st u) (fun t => impl t.cls .BoolNode = true → okBool t = true)) ∧
    (shNotArg u = true → ∀ st, TRes (typeTransformBool st u) (fun t => okBool t = true)) ∧
    (shQuery u = true → ∀ st, TRes (typeTransformBool st u) (fun t => okBool t = true ∧ isQueryT t = true)) := by
  induction u with
  | sym n =>
    exact ⟨fun _ st => tres_sym st n fun _ => rfl, fun _ st => tres_sym st n fun _ => rfl,
      fun _ st => tres_sym st n fun k => by cases k <;> simp [T.cls, SymK.cls, okBool], nofun, nofun⟩
  | boolC b =>
    refine ⟨nofun, nofun, fun _ st => ?_, nofun, nofun⟩
    have : transformTypes st (.boolC b) = .ok (.boolC b) := by simp [transformTypes, U.cls, keep]
    rw [this]
    exact tres_ok (fun _ => rfl)
  | logic op g l r ihl ihr =>
    refine ⟨nofun, nofun, fun h st => ?_, nofun, nofun⟩
    simp only [shBool, Bool.and_eq_true] at h
    refine tres_boolNode rfl rfl ?_
    simp only [typeTransformBool]
    apply tres_bind (ihl.2.2.1 h.1 st)
    intro tl hl
    apply tres_bind (ihr.2.2.1 h.2 st)
    intro tr hr
    exact tres_assert fun hbl => tres_assert fun hbr => by
      cases op <;> exact tres_ok (by simp [okBool, hl hbl, hr hbr])
  | binary op l r ihl _ =>
    refine ⟨nofun, nofun, fun h st => ?_, nofun, nofun⟩
    simp only [shBool, Bool.and_eq_true] at h
    obtain ⟨tr, htr, hlr⟩ := transformTypes_rhs st r h.2
    refine tres_boolNode rfl rfl ?_
    simp only [typeTransformBool, htr, Outcome.bind_ok]
    exact good_bindLhs (ihl.1 h.1 st) (fun l hl => good_binaryTypedExpr op l tr hl hlr) (if_pos ·)
  | inArr l r ihl _ =>
    have key (h : (shLhs l && isArrU r) = true) (st) : TRes (typeTransformBool st (.inArr l r)) (fun t => okBool t = true) := by
      obtain ⟨tr, htr⟩ := transformTypes_arr st r (and_right h)
      simp only [typeTransformBool, htr, Outcome.bind_ok]
      exact good_bindLhs (ihl.1 (and_left h) st) (fun l => good_inArrayTypedExpr l tr) fun _ => rfl
    exact ⟨nofun, nofun, fun h st => tres_boolNode rfl rfl (key h st), key, nofun⟩
  | between l lo hi ihl _ _ =>
    have key (h : (shLhs l && isRhsU lo && isRhsU hi) = true) (st) :
        TRes (typeTransformBool st (.between l lo hi)) (fun t => okBool t = true) := by
      obtain ⟨tlo, htlo, hllo⟩ := transformTypes_rhs st lo (and_right (and_left h))
      obtain ⟨thi, hthi, hlhi⟩ := transformTypes_rhs st hi (and_right h)
      simp only [typeTransformBool, htlo, hthi, Outcome.bind_ok]
      exact good_bindLhs (ihl.1 (and_left (and_left h)) st) (fun l hl => good_betweenTypedExpr l tlo thi hl hllo hlhi)
        fun _ => rfl
    exact ⟨nofun, nofun, fun h st => tres_boolNode rfl rfl (key h st), key, nofun⟩
  | unot e ih =>
    refine ⟨nofun, nofun, fun h st => ?_, nofun, nofun⟩
    refine tres_boolNode rfl rfl ?_
    simp only [typeTransformBool]
    apply tres_bind (ih.2.2.1 h st)
    intro te hte
    exact tres_assert fun hb => tres_ok (hte hb)
  | notE e ih =>
    refine ⟨nofun, nofun, fun h st => ?_, nofun, nofun⟩
    simp only [shBool] at h
    refine tres_boolNode rfl rfl ?_
    simp only [typeTransformBool]
    have hbt : impl e.cls .BoolTypeTransformable = true := by
      cases e with
      | inArr l r | between l lo hi => rfl
      | _ => cases h
    simp only [hbt, if_true]
    apply tres_bind (ih.2.2.2.1 h st)
    intro te hte
    exact tres_ok (by simpa [okBool] using hte)
  | setFn f s ih =>
    refine ⟨fun h st => ?_, nofun, fun h st => ?_, nofun, nofun⟩
    · simp only [shLhs, Bool.or_eq_true, Bool.and_eq_true, beq_iff_eq] at h
      refine tres_transformTypes rfl (tres_mono ?_ fun t ht => ⟨operandT_not_BoolTypeTransformable t ht, ht⟩)
      simp only [typeTransform]
      rcases h with ⟨hf, hs⟩ | ⟨rfl, hs⟩
      · -- allOf / anyOf over an identifier
        cases s with
        | sym n =>
          apply tres_bind (tres_sym st n (P := fun t => ∃ k, t = .symT k n) fun k => ⟨k, rfl⟩)
          rintro _ ⟨k, rfl⟩
          rcases hf with rfl | rfl <;>
            simp only [symT_SymbolNode, isCompare, Bool.not_true, Bool.false_eq_true, if_false] <;>
            exact tres_ok rfl
        | _ => cases hs
      · -- count(setExpr)
        apply tres_bind (ih.2.1 hs st)
        intro ts hts
        rcases setExprT_cases ts hts with ⟨k, n, rfl⟩ | ⟨sym, q, rfl, hsym, hq⟩
        · simp [symT_SymbolNode, isCompare]
          exact tres_ok rfl
        · simp [T.cls, isCompare]
          exact tres_ok (by simp [operandT, hsym, hq])
    · simp only [shBool, Bool.and_eq_true, beq_iff_eq] at h
      obtain ⟨rfl, hs⟩ := h
      refine tres_transformTypes rfl ?_
      simp only [typeTransform]
      apply tres_bind (ih.2.1 hs st)
      intro ts hts
      rcases setExprT_cases ts hts with ⟨k, n, rfl⟩ | ⟨sym, q, rfl, _, hq⟩
      · simp [symT_SymbolNode, isCompare]
        exact tres_ok ⟨rfl, fun _ => rfl⟩
      · simp [T.cls, isCompare]
        exact tres_ok ⟨rfl, fun _ => hq⟩
  | subQ s q ihs ihq =>
    refine ⟨nofun, fun h st => ?_, nofun, nofun, nofun⟩
    simp only [shSetExpr, Bool.and_eq_true] at h
    refine tres_transformTypes rfl ?_
    simp only [typeTransform]
    cases s with
    | sym n =>
      apply tres_bind (tres_sym st n (P := fun t => ∃ k, t = .symT k n) fun k => ⟨k, rfl⟩)
      rintro _ ⟨k, rfl⟩
      cases hsub : st.sub (U.sym n).symbolName with
      | none => exact tres_err _
      | some sub =>
        simp only
        have hq := shQuery_cls q h.2
        rw [transformTypes_eq_typeTransformBool sub q (by rw [hq]; rfl) (by rw [hq]; rfl)]
        apply tres_bind (ihq.2.2.2.2 h.2 sub)
        intro tq htq
        simp [symT_SymbolNode, isQueryT_cls tq htq.2]
        exact tres_ok ⟨rfl, by simp [setExprT, isSymT, htq.1, htq.2]⟩
    | _ => cases h.1
  | query p s sk li ihp _ =>
    refine ⟨nofun, nofun, nofun, nofun, fun h st => ?_⟩
    simp only [typeTransformBool]
    apply tres_bind (ihp.2.2.1 (and_left h) st)
    intro tp htp
    have fin (ts) : TRes (if (!impl tp.cls .BoolNode) = true then .err "query expr predicate must be a boolean expr"
        else .ok (.query tp ts sk li)) (fun t => okBool t = true ∧ isQueryT t = true) :=
      tres_assert fun hb => tres_ok ⟨htp hb, rfl⟩
    split
    · exact tres_bind_np (np_bind (np_transformSort st _) fun _ => rfl) fin
    · exact fin none
  | _ => refine ⟨?_, ?_, ?_, ?_, ?_⟩ <;> intro h <;> simp [shLhs, shSetExpr, shBool, shNotArg, shQuery] at h

end StorageModel.C10
