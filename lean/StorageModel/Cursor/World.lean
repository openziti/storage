import StorageModel.Cursor.Write
/-
  C14 — the concrete world the correspondence harness writes: two stores (`things`, `others`), and the
  write paths of the library that change the sets a cursor walks.

  What each write does to the buckets (read off boltz/typed_bucket.go, link_collection.go, link_collection_rc.go,
  store_crud.go, query_symbols.go; confirmed against the real stores on every run of the check):

    update id tags others boss   `store.Update(entity, nil)`: every field is written again.  `SetStringList` →
                                 `EmptyBucket`: the `tags` bucket is DELETED AND RE-CREATED, then filled;
                                 `SetLinkedIds` → `SetLinks`: single keys added to / removed from the existing bucket
    setTags id tags              `store.Update(entity, {tags})`: only the `tags` bucket, deleted and re-created
    putTag / delTag id x         `SetListEntry` / `DeleteListEntry`: one key put into / deleted from the bucket
    mapTag id x y                `entitySetSymbolImpl.Map`: the key of `x` deleted, the key of `y` put (same bucket)
    addLink / removeLink id o    `LinkCollection.AddLinks` / `RemoveLinks`: one key
    rcAdd / rcDrop id o          `IncrementLinkCount` / `DecrementLinkCount` down to zero: one key; the bucket is
                                 created (`GetOrCreatePath`) if the thing never had one
    delete id                    `DeleteById`: the entity bucket with everything below it is gone
    create id tags               `Create`: a new entity bucket (new `tags` and `others` buckets, no `rcOthers` bucket)
    updateOther o tags name      `others.Update(entity, nil)`
  A write that names a thing that does not exist fails inside the library and changes nothing.

  `inc` / `gen` record which bucket OBJECT holds a set: a bbolt cursor opened on the bucket of an earlier
  incarnation (`inc`: the entity was deleted and created again) or generation (`gen`: `tags` was rewritten by an
  update) still points into the deleted bucket; `Seek` on it re-reads nothing.
-/
namespace StorageModel.Cursor

structure WThing where
  id : Bytes
  tags : List Bytes
  others : List Bytes
  boss : Option Bytes
  /-- ref-counted links; `none`: never linked, no bucket -/
  rc : Option (List Bytes)
  inc : Nat := 0
  gen : Nat := 0

structure WOther where
  id : Bytes
  tags : List Bytes
  name : Option Bytes

structure World where
  things : List WThing
  others : List WOther
  clock : Nat := 0

inductive Write where
  | update (id : Bytes) (tags others : List Bytes) (boss : Option Bytes)
  | setTags (id : Bytes) (tags : List Bytes)
  | putTag (id x : Bytes)
  | delTag (id x : Bytes)
  | mapTag (id x : Bytes) (y : Option Bytes)
  | addLink (id o : Bytes)
  | removeLink (id o : Bytes)
  | rcAdd (id o : Bytes)
  | rcDrop (id o : Bytes)
  | delete (id : Bytes)
  | create (id : Bytes) (tags : List Bytes)
  | updateOther (o : Bytes) (tags : List Bytes) (name : Option Bytes)

namespace World

def find (w : World) (id : Bytes) : Option WThing := w.things.find? (fun t => t.id == id)

/-- change the thing `id`, if there is one -/
def modify (w : World) (id : Bytes) (f : WThing → WThing) : World :=
  { w with things := w.things.map fun t => if t.id == id then f t else t }

def setAdd (xs : List Bytes) (x : Bytes) : List Bytes := if xs.contains x then xs else xs ++ [x]

def setDel (xs : List Bytes) (x : Bytes) : List Bytes := xs.filter (fun y => !(y == x))

def applyWrite (wr : Write) (w0 : World) : World :=
  let w : World := { w0 with clock := w0.clock + 1 }
  match wr with
  | .update id tags others boss => w.modify id fun t => { t with tags := tags, others := others, boss := boss, gen := w.clock }
  | .setTags id tags => w.modify id fun t => { t with tags := tags, gen := w.clock }
  | .putTag id x => w.modify id fun t => { t with tags := setAdd t.tags x }
  | .delTag id x => w.modify id fun t => { t with tags := setDel t.tags x }
  | .mapTag id x y => w.modify id fun t =>
      if t.tags.contains x then
        { t with tags := match y with
            | some y => setAdd (setDel t.tags x) y
            | none => setDel t.tags x }
      else t
  | .addLink id o => w.modify id fun t => { t with others := setAdd t.others o }
  | .removeLink id o => w.modify id fun t => { t with others := setDel t.others o }
  | .rcAdd id o => w.modify id fun t => { t with rc := some (setAdd (t.rc.getD []) o) }
  | .rcDrop id o => w.modify id fun t => { t with rc := some (setDel (t.rc.getD []) o) }
  | .delete id => { w with things := w.things.filter fun t => !(t.id == id) }
  | .create id tags =>
      match w.find id with
      | some _ => w
      | none => { w with things := w.things ++ [{ id := id, tags := tags, others := [], boss := none, rc := none,
                                                   inc := w.clock, gen := w.clock }] }
  | .updateOther o tags name =>
      { w with others := w.others.map fun x => if x.id == o then { x with tags := tags, name := name } else x }

def tagsOf (w : World) (id : Bytes) : Option (List Bytes) := (w.find id).map (·.tags)
def othersOf (w : World) (id : Bytes) : Option (List Bytes) := (w.find id).map (·.others)
def rcOf (w : World) (id : Bytes) : Option (List Bytes) := (w.find id).bind (·.rc)

/-- the ids of the things, as the entities bucket holds them -/
def ids (w : World) : List Bytes := dedupSort (w.things.map (·.id))

/-- which bucket object holds the set: incarnation of the entity, generation of the bucket, does it exist -/
abbrev Ident := Option (Nat × Nat × Bool)

def tagsIdent (w : World) (id : Bytes) : Ident := (w.find id).map fun t => (t.inc, t.gen, true)
def othersIdent (w : World) (id : Bytes) : Ident := (w.find id).map fun t => (t.inc, 0, true)
def rcIdent (w : World) (id : Bytes) : Ident := (w.find id).map fun t => (t.inc, 0, t.rc.isSome)

theorem tagsIdent_some (w0 w : World) (k : Bytes) (h : tagsIdent w0 k = tagsIdent w k) :
    (tagsOf w0 k).isSome = (tagsOf w k).isSome := by
  have := congrArg Option.isSome h
  simpa [tagsIdent, tagsOf] using this

theorem othersIdent_some (w0 w : World) (k : Bytes) (h : othersIdent w0 k = othersIdent w k) :
    (othersOf w0 k).isSome = (othersOf w k).isSome := by
  have := congrArg Option.isSome h
  simpa [othersIdent, othersOf] using this

theorem rcIdent_some (w0 w : World) (k : Bytes) (h : rcIdent w0 k = rcIdent w k) :
    (rcOf w0 k).isSome = (rcOf w k).isSome := by
  unfold rcIdent rcOf at *
  cases h0 : w0.find k <;> cases h1 : w.find k <;> simp_all

theorem find_modify (w : World) (id k : Bytes) (f : WThing → WThing) (hf : ∀ t, (f t).id = t.id) :
    (w.modify id f).find k = (w.find k).map fun t => if t.id == id then f t else t := by
  unfold find modify
  simp only
  induction w.things with
  | nil => rfl
  | cons t ts ih =>
    simp only [List.map_cons, List.find?_cons]
    have hid' : (if (t.id == id) = true then f t else t).id = t.id := by
      split
      · exact hf t
      · rfl
    rw [hid']
    cases hk : t.id == k with
    | true => rfl
    | false => exact ih

end World

end StorageModel.Cursor
