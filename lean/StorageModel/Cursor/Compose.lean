import StorageModel.Cursor.Machine
/-
  C14 — a cursor of any Go type, packaged with its state type, and what it means for it to
  implement a specification.
-/
namespace StorageModel.Cursor

/-- what a constructor / provider of the library returns: some cursor type, opened (the
    constructor itself may panic) -/
structure AnyCursor where
  σ : Type
  M : Machine σ
  init : Outcome σ

namespace AnyCursor

def run (c : AnyCursor) (ops : List Op) : List Obs := c.M.openRun c.init ops

def toList (c : AnyCursor) (fuel : Nat) : Outcome (List (Option Bytes)) :=
  match c.init with
  | .ok s => c.M.toList fuel s
  | .err e => .err e
  | .panic => .panic

/-- the constructor does not panic and the cursor refines `S` from its initial state -/
def Implements (c : AnyCursor) (S : Spec) (r : Render) : Prop :=
  ∃ (R : c.σ → List Bytes → Prop) (s : c.σ), c.init = .ok s ∧ Refines c.M S r R ∧ R s S.list

theorem Implements.run_eq {c : AnyCursor} {S : Spec} {r : Render} (h : c.Implements S r) (ops : List Op) :
    c.run ops = (S.openRun ops).map (Obs.render r) := by
  obtain ⟨R, s, hi, href, hR⟩ := h
  unfold run; rw [hi]
  exact href.openRun_eq hR ops

theorem Implements.toList_eq {c : AnyCursor} {S : Spec} {r : Render} (h : c.Implements S r)
    {fuel : Nat} (hf : S.list.length < fuel) : c.toList fuel = .ok (S.list.map r) := by
  obtain ⟨R, s, hi, href, hR⟩ := h
  unfold toList; rw [hi]
  exact href.toList_eq fuel hR hf

end AnyCursor
end StorageModel.Cursor
