import StorageModel.Cursor.Reuse
import StorageModel.Cursor.BoltProofs
import StorageModel.Cursor.StackedProofs
import StorageModel.Cursor.ScannerProofs
/-
  C14 — re-used cursor objects: after `reopen k` the object behaves like a fresh cursor over the set
  of row `k`, whatever state it was left in (`Reusable.Implements`); a run over segments is then the
  concatenation of fresh runs (`run_eq`, `run_eq_fresh`).
-/
namespace StorageModel.Cursor

theorem Refines.runSt_rel {σ : Type} {M : Machine σ} {S : Spec} {r : Render} {R : σ → List Bytes → Prop}
    (h : Refines M S r R) : ∀ (ops : List Op) {s rem}, R s rem →
    ∃ s' rem', M.runSt ops s = ((S.run ops rem).map (Obs.render r), some s') ∧ R s' rem'
  | [], s, rem, hR => ⟨s, rem, rfl, hR⟩
  | op :: ops, s, rem, hR => by
    have hm := h.method_sim op
    unfold Machine.runSt Spec.run
    cases hM : M.method op <;> cases hS : S.method op <;> simp only [hM, hS] at hm ⊢
    · obtain ⟨s', rem', hs', hR'⟩ := runSt_rel h ops hR
      exact ⟨s', rem', by simp [hs', Obs.render], hR'⟩
    · obtain ⟨s1, hs1, hR1⟩ := hm hR
      obtain ⟨s', rem', hs', hR'⟩ := runSt_rel h ops hR1
      exact ⟨s', rem', by simp [hs1, hs', h.observe_eq hR1], hR'⟩

/-- what re-opening must achieve: `reopen k` leads into the row's simulation from EVERY state — nothing is assumed of
    what was done to the object before (position, exhaustion, seeks, which row it was opened on) -/
def Reusable.Implements {σ κ : Type} (U : Reusable σ κ) (S : κ → Spec) (r : κ → Render) : Prop :=
  ∀ k, ∃ R : σ → List Bytes → Prop, Refines U.M (S k) (r k) R ∧ ∀ s, ∃ s', U.reopen k s = .ok s' ∧ R s' (S k).list

theorem Reusable.Implements.run_eq {σ κ : Type} {U : Reusable σ κ} {S : κ → Spec} {r : κ → Render}
    (h : U.Implements S r) : ∀ (segs : List (κ × List Op)) (s : σ),
    U.run segs s = segs.flatMap fun seg => ((S seg.1).openRun seg.2).map (Obs.render (r seg.1))
  | [], _ => rfl
  | (k, ops) :: rest, s => by
    obtain ⟨R, href, hopen⟩ := h k
    obtain ⟨s', hs', hR'⟩ := hopen s
    obtain ⟨s'', _, hrun, _⟩ := href.runSt_rel ops hR'
    unfold Reusable.run
    simp only [hs', hrun, run_eq h rest s'', List.flatMap_cons, Spec.openRun, List.map_cons, href.observe_eq hR',
      List.cons_append]

theorem Reusable.Implements.run_eq_fresh {σ κ : Type} {U : Reusable σ κ} {S : κ → Spec} {r : κ → Render}
    (h : U.Implements S r) {fresh : κ → AnyCursor} (hfresh : ∀ k, (fresh k).Implements (S k) (r k))
    (segs : List (κ × List Op)) (s : σ) :
    U.run segs s = segs.flatMap fun seg => (fresh seg.1).run seg.2 := by
  rw [h.run_eq segs s]
  congr 1; funext seg
  exact ((hfresh seg.1).run_eq seg.2).symm

theorem setSymReopen_some (keys : List Bytes) (s : SetSymCur) : setSymReopen (some keys) s = setSymOpen (some keys) := rfl

theorem setSymReopen_none (s : SetSymCur) : setSymReopen none s = { cursor := none, value := none } := rfl

/-- the simulation of the set symbol on a row: a bucket holding `xs`, or no bucket -/
def RSymRow (row : Option (List Bytes)) : SetSymCur → List Bytes → Prop :=
  match row with
  | some xs => RSym (dedupSort xs)
  | none => RSymNone

theorem setSym_refines_row (row : Option (List Bytes)) :
    Refines setSym (setRowSpec row) renderNilEmpty (RSymRow row) := by
  cases row with
  | none => exact setSym_refines_nobucket
  | some xs => exact setSym_refines (dedupSort xs)

theorem setSym_reopen_row (row : Option (List Bytes)) (s : SetSymCur) :
    RSymRow row (setSymReopen (setRowKeys row) s) (setRowSpec row).list := by
  cases row with
  | none => exact ⟨rfl, rfl⟩
  | some xs => exact setSym_open (dedupSort xs)

theorem setSymReusable_implements {κ : Type} (rows : κ → Option (List Bytes)) :
    (setSymReusable rows).Implements (fun k => setRowSpec (rows k)) (fun _ => renderNilEmpty) :=
  fun k => ⟨RSymRow (rows k), setSym_refines_row (rows k), fun s => ⟨_, rfl, setSym_reopen_row (rows k) s⟩⟩

theorem compReusable_implements {κ : Type} (l0 : Level) (ls : List Level) (fuel : Nat) (rowOf : κ → Option Bytes)
    (hf : ∀ k, stackedFuel (l0 :: ls) (rowOf k) ≤ fuel) :
    (compReusable (l0 :: ls) fuel rowOf).Implements (fun k => Spec.plain (stackedKeys (l0 :: ls) (rowOf k)))
      (fun _ => rowKeyOf) := by
  intro k
  obtain ⟨R, s, hi, href, hR⟩ := stackedOpen_implements l0 ls (rowOf k) (hf k)
  exact ⟨R, href, fun _ => ⟨s, hi, hR⟩⟩

theorem scanReusable_implements {σ κ : Type} {U : Reusable σ κ} {S : κ → Spec} {r : κ → Render}
    (h : U.Implements S r) (hS : ∀ k, (S k).SeekStateless) {cfg : ScanCfg} (hcfg : cfg.Unpaged) {fuel : Nat}
    (hf : ∀ k, (S k).list.length + 1 < fuel) :
    (scanReusable U cfg fuel).Implements (fun k => scanSpecR (S k) (r k) (cfg.keepR (r k))) r := by
  intro k
  obtain ⟨R, href, hopen⟩ := h k
  refine ⟨_, scan_refines href (hS k) hcfg (hf k), fun st => ?_⟩
  obtain ⟨s', hs', hR'⟩ := hopen st.cursor
  obtain ⟨st', hst', hS'⟩ :=
    scanNext_spec href cfg fuel (cur := none) (off := 0) (col := 0) hR' (by have := hf k; omega) (Nat.le_refl _)
  rw [hcfg.page] at hS'
  exact ⟨st', by simp [scanReusable, hs', hst'], hS'⟩

theorem scanReusable_implements_paged {σ κ : Type} {U : Reusable σ κ} {S : κ → Spec} {r : κ → Render}
    (h : U.Implements S r) (cfg : ScanCfg) {fuel : Nat} (hf : ∀ k, (S k).list.length < fuel) :
    (scanReusable U cfg fuel).nextOnly.Implements
      (fun k => Spec.plain (cfg.page 0 0 ((S k).list.filter (cfg.keepR (r k))))) r := by
  intro k
  obtain ⟨R, href, hopen⟩ := h k
  refine ⟨_, scan_refines_paged href cfg (hf k), fun st => ?_⟩
  obtain ⟨s', hs', hR'⟩ := hopen st.cursor
  obtain ⟨st', hst', hS'⟩ := scanNext_spec href cfg fuel (cur := none) (off := 0) (col := 0) hR' (hf k) (Nat.le_refl _)
  exact ⟨st', by simp [Reusable.nextOnly, scanReusable, hs', hst'], hS'⟩

def NextOnlyOps (ops : List Op) : Prop := ∀ op ∈ ops, op = Op.next

theorem Machine.runSt_nextOnly {σ : Type} (M : Machine σ) : ∀ (ops : List Op), NextOnlyOps ops → ∀ s,
    M.nextOnly.runSt ops s = M.runSt ops s
  | [], _, _ => rfl
  | op :: ops, hops, s => by
    have hop : op = .next := hops op (by simp)
    have hrest : NextOnlyOps ops := fun o ho => hops o (by simp [ho])
    subst hop
    unfold Machine.runSt
    simp only [Machine.method, Machine.nextOnly]
    cases hn : M.next s with
    | ok s' =>
      have := runSt_nextOnly M ops hrest s'
      simp only [Machine.nextOnly] at this
      simp [this, Machine.observe]
    | err e => rfl
    | panic => rfl

theorem Machine.observe_nextOnly {σ : Type} (M : Machine σ) (s : σ) : M.nextOnly.observe s = M.observe s := rfl

theorem Reusable.run_nextOnly {σ κ : Type} (U : Reusable σ κ) : ∀ (segs : List (κ × List Op)),
    (∀ seg ∈ segs, NextOnlyOps seg.2) → ∀ s, U.nextOnly.run segs s = U.run segs s
  | [], _, _ => rfl
  | (k, ops) :: rest, hsegs, s => by
    have hops : NextOnlyOps ops := hsegs (k, ops) (by simp)
    have hrest : ∀ seg ∈ rest, NextOnlyOps seg.2 := fun sg hs => hsegs sg (by simp [hs])
    have ih := run_nextOnly U rest hrest
    unfold Reusable.run
    show (match U.reopen k s with
      | .ok s' =>
        let (o, fin) := U.M.nextOnly.runSt ops s'
        U.M.nextOnly.observe s' :: o ++ (match fin with | some s'' => U.nextOnly.run rest s'' | none => [])
      | .err e => [.failed e]
      | .panic => [.panic]) = _
    cases hr : U.reopen k s with
    | ok s' =>
      simp only [U.M.runSt_nextOnly ops hops s', Machine.observe_nextOnly]
      cases hfin : U.M.runSt ops s' with
      | mk o fin =>
        cases fin with
        | none => rfl
        | some s'' => simp only [ih s'']
    | err e => rfl
    | panic => rfl

end StorageModel.Cursor
