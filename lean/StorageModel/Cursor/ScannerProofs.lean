import StorageModel.Cursor.Reuse
import StorageModel.Cursor.MemProofs
/-
  C14 — ValidIdsCursors and the scanner-as-cursor refine the list specification.  The scanner's `Next`
  shows the window `ScanCfg.page` of the kept rows (`scanNext_spec`); its `Seek` is specified only
  without paging (`ScanCfg.Unpaged`) and over a wrapped `Seek` that ignores the position
  (`Spec.SeekStateless`).
-/
namespace StorageModel.Cursor

theorem sorted_filter {d : Dir} {L : List Bytes} (q : Bytes → Bool) (h : Sorted d L) : Sorted d (L.filter q) :=
  List.Pairwise.sublist List.filter_sublist h

theorem seekIn_filter {d : Dir} {L : List Bytes} (hL : Sorted d L) (q : Bytes → Bool) (v : Bytes) :
    (Spec.seekIn d L v).filter q = Spec.seekIn d (L.filter q) v := by
  unfold Spec.seekIn
  rw [dropWhile_eq_filter v hL, dropWhile_eq_filter v (sorted_filter q hL), List.filter_filter, List.filter_filter]
  congr 1; funext x; exact Bool.and_comm ..

theorem seekIn_length_le (d : Dir) (L : List Bytes) (v : Bytes) : (Spec.seekIn d L v).length ≤ L.length := by
  unfold Spec.seekIn
  exact (List.dropWhile_sublist _).length_le

section wrappers
variable {σ : Type} {M : Machine σ} {S : Spec} {r : Render} {R : σ → List Bytes → Prop}

theorem validSkip_spec (h : Refines M S r R) (present : Bytes → Bool) (fuel : Nat) {s : σ} {rem : List Bytes}
    (hR : R s rem) (hf : rem.length < fuel) :
    ∃ s', validSkip M present fuel s = .ok s' ∧ R s' (skipTo (fun x => present ((r x).getD [])) rem) := by
  refine skipLoop_spec h _ (loop := validSkip M present) ?_ ?_ fuel hR hf
  · intro fuel s hR
    rw [validSkip, h.valid hR]; rfl
  · intro fuel s x t hR
    rw [validSkip, h.valid hR, h.current hR, Outcome.ok_bind]
    cases present ((r x).getD []) <;> rfl

theorem validIds_refines {d : Dir} {L : List Bytes} {sk : Bool} (h : Refines M (Spec.std d L sk) r R)
    (hL : Sorted d L) (present : Bytes → Bool) {fuel : Nat} (hf : L.length < fuel) :
    Refines (validIdsMachine M present fuel) (Spec.std d (L.filter (fun x => present ((r x).getD []))) sk) r
      (RSkip R (fun x => present ((r x).getD [])) fuel) where
  valid hs := hs.valid h
  current hs := hs.current h
  next := by
    intro s remF hs
    obtain ⟨rem, hRs, hlen, htail, _⟩ := hs
    obtain ⟨s1, hs1, hR1⟩ := h.next hRs
    have hlen1 : rem.tail.length < fuel := Nat.lt_of_le_of_lt (by simp) hlen
    obtain ⟨s', hs', hR'⟩ := validSkip_spec h present fuel hR1 hlen1
    refine ⟨s', by simp [validIdsMachine, hs1, hs'], ?_⟩
    rw [htail]
    exact rskip_of_skipTo hR' hlen1
  seek := by
    show match (validIdsMachine M present fuel).seek, (Spec.std d _ sk).seek with
      | some f, some g => _ | none, none => True | _, _ => False
    rcases Refines.sim_cases h.seek with ⟨hM, hS⟩ | ⟨f, g, hM, hS, hsim⟩ <;> cases sk <;> cases hS <;>
      simp only [validIdsMachine, hM, Option.map_none, Option.map_some, Spec.std, if_true, Bool.false_eq_true, if_false]
    intro v s remF ⟨rem, hRs, _, _, _⟩
    obtain ⟨s1, hs1, hR1⟩ := hsim v hRs
    have hlen1 := Nat.lt_of_le_of_lt (seekIn_length_le d L v) hf
    obtain ⟨s', hs', hR'⟩ := validSkip_spec h present fuel hR1 hlen1
    refine ⟨s', by simp [hs1, hs'], ?_⟩
    rw [← seekIn_filter hL]
    exact rskip_of_skipTo hR' hlen1
  seekS := trivial

end wrappers

/-- the conditional `Next()` of `IterateValidIds` is one more turn of the skipping loop -/
theorem newValidIdsCursor_init (c : AnyCursor) (present : Bytes → Bool) (fuel : Nat) :
    (newValidIdsCursor c present fuel).init = c.init >>= validSkip c.M present (fuel + 1) := rfl

theorem newValidIdsCursor_implements {c : AnyCursor} {d : Dir} {L : List Bytes} {sk : Bool} {r : Render}
    (h : c.Implements (Spec.std d L sk) r) (hL : Sorted d L) (present : Bytes → Bool) {fuel : Nat}
    (hf : L.length < fuel) :
    (newValidIdsCursor c present fuel).Implements
      (Spec.std d (L.filter (fun x => present ((r x).getD []))) sk) r := by
  obtain ⟨R, s, hi, href, hR⟩ := h
  obtain ⟨s', hs', hR'⟩ := validSkip_spec href present (fuel + 1) hR (Nat.lt_succ_of_lt hf)
  exact ⟨_, s', by rw [newValidIdsCursor_init, hi]; exact hs', validIds_refines href hL present hf,
    rskip_of_skipTo hR' hf⟩

def ScanCfg.Unpaged (cfg : ScanCfg) : Prop := cfg.targetOffset = 0 ∧ cfg.targetLimit = none

theorem ScanCfg.Unpaged.page {cfg : ScanCfg} (h : cfg.Unpaged) (off col : Nat) (K : List Bytes) :
    cfg.page off col K = K := by
  unfold ScanCfg.page; rw [h.1, h.2, Nat.zero_sub]; rfl

theorem ScanCfg.page_nil (cfg : ScanCfg) (off col : Nat) : cfg.page off col [] = [] := by
  unfold ScanCfg.page; cases cfg.targetLimit <;> simp

theorem ScanCfg.page_limit {cfg : ScanCfg} {col : Nat} (h : cfg.limitReached col = true) (off : Nat) (K : List Bytes) :
    cfg.page off col K = [] := by
  unfold ScanCfg.limitReached at h
  unfold ScanCfg.page
  cases hl : cfg.targetLimit with
  | none => simp [hl] at h
  | some l =>
    simp only [hl, decide_eq_true_eq] at h
    simp [show l - col = 0 by omega]

theorem ScanCfg.page_cons_skip {cfg : ScanCfg} {off : Nat} (h : off < cfg.targetOffset) (col : Nat) (x : Bytes)
    (K : List Bytes) : cfg.page off col (x :: K) = cfg.page (off + 1) col K := by
  unfold ScanCfg.page
  have : cfg.targetOffset - off = (cfg.targetOffset - (off + 1)) + 1 := by omega
  rw [this]; rfl

theorem ScanCfg.page_cons_take {cfg : ScanCfg} {off col : Nat} (h : ¬ off < cfg.targetOffset)
    (hl : cfg.limitReached col = false) (x : Bytes) (K : List Bytes) :
    cfg.page off col (x :: K) = x :: cfg.page off (col + 1) K := by
  unfold ScanCfg.limitReached at hl
  unfold ScanCfg.page
  rw [Nat.sub_eq_zero_of_le (Nat.le_of_not_lt h)]
  cases hlim : cfg.targetLimit with
  | none => rfl
  | some l =>
    rw [hlim, decide_eq_false_iff_not, Nat.not_le] at hl
    show List.take (l - col) (x :: K) = _
    rw [show l - col = (l - (col + 1)) + 1 by omega]; rfl

section scan
variable {σ : Type} {M : Machine σ} {S : Spec} {r : Render} {R : σ → List Bytes → Prop}

/-- The scanner holds the current row as the wrapped cursor rendered it; the wrapped cursor is
    already behind it; `remS` is the current row followed by the window (`ScanCfg.page`) of the
    kept rows the wrapped cursor still has.  `n` bounds what the wrapped cursor still has: one `n` for
    the whole run, so that a single `n < fuel` pays for every later `Next` (`RScan.next`). -/
def RScan (R : σ → List Bytes → Prop) (r : Render) (cfg : ScanCfg) (n : Nat) (st : ScanState σ)
    (remS : List Bytes) : Prop :=
  ∃ rem, R st.cursor rem ∧ rem.length ≤ n ∧
    ((st.current = none ∧ remS = [] ∧ cfg.page st.offset st.collected (rem.filter (cfg.keepR r)) = []) ∨
      ∃ x, st.current = r x ∧ (r x).isSome = true ∧
        remS = x :: cfg.page st.offset st.collected (rem.filter (cfg.keepR r)))

theorem RScan.valid {cfg : ScanCfg} {n : Nat} {st : ScanState σ} {remS : List Bytes} (h : RScan R r cfg n st remS) :
    st.current.isSome = !remS.isEmpty := by
  obtain ⟨_, _, _, ⟨hc, hr, _⟩ | ⟨x, hc, hsome, hr⟩⟩ := h
  · rw [hc, hr]; rfl
  · rw [hc, hr, hsome]; rfl

theorem RScan.current {cfg : ScanCfg} {n : Nat} {st : ScanState σ} {x : Bytes} {t : List Bytes}
    (h : RScan R r cfg n st (x :: t)) : st.current = r x := by
  obtain ⟨_, _, _, ⟨_, hr, _⟩ | ⟨y, hc, _, hr⟩⟩ := h
  · cases hr
  · cases hr; exact hc

theorem ite_skip {α} (a b c : Bool) (A X : α) :
    (if a then A else if b then A else if c then X else A) = if (!a && (!b && c)) then X else A := by
  cases a <;> cases b <;> cases c <;> rfl

theorem scanNext_end (h : Refines M S r R) (cfg : ScanCfg) (fuel : Nat) {st : ScanState σ} {rem : List Bytes}
    (hR : R st.cursor rem) (hend : rem = [] ∨ cfg.limitReached st.collected = true) :
    scanNext M cfg (fuel + 1) st = .ok { st with current := none } := by
  rw [scanNext, h.valid hR]
  rcases hend with rfl | hlim
  · rfl
  · rw [hlim]; cases rem <;> rfl

theorem scanNext_step (h : Refines M S r R) (cfg : ScanCfg) (fuel : Nat) {s s1 : σ} {x : Bytes} {t : List Bytes}
    (cur : Option Bytes) {off col : Nat} (hR : R s (x :: t)) (hs1 : M.next s = .ok s1)
    (hlim : cfg.limitReached col = false) :
    scanNext M cfg (fuel + 1) { cursor := s, current := cur, offset := off, collected := col } =
      if cfg.keepR r x then
        if off < cfg.targetOffset then
          scanNext M cfg fuel { cursor := s1, current := r x, offset := off + 1, collected := col }
        else .ok { cursor := s1, current := r x, offset := off, collected := col + 1 }
      else scanNext M cfg fuel { cursor := s1, current := r x, offset := off, collected := col } := by
  rw [scanNext]
  simp only [h.valid hR, h.current hR, hs1, hlim, List.isEmpty_cons, Bool.not_false, Bool.not_true, Bool.false_eq_true,
    if_false, Outcome.ok_bind]
  rw [ite_skip, Option.not_isNone]; rfl

theorem scanNext_spec (h : Refines M S r R) (cfg : ScanCfg) {n : Nat} :
    ∀ (fuel : Nat) {s : σ} {rem : List Bytes} {cur : Option Bytes} {off col : Nat}, R s rem → rem.length < fuel →
      rem.length ≤ n →
      ∃ st', scanNext M cfg fuel { cursor := s, current := cur, offset := off, collected := col } = .ok st' ∧
        RScan R r cfg n st' (cfg.page off col (rem.filter (cfg.keepR r)))
  | 0, _, _, _, _, _, _, hf, _ => absurd hf (Nat.not_lt_zero _)
  | fuel + 1, s, [], cur, off, col, hR, _, hn =>
    ⟨_, scanNext_end h cfg fuel hR (.inl rfl), [], hR, hn, .inl ⟨rfl, cfg.page_nil .., cfg.page_nil ..⟩⟩
  | fuel + 1, s, x :: t, cur, off, col, hR, hf, hn => by
    cases hlim : cfg.limitReached col with
    | true =>
      rw [ScanCfg.page_limit hlim]
      exact ⟨_, scanNext_end h cfg fuel hR (.inr hlim), x :: t, hR, hn, .inl ⟨rfl, rfl, ScanCfg.page_limit hlim ..⟩⟩
    | false =>
      obtain ⟨s1, hs1, hR1⟩ := h.next hR
      have hlen : t.length < fuel := Nat.lt_of_succ_lt_succ hf
      have hn' : t.length ≤ n := Nat.le_of_succ_le hn
      rw [scanNext_step h cfg fuel cur hR hs1 hlim]
      by_cases hk : cfg.keepR r x = true
      · rw [if_pos hk, List.filter_cons_of_pos hk]
        by_cases hoff : off < cfg.targetOffset
        · rw [if_pos hoff, ScanCfg.page_cons_skip hoff]
          exact scanNext_spec h cfg fuel hR1 hlen hn'
        · rw [if_neg hoff, ScanCfg.page_cons_take hoff hlim]
          exact ⟨_, rfl, t, hR1, hn', .inr ⟨x, rfl, (Bool.and_eq_true .. ▸ hk).1, rfl⟩⟩
      · rw [if_neg hk, List.filter_cons_of_neg hk]
        exact scanNext_spec h cfg fuel hR1 hlen hn'

theorem RScan.next (h : Refines M S r R) {cfg : ScanCfg} {fuel n : Nat} (hf : n < fuel)
    {st : ScanState σ} {remS : List Bytes} (hst : RScan R r cfg n st remS) :
    ∃ st', scanNext M cfg fuel st = .ok st' ∧ RScan R r cfg n st' remS.tail := by
  obtain ⟨rem, hRc, hlen, hc⟩ := hst
  obtain ⟨st', hst', hS⟩ := scanNext_spec h cfg fuel (cur := st.current) (off := st.offset) (col := st.collected)
    hRc (by omega) hlen
  refine ⟨st', hst', ?_⟩
  rcases hc with ⟨_, hr, hnone⟩ | ⟨x, _, _, hr⟩
  · rw [hr, List.tail_nil, ← hnone]; exact hS
  · rw [hr]; exact hS

theorem scan_refines_paged (h : Refines M S r R) (cfg : ScanCfg) {fuel n : Nat} (hf : n < fuel) :
    Refines (scanMachine M cfg fuel).nextOnly (Spec.plain (cfg.page 0 0 (S.list.filter (cfg.keepR r)))) r
      (RScan R r cfg n) where
  valid h := h.valid
  current h := congrArg Outcome.ok h.current
  next hst := hst.next h hf
  seek := trivial
  seekS := trivial

end scan

/-- the wrapped specification's `Seek` does not depend on the position, and does not invent elements -/
def Spec.SeekStateless (S : Spec) : Prop :=
  ∀ g, S.seek = some g → ∀ v rem, g v rem = g v S.list ∧ (g v S.list).length ≤ S.list.length

theorem setSymSpec_stateless (E : List Bytes) : (setSymSpec E).SeekStateless := by
  intro g hg v rem
  cases hg
  exact ⟨rfl, (List.dropWhile_sublist _).length_le⟩

theorem plain_stateless (L : List Bytes) : (Spec.plain L).SeekStateless := fun _ hg => nomatch hg

theorem seekable_stateless (d : Dir) (L : List Bytes) : (Spec.seekable d L).SeekStateless := by
  intro g hg v rem
  cases hg
  exact ⟨rfl, seekIn_length_le d L v⟩

section scanSeek
variable {σ : Type} {M : Machine σ} {S : Spec} {r : Render} {R : σ → List Bytes → Prop}

/-- the fallback loop of `Seek` is the skipping loop (`skipLoop_spec`) run over the scanner itself -/
theorem scanSeekLinear_spec (h : Refines M S r R) (cfg : ScanCfg) (val : Bytes) {fuel n : Nat} (hf : n < fuel)
    (m : Nat) {st : ScanState σ} {remS : List Bytes} (hst : RScan R r cfg n st remS) (hm : remS.length < m) :
    ∃ st', scanSeekLinear M cfg val fuel m st = .ok st' ∧
      RScan R r cfg n st' (remS.dropWhile (fun x => decide ((r x).getD [] < val))) := by
  have := skipLoop_spec (scan_refines_paged h cfg hf) (fun x => !decide ((r x).getD [] < val))
    (loop := scanSeekLinear M cfg val fuel) ?_ ?_ m hst hm
  · simpa [skipTo] using this
  · intro m st hR
    have hcur : st.current = none := by simpa using hR.valid
    rw [scanSeekLinear, hcur]; rfl
  · intro m st x t hR
    obtain ⟨y, hy⟩ : ∃ y, r x = some y := Option.isSome_iff_exists.1 (by have := hR.valid; rwa [hR.current] at this)
    rw [scanSeekLinear, hR.current, hy, Option.getD_some]
    show (if y < val then _ else _) = _
    by_cases hlt : y < val
    · rw [if_pos hlt, decide_eq_true hlt]; rfl
    · rw [if_neg hlt, decide_eq_false hlt]; rfl

theorem scan_refines (h : Refines M S r R) (hS : S.SeekStateless) {cfg : ScanCfg} (hcfg : cfg.Unpaged)
    {fuel : Nat} (hf : S.list.length + 1 < fuel) :
    Refines (scanMachine M cfg fuel) (scanSpecR S r (cfg.keepR r)) r (RScan R r cfg S.list.length) where
  valid h := h.valid
  current h := congrArg Outcome.ok h.current
  next hst := hst.next h (by omega)
  seek := by
    show match (scanMachine M cfg fuel).seek, (scanSpecR S r (cfg.keepR r)).seek with
      | some f, some g => _ | none, none => True | _, _ => False
    simp only [scanMachine, scanSpecR]
    intro v st remS hst
    rcases Refines.sim_cases h.seek with ⟨hM, hSs⟩ | ⟨f, g, hM, hSs, hs⟩ <;> simp only [hM, hSs]
    · obtain ⟨rem, _, hlen, hc⟩ := id hst
      have hlen : remS.length < fuel := by
        have := List.length_filter_le (cfg.keepR r) rem
        rcases hc with ⟨_, hr, _⟩ | ⟨x, _, _, hr⟩ <;> rw [hr]
        · exact Nat.zero_lt_of_lt hf
        · rw [hcfg.page, List.length_cons]; omega
      exact scanSeekLinear_spec h cfg v (by omega) fuel hst hlen
    · obtain ⟨rem, hRc, _, _⟩ := hst
      obtain ⟨c1, hc1, hR1⟩ := hs v hRc
      obtain ⟨hg, hglen⟩ := hS g hSs v rem
      rw [hg] at hR1
      obtain ⟨st', hst', hS'⟩ := scanNext_spec h cfg fuel (cur := st.current) (off := st.offset)
        (col := st.collected) hR1 (by omega) hglen
      rw [hcfg.page] at hS'
      exact ⟨st', by simp [hc1, hst'], hS'⟩
  seekS := trivial

end scanSeek

theorem newScanCursor_implements {c : AnyCursor} {S : Spec} {r : Render} (h : c.Implements S r)
    (hS : S.SeekStateless) {cfg : ScanCfg} (hcfg : cfg.Unpaged) {fuel : Nat} (hf : S.list.length + 1 < fuel) :
    (newScanCursor c cfg fuel).Implements (scanSpecR S r (cfg.keepR r)) r := by
  obtain ⟨R, s, hi, href, hR⟩ := h
  obtain ⟨st', hst', hS'⟩ := scanNext_spec href cfg fuel (cur := none) (off := 0) (col := 0) hR (by omega) (Nat.le_refl _)
  rw [hcfg.page] at hS'
  exact ⟨_, st', by simp [newScanCursor, hi, hst'], scan_refines href hS hcfg hf, hS'⟩

theorem keepR_some (cfg : ScanCfg) : cfg.keepR some = cfg.keep := by
  funext x; simp [ScanCfg.keepR]

theorem scanSpecR_std {d : Dir} {L : List Bytes} (hL : Sorted d L) (cfg : ScanCfg) :
    scanSpecR (Spec.std d L true) some (cfg.keepR some) = Spec.std d (L.filter cfg.keep) true := by
  rw [keepR_some]
  show Spec.mk _ (some fun v _ => (Spec.seekIn d L v).filter cfg.keep) none = Spec.mk _ (some _) none
  congr 2; funext v _
  exact seekIn_filter hL _ v

end StorageModel.Cursor
