import StorageModel.Cursor.Mem
/-
  C14 — the in-memory cursors refine the list specification: the tree walk through what the nodes on
  its stack still yield (`stackRest`), every wrapper that skips elements through one loop lemma
  (`skipLoop_spec`), the union through an invariant on its operands' remainders (`UInv`).
-/
namespace StorageModel.Cursor

theorem empty_refines : Refines emptyMachine (Spec.seekable .fwd []) some (fun _ rem => rem = []) where
  valid := by intro s rem h; subst h; rfl
  current := by intro s x t h; cases h
  next := by intro s rem h; subst h; exact ⟨(), rfl, rfl⟩
  seek := by
    show ∀ v {s rem}, rem = [] → ∃ s', _ = Outcome.ok s' ∧ Spec.seekIn .fwd [] v = []
    intro v s rem _; exact ⟨(), rfl, rfl⟩
  seekS := trivial

theorem emptyCursor_implements : emptyCursor.Implements (Spec.seekable .fwd []) some :=
  ⟨_, (), rfl, empty_refines, rfl⟩

theorem slice_refines (vals : List Bytes) : Refines sliceMachine (Spec.plain vals) some (fun s rem => s = rem) where
  valid := by intro s rem h; subst h; cases s <;> rfl
  current := by intro s x t h; subst h; rfl
  next := by intro s rem h; subst h; cases s <;> exact ⟨_, rfl, rfl⟩
  seek := trivial
  seekS := trivial

theorem sliceCursor_implements (vals : List Bytes) : (sliceCursor vals).Implements (Spec.plain vals) some :=
  ⟨_, vals, rfl, slice_refines vals, rfl⟩

/-- what the nodes waiting on the stack still yield, top first: a node its element, then its right subtree.
    (The library pushes no nil; in the model a nil popped into `current` ends the walk, so nothing below it counts.) -/
def stackRest : List Tree → List Bytes
  | [] => []
  | .nil :: _ => []
  | .node _ e r :: st => e :: r.inorder ++ stackRest st

/-- the current node is one more waiting node -/
def RTree (c : TreeCur) (rem : List Bytes) : Prop := stackRest (c.current :: c.stack) = rem

theorem treeDescend_ok : ∀ (l : Tree) (e : Bytes) (r : Tree) (st : List Tree),
    ∃ c, treeDescend (.node l e r) st = .ok c ∧ RTree c ((Tree.node l e r).inorder ++ stackRest st)
  | .nil, e, r, st => ⟨{ stack := st, current := .node .nil e r }, rfl, rfl⟩
  | .node a b c, e, r, st => by
    obtain ⟨cur, hc, hR⟩ := treeDescend_ok a b c (.node (.node a b c) e r :: st)
    refine ⟨cur, by simpa [treeDescend] using hc, ?_⟩
    simpa [Tree.inorder, stackRest, List.append_assoc] using hR

theorem tree_refines (L : List Bytes) (render : Render) :
    Refines (treeMachine render) (Spec.plain L) render RTree where
  valid := by
    intro ⟨stack, current⟩ rem h
    subst h
    cases current <;> rfl
  current := by
    intro ⟨stack, current⟩ x t h
    cases current with
    | nil => cases h
    | node l e r => cases h; rfl
  next := by
    intro ⟨stack, current⟩ rem h
    subst h
    cases current with
    | nil => exact ⟨_, rfl, rfl⟩
    | node l e r =>
      cases r with
      | nil =>
        cases stack with
        | nil => exact ⟨_, rfl, rfl⟩
        | cons top rest => exact ⟨{ stack := rest, current := top }, rfl, rfl⟩
      | node a b c =>
        obtain ⟨cur, hc, hR⟩ := treeDescend_ok a b c stack
        exact ⟨cur, by simpa [treeMachine, treeNext, Tree.isNil] using hc, hR⟩
  seek := trivial
  seekS := trivial

theorem newTreeCursor_ok (root : Tree) : ∃ c, newTreeCursor root = .ok c ∧ RTree c root.inorder := by
  cases root with
  | nil => exact ⟨_, rfl, rfl⟩
  | node l e r =>
    obtain ⟨c, hc, hR⟩ := treeDescend_ok l e r []
    exact ⟨c, by simpa [newTreeCursor, Tree.isNil] using hc, by simpa [stackRest] using hR⟩

theorem treeCursor_implements (root : Tree) (render : Render) :
    ({ σ := TreeCur, M := treeMachine render, init := newTreeCursor root } : AnyCursor).Implements
      (Spec.plain root.inorder) render := by
  obtain ⟨c, hc, hR⟩ := newTreeCursor_ok root
  exact ⟨RTree, c, hc, tree_refines _ render, hR⟩

theorem inorder_insert {d : Dir} {x : Bytes} : ∀ {t : Tree},
    Sorted d t.inorder → (t.insert d x).inorder = insertD d x t.inorder
  | .nil, _ => rfl
  | .node l e r, h => by
    obtain ⟨hl, hr, hle⟩ := List.pairwise_append.1 h
    unfold Tree.insert
    split
    · next hxe => simp only [Tree.inorder, inorder_insert hl, insertD_append_of_before hxe]
    · next hxe =>
      simp only [Tree.inorder]
      split
      · next hex =>
        rw [insertD_append_of_after _ fun a ha => Dir.before_trans (hle a ha e (List.mem_cons_self ..)) hex]
        simp only [Tree.inorder, insertD, if_neg hxe, if_pos hex, inorder_insert (List.pairwise_cons.1 hr).2]
      · next hex =>
        cases Dir.eq_of_not_before hxe hex
        rw [insertD_append_of_after _ fun a ha => hle a ha x (List.mem_cons_self ..)]
        simp only [Tree.inorder, insertD, if_neg hxe]

theorem treeSet_inorder (d : Dir) (adds : List Bytes) :
    (adds.foldl (fun t x => t.insert d x) Tree.nil).inorder = sortD d adds := by
  have key : ∀ (adds : List Bytes) (t : Tree), Sorted d t.inorder →
      (adds.foldl (fun t x => t.insert d x) t).inorder = adds.foldl (fun l x => insertD d x l) t.inorder := by
    intro adds
    induction adds with
    | nil => exact fun _ _ => rfl
    | cons x rest ih =>
      intro t h
      have hx := inorder_insert (x := x) h
      rw [List.foldl_cons, ih _ (hx ▸ sorted_insertD h), hx]; rfl
  -- the tree is filled from the left, `sortD` folds from the right: the same set either way
  rw [key adds .nil List.Pairwise.nil, ← List.foldr_reverse]
  exact eq_sortD (sorted_sortD (xs := adds.reverse)) fun _ => mem_sortD.trans List.mem_reverse

theorem treeSetCursor_implements (d : Dir) (render : Render) (adds : List Bytes) :
    (treeSetCursor d render adds).Implements (Spec.plain (sortD d adds)) render := by
  have := treeCursor_implements (adds.foldl (fun t x => t.insert d x) .nil) render
  rwa [treeSet_inorder] at this

def skipTo (q : Bytes → Bool) (l : List Bytes) : List Bytes := l.dropWhile (fun x => !q x)

theorem skipTo_of_head {q : Bytes → Bool} {x : Bytes} {t : List Bytes} (h : q x = true) :
    skipTo q (x :: t) = x :: t := by simp [skipTo, List.dropWhile, h]

theorem skipTo_cons_not {q : Bytes → Bool} {x : Bytes} {t : List Bytes} (h : q x = false) :
    skipTo q (x :: t) = skipTo q t := by simp [skipTo, List.dropWhile, h]

theorem filter_skipTo (q : Bytes → Bool) : ∀ (l : List Bytes), (skipTo q l).filter q = l.filter q
  | [] => rfl
  | x :: t => by
    cases hx : q x with
    | true => rw [skipTo_of_head hx]
    | false => rw [skipTo_cons_not hx, filter_skipTo q t, List.filter_cons_of_neg (ne_true_of_eq_false hx)]

theorem skipTo_head {q : Bytes → Bool} {l : List Bytes} {x : Bytes} {t : List Bytes}
    (h : skipTo q l = x :: t) : q x = true := by
  have := dropWhile_head_false h
  simpa using this

theorem skipTo_length_le (q : Bytes → Bool) (l : List Bytes) : (skipTo q l).length ≤ l.length :=
  (List.dropWhile_sublist _).length_le

section filtered
variable {σ : Type} {M : Machine σ} {S : Spec} {r : Render} {R : σ → List Bytes → Prop}

/-- A loop that stops on an accepted element and otherwise steps the wrapped cursor and goes on comes to
    stand on the first accepted element ahead; the budget is not exhausted.  `filteredCursor.Next`, the loop of
    `ValidIdsCursors` and the scanner's `Seek` over a cursor without one (`scanSeekLinear`) run this loop. -/
theorem skipLoop_spec (h : Refines M S r R) (q : Bytes → Bool) {loop : Nat → σ → Outcome σ}
    (hnil : ∀ fuel s, R s [] → loop (fuel + 1) s = .ok s)
    (hcons : ∀ fuel s x t, R s (x :: t) → loop (fuel + 1) s = if q x then .ok s else M.next s >>= loop fuel) :
    ∀ (fuel : Nat) {s : σ} {rem : List Bytes}, R s rem → rem.length < fuel →
      ∃ s', loop fuel s = .ok s' ∧ R s' (skipTo q rem)
  | 0, _, _, _, hf => absurd hf (Nat.not_lt_zero _)
  | fuel + 1, s, [], hR, _ => ⟨s, hnil fuel s hR, hR⟩
  | fuel + 1, s, x :: t, hR, hf => by
    rw [hcons fuel s x t hR]
    cases hq : q x with
    | true => rw [if_pos rfl, skipTo_of_head hq]; exact ⟨s, rfl, hR⟩
    | false =>
      obtain ⟨s1, hs1, hR1⟩ := h.next hR
      obtain ⟨s', hs', hR'⟩ := skipLoop_spec h q hnil hcons fuel hR1 (Nat.lt_of_succ_lt_succ hf)
      rw [if_neg Bool.false_ne_true, hs1, Outcome.ok_bind, skipTo_cons_not hq]
      exact ⟨s', hs', hR'⟩

/-- the body of `filteredCursor.Next` after `cursor.wrapped.Next()` -/
def filteredLoop (M : Machine σ) (p : Option Bytes → Bool) (fuel : Nat) (s : σ) : Outcome σ :=
  if M.valid s then do
    let c ← M.current s
    if p c then pure s else filteredNext M p fuel s
  else filteredNext M p fuel s

theorem filteredNext_succ (M : Machine σ) (p : Option Bytes → Bool) (fuel : Nat) (s : σ) :
    filteredNext M p (fuel + 1) s = if M.valid s then M.next s >>= filteredLoop M p fuel else .ok s := by
  rw [filteredNext]; rfl

theorem filteredNext_spec (h : Refines M S r R) (p : Option Bytes → Bool) :
    ∀ (fuel : Nat) {s : σ} {rem : List Bytes}, R s rem → rem.length < fuel →
      ∃ s', filteredNext M p fuel s = .ok s' ∧ R s' (skipTo (fun x => p (r x)) rem.tail)
  | 0, _, _, _, hf => absurd hf (Nat.not_lt_zero _)
  | fuel + 1, s, [], hR, _ => ⟨s, by rw [filteredNext_succ, h.valid hR]; rfl, hR⟩
  | fuel + 1, s, x :: t, hR, hf => by
    obtain ⟨s1, hs1, hR1⟩ := h.next hR
    rw [filteredNext_succ, h.valid hR, hs1]
    refine skipLoop_spec h _ (loop := filteredLoop M p) ?_ ?_ fuel hR1 (Nat.lt_of_succ_lt_succ hf)
    · intro fuel s hR
      rw [filteredLoop, h.valid hR, filteredNext_succ, h.valid hR]; rfl
    · intro fuel s x t hR
      rw [filteredLoop, h.valid hR, h.current hR, filteredNext_succ, h.valid hR]; rfl

/-- The simulation of a wrapper that skips rejected elements (filteredCursor, ValidIdsCursors): the
    wrapped cursor stands on the wrapper's current element (or both are exhausted), and the wrapper's
    rest is the accepted part of the wrapped cursor's rest. -/
def RSkip (R : σ → List Bytes → Prop) (q : Bytes → Bool) (fuel : Nat) (s : σ) (remF : List Bytes) : Prop :=
  ∃ rem, R s rem ∧ rem.length < fuel ∧ remF.tail = rem.tail.filter q ∧ remF.head? = rem.head?

theorem rskip_of_skipTo {q : Bytes → Bool} {fuel : Nat} {s : σ} {rem : List Bytes}
    (hR : R s (skipTo q rem)) (hlen : rem.length < fuel) : RSkip R q fuel s (rem.filter q) := by
  refine ⟨skipTo q rem, hR, Nat.lt_of_le_of_lt (skipTo_length_le q rem) hlen, ?_⟩
  rw [← filter_skipTo]
  cases h : skipTo q rem with
  | nil => exact ⟨rfl, rfl⟩
  | cons x t => rw [List.filter_cons_of_pos (skipTo_head h)]; exact ⟨rfl, rfl⟩

theorem RSkip.valid (h : Refines M S r R) {q : Bytes → Bool} {fuel : Nat} {s : σ} {remF : List Bytes}
    (hs : RSkip R q fuel s remF) : M.valid s = !remF.isEmpty := by
  obtain ⟨rem, hR, _, _, hh⟩ := hs
  rw [h.valid hR]
  cases remF <;> cases rem <;> first | rfl | cases hh

theorem RSkip.current (h : Refines M S r R) {q : Bytes → Bool} {fuel : Nat} {s : σ} {x : Bytes} {t : List Bytes}
    (hs : RSkip R q fuel s (x :: t)) : M.current s = .ok (r x) := by
  obtain ⟨rem, hR, _, _, hh⟩ := hs
  cases rem with
  | nil => cases hh
  | cons y t' => cases hh; exact h.current hR

def RFilt (R : σ → List Bytes → Prop) (q : Bytes → Bool) (fuel : Nat) : FiltState σ → List Bytes → Prop
  | .empty, remF => remF = []
  | .wrap s, remF => RSkip R q fuel s remF

theorem filtered_refines (h : Refines M S r R) (p : Option Bytes → Bool) (fuel : Nat) (L : List Bytes) :
    Refines (filteredMachine M p fuel) (Spec.plain L) r (RFilt R (fun x => p (r x)) fuel) where
  valid := by
    intro st remF hR
    cases st with
    | empty => cases hR; rfl
    | wrap s => exact RSkip.valid h hR
  current := by
    intro st x t hR
    cases st with
    | empty => cases hR
    | wrap s => exact RSkip.current h hR
  next := by
    intro st remF hR
    cases st with
    | empty => cases hR; exact ⟨.empty, rfl, rfl⟩
    | wrap s =>
      obtain ⟨rem, hRs, hlen, htail, _⟩ := hR
      obtain ⟨s', hs', hR'⟩ := filteredNext_spec h p fuel hRs hlen
      refine ⟨.wrap s', by simp [filteredMachine, hs'], ?_⟩
      rw [htail]
      exact rskip_of_skipTo hR' (Nat.lt_of_le_of_lt (by simp) hlen)
  seek := trivial
  seekS := trivial

theorem newFilteredCursor_implements {c : AnyCursor} {S : Spec} {r : Render} (h : c.Implements S r)
    (p : Option Bytes → Bool) {fuel : Nat} (hf : S.list.length < fuel) :
    (newFilteredCursor c p fuel).Implements (Spec.plain (S.list.filter (fun x => p (r x)))) r := by
  obtain ⟨R, s, hi, href, hR⟩ := h
  have hrefF := fun L => filtered_refines href p fuel L
  unfold AnyCursor.Implements newFilteredCursor
  simp only [hi, Outcome.ok_bind, href.valid hR]
  cases hL : S.list with
  | nil => exact ⟨_, .empty, by simp, hrefF _, rfl⟩
  | cons x t =>
    rw [hL] at hR hf
    simp only [List.isEmpty_cons, Bool.not_false, href.current hR, Outcome.ok_bind]
    by_cases hp : p (r x) = true
    · refine ⟨_, .wrap s, by simp [hp], hrefF _, ?_⟩
      exact rskip_of_skipTo (by rw [skipTo_of_head (q := fun x => p (r x)) hp]; exact hR) hf
    · have hp' : p (r x) = false := by simpa using hp
      obtain ⟨s', hs', hR'⟩ := filteredNext_spec href p fuel hR hf
      refine ⟨_, .wrap s', by simp [hp', hs'], hrefF _, ?_⟩
      have := rskip_of_skipTo hR' (Nat.lt_of_succ_lt hf)
      rwa [← List.filter_cons_of_neg (a := x) (by simp [hp'])] at this

end filtered

/-- the merge the union cursor performs on the remainders of its two operands -/
def merge (d : Dir) : List Bytes → List Bytes → List Bytes
  | [], l2 => l2
  | x :: t1, [] => x :: t1
  | x :: t1, y :: t2 =>
    if x = y then x :: merge d t1 t2
    else if d.before x y then x :: merge d t1 (y :: t2)
    else y :: merge d (x :: t1) t2
termination_by l1 l2 => l1.length + l2.length

theorem merge_nil_left (d : Dir) (l : List Bytes) : merge d [] l = l := by simp [merge]
theorem merge_nil_right (d : Dir) (l : List Bytes) : merge d l [] = l := by cases l <;> simp [merge]

theorem mem_merge {d : Dir} {z : Bytes} : ∀ (l1 l2 : List Bytes), z ∈ merge d l1 l2 ↔ z ∈ l1 ∨ z ∈ l2 := by
  intro l1 l2
  fun_induction merge d l1 l2 with
  | case1 l2 => simp
  | case2 x t1 => simp
  | case3 x t1 t2 ih => simp [ih]; grind
  | case4 x t1 y t2 hne hb ih => simp [ih]; grind
  | case5 x t1 y t2 hne hb ih => simp [ih]; grind

theorem forall_mem_merge {d : Dir} {P : Bytes → Prop} {l1 l2 : List Bytes} (h1 : ∀ z ∈ l1, P z) (h2 : ∀ z ∈ l2, P z) :
    ∀ z ∈ merge d l1 l2, P z := fun z hz => ((mem_merge l1 l2).1 hz).elim (h1 z) (h2 z)

theorem sorted_merge {d : Dir} : ∀ (l1 l2 : List Bytes), Sorted d l1 → Sorted d l2 → Sorted d (merge d l1 l2) := by
  intro l1 l2
  fun_induction merge d l1 l2 with
  | case1 l2 => exact fun _ h => h
  | case2 x t1 => exact fun h _ => h
  | case3 x t1 t2 ih =>
    intro h1 h2
    have h1' := List.pairwise_cons.1 h1
    have h2' := List.pairwise_cons.1 h2
    exact List.pairwise_cons.2 ⟨forall_mem_merge h1'.1 h2'.1, ih h1'.2 h2'.2⟩
  | case4 x t1 y t2 hne hb ih =>
    intro h1 h2
    have h1' := List.pairwise_cons.1 h1
    exact List.pairwise_cons.2 ⟨forall_mem_merge h1'.1 (h2.before_all hb), ih h1'.2 h2⟩
  | case5 x t1 y t2 hne hb ih =>
    intro h1 h2
    have h2' := List.pairwise_cons.1 h2
    exact List.pairwise_cons.2 ⟨forall_mem_merge (h1.before_all (Dir.before_of_ne hne hb)) h2'.1, ih h1 h2'.2⟩

theorem merge_eq_sortD {d : Dir} {l1 l2 : List Bytes} (h1 : Sorted d l1) (h2 : Sorted d l2) :
    merge d l1 l2 = sortD d (l1 ++ l2) :=
  eq_sortD (sorted_merge l1 l2 h1 h2) fun _ => (mem_merge l1 l2).trans List.mem_append.symm

/-- a render under which an element can be recognised again: `some`, and the nil-for-empty
    convention of `GetTypeAndValue` -/
def Faithful (r : Render) : Prop := ∀ x, (r x).getD [] = x

theorem faithful_some : Faithful some := fun _ => rfl
theorem faithful_nilEmpty : Faithful renderNilEmpty := fun x => by cases x <;> rfl

theorem bytesCompare_rendered {r₁ r₂ : Render} (h₁ : Faithful r₁) (h₂ : Faithful r₂) (x y : Bytes) :
    bytesCompare (r₁ x) (r₂ y) = if x < y then .lt else if y < x then .gt else .eq := by
  simp only [bytesCompare, h₁ x, h₂ y]

/-- what the union returns for an element: the first operand's rendering when the first operand
    holds it, else the second's -/
def unionRender (L₁ : List Bytes) (r₁ r₂ : Render) : Render := fun x => if x ∈ L₁ then r₁ x else r₂ x

theorem faithful_unionRender {L₁ : List Bytes} {r₁ r₂ : Render} (h₁ : Faithful r₁) (h₂ : Faithful r₂) :
    Faithful (unionRender L₁ r₁ r₂) := fun x => by
  unfold unionRender; split
  · exact h₁ x
  · exact h₂ x

/-- what the union keeps true of its operands' remainders: they are sorted, and whatever the second
    operand still holds that also belongs to the first operand's set `L₁` is still ahead in the first -/
structure UInv (d : Dir) (L₁ r1 r2 : List Bytes) : Prop where
  s1 : Sorted d r1
  s2 : Sorted d r2
  sub : ∀ y ∈ r1, y ∈ L₁
  inv : ∀ y ∈ r2, y ∈ L₁ → y ∈ r1

namespace UInv
variable {d : Dir} {L₁ r1 r2 t1 t2 : List Bytes} {x y : Bytes}

theorem tail₂ (h : UInv d L₁ r1 (y :: t2)) : UInv d L₁ r1 t2 :=
  ⟨h.s1, (List.pairwise_cons.1 h.s2).2, h.sub, fun z hz => h.inv z (List.mem_cons_of_mem _ hz)⟩

theorem tail₁ (h : UInv d L₁ (x :: t1) r2) (hx : ∀ z ∈ r2, d.before x z) : UInv d L₁ t1 r2 :=
  ⟨(List.pairwise_cons.1 h.s1).2, h.s2, fun z hz => h.sub z (List.mem_cons_of_mem _ hz), fun z hz hzL =>
    (List.mem_cons.1 (h.inv z hz hzL)).resolve_left fun e => Dir.before_irrefl d z (e ▸ hx z hz)⟩

theorem render₁ (h : UInv d L₁ (x :: t1) r2) (r₁ r₂ : Render) : r₁ x = unionRender L₁ r₁ r₂ x :=
  (if_pos (h.sub x (List.mem_cons_self ..))).symm

theorem render₂ (h : UInv d L₁ r1 (y :: t2)) (hy : y ∉ r1) (r₁ r₂ : Render) : r₂ y = unionRender L₁ r₁ r₂ y :=
  (if_neg fun hyL => hy (h.inv y (List.mem_cons_self ..) hyL)).symm

end UInv

section union
variable {σ₁ σ₂ : Type} {M₁ : Machine σ₁} {M₂ : Machine σ₂} {S₁ S₂ : Spec} {r₁ r₂ : Render}
  {R₁ : σ₁ → List Bytes → Prop} {R₂ : σ₂ → List Bytes → Prop}

/-- the union stands on the head of `rem` (it has taken it from its operands already); the rest is the merge of
    what the operands still hold -/
def RUnion (R₁ : σ₁ → List Bytes → Prop) (R₂ : σ₂ → List Bytes → Prop) (d : Dir) (L₁ : List Bytes)
    (r₁ r₂ : Render) (u : UnionState σ₁ σ₂) (rem : List Bytes) : Prop :=
  (match rem with
    | [] => u.valid = false
    | x :: _ => u.valid = true ∧ u.current = unionRender L₁ r₁ r₂ x) ∧
  ∃ r1 r2, R₁ u.fst r1 ∧ R₂ u.snd r2 ∧ UInv d L₁ r1 r2 ∧ rem.tail = merge d r1 r2

theorem unionNext_cons_cons (h₁ : Refines M₁ S₁ r₁ R₁) (h₂ : Refines M₂ S₂ r₂ R₂) (hf₁ : Faithful r₁) (hf₂ : Faithful r₂)
    (d : Dir) {cur : Option Bytes} {v : Bool} {s1 s1' : σ₁} {s2 s2' : σ₂} {x y : Bytes} {t1 t2 : List Bytes}
    (hR1 : R₁ s1 (x :: t1)) (hR2 : R₂ s2 (y :: t2)) (hs1 : M₁.next s1 = .ok s1') (hs2 : M₂.next s2 = .ok s2') :
    unionNext M₁ M₂ (d == .fwd) { current := cur, valid := v, fst := s1, snd := s2 } =
      .ok (if x = y then { current := r₁ x, valid := true, fst := s1', snd := s2' }
        else if d.before x y then { current := r₁ x, valid := true, fst := s1', snd := s2 }
        else { current := r₂ y, valid := true, fst := s1, snd := s2' }) := by
  unfold unionNext
  simp only [h₁.valid hR1, h₂.valid hR2, List.isEmpty_cons, Bool.not_false,
    h₁.current hR1, h₂.current hR2, Outcome.ok_bind, bytesCompare_rendered hf₁ hf₂, Bool.or_self, hs1, hs2]
  by_cases hxy : x = y
  · subst hxy; simp [blt_irrefl]
  · by_cases hlt : x < y
    · cases d <;> simp [hxy, hlt, blt_asymm hlt]
    · have hgt : y < x := Dir.before_of_ne (d := .fwd) hxy hlt
      cases d <;> simp [hxy, hlt, hgt]

theorem unionNext_spec (h₁ : Refines M₁ S₁ r₁ R₁) (h₂ : Refines M₂ S₂ r₂ R₂) (hf₁ : Faithful r₁) (hf₂ : Faithful r₂)
    (d : Dir) (L₁ : List Bytes) {cur : Option Bytes} {v : Bool} {s1 : σ₁} {s2 : σ₂} {r1 r2 : List Bytes}
    (hR1 : R₁ s1 r1) (hR2 : R₂ s2 r2) (hI : UInv d L₁ r1 r2) :
    ∃ u', unionNext M₁ M₂ (d == .fwd) { current := cur, valid := v, fst := s1, snd := s2 } = .ok u' ∧
      RUnion R₁ R₂ d L₁ r₁ r₂ u' (merge d r1 r2) := by
  cases r1 with
  | nil =>
    rw [merge_nil_left]
    cases r2 with
    | nil =>
      exact ⟨{ current := none, valid := false, fst := s1, snd := s2 }, by simp [unionNext, h₁.valid hR1, h₂.valid hR2],
        rfl, [], [], hR1, hR2, hI, (merge_nil_left ..).symm⟩
    | cons y t2 =>
      obtain ⟨s2', hs2', hR2'⟩ := h₂.next hR2
      exact ⟨{ current := r₂ y, valid := true, fst := s1, snd := s2' },
        by simp [unionNext, h₁.valid hR1, h₂.valid hR2, h₂.current hR2, hs2'],
        ⟨rfl, hI.render₂ List.not_mem_nil r₁ r₂⟩, [], t2, hR1, hR2', hI.tail₂, (merge_nil_left ..).symm⟩
  | cons x t1 =>
    obtain ⟨s1', hs1', hR1'⟩ := h₁.next hR1
    cases r2 with
    | nil =>
      rw [merge_nil_right]
      exact ⟨{ current := r₁ x, valid := true, fst := s1', snd := s2 },
        by simp [unionNext, h₁.valid hR1, h₂.valid hR2, h₁.current hR1, hs1'],
        ⟨rfl, hI.render₁ r₁ r₂⟩, t1, [], hR1', hR2, hI.tail₁ (fun _ h => nomatch h), (merge_nil_right ..).symm⟩
    | cons y t2 =>
      obtain ⟨s2', hs2', hR2'⟩ := h₂.next hR2
      refine ⟨_, unionNext_cons_cons h₁ h₂ hf₁ hf₂ d hR1 hR2 hs1' hs2', ?_⟩
      rw [merge]
      by_cases hxy : x = y
      · subst hxy
        rw [if_pos rfl, if_pos rfl]
        exact ⟨⟨rfl, hI.render₁ r₁ r₂⟩, t1, t2, hR1', hR2', hI.tail₂.tail₁ (List.pairwise_cons.1 hI.s2).1, rfl⟩
      · rw [if_neg hxy, if_neg hxy]
        by_cases hb : d.before x y
        · rw [if_pos hb, if_pos hb]
          exact ⟨⟨rfl, hI.render₁ r₁ r₂⟩, t1, y :: t2, hR1', hR2, hI.tail₁ (hI.s2.before_all hb), rfl⟩
        · rw [if_neg hb, if_neg hb]
          have hy : y ∉ x :: t1 := fun hm =>
            Dir.before_irrefl d y (hI.s1.before_all (Dir.before_of_ne hxy hb) y hm)
          exact ⟨⟨rfl, hI.render₂ hy r₁ r₂⟩, x :: t1, t2, hR1, hR2', hI.tail₂, rfl⟩

theorem union_refines (h₁ : Refines M₁ S₁ r₁ R₁) (h₂ : Refines M₂ S₂ r₂ R₂) (hf₁ : Faithful r₁) (hf₂ : Faithful r₂)
    (d : Dir) (L₁ L : List Bytes) :
    Refines (unionMachine M₁ M₂ (d == .fwd)) (Spec.plain L) (unionRender L₁ r₁ r₂) (RUnion R₁ R₂ d L₁ r₁ r₂) where
  valid := fun {_ rem} h => by cases rem <;> first | exact h.1 | exact h.1.1
  current h := congrArg Outcome.ok h.1.2
  next := by
    intro u rem ⟨_, r1, r2, hR1, hR2, hI, hm⟩
    obtain ⟨u', hu', hR'⟩ := unionNext_spec h₁ h₂ hf₁ hf₂ d L₁ (cur := u.current) (v := u.valid) hR1 hR2 hI
    exact ⟨u', hu', hm ▸ hR'⟩
  seek := trivial
  seekS := trivial

theorem newUnionSetCursor_implements {a b : AnyCursor} {S₁ S₂ : Spec} {r₁ r₂ : Render} (ha : a.Implements S₁ r₁)
    (hb : b.Implements S₂ r₂) (hf₁ : Faithful r₁) (hf₂ : Faithful r₂) (d : Dir)
    (hs1 : Sorted d S₁.list) (hs2 : Sorted d S₂.list) :
    (newUnionSetCursor a b (d == .fwd)).Implements (Spec.plain (sortD d (S₁.list ++ S₂.list)))
      (unionRender S₁.list r₁ r₂) := by
  obtain ⟨R₁, s1, hi1, href1, hR1⟩ := ha
  obtain ⟨R₂, s2, hi2, href2, hR2⟩ := hb
  obtain ⟨u', hu', hR'⟩ := unionNext_spec href1 href2 hf₁ hf₂ d S₁.list (cur := none) (v := false) hR1 hR2
    ⟨hs1, hs2, fun _ h => h, fun _ _ h => h⟩
  exact ⟨_, u', by simp [newUnionSetCursor, hi1, hi2, hu'], union_refines href1 href2 hf₁ hf₂ d _ _,
    merge_eq_sortD hs1 hs2 ▸ hR'⟩

end union

end StorageModel.Cursor
