import StorageModel.Cursor.Write
import StorageModel.Cursor.ReuseProofs
/-
  C14 — re-opened / re-sought after a write: whatever the object cached, after the entry it walks
  the CURRENT set.
-/
namespace StorageModel.Cursor

/-- what re-opening and re-seeking must achieve in a world that is written: simulations `R w k` per world and row;
    `reopen w k` leads into `R w k` from EVERY state; if the object re-reads on `Seek` (`reseekable`), a `Seek` on the
    object as it is found in world `w` (`rebase`) leads into `R w k` from a state related in ANY earlier world `w0` in
    which the row's bucket object was the same one (`ident`) -/
def WObject.Implements {ω σ κ ι : Type} (U : WObject ω σ κ ι) (S : ω → κ → Spec) (r : ω → κ → Render) : Prop :=
  ∃ R : ω → κ → σ → List Bytes → Prop,
    (∀ w k, Refines (U.M w) (S w k) (r w k) (R w k)) ∧
    (∀ w k s, ∃ s', U.reopen w k s = .ok s' ∧ R w k s' (S w k).list) ∧
    (U.reseekable = true → ∀ w0 w k, U.ident w0 k = U.ident w k → ∀ s rem, R w0 k s rem →
      (∀ f g, (U.M w).seek = some f → (S w k).seek = some g →
        ∀ v, ∃ s', f v (U.rebase w k s) = .ok s' ∧ R w k s' (g v (S w k).list)) ∧
      (∀ f g, (U.M w).seekS = some f → (S w k).seekS = some g →
        ∀ v, ∃ s', f v (U.rebase w k s) = .ok s' ∧ R w k s' (g v (S w k).list)))

/-- the three obligations of `WObject.Implements` for a given family of simulations -/
def WObject.Sim {ω σ κ ι : Type} (U : WObject ω σ κ ι) (S : ω → κ → Spec) (r : ω → κ → Render)
    (R : ω → κ → σ → List Bytes → Prop) : Prop :=
  (∀ w k, Refines (U.M w) (S w k) (r w k) (R w k)) ∧
  (∀ w k s, ∃ s', U.reopen w k s = .ok s' ∧ R w k s' (S w k).list) ∧
  (U.reseekable = true → ∀ w0 w k, U.ident w0 k = U.ident w k → ∀ s rem, R w0 k s rem →
    (∀ f g, (U.M w).seek = some f → (S w k).seek = some g →
      ∀ v, ∃ s', f v (U.rebase w k s) = .ok s' ∧ R w k s' (g v (S w k).list)) ∧
    (∀ f g, (U.M w).seekS = some f → (S w k).seekS = some g →
      ∀ v, ∃ s', f v (U.rebase w k s) = .ok s' ∧ R w k s' (g v (S w k).list)))

section run
variable {ω σ κ ι W : Type} [DecidableEq ι] {U : WObject ω σ κ ι} {S : ω → κ → Spec} {r : ω → κ → Render}
  {R : ω → κ → σ → List Bytes → Prop}

omit [DecidableEq ι] in
/-- a `Seek` / `SeekToString` entry on an object last opened on row `k`; `c`: the object re-reads
    and the row's bucket object is still the one it was opened on -/
theorem WObject.reseek_sim {w' : ω} {k : κ} {s : σ} (v : Bytes) (c : Bool)
    {mf : Option (Bytes → σ → Outcome σ)} {sg : Option (Bytes → List Bytes → List Bytes)}
    (hsim : match mf, sg with
      | some f, some g => ∀ v {s rem}, R w' k s rem → ∃ s', f v s = .ok s' ∧ R w' k s' (g v rem)
      | none, none => True
      | _, _ => False)
    (hre : c = true → ∀ f g, mf = some f → sg = some g →
      ∀ v, ∃ s', f v (U.rebase w' k s) = .ok s' ∧ R w' k s' (g v (S w' k).list)) :
    (if c then (match mf with | some f => some (k, f v (U.rebase w' k s)) | none => none) else none) = none ∧
        (if c then (match sg with | some g => some (k, g v (S w' k).list) | none => none) else none) = none ∨
      ∃ k' s' rem,
        (if c then (match mf with | some f => some (k, f v (U.rebase w' k s)) | none => none) else none) =
          some (k', .ok s') ∧
        (if c then (match sg with | some g => some (k, g v (S w' k).list) | none => none) else none) =
          some (k', rem) ∧ R w' k' s' rem := by
  cases c
  · exact .inl ⟨rfl, rfl⟩
  rcases Refines.sim_cases hsim with ⟨rfl, rfl⟩ | ⟨f, g, rfl, rfl, -⟩
  · exact .inl ⟨rfl, rfl⟩
  · obtain ⟨s', hs', hR'⟩ := hre rfl f g rfl rfl v
    exact .inr ⟨k, s', _, congrArg (fun o => some (k, o)) hs', rfl, hR'⟩

theorem WObject.enter_sim (h : U.Sim S r R) (w' : ω) (at_ : Option (κ × ι)) (e : Entry κ) (s : σ)
    (hinv : ∀ k i, at_ = some (k, i) → ∃ w0 rem, i = U.ident w0 k ∧ R w0 k s rem) :
    U.enter w' at_ e s = none ∧ specEnter S U.ident U.reseekable w' at_ e = none ∨
      ∃ k s' rem, U.enter w' at_ e s = some (k, .ok s') ∧
        specEnter S U.ident U.reseekable w' at_ e = some (k, rem) ∧ R w' k s' rem := by
  obtain ⟨href, hopen, hre⟩ := h
  cases at_ with
  | none =>
    cases e with
    | «open» k =>
      obtain ⟨s', hs', hR'⟩ := hopen w' k s
      exact .inr ⟨k, s', _, by rw [WObject.enter, hs'], rfl, hR'⟩
    | _ => exact .inl ⟨rfl, rfl⟩
  | some ki =>
    obtain ⟨k, i⟩ := ki
    obtain ⟨w0, rem, hi, hR⟩ := hinv k i rfl
    have hre' : (U.reseekable && decide (i = U.ident w' k)) = true → _ := fun hc =>
      hre (Bool.and_eq_true .. ▸ hc).1 w0 w' k (hi ▸ of_decide_eq_true (Bool.and_eq_true .. ▸ hc).2) s rem hR
    cases e with
    | «open» k =>
      obtain ⟨s', hs', hR'⟩ := hopen w' k s
      exact .inr ⟨k, s', _, by rw [WObject.enter, hs'], rfl, hR'⟩
    | seek v => exact WObject.reseek_sim v _ (href w' k).seek fun hc => (hre' hc).1
    | seekS v => exact WObject.reseek_sim v _ (href w' k).seekS fun hc => (hre' hc).2

theorem WObject.run_eq_aux
    (h : U.Sim S r R)
    (apply : W → ω → ω) : ∀ (items : List (Item W κ)) (w : ω) (at_ : Option (κ × ι)) (s : σ),
    (∀ k i, at_ = some (k, i) → ∃ w0 rem, i = U.ident w0 k ∧ R w0 k s rem) →
    U.run apply items w at_ s = specRunW S r U.ident U.reseekable apply items w at_
  | [], _, _, _, _ => rfl
  | it :: rest, w, at_, s, hinv => by
    unfold WObject.run specRunW
    simp only
    generalize applyAll apply it.writes w = w'
    rcases WObject.enter_sim h w' at_ it.entry s hinv with ⟨h1, h2⟩ | ⟨k, s', rem, h1, h2, hR⟩
    · rw [h1, h2]
    · obtain ⟨s'', rem'', hrun, hR''⟩ := (h.1 w' k).runSt_rel it.ops hR
      have ih := run_eq_aux h apply rest w' (some (k, U.ident w' k)) s''
        (fun k' i' h => by cases h; exact ⟨w', rem'', rfl, hR''⟩)
      rw [h1, h2]
      simp only [hrun, ih, List.map_cons, (h.1 w' k).observe_eq hR, List.cons_append]

theorem WObject.Implements.run_eq (h : U.Implements S r) (apply : W → ω → ω) (items : List (Item W κ)) (w : ω) (s : σ) :
    U.run apply items w none s = specRunW S r U.ident U.reseekable apply items w none := by
  obtain ⟨R, h⟩ := h
  exact WObject.run_eq_aux h apply items w none s (fun _ _ h => nomatch h)

end run

theorem WObject.ofFamily_implements {ω σ κ : Type} {U : ω → Reusable σ κ} {S : ω → κ → Spec} {r : ω → κ → Render}
    (h : ∀ w, (U w).Implements (S w) (r w)) : (WObject.ofFamily U).Implements S r := by
  classical
  have hex : ∀ w k, ∃ R : σ → List Bytes → Prop,
      Refines (U w).M (S w k) (r w k) R ∧ ∀ s, ∃ s', (U w).reopen k s = .ok s' ∧ R s' (S w k).list := fun w k => h w k
  refine ⟨fun w k => Classical.choose (hex w k), fun w k => (Classical.choose_spec (hex w k)).1,
    fun w k s => (Classical.choose_spec (hex w k)).2 s, ?_⟩
  intro hr; cases hr

theorem setSym_reseek_row (row0 row : Option (List Bytes)) (hsome : row0.isSome = row.isSome)
    {s : SetSymCur} {rem : List Bytes} (hR : RSymRow row0 s rem) :
    (∀ f g, setSym.seek = some f → (setRowSpec row).seek = some g →
      ∀ v, ∃ s', f v (setSymRebase (setRowKeys row) s) = .ok s' ∧ RSymRow row s' (g v (setRowSpec row).list)) ∧
    (∀ f g, setSym.seekS = some f → (setRowSpec row).seekS = some g →
      ∀ v, ∃ s', f v (setSymRebase (setRowKeys row) s) = .ok s' ∧ RSymRow row s' (g v (setRowSpec row).list)) := by
  cases row with
  | none =>
    -- no bucket then and now: the object has no bbolt cursor, `Seek` does nothing
    cases row0 with
    | some _ => simp at hsome
    | none =>
      obtain ⟨hs, _⟩ := hR
      subst hs
      refine ⟨?_, ?_⟩ <;> intro f g hf hg v <;> cases hf <;> cases hg <;> exact ⟨_, rfl, rfl, rfl⟩
  | some xs =>
    cases row0 with
    | none => simp at hsome
    | some xs0 =>
      obtain ⟨b, hb, _⟩ := hR
      exact setSym_reseek (b := { b with keys := tagged typeString (dedupSort xs) })
        (by simp [setSymRebase, setRowKeys, hb]) rfl

theorem setSymW_implements {ω κ ι : Type} (rows : ω → κ → Option (List Bytes)) (ident : ω → κ → ι)
    (hid : ∀ w0 w k, ident w0 k = ident w k → (rows w0 k).isSome = (rows w k).isSome) :
    (setSymW rows ident).Implements (fun w k => setRowSpec (rows w k)) (fun _ _ => renderNilEmpty) :=
  ⟨fun w k => RSymRow (rows w k), fun w k => setSym_refines_row (rows w k),
    fun w k s => ⟨_, rfl, setSym_reopen_row (rows w k) s⟩,
    fun _ w0 w k hi _ _ hR => setSym_reseek_row (rows w0 k) (rows w k) (hid w0 w k hi) hR⟩

section boltW
variable {ω κ ι : Type}

theorem fwdW_implements (keys : ω → κ → List Bytes) (ident : ω → κ → ι) :
    (fwdW keys ident).Implements (fun w k => Spec.seekable .fwd (keys w k)) (fun _ _ => some) :=
  ⟨fun w k => RFwd (keys w k), fun w k => forwardBolt_refines (keys w k),
    fun w k _ => ⟨_, rfl, forwardBolt_open (keys w k)⟩,
    fun _ _ _ _ _ _ _ _ => ⟨forwardBolt_reseek rfl, fun _ _ hf => nomatch hf⟩⟩

theorem revW_implements (keys : ω → κ → List Bytes) (ident : ω → κ → ι) (hK : ∀ w k, Asc (keys w k)) :
    (revW keys ident).Implements (fun w k => Spec.seekable .rev (keys w k).reverse) (fun _ _ => some) :=
  ⟨fun w k => RRev (keys w k), fun w k => reverseBolt_refines (hK w k),
    fun w k _ => ⟨_, rfl, reverseBolt_open (keys w k)⟩,
    fun _ _ w k _ _ _ _ => ⟨reverseBolt_reseek (hK w k) rfl, fun _ _ hf => nomatch hf⟩⟩

theorem tfwdW_implements (tag : UInt8) (elems : ω → κ → List Bytes) (ident : ω → κ → ι) :
    (tfwdW tag elems ident).Implements (fun w k => Spec.seekable .fwd (elems w k)) (fun _ _ => some) :=
  ⟨fun w k => RFwdT tag (elems w k), fun w k => typedForwardBolt_refines tag (elems w k),
    fun w k _ => ⟨_, rfl, typedForwardBolt_open tag (elems w k)⟩,
    fun _ _ _ _ _ _ _ _ => ⟨typedForwardBolt_reseek tag rfl, fun _ _ hf => nomatch hf⟩⟩

theorem trevW_implements (tag : UInt8) (elems : ω → κ → List Bytes) (ident : ω → κ → ι) (hE : ∀ w k, Asc (elems w k)) :
    (trevW tag elems ident).Implements (fun w k => Spec.seekable .rev (elems w k).reverse) (fun _ _ => some) :=
  ⟨fun w k => RRevT tag (elems w k), fun w k => typedReverseBolt_refines tag (hE w k),
    fun w k _ => ⟨_, rfl, typedReverseBolt_open tag (elems w k)⟩,
    fun _ _ w k _ _ _ _ => ⟨typedReverseBolt_reseek tag (hE w k) rfl, fun _ _ hf => nomatch hf⟩⟩

end boltW

theorem scanW_implements {ω σ κ ι : Type} {U : WObject ω σ κ ι} {S : ω → κ → Spec} {r : ω → κ → Render}
    (h : U.Implements S r) (hS : ∀ w k, (S w k).SeekStateless) {cfg : ω → ScanCfg} (hcfg : ∀ w, (cfg w).Unpaged)
    {fuel : Nat} (hf : ∀ w k, (S w k).list.length + 1 < fuel)
    (hseek : U.reseekable = true → ∀ w, ∃ f, (U.M w).seek = some f) :
    (scanW U cfg fuel).Implements
      (fun w k => scanSpecR (S w k) (r w k) ((cfg w).keepR (r w k))) r := by
  obtain ⟨R, href, hopen, hre⟩ := h
  refine ⟨fun w k => RScan (R w k) (r w k) (cfg w) (S w k).list.length,
    fun w k => scan_refines (href w k) (hS w k) (hcfg w) (hf w k), ?_, ?_⟩
  · intro w k st
    obtain ⟨s', hs', hR'⟩ := hopen w k st.cursor
    obtain ⟨st', hst', hS'⟩ :=
      scanNext_spec (href w k) (cfg w) fuel (cur := none) (off := 0) (col := 0) hR' (by have := hf w k; omega)
        (Nat.le_refl _)
    rw [(hcfg w).page] at hS'
    exact ⟨st', by simp [scanW, hs', hst'], hS'⟩
  · intro hrs w0 w k hi st remS hst
    obtain ⟨rem, hRc, _, _⟩ := hst
    obtain ⟨fi, hfi⟩ := hseek hrs w
    refine ⟨?_, ?_⟩
    · intro F G hF hG v
      obtain ⟨hM, -⟩ | ⟨_, gi, hM, hgS, -⟩ := Refines.sim_cases (href w k).seek
      · cases hfi.symm.trans hM
      cases hfi.symm.trans hM
      obtain ⟨c1, hc1, hR1⟩ := (hre hrs w0 w k hi st.cursor rem hRc).1 fi gi hfi hgS v
      obtain ⟨_, hglen⟩ := hS w k gi hgS v (S w k).list
      obtain ⟨st', hst', hS'⟩ :=
        scanNext_spec (href w k) (cfg w) fuel (cur := st.current) (off := st.offset) (col := st.collected) hR1
          (by have := hf w k; omega) hglen
      rw [(hcfg w).page] at hS'
      simp only [scanW, scanMachine, hfi, Option.some.injEq] at hF
      subst hF
      simp only [scanSpecR, hgS, Option.some.injEq] at hG
      subst hG
      exact ⟨st', by simp [scanW, hc1, hst'], hS'⟩
    · intro F G hF
      simp [scanW, scanMachine] at hF

end StorageModel.Cursor
