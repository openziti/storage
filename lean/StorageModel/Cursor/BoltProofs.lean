import StorageModel.Cursor.Bolt
/-
  C14 — the bolt-backed cursors refine the list specification (all keys, all scripts).

  A bbolt cursor that walks a bucket in one direction is a position in the key list
  (`Bolt.Fwd`, `Bolt.Rev`); `First`/`Next`/`Seek` and `Last`/`Prev`/seek-and-step-back move that
  position the way `head`/`tail`/`dropWhile` move through the list.  The five adapters only differ
  in how they decode the key the bbolt cursor returned.
-/
namespace StorageModel.Cursor

theorem dropWhile_none {α} {p : α → Bool} : ∀ {l : List α}, (∀ x ∈ l, p x = false) → l.dropWhile p = l
  | [], _ => rfl
  | x :: t, h => by simp [List.dropWhile, h x (List.mem_cons_self ..)]

theorem take_length_takeWhile {α} (p : α → Bool) : ∀ (l : List α), l.take (l.takeWhile p).length = l.takeWhile p
  | [] => rfl
  | x :: t => by
    by_cases hx : p x
    · simp [List.takeWhile, hx, take_length_takeWhile p t]
    · simp [List.takeWhile, hx]

theorem head?_reverse_take {α} (l : List α) {q : Nat} (hq : q < l.length) :
    (l.take (q + 1)).reverse.head? = l[q]? := by
  rw [List.head?_reverse, List.getLast?_take, if_neg (Nat.succ_ne_zero q), Nat.add_sub_cancel, List.getElem?_eq_getElem hq]; rfl

theorem tail_reverse_take {α} (l : List α) {q : Nat} (hq : q ≤ l.length) :
    (l.take q).reverse.tail = (l.take (q - 1)).reverse := by
  cases q with
  | zero => rfl
  | succ n =>
    rw [List.take_add_one, List.getElem?_eq_getElem (by omega)]
    simp only [Option.toList_some, List.reverse_append, List.reverse_cons, List.reverse_nil, List.nil_append,
      List.singleton_append, List.tail_cons, Nat.add_sub_cancel]

theorem lowerBound_nil (K : List Bytes) : Bolt.lowerBound K [] = 0 := by
  cases K with
  | nil => rfl
  | cons a t => simp [Bolt.lowerBound, List.takeWhile]

theorem bytesEqual_iff (v : Bytes) (k : Option Bytes) : bytesEqual v k = true ↔ k = some v ∨ (k = none ∧ v = []) := by
  cases k with
  | none => simp [bytesEqual]
  | some w =>
    simp only [bytesEqual, Option.getD_some, beq_iff_eq, Option.some.injEq, reduceCtorEq, false_and, or_false]
    exact eq_comm

theorem reverse_seek_prefix {K : List Bytes} (hK : Asc K) (v : Bytes) :
    K.reverse.dropWhile (fun x => decide (v < x)) =
      if K[Bolt.lowerBound K v]? = some v then (K.take (Bolt.lowerBound K v + 1)).reverse
      else (K.take (Bolt.lowerBound K v)).reverse := by
  let p : Bytes → Bool := fun k => decide (k < v)
  -- `K = A ++ B`: `A` the keys below `v`, `B` (whose head the bbolt seek lands on) the rest
  have hsplit : K = K.takeWhile p ++ K.dropWhile p := (List.takeWhile_append_dropWhile).symm
  have hget : K[Bolt.lowerBound K v]? = (K.dropWhile p).head? := by
    rw [← drop_length_takeWhile, List.head?_drop]; rfl
  have htake : K.take (Bolt.lowerBound K v) = K.takeWhile p := take_length_takeWhile p K
  have hArev : (K.takeWhile p).reverse.dropWhile (fun x => decide (v < x)) = (K.takeWhile p).reverse := by
    apply dropWhile_none; intro a ha
    have : a < v := by simpa [p] using List.all_eq_true.1 List.all_takeWhile a (List.mem_reverse.1 ha)
    simpa using blt_asymm this
  rw [List.take_add_one, hget, htake]
  cases hB : K.dropWhile p with
  | nil =>
    rw [if_neg (by simp)]
    conv => lhs; rw [hsplit, hB, List.append_nil]
    exact hArev
  | cons b0 B' =>
    have hb0 : ¬ b0 < v := by simpa [p] using dropWhile_head_false hB
    have hB' : ∀ y ∈ B', b0 < y := by
      have hs : Asc (K.takeWhile p ++ b0 :: B') := by rw [← hB, ← hsplit]; exact hK
      exact (List.pairwise_cons.1 (List.pairwise_append.1 hs).2.1).1
    have hKrev : K.reverse = B'.reverse ++ (b0 :: (K.takeWhile p).reverse) := by
      conv => lhs; rw [hsplit, hB]
      simp
    rw [hKrev]
    by_cases hv : b0 = v
    · subst hv
      rw [List.dropWhile_append_of_pos (fun y hy => by simpa using hB' y (List.mem_reverse.1 hy))]
      simp [List.dropWhile, blt_irrefl]
    · have hlt : v < b0 := Dir.before_of_ne (d := .fwd) hv hb0
      rw [List.dropWhile_append_of_pos (fun y hy => by simpa using blt_trans hlt (hB' y (List.mem_reverse.1 hy)))]
      simp only [List.head?_cons, Option.some.injEq, hv, if_false, List.dropWhile, hlt, decide_true]
      exact hArev

theorem Bolt.next_lt {K : List Bytes} {i : Nat} (h : i + 1 < K.length) :
    Bolt.next { keys := K, idx := i } = ({ keys := K, idx := i + 1 }, K[i + 1]?) := by
  simp [Bolt.next, h]

theorem Bolt.next_ge {K : List Bytes} {i : Nat} (h : ¬ i + 1 < K.length) :
    Bolt.next { keys := K, idx := i } = ({ keys := K, idx := i }, none) := by
  simp [Bolt.next, h]

theorem Bolt.prev_pos {K : List Bytes} {i : Nat} (h : 0 < i) :
    Bolt.prev { keys := K, idx := i } = ({ keys := K, idx := i - 1 }, K[i - 1]?) := by
  simp [Bolt.prev, h]

theorem Bolt.prev_zero {K : List Bytes} :
    Bolt.prev { keys := K, idx := 0 } = ({ keys := K, idx := 0 }, none) := by
  simp [Bolt.prev]

theorem Bolt.seek_eq {K : List Bytes} {i : Nat} (v : Bytes) :
    Bolt.seek { keys := K, idx := i } v = ({ keys := K, idx := Bolt.lowerBound K v }, K[Bolt.lowerBound K v]?) := rfl

theorem lowerBound_le (K : List Bytes) (v : Bytes) : Bolt.lowerBound K v ≤ K.length :=
  (List.takeWhile_sublist _).length_le

namespace Bolt

/-- Walking forward over the keys `K`, the bbolt cursor `b` has just returned `k` and `rem`
    (starting with `k`) is still to come.  Past the end the index stays on the last key (after
    `Next`) or one behind it (after `Seek`). -/
structure Fwd (K : List Bytes) (b : Bolt) (k : Option Bytes) (rem : List Bytes) : Prop where
  keys : b.keys = K
  key : k = rem.head?
  pos : rem = K.drop b.idx ∨ rem = [] ∧ K.length ≤ b.idx + 1

theorem Fwd.first (K : List Bytes) (i : Nat) : Fwd K (first ⟨K, i⟩).1 (first ⟨K, i⟩).2 K :=
  ⟨rfl, List.head?_eq_getElem?.symm, .inl rfl⟩

theorem Fwd.next {K : List Bytes} {b : Bolt} {k : Option Bytes} {rem : List Bytes} (h : Fwd K b k rem) :
    Fwd K b.next.1 b.next.2 rem.tail := by
  obtain ⟨K', i⟩ := b
  obtain ⟨hk, -, hp⟩ := h
  obtain rfl : K' = K := hk
  by_cases hlt : i + 1 < K'.length
  · rw [Bolt.next_lt hlt]
    obtain rfl | ⟨-, hge⟩ := hp
    · exact ⟨rfl, by rw [List.tail_drop, List.head?_drop], .inl List.tail_drop⟩
    · exact absurd hlt (Nat.not_lt.2 hge)
  · rw [Bolt.next_ge hlt]
    have ht : rem.tail = [] := by
      obtain rfl | ⟨rfl, -⟩ := hp
      · rw [List.tail_drop]; exact List.drop_eq_nil_iff.2 (Nat.le_of_not_lt hlt)
      · rfl
    exact ⟨rfl, by rw [ht]; rfl, .inr ⟨ht, Nat.le_of_not_lt hlt⟩⟩

theorem Fwd.seek {K : List Bytes} {b : Bolt} (hb : b.keys = K) (v : Bytes) :
    Fwd K (b.seek v).1 (b.seek v).2 (K.dropWhile fun k => decide (k < v)) := by
  subst hb
  refine ⟨rfl, ?_, .inl (drop_length_takeWhile _ _).symm⟩
  rw [← drop_length_takeWhile, List.head?_drop]; rfl

/-- Walking backward: `rem` is a reversed prefix of the keys and the index is on its head; an
    exhausted cursor sits on index 0 (`Prev` on the first key goes to `First` and returns nil). -/
structure Rev (K : List Bytes) (b : Bolt) (k : Option Bytes) (rem : List Bytes) : Prop where
  keys : b.keys = K
  key : k = rem.head?
  pos : ∃ q, rem = (K.take q).reverse ∧ q ≤ K.length ∧ b.idx = q - 1

theorem Rev.last (K : List Bytes) (i : Nat) : Rev K (last ⟨K, i⟩).1 (last ⟨K, i⟩).2 K.reverse :=
  ⟨rfl, by rw [List.head?_reverse, List.getLast?_eq_getElem?]; rfl, K.length, by rw [List.take_length],
    Nat.le_refl _, rfl⟩

/-- `Prev` from index `i` (also from `i = length`, where a `Seek` past the last key leaves the
    cursor) stands on the reversed prefix of length `i` -/
theorem Rev.of_prev {b : Bolt} (hi : b.idx ≤ b.keys.length) :
    Rev b.keys b.prev.1 b.prev.2 (b.keys.take b.idx).reverse := by
  obtain ⟨K, i⟩ := b
  cases i with
  | zero => rw [Bolt.prev_zero]; exact ⟨rfl, rfl, 0, rfl, hi, rfl⟩
  | succ j =>
    rw [Bolt.prev_pos (Nat.succ_pos j)]
    exact ⟨rfl, (head?_reverse_take _ hi).symm, j + 1, rfl, hi, rfl⟩

theorem Rev.prev {K : List Bytes} {b : Bolt} {k : Option Bytes} {rem : List Bytes} (h : Rev K b k rem) :
    Rev K b.prev.1 b.prev.2 rem.tail := by
  obtain ⟨hk, -, q, hrem, hq, hi⟩ := h
  subst hk hrem
  rw [tail_reverse_take _ hq, ← hi]
  exact of_prev (by omega)

/-- `Seek` of the reverse adapters: the bbolt seek, then one step back unless it hit `v` -/
def seekBack (b : Bolt) (v : Bytes) : Bolt × Option Bytes :=
  if bytesEqual v (b.seek v).2 then b.seek v else (b.seek v).1.prev

theorem Rev.seekBack {K : List Bytes} {b : Bolt} (hb : b.keys = K) (hK : Asc K) (v : Bytes) :
    Rev K (b.seekBack v).1 (b.seekBack v).2 (K.reverse.dropWhile fun x => decide (v < x)) := by
  subst hb
  rw [reverse_seek_prefix hK v]
  unfold Bolt.seekBack
  by_cases hex : b.keys[lowerBound b.keys v]? = some v
  · have hb : bytesEqual v (b.seek v).2 = true := (bytesEqual_iff _ _).2 (.inl hex)
    have hlt := (List.getElem?_eq_some_iff.1 hex).1
    rw [if_pos hb, if_pos hex]
    exact ⟨rfl, (head?_reverse_take _ hlt).symm, _, rfl, hlt, rfl⟩
  · rw [if_neg hex]
    -- no exact hit: both branches are the step back (nil equals only the empty target, for
    -- which bbolt's seek has gone to index 0 of an empty bucket)
    have : (if bytesEqual v (b.seek v).2 = true then b.seek v else (b.seek v).1.prev) = (b.seek v).1.prev := by
      split
      · next heq =>
        rcases (bytesEqual_iff _ _).1 heq with h | ⟨h, hv⟩
        · exact absurd h hex
        · subst hv
          have h : b.keys[lowerBound b.keys []]? = none := h
          rw [lowerBound_nil] at h
          simp only [Bolt.seek, Bolt.prev, lowerBound_nil, h, Nat.lt_irrefl, if_false]
      · rfl
    rw [this]
    exact of_prev (b := (b.seek v).1) (lowerBound_le b.keys v)

end Bolt

def RFwd (K : List Bytes) (s : BoltCur) (rem : List Bytes) : Prop := Bolt.Fwd K s.b s.key rem

theorem forwardBolt_open (K : List Bytes) : RFwd K (newForwardBoltCursor K) K := Bolt.Fwd.first K 0

theorem head?_isSome {α} (l : List α) : l.head?.isSome = !l.isEmpty := by cases l <;> rfl

/-- `Seek` reads nothing of the adapter's state but the bucket its bbolt cursor looks at: from
    ANY state over the keys `K` it leads to where the specification says -/
theorem forwardBolt_reseek {K : List Bytes} {s : BoltCur} (hs : s.b.keys = K) :
    ∀ f g, forwardBolt.seek = some f → (Spec.seekable .fwd K).seek = some g →
      ∀ v, ∃ s', f v s = .ok s' ∧ RFwd K s' (g v K) := by
  intro f g hf hg v
  cases hf; cases hg
  exact ⟨_, rfl, Bolt.Fwd.seek hs v⟩

theorem forwardBolt_refines (K : List Bytes) :
    Refines forwardBolt (Spec.seekable .fwd K) some (RFwd K) where
  valid h := (congrArg Option.isSome h.key).trans (head?_isSome _)
  current h := congrArg Outcome.ok h.key
  next h := ⟨_, rfl, h.next⟩
  seek := fun v _ _ h => forwardBolt_reseek h.keys _ _ rfl rfl v
  seekS := trivial

def RRev (K : List Bytes) (s : BoltCur) (rem : List Bytes) : Prop := Bolt.Rev K s.b s.key rem

theorem reverseBolt_open (K : List Bytes) : RRev K (newReverseBoltCursor K) K.reverse := Bolt.Rev.last K 0

/-- the two branches of the reverse adapters' `Seek` (`decode` = what the adapter stores of the key) -/
theorem Bolt.seekBack_eq (decode : Option Bytes → Option Bytes) (b : Bolt) (v : Bytes) :
    (if (!bytesEqual v (b.seek v).2) = true then
        (Outcome.ok { b := (b.seek v).1.prev.1, key := decode (b.seek v).1.prev.2 } : Outcome BoltCur)
      else .ok { b := (b.seek v).1, key := decode (b.seek v).2 }) =
    .ok { b := (b.seekBack v).1, key := decode (b.seekBack v).2 } := by
  unfold Bolt.seekBack
  cases bytesEqual v (b.seek v).2 <;> rfl

theorem reverseBolt_reseek {K : List Bytes} (hK : Asc K) {s : BoltCur} (hs : s.b.keys = K) :
    ∀ f g, reverseBolt.seek = some f → (Spec.seekable .rev K.reverse).seek = some g →
      ∀ v, ∃ s', f v s = .ok s' ∧ RRev K s' (g v K.reverse) := by
  intro f g hf hg v
  cases hf; cases hg
  exact ⟨_, Bolt.seekBack_eq id s.b v, Bolt.Rev.seekBack hs hK v⟩

theorem reverseBolt_refines {K : List Bytes} (hK : Asc K) :
    Refines reverseBolt (Spec.seekable .rev K.reverse) some (RRev K) where
  valid h := (congrArg Option.isSome h.key).trans (head?_isSome _)
  current h := congrArg Outcome.ok h.key
  next h := ⟨_, rfl, h.prev⟩
  seek := fun v _ _ h => reverseBolt_reseek hK h.keys _ _ rfl rfl v
  seekS := trivial

theorem typedCursorKey_head (tag : UInt8) (rem : List Bytes) :
    typedCursorKey (tagged tag rem).head? = rem.head? := by cases rem <;> rfl

theorem tagged_dropWhile_lt (tag : UInt8) (E : List Bytes) (v : Bytes) :
    (tagged tag E).dropWhile (fun k => decide (k < prependFieldType tag v)) =
      tagged tag (E.dropWhile fun e => decide (e < v)) := by
  unfold tagged
  rw [List.dropWhile_map]
  congr 2; funext e
  simp [prependFieldType]

theorem tagged_reverse_dropWhile_gt (tag : UInt8) (E : List Bytes) (v : Bytes) :
    (tagged tag E).reverse.dropWhile (fun k => decide (prependFieldType tag v < k)) =
      tagged tag (E.reverse.dropWhile fun e => decide (v < e)) := by
  unfold tagged
  rw [← List.map_reverse, List.dropWhile_map]
  congr 2; funext e
  simp [prependFieldType]

theorem tagged_tail (tag : UInt8) (E : List Bytes) : tagged tag E.tail = (tagged tag E).tail := List.map_tail

theorem tagged_reverse (tag : UInt8) (E : List Bytes) : tagged tag E.reverse = (tagged tag E).reverse :=
  List.map_reverse

theorem asc_tagged (tag : UInt8) {E : List Bytes} (hE : Asc E) : Asc (tagged tag E) :=
  List.pairwise_map.2 (hE.imp fun h => by simpa [prependFieldType, Dir.before] using h)

def RFwdT (tag : UInt8) (E : List Bytes) (s : BoltCur) (rem : List Bytes) : Prop :=
  ∃ k, Bolt.Fwd (tagged tag E) s.b k (tagged tag rem) ∧ s.key = typedCursorKey k

theorem RFwdT.key {tag : UInt8} {E : List Bytes} {s : BoltCur} {rem : List Bytes} (h : RFwdT tag E s rem) :
    s.key = rem.head? := by
  obtain ⟨k, hF, hk⟩ := h
  rw [hk, hF.key, typedCursorKey_head]

theorem typedForwardBolt_open (tag : UInt8) (E : List Bytes) :
    RFwdT tag E (newTypedForwardBoltCursor (tagged tag E)) E := ⟨_, Bolt.Fwd.first _ 0, rfl⟩

theorem typedForwardBolt_reseek (tag : UInt8) {E : List Bytes} {s : BoltCur} (hs : s.b.keys = tagged tag E) :
    ∀ f g, (typedForwardBolt tag).seek = some f → (Spec.seekable .fwd E).seek = some g →
      ∀ v, ∃ s', f v s = .ok s' ∧ RFwdT tag E s' (g v E) := by
  intro f g hf hg v
  cases hf; cases hg
  have := Bolt.Fwd.seek hs (prependFieldType tag v)
  rw [tagged_dropWhile_lt] at this
  exact ⟨_, rfl, _, this, rfl⟩

theorem typedForwardBolt_refines (tag : UInt8) (E : List Bytes) :
    Refines (typedForwardBolt tag) (Spec.seekable .fwd E) some (RFwdT tag E) where
  valid h := (congrArg Option.isSome h.key).trans (head?_isSome _)
  current h := congrArg Outcome.ok h.key
  next := fun ⟨_, h, _⟩ => ⟨_, rfl, _, tagged_tail tag _ ▸ h.next, rfl⟩
  seek := fun v _ _ ⟨_, h, _⟩ => typedForwardBolt_reseek tag h.keys _ _ rfl rfl v
  seekS := trivial

def RRevT (tag : UInt8) (E : List Bytes) (s : BoltCur) (rem : List Bytes) : Prop :=
  ∃ k, Bolt.Rev (tagged tag E) s.b k (tagged tag rem) ∧ s.key = typedCursorKey k

theorem RRevT.key {tag : UInt8} {E : List Bytes} {s : BoltCur} {rem : List Bytes} (h : RRevT tag E s rem) :
    s.key = rem.head? := by
  obtain ⟨k, hR, hk⟩ := h
  rw [hk, hR.key, typedCursorKey_head]

theorem typedReverseBolt_open (tag : UInt8) (E : List Bytes) :
    RRevT tag E (newTypedReverseBoltCursor (tagged tag E)) E.reverse :=
  ⟨_, tagged_reverse tag E ▸ Bolt.Rev.last (tagged tag E) 0, rfl⟩

theorem typedReverseBolt_reseek (tag : UInt8) {E : List Bytes} (hE : Asc E) {s : BoltCur}
    (hs : s.b.keys = tagged tag E) :
    ∀ f g, (typedReverseBolt tag).seek = some f → (Spec.seekable .rev E.reverse).seek = some g →
      ∀ v, ∃ s', f v s = .ok s' ∧ RRevT tag E s' (g v E.reverse) := by
  intro f g hf hg v
  cases hf; cases hg
  have := Bolt.Rev.seekBack hs (asc_tagged tag hE) (prependFieldType tag v)
  rw [tagged_reverse_dropWhile_gt] at this
  exact ⟨_, Bolt.seekBack_eq typedCursorKey s.b (prependFieldType tag v), _, this, rfl⟩

theorem typedReverseBolt_refines (tag : UInt8) {E : List Bytes} (hE : Asc E) :
    Refines (typedReverseBolt tag) (Spec.seekable .rev E.reverse) some (RRevT tag E) where
  valid h := (congrArg Option.isSome h.key).trans (head?_isSome _)
  current h := congrArg Outcome.ok h.key
  next := fun ⟨_, h, _⟩ => ⟨_, rfl, _, tagged_tail tag _ ▸ h.prev, rfl⟩
  seek := fun v _ _ ⟨_, h, _⟩ => typedReverseBolt_reseek tag hE h.keys _ _ rfl rfl v
  seekS := trivial

def RSym (E : List Bytes) (s : SetSymCur) (rem : List Bytes) : Prop :=
  ∃ b, s.cursor = some b ∧ Bolt.Fwd (tagged typeString E) b s.value (tagged typeString rem)

theorem setSym_open (E : List Bytes) : RSym E (setSymOpen (some (tagged typeString E))) E :=
  ⟨_, rfl, Bolt.Fwd.first _ 0⟩

theorem getTypeAndValue_value_tagged (x : Bytes) :
    getTypeAndValue_value (some (prependFieldType typeString x)) = renderNilEmpty x := by
  cases x <;> rfl

theorem tagged_dropWhile_raw (tag : UInt8) (E : List Bytes) (v : Bytes) :
    (tagged tag E).dropWhile (fun k => decide (k < v)) =
      tagged tag (E.dropWhile fun e => decide (prependFieldType tag e < v)) := List.dropWhile_map

theorem setSym_reseek {E : List Bytes} {s : SetSymCur} {b : Bolt} (hc : s.cursor = some b)
    (hb : b.keys = tagged typeString E) :
    (∀ f g, setSym.seek = some f → (setSymSpec E).seek = some g → ∀ v, ∃ s', f v s = .ok s' ∧ RSym E s' (g v E)) ∧
    (∀ f g, setSym.seekS = some f → (setSymSpec E).seekS = some g → ∀ v, ∃ s', f v s = .ok s' ∧ RSym E s' (g v E)) := by
  obtain ⟨c, value⟩ := s; cases hc
  refine ⟨?_, ?_⟩ <;> intro f g hf hg v <;> cases hf <;> cases hg <;> refine ⟨_, rfl, _, rfl, ?_⟩
  · have := Bolt.Fwd.seek hb v
    rwa [tagged_dropWhile_raw] at this
  · have := Bolt.Fwd.seek hb (prependFieldType typeString v)
    rwa [tagged_dropWhile_lt] at this

theorem setSym_refines (E : List Bytes) : Refines setSym (setSymSpec E) renderNilEmpty (RSym E) where
  valid := fun {s rem} ⟨_, _, h⟩ => by
    show s.value.isSome = _
    rw [h.key]; cases rem <;> rfl
  current := fun {s x _} ⟨_, _, h⟩ => by
    show Outcome.ok (getTypeAndValue_value s.value) = _
    rw [h.key]; exact congrArg Outcome.ok (getTypeAndValue_value_tagged x)
  next := fun {s _} ⟨b, hb, h⟩ => by
    obtain ⟨c, value⟩ := s; cases hb
    exact ⟨_, rfl, _, rfl, tagged_tail _ _ ▸ h.next⟩
  seek := fun v _ _ ⟨_, hb, h⟩ => (setSym_reseek hb h.keys).1 _ _ rfl rfl v
  seekS := fun v _ _ ⟨_, hb, h⟩ => (setSym_reseek hb h.keys).2 _ _ rfl rfl v

/-- the entity or its list bucket does not exist: the cursor is the empty cursor -/
def RSymNone (s : SetSymCur) (rem : List Bytes) : Prop := s = { cursor := none, value := none } ∧ rem = []

theorem setSym_refines_nobucket : Refines setSym (setSymSpec []) renderNilEmpty RSymNone where
  valid := by intro s rem ⟨hs, hr⟩; subst hs hr; rfl
  current := by intro s x t ⟨_, hr⟩; cases hr
  next := by intro s rem ⟨hs, hr⟩; subst hs hr; exact ⟨_, rfl, rfl, rfl⟩
  seek := fun v _ _ ⟨hs, hr⟩ => by subst hs hr; exact ⟨_, rfl, rfl, rfl⟩
  seekS := fun v _ _ ⟨hs, hr⟩ => by subst hs hr; exact ⟨_, rfl, rfl, rfl⟩

theorem setSymSpec_nil_closed : (setSymSpec []).NilClosed := by
  intro op f hf
  cases op <;> cases hf <;> rfl

end StorageModel.Cursor
