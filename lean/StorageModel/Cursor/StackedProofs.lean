import StorageModel.Cursor.Stacked
/-
  C14 — the stacked cursor enumerates the depth-first concatenation `stackedKeys`.
-/
namespace StorageModel.Cursor

/-- what the open path elements still contribute (deepest level first); the element at the head
    of a stack of length `n` is at chain index `n-1`, so its keys expand through `chain.drop n` -/
def pendingOf (chain : List Level) : List (List Bytes) → List Bytes
  | [] => []
  | r :: rest => r.flatMap (expandBelow (chain.drop (rest.length + 1))) ++ pendingOf chain rest

def stackWeight (chain : List Level) : List (List Bytes) → Nat
  | [] => 0
  | r :: rest => (r.map (weightBelow (chain.drop (rest.length + 1)))).sum + 1 + stackWeight chain rest

def StackedCur.out (chain : List Level) (c : StackedCur) : List Bytes :=
  match c.key with
  | none => []
  | some k => k :: pendingOf chain c.stack

theorem flatMap_expand_nil (l : List Bytes) : l.flatMap (expandBelow []) = l := by
  cases l with
  | nil => rfl
  | cons x t => simp [List.flatMap_cons, expandBelow]

theorem drop_cons_of_get {α} {l : List α} {n : Nat} {x : α} (h : l[n]? = some x) : l.drop n = x :: l.drop (n + 1) := by
  obtain ⟨hn, hx⟩ := List.getElem?_eq_some_iff.1 h
  rw [List.drop_eq_getElem_cons hn, hx]

theorem calcNext_none_pop (chain : List Level) (fuel : Nat) (top parent : List Bytes) (rest : List (List Bytes)) :
    calcNext chain (fuel + 1) (top :: parent :: rest) none =
      calcNext chain fuel ((popKey parent).2 :: rest) (popKey parent).1 := rfl

theorem calcNext_some_top (chain : List Level) (fuel : Nat) (stack : List (List Bytes)) (k : Bytes)
    (h : stack.length = chain.length) : calcNext chain (fuel + 1) stack (some k) = .ok { stack := stack, key := some k } := by
  rw [calcNext, if_pos h]

theorem calcNext_some_hop (chain : List Level) (fuel : Nat) (stack : List (List Bytes)) (k : Bytes) {lvl : Level}
    (h : stack.length ≠ chain.length) (hl : chain[stack.length]? = some lvl) :
    calcNext chain (fuel + 1) stack (some k) =
      calcNext chain fuel ((popKey (lvl (rowKeyOf k))).2 :: stack) (popKey (lvl (rowKeyOf k))).1 := by
  rw [calcNext, if_neg h, hl]

theorem pendingOf_top {chain : List Level} (k : Bytes) (t : List Bytes) {rest : List (List Bytes)}
    (h : rest.length + 1 = chain.length) : k :: pendingOf chain (t :: rest) = pendingOf chain ((k :: t) :: rest) := by
  simp only [pendingOf, List.drop_eq_nil_iff.2 (Nat.le_of_eq h.symm), List.flatMap_cons, expandBelow,
    List.cons_append, List.nil_append]

theorem pendingOf_hop {chain : List Level} {lvl : Level} (k : Bytes) (t : List Bytes) {rest : List (List Bytes)}
    (h : chain[rest.length + 1]? = some lvl) :
    pendingOf chain (lvl (rowKeyOf k) :: t :: rest) = pendingOf chain ((k :: t) :: rest) := by
  simp only [pendingOf, List.length_cons, drop_cons_of_get h, List.flatMap_cons, expandBelow, List.append_assoc]

theorem stackWeight_hop {chain : List Level} {lvl : Level} (k : Bytes) (t : List Bytes) {rest : List (List Bytes)}
    (h : chain[rest.length + 1]? = some lvl) :
    stackWeight chain (lvl (rowKeyOf k) :: t :: rest) + 1 = stackWeight chain ((k :: t) :: rest) := by
  simp only [stackWeight, List.length_cons, drop_cons_of_get h, List.map_cons, List.sum_cons, weightBelow]
  omega

structure RStacked (chain : List Level) (fuel : Nat) (c : StackedCur) (rem : List Bytes) : Prop where
  out : c.out chain = rem
  full : c.key.isSome → c.stack.length = chain.length
  weight : stackWeight chain c.stack < fuel
  chain_pos : 0 < chain.length

/-- `calculateNextCursorPosition` called with the next key of the path element `l` (as `Next()` and
    `OpenCursor` call it, and as it calls itself): the cursor comes to stand on the first value that
    `l` and the open elements below it still yield.  Every iteration that does not end the loop lowers
    `stackWeight` by one; that is the budget `stackedFuel` provides. -/
theorem calcNext_spec (chain : List Level) (fuel : Nat) : ∀ (l : List Bytes) (rest : List (List Bytes)),
    rest.length < chain.length → stackWeight chain (l :: rest) < fuel →
    ∃ cur, calcNext chain fuel ((popKey l).2 :: rest) (popKey l).1 = .ok cur ∧
      RStacked chain fuel cur (pendingOf chain (l :: rest)) := by
  induction fuel with
  | zero => exact fun _ _ _ hf => absurd hf (Nat.not_lt_zero _)
  | succ fuel ih =>
    intro l rest hlen hf
    have hchain : 0 < chain.length := Nat.zero_lt_of_lt hlen
    cases l with
    | nil =>
      cases rest with
      | nil => exact ⟨{ stack := [[]], key := none }, rfl, rfl, nofun, hf, hchain⟩
      | cons parent rest =>
        -- end of this path element: back up the stack to the parent's next key
        have hw : stackWeight chain (parent :: rest) + 1 = stackWeight chain ([] :: parent :: rest) := by
          simp only [stackWeight, List.map_nil, List.sum_nil]; omega
        obtain ⟨cur, hc, hR⟩ := ih parent rest (Nat.lt_of_succ_lt hlen) (Nat.lt_of_succ_lt_succ (lt_of_eq_of_lt hw hf))
        exact ⟨cur, (calcNext_none_pop chain fuel [] parent rest).trans hc, { hR with weight := Nat.lt_succ_of_lt hR.weight }⟩
    | cons k t =>
      show ∃ cur, calcNext chain (fuel + 1) (t :: rest) (some k) = .ok cur ∧ _
      by_cases hfull : (t :: rest).length = chain.length
      · exact ⟨_, calcNext_some_top chain fuel _ k hfull, pendingOf_top k t hfull, fun _ => hfull, by
          simp only [stackWeight, List.map_cons, List.sum_cons] at hf ⊢; omega, hchain⟩
      · -- hop up the stack: the keys of the next path element below `k`
        have hlt : rest.length + 1 < chain.length := Nat.lt_of_le_of_ne hlen hfull
        obtain ⟨lvl, hlvl⟩ : ∃ lvl, chain[rest.length + 1]? = some lvl := ⟨_, List.getElem?_eq_getElem hlt⟩
        have hw := stackWeight_hop k t hlvl
        obtain ⟨cur, hc, hR⟩ := ih (lvl (rowKeyOf k)) (t :: rest) hlt (Nat.lt_of_succ_lt_succ (lt_of_eq_of_lt hw hf))
        exact ⟨cur, (calcNext_some_hop chain fuel _ k hfull hlvl).trans hc,
          { hR with out := hR.out.trans (pendingOf_hop k t hlvl), weight := Nat.lt_succ_of_lt hR.weight }⟩

theorem stacked_refines (chain : List Level) (fuel : Nat) (L : List Bytes) :
    Refines (stackedMachine chain fuel) (Spec.plain L) rowKeyOf (RStacked chain fuel) where
  valid := by
    intro c rem h
    obtain rfl := h.out
    obtain ⟨stack, key⟩ := c
    cases key <;> rfl
  current := by
    intro c x t h
    obtain ⟨stack, key⟩ := c
    cases key with
    | none => cases h.out
    | some k => cases h.out; rfl
  next := by
    intro c rem h
    obtain rfl := h.out
    obtain ⟨stack, key⟩ := c
    cases key with
    | none => exact ⟨_, rfl, h⟩
    | some k =>
      have hlen : stack.length = chain.length := h.full rfl
      cases stack with
      | nil => exact absurd hlen (Nat.ne_of_lt h.chain_pos)
      | cons top rest => exact calcNext_spec chain fuel top rest (Nat.lt_of_succ_le (Nat.le_of_eq hlen)) h.weight
  seek := trivial
  seekS := trivial

theorem stackedOpen_implements (l0 : Level) (ls : List Level) (rowId : Option Bytes) {fuel : Nat}
    (hf : stackedFuel (l0 :: ls) rowId ≤ fuel) :
    (stackedOpen (l0 :: ls) rowId fuel).Implements (Spec.plain (stackedKeys (l0 :: ls) rowId)) rowKeyOf := by
  have hsw : stackWeight (l0 :: ls) [l0 rowId] + 2 = stackedFuel (l0 :: ls) rowId := rfl
  obtain ⟨cur, hc, hR⟩ := calcNext_spec (l0 :: ls) fuel (l0 rowId) [] (Nat.succ_pos _) (by omega)
  exact ⟨_, cur, hc, stacked_refines _ _ _, { hR with out := hR.out.trans (List.append_nil _) }⟩

end StorageModel.Cursor
