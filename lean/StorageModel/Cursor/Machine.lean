import StorageModel.Cursor.Basic
/-
  C14 — cursors as state machines, scripts, the list specification and the refinement notion.

  `Machine σ` is the Go interface `ast.SetCursor` (+ optional `Seek`, `SeekToString`) over a
  state `σ`: every method may panic (`Outcome`).  `Current()` returns a Go `[]byte`, modelled
  as `Option Bytes` (`none` = nil).  A *script* is a list of `Op`s; `Machine.openRun` performs it
  the way the harness drives the real cursor: after the cursor is opened and after every
  operation it calls `IsValid()` and, when valid, `Current()`.
-/
namespace StorageModel.Cursor

structure Machine (σ : Type) where
  next : σ → Outcome σ
  /-- `Seek([]byte)`, if the Go type has the method -/
  seek : Option (Bytes → σ → Outcome σ)
  /-- `SeekToString(string)`, if the Go type has the method -/
  seekS : Option (Bytes → σ → Outcome σ)
  valid : σ → Bool
  current : σ → Outcome (Option Bytes)

inductive Op where
  | next
  | seek (v : Bytes)
  | seekS (v : Bytes)
  deriving Repr, DecidableEq

inductive Obs where
  | invalid
  | value (v : Option Bytes)   -- valid, `Current()` returned v (none = nil)
  | unsupported                -- the operation is not a method of this cursor type (state unchanged)
  | failed (e : String)
  | panic
  deriving Repr, DecidableEq

namespace Machine
variable {σ : Type}

def observe (M : Machine σ) (s : σ) : Obs :=
  if M.valid s then
    match M.current s with
    | .ok v => .value v
    | .err e => .failed e
    | .panic => .panic
  else .invalid

def method (M : Machine σ) : Op → Option (σ → Outcome σ)
  | .next => some M.next
  | .seek v => M.seek.map (· v)
  | .seekS v => M.seekS.map (· v)

/-- run a script from state `s`; a panic ends the run (the harness recovers and stops) -/
def run (M : Machine σ) : List Op → σ → List Obs
  | [], _ => []
  | op :: ops, s =>
    match M.method op with
    | none => .unsupported :: run M ops s
    | some f =>
      match f s with
      | .ok s' => M.observe s' :: run M ops s'
      | .err e => [.failed e]
      | .panic => [.panic]

def openRun (M : Machine σ) (o : Outcome σ) (ops : List Op) : List Obs :=
  match o with
  | .ok s => M.observe s :: M.run ops s
  | .err e => [.failed e]
  | .panic => [.panic]

/-- `for ; c.IsValid(); c.Next() { out = append(out, c.Current()) }` with a step budget -/
def toList (M : Machine σ) : Nat → σ → Outcome (List (Option Bytes))
  | 0, _ => .err "fuel"
  | fuel + 1, s =>
    if M.valid s then do
      let v ← M.current s
      let s' ← M.next s
      let rest ← toList M fuel s'
      pure (v :: rest)
    else pure []

end Machine

/-- The specification of one cursor: the list it must enumerate and where a seek must land.
    `seek v rem` may depend on the remaining list (only the forward-only seek of a scanner
    over a non-seekable cursor does). -/
structure Spec where
  list : List Bytes
  seek : Option (Bytes → List Bytes → List Bytes)
  seekS : Option (Bytes → List Bytes → List Bytes)

namespace Spec

def observe (rem : List Bytes) : Obs :=
  match rem with
  | [] => .invalid
  | x :: _ => .value (some x)

def method (S : Spec) : Op → Option (List Bytes → List Bytes)
  | .next => some List.tail
  | .seek v => S.seek.map (· v)
  | .seekS v => S.seekS.map (· v)

def run (S : Spec) : List Op → List Bytes → List Obs
  | [], _ => []
  | op :: ops, rem =>
    match S.method op with
    | none => .unsupported :: run S ops rem
    | some f => observe (f rem) :: run S ops (f rem)

def openRun (S : Spec) (ops : List Op) : List Obs := observe S.list :: S.run ops S.list

/-- seek of a cursor of direction `d` over the list `L` (already in direction `d`):
    skip everything strictly before `v` -/
def seekIn (d : Dir) (L : List Bytes) (v : Bytes) : List Bytes :=
  L.dropWhile (fun x => decide (d.before x v))

/-- the standard specification: enumerate `L` (already in direction `d`); `Seek`, when the
    cursor type has it (`sk`), lands on the first element not before `v` -/
def std (d : Dir) (L : List Bytes) (sk : Bool) : Spec :=
  { list := L, seek := if sk then some fun v _ => seekIn d L v else none, seekS := none }

abbrev seekable (d : Dir) (L : List Bytes) : Spec := std d L true

abbrev plain (L : List Bytes) : Spec := std .fwd L false

theorem std_false (d : Dir) (L : List Bytes) : std d L false = plain L := rfl

end Spec

/-- How an element is rendered by `Current()`: `some` for most cursors; cursors that read
    through `GetTypeAndValue` return nil for the empty element (empty ≡ nil convention). -/
abbrev Render := Bytes → Option Bytes

def renderNilEmpty : Render := fun e => if e.isEmpty then none else some e

def Obs.render (r : Render) : Obs → Obs
  | .value (some x) => .value (r x)
  | o => o

/-- `R` is a simulation between machine states and remaining lists: the machine `M`
    implements the specification `S` (elements rendered through `r`). -/
structure Refines {σ : Type} (M : Machine σ) (S : Spec) (r : Render) (R : σ → List Bytes → Prop) : Prop where
  valid : ∀ {s rem}, R s rem → M.valid s = !rem.isEmpty
  current : ∀ {s x t}, R s (x :: t) → M.current s = .ok (r x)
  next : ∀ {s rem}, R s rem → ∃ s', M.next s = .ok s' ∧ R s' rem.tail
  seek : match M.seek, S.seek with
    | some f, some g => ∀ v {s rem}, R s rem → ∃ s', f v s = .ok s' ∧ R s' (g v rem)
    | none, none => True
    | _, _ => False
  seekS : match M.seekS, S.seekS with
    | some f, some g => ∀ v {s rem}, R s rem → ∃ s', f v s = .ok s' ∧ R s' (g v rem)
    | none, none => True
    | _, _ => False

namespace Refines
variable {σ : Type} {M : Machine σ} {S : Spec} {r : Render} {R : σ → List Bytes → Prop}

theorem observe_eq (h : Refines M S r R) {s rem} (hR : R s rem) :
    M.observe s = (Spec.observe rem).render r := by
  unfold Machine.observe
  rw [h.valid hR]
  cases rem with
  | nil => rfl
  | cons x t => simp [h.current hR, Spec.observe, Obs.render]

/-- the `seek` / `seekS` clause of `Refines`, as a case distinction -/
theorem sim_cases {mf : Option (Bytes → σ → Outcome σ)} {sg : Option (Bytes → List Bytes → List Bytes)}
    (h : match mf, sg with
      | some f, some g => ∀ v {s rem}, R s rem → ∃ s', f v s = .ok s' ∧ R s' (g v rem)
      | none, none => True
      | _, _ => False) :
    (mf = none ∧ sg = none) ∨
      ∃ f g, mf = some f ∧ sg = some g ∧ ∀ v {s rem}, R s rem → ∃ s', f v s = .ok s' ∧ R s' (g v rem) := by
  cases mf <;> cases sg
  · exact .inl ⟨rfl, rfl⟩
  · exact h.elim
  · exact h.elim
  · exact .inr ⟨_, _, rfl, rfl, h⟩

theorem method_sim (h : Refines M S r R) (op : Op) :
    match M.method op, S.method op with
    | some f, some g => ∀ {s rem}, R s rem → ∃ s', f s = .ok s' ∧ R s' (g rem)
    | none, none => True
    | _, _ => False := by
  cases op with
  | next => exact fun hR => h.next hR
  | seek v =>
    rcases sim_cases h.seek with ⟨hm, hs⟩ | ⟨f, g, hm, hs, hsim⟩ <;> simp only [Machine.method, Spec.method, hm, hs, Option.map_none, Option.map_some]
    exact fun hR => hsim v hR
  | seekS v =>
    rcases sim_cases h.seekS with ⟨hm, hs⟩ | ⟨f, g, hm, hs, hsim⟩ <;> simp only [Machine.method, Spec.method, hm, hs, Option.map_none, Option.map_some]
    exact fun hR => hsim v hR

theorem run_eq (h : Refines M S r R) : ∀ (ops : List Op) {s rem}, R s rem →
    M.run ops s = (S.run ops rem).map (Obs.render r)
  | [], _, _, _ => rfl
  | op :: ops, s, rem, hR => by
    have hm := h.method_sim op
    unfold Machine.run Spec.run
    cases hM : M.method op <;> cases hS : S.method op <;> simp only [hM, hS] at hm ⊢
    · simp [Obs.render, run_eq h ops hR]
    · obtain ⟨s', hs', hR'⟩ := hm hR
      simp [hs', h.observe_eq hR', run_eq h ops hR']

theorem openRun_eq (h : Refines M S r R) {s} (hR : R s S.list) (ops : List Op) :
    M.openRun (.ok s) ops = (S.openRun ops).map (Obs.render r) := by
  simp [Machine.openRun, Spec.openRun, h.observe_eq hR, h.run_eq ops hR]

theorem toList_eq (h : Refines M S r R) : ∀ (fuel : Nat) {s rem}, R s rem → rem.length < fuel →
    M.toList fuel s = .ok (rem.map r)
  | 0, _, _, _, hf => by omega
  | fuel + 1, s, rem, hR, hf => by
    unfold Machine.toList
    rw [h.valid hR]
    cases rem with
    | nil => rfl
    | cons x t =>
      obtain ⟨s', hs', hR'⟩ := h.next hR
      have ih := toList_eq h fuel hR' (by simpa using hf)
      simp only [List.tail_cons] at ih
      simp [h.current hR, hs', ih]

theorem exhausted (h : Refines M S r R) {s} (hR : R s []) :
    M.valid s = false ∧ ∃ s', M.next s = .ok s' ∧ R s' [] := by
  refine ⟨by simpa using h.valid hR, ?_⟩
  simpa using h.next hR

end Refines

theorem Obs.render_some : Obs.render some = id := by
  funext o
  cases o with
  | value v => cases v <;> rfl
  | _ => rfl

/-- every operation of the specification keeps the empty remainder empty -/
def Spec.NilClosed (S : Spec) : Prop := ∀ op f, S.method op = some f → f [] = []

theorem Spec.run_nil {S : Spec} (hS : S.NilClosed) : ∀ (ops : List Op),
    S.run ops [] = ops.map fun op => if (S.method op).isSome then Obs.invalid else Obs.unsupported
  | [] => rfl
  | op :: ops => by
    unfold Spec.run
    cases hm : S.method op with
    | none => simp [hm, Spec.run_nil hS ops]
    | some f => simp [hm, hS op f hm, Spec.run_nil hS ops, Spec.observe]

theorem Spec.openRun_nil {S : Spec} (hS : S.NilClosed) (hl : S.list = []) (ops : List Op) (r : Render) :
    (S.openRun ops).map (Obs.render r) =
      .invalid :: ops.map fun op => if (S.method op).isSome then Obs.invalid else Obs.unsupported := by
  rw [Spec.openRun, hl, Spec.run_nil hS, List.map_cons, List.map_map]
  exact congrArg _ (List.map_congr_left fun op _ => by dsimp only [Function.comp]; split <;> rfl)

theorem std_nil_closed (d : Dir) (sk : Bool) : (Spec.std d [] sk).NilClosed := by
  intro op f hf
  cases op <;> cases sk <;> cases hf <;> rfl

theorem run_nexts_spec (S : Spec) : ∀ (n : Nat) (rem : List Bytes),
    S.run (List.replicate n .next) rem = (List.range n).map fun i => Spec.observe (rem.drop (i + 1))
  | 0, _ => rfl
  | n + 1, rem => by
    have ih := run_nexts_spec S n rem.tail
    simp only [List.replicate_succ, Spec.run, Spec.method, ih, List.range_succ_eq_map, List.map_cons, List.map_map]
    simp [Function.comp_def, List.drop_tail]

end StorageModel.Cursor
