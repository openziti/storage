import StorageModel.Base.Bytes
import StorageModel.Base.Lists
/-
  C14 — basics shared by the cursor models: Go partiality (`Outcome`), the byte-string order
  (`bytes.Compare` = lexicographic `<` on `List UInt8`), directions, strictly sorted lists,
  `dedupSort` (the spec's "set as a list in key order").
-/
namespace StorageModel.Cursor

/-- Go partiality: a call returns, fails with an error, or panics. -/
inductive Outcome (α : Type) where
  | ok (a : α)
  | err (e : String)
  | panic
  deriving Repr, DecidableEq

namespace Outcome
@[inline] def bind {α β} (x : Outcome α) (f : α → Outcome β) : Outcome β :=
  match x with
  | .ok a => f a
  | .err e => .err e
  | .panic => .panic
instance : Monad Outcome where
  pure := .ok
  bind := Outcome.bind
@[simp] theorem ok_bind {α β} (a : α) (f : α → Outcome β) : (Outcome.ok a >>= f) = f a := rfl
@[simp] theorem panic_bind {α β} (f : α → Outcome β) : (Outcome.panic >>= f) = .panic := rfl
@[simp] theorem err_bind {α β} (e) (f : α → Outcome β) : (Outcome.err e >>= f) = .err e := rfl
@[simp] theorem pure_eq {α} (a : α) : (pure a : Outcome α) = .ok a := rfl
end Outcome

inductive Dir where
  | fwd | rev
  deriving Repr, DecidableEq

/-- `d.before a b`: `a` is enumerated strictly before `b` by a cursor of direction `d`. -/
@[reducible] def Dir.before (d : Dir) (a b : Bytes) : Prop :=
  match d with
  | .fwd => a < b
  | .rev => b < a

instance (d : Dir) (a b : Bytes) : Decidable (d.before a b) := by
  cases d <;> simp only [Dir.before] <;> infer_instance

theorem blt_irrefl (a : Bytes) : ¬ a < a := List.lt_irrefl a
theorem blt_trans {a b c : Bytes} (h1 : a < b) (h2 : b < c) : a < c := List.lt_trans h1 h2
theorem blt_asymm {a b : Bytes} (h : a < b) : ¬ b < a := List.lt_asymm h
theorem beq_of_not_lt {a b : Bytes} (h1 : ¬ a < b) (h2 : ¬ b < a) : a = b :=
  List.le_antisymm (as := a) (bs := b) h2 h1
theorem ble_iff {a b : Bytes} : a ≤ b ↔ ¬ b < a := List.not_lt.symm

theorem Dir.before_irrefl (d : Dir) (a : Bytes) : ¬ d.before a a := by
  cases d <;> exact blt_irrefl a
theorem Dir.before_trans {d : Dir} {a b c : Bytes} (h1 : d.before a b) (h2 : d.before b c) : d.before a c := by
  cases d
  · exact blt_trans h1 h2
  · exact blt_trans h2 h1
theorem Dir.before_asymm {d : Dir} {a b : Bytes} (h : d.before a b) : ¬ d.before b a := by
  cases d
  · exact blt_asymm h
  · exact blt_asymm h
theorem Dir.eq_of_not_before {d : Dir} {a b : Bytes} (h1 : ¬ d.before a b) (h2 : ¬ d.before b a) : a = b := by
  cases d
  · exact beq_of_not_lt h1 h2
  · exact beq_of_not_lt h2 h1
theorem Dir.before_of_ne {d : Dir} {a b : Bytes} (hne : a ≠ b) (h : ¬ d.before a b) : d.before b a :=
  Decidable.byContradiction fun h' => hne (Dir.eq_of_not_before h h')

/-- strictly sorted in direction `d` (hence duplicate free) -/
def Sorted (d : Dir) (l : List Bytes) : Prop := l.Pairwise d.before
abbrev Asc (l : List Bytes) : Prop := Sorted .fwd l

theorem asc_reverse {l : List Bytes} (h : Asc l) : Sorted .rev l.reverse := List.pairwise_reverse.2 h

theorem Sorted.before_all {d : Dir} {x y : Bytes} {t : List Bytes} (h : Sorted d (y :: t)) (hxy : d.before x y) :
    ∀ z ∈ y :: t, d.before x z := fun z hz =>
  (List.mem_cons.1 hz).elim (fun e => e ▸ hxy) fun hz => Dir.before_trans hxy ((List.pairwise_cons.1 h).1 z hz)

theorem sorted_ext {d : Dir} {a b : List Bytes} (ha : Sorted d a) (hb : Sorted d b) (h : ∀ x, x ∈ a ↔ x ∈ b) : a = b :=
  List.Pairwise.eq_of_mem_iff Dir.before_asymm ha hb h

/-- insert into a list sorted in direction `d`, keeping one copy of an equal element
    (the replace-on-equal behaviour of llrb `Insert` and of a bolt `Put`) -/
def insertD (d : Dir) (x : Bytes) : List Bytes → List Bytes
  | [] => [x]
  | y :: t => if d.before x y then x :: y :: t else if d.before y x then y :: insertD d x t else y :: t

/-- the set `xs` as the list a cursor of direction `d` must produce -/
def sortD (d : Dir) (xs : List Bytes) : List Bytes := xs.foldr (insertD d) []

abbrev dedupSort (xs : List Bytes) : List Bytes := sortD .fwd xs

/-- `order d l`: an ascending list read in direction `d` -/
def order (d : Dir) (l : List Bytes) : List Bytes :=
  match d with
  | .fwd => l
  | .rev => l.reverse

theorem mem_insertD {d : Dir} {x z : Bytes} : ∀ {l : List Bytes}, z ∈ insertD d x l ↔ z = x ∨ z ∈ l
  | [] => by simp [insertD]
  | y :: t => by
    unfold insertD
    split
    · exact List.mem_cons
    · split
      · rw [List.mem_cons, mem_insertD (l := t), List.mem_cons]; exact or_left_comm
      · next h1 h2 =>
        cases Dir.eq_of_not_before h1 h2
        exact ⟨.inr, fun h => h.elim (fun e => e ▸ List.mem_cons_self ..) id⟩

theorem sorted_insertD {d : Dir} {x : Bytes} : ∀ {l : List Bytes}, Sorted d l → Sorted d (insertD d x l)
  | [], _ => by simp [insertD, Sorted]
  | y :: t, h => by
    have h' := List.pairwise_cons.1 h
    unfold insertD
    split
    · next hxy => exact List.pairwise_cons.2 ⟨h.before_all hxy, h⟩
    · split
      · next _ hyx =>
        refine List.pairwise_cons.2 ⟨?_, sorted_insertD h'.2⟩
        intro z hz
        rcases mem_insertD.1 hz with e | hz
        · subst e; exact hyx
        · exact h'.1 z hz
      · exact h

theorem insertD_append_of_before {d : Dir} {x e : Bytes} (h : d.before x e) (B : List Bytes) :
    ∀ (A : List Bytes), insertD d x (A ++ e :: B) = insertD d x A ++ e :: B
  | [] => if_pos h
  | a :: A => by
    show insertD d x (a :: (A ++ e :: B)) = insertD d x (a :: A) ++ e :: B
    unfold insertD
    split
    · rfl
    · split
      · exact congrArg (a :: ·) (insertD_append_of_before h B A)
      · rfl

theorem insertD_append_of_after {d : Dir} {x : Bytes} (C : List Bytes) :
    ∀ {A : List Bytes}, (∀ a ∈ A, d.before a x) → insertD d x (A ++ C) = A ++ insertD d x C
  | [], _ => rfl
  | a :: A, h => by
    have ha := h a (List.mem_cons_self ..)
    show insertD d x (a :: (A ++ C)) = _
    rw [insertD, if_neg (Dir.before_asymm ha), if_pos ha,
      insertD_append_of_after C fun b hb => h b (List.mem_cons_of_mem _ hb)]; rfl

theorem sortD_cons (d : Dir) (x : Bytes) (t : List Bytes) : sortD d (x :: t) = insertD d x (sortD d t) := rfl

theorem mem_sortD {d : Dir} {z : Bytes} : ∀ {xs : List Bytes}, z ∈ sortD d xs ↔ z ∈ xs
  | [] => by simp [sortD]
  | x :: t => by rw [sortD_cons, mem_insertD, mem_sortD (xs := t), List.mem_cons]

theorem sorted_sortD {d : Dir} : ∀ {xs : List Bytes}, Sorted d (sortD d xs)
  | [] => by simp [sortD, Sorted]
  | x :: t => by rw [sortD_cons]; exact sorted_insertD (sorted_sortD (xs := t))

theorem insertD_length_le (d : Dir) (x : Bytes) : ∀ (l : List Bytes), (insertD d x l).length ≤ l.length + 1
  | [] => by simp [insertD]
  | y :: t => by
    unfold insertD
    split
    · simp
    · split
      · have := insertD_length_le d x t; simp; omega
      · simp

theorem sortD_length_le (d : Dir) : ∀ (xs : List Bytes), (sortD d xs).length ≤ xs.length
  | [] => by simp [sortD]
  | x :: t => by
    have ih := sortD_length_le d t
    have := insertD_length_le d x (sortD d t)
    rw [sortD_cons, List.length_cons]
    omega

theorem eq_sortD {d : Dir} {l xs : List Bytes} (hs : Sorted d l) (hm : ∀ z, z ∈ l ↔ z ∈ xs) : l = sortD d xs :=
  sorted_ext hs sorted_sortD fun z => (hm z).trans mem_sortD.symm

theorem sortD_rev (xs : List Bytes) : sortD .rev xs = (dedupSort xs).reverse :=
  (eq_sortD (asc_reverse sorted_sortD) fun _ => List.mem_reverse.trans mem_sortD).symm

theorem sortD_eq_order (d : Dir) (xs : List Bytes) : sortD d xs = order d (dedupSort xs) := by
  cases d
  · rfl
  · exact sortD_rev xs

theorem sorted_order (d : Dir) (xs : List Bytes) : Sorted d (order d (dedupSort xs)) := by
  rw [← sortD_eq_order]; exact sorted_sortD

theorem dropWhile_eq_filter {d : Dir} (v : Bytes) : ∀ {l : List Bytes}, Sorted d l →
    l.dropWhile (fun x => decide (d.before x v)) = l.filter (fun x => !decide (d.before x v))
  | [], _ => rfl
  | x :: t, h => by
    have h' := List.pairwise_cons.1 h
    by_cases hx : d.before x v
    · simp [List.dropWhile, List.filter, hx, dropWhile_eq_filter v h'.2]
    · have hall : ∀ y ∈ t, ¬ d.before y v := fun y hy hyv => hx (Dir.before_trans (h'.1 y hy) hyv)
      have : t.filter (fun x => !decide (d.before x v)) = t := by
        apply List.filter_eq_self.2; intro y hy; simp [hall y hy]
      simp [List.dropWhile, List.filter, hx, this]

theorem drop_length_takeWhile {α} (p : α → Bool) : ∀ (l : List α), l.drop (l.takeWhile p).length = l.dropWhile p
  | [] => rfl
  | x :: t => by
    by_cases h : p x <;> simp [List.takeWhile, List.dropWhile, h, drop_length_takeWhile p t]

theorem dropWhile_head_false {α} {p : α → Bool} {l : List α} {x : α} {t : List α}
    (h : l.dropWhile p = x :: t) : p x = false := by
  have := List.head?_dropWhile_not p l
  rwa [h] at this

end StorageModel.Cursor
