import StorageModel.Cursor.Kinds
import StorageModel.Cursor.BoltProofs
import StorageModel.Cursor.MemProofs
import StorageModel.Cursor.ScannerProofs
/-
  C14 — every described cursor implements its specification (`Desc.implements`, by induction on the
  description); the descriptions `allOf` / `anyOf` build from an entity table are well formed and list
  the ids holding all / any of the values (`allOf_list`, `anyOf_list`).
-/
namespace StorageModel.Cursor

namespace Desc

theorem spec_list (d : Desc) : d.spec.list = d.list := by cases d <;> rfl

theorem spec_eq (d : Desc) : d.spec = if d.isStd then Spec.std d.dir d.list d.seekable else setSymSpec d.list := by
  cases d <;> rfl

theorem spec_of_isStd {d : Desc} (h : d.isStd = true) : d.spec = Spec.std d.dir d.list d.seekable :=
  (spec_eq d).trans (if_pos h)

theorem isStd_of_renderNil_false : ∀ {d : Desc}, d.renderNil = false → d.isStd = true
  | setsym _, h | setsymNone, h => nomatch h
  | fwd _, _ | rev _, _ | tfwd .., _ | trev .., _ | empty, _ | slice .., _ | tree .., _ | filt .., _ | union .., _
  | scan .., _ | validIds .., _ => rfl

theorem list_length_le : ∀ (d : Desc), d.list.length ≤ d.size
  | fwd xs | tfwd _ xs | setsym xs => sortD_length_le .fwd xs
  | rev xs | trev _ xs => le_of_eq_of_le (List.length_reverse ..) (sortD_length_le .fwd xs)
  | setsymNone | empty | slice .. => Nat.le_refl _
  | tree d _ adds => sortD_length_le d adds
  | filt i _ | scan i .. | validIds i _ => Nat.le_trans (List.length_filter_le _ _) (list_length_le i)
  | union d a b => Nat.le_trans (sortD_length_le d _)
      (le_of_eq_of_le List.length_append (Nat.add_le_add (list_length_le a) (list_length_le b)))

theorem list_lt_fuel (d : Desc) : d.list.length < d.fuel := by
  have := list_length_le d
  unfold fuel; omega

theorem render_getD (d : Desc) (x : Bytes) : (d.render x).getD [] = x := by
  by_cases h : d.renderNil = true
  · cases x <;> simp [render, renderNilEmpty, h]
  · simp [render, h]

theorem render_of_false {d : Desc} (h : d.renderNil = false) : d.render = some := by
  unfold render; simp [h]

theorem render_nonempty (d : Desc) {x : Bytes} (hx : x ≠ []) : d.render x = some x := by
  unfold render renderNilEmpty
  split
  · cases x with
    | nil => exact absurd rfl hx
    | cons a t => rfl
  · rfl

theorem renderNil_union (d : Dir) (a b : Desc) :
    (union d a b).renderNil = if a.list.contains [] then a.renderNil else b.renderNil := rfl

theorem render_union (d : Dir) (a b : Desc) : unionRender a.list a.render b.render = (union d a b).render := by
  funext x
  by_cases hx : x = []
  · subst hx
    unfold unionRender render
    rw [renderNil_union]
    by_cases hm : ([] : Bytes) ∈ a.list
    · rw [if_pos hm, if_pos (List.contains_iff_mem.2 hm)]
    · rw [if_neg hm, if_neg (mt List.contains_iff_mem.1 hm)]
  · rw [render_nonempty _ hx]
    unfold unionRender
    split <;> exact render_nonempty _ hx

theorem sorted : ∀ (d : Desc), d.WF → Sorted d.dir d.list
  | fwd xs, _ | tfwd _ xs, _ | setsym xs, _ => sorted_sortD
  | rev xs, _ | trev _ xs, _ => asc_reverse sorted_sortD
  | setsymNone, _ | empty, _ => by simp [list, Sorted]
  | slice _ _, h => h
  | tree _ _ _, _ => sorted_sortD
  | filt i _, h => sorted_filter _ (sorted i h)
  | scan i _ _, h => sorted_filter _ (sorted i h.1)
  | validIds i _, h => sorted_filter _ (sorted i h.1)
  | union _ _ _, _ => sorted_sortD

/-- the lemma C14's theorems rest on (`Properties/C14.next_seek_mix` is its `run_eq`) -/
theorem implements : ∀ (d : Desc), d.WF → d.open.Implements d.spec d.render
  | fwd xs, _ => ⟨RFwd _, _, rfl, forwardBolt_refines _, forwardBolt_open _⟩
  | rev xs, _ => ⟨RRev _, _, rfl, reverseBolt_refines sorted_sortD, reverseBolt_open _⟩
  | tfwd tag xs, _ => ⟨RFwdT tag _, _, rfl, typedForwardBolt_refines tag _, typedForwardBolt_open tag _⟩
  | trev tag xs, _ => ⟨RRevT tag _, _, rfl, typedReverseBolt_refines tag sorted_sortD, typedReverseBolt_open tag _⟩
  | setsym xs, _ => ⟨RSym _, _, rfl, setSym_refines _, setSym_open _⟩
  | setsymNone, _ => ⟨RSymNone, _, rfl, setSym_refines_nobucket, rfl, rfl⟩
  | empty, _ => emptyCursor_implements
  | slice _ vals, _ => sliceCursor_implements vals
  | tree d ne adds, _ => treeSetCursor_implements d _ adds
  | filt i keep, h => by
    have := newFilteredCursor_implements (implements i h) (fun o => mem keep (o.getD [])) (list_lt_fuel' i)
    simp only [render_getD, spec_list] at this
    exact this
  | union d a b, ⟨ha, hb, hda, hdb⟩ => by
    have hsa : Sorted d a.spec.list := by rw [spec_list, ← hda]; exact sorted a ha
    have hsb : Sorted d b.spec.list := by rw [spec_list, ← hdb]; exact sorted b hb
    have := newUnionSetCursor_implements (implements a ha) (implements b hb) (render_getD a) (render_getD b) d
      hsa hsb
    rw [spec_list, spec_list, render_union d a b] at this
    exact this
  | scan i skip keep, ⟨hw, hsk, hrn⟩ => by
    have hi := implements i hw
    rw [spec_of_isStd (isStd_of_renderNil_false hrn), hsk, render_of_false hrn] at hi
    have key := newScanCursor_implements (cfg := { skipRow := mem skip, filter := mem keep, targetOffset := 0, targetLimit := none })
      hi (seekable_stateless _ _) ⟨rfl, rfl⟩ (fuel := i.fuel) (Nat.succ_lt_succ (Nat.lt_succ_of_le (list_length_le i)))
    rw [scanSpecR_std (sorted i hw)] at key
    show AnyCursor.Implements _ (Spec.std i.dir (i.list.filter (fun x => !mem skip x && mem keep x)) i.seekable) some
    rw [hsk]; exact key
  | validIds i present, ⟨hw, hstd⟩ => by
    have hi := implements i hw
    rw [spec_of_isStd hstd] at hi
    have := newValidIdsCursor_implements hi (sorted i hw) (mem present) (list_lt_fuel i)
    simp only [render_getD] at this
    exact this
where
  list_lt_fuel' (i : Desc) : i.spec.list.length < i.fuel := by rw [spec_list]; exact list_lt_fuel i

theorem toList_eq (d : Desc) (h : d.WF) {fuel : Nat} (hf : d.list.length < fuel) :
    d.open.toList fuel = .ok (d.list.map d.render) := by
  have := (implements d h).toList_eq (fuel := fuel) (by rwa [spec_list])
  rwa [spec_list] at this

/-- entity ids are keys: one value list per id -/
def Table.Functional (t : Table) : Prop := ∀ x r r', (x, r) ∈ t → (x, r') ∈ t → r = r'

theorem mem_map_fst_filter {t : Table} (p : List Bytes → Bool) {x : Bytes} :
    x ∈ (t.filter fun e => p e.2).map (·.1) ↔ ∃ r, (x, r) ∈ t ∧ p r = true := by
  simp only [List.mem_map, List.mem_filter]
  constructor
  · rintro ⟨⟨y, r⟩, ⟨hm, hr⟩, rfl⟩; exact ⟨r, hm, hr⟩
  · rintro ⟨r, hm, hr⟩; exact ⟨(x, r), ⟨hm, hr⟩, rfl⟩

theorem mem_idsWith {t : Table} {role x : Bytes} : x ∈ idsWith t role ↔ ∃ r, (x, r) ∈ t ∧ role ∈ r := by
  simp only [idsWith, mem_map_fst_filter (·.contains role), List.contains_iff_mem]

theorem mem_hasAll {t : Table} {vs : List Bytes} {x : Bytes} :
    x ∈ hasAll t vs ↔ ∃ r, (x, r) ∈ t ∧ ∀ v ∈ vs, v ∈ r := by
  simp only [hasAll, mem_map_fst_filter (vs.all ·.contains), List.all_eq_true, List.contains_iff_mem]

theorem mem_hasAny {t : Table} {vs : List Bytes} {x : Bytes} :
    x ∈ hasAny t vs ↔ ∃ r, (x, r) ∈ t ∧ ∃ v ∈ vs, v ∈ r := by
  simp only [hasAny, mem_map_fst_filter (vs.any ·.contains), List.any_eq_true, List.contains_iff_mem]

theorem openValueCursor_wf (t : Table) (role : Bytes) (d : Dir) : (openValueCursor t role d).WF := by
  unfold openValueCursor; split
  · trivial
  · cases d <;> trivial

theorem openValueCursor_list (t : Table) (role : Bytes) (d : Dir) :
    (openValueCursor t role d).list = sortD d (idsWith t role) := by
  unfold openValueCursor; split
  · next h => simp only [List.isEmpty_iff] at h; simp [list, h, sortD]
  · cases d
    · rfl
    · exact (sortD_rev _).symm

theorem mem_true {l : List Bytes} {x : Bytes} : mem l x = true ↔ x ∈ l := by
  simp [mem]

theorem allOf_wf (d : Dir) (t : Table) : ∀ (values : List Bytes), (allOf d t values).WF
  | [] => trivial
  | [v] => openValueCursor_wf t v d
  | v :: _ :: _ => openValueCursor_wf t v d

theorem anyOf_wf (d : Dir) (t : Table) : ∀ (values : List Bytes), (anyOf d t values).WF
  | [] => trivial
  | [v] => openValueCursor_wf t v d
  | _ :: _ :: _ => trivial

theorem hasAll_singleton (t : Table) (v : Bytes) : hasAll t [v] = idsWith t v := by
  simp only [hasAll, idsWith, List.all_cons, List.all_nil, Bool.and_true]

theorem hasAny_singleton (t : Table) (v : Bytes) : hasAny t [v] = idsWith t v := by
  simp only [hasAny, idsWith, List.any_cons, List.any_nil, Bool.or_false]

theorem allOf_list (d : Dir) {t : Table} (ht : Table.Functional t) : ∀ (values : List Bytes), values ≠ [] →
    (allOf d t values).list = sortD d (hasAll t values)
  | [], h => absurd rfl h
  | [v], _ => by
    show (openValueCursor t v d).list = _
    rw [openValueCursor_list, hasAll_singleton]
  | v :: w :: rest, _ => by
    show (openValueCursor t v d).list.filter (mem (hasAll t (w :: rest))) = _
    rw [openValueCursor_list]
    refine eq_sortD (sorted_filter _ sorted_sortD) fun x => ?_
    rw [List.mem_filter, mem_sortD, mem_true, mem_idsWith, mem_hasAll, mem_hasAll]
    constructor
    · rintro ⟨⟨r, hm, hv⟩, r', hm', hall⟩
      have := ht x r r' hm hm'; subst this
      exact ⟨r, hm, fun u hu => by
        rcases List.mem_cons.1 hu with e | hu
        · subst e; exact hv
        · exact hall u hu⟩
    · rintro ⟨r, hm, hall⟩
      exact ⟨⟨r, hm, hall v (List.mem_cons_self ..)⟩, r, hm, fun u hu => hall u (List.mem_cons_of_mem _ hu)⟩

theorem anyOf_list (d : Dir) (t : Table) : ∀ (values : List Bytes), (anyOf d t values).list = sortD d (hasAny t values)
  | [] => by
    show [] = sortD d ((t.filter fun _ => false).map (·.1))
    rw [List.filter_eq_nil_iff.2 fun _ _ => Bool.false_ne_true]; rfl
  | [v] => by
    show (openValueCursor t v d).list = _
    rw [openValueCursor_list, hasAny_singleton]
  | v :: w :: rest => by
    show sortD d _ = _
    refine eq_sortD sorted_sortD fun x => ?_
    rw [mem_sortD, mem_hasAny, List.mem_flatMap]
    constructor
    · rintro ⟨role, hrole, hx⟩
      obtain ⟨r, hm, hr⟩ := mem_idsWith.1 (mem_sortD.1 hx)
      exact ⟨r, hm, role, hrole, hr⟩
    · rintro ⟨r, hm, role, hrole, hr⟩
      exact ⟨role, hrole, mem_sortD.2 (mem_idsWith.2 ⟨r, hm, hr⟩)⟩

end Desc
end StorageModel.Cursor
