import StorageModel.C09.NamingSim
/-
  C09 — one run against the run over the renamed schema; the NAMES of the symbols are irrelevant to what the
  checker finds and repairs.

  Rename every symbol of a schema by `ρ : Name → Name` (`G.ren ρ`), and file every index bucket under the new name
  (`RenRel ρ n n'`: the same entities buckets, `n'.uniq st (ρ f) = n.uniq st f`, likewise the set indexes).  The run
  reads the database only through what `RenRel` equates, so the two runs take the same branches; what a run does to
  the database is a sequence of four kinds of writes (an index bucket replaced, a list or a value at a symbol's path
  rewritten), made only in fix mode.  Hence `simr_stores`: EVERY relation `R` below `RenRel ρ` that those writes keep
  (`RenInv`) holds again after the two runs, and the reports agree up to the label.  Instances:

  * `R = RenRel ρ`, `ρ` injective: the run over the renamed schema produces the same reports with the labels renamed,
    the same entities buckets — the same keys read, the same keys written — and the same index buckets under their new
    names (`simr_checkAll`).  The names enter only where `indexer.getIndexPath` and the report texts use
    `symbol.GetName()`; every entity access is by the symbol's store and path.
  * `ρ = id`, "both are the database the run started from": a check-only run returns it (C09/NamingSpec.lean,
    `checkStoresN_false`); "the first is framed by the start, the second equals it": a run writes entity buckets only
    at declared paths (`checkStoresN_frame`).
-/
namespace StorageModel.C09

def NSym.ren (ρ : Name → Name) (y : NSym) : NSym := { y with name := ρ y.name }

def NConstraint.ren (ρ : Name → Name) : NConstraint → NConstraint
  | .unique y n => .unique (y.ren ρ) n
  | .setIdx y => .setIdx (y.ren ρ)
  | .fkIndex y n z => .fkIndex (y.ren ρ) n (z.ren ρ)
  | .fkCons y n linked => .fkCons (y.ren ρ) n linked
  | .noop => .noop

def NLinkColl.ren (ρ : Name → Name) (lc : NLinkColl) : NLinkColl := ⟨lc.field.ren ρ, lc.other.ren ρ⟩

def NStoreDef.ren (ρ : Name → Name) (sd : NStoreDef) : NStoreDef :=
  { name := sd.name, links := sd.links.map (NLinkColl.ren ρ), constraints := sd.constraints.map (NConstraint.ren ρ) }

/-- the same schema with every symbol renamed: stores, paths, nullability, declaring stores untouched -/
def NSchema.ren (ρ : Name → Name) (G : NSchema) : NSchema :=
  { stores := G.stores.map (NStoreDef.ren ρ), etype := G.etype }

def Report.ren (ρ : Name → Name) (r : Report) : Report := { r with field := ρ r.field }

/-- the same physical database with the index buckets filed under the new names -/
structure RenRel (ρ : Name → Name) (n n' : NSt) : Prop where
  ents : n'.ents = n.ents
  uniq : ∀ st f, n'.uniq st (ρ f) = n.uniq st f
  setx : ∀ st f, n'.setx st (ρ f) = n.setx st f

/-- `R` relates a database to one with re-filed indexes, and the writes of a run (in fix mode, at the symbols `Y`)
    keep it -/
structure RenInv (L : Layering) (ρ : Name → Name) (fix : Bool) (Y : NSym → Prop) (R : NSt → NSt → Prop) : Prop where
  ren : ∀ {n n'}, R n n' → RenRel ρ n n'
  setUniq : fix = true → ∀ {n n'}, R n n' → ∀ st f b, R (n.setUniq st f b) (n'.setUniq st (ρ f) b)
  setSetx : fix = true → ∀ {n n'}, R n n' → ∀ st f b, R (n.setSetx st f b) (n'.setSetx st (ρ f) b)
  setSetAt : fix = true → ∀ {n n'}, R n n' → ∀ y, Y y → ∀ id (h : List Bytes → List Bytes),
    R (n.modEnt L y.store id fun e => e.setSet y.path (h (e.sets y.path)))
      (n'.modEnt L y.store id fun e => e.setSet y.path (h (e.sets y.path)))
  putNil : fix = true → ∀ {n n'}, R n n' → ∀ y, Y y → ∀ id, R (n.putNilAtPath L y id) (n'.putNilAtPath L y id)

/-- `a'` (renamed schema, re-filed indexes) does what `a` does, as far as `R` sees -/
def SimR (ρ : Name → Name) (R : NSt → NSt → Prop) (a a' : NProc) : Prop :=
  ∀ n n' : NSt, R n n' → R (a n).1 (a' n').1 ∧ (a' n').2 = (a n).2.map (Report.ren ρ)

variable {ρ : Name → Name} {L : Layering}
variable {R : NSt → NSt → Prop} {Y : NSym → Prop}

theorem simr_skip : SimR ρ R NProc.skip NProc.skip := fun _ _ h => ⟨h, rfl⟩

theorem simr_seq {a1 a2 b1 b2 : NProc} (h1 : SimR ρ R a1 b1) (h2 : SimR ρ R a2 b2) : SimR ρ R (a1.seq a2) (b1.seq b2) := by
  intro n n' h
  obtain ⟨r1, e1⟩ := h1 n n' h
  obtain ⟨r2, e2⟩ := h2 _ _ r1
  refine ⟨r2, ?_⟩
  show (b1 n').2 ++ (b2 (b1 n').1).2 = ((a1 n).2 ++ (a2 (a1 n).1).2).map (Report.ren ρ)
  rw [e1, e2, List.map_append]

theorem simr_seqAll {α : Type} (fa fb : α → NProc) (l : List α) (h : ∀ x ∈ l, SimR ρ R (fa x) (fb x)) :
    SimR ρ R (seqAllN (l.map fa)) (seqAllN (l.map fb)) := by
  induction l with
  | nil => exact simr_skip
  | cons x t ih => exact simr_seq (h x (List.mem_cons_self ..)) (ih fun y hy => h y (List.mem_cons_of_mem _ hy))

theorem simr_steps {α : Type} (sa sb : NSt → α → NSt × List Report) (h : ∀ x, SimR ρ R (fun n => sa n x) (fun n => sb n x))
    (l : List α) : SimR ρ R (runStepsN sa l) (runStepsN sb l) := by
  induction l with
  | nil => exact simr_skip
  | cons x t ih => exact simr_seq (h x) ih

theorem simr_loop {α : Type} (sa sb : NSt → α → NSt × List Report) (la lb : NSt → List α)
    (hl : ∀ n n', R n n' → lb n' = la n) (h : ∀ x, SimR ρ R (fun n => sa n x) (fun n => sb n x)) :
    SimR ρ R (fun n => runStepsN sa (la n) n) (fun n => runStepsN sb (lb n) n) := by
  intro n n' hr
  have := simr_steps sa sb h (la n) n n' hr
  show R (runStepsN sa (la n) n).1 (runStepsN sb (lb n') n').1 ∧ (runStepsN sb (lb n') n').2 = _
  rw [hl n n' hr]
  exact this

theorem simr_mk {m m' : NSt} {rs rs' : List Report} (h : R m m') (hr : rs' = rs.map (Report.ren ρ)) :
    R ((m, rs) : NSt × List Report).1 ((m', rs') : NSt × List Report).1 ∧
      ((m', rs') : NSt × List Report).2 = ((m, rs) : NSt × List Report).2.map (Report.ren ρ) := ⟨h, hr⟩

theorem rel_ite {n n' m m' : NSt} (c : Bool) (h : R n n') (hm : c = true → R m m') :
    R (if c then m else n) (if c then m' else n') := by
  cases c
  · exact h
  · exact hm rfl

theorem simr_branch {c : Prop} [Decidable c] {a b a' b' : NSt × List Report}
    (ha : R a.1 a'.1 ∧ a'.2 = a.2.map (Report.ren ρ)) (hb : R b.1 b'.1 ∧ b'.2 = b.2.map (Report.ren ρ)) :
    R (if c then a else b).1 (if c then a' else b').1 ∧
      (if c then a' else b').2 = (if c then a else b).2.map (Report.ren ρ) := by
  split <;> assumption

theorem RenRel.entityBucket {n n' : NSt} (h : RenRel ρ n n') (st : Name) (id : Id) :
    n'.entityBucket L st id = n.entityBucket L st id := by
  unfold NSt.entityBucket; rw [h.ents]

theorem RenRel.present {n n' : NSt} (h : RenRel ρ n n') (st : Name) (id : Id) : n'.present L st id = n.present L st id := by
  unfold NSt.present; rw [h.entityBucket]

namespace RenRel

theorem presentR {n n' : NSt} (h : RenRel ρ n n') (y : NSym) (id : Id) :
    n'.present L (y.ren ρ).store id = n.present L y.store id := h.present y.store id

theorem presentF {n n' : NSt} (h : RenRel ρ n n') (st : Name) : n'.present L st = n.present L st := by
  funext id; exact h.present st id

theorem ids {n n' : NSt} (h : RenRel ρ n n') (st : Name) : n'.ids L st = n.ids L st := by
  have hi : n'.iterateIds L st = n.iterateIds L st := by
    unfold NSt.iterateIds NSt.bucket
    rw [h.ents, h.presentF]
  unfold NSt.ids
  rw [hi, h.presentF]

theorem evalT {n n' : NSt} (h : RenRel ρ n n') (y : NSym) (id : Id) : n'.evalT L (y.ren ρ) id = n.evalT L y id := by
  unfold NSt.evalT NSym.ren; simp only; rw [h.entityBucket]

theorem evalB {n n' : NSt} (h : RenRel ρ n n') (y : NSym) (id : Id) : n'.evalB L (y.ren ρ) id = n.evalB L y id := by
  unfold NSt.evalB; rw [h.evalT]

theorem setOf {n n' : NSt} (h : RenRel ρ n n') (y : NSym) (id : Id) : n'.setOf L (y.ren ρ) id = n.setOf L y id := by
  unfold NSt.setOf NSym.ren; simp only; rw [h.entityBucket]

theorem hasVal {n n' : NSt} (h : RenRel ρ n n') (y : NSym) (id : Id) (k : Bytes) :
    n'.hasVal L (y.ren ρ) id k = n.hasVal L y id k := by unfold NSt.hasVal; rw [h.setOf]

theorem hasBack {n n' : NSt} (h : RenRel ρ n n') (z : NSym) (t id : Id) :
    n'.hasBack L (z.ren ρ) t id = n.hasBack L z t id := by unfold NSt.hasBack; rw [h.setOf]

theorem uniqOf {n n' : NSt} (h : RenRel ρ n n') (y : NSym) :
    n'.uniq (y.ren ρ).store (y.ren ρ).name = n.uniq y.store y.name := h.uniq y.store y.name

theorem setxOf {n n' : NSt} (h : RenRel ρ n n') (y : NSym) :
    n'.setx (y.ren ρ).store (y.ren ρ).name = n.setx y.store y.name := h.setx y.store y.name

end RenRel

variable {fix : Bool}

theorem simr_scan (W : RenInv L ρ fix Y R) (sa sb : NSt → Id → NSt × List Report) (y : NSym)
    (h : ∀ x, SimR ρ R (fun n => sa n x) (fun n => sb n x)) :
    SimR ρ R (fun n => runStepsN sa (n.ids L y.store) n) (fun n => runStepsN sb (n.ids L (y.ren ρ).store) n) :=
  simr_loop sa sb _ _ (fun _ _ h => (W.ren h).ids y.store) h

namespace RenInv

theorem delIdx (W : RenInv L ρ fix Y R) (hf : fix = true) {n n' : NSt} (h : R n n') (y : NSym) (key : Bytes) (id : Id) :
    R (n.delIdx y key id) (n'.delIdx (y.ren ρ) key id) := by
  unfold NSt.delIdx
  rw [(W.ren h).setxOf]
  cases get key (n.setx y.store y.name) with
  | none => exact h
  | some v =>
    cases v with
    | junk => exact h
    | ids l => exact W.setSetx hf h _ _ _

theorem addIdx (W : RenInv L ρ fix Y R) (hf : fix = true) {n n' : NSt} (h : R n n') (y : NSym) (val : Bytes) (id : Id) :
    R (n.addIdx y val id) (n'.addIdx (y.ren ρ) val id) := by
  unfold NSt.addIdx
  rw [(W.ren h).setxOf]
  cases get val (n.setx y.store y.name) with
  | none => exact W.setSetx hf h _ _ _
  | some v =>
    cases v with
    | junk => exact W.setSetx hf h _ _ _
    | ids l => exact W.setSetx hf h _ _ _

end RenInv

theorem simr_uqStep1 (W : RenInv L ρ fix Y R) (y : NSym) (kv : Bytes × Id) :
    SimR ρ R (fun n => uqStep1N L y fix n kv) (fun n => uqStep1N L (y.ren ρ) fix n kv) := by
  intro n n' h
  dsimp only
  unfold uqStep1N
  rw [(W.ren h).evalB, (W.ren h).uniqOf, (W.ren h).presentR]
  have hw := rel_ite fix h fun hf => W.setUniq hf h y.store y.name (del kv.1 (n.uniq y.store y.name))
  exact simr_branch (simr_mk hw rfl) (simr_branch (simr_mk h rfl) (simr_mk hw rfl))

theorem simr_uqStep2 (W : RenInv L ρ fix Y R) (y : NSym) (nl : Bool) (id : Id) :
    SimR ρ R (fun n => uqStep2N L y nl fix n id) (fun n => uqStep2N L (y.ren ρ) nl fix n id) := by
  intro n n' h
  dsimp only
  unfold uqStep2N
  rw [(W.ren h).evalT]
  cases n.evalT L y id with
  | nil => exact simr_mk h (by cases nl <;> rfl)
  | str fv =>
    refine simr_branch (simr_mk h (by cases nl <;> rfl)) ?_
    rw [show readUN n' (y.ren ρ) fv = readUN n y fv by unfold readUN; rw [(W.ren h).uniqOf]]
    cases readUN n y fv with
    | none =>
      refine simr_mk (rel_ite fix h fun hf => ?_) rfl
      unfold uqRepairN
      rw [(W.ren h).uniqOf]
      split
      · exact h
      · exact W.setUniq hf h _ _ _
    | some idx => exact simr_branch (simr_mk h rfl) (simr_mk h rfl)

theorem simr_sxInner (W : RenInv L ρ fix Y R) (y : NSym) (key : Bytes) (id : Id) :
    SimR ρ R (fun n => sxInnerN L y fix key n id) (fun n => sxInnerN L (y.ren ρ) fix key n id) := by
  intro n n' h
  dsimp only
  unfold sxInnerN
  rw [(W.ren h).hasVal, (W.ren h).presentR]
  have hw := rel_ite fix h fun hf => W.delIdx hf h y key id
  exact simr_branch (simr_mk hw rfl) (simr_branch (simr_mk hw rfl) (simr_mk h rfl))

theorem simr_sxStep1 (W : RenInv L ρ fix Y R) (y : NSym) (kv : Bytes × SVal) :
    SimR ρ R (fun n => sxStep1N L y fix n kv) (fun n => sxStep1N L (y.ren ρ) fix n kv) := by
  intro n n' h
  show R (sxStep1N L y fix n kv).1 (sxStep1N L (y.ren ρ) fix n' kv).1 ∧
    (sxStep1N L (y.ren ρ) fix n' kv).2 = (sxStep1N L y fix n kv).2.map (Report.ren ρ)
  unfold sxStep1N
  cases hv : kv.2 with
  | junk =>
    dsimp only
    rw [(W.ren h).setxOf]
    exact simr_mk (rel_ite fix h fun hf => W.setSetx hf h _ _ _) rfl
  | ids l =>
    dsimp only
    obtain ⟨r1, e1⟩ := simr_steps (ρ := ρ) _ _ (simr_sxInner W y kv.1) l n n' h
    refine ⟨r1, ?_⟩
    rw [e1, List.map_append]
    congr 1
    cases l <;> rfl

theorem sxKeptR {n n' : NSt} (h : RenRel ρ n n') (y : NSym) (fix : Bool) (key : Bytes) (l : List Id) :
    sxKeptN L (y.ren ρ) fix key n' l = sxKeptN L y fix key n l := by
  unfold sxKeptN
  simp only [h.hasVal, h.presentR]

theorem sxToDeleteR {n n' : NSt} (h : RenRel ρ n n') (y : NSym) (fix : Bool) (l : List (Bytes × SVal)) :
    sxToDeleteN L (y.ren ρ) fix n' l = sxToDeleteN L y fix n l := by
  induction l with
  | nil => rfl
  | cons kv t ih =>
    unfold sxToDeleteN
    cases hv : kv.2 with
    | junk => exact ih
    | ids l' =>
      show (if _ then _ else _) = (if _ then _ else _)
      rw [sxKeptR h, ih]

/-- the deletion of the emptied keys stands under no `if fix`; that there is a key to delete says as much -/
theorem sxToDeleteN_fix (y : NSym) (n : NSt) (l : List (Bytes × SVal)) (k : Bytes) (hk : k ∈ sxToDeleteN L y fix n l) :
    fix = true := by
  induction l with
  | nil => cases hk
  | cons kv t ih =>
    unfold sxToDeleteN at hk
    split at hk
    · exact ih hk
    · split at hk
      · next hc => exact hc.1
      · exact ih hk

theorem simr_sxDeleteKeys (W : RenInv L ρ fix Y R) (y : NSym) (keys : List Bytes) (hk : ∀ k ∈ keys, fix = true)
    (n n' : NSt) (h : R n n') : R (sxDeleteKeysN y keys n) (sxDeleteKeysN (y.ren ρ) keys n') := by
  induction keys generalizing n n' with
  | nil => exact h
  | cons k t ih =>
    unfold sxDeleteKeysN
    simp only [List.foldl_cons]
    rw [(W.ren h).setxOf]
    exact ih (fun k' hk' => hk k' (List.mem_cons_of_mem _ hk')) _ _ (W.setSetx (hk k (List.mem_cons_self ..)) h _ _ _)

theorem simr_sxStep2Val (W : RenInv L ρ fix Y R) (y : NSym) (id : Id) (val : Bytes) :
    SimR ρ R (fun n => sxStep2ValN y fix id n val) (fun n => sxStep2ValN (y.ren ρ) fix id n val) := by
  intro n n' h
  dsimp only
  unfold sxStep2ValN
  rw [show n'.inIdx (y.ren ρ) val id = n.inIdx y val id by unfold NSt.inIdx; rw [(W.ren h).setxOf]]
  exact simr_branch (simr_mk h rfl) (simr_mk (rel_ite fix h fun hf => W.addIdx hf h _ _ _) rfl)

theorem simr_fkInner1 (W : RenInv L ρ fix Y R) (y : NSym) {z : NSym} (hz : Y z) (id fkId : Id) :
    SimR ρ R (fun n => fkInner1N L y z fix id n fkId) (fun n => fkInner1N L (y.ren ρ) (z.ren ρ) fix id n fkId) := by
  intro n n' h
  dsimp only
  unfold fkInner1N
  rw [(W.ren h).evalB, (W.ren h).presentR]
  have hw := rel_ite fix h fun hf => W.setSetAt hf h z hz id (sdel fkId)
  exact simr_branch (simr_mk hw rfl) (simr_branch (simr_mk hw rfl) (simr_mk h rfl))

theorem simr_fkDangling (W : RenInv L ρ fix Y R) {y : NSym} (hy : Y y) (nl : Bool) (id key : Id) :
    SimR ρ R (fun n => fkDanglingStepN L y nl fix n id key) (fun n => fkDanglingStepN L (y.ren ρ) nl fix n id key) := by
  intro n n' h
  refine simr_mk (rel_ite _ h fun hc => W.putNil ?_ h y hy id) rfl
  cases fix
  · simp at hc
  · rfl

theorem simr_fkStep2 (W : RenInv L ρ fix Y R) {y z : NSym} (hy : Y y) (hz : Y z) (nl : Bool) (id : Id) :
    SimR ρ R (fun n => fkStep2N L y nl z fix n id) (fun n => fkStep2N L (y.ren ρ) nl (z.ren ρ) fix n id) := by
  intro n n' h
  dsimp only
  unfold fkStep2N
  rw [(W.ren h).evalB, (W.ren h).hasBack, (W.ren h).presentR]
  exact simr_branch (simr_mk h (by cases nl <;> rfl)) (simr_branch (simr_fkDangling W hy nl id _ n n' h)
    (simr_branch (simr_mk h rfl) (simr_mk (rel_ite fix h fun hf => W.setSetAt hf h z hz _ _) rfl)))

theorem simr_fcStep (W : RenInv L ρ fix Y R) {y : NSym} (hy : Y y) (nl : Bool) (linked : Name) (id : Id) :
    SimR ρ R (fun n => fcStepN L y nl linked fix n id) (fun n => fcStepN L (y.ren ρ) nl linked fix n id) := by
  intro n n' h
  dsimp only
  unfold fcStepN
  rw [(W.ren h).evalB, (W.ren h).present]
  exact simr_branch (simr_mk h (by cases nl <;> rfl)) (simr_branch (simr_fkDangling W hy nl id _ n n' h) (simr_mk h rfl))

theorem simr_constraint (W : RenInv L ρ fix Y R) (c : NConstraint) (hc : ∀ y ∈ c.syms, Y y) :
    SimR ρ R (c.check L fix) ((c.ren ρ).check L fix) := by
  cases c with
  | unique y nl =>
    show SimR ρ R (uniqueCheckN L y nl fix) (uniqueCheckN L (y.ren ρ) nl fix)
    unfold uniqueCheckN
    apply simr_seq
    · exact simr_loop _ _ (fun n => n.uniq y.store y.name) (fun n => n.uniq (y.ren ρ).store (y.ren ρ).name)
        (fun n n' h => (W.ren h).uniqOf y) (simr_uqStep1 W y)
    · exact simr_scan W _ _ y (simr_uqStep2 W y nl)
  | setIdx y =>
    show SimR ρ R (setCheckN L y fix) (setCheckN L (y.ren ρ) fix)
    unfold setCheckN
    apply simr_seq
    · intro n n' h
      obtain ⟨r1, e1⟩ := simr_steps (ρ := ρ) _ _ (simr_sxStep1 W y) (n.setx y.store y.name) n n' h
      refine ⟨?_, ?_⟩
      · show R (sxDeleteKeysN y _ _) (sxDeleteKeysN (y.ren ρ) _ _)
        rw [(W.ren h).setxOf, sxToDeleteR (W.ren h)]
        exact simr_sxDeleteKeys W y _ (sxToDeleteN_fix y n _) _ _ r1
      · show (runStepsN (sxStep1N L (y.ren ρ) fix) (n'.setx (y.ren ρ).store (y.ren ρ).name) n').2 = _
        rw [(W.ren h).setxOf]
        exact e1
    · exact simr_scan W _ _ y fun id => simr_loop _ _ (fun n => n.setOf L y id) (fun n => n.setOf L (y.ren ρ) id)
        (fun n n' h => (W.ren h).setOf y id) (simr_sxStep2Val W y id)
  | fkIndex y nl z =>
    have hy : Y y := hc y (by simp [NConstraint.syms])
    have hz : Y z := hc z (by simp [NConstraint.syms])
    show SimR ρ R (fkIndexCheckN L y nl z fix) (fkIndexCheckN L (y.ren ρ) nl (z.ren ρ) fix)
    unfold fkIndexCheckN
    apply simr_seq
    · exact simr_scan W _ _ z fun id => simr_loop _ _ (fun n => n.setOf L z id) (fun n => n.setOf L (z.ren ρ) id)
        (fun n n' h => (W.ren h).setOf z id) (simr_fkInner1 W y hz id)
    · exact simr_scan W _ _ y (simr_fkStep2 W hy hz nl)
  | fkCons y nl linked =>
    show SimR ρ R (fkConsCheckN L y nl linked fix) (fkConsCheckN L (y.ren ρ) nl linked fix)
    unfold fkConsCheckN
    exact simr_scan W _ _ y (simr_fcStep W (hc y (by simp [NConstraint.syms])) nl linked)
  | noop => exact simr_skip

theorem simr_lkRemoveAll (W : RenInv L ρ fix Y R) (hf : fix = true) {y : NSym} (hy : Y y) (id : Id) (D : List Id) (n n' : NSt)
    (h : R n n') : R (lkRemoveAllN L y id D n) (lkRemoveAllN L (y.ren ρ) id D n') := by
  induction D generalizing n n' with
  | nil => exact h
  | cons d t ih =>
    unfold lkRemoveAllN
    simp only [List.foldl_cons]
    exact ih _ _ (W.setSetAt hf h y hy _ _)

theorem simr_lkInner (W : RenInv L ρ fix Y R) (y : NSym) {z : NSym} (hz : Y z) (id linkId : Id) :
    SimR ρ R (fun n => lkInnerN L y z fix id n linkId) (fun n => lkInnerN L (y.ren ρ) (z.ren ρ) fix id n linkId) := by
  intro m m' hm
  dsimp only
  unfold lkInnerN
  rw [(W.ren hm).hasBack, (W.ren hm).presentR]
  exact simr_branch (simr_mk hm rfl)
    (simr_branch (simr_mk (rel_ite fix hm fun hf => W.setSetAt hf hm z hz _ _) rfl) (simr_mk hm rfl))

theorem simr_lkStep (W : RenInv L ρ fix Y R) {y z : NSym} (hy : Y y) (hz : Y z) (id : Id) :
    SimR ρ R (fun n => lkStepN L y z fix n id) (fun n => lkStepN L (y.ren ρ) (z.ren ρ) fix n id) := by
  intro n n' h
  show R (lkStepN L y z fix n id).1 (lkStepN L (y.ren ρ) (z.ren ρ) fix n' id).1 ∧
    (lkStepN L (y.ren ρ) (z.ren ρ) fix n' id).2 = (lkStepN L y z fix n id).2.map (Report.ren ρ)
  unfold lkStepN
  rw [(W.ren h).setOf, (W.ren h).presentF]
  obtain ⟨r1, e1⟩ := simr_steps (ρ := ρ) _ _ (simr_lkInner W y hz id) (n.setOf L y id) n n' h
  exact ⟨rel_ite fix r1 fun hfix => simr_lkRemoveAll W hfix hy id _ _ _ r1, e1⟩

theorem simr_link (W : RenInv L ρ fix Y R) {y z : NSym} (hy : Y y) (hz : Y z) (hasInv : Bool) :
    SimR ρ R (linkCheckN L y z hasInv fix) (linkCheckN L (y.ren ρ) (z.ren ρ) hasInv fix) := by
  unfold linkCheckN
  apply simr_seq
  · intro n n' h
    exact simr_mk h (by cases hasInv <;> rfl)
  · exact simr_scan W _ _ y (simr_lkStep W hy hz)

theorem hasInverse_ren (hρ : Function.Injective ρ) (G : NSchema) (lc : NLinkColl) :
    (G.ren ρ).hasInverse (lc.ren ρ) = G.hasInverse lc := by
  have hb : ∀ a b : Name, (ρ a == ρ b) = (a == b) := by
    intro a b
    by_cases h : a = b
    · subst h; simp
    · have : ρ a ≠ ρ b := fun e => h (hρ e)
      rw [beq_eq_false_iff_ne.2 h, beq_eq_false_iff_ne.2 this]
  show (G.stores.map (NStoreDef.ren ρ)).any _ = G.stores.any _
  rw [List.any_map]
  congr 1
  funext sd
  show (sd.name == lc.other.store && (sd.links.map (NLinkColl.ren ρ)).any _) = _
  rw [List.any_map]
  congr 2
  funext o
  show (ρ lc.field.name == ρ o.other.name && G.etype lc.field.store == G.etype o.other.store &&
    ρ lc.other.name == ρ o.field.name && G.etype lc.other.store == G.etype o.field.store) = _
  rw [hb, hb]

theorem simr_store (hρ : Function.Injective ρ) (W : RenInv L ρ fix Y R) (G : NSchema) (sd : NStoreDef)
    (hsd : ∀ y ∈ sd.syms, Y y) : SimR ρ R (sd.check G L fix) ((sd.ren ρ).check (G.ren ρ) L fix) := by
  unfold NStoreDef.check NStoreDef.ren
  simp only [List.map_map]
  apply simr_seq
  · refine simr_seqAll _ _ _ fun lc hlc => ?_
    have hm : ∀ y ∈ [lc.field, lc.other], Y y := fun y hy =>
      hsd y (List.mem_append_left _ (List.mem_flatMap.2 ⟨lc, hlc, hy⟩))
    show SimR ρ R (linkCheckN L lc.field lc.other (G.hasInverse lc) fix)
      (linkCheckN L (lc.field.ren ρ) (lc.other.ren ρ) ((G.ren ρ).hasInverse (lc.ren ρ)) fix)
    rw [hasInverse_ren hρ]
    exact simr_link W (hm _ (by simp)) (hm _ (by simp)) _
  · exact simr_seqAll _ _ _ fun c hc => simr_constraint W c fun y hy =>
      hsd y (List.mem_append_right _ (List.mem_flatMap.2 ⟨c, hc, hy⟩))

/-- **one run against the run over the renamed schema**: every relation below `RenRel ρ` that the writes keep holds
    again afterwards, and the reports agree up to the label (any sublist / order of the stores, symbols in `Y`) -/
theorem simr_stores (hρ : Function.Injective ρ) (W : RenInv L ρ fix Y R) (G : NSchema) (sds : List NStoreDef)
    (hs : ∀ sd ∈ sds, ∀ y ∈ sd.syms, Y y) :
    SimR ρ R (checkStoresN G L fix sds) (checkStoresN (G.ren ρ) L fix (sds.map (NStoreDef.ren ρ))) := by
  unfold checkStoresN
  rw [List.map_map]
  exact simr_seqAll _ _ _ fun sd hsd => simr_store hρ W G sd (hs sd hsd)

namespace RenRel

theorem setUniq (hρ : Function.Injective ρ) {n n' : NSt} (h : RenRel ρ n n') (st f : Name) (b : List (Bytes × Id)) :
    RenRel ρ (n.setUniq st f b) (n'.setUniq st (ρ f) b) := by
  refine ⟨h.ents, ?_, h.setx⟩
  intro st' f'
  show (if st' = st ∧ ρ f' = ρ f then b else n'.uniq st' (ρ f')) = if st' = st ∧ f' = f then b else n.uniq st' f'
  by_cases hc : st' = st ∧ f' = f
  · rw [if_pos hc, if_pos ⟨hc.1, by rw [hc.2]⟩]
  · rw [if_neg hc, if_neg (fun hc' => hc ⟨hc'.1, hρ hc'.2⟩), h.uniq]

theorem setSetx (hρ : Function.Injective ρ) {n n' : NSt} (h : RenRel ρ n n') (st f : Name) (b : List (Bytes × SVal)) :
    RenRel ρ (n.setSetx st f b) (n'.setSetx st (ρ f) b) := by
  refine ⟨h.ents, h.uniq, ?_⟩
  intro st' f'
  show (if st' = st ∧ ρ f' = ρ f then b else n'.setx st' (ρ f')) = if st' = st ∧ f' = f then b else n.setx st' f'
  by_cases hc : st' = st ∧ f' = f
  · rw [if_pos hc, if_pos ⟨hc.1, by rw [hc.2]⟩]
  · rw [if_neg hc, if_neg (fun hc' => hc ⟨hc'.1, hρ hc'.2⟩), h.setx]

theorem modEnt {n n' : NSt} (h : RenRel ρ n n') (st : Name) (id : Id) (g : NEnt → NEnt) :
    RenRel ρ (n.modEnt L st id g) (n'.modEnt L st id g) := by
  rw [nModEnt_eq, nModEnt_eq, h.ents]
  exact ⟨rfl, h.uniq, h.setx⟩

end RenRel

theorem renInv_renRel (hρ : Function.Injective ρ) (fix : Bool) : RenInv L ρ fix (fun _ => True) (RenRel ρ) :=
  ⟨fun h => h, fun _ _ _ h => h.setUniq hρ, fun _ _ _ h => h.setSetx hρ, fun _ _ _ h _ _ _ _ => h.modEnt _ _ _,
   fun _ _ _ h _ _ _ => h.modEnt _ _ _⟩

/-- **the names are irrelevant**: the run over the renamed schema on the database with re-filed indexes reports
    the same findings under the new labels, and leaves the same entities buckets and the same (re-filed) indexes -/
theorem simr_checkAll (hρ : Function.Injective ρ) (G : NSchema) (fix : Bool) :
    SimR ρ (RenRel ρ) (checkAllN G L fix) (checkAllN (G.ren ρ) L fix) :=
  simr_stores hρ (renInv_renRel hρ fix) G G.stores fun _ _ _ _ => trivial

end StorageModel.C09
