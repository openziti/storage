import StorageModel.C09.SoundComplete
/-
  C09 — the checker in fix mode: what one run establishes (convergence), per constraint kind.
-/
namespace StorageModel.C09

@[simp] theorem setUniq_ents (s : St) (st f : Name) (b : List (Bytes × Id)) : (s.setUniq st f b).ents = s.ents := rfl
@[simp] theorem setUniq_setx (s : St) (st f : Name) (b : List (Bytes × Id)) : (s.setUniq st f b).setx = s.setx := rfl
@[simp] theorem setUniq_uniq_self (s : St) (st f : Name) (b : List (Bytes × Id)) : (s.setUniq st f b).uniq st f = b := by
  simp [St.setUniq]
theorem setUniq_uniq_other (s : St) (st f st' f' : Name) (b : List (Bytes × Id)) (h : ¬(st' = st ∧ f' = f)) :
    (s.setUniq st f b).uniq st' f' = s.uniq st' f' := by
  simp [St.setUniq, h]

@[simp] theorem modEnt_uniq (s : St) (st : Name) (id : Id) (g : Ent → Ent) : (s.modEnt st id g).uniq = s.uniq := rfl
@[simp] theorem modEnt_setx (s : St) (st : Name) (id : Id) (g : Ent → Ent) : (s.modEnt st id g).setx = s.setx := rfl

theorem modEnt_ent (s : St) (st : Name) (id : Id) (g : Ent → Ent) (st' : Name) (id' : Id) :
    (s.modEnt st id g).ent st' id' = if st' = st ∧ id' = id then (s.ent st' id').map g else s.ent st' id' := by
  unfold St.ent St.modEnt
  by_cases h : st' = st
  · subst h
    simp only [if_true, true_and, get_map_entry]
  · simp [h]

theorem modEnt_ids (s : St) (st : Name) (id : Id) (g : Ent → Ent) (st' : Name) :
    (s.modEnt st id g).ids st' = s.ids st' := by
  unfold St.ids St.modEnt
  by_cases h : st' = st
  · subst h
    simp only [if_true, keys_map_entry]
  · simp [h]

theorem modEnt_present (s : St) (st : Name) (id : Id) (g : Ent → Ent) (st' : Name) (id' : Id) :
    (s.modEnt st id g).present st' id' = s.present st' id' := by
  unfold St.present
  rw [modEnt_ent]
  split <;> simp

theorem modEnt_evalT (s : St) (st : Name) (id : Id) (g : Ent → Ent) (st' : Name) (id' : Id) (f' : Name) :
    (s.modEnt st id g).evalT st' id' f' =
      if st' = st ∧ id' = id then (match s.ent st' id' with | some e => (g e).fields f' | none => .nil)
      else s.evalT st' id' f' := by
  unfold St.evalT
  rw [modEnt_ent]
  by_cases h : st' = st ∧ id' = id
  · rw [if_pos h, if_pos h]; cases s.ent st' id' <;> rfl
  · rw [if_neg h, if_neg h]

theorem modEnt_setOf (s : St) (st : Name) (id : Id) (g : Ent → Ent) (st' : Name) (id' : Id) (f' : Name) :
    (s.modEnt st id g).setOf st' id' f' =
      if st' = st ∧ id' = id then (match s.ent st' id' with | some e => (g e).sets f' | none => [])
      else s.setOf st' id' f' := by
  unfold St.setOf
  rw [modEnt_ent]
  by_cases h : st' = st ∧ id' = id
  · rw [if_pos h, if_pos h]; cases s.ent st' id' <;> rfl
  · rw [if_neg h, if_neg h]

theorem setNil_evalT (s : St) (st : Name) (id : Id) (f : Name) (st' : Name) (id' : Id) (f' : Name) :
    (s.modEnt st id fun e => e.setField f .nil).evalT st' id' f' =
      if st' = st ∧ id' = id ∧ f' = f then .nil else s.evalT st' id' f' := by
  rw [modEnt_evalT]
  by_cases h : st' = st ∧ id' = id
  · rw [if_pos h]
    unfold St.evalT
    cases s.ent st' id' with
    | none => simp
    | some e =>
      simp only [Ent.setField]
      by_cases hf : f' = f
      · simp [hf, h]
      · simp [hf]
  · rw [if_neg h, if_neg fun c => h ⟨c.1, c.2.1⟩]

theorem setNil_evalB (s : St) (st : Name) (id : Id) (f : Name) (st' : Name) (id' : Id) (f' : Name) :
    (s.modEnt st id fun e => e.setField f .nil).evalB st' id' f' =
      if st' = st ∧ id' = id ∧ f' = f then [] else s.evalB st' id' f' := by
  unfold St.evalB
  rw [setNil_evalT]
  split <;> rfl

theorem setNil_setOf (s : St) (st : Name) (id : Id) (f : Name) (st' : Name) (id' : Id) (f' : Name) :
    (s.modEnt st id fun e => e.setField f .nil).setOf st' id' f' = s.setOf st' id' f' := by
  rw [modEnt_setOf]
  split
  · unfold St.setOf; cases s.ent st' id' <;> rfl
  · rfl

theorem setSet_evalT (s : St) (st : Name) (id : Id) (f : Name) (g : List Bytes → List Bytes) (st' : Name) (id' : Id)
    (f' : Name) : (s.modEnt st id fun e => e.setSet f (g (e.sets f))).evalT st' id' f' = s.evalT st' id' f' := by
  rw [modEnt_evalT]
  split
  · unfold St.evalT; cases s.ent st' id' <;> rfl
  · rfl

theorem setSet_setOf (s : St) (st : Name) (id : Id) (f : Name) (g : List Bytes → List Bytes) (st' : Name) (id' : Id)
    (f' : Name) :
    (s.modEnt st id fun e => e.setSet f (g (e.sets f))).setOf st' id' f' =
      if st' = st ∧ id' = id ∧ f' = f ∧ s.present st' id' = true then g (s.setOf st' id' f') else s.setOf st' id' f' := by
  rw [modEnt_setOf]
  unfold St.setOf St.present
  by_cases h : st' = st ∧ id' = id
  · rw [if_pos h]
    cases he : s.ent st' id' with
    | none => simp
    | some e =>
      simp only [Ent.setSet, Option.isSome_some, and_true]
      by_cases hf : f' = f
      · simp [hf, h]
      · simp [hf]
  · rw [if_neg h, if_neg fun c => h ⟨c.1, c.2.1⟩]

inductive Loc
  | uniq (st f : Name)
  | setx (st f : Name)
  | field (st f : Name)
  | set (st f : Name)
  deriving DecidableEq, Repr

/-- `s'` agrees with `s` everywhere outside the locations `W`; entity ids never change -/
structure Frame (W : List Loc) (s s' : St) : Prop where
  ids : ∀ st, s'.ids st = s.ids st
  present : ∀ st id, s'.present st id = s.present st id
  uniq : ∀ st f, Loc.uniq st f ∉ W → s'.uniq st f = s.uniq st f
  setx : ∀ st f, Loc.setx st f ∉ W → s'.setx st f = s.setx st f
  evalT : ∀ st f, Loc.field st f ∉ W → ∀ id, s'.evalT st id f = s.evalT st id f
  setOf : ∀ st f, Loc.set st f ∉ W → ∀ id, s'.setOf st id f = s.setOf st id f

theorem Frame.refl (W : List Loc) (s : St) : Frame W s s :=
  ⟨fun _ => rfl, fun _ _ => rfl, fun _ _ _ => rfl, fun _ _ _ => rfl, fun _ _ _ _ => rfl, fun _ _ _ _ => rfl⟩

theorem Frame.trans {W : List Loc} {a b c : St} (h1 : Frame W a b) (h2 : Frame W b c) : Frame W a c :=
  ⟨fun st => (h2.ids st).trans (h1.ids st), fun st id => (h2.present st id).trans (h1.present st id),
   fun st f h => (h2.uniq st f h).trans (h1.uniq st f h), fun st f h => (h2.setx st f h).trans (h1.setx st f h),
   fun st f h id => (h2.evalT st f h id).trans (h1.evalT st f h id),
   fun st f h id => (h2.setOf st f h id).trans (h1.setOf st f h id)⟩

theorem Frame.mono {W W' : List Loc} {a b : St} (h : Frame W a b) (hs : ∀ l ∈ W, l ∈ W') : Frame W' a b :=
  ⟨h.ids, h.present, fun st f hn => h.uniq st f fun hm => hn (hs _ hm), fun st f hn => h.setx st f fun hm => hn (hs _ hm),
   fun st f hn => h.evalT st f fun hm => hn (hs _ hm), fun st f hn => h.setOf st f fun hm => hn (hs _ hm)⟩

theorem Frame.evalB {W : List Loc} {a b : St} (h : Frame W a b) {st f : Name} (hn : Loc.field st f ∉ W) (id : Id) :
    b.evalB st id f = a.evalB st id f := by
  unfold St.evalB; rw [h.evalT st f hn]

theorem uqValid_frame {W : List Loc} {s s' : St} (h : Frame W s s') {st f : Name} (hn : Loc.field st f ∉ W)
    (kv : Bytes × Id) : UqValid s' st f kv ↔ UqValid s st f kv := by
  unfold UqValid; rw [h.present, h.evalB hn]

theorem sxValid_frame {W : List Loc} {s s' : St} (h : Frame W s s') {st f : Name} (hn : Loc.set st f ∉ W)
    (key : Bytes) (id : Id) : SxValid s' st f key id ↔ SxValid s st f key id := by
  unfold SxValid St.hasVal; rw [h.present, h.setOf st f hn]

theorem frame_setUniq (s : St) (st f : Name) (b : List (Bytes × Id)) : Frame [.uniq st f] s (s.setUniq st f b) :=
  ⟨fun _ => rfl, fun _ _ => rfl,
   fun st' f' hn => setUniq_uniq_other s st f st' f' b (fun ⟨a, c⟩ => hn (by rw [a, c]; exact List.mem_singleton.2 rfl)),
   fun _ _ _ => rfl, fun _ _ _ _ => rfl, fun _ _ _ _ => rfl⟩

theorem frame_setNil (s : St) (st : Name) (id : Id) (f : Name) :
    Frame [.field st f] s (s.modEnt st id fun e => e.setField f .nil) :=
  ⟨modEnt_ids s st id _, modEnt_present s st id _, fun _ _ _ => rfl, fun _ _ _ => rfl,
   fun st' f' hn id' => by
     rw [setNil_evalT]
     split
     · next h => exact absurd (by rw [h.1, h.2.2]; exact List.mem_singleton.2 rfl) hn
     · rfl,
   fun st' f' _ id' => setNil_setOf s st id f st' id' f'⟩

theorem frame_setSet (s : St) (st : Name) (id : Id) (f : Name) (g : List Bytes → List Bytes) :
    Frame [.set st f] s (s.modEnt st id fun e => e.setSet f (g (e.sets f))) :=
  ⟨modEnt_ids s st id _, modEnt_present s st id _, fun _ _ _ => rfl, fun _ _ _ => rfl,
   fun st' f' _ id' => setSet_evalT s st id f g st' id' f',
   fun st' f' hn id' => by
     rw [setSet_setOf]
     split
     · next h => exact absurd (by rw [h.1, h.2.2.1]; exact List.mem_singleton.2 rfl) hn
     · rfl⟩

theorem forall_setOf_ids {s : St} {st f : Name} {P : Id → Bytes → Prop} :
    (∀ a ∈ s.ids st, ∀ b ∈ s.setOf st a f, P a b) ↔ ∀ a b, b ∈ s.setOf st a f → P a b :=
  ⟨fun h a b hb => h a (mem_ids.2 (present_iff.1 (present_of_setOf hb))) b hb, fun h a _ b hb => h a b hb⟩

theorem setOf_absent {s : St} {st : Name} {id : Id} (h : s.present st id = false) (f : Name) : s.setOf st id f = [] := by
  unfold St.present at h
  unfold St.setOf
  cases he : s.ent st id with
  | none => rfl
  | some e => rw [he] at h; cases h

theorem delFromSet_setOf (s : St) (st : Name) (id : Id) (f : Name) (x : Bytes) (st' : Name) (id' : Id) (f' : Name) :
    (s.delFromSet st id f x).setOf st' id' f' =
      if st' = st ∧ id' = id ∧ f' = f then sdel x (s.setOf st' id' f') else s.setOf st' id' f' := by
  unfold St.delFromSet
  rw [setSet_setOf]
  by_cases h : st' = st ∧ id' = id ∧ f' = f
  · rw [if_pos h]
    by_cases hp : s.present st' id' = true
    · rw [if_pos ⟨h.1, h.2.1, h.2.2, hp⟩]
    · have hp' : s.present st' id' = false := by simpa using hp
      rw [if_neg (fun c => hp c.2.2.2), setOf_absent hp']; rfl
  · rw [if_neg h, if_neg (fun c => h ⟨c.1, c.2.1, c.2.2.1⟩)]

theorem addToSet_setOf (s : St) (st : Name) (id : Id) (f : Name) (x : Bytes) (st' : Name) (id' : Id) (f' : Name) :
    (s.addToSet st id f x).setOf st' id' f' =
      if st' = st ∧ id' = id ∧ f' = f ∧ s.present st' id' = true then sins x (s.setOf st' id' f')
      else s.setOf st' id' f' := by
  unfold St.addToSet
  rw [setSet_setOf]

theorem addToSet_evalB (s : St) (st : Name) (id : Id) (f : Name) (x : Bytes) (st' : Name) (id' : Id) (f' : Name) :
    (s.addToSet st id f x).evalB st' id' f' = s.evalB st' id' f' := by
  unfold St.evalB St.addToSet
  rw [setSet_evalT s st id f (sins x)]

theorem addToSet_present (s : St) (st : Name) (id : Id) (f : Name) (x : Bytes) (st' : Name) (id' : Id) :
    (s.addToSet st id f x).present st' id' = s.present st' id' := modEnt_present s st id _ st' id'

theorem delFromSet_present (s : St) (st : Name) (id : Id) (f : Name) (x : Bytes) (st' : Name) (id' : Id) :
    (s.delFromSet st id f x).present st' id' = s.present st' id' := modEnt_present s st id _ st' id'

theorem frame_delFromSet (s : St) (st : Name) (id : Id) (f : Name) (x : Bytes) :
    Frame [.set st f] s (s.delFromSet st id f x) := frame_setSet s st id f (sdel x)

theorem frame_addToSet (s : St) (st : Name) (id : Id) (f : Name) (x : Bytes) :
    Frame [.set st f] s (s.addToSet st id f x) := frame_setSet s st id f (sins x)

/-- a loop over one nested list that deletes from it the elements failing a test `V` that does not read that list -/
theorem prune_loop (S F : Name) (id : Id) (V : St → Bytes → Prop) [∀ s x, Decidable (V s x)]
    (step : St → Bytes → St × List Report)
    (hstep : ∀ s x, (step s x).1 = if V s x then s else s.delFromSet S id F x)
    (hV : ∀ s s', Frame [.set S F] s s' → ∀ x, V s' x ↔ V s x) (s : St) :
    let s' := (runSteps step (s.setOf S id F) s).1
    Frame [.set S F] s s' ∧ (∀ t x, x ∈ s'.setOf S t F → x ∈ s.setOf S t F) ∧ ∀ x ∈ s'.setOf S id F, V s x := by
  intro s'
  have hsub : ∀ y a t x, x ∈ (step y a).1.setOf S t F → x ∈ y.setOf S t F := by
    intro y a t x hx
    rw [hstep] at hx
    split at hx
    · exact hx
    · rw [delFromSet_setOf] at hx
      split at hx
      · exact (mem_sdel.1 hx).1
      · exact hx
  obtain ⟨⟨h1, h2⟩, hQ⟩ := runSteps_establish step
    (fun y => Frame [.set S F] s y ∧ ∀ t x, x ∈ y.setOf S t F → x ∈ s.setOf S t F)
    (fun y x => x ∈ y.setOf S id F → V s x)
    (by
      intro y a ⟨h1, h2⟩
      refine ⟨h1.trans ?_, fun t x hx => h2 t x (hsub y a t x hx)⟩
      rw [hstep]
      split
      · exact Frame.refl _ y
      · exact frame_delFromSet ..)
    (fun y a b _ hq hb => hq (hsub y a id b hb))
    (by
      intro y a ⟨h1, _⟩ ha
      rw [hstep] at ha
      split at ha
      · next hv => exact (hV s y h1 a).1 hv
      · rw [delFromSet_setOf, if_pos ⟨rfl, rfl, rfl⟩] at ha
        exact absurd rfl (mem_sdel.1 ha).2)
    (s.setOf S id F) s ⟨Frame.refl _ s, fun _ _ h => h⟩
  exact ⟨h1, h2, fun x hx => hQ x (h2 id x hx) hx⟩

theorem uqStep1_true_fst (st f : Name) (s : St) (kv : Bytes × Id) :
    (uqStep1 st f true s kv).1 = if UqValid s st f kv then s else s.setUniq st f (del kv.1 (s.uniq st f)) := by
  unfold uqStep1 UqValid
  by_cases hp : s.present st kv.2 = true
  · by_cases hk : kv.1 = s.evalB st kv.2 f
    · simp [hp, hk]
    · simp [hp, hk]
  · simp [hp]

theorem uqPass1_post (st f : Name) (s : St) :
    let s1 := (runSteps (uqStep1 st f true) (s.uniq st f) s).1
    Frame [.uniq st f] s s1 ∧ ∀ kv ∈ s1.uniq st f, UqValid s1 st f kv := by
  intro s1
  have hfield : Loc.field st f ∉ [Loc.uniq st f] := by simp
  let I : St → Prop := fun s' => Frame [.uniq st f] s s' ∧ ∀ kv ∈ s'.uniq st f, kv ∈ s.uniq st f
  have hI : ∀ s' a, I s' → I (uqStep1 st f true s' a).1 := by
    intro s' a ⟨h1, h2⟩
    rw [uqStep1_true_fst]
    split
    · exact ⟨h1, h2⟩
    · refine ⟨h1.trans (frame_setUniq ..), fun kv hkv => ?_⟩
      rw [setUniq_uniq_self] at hkv
      exact h2 kv (mem_del.1 hkv).1
  let Q : St → Bytes × Id → Prop := fun s' kv => kv ∈ s'.uniq st f → UqValid s st f kv
  obtain ⟨⟨h1, h2⟩, hQ⟩ := runSteps_establish (uqStep1 st f true) I Q hI
    (by
      intro s' a b _ hq hb
      apply hq
      rw [uqStep1_true_fst] at hb
      split at hb
      · exact hb
      · rw [setUniq_uniq_self] at hb; exact (mem_del.1 hb).1)
    (by
      intro s' a ⟨h1, _⟩ ha
      rw [uqStep1_true_fst] at ha
      split at ha
      · next hv => exact (uqValid_frame h1 hfield a).1 hv
      · rw [setUniq_uniq_self] at ha
        exact absurd rfl (mem_del.1 ha).2)
    (s.uniq st f) s ⟨Frame.refl _ s, fun _ h => h⟩
  exact ⟨h1, fun kv hkv => (uqValid_frame h1 hfield kv).2 (hQ kv (h2 kv hkv) hkv)⟩

theorem evalT_mem {s : St} {st f : Name} {id : Id} {v : Bytes} (h : s.evalT st id f = .str v) :
    ∃ e, (id, e) ∈ s.ents st ∧ e.fields f = .str v := by
  unfold St.evalT at h
  split at h
  · next e he => exact ⟨e, mem_of_ent he, h⟩
  · cases h

theorem evalB_ne_present {s : St} {st f : Name} {id : Id} (h : s.evalB st id f ≠ []) : s.present st id = true := by
  unfold St.evalB at h
  cases hT : s.evalT st id f with
  | nil => rw [hT] at h; exact absurd rfl h
  | str v => exact let ⟨_, he, _⟩ := evalT_mem hT; present_of_mem he

/-- a non-empty value of entity `id` has an index entry: its own, or another holder's -/
def UqFwdOk (s : St) (st f : Name) (id : Id) : Prop :=
  s.evalB st id f ≠ [] → (get (s.evalB st id f) (s.uniq st f)).isSome = true

instance (s : St) (st f : Name) (id : Id) : Decidable (UqFwdOk s st f id) := by
  unfold UqFwdOk; infer_instance

/-- the index mirrors the entities, except where two of them hold one value -/
def UqGood (s : St) (st f : Name) : Prop :=
  (∀ kv ∈ s.uniq st f, UqValid s st f kv) ∧ ∀ id ∈ s.ids st, UqFwdOk s st f id

theorem uqStep2_true_fst (st f : Name) (n : Bool) (s : St) (id : Id) :
    (uqStep2 st f n true s id).1 =
      if UqFwdOk s st f id then s else s.setUniq st f (put (s.evalB st id f) id (s.uniq st f)) := by
  rw [uqStep2_eq]
  by_cases hv : s.evalB st id f = []
  · rw [if_pos hv, if_pos (show UqFwdOk s st f id from fun h => absurd hv h)]
  · rw [if_neg hv]
    cases hg : get (s.evalB st id f) (s.uniq st f) with
    | none =>
      rw [if_neg (show ¬UqFwdOk s st f id from fun h => by have := h hv; rw [hg] at this; cases this)]
      simp [uqRepair, hv]
    | some x => rw [if_pos (show UqFwdOk s st f id from fun _ => by rw [hg]; rfl)]; exact ite_fst rfl rfl

theorem uqPass2_post (st f : Name) (n : Bool) (s : St) (hv : ∀ kv ∈ s.uniq st f, UqValid s st f kv) :
    let s2 := (runSteps (uqStep2 st f n true) (s.ids st) s).1
    Frame [.uniq st f] s s2 ∧ UqGood s2 st f := by
  intro s2
  have hfield : Loc.field st f ∉ [Loc.uniq st f] := by simp
  have hmono : ∀ s' a, Frame [.uniq st f] s' (uqStep2 st f n true s' a).1 ∧
      ∀ w, (get w (s'.uniq st f)).isSome = true → (get w ((uqStep2 st f n true s' a).1.uniq st f)).isSome = true := by
    intro s' a
    rw [uqStep2_true_fst]
    split
    · exact ⟨Frame.refl _ s', fun _ h => h⟩
    · refine ⟨frame_setUniq .., fun w h => ?_⟩
      rw [setUniq_uniq_self, get_put]
      split
      · rfl
      · exact h
  let I : St → Prop := fun s' => Frame [.uniq st f] s s' ∧ ∀ kv ∈ s'.uniq st f, UqValid s' st f kv
  have hI : ∀ s' a, I s' → I (uqStep2 st f n true s' a).1 := by
    intro s' a ⟨h1, h2⟩
    refine ⟨h1.trans (hmono s' a).1, ?_⟩
    rw [uqStep2_true_fst]
    split
    · exact h2
    · next hno =>
      intro kv hkv
      rw [setUniq_uniq_self] at hkv
      refine (uqValid_frame (frame_setUniq ..) hfield kv).2 ?_
      rcases mem_put_sub hkv with rfl | hkv
      · exact ⟨evalB_ne_present (Decidable.not_imp_iff_and_not.1 hno).1, rfl⟩
      · exact h2 kv hkv
  obtain ⟨⟨h1, h2⟩, hQ⟩ := runSteps_establish (uqStep2 st f n true) I (fun s' id => UqFwdOk s' st f id) hI
    (by
      intro s' a b _ hq hne
      obtain ⟨hf, hm⟩ := hmono s' a
      rw [hf.evalB hfield] at hne ⊢
      exact hm _ (hq hne))
    (by
      intro s' a _
      rw [uqStep2_true_fst]
      split
      · next h => exact h
      · intro _
        show (get (s'.evalB st a f) ((s'.setUniq st f _).uniq st f)).isSome = true
        rw [setUniq_uniq_self, get_put, if_pos rfl]; rfl)
    (s.ids st) s ⟨Frame.refl _ s, hv⟩
  exact ⟨h1, h2, fun id hid => hQ id (h1.ids st ▸ hid)⟩

/-- **unique index, convergence.** After one fix run the index mirrors the entities; what is left are genuine
    conflicts (nil in a non-nullable index, duplicate value). -/
theorem unique_fix_post (st f : Name) (n : Bool) (s : St) :
    let s' := (uniqueCheck st f n true s).1
    Frame [.uniq st f] s s' ∧ UqGood s' st f := by
  intro s'
  obtain ⟨a1, a2⟩ := uqPass1_post st f s
  obtain ⟨b1, b2⟩ := uqPass2_post st f n _ a2
  exact ⟨a1.trans b1, b2⟩

theorem fkDanglingStep_true_fst (st f : Name) (n : Bool) (s : St) (id key : Id) :
    (fkDanglingStep st f n true s id key).1 = if n = true then s.modEnt st id (fun e => e.setField f .nil) else s := by
  unfold fkDanglingStep; cases n <;> simp

/-- a reference of entity `id` to a missing entity is left only in a non-nullable field -/
def FcOk (s : St) (st f : Name) (n : Bool) (linked : Name) (id : Id) : Prop :=
  s.evalB st id f ≠ [] → s.present linked (s.evalB st id f) = false → n = false

instance (s : St) (st f : Name) (n : Bool) (linked : Name) (id : Id) : Decidable (FcOk s st f n linked id) := by
  unfold FcOk; infer_instance

theorem fcStep_true_fst (st f : Name) (n : Bool) (linked : Name) (s : St) (id : Id) :
    (fcStep st f n linked true s id).1 =
      if FcOk s st f n linked id then s else s.modEnt st id (fun e => e.setField f .nil) := by
  unfold fcStep FcOk
  by_cases hB : s.evalB st id f = []
  · simp [hB]
  · by_cases hp : s.present linked (s.evalB st id f) = true
    · simp [hB, hp]
    · cases n <;> simp [hB, hp, fkDanglingStep_true_fst]

theorem fcStep_frame (st f : Name) (n : Bool) (linked : Name) (s : St) (id : Id) :
    Frame [.field st f] s (fcStep st f n linked true s id).1 := by
  rw [fcStep_true_fst]
  split
  · exact Frame.refl _ s
  · exact frame_setNil s st id f

/-- clearing the field of `a` settles `a` and changes no other entity's reference -/
theorem fcOk_setNil (x : St) (st f : Name) (n : Bool) (linked : Name) (a b : Id) (h : b ≠ a → FcOk x st f n linked b) :
    FcOk (x.modEnt st a fun e => e.setField f .nil) st f n linked b := by
  intro h1 h2
  rw [setNil_evalB] at h1 h2
  by_cases hb : st = st ∧ b = a ∧ f = f
  · rw [if_pos hb] at h1; exact absurd rfl h1
  · rw [if_neg hb] at h1 h2
    rw [modEnt_present] at h2
    exact h (fun e => hb ⟨rfl, e, rfl⟩) h1 h2

theorem fkCons_fix_post (st f : Name) (n : Bool) (linked : Name) (s : St) :
    let s' := (fkConsCheck st f n linked true s).1
    Frame [.field st f] s s' ∧ ∀ id ∈ s'.ids st, FcOk s' st f n linked id := by
  intro s'
  obtain ⟨hfr, hQ⟩ := runSteps_establish (fcStep st f n linked true) (fun x => Frame [.field st f] s x)
    (fun x id => FcOk x st f n linked id) (fun x a h => h.trans (fcStep_frame ..))
    (by
      intro x a b _ hq
      show FcOk (fcStep st f n linked true x a).1 st f n linked b
      rw [fcStep_true_fst]
      split
      · exact hq
      · exact fcOk_setNil x st f n linked a b fun _ => hq)
    (by
      intro x a _
      show FcOk (fcStep st f n linked true x a).1 st f n linked a
      rw [fcStep_true_fst]
      split
      · next h => exact h
      · exact fcOk_setNil x st f n linked a a fun e => absurd rfl e)
    (s.ids st) s (Frame.refl _ s)
  exact ⟨hfr, fun id hid => hQ id (hfr.ids st ▸ hid)⟩

theorem fkInner1_true_fst (st f fkSt fkF : Name) (t : Id) (s : St) (x : Id) :
    (fkInner1 st f fkSt fkF true t s x).1 = if FkBackValid s st f t x then s else s.delFromSet fkSt t fkF x := by
  unfold fkInner1 FkBackValid
  by_cases hp : s.present st x = true
  · by_cases h1 : s.evalB st x f = []
    · simp [hp, h1]
    · by_cases h2 : s.evalB st x f = t
      · have h3 : ¬ t = [] := fun h => h1 (h2.trans h)
        simp [hp, h2, h3]
      · simp [hp, h1, h2]
  · simp [hp]

theorem fkBackValid_frame {W : List Loc} {s s' : St} (h : Frame W s s') {st f : Name} (hn : Loc.field st f ∉ W)
    (t x : Id) : FkBackValid s' st f t x ↔ FkBackValid s st f t x := by
  unfold FkBackValid
  rw [h.present, h.evalB hn]

/-- every back-reference mirrors a referrer -/
def AllBackValid (s : St) (st f fkSt fkF : Name) : Prop :=
  ∀ t x, x ∈ s.setOf fkSt t fkF → FkBackValid s st f t x

theorem fkPass1_post (st f fkSt fkF : Name) (s : St) :
    let s1 := (runSteps (fkStep1 st f fkSt fkF true) (s.ids fkSt) s).1
    Frame [.set fkSt fkF] s s1 ∧ AllBackValid s1 st f fkSt fkF := by
  intro s1
  have hfield : Loc.field st f ∉ [Loc.set fkSt fkF] := by simp
  -- one outer step = one prune loop
  have hstep : ∀ s' a,
      Frame [.set fkSt fkF] s' (fkStep1 st f fkSt fkF true s' a).1 ∧
      (∀ t x, x ∈ (fkStep1 st f fkSt fkF true s' a).1.setOf fkSt t fkF → x ∈ s'.setOf fkSt t fkF) ∧
      ∀ x ∈ (fkStep1 st f fkSt fkF true s' a).1.setOf fkSt a fkF, FkBackValid s' st f a x := fun s' a =>
    prune_loop fkSt fkF a (fun s x => FkBackValid s st f a x) _ (fkInner1_true_fst st f fkSt fkF a)
      (fun s s' h x => fkBackValid_frame h hfield a x) s'
  obtain ⟨h1, hQ⟩ := runSteps_establish (fkStep1 st f fkSt fkF true) (fun s' => Frame [.set fkSt fkF] s s')
    (fun s' t => ∀ x ∈ s'.setOf fkSt t fkF, FkBackValid s st f t x)
    (fun s' a h => h.trans (hstep s' a).1)
    (fun s' a b _ hq x hx => hq x ((hstep s' a).2.1 b x hx))
    (fun s' a h1 x hx => (fkBackValid_frame h1 hfield a x).1 ((hstep s' a).2.2 x hx))
    (s.ids fkSt) s (Frame.refl _ s)
  have hall := forall_setOf_ids.1 fun t ht => hQ t (h1.ids fkSt ▸ ht)
  exact ⟨h1, fun t x hx => (fkBackValid_frame h1 hfield t x).2 (hall t x hx)⟩

/-- what the second loop establishes for entity `id` -/
def FkFwdOk (s : St) (st f : Name) (n : Bool) (fkSt fkF : Name) (id : Id) : Prop :=
  s.evalB st id f ≠ [] →
    (s.present fkSt (s.evalB st id f) = true → s.hasBack fkSt (s.evalB st id f) fkF id = true) ∧
    (s.present fkSt (s.evalB st id f) = false → n = false)

/-- back-references and references mirror each other, except for references to missing entities in a
    non-nullable field -/
def FkGood (s : St) (st f : Name) (n : Bool) (fkSt fkF : Name) : Prop :=
  AllBackValid s st f fkSt fkF ∧ ∀ id ∈ s.ids st, FkFwdOk s st f n fkSt fkF id

theorem fkStep2_true_cases (st f : Name) (n : Bool) (fkSt fkF : Name) (s : St) (id : Id) :
    ((fkStep2 st f n fkSt fkF true s id).1 = s ∧ FkFwdOk s st f n fkSt fkF id) ∨
    (s.evalB st id f ≠ [] ∧ s.present fkSt (s.evalB st id f) = false ∧ n = true ∧
      (fkStep2 st f n fkSt fkF true s id).1 = s.modEnt st id fun e => e.setField f .nil) ∨
    (s.evalB st id f ≠ [] ∧ s.present fkSt (s.evalB st id f) = true ∧
      s.hasBack fkSt (s.evalB st id f) fkF id = false ∧
      (fkStep2 st f n fkSt fkF true s id).1 = s.addToSet fkSt (s.evalB st id f) fkF id) := by
  unfold fkStep2
  by_cases hB : s.evalB st id f = []
  · exact Or.inl ⟨by rw [if_pos hB], fun h => absurd hB h⟩
  · rw [if_neg hB]
    cases hp : s.present fkSt (s.evalB st id f) with
    | false =>
      rw [Bool.not_false, if_pos rfl, fkDanglingStep_true_fst]
      cases n with
      | true => exact Or.inr (Or.inl ⟨hB, rfl, rfl, rfl⟩)
      | false => exact Or.inl ⟨rfl, fun _ => ⟨fun h => (by rw [hp] at h; cases h), fun _ => rfl⟩⟩
    | true =>
      rw [Bool.not_true, if_neg Bool.false_ne_true]
      cases hb : s.hasBack fkSt (s.evalB st id f) fkF id with
      | true => exact Or.inl ⟨rfl, fun _ => ⟨fun _ => hb, fun h => by rw [hp] at h; cases h⟩⟩
      | false => exact Or.inr (Or.inr ⟨hB, rfl, rfl, rfl⟩)

theorem fkStep2_frame (st f : Name) (n : Bool) (fkSt fkF : Name) (s : St) (id : Id) :
    Frame [.field st f, .set fkSt fkF] s (fkStep2 st f n fkSt fkF true s id).1 := by
  rcases fkStep2_true_cases st f n fkSt fkF s id with ⟨e, _⟩ | ⟨_, _, _, e⟩ | ⟨_, _, _, e⟩ <;> rw [e]
  · exact Frame.refl _ s
  · exact (frame_setNil s st id f).mono (by simp)
  · exact (frame_addToSet ..).mono (by simp)

theorem fkStep2_allBackValid (st f : Name) (n : Bool) (fkSt fkF : Name) (s : St) (id : Id)
    (h : AllBackValid s st f fkSt fkF) : AllBackValid (fkStep2 st f n fkSt fkF true s id).1 st f fkSt fkF := by
  rcases fkStep2_true_cases st f n fkSt fkF s id with ⟨e, _⟩ | ⟨_, hp, _, e⟩ | ⟨hB, _, _, e⟩ <;> rw [e]
  · exact h
  · -- nulling the field of `id`, whose target does not exist: `id` is nobody's back-reference
    intro t x hx
    rw [setNil_setOf] at hx
    obtain ⟨v1, v2, v3⟩ := h t x hx
    have hne : ¬(st = st ∧ x = id ∧ f = f) := by
      rintro ⟨_, rfl, _⟩
      rw [v3, present_of_setOf hx] at hp
      cases hp
    refine ⟨by rw [modEnt_present]; exact v1, ?_, ?_⟩ <;> rw [setNil_evalB, if_neg hne]
    · exact v2
    · exact v3
  · intro t x hx
    unfold FkBackValid
    rw [addToSet_evalB, addToSet_present]
    rw [addToSet_setOf] at hx
    split at hx
    · next hc =>
      rcases mem_sins.1 hx with rfl | hx
      · exact ⟨evalB_ne_present hB, hB, hc.2.1.symm⟩
      · exact h t x hx
    · exact h t x hx

theorem fkPass2_post (st f : Name) (n : Bool) (fkSt fkF : Name) (s : St) (hv : AllBackValid s st f fkSt fkF) :
    let s2 := (runSteps (fkStep2 st f n fkSt fkF true) (s.ids st) s).1
    Frame [.field st f, .set fkSt fkF] s s2 ∧ FkGood s2 st f n fkSt fkF := by
  intro s2
  let I : St → Prop := fun x => Frame [.field st f, .set fkSt fkF] s x ∧ AllBackValid x st f fkSt fkF
  have hI : ∀ x a, I x → I (fkStep2 st f n fkSt fkF true x a).1 := fun x a ⟨h1, h2⟩ =>
    ⟨h1.trans (fkStep2_frame ..), fkStep2_allBackValid st f n fkSt fkF x a h2⟩
  obtain ⟨⟨h1, h2⟩, hQ⟩ := runSteps_establish (fkStep2 st f n fkSt fkF true) I (fun x id => FkFwdOk x st f n fkSt fkF id) hI
    (by
      intro x a b _ hq
      show FkFwdOk (fkStep2 st f n fkSt fkF true x a).1 st f n fkSt fkF b
      rcases fkStep2_true_cases st f n fkSt fkF x a with ⟨e, _⟩ | ⟨_, _, _, e⟩ | ⟨_, _, _, e⟩ <;> rw [e]
      · exact hq
      · intro h1
        rw [setNil_evalB] at h1 ⊢
        by_cases hc : st = st ∧ b = a ∧ f = f
        · rw [if_pos hc] at h1; exact absurd rfl h1
        · rw [if_neg hc] at h1 ⊢
          unfold St.hasBack
          rw [modEnt_present, setNil_setOf]
          exact hq h1
      · intro h1
        rw [addToSet_evalB] at h1 ⊢
        rw [addToSet_present]
        obtain ⟨q1, q2⟩ := hq h1
        refine ⟨fun hp => ?_, q2⟩
        have := q1 hp
        rw [hasBack_iff] at this ⊢
        rw [addToSet_setOf]
        split
        · exact mem_sins.2 (Or.inr this)
        · exact this)
    (by
      intro x a _
      show FkFwdOk (fkStep2 st f n fkSt fkF true x a).1 st f n fkSt fkF a
      rcases fkStep2_true_cases st f n fkSt fkF x a with ⟨e, h⟩ | ⟨_, _, _, e⟩ | ⟨_, hp, _, e⟩ <;> rw [e]
      · exact h
      · intro h1
        rw [setNil_evalB, if_pos ⟨rfl, rfl, rfl⟩] at h1
        exact absurd rfl h1
      · intro _
        rw [addToSet_evalB, addToSet_present]
        refine ⟨fun _ => ?_, fun h => by rw [hp] at h; cases h⟩
        rw [hasBack_iff, addToSet_setOf, if_pos ⟨rfl, rfl, rfl, hp⟩]
        exact mem_sins.2 (Or.inl rfl))
    (s.ids st) s ⟨Frame.refl _ s, hv⟩
  exact ⟨h1, h2, fun id hid => hQ id (h1.ids st ▸ hid)⟩

theorem fkIndex_fix_post (st f : Name) (n : Bool) (fkSt fkF : Name) (s : St) :
    let s' := (fkIndexCheck st f n fkSt fkF true s).1
    Frame [.field st f, .set fkSt fkF] s s' ∧ FkGood s' st f n fkSt fkF := by
  intro s'
  obtain ⟨a1, a2⟩ := fkPass1_post st f fkSt fkF s
  obtain ⟨b1, b2⟩ := fkPass2_post st f n fkSt fkF _ a2
  exact ⟨(a1.mono (by simp)).trans b1, b2⟩

theorem lkInner_true_fst (st f oSt oF : Name) (id : Id) (s : St) (l : Id) :
    (lkInner st f oSt oF true id s l).1 =
      if s.present oSt l = true ∧ s.hasBack oSt l oF id = false then s.addToSet oSt l oF id else s := by
  unfold lkInner
  by_cases hp : s.present oSt l = true
  · by_cases hb : s.hasBack oSt l oF id = true
    · simp [hp, hb]
    · simp [hp, hb]
  · simp [hp]

theorem lkInner_frame (st f oSt oF : Name) (id : Id) (s : St) (l : Id) :
    Frame [.set oSt oF] s (lkInner st f oSt oF true id s l).1 := by
  rw [lkInner_true_fst]
  split
  · exact frame_addToSet ..
  · exact Frame.refl _ s

/-- link `a → b` is backed by an existing `b` that links back -/
def LinkOk (s : St) (st f oSt oF : Name) (a b : Id) : Prop :=
  b ∈ s.setOf st a f → s.present oSt b = true ∧ s.hasBack oSt b oF a = true

/-- what every step of a link check does: own lists shrink, the other side's lists grow -/
structure LinkMono (st f oSt oF : Name) (x x' : St) : Prop where
  frame : Frame [.set st f, .set oSt oF] x x'
  shrink : ∀ a b, b ∈ x'.setOf st a f → b ∈ x.setOf st a f
  grow : ∀ b a, a ∈ x.setOf oSt b oF → a ∈ x'.setOf oSt b oF

theorem LinkMono.refl (st f oSt oF : Name) (x : St) : LinkMono st f oSt oF x x :=
  ⟨Frame.refl _ x, fun _ _ h => h, fun _ _ h => h⟩

theorem LinkMono.trans {st f oSt oF : Name} {a b c : St} (h1 : LinkMono st f oSt oF a b) (h2 : LinkMono st f oSt oF b c) :
    LinkMono st f oSt oF a c :=
  ⟨h1.frame.trans h2.frame, fun x y h => h1.shrink x y (h2.shrink x y h), fun x y h => h2.grow x y (h1.grow x y h)⟩

theorem LinkOk.mono {st f oSt oF : Name} {x x' : St} (hm : LinkMono st f oSt oF x x') {a b : Id}
    (h : LinkOk x st f oSt oF a b) : LinkOk x' st f oSt oF a b := by
  intro hb
  obtain ⟨h1, h2⟩ := h (hm.shrink a b hb)
  exact ⟨by rw [hm.frame.present]; exact h1, hasBack_iff.2 (hm.grow b a (hasBack_iff.1 h2))⟩

theorem linkMono_del (st f oSt oF : Name) (hd : ¬(st = oSt ∧ f = oF)) (id : Id) (s : St) (l : Id) :
    LinkMono st f oSt oF s (s.delFromSet st id f l) := by
  refine ⟨(frame_delFromSet ..).mono (by simp), ?_, ?_⟩
  · intro a b hb
    rw [delFromSet_setOf] at hb
    split at hb
    · exact (mem_sdel.1 hb).1
    · exact hb
  · intro b a ha
    rw [delFromSet_setOf, if_neg (fun c => hd ⟨c.1.symm, c.2.2.symm⟩)]
    exact ha

theorem linkMono_add (st f oSt oF : Name) (hd : ¬(st = oSt ∧ f = oF)) (id : Id) (s : St) (l : Id) :
    LinkMono st f oSt oF s (s.addToSet oSt l oF id) := by
  refine ⟨(frame_addToSet ..).mono (by simp), ?_, ?_⟩
  · intro a b hb
    rw [addToSet_setOf, if_neg (fun c => hd ⟨c.1, c.2.2.1⟩)] at hb
    exact hb
  · intro b a ha
    rw [addToSet_setOf]
    split
    · exact mem_sins.2 (Or.inr ha)
    · exact ha

theorem lkInner_mono (st f oSt oF : Name) (hd : ¬(st = oSt ∧ f = oF)) (id : Id) (s : St) (l : Id) :
    LinkMono st f oSt oF s (lkInner st f oSt oF true id s l).1 := by
  rw [lkInner_true_fst]
  split
  · exact linkMono_add st f oSt oF hd id s l
  · exact LinkMono.refl ..

theorem lkInner_establish (st f oSt oF : Name) (id : Id) (s : St) (l : Id) :
    (lkInner st f oSt oF true id s l).1.present oSt l = true →
      (lkInner st f oSt oF true id s l).1.hasBack oSt l oF id = true := by
  rw [lkInner_true_fst]
  split
  · next hc =>
    intro _
    rw [hasBack_iff, addToSet_setOf, if_pos ⟨rfl, rfl, rfl, hc.1⟩]
    exact mem_sins.2 (Or.inl rfl)
  · next hc =>
    intro hp
    cases hb : s.hasBack oSt l oF id with
    | true => rfl
    | false => exact absurd ⟨hp, hb⟩ hc

theorem lkRemoveAll_mono (st f oSt oF : Name) (hd : ¬(st = oSt ∧ f = oF)) (id : Id) (D : List Id) (s : St) :
    LinkMono st f oSt oF s (lkRemoveAll st f id D s) :=
  foldl_inv (LinkMono st f oSt oF s) _ (fun x a h => h.trans (linkMono_del st f oSt oF hd id x a)) D s (LinkMono.refl ..)

theorem lkRemoveAll_setOf (st f : Name) (id : Id) (D : List Id) (s : St) :
    (lkRemoveAll st f id D s).setOf st id f = (s.setOf st id f).filter fun b => !D.contains b := by
  unfold lkRemoveAll
  induction D generalizing s with
  | nil => exact (List.filter_eq_self.2 fun _ _ => rfl).symm
  | cons a t ih =>
    rw [List.foldl_cons, ih, delFromSet_setOf, if_pos ⟨rfl, rfl, rfl⟩, sdel, List.filter_filter]
    apply List.filter_congr
    intro b _
    rw [List.contains_cons]
    by_cases h : b = a <;> simp [h]

theorem lkRemoveAll_not_mem (st f : Name) (id : Id) (D : List Id) (s : St) {b : Id}
    (h : b ∈ (lkRemoveAll st f id D s).setOf st id f) : b ∉ D := by
  rw [lkRemoveAll_setOf] at h
  exact not_contains_iff.1 (List.mem_filter.1 h).2

theorem lkStep_true_fst (st f oSt oF : Name) (s : St) (id : Id) :
    (lkStep st f oSt oF true s id).1 =
      lkRemoveAll st f id ((s.setOf st id f).filter fun l => !s.present oSt l)
        (runSteps (lkInner st f oSt oF true id) (s.setOf st id f) s).1 := by
  unfold lkStep; simp

theorem lkStep_post (st f oSt oF : Name) (hd : ¬(st = oSt ∧ f = oF)) (s : St) (id : Id) :
    LinkMono st f oSt oF s (lkStep st f oSt oF true s id).1 ∧
    ∀ b, LinkOk (lkStep st f oSt oF true s id).1 st f oSt oF id b := by
  have hI : ∀ x a, LinkMono st f oSt oF s x → LinkMono st f oSt oF s (lkInner st f oSt oF true id x a).1 :=
    fun x a h => h.trans (lkInner_mono st f oSt oF hd id x a)
  obtain ⟨hm, hQ⟩ := runSteps_establish (lkInner st f oSt oF true id) (fun x => LinkMono st f oSt oF s x)
    (fun x b => x.present oSt b = true → x.hasBack oSt b oF id = true) hI
    (by
      intro x a b _ hq hp
      have hmo := lkInner_mono st f oSt oF hd id x a
      rw [hmo.frame.present] at hp
      exact hasBack_iff.2 (hmo.grow b id (hasBack_iff.1 (hq hp))))
    (fun x a _ => lkInner_establish st f oSt oF id x a)
    (s.setOf st id f) s (LinkMono.refl ..)
  have hrm := lkRemoveAll_mono st f oSt oF hd id ((s.setOf st id f).filter fun l => !s.present oSt l)
    (runSteps (lkInner st f oSt oF true id) (s.setOf st id f) s).1
  rw [lkStep_true_fst]
  refine ⟨hm.trans hrm, fun b hb => ?_⟩
  have hb0 : b ∈ s.setOf st id f := hm.shrink id b (hrm.shrink id b hb)
  have hp : s.present oSt b = true := by
    simpa [hb0] using lkRemoveAll_not_mem st f id _ _ hb
  have hp1 : (runSteps (lkInner st f oSt oF true id) (s.setOf st id f) s).1.present oSt b = true := by
    rw [hm.frame.present]; exact hp
  refine ⟨by rw [hrm.frame.present]; exact hp1, ?_⟩
  exact hasBack_iff.2 (hrm.grow b id (hasBack_iff.1 (hQ b hb0 hp1)))

/-- **link collection, convergence** (for a collection whose two sides are different fields) -/
theorem link_fix_post (st f oSt oF : Name) (hasInv : Bool) (hd : ¬(st = oSt ∧ f = oF)) (s : St) :
    let s' := (linkCheck st f oSt oF hasInv true s).1
    Frame [.set st f, .set oSt oF] s s' ∧ ∀ a b, LinkOk s' st f oSt oF a b := by
  intro s'
  obtain ⟨hm, hQ⟩ : LinkMono st f oSt oF s s' ∧ ∀ a ∈ s.ids st, ∀ b, LinkOk s' st f oSt oF a b :=
    runSteps_establish (lkStep st f oSt oF true) (fun x => LinkMono st f oSt oF s x)
      (fun x a => ∀ b, LinkOk x st f oSt oF a b) (fun x a h => h.trans (lkStep_post st f oSt oF hd x a).1)
      (fun x a b _ hq c => (hq c).mono (lkStep_post st f oSt oF hd x a).1)
      (fun x a _ => (lkStep_post st f oSt oF hd x a).2)
      (s.ids st) s (LinkMono.refl ..)
  exact ⟨hm.frame, forall_setOf_ids.1 fun a ha => hQ a (hm.frame.ids st ▸ ha)⟩

@[simp] theorem setSetx_ents (s : St) (st f : Name) (b : List (Bytes × SVal)) : (s.setSetx st f b).ents = s.ents := rfl
@[simp] theorem setSetx_uniq (s : St) (st f : Name) (b : List (Bytes × SVal)) : (s.setSetx st f b).uniq = s.uniq := rfl
@[simp] theorem setSetx_self (s : St) (st f : Name) (b : List (Bytes × SVal)) : (s.setSetx st f b).setx st f = b := by
  simp [St.setSetx]
theorem setSetx_other (s : St) (st f st' f' : Name) (b : List (Bytes × SVal)) (h : ¬(st' = st ∧ f' = f)) :
    (s.setSetx st f b).setx st' f' = s.setx st' f' := by
  simp [St.setSetx, h]

theorem frame_setSetx (s : St) (st f : Name) (b : List (Bytes × SVal)) : Frame [.setx st f] s (s.setSetx st f b) :=
  ⟨fun _ => rfl, fun _ _ => rfl, fun _ _ _ => rfl,
   fun st' f' hn => setSetx_other s st f st' f' b (fun ⟨a, c⟩ => hn (by rw [a, c]; exact List.mem_singleton.2 rfl)),
   fun _ _ _ _ => rfl, fun _ _ _ _ => rfl⟩

/-- the current entry of `key` in the index bucket -/
def St.bk (s : St) (st f : Name) (key : Bytes) : Option SVal := get key (s.setx st f)

theorem bk_setSetx (s : St) (st f : Name) (b : List (Bytes × SVal)) (k : Bytes) :
    (s.setSetx st f b).bk st f k = get k b := by
  unfold St.bk; rw [setSetx_self]

/-- what every step of both passes keeps, relative to the state `s` the check started from -/
structure SxInv (st f : Name) (s x : St) : Prop where
  frame : Frame [.setx st f] s x
  nodup : NodupKeys (x.setx st f)

theorem sxInv_setSetx {st f : Name} {s x : St} (h : SxInv st f s x) {b : List (Bytes × SVal)} (hb : NodupKeys b) :
    SxInv st f s (x.setSetx st f b) :=
  ⟨h.frame.trans (frame_setSetx ..), by rw [setSetx_self]; exact hb⟩

theorem sxInv_delIdx {st f : Name} {s x : St} (h : SxInv st f s x) (key : Bytes) (id : Id) :
    SxInv st f s (x.delIdx st f key id) := by
  unfold St.delIdx; split
  · exact sxInv_setSetx h (nodupKeys_put h.nodup)
  · exact h

theorem sxInv_addIdx {st f : Name} {s x : St} (h : SxInv st f s x) (val : Bytes) (id : Id) :
    SxInv st f s (x.addIdx st f val id) := by
  unfold St.addIdx; split
  · exact sxInv_setSetx h (nodupKeys_put h.nodup)
  · exact sxInv_setSetx h (nodupKeys_put h.nodup)

theorem sxInner_true_fst (st f : Name) (key : Bytes) (s : St) (id : Id) :
    (sxInner st f true key s id).1 = if SxValid s st f key id then s else s.delIdx st f key id := by
  unfold sxInner SxValid
  by_cases hp : s.present st id = true
  · by_cases hv : s.hasVal st id f key = true
    · simp [hp, hv]
    · simp [hp, hv]
  · simp [hp]

theorem delIdx_bk (s : St) (st f : Name) (key : Bytes) (id : Id) {L : List Id} (h : s.bk st f key = some (.ids L))
    (k' : Bytes) : (s.delIdx st f key id).bk st f k' = if k' = key then some (.ids (sdel id L)) else s.bk st f k' := by
  unfold St.bk at h
  unfold St.delIdx St.bk
  simp only [h, setSetx_self, get_put]

/-- the inner loop over the ids `l` removes from the value bucket `key`, which holds `L`, exactly the ids of `l`
    that do not mirror an entity -/
theorem sxInner_loop_bk (st f : Name) (key : Bytes) (s : St) (l : List Id) (x : St) (h : SxInv st f s x) {L : List Id}
    (hb : x.bk st f key = some (.ids L)) (k' : Bytes) :
    (runSteps (sxInner st f true key) l x).1.bk st f k' =
      if k' = key then some (.ids (L.filter fun y => decide (y ∈ l → SxValid s st f key y))) else x.bk st f k' := by
  induction l generalizing x L with
  | nil =>
    rw [List.filter_eq_self.2 fun y _ => decide_eq_true (fun hy => nomatch hy)]
    split
    · next e => rw [e]; exact hb
    · rfl
  | cons a t ih =>
    have ha : SxValid x st f key a ↔ SxValid s st f key a := sxValid_frame h.frame (by simp) ..
    rw [runSteps_cons, sxInner_true_fst]
    by_cases hv : SxValid x st f key a
    · -- `a` mirrors an entity and stays: counting it among the scanned ids changes no test
      rw [if_pos hv, ih x h hb]
      refine congrArg (fun l' => if k' = key then some (SVal.ids l') else _) (List.filter_congr fun y _ => ?_)
      exact decide_eq_decide.2
        ⟨fun hy hm => (List.mem_cons.1 hm).elim (fun e => e ▸ ha.1 hv) hy, fun hy hm => hy (List.mem_cons_of_mem _ hm)⟩
    · -- `a` does not and is dropped (`sdel`): with the tests for `t`, that is the test for `a :: t`
      rw [if_neg hv, ih _ (sxInv_delIdx h ..) ((delIdx_bk x st f key a hb key).trans (if_pos rfl)), delIdx_bk x st f key a hb k',
        sdel, List.filter_filter]
      split
      · refine congrArg (fun l' => some (SVal.ids l')) (List.filter_congr fun y _ => ?_)
        rw [← Bool.decide_and, decide_eq_decide]
        exact ⟨fun ⟨hy, hne⟩ hm => (List.mem_cons.1 hm).elim (fun e => absurd e hne) hy,
          fun hy => ⟨fun hm => hy (List.mem_cons_of_mem _ hm), fun e => hv (ha.2 (e ▸ hy (e ▸ List.mem_cons_self ..)))⟩⟩
      · rfl

/-- what the first pass leaves of the entry of key `k`: a plain key is removed, a value bucket keeps
    the ids that mirror an entity -/
def sxPruned (s : St) (st f : Name) (k : Bytes) : SVal → Option SVal
  | .junk => none
  | .ids l => some (.ids (l.filter fun y => decide (SxValid s st f k y)))

theorem sxStep1_true_fst (st f : Name) (s : St) (kv : Bytes × SVal) :
    (sxStep1 st f true s kv).1 =
      match kv.2 with
      | .junk => s.setSetx st f (del kv.1 (s.setx st f))
      | .ids l => (runSteps (sxInner st f true kv.1) l s).1 := by
  unfold sxStep1
  cases kv.2 <;> rfl

theorem sxStep1_bk (st f : Name) (s x : St) (kv : Bytes × SVal) (h : SxInv st f s x)
    (hb : x.bk st f kv.1 = some kv.2) (k' : Bytes) :
    (sxStep1 st f true x kv).1.bk st f k' = if k' = kv.1 then sxPruned s st f kv.1 kv.2 else x.bk st f k' := by
  obtain ⟨key, v⟩ := kv
  change x.bk st f key = some v at hb
  rw [sxStep1_true_fst]
  cases v with
  | junk => exact (bk_setSetx ..).trans (get_del ..)
  | ids l =>
    change (runSteps (sxInner st f true key) l x).1.bk st f k' = _
    rw [sxInner_loop_bk st f key s l x h hb]
    exact congrArg (fun l' => if k' = key then some (SVal.ids l') else _)
      (List.filter_congr fun y hy => decide_eq_decide.2 ⟨fun hv => hv hy, fun hv _ => hv⟩)

theorem sxStep1_inv (st f : Name) (s x : St) (kv : Bytes × SVal) (h : SxInv st f s x) :
    SxInv st f s (sxStep1 st f true x kv).1 := by
  rw [sxStep1_true_fst]
  cases kv.2 with
  | junk => exact sxInv_setSetx h (nodupKeys_del h.nodup)
  | ids l =>
    refine runSteps_inv _ (SxInv st f s) (fun y a hy => ?_) l x h
    rw [sxInner_true_fst]; split
    · exact hy
    · exact sxInv_delIdx hy ..

/-- the outer loop over a snapshot `B` whose entries are still current -/
theorem sxPass1_bk (st f : Name) (s : St) (B : List (Bytes × SVal)) (x : St) (hn : NodupKeys B)
    (h : SxInv st f s x) (hB : ∀ kv ∈ B, x.bk st f kv.1 = some kv.2) (k : Bytes) :
    (runSteps (sxStep1 st f true) B x).1.bk st f k =
      if k ∈ B.map (·.1) then (x.bk st f k).bind (sxPruned s st f k) else x.bk st f k := by
  induction B generalizing x with
  | nil => rfl
  | cons kv t ih =>
    have hkv := hB kv (List.mem_cons_self ..)
    rw [runSteps_cons, ih _ (nodupKeys_tail hn) (sxStep1_inv st f s x kv h)
      (fun q hq => by
        rw [sxStep1_bk st f s x kv h hkv, if_neg (nodupKeys_head hn q hq)]
        exact hB q (List.mem_cons_of_mem _ hq)),
      sxStep1_bk st f s x kv h hkv]
    by_cases hk : k = kv.1
    · subst hk
      rw [if_neg (List.nodup_cons.1 hn).1, if_pos rfl, hkv, List.map_cons, if_pos (List.mem_cons_self ..)]
      rfl
    · simp only [hk, if_false, List.map_cons, List.mem_cons, false_or]

theorem sxPass1_bk_self (st f : Name) (s : St) (hn : NodupKeys (s.setx st f)) (k : Bytes) :
    (runSteps (sxStep1 st f true) (s.setx st f) s).1.bk st f k = (s.bk st f k).bind (sxPruned s st f k) := by
  rw [sxPass1_bk st f s (s.setx st f) s hn ⟨Frame.refl _ s, hn⟩ (fun kv hkv => get_of_mem_nodup hn hkv)]
  split
  · rfl
  · next hk =>
    have : s.bk st f k = none := get_none_iff.2 fun p hp e => hk (List.mem_map.2 ⟨p, hp, e⟩)
    rw [this]; rfl

theorem sxKept_zero_iff (st f : Name) (k : Bytes) (s : St) (l : List Id) :
    sxKept st f true k s l = 0 ↔ ∀ id ∈ l, ¬SxValid s st f k id := by
  unfold sxKept SxValid
  simp only [if_true, List.length_eq_zero_iff, List.filter_eq_nil_iff, Bool.and_eq_true]

theorem sxToDelete_filterMap (st f : Name) (s : St) (B : List (Bytes × SVal)) :
    sxToDelete st f true s B = B.filterMap fun kv =>
      match kv.2 with
      | .junk => none
      | .ids l => if sxKept st f true kv.1 s l = 0 then some kv.1 else none := by
  induction B with
  | nil => rfl
  | cons kv t ih =>
    unfold sxToDelete
    rw [List.filterMap_cons, ih]
    cases kv.2 with
    | junk => rfl
    | ids l => by_cases hz : sxKept st f true kv.1 s l = 0 <;> simp [hz]

theorem sxDeleteKeys_inv_bk (st f : Name) (keys : List Bytes) (s x : St) (h : SxInv st f s x) :
    SxInv st f s (sxDeleteKeys st f keys x) ∧
    ∀ k, (sxDeleteKeys st f keys x).bk st f k = if k ∈ keys then none else x.bk st f k := by
  unfold sxDeleteKeys
  induction keys generalizing x with
  | nil => exact ⟨h, fun k => (if_neg List.not_mem_nil).symm⟩
  | cons a t ih =>
    rw [List.foldl_cons]
    obtain ⟨h1, h2⟩ := ih (x.setSetx st f (del a (x.setx st f))) (sxInv_setSetx h (nodupKeys_del h.nodup))
    refine ⟨h1, fun k => ?_⟩
    rw [h2 k, bk_setSetx, get_del]
    by_cases hk : k = a
    · rw [if_pos hk, if_pos (List.mem_cons.2 (Or.inl hk))]; split <;> rfl
    · by_cases hkt : k ∈ t
      · rw [if_pos hkt, if_pos (List.mem_cons_of_mem _ hkt)]
      · rw [if_neg hkt, if_neg hk, if_neg fun hm => (List.mem_cons.1 hm).elim hk hkt]; rfl

/-- an index entry that is a non-empty value bucket whose ids mirror entities -/
def SxEntryOk (s : St) (st f : Name) (kv : Bytes × SVal) : Prop :=
  ∃ l, kv.2 = .ids l ∧ l ≠ [] ∧ ∀ id ∈ l, SxValid s st f kv.1 id

/-- every current entry of `x` is one, judged by the entities of `s` -/
def SxGood (s : St) (st f : Name) (x : St) : Prop :=
  ∀ k sv', x.bk st f k = some sv' → SxEntryOk s st f (k, sv')

theorem sxPass1_post (st f : Name) (s : St) (hn : NodupKeys (s.setx st f)) :
    let x1 := sxDeleteKeys st f (sxToDelete st f true s (s.setx st f)) (runSteps (sxStep1 st f true) (s.setx st f) s).1
    SxInv st f s x1 ∧ SxGood s st f x1 := by
  intro x1
  -- an entry that survives the deletions is the valid part of a value bucket (`sxPass1_bk_self`), and the keys whose
  -- valid part is empty are exactly those of `sxToDelete`
  obtain ⟨d1, d2⟩ := sxDeleteKeys_inv_bk st f (sxToDelete st f true s (s.setx st f)) s _
    (runSteps_inv _ _ (sxStep1_inv st f s) (s.setx st f) s ⟨Frame.refl _ s, hn⟩)
  refine ⟨d1, fun k sv' hb => ?_⟩
  rw [d2 k, sxPass1_bk_self st f s hn] at hb
  split at hb
  · cases hb
  · next hnd =>
    cases h0 : s.bk st f k with
    | none => rw [h0] at hb; cases hb
    | some sv0 =>
      rw [h0] at hb
      cases sv0 with
      | junk => cases hb
      | ids l0 =>
        cases hb
        refine ⟨_, rfl, fun hnil => hnd ?_, fun y hy => of_decide_eq_true (List.mem_filter.1 hy).2⟩
        -- nothing of `l0` was kept, so `k` is on the list of keys to delete
        rw [sxToDelete_filterMap]
        refine List.mem_filterMap.2 ⟨(k, .ids l0), get_some_mem h0, if_pos ((sxKept_zero_iff ..).2 ?_)⟩
        exact fun y hy hvy => List.filter_eq_nil_iff.1 hnil y hy (decide_eq_true hvy)

theorem addIdx_bk (s : St) (st f : Name) (val : Bytes) (id : Id) (k : Bytes) :
    (s.addIdx st f val id).bk st f k =
      if k = val then some (.ids (match s.bk st f val with | some (.ids l) => sins id l | _ => [id]))
      else s.bk st f k := by
  unfold St.addIdx St.bk
  cases hg : get val (s.setx st f) with
  | none => simp only [setSetx_self, get_put]
  | some sv =>
    cases sv with
    | junk => simp only [setSetx_self, get_put]
    | ids l => simp only [setSetx_self, get_put]

theorem sxStep2Val_true_fst (st f : Name) (id : Id) (s : St) (v : Bytes) :
    (sxStep2Val st f true id s v).1 = if s.inIdx st f v id = true then s else s.addIdx st f v id := by
  unfold sxStep2Val; split <;> rfl

theorem sxStep2Val_inv (st f : Name) (s x : St) (id : Id) (v : Bytes) (h : SxInv st f s x) :
    SxInv st f s (sxStep2Val st f true id x v).1 := by
  rw [sxStep2Val_true_fst]; split
  · exact h
  · exact sxInv_addIdx h v id

theorem sxStep2Val_good (st f : Name) (s x : St) (id : Id) (v : Bytes) (hv : SxValid s st f v id)
    (h : SxGood s st f x) : SxGood s st f (sxStep2Val st f true id x v).1 := by
  rw [sxStep2Val_true_fst]
  split
  · exact h
  · intro k sv' hb
    rw [addIdx_bk] at hb
    split at hb
    · next hk =>
      subst hk
      cases hb
      cases hg : x.bk st f k with
      | none => exact ⟨[id], rfl, List.cons_ne_nil _ _, fun y hy => by rw [List.mem_singleton.1 hy]; exact hv⟩
      | some sv =>
        cases sv with
        | junk => exact ⟨[id], rfl, List.cons_ne_nil _ _, fun y hy => by rw [List.mem_singleton.1 hy]; exact hv⟩
        | ids l =>
          obtain ⟨l', e, _, hl⟩ := h k _ hg
          cases e
          refine ⟨sins id l, rfl, ?_, ?_⟩
          · intro hnil
            have : id ∈ sins id l := mem_sins.2 (Or.inl rfl)
            rw [hnil] at this; cases this
          · intro y hy
            rcases mem_sins.1 hy with rfl | hy
            · exact hv
            · exact hl y hy
    · exact h k sv' hb

theorem sxStep2Val_mono (st f : Name) (x : St) (id : Id) (v : Bytes) (v' : Bytes) (id' : Id)
    (h : x.inIdx st f v' id' = true) : (sxStep2Val st f true id x v).1.inIdx st f v' id' = true := by
  rw [sxStep2Val_true_fst]
  split
  · exact h
  · obtain ⟨l, (hl : x.bk st f v' = some (.ids l)), hid⟩ := inIdx_iff.1 h
    rw [inIdx_iff, ← St.bk, addIdx_bk]
    by_cases hk : v' = v
    · subst hk
      rw [if_pos rfl, hl]
      exact ⟨sins id l, rfl, mem_sins.2 (Or.inr hid)⟩
    · rw [if_neg hk]; exact ⟨l, hl, hid⟩

theorem sxStep2Val_establish (st f : Name) (x : St) (id : Id) (v : Bytes) :
    (sxStep2Val st f true id x v).1.inIdx st f v id = true := by
  rw [sxStep2Val_true_fst]
  split
  · next h => exact h
  · rw [inIdx_iff, ← St.bk, addIdx_bk, if_pos rfl]
    refine ⟨_, rfl, ?_⟩
    split
    · exact mem_sins.2 (Or.inl rfl)
    · exact List.mem_singleton.2 rfl

theorem sxStep2_post (st f : Name) (s x : St) (id : Id) (h : SxInv st f s x ∧ SxGood s st f x) :
    (SxInv st f s (sxStep2 st f true x id).1 ∧ SxGood s st f (sxStep2 st f true x id).1) ∧
    (∀ v' id', x.inIdx st f v' id' = true → (sxStep2 st f true x id).1.inIdx st f v' id' = true) ∧
    ∀ v ∈ s.setOf st id f, (sxStep2 st f true x id).1.inIdx st f v id = true := by
  unfold sxStep2
  rw [h.1.frame.setOf st f (by simp) id]
  let I : St → Prop := fun y => (SxInv st f s y ∧ SxGood s st f y) ∧
    ∀ v' id', x.inIdx st f v' id' = true → y.inIdx st f v' id' = true
  have hI : ∀ y, ∀ v ∈ s.setOf st id f, I y → I (sxStep2Val st f true id y v).1 := fun y v hv ⟨h1, h2⟩ =>
    ⟨⟨sxStep2Val_inv st f s y id v h1.1, sxStep2Val_good st f s y id v ⟨present_of_setOf hv, hasVal_iff.2 hv⟩ h1.2⟩,
     fun v' id' hin => sxStep2Val_mono st f y id v v' id' (h2 v' id' hin)⟩
  obtain ⟨⟨h1, h2⟩, hQ⟩ := runSteps_establish_mem (sxStep2Val st f true id) I (fun y v => y.inIdx st f v id = true)
    (s.setOf st id f) hI
    (fun y a b _ hq => sxStep2Val_mono st f y id a b id hq)
    (fun y a _ => sxStep2Val_establish st f y id a) x ⟨h, fun _ _ h => h⟩
  exact ⟨h1, h2, hQ⟩

theorem sxPass2_post (st f : Name) (s x : St) (h : SxInv st f s x ∧ SxGood s st f x) :
    let s' := (runSteps (sxStep2 st f true) (x.ids st) x).1
    (SxInv st f s s' ∧ SxGood s st f s') ∧ ∀ id ∈ s.ids st, ∀ v ∈ s.setOf st id f, s'.inIdx st f v id = true := by
  intro s'
  rw [← h.1.frame.ids]
  exact runSteps_establish (sxStep2 st f true) (fun y => SxInv st f s y ∧ SxGood s st f y)
    (fun y id => ∀ v ∈ s.setOf st id f, y.inIdx st f v id = true) (fun y a hy => (sxStep2_post st f s y a hy).1)
    (fun y a b hy hq v hv => (sxStep2_post st f s y a hy).2.1 v b (hq v hv))
    (fun y a hy => (sxStep2_post st f s y a hy).2.2) (x.ids st) x h

/-- the index mirrors the list field -/
def SetGood (s : St) (st f : Name) : Prop :=
  (∀ kv ∈ s.setx st f, SxEntryOk s st f kv) ∧ ∀ id ∈ s.ids st, ∀ v ∈ s.setOf st id f, s.inIdx st f v id = true

theorem set_fix_post (st f : Name) (s : St) (hn : NodupKeys (s.setx st f)) :
    let s' := (setCheck st f true s).1
    Frame [.setx st f] s s' ∧ NodupKeys (s'.setx st f) ∧ SetGood s' st f := by
  intro s'
  obtain ⟨⟨hinv, hgood⟩, hQ⟩ : (SxInv st f s s' ∧ SxGood s st f s') ∧
      ∀ id ∈ s.ids st, ∀ v ∈ s.setOf st id f, s'.inIdx st f v id = true :=
    sxPass2_post st f s _ (sxPass1_post st f s hn)
  refine ⟨hinv.frame, hinv.nodup, fun kv hkv => ?_, fun id hid v hv => ?_⟩
  · obtain ⟨l, e, hne, hv⟩ := hgood kv.1 kv.2 (get_of_mem_nodup hinv.nodup hkv)
    exact ⟨l, e, hne, fun id hid => (sxValid_frame hinv.frame (by simp) kv.1 id).2 (hv id hid)⟩
  · rw [hinv.frame.ids] at hid
    rw [hinv.frame.setOf st f (by simp)] at hv
    exact hQ id hid v hv

end StorageModel.C09
