import StorageModel.C09.CheckOnly
/-
  C09 — soundness and completeness of the check-only report list against `inconsistencies`.
-/
namespace StorageModel.C09

theorem ent_of_mem {s : St} (hwf : s.WF) {st : Name} {id : Id} {e : Ent} (h : (id, e) ∈ s.ents st) :
    s.ent st id = some e := get_of_mem_nodup (hwf.ents st) h

theorem mem_of_ent {s : St} {st : Name} {id : Id} {e : Ent} (h : s.ent st id = some e) : (id, e) ∈ s.ents st :=
  get_some_mem h

theorem mem_ids {s : St} {st : Name} {id : Id} : id ∈ s.ids st ↔ ∃ e, (id, e) ∈ s.ents st := by
  unfold St.ids
  constructor
  · intro h
    obtain ⟨p, hp, rfl⟩ := List.mem_map.1 h
    exact ⟨p.2, hp⟩
  · rintro ⟨e, h⟩
    exact List.mem_map.2 ⟨(id, e), h, rfl⟩

theorem present_iff {s : St} {st : Name} {id : Id} : s.present st id = true ↔ ∃ e, (id, e) ∈ s.ents st := by
  unfold St.present St.ent
  rw [get_isSome_iff]
  constructor
  · rintro ⟨p, hp, rfl⟩; exact ⟨p.2, hp⟩
  · rintro ⟨e, h⟩; exact ⟨(id, e), h, rfl⟩

theorem present_of_mem {s : St} {st : Name} {id : Id} {e : Ent} (h : (id, e) ∈ s.ents st) :
    s.present st id = true := present_iff.2 ⟨e, h⟩

theorem evalT_of_mem {s : St} (hwf : s.WF) {st : Name} {id : Id} {e : Ent} (h : (id, e) ∈ s.ents st) (f : Name) :
    s.evalT st id f = e.fields f := by
  unfold St.evalT; rw [ent_of_mem hwf h]

theorem evalB_of_mem {s : St} (hwf : s.WF) {st : Name} {id : Id} {e : Ent} (h : (id, e) ∈ s.ents st) (f : Name) :
    s.evalB st id f = (e.fields f).bytes := by
  unfold St.evalB; rw [evalT_of_mem hwf h]

theorem evalB_of_evalT_str {s : St} {st f : Name} {id : Id} {v : Bytes} (h : s.evalT st id f = .str v) :
    s.evalB st id f = v := by
  unfold St.evalB; rw [h]; rfl

theorem setOf_of_mem {s : St} (hwf : s.WF) {st : Name} {id : Id} {e : Ent} (h : (id, e) ∈ s.ents st) (f : Name) :
    s.setOf st id f = e.sets f := by
  unfold St.setOf; rw [ent_of_mem hwf h]

theorem mem_setOf {s : St} {st : Name} {id : Id} {f : Name} {x : Bytes} (h : x ∈ s.setOf st id f) :
    ∃ e, (id, e) ∈ s.ents st ∧ x ∈ e.sets f := by
  unfold St.setOf at h
  split at h
  · next e he => exact ⟨e, mem_of_ent he, h⟩
  · cases h

theorem present_of_setOf {s : St} {st : Name} {id : Id} {f : Name} {x : Bytes} (h : x ∈ s.setOf st id f) :
    s.present st id = true :=
  let ⟨_, he, _⟩ := mem_setOf h
  present_of_mem he

theorem mem_scalarImage {s : St} {st f : Name} {v : Bytes} {id : Id} :
    (v, id) ∈ scalarImage s st f ↔ ∃ e, (id, e) ∈ s.ents st ∧ e.fields f = .str v ∧ v ≠ [] := by
  unfold scalarImage
  rw [List.mem_filterMap]
  constructor
  · rintro ⟨p, hp, h⟩
    split at h
    · next w hw =>
      split at h
      · cases h
      · next hne => cases h; exact ⟨p.2, hp, hw, hne⟩
    · cases h
  · rintro ⟨e, he, hf, hne⟩
    exact ⟨(id, e), he, by simp [hf, hne]⟩

theorem mem_listImage {s : St} {st f : Name} {v : Bytes} {id : Id} :
    (v, id) ∈ listImage s st f ↔ ∃ e, (id, e) ∈ s.ents st ∧ v ∈ e.sets f := by
  unfold listImage
  rw [List.mem_flatMap]
  constructor
  · rintro ⟨p, hp, h⟩
    obtain ⟨w, hw, e⟩ := List.mem_map.1 h
    cases e
    exact ⟨p.2, hp, hw⟩
  · rintro ⟨e, he, hv⟩
    exact ⟨(id, e), he, List.mem_map.2 ⟨v, hv, rfl⟩⟩

theorem mem_setxPairs {s : St} {st f : Name} {k : Bytes} {id : Id} :
    (k, id) ∈ setxPairs s st f ↔ ∃ l, (k, SVal.ids l) ∈ s.setx st f ∧ id ∈ l := by
  unfold setxPairs
  rw [List.mem_flatMap]
  constructor
  · rintro ⟨kv, hkv, h⟩
    split at h
    · next l hl =>
      obtain ⟨w, hw, e⟩ := List.mem_map.1 h
      cases e
      exact ⟨l, by rw [← hl]; exact hkv, hw⟩
    · cases h
  · rintro ⟨l, hl, hid⟩
    exact ⟨(k, .ids l), hl, List.mem_map.2 ⟨id, hid, rfl⟩⟩

theorem mem_nullOrEmptyIds {s : St} {st f : Name} {id : Id} :
    id ∈ nullOrEmptyIds s st f ↔ ∃ e, (id, e) ∈ s.ents st ∧ (e.fields f).bytes = [] := by
  unfold nullOrEmptyIds
  rw [List.mem_filterMap]
  constructor
  · rintro ⟨p, hp, h⟩
    split at h
    · next hn => cases h; exact ⟨p.2, hp, hn⟩
    · cases h
  · rintro ⟨e, he, hn⟩
    exact ⟨(id, e), he, by simp [hn]⟩

theorem bytes_eq_str {v : FVal} {b : Bytes} (h : v.bytes = b) (hb : b ≠ []) : v = .str b := by
  cases v with
  | nil => exact absurd h.symm hb
  | str w => simp [FVal.bytes] at h; rw [h]

theorem not_contains_iff {α : Type} [BEq α] [LawfulBEq α] {l : List α} {a : α} :
    (!l.contains a) = true ↔ a ∉ l := by
  simp

theorem hasVal_iff {s : St} {st f : Name} {id : Id} {k : Bytes} :
    s.hasVal st id f k = true ↔ k ∈ s.setOf st id f := by
  unfold St.hasVal; simp

theorem inIdx_iff {s : St} {st f : Name} {v : Bytes} {id : Id} :
    s.inIdx st f v id = true ↔ ∃ l, get v (s.setx st f) = some (.ids l) ∧ id ∈ l := by
  unfold St.inIdx
  split
  · next l hl => simp [hl]
  · next hn =>
    simp only [Bool.false_eq_true, false_iff]
    rintro ⟨l, hl, _⟩
    exact hn l hl

theorem hasBack_iff {s : St} {fkSt fkF : Name} {t id : Id} :
    s.hasBack fkSt t fkF id = true ↔ id ∈ s.setOf fkSt t fkF := by
  unfold St.hasBack; simp

/-! ### the specification's lists, through the readers of the checker (a well-formed state) -/

theorem mem_scalarImage_iff {s : St} (hwf : s.WF) {st f : Name} {v : Bytes} {id : Id} :
    (v, id) ∈ scalarImage s st f ↔ id ∈ s.ids st ∧ s.evalB st id f = v ∧ v ≠ [] := by
  rw [mem_scalarImage, mem_ids]
  constructor
  · rintro ⟨e, he, hf, hv⟩
    exact ⟨⟨e, he⟩, by rw [evalB_of_mem hwf he, hf]; rfl, hv⟩
  · rintro ⟨⟨e, he⟩, hb, hv⟩
    exact ⟨e, he, bytes_eq_str (by rw [← evalB_of_mem hwf he]; exact hb) hv, hv⟩

theorem mem_nullOrEmptyIds_iff {s : St} (hwf : s.WF) {st f : Name} {id : Id} :
    id ∈ nullOrEmptyIds s st f ↔ id ∈ s.ids st ∧ s.evalB st id f = [] := by
  rw [mem_nullOrEmptyIds, mem_ids]
  constructor
  · rintro ⟨e, he, hb⟩; exact ⟨⟨e, he⟩, by rw [evalB_of_mem hwf he]; exact hb⟩
  · rintro ⟨⟨e, he⟩, hb⟩; exact ⟨e, he, by rw [← evalB_of_mem hwf he]; exact hb⟩

theorem mem_uniq_iff {s : St} (hwf : s.WF) {st f : Name} {v : Bytes} {id : Id} :
    (v, id) ∈ s.uniq st f ↔ get v (s.uniq st f) = some id :=
  ⟨get_of_mem_nodup (hwf.uniq st f), get_some_mem⟩

theorem mem_listImage_iff {s : St} (hwf : s.WF) {st f : Name} {v : Bytes} {id : Id} :
    (v, id) ∈ listImage s st f ↔ id ∈ s.ids st ∧ v ∈ s.setOf st id f := by
  rw [mem_listImage, mem_ids]
  exact ⟨fun ⟨e, he, hv⟩ => ⟨⟨e, he⟩, by rw [setOf_of_mem hwf he]; exact hv⟩, fun h => mem_setOf h.2⟩

theorem contains_listImage {s : St} (hwf : s.WF) {st f : Name} {i t : Id} :
    (listImage s st f).contains (i, t) = s.hasBack st t f i := by
  rw [Bool.eq_iff_iff, List.contains_iff_mem, hasBack_iff, mem_listImage_iff hwf]
  exact ⟨(·.2), fun h => ⟨mem_ids.2 (present_iff.1 (present_of_setOf h)), h⟩⟩

theorem mem_setxPairs_iff {s : St} (hwf : s.WF) {st f : Name} {k : Bytes} {id : Id} :
    (k, id) ∈ setxPairs s st f ↔ s.inIdx st f k id = true := by
  rw [inIdx_iff, mem_setxPairs]
  exact ⟨fun ⟨l, hl, hid⟩ => ⟨l, get_of_mem_nodup (hwf.setx st f) hl, hid⟩, fun ⟨l, hl, hid⟩ => ⟨l, get_some_mem hl, hid⟩⟩

theorem mem_diff_map {α β : Type} [BEq β] [LawfulBEq β] {A : List α} {B : List β} {g : α → β} {mk : α → Disc} {d : Disc} :
    d ∈ (A.filter fun x => !B.contains (g x)).map mk ↔ ∃ x ∈ A, g x ∉ B ∧ d = mk x :=
  ⟨fun h => let ⟨x, hx, e⟩ := List.mem_map.1 h; ⟨x, (List.mem_filter.1 hx).1, not_contains_iff.1 (List.mem_filter.1 hx).2, e.symm⟩,
    fun ⟨x, hx, hp, e⟩ => List.mem_map.2 ⟨x, List.mem_filter.2 ⟨hx, not_contains_iff.2 hp⟩, e.symm⟩⟩

/-- a quantifier over a list of the specification is a loop of the checker; oriented from the list to the loop, so that
    `simp only` can use it with `P` unknown -/
theorem exists_mem_listImage {s : St} (hwf : s.WF) {st f : Name} {P : Bytes × Id → Prop} :
    (∃ vi ∈ listImage s st f, P vi) ↔ ∃ id ∈ s.ids st, ∃ v ∈ s.setOf st id f, P (v, id) :=
  ⟨fun ⟨vi, h, hp⟩ => let ⟨hid, hv⟩ := (mem_listImage_iff (v := vi.1) (id := vi.2) hwf).1 h; ⟨vi.2, hid, vi.1, hv, hp⟩,
    fun ⟨id, hid, v, hv, hp⟩ => ⟨(v, id), (mem_listImage_iff hwf).2 ⟨hid, hv⟩, hp⟩⟩

theorem exists_mem_setxPairs {s : St} {st f : Name} {P : Bytes × Id → Prop} :
    (∃ ki ∈ setxPairs s st f, P ki) ↔ ∃ kv ∈ s.setx st f, ∃ l, kv.2 = .ids l ∧ ∃ id ∈ l, P (kv.1, id) :=
  ⟨fun ⟨ki, h, hp⟩ => let ⟨l, hl, hid⟩ := (mem_setxPairs (k := ki.1) (id := ki.2)).1 h; ⟨_, hl, l, rfl, ki.2, hid, hp⟩,
    fun ⟨kv, hkv, l, hl, id, hid, hp⟩ => ⟨(kv.1, id), mem_setxPairs.2 ⟨l, hl ▸ hkv, hid⟩, hp⟩⟩

/-- the second loop of a unique index, a foreign-key index and a foreign-key constraint is one scan: the entities that hold
    a value are the scalar image, the others are reported unless the field is nullable -/
theorem scalarScan_iff {s : St} (hwf : s.WF) {st f : Name} {n : Bool} {d : Disc} {P : Bytes × Id → Prop} :
    (∃ ti ∈ scalarImage s st f, P ti) ∨ d ∈ (if n = true then [] else (nullOrEmptyIds s st f).map fun id => .null st f id) ↔
      ∃ id ∈ s.ids st, (s.evalB st id f = [] ∧ n = false ∧ d = .null st f id) ∨ (s.evalB st id f ≠ [] ∧ P (s.evalB st id f, id)) := by
  constructor
  · rintro (⟨ti, hti, hp⟩ | hd)
    · obtain ⟨hid, hb, hne⟩ := (mem_scalarImage_iff (v := ti.1) (id := ti.2) hwf).1 hti
      exact ⟨ti.2, hid, Or.inr ⟨hb ▸ hne, by rw [hb]; exact hp⟩⟩
    · cases n with
      | true => cases hd
      | false =>
        obtain ⟨id, hid, rfl⟩ := List.mem_map.1 hd
        obtain ⟨hi, hb⟩ := (mem_nullOrEmptyIds_iff hwf).1 hid
        exact ⟨id, hi, Or.inl ⟨hb, rfl, rfl⟩⟩
  · rintro ⟨id, hid, ⟨hb, hn, rfl⟩ | ⟨hb, hp⟩⟩
    · subst hn
      exact Or.inr (List.mem_map.2 ⟨id, (mem_nullOrEmptyIds_iff hwf).2 ⟨hid, hb⟩, rfl⟩)
    · exact Or.inl ⟨(s.evalB st id f, id), (mem_scalarImage_iff hwf).2 ⟨hid, rfl, hb⟩, hp⟩

/-! ### what the index → entity steps test -/

/-- an index entry that mirrors an entity -/
def UqValid (s : St) (st f : Name) (kv : Bytes × Id) : Prop :=
  s.present st kv.2 = true ∧ kv.1 = s.evalB st kv.2 f

instance (s : St) (st f : Name) (kv : Bytes × Id) : Decidable (UqValid s st f kv) := by
  unfold UqValid; infer_instance

/-- index entry `key ∋ id` mirrors an entity holding `key` -/
def SxValid (s : St) (st f : Name) (key : Bytes) (id : Id) : Prop :=
  s.present st id = true ∧ s.hasVal st id f key = true

instance (s : St) (st f : Name) (key : Bytes) (id : Id) : Decidable (SxValid s st f key id) := by
  unfold SxValid; infer_instance

/-- a back-reference `x ∈ target.fkF` that mirrors `x.f = target` -/
def FkBackValid (s : St) (st f : Name) (t x : Id) : Prop :=
  s.present st x = true ∧ s.evalB st x f ≠ [] ∧ s.evalB st x f = t

instance (s : St) (st f : Name) (t x : Id) : Decidable (FkBackValid s st f t x) := by
  unfold FkBackValid; infer_instance

theorem uqValid_iff {s : St} (hwf : s.WF) {st f : Name} {kv : Bytes × Id} (hkv : kv ∈ s.uniq st f) :
    UqValid s st f kv ↔ kv ∈ scalarImage s st f := by
  rw [show kv = (kv.1, kv.2) from rfl, mem_scalarImage_iff hwf, mem_ids]
  unfold UqValid
  rw [present_iff]
  exact ⟨fun h => ⟨h.1, h.2.symm, hwf.uniqKey st f kv hkv⟩, fun h => ⟨h.1, h.2.1.symm⟩⟩

theorem sxValid_iff {s : St} (hwf : s.WF) {st f : Name} {k : Bytes} {id : Id} :
    SxValid s st f k id ↔ (k, id) ∈ listImage s st f := by
  unfold SxValid
  rw [hasVal_iff, mem_listImage]
  exact ⟨fun h => mem_setOf h.2, fun ⟨e, he, hk⟩ => ⟨present_of_mem he, by rw [setOf_of_mem hwf he]; exact hk⟩⟩

theorem fkBackValid_iff {s : St} (hwf : s.WF) {st f : Name} {t x : Id} :
    FkBackValid s st f t x ↔ (t, x) ∈ scalarImage s st f := by
  unfold FkBackValid
  rw [mem_scalarImage_iff hwf, mem_ids, present_iff]
  exact ⟨fun h => ⟨h.1, h.2.2, h.2.2 ▸ h.2.1⟩, fun h => ⟨h.1, h.2.1 ▸ h.2.2, h.2.1⟩⟩

/-! ### what a step reports, and about what -/

theorem about_single {r : Report} {d : Disc} : (∃ r' ∈ [r], r'.about = d) ↔ d = r.about :=
  ⟨fun ⟨_, h, e⟩ => List.mem_singleton.1 h ▸ e.symm, fun e => ⟨r, List.mem_singleton.2 rfl, e.symm⟩⟩

theorem about_single_and {r : Report} {d : Disc} {Q : Prop} (hq : Q) : (∃ r' ∈ [r], r'.about = d) ↔ Q ∧ d = r.about :=
  about_single.trans (and_iff_right hq).symm

theorem about_unless {n : Bool} {r : Report} {d : Disc} :
    (∃ r' ∈ (if n = true then [] else [r]), r'.about = d) ↔ n = false ∧ d = r.about := by
  cases n with
  | true => exact iff_of_false not_exists_mem_nil fun c => nomatch c.1
  | false => exact about_single_and rfl

theorem about_ite_iff {c : Prop} [Decidable c] {a b : St × List Report} {oa ob : Option Disc} {d : Disc}
    (ha : c → ((∃ r ∈ a.2, r.about = d) ↔ oa = some d)) (hb : ¬c → ((∃ r ∈ b.2, r.about = d) ↔ ob = some d)) :
    (∃ r ∈ (if c then a else b).2, r.about = d) ↔ (if c then oa else ob) = some d := by
  split
  · exact ha ‹_›
  · exact hb ‹_›

theorem about_single_some {r : Report} {d : Disc} : (∃ r' ∈ [r], r'.about = d) ↔ some r.about = some d :=
  about_single.trans ⟨fun e => congrArg some e.symm, fun e => (Option.some.inj e).symm⟩

theorem about_nil_none {d : Disc} : (∃ r ∈ ([] : List Report), r.about = d) ↔ (none : Option Disc) = some d :=
  iff_of_false not_exists_mem_nil nofun

theorem or_and_iff_left {P A B : Prop} (hp : P) : (P ∧ A) ∨ (¬P ∧ B) ↔ A :=
  ⟨fun h => h.elim (·.2) fun c => absurd hp c.1, fun h => Or.inl ⟨hp, h⟩⟩

theorem or_and_iff_right {P A B : Prop} (hp : ¬P) : (P ∧ A) ∨ (¬P ∧ B) ↔ B :=
  ⟨fun h => h.elim (fun c => absurd c.1 hp) (·.2), fun h => Or.inr ⟨hp, h⟩⟩

theorem uqStep1_about (st f : Name) (s : St) (kv : Bytes × Id) (d : Disc) :
    (∃ r ∈ (uqStep1 st f false s kv).2, r.about = d) ↔ ¬UqValid s st f kv ∧ d = .uqExtra st f kv.1 kv.2 :=
  exists_mem_ite_snd_iff (fun hp => about_single_and fun hv => not_of_bnot hp hv.1) fun hp =>
    exists_mem_ite_snd_iff (fun hk => iff_of_false not_exists_mem_nil fun h => h.1 ⟨of_not_bnot hp, hk⟩) fun hk =>
      about_single_and fun hv => hk hv.2

theorem uqStep2_about (st f : Name) (n : Bool) (s : St) (id : Id) (d : Disc) :
    (∃ r ∈ (uqStep2 st f n false s id).2, r.about = d) ↔
      (s.evalB st id f = [] ∧ n = false ∧ d = .null st f id) ∨
      (s.evalB st id f ≠ [] ∧ get (s.evalB st id f) (s.uniq st f) ≠ some id ∧ d = .uqMissing st f (s.evalB st id f) id) := by
  rw [uqStep2_eq]
  refine exists_mem_ite_snd_iff (fun hv => about_unless.trans (or_and_iff_left hv).symm) fun hv =>
    Iff.trans ?_ (or_and_iff_right hv).symm
  cases get (s.evalB st id f) (s.uniq st f) with
  | none => exact about_single_and nofun
  | some x =>
    exact exists_mem_ite_snd_iff (fun hx => iff_of_false not_exists_mem_nil fun c => c.1 (hx ▸ rfl))
      fun hx => about_single_and fun c => hx (Option.some.inj c)

theorem unique_about {s : St} (hwf : s.WF) (st f : Name) (n : Bool) (d : Disc) :
    (∃ r ∈ uqRep st f n s, r.about = d) ↔ d ∈ uniqueDiscs s st f n := by
  unfold uqRep uniqueDiscs
  rw [exists_mem_append, exists_mem_flatMap, exists_mem_flatMap]
  simp only [uqStep1_about, uqStep2_about, List.mem_append, mem_diff_map, or_assoc, scalarScan_iff hwf, ne_eq, ← mem_uniq_iff hwf]
  exact or_congr_left (exists_congr fun kv => and_congr_right fun hkv => and_congr_left' (not_congr (uqValid_iff hwf hkv)))

theorem sxInner_about (st f : Name) (key : Bytes) (s : St) (id : Id) (d : Disc) :
    (∃ r ∈ (sxInner st f false key s id).2, r.about = d) ↔ ¬SxValid s st f key id ∧ d = .sxExtra st f key id :=
  exists_mem_ite_snd_iff (fun hp => about_single_and fun hv => not_of_bnot hp hv.1) fun hp =>
    exists_mem_ite_snd_iff (fun hk => about_single_and fun hv => not_of_bnot hk hv.2) fun hk =>
      iff_of_false not_exists_mem_nil fun h => h.1 ⟨of_not_bnot hp, of_not_bnot hk⟩

theorem sxStep2Val_about (st f : Name) (id : Id) (s : St) (v : Bytes) (d : Disc) :
    (∃ r ∈ (sxStep2Val st f false id s v).2, r.about = d) ↔ ¬s.inIdx st f v id = true ∧ d = .sxMissing st f v id :=
  exists_mem_ite_snd_iff (fun h => iff_of_false not_exists_mem_nil fun c => c.1 h) fun h => about_single_and h

theorem sxRep1_about (st f : Name) (s : St) (kv : Bytes × SVal) (d : Disc) :
    (∃ r ∈ sxRep1 st f s kv, r.about = d) ↔
      (match kv.2 with | .junk => some (.sxJunkKey st f kv.1) | .ids [] => some (.sxEmptyKey st f kv.1) | .ids _ => none) = some d ∨
      ∃ l, kv.2 = .ids l ∧ ∃ id ∈ l, ¬SxValid s st f kv.1 id ∧ d = .sxExtra st f kv.1 id := by
  unfold sxRep1
  cases kv.2 with
  | junk => exact about_single.trans ⟨fun e => Or.inl (congrArg some e.symm), fun h => h.elim (fun e => (Option.some.inj e).symm) fun ⟨_, e, _⟩ => (nomatch e)⟩
  | ids l =>
    rw [exists_mem_append, exists_mem_flatMap]
    simp only [sxInner_about, SVal.ids.injEq, exists_eq_left']
    cases l with
    | nil => exact ⟨fun h => h.elim (fun ⟨_, h, _⟩ => (nomatch h)) fun h => Or.inl (congrArg some (about_single.1 h).symm),
        fun h => h.elim (fun e => Or.inr (about_single.2 (Option.some.inj e).symm)) fun ⟨_, h, _⟩ => (nomatch h)⟩
    | cons a t => exact ⟨fun h => h.elim Or.inr fun ⟨_, h, _⟩ => (nomatch h), fun h => h.elim (fun e => (nomatch e)) Or.inl⟩

theorem set_about {s : St} (hwf : s.WF) (st f : Name) (d : Disc) :
    (∃ r ∈ sxRep st f s, r.about = d) ↔ d ∈ setDiscs s st f := by
  unfold sxRep sxRep2 setDiscs
  rw [exists_mem_append, exists_mem_flatMap, exists_mem_flatMap]
  simp only [exists_mem_flatMap, sxRep1_about, sxStep2Val_about, List.mem_append, mem_diff_map, List.mem_filterMap,
    exists_mem_setxPairs, exists_mem_listImage hwf, sxValid_iff hwf, ← mem_setxPairs_iff hwf, and_or_left, exists_or]
  exact or_assoc.trans or_comm

theorem fkInner1_about (st f fkSt fkF : Name) (t : Id) (s : St) (x : Id) (d : Disc) :
    (∃ r ∈ (fkInner1 st f fkSt fkF false t s x).2, r.about = d) ↔ ¬FkBackValid s st f t x ∧ d = .fkBackExtra st f t x :=
  exists_mem_ite_snd_iff (fun hp => about_single_and fun hv => not_of_bnot hp hv.1) fun hp =>
    exists_mem_ite_snd_iff (fun hc => about_single_and fun hv => hc.elim hv.2.1 fun h => h hv.2.2) fun hc =>
      iff_of_false not_exists_mem_nil fun h =>
        h.1 ⟨of_not_bnot hp, fun e => hc (Or.inl e), Classical.byContradiction fun e => hc (Or.inr e)⟩

theorem fkStep2_about (st f : Name) (n : Bool) (fkSt fkF : Name) (s : St) (id : Id) (d : Disc) :
    (∃ r ∈ (fkStep2 st f n fkSt fkF false s id).2, r.about = d) ↔
      (s.evalB st id f = [] ∧ n = false ∧ d = .null st f id) ∨
      (s.evalB st id f ≠ [] ∧
        (if !s.present fkSt (s.evalB st id f) then some (.fkDangling st f id (s.evalB st id f))
          else if !s.hasBack fkSt (s.evalB st id f) fkF id then some (.fkBackMissing st f id (s.evalB st id f)) else none) = some d) :=
  exists_mem_ite_snd_iff (fun hB => about_unless.trans (or_and_iff_left hB).symm) fun hB =>
    Iff.trans (about_ite_iff (fun _ => about_single_some) fun _ => by
      cases s.hasBack fkSt (s.evalB st id f) fkF id with
      | true => exact about_nil_none
      | false => exact about_single_some) (or_and_iff_right hB).symm

theorem fkIndex_about {s : St} (hwf : s.WF) (st f : Name) (n : Bool) (fkSt fkF : Name) (d : Disc) :
    (∃ r ∈ fkRep st f n fkSt fkF s, r.about = d) ↔ d ∈ fkIndexDiscs s st f n fkSt fkF := by
  unfold fkRep fkRep1 fkIndexDiscs
  rw [exists_mem_append, exists_mem_flatMap, exists_mem_flatMap]
  simp only [exists_mem_flatMap, fkInner1_about, fkStep2_about, List.mem_append, mem_diff_map, List.mem_filterMap,
    contains_listImage hwf, or_assoc, scalarScan_iff hwf, exists_mem_listImage hwf, fkBackValid_iff hwf]

theorem fcStep_about (st f : Name) (n : Bool) (linked : Name) (s : St) (id : Id) (d : Disc) :
    (∃ r ∈ (fcStep st f n linked false s id).2, r.about = d) ↔
      (s.evalB st id f = [] ∧ n = false ∧ d = .null st f id) ∨
      (s.evalB st id f ≠ [] ∧
        (if !s.present linked (s.evalB st id f) then some (.fkDangling st f id (s.evalB st id f)) else none) = some d) :=
  exists_mem_ite_snd_iff (fun hB => about_unless.trans (or_and_iff_left hB).symm) fun hB =>
    Iff.trans (about_ite_iff (fun _ => about_single_some) fun _ => about_nil_none) (or_and_iff_right hB).symm

theorem fkCons_about {s : St} (hwf : s.WF) (st f : Name) (n : Bool) (linked : Name) (d : Disc) :
    (∃ r ∈ fcRep st f n linked s, r.about = d) ↔ d ∈ fkConsDiscs s st f n linked := by
  unfold fcRep fkConsDiscs
  rw [exists_mem_flatMap]
  simp only [fcStep_about, List.mem_append, List.mem_filterMap, scalarScan_iff hwf]

theorem lkInner_about (st f oSt oF : Name) (a : Id) (s : St) (b : Id) (d : Disc) :
    (∃ r ∈ (lkInner st f oSt oF false a s b).2, r.about = d) ↔
      (if !s.present oSt b then some (.lkDangling st f a b)
        else if !s.hasBack oSt b oF a then some (.lkOneSided st f a b) else none) = some d :=
  about_ite_iff (fun _ => about_single_some) fun _ => about_ite_iff (fun _ => about_single_some) fun _ => about_nil_none

theorem link_about {s : St} (hwf : s.WF) (S : Schema) (lc : LinkColl) (d : Disc) :
    (∃ r ∈ lc.rep S s, r.about = d) ↔ d ∈ linkDiscs S s lc := by
  unfold LinkColl.rep lkRep lkRep1 linkDiscs
  rw [exists_mem_append, exists_mem_flatMap]
  simp only [exists_mem_flatMap, lkInner_about, List.mem_append, List.mem_filterMap, contains_listImage hwf, exists_mem_listImage hwf]
  refine or_congr_left ?_
  cases S.hasInverse lc with
  | true => exact iff_of_false not_exists_mem_nil (fun h => nomatch h)
  | false => exact about_single.trans List.mem_singleton.symm

theorem constraint_about {s : St} (hwf : s.WF) (c : Constraint) (d : Disc) :
    (∃ r ∈ c.rep s, r.about = d) ↔ d ∈ c.discs s := by
  cases c with
  | unique st f n => exact unique_about hwf st f n d
  | setIdx st f => exact set_about hwf st f d
  | fkIndex st f n fkSt fkF => exact fkIndex_about hwf st f n fkSt fkF d
  | fkCons st f n linked => exact fkCons_about hwf st f n linked d
  | noop => exact iff_of_false not_exists_mem_nil (fun h => nomatch h)

/-- **sound and complete**: a check-only run reports about exactly the inconsistencies -/
theorem checkReports_about {s : St} (hwf : s.WF) (S : Schema) (d : Disc) :
    (∃ r ∈ checkReports S s, r.about = d) ↔ d ∈ inconsistencies S s := by
  unfold checkReports inconsistencies StoreDef.rep StoreDef.discs
  simp only [exists_mem_flatMap, exists_mem_append, link_about hwf, constraint_about hwf]
  simp only [List.mem_flatMap, List.mem_append]

end StorageModel.C09
