import StorageModel.C09.Compose
/-
  C09 — idempotence: a fix run over a state on which every unit is `Good` writes nothing.
-/
namespace StorageModel.C09

theorem runSteps_fst_of_id {α : Type} (step : St → α → St × List Report) (l : List α) (s : St)
    (h : ∀ a ∈ l, (step s a).1 = s) : (runSteps step l s).1 = s :=
  runSteps_inv_mem step (· = s) l (fun _ a ha hx => hx ▸ h a ha) s rfl

theorem seq_fst_of_id (p q : Proc) (s : St) (h : (p s).1 = s) : (p.seq q s).1 = (q s).1 := by
  rw [seq_fst, h]

theorem link_good_id (st f oSt oF : Name) (hasInv : Bool) (s : St) (h : ∀ a b, LinkOk s st f oSt oF a b) :
    (linkCheck st f oSt oF hasInv true s).1 = s := by
  show (runSteps (lkStep st f oSt oF true) (s.ids st) s).1 = s
  apply runSteps_fst_of_id
  intro a _
  have hloop : (runSteps (lkInner st f oSt oF true a) (s.setOf st a f) s).1 = s := by
    apply runSteps_fst_of_id
    intro b hb
    obtain ⟨h1, h2⟩ := h a b hb
    rw [lkInner_true_fst]
    simp [h1, h2]
  have hnone : (s.setOf st a f).filter (fun l => !s.present oSt l) = [] := by
    apply List.filter_eq_nil_iff.2
    intro b hb
    simp [(h a b hb).1]
  rw [lkStep_true_fst, hnone, hloop]; rfl

theorem unique_good_id (st f : Name) (n : Bool) (s : St) (h : UqGood s st f) : (uniqueCheck st f n true s).1 = s := by
  refine (seq_fst_of_id _ _ s ?_).trans (runSteps_fst_of_id _ _ _ fun id hid => ?_)
  · exact runSteps_fst_of_id _ _ _ fun kv hkv => by rw [uqStep1_true_fst, if_pos (h.1 kv hkv)]
  · rw [uqStep2_true_fst, if_pos (h.2 id hid)]

theorem fkCons_good_id (st f : Name) (n : Bool) (linked : Name) (s : St)
    (h : ∀ id ∈ s.ids st, FcOk s st f n linked id) : (fkConsCheck st f n linked true s).1 = s := by
  exact runSteps_fst_of_id _ _ _ fun id hid => by rw [fcStep_true_fst, if_pos (h id hid)]

theorem fkIndex_good_id (st f : Name) (n : Bool) (fkSt fkF : Name) (s : St) (h : FkGood s st f n fkSt fkF) :
    (fkIndexCheck st f n fkSt fkF true s).1 = s := by
  refine (seq_fst_of_id _ _ s ?_).trans (runSteps_fst_of_id _ _ _ fun id hid => ?_)
  · exact runSteps_fst_of_id _ _ _ fun t _ => runSteps_fst_of_id _ _ _ fun x hx => by
      rw [fkInner1_true_fst, if_pos (h.1 t x hx)]
  · rcases fkStep2_true_cases st f n fkSt fkF s id with ⟨e, _⟩ | ⟨hB, hp, hn, _⟩ | ⟨hB, hp, hb, _⟩
    · exact e
    · rw [(h.2 id hid hB).2 hp] at hn; cases hn
    · rw [(h.2 id hid hB).1 hp] at hb; cases hb

theorem sxToDelete_nil (st f : Name) (s : St) (B : List (Bytes × SVal)) (h : ∀ kv ∈ B, SxEntryOk s st f kv) :
    sxToDelete st f true s B = [] := by
  rw [sxToDelete_filterMap, List.filterMap_eq_nil_iff]
  intro kv hkv
  obtain ⟨l, hl, hne, hv⟩ := h kv hkv
  rw [hl]
  obtain ⟨a, ha⟩ := List.exists_mem_of_ne_nil l hne
  exact if_neg fun h0 => (sxKept_zero_iff ..).1 h0 a ha (hv a ha)

theorem set_good_id (st f : Name) (s : St) (h : SetGood s st f) : (setCheck st f true s).1 = s := by
  have h1 : (runSteps (sxStep1 st f true) (s.setx st f) s).1 = s := by
    refine runSteps_fst_of_id _ _ _ fun kv hkv => ?_
    obtain ⟨l, hl, _, hv⟩ := h.1 kv hkv
    rw [sxStep1_true_fst, hl]
    exact runSteps_fst_of_id _ _ _ fun id hid => by rw [sxInner_true_fst, if_pos (hv id hid)]
  refine (seq_fst_of_id _ _ s ?_).trans (runSteps_fst_of_id _ _ _ fun id hid => runSteps_fst_of_id _ _ _ fun v hv => ?_)
  · show sxDeleteKeys st f (sxToDelete st f true s (s.setx st f)) (runSteps (sxStep1 st f true) (s.setx st f) s).1 = s
    rw [h1, sxToDelete_nil st f s _ h.1]; rfl
  · rw [sxStep2Val_true_fst, if_pos (h.2 id hid v hv)]

theorem CUnit.good_fix_id (u : CUnit) (s : St) (h : u.Good s) : (u.run true s).1 = s := by
  cases u with
  | link lc hi => exact link_good_id lc.st lc.f lc.oSt lc.oF hi s h
  | cons c =>
    cases c with
    | unique st f n => exact unique_good_id st f n s h
    | setIdx st f => exact set_good_id st f s h
    | fkIndex st f n fkSt fkF => exact fkIndex_good_id st f n fkSt fkF s h
    | fkCons st f n linked => exact fkCons_good_id st f n linked s h
    | noop => rfl

theorem units_idempotent (us : List CUnit) (s : St) (h : ∀ u ∈ us, u.Good s) :
    (seqAll (us.map (CUnit.run true)) s).1 = s := by
  refine seqAll_inv (· = s) _ (fun p hp x hx => ?_) s rfl
  obtain ⟨u, hu, rfl⟩ := List.mem_map.1 hp
  exact hx ▸ u.good_fix_id s (h u hu)

theorem checkAll_fix_idempotent (S : Schema) (hS : SchemaOk S) (s : St) (hn : ∀ st f, NodupKeys (s.setx st f)) :
    (checkAll S true (checkAll S true s).1).1 = (checkAll S true s).1 := by
  have hg := units_converge S.units hS.1 hS.2 s hn
  rw [← checkAll_units] at hg
  rw [checkAll_units S true (checkAll S true s).1]
  exact units_idempotent S.units _ hg

theorem checkAll_fix_noop (S : Schema) (s : St) (h : checkReports S s = []) : (checkAll S true s).1 = s := by
  rw [checkReports_units] at h
  rw [checkAll_units]
  exact units_idempotent S.units s fun u hu => u.good_of_rep_nil s (List.flatMap_eq_nil_iff.1 h u hu)

end StorageModel.C09
