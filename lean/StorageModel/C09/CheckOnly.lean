import StorageModel.C09.Basic
/-
  C09 — the checker in check-only mode (`fix = false`): the state is returned unchanged and the
  report list is an explicit comprehension over the state.  And, for either mode: every report
  names the location of the constraint that emitted it and claims a repair only in fix mode.
-/
namespace StorageModel.C09

def uqRep (st f : Name) (n : Bool) (s : St) : List Report :=
  (s.uniq st f).flatMap (fun kv => (uqStep1 st f false s kv).2)
    ++ (s.ids st).flatMap (fun id => (uqStep2 st f n false s id).2)

def sxRep1 (st f : Name) (s : St) (kv : Bytes × SVal) : List Report :=
  match kv.2 with
  | .junk => [⟨st, f, .sxJunk kv.1, false⟩]
  | .ids l =>
    l.flatMap (fun id => (sxInner st f false kv.1 s id).2)
      ++ (if l = [] then [⟨st, f, .sxEmpty kv.1, false⟩] else [])

def sxRep2 (st f : Name) (s : St) (id : Id) : List Report :=
  (s.setOf st id f).flatMap (fun v => (sxStep2Val st f false id s v).2)

def sxRep (st f : Name) (s : St) : List Report :=
  (s.setx st f).flatMap (sxRep1 st f s) ++ (s.ids st).flatMap (sxRep2 st f s)

def fkRep1 (st f fkSt fkF : Name) (s : St) (id : Id) : List Report :=
  (s.setOf fkSt id fkF).flatMap (fun x => (fkInner1 st f fkSt fkF false id s x).2)

def fkRep (st f : Name) (n : Bool) (fkSt fkF : Name) (s : St) : List Report :=
  (s.ids fkSt).flatMap (fkRep1 st f fkSt fkF s)
    ++ (s.ids st).flatMap (fun id => (fkStep2 st f n fkSt fkF false s id).2)

def fcRep (st f : Name) (n : Bool) (linked : Name) (s : St) : List Report :=
  (s.ids st).flatMap (fun id => (fcStep st f n linked false s id).2)

def lkRep1 (st f oSt oF : Name) (s : St) (id : Id) : List Report :=
  (s.setOf st id f).flatMap (fun l => (lkInner st f oSt oF false id s l).2)

def lkRep (st f oSt oF : Name) (hasInv : Bool) (s : St) : List Report :=
  (if hasInv then [] else [⟨st, f, .lkNoInverse, false⟩]) ++ (s.ids st).flatMap (lkRep1 st f oSt oF s)

def Constraint.rep (s : St) : Constraint → List Report
  | .unique st f n => uqRep st f n s
  | .setIdx st f => sxRep st f s
  | .fkIndex st f n fkSt fkF => fkRep st f n fkSt fkF s
  | .fkCons st f n linked => fcRep st f n linked s
  | .noop => []

def LinkColl.rep (S : Schema) (s : St) (lc : LinkColl) : List Report :=
  lkRep lc.st lc.f lc.oSt lc.oF (S.hasInverse lc) s

def StoreDef.rep (S : Schema) (s : St) (sd : StoreDef) : List Report :=
  sd.links.flatMap (LinkColl.rep S s) ++ sd.constraints.flatMap (Constraint.rep s)

/-- everything a check-only run over the whole schema reports -/
def checkReports (S : Schema) (s : St) : List Report := S.flatMap (StoreDef.rep S s)

theorem seq_id {p q : Proc} {s : St} {a b : List Report} (hp : p s = (s, a)) (hq : q s = (s, b)) :
    p.seq q s = (s, a ++ b) := by
  unfold Proc.seq; simp only [hp, hq]

theorem runSteps_rep {α : Type} {step : St → α → St × List Report} {R : St → α → List Report}
    (h : ∀ s a, step s a = (s, R s a)) (l : List α) (s : St) : runSteps step l s = (s, l.flatMap (R s)) := by
  simp only [runSteps_id step fun s a => by rw [h], h]

theorem uqStep1_false (st f : Name) (s : St) (kv : Bytes × Id) : (uqStep1 st f false s kv).1 = s :=
  ite_fst rfl (ite_fst rfl rfl)

/-- a nil field and an empty value are skipped alike: the step as a function of the value alone -/
theorem uqStep2_eq (st f : Name) (n fix : Bool) (s : St) (id : Id) : uqStep2 st f n fix s id =
    if s.evalB st id f = [] then (s, if n = true then [] else [⟨st, f, .uqNull id, false⟩])
    else match get (s.evalB st id f) (s.uniq st f) with
      | none => (if fix = true then uqRepair s st f (s.evalB st id f) id else s, [⟨st, f, .uqMissing (s.evalB st id f) id, fix⟩])
      | some x => if x = id then (s, []) else (s, [⟨st, f, .uqDup (s.evalB st id f) x id, false⟩]) := by
  unfold uqStep2 readU St.evalB
  cases s.evalT st id f with
  | nil => rfl
  | str v =>
    show (if v = [] then _ else _) = if v = [] then _ else _
    by_cases hv : v = []
    · rw [if_pos hv, if_pos hv]
    · rw [if_neg hv, if_neg hv, if_neg hv]; rfl

theorem uqStep2_false (st f : Name) (n : Bool) (s : St) (id : Id) : (uqStep2 st f n false s id).1 = s := by
  rw [uqStep2_eq]
  refine ite_fst rfl ?_
  cases get (s.evalB st id f) (s.uniq st f) with
  | none => rfl
  | some x => exact ite_fst rfl rfl

theorem unique_false (st f : Name) (n : Bool) (s : St) : uniqueCheck st f n false s = (s, uqRep st f n s) :=
  seq_id (runSteps_id _ (uqStep1_false st f) ..) (runSteps_id _ (uqStep2_false st f n) ..)

theorem sxInner_false (st f : Name) (key : Bytes) (s : St) (id : Id) : (sxInner st f false key s id).1 = s :=
  ite_fst rfl (ite_fst rfl rfl)

theorem sxStep1_false (st f : Name) (s : St) (kv : Bytes × SVal) :
    sxStep1 st f false s kv = (s, sxRep1 st f s kv) := by
  unfold sxStep1 sxRep1
  cases kv.2 with
  | junk => rfl
  | ids l => simp only [runSteps_id _ (sxInner_false st f kv.1)]

theorem sxToDelete_false (st f : Name) (s : St) (l : List (Bytes × SVal)) :
    sxToDelete st f false s l = [] := by
  induction l with
  | nil => rfl
  | cons kv t ih =>
    unfold sxToDelete
    split
    · exact ih
    · simp [ih]

theorem sxStep2Val_false (st f : Name) (id : Id) (s : St) (v : Bytes) : (sxStep2Val st f false id s v).1 = s :=
  ite_fst rfl rfl

theorem sxStep2_false (st f : Name) (s : St) (id : Id) : sxStep2 st f false s id = (s, sxRep2 st f s id) := by
  unfold sxStep2 sxRep2
  rw [runSteps_id _ (sxStep2Val_false st f id)]

theorem set_false (st f : Name) (s : St) : setCheck st f false s = (s, sxRep st f s) := by
  refine seq_id ?_ (runSteps_rep (sxStep2_false st f) ..)
  rw [sxToDelete_false, runSteps_rep (sxStep1_false st f)]
  rfl

theorem fkInner1_false (st f fkSt fkF : Name) (id : Id) (s : St) (x : Id) :
    (fkInner1 st f fkSt fkF false id s x).1 = s :=
  ite_fst rfl (ite_fst rfl rfl)

theorem fkStep1_false (st f fkSt fkF : Name) (s : St) (id : Id) :
    fkStep1 st f fkSt fkF false s id = (s, fkRep1 st f fkSt fkF s id) := by
  unfold fkStep1 fkRep1
  rw [runSteps_id _ (fkInner1_false st f fkSt fkF id)]

theorem fkDanglingStep_false (st f : Name) (n : Bool) (s : St) (id key : Id) :
    (fkDanglingStep st f n false s id key).1 = s := by
  unfold fkDanglingStep; simp

theorem fkStep2_false (st f : Name) (n : Bool) (fkSt fkF : Name) (s : St) (id : Id) :
    (fkStep2 st f n fkSt fkF false s id).1 = s :=
  ite_fst rfl (ite_fst (fkDanglingStep_false ..) (ite_fst rfl rfl))

theorem fkIndex_false (st f : Name) (n : Bool) (fkSt fkF : Name) (s : St) :
    fkIndexCheck st f n fkSt fkF false s = (s, fkRep st f n fkSt fkF s) := by
  exact seq_id (runSteps_rep (fkStep1_false st f fkSt fkF) ..) (runSteps_id _ (fkStep2_false st f n fkSt fkF) ..)

theorem fcStep_false (st f : Name) (n : Bool) (linked : Name) (s : St) (id : Id) :
    (fcStep st f n linked false s id).1 = s :=
  ite_fst rfl (ite_fst (fkDanglingStep_false ..) rfl)

theorem fkCons_false (st f : Name) (n : Bool) (linked : Name) (s : St) :
    fkConsCheck st f n linked false s = (s, fcRep st f n linked s) := by
  unfold fkConsCheck fcRep
  rw [runSteps_id _ (fcStep_false st f n linked)]

theorem lkInner_false (st f oSt oF : Name) (id : Id) (s : St) (l : Id) :
    (lkInner st f oSt oF false id s l).1 = s :=
  ite_fst rfl (ite_fst rfl rfl)

theorem lkStep_false (st f oSt oF : Name) (s : St) (id : Id) :
    lkStep st f oSt oF false s id = (s, lkRep1 st f oSt oF s id) := by
  unfold lkStep lkRep1
  simp only [runSteps_id _ (lkInner_false st f oSt oF id), Bool.false_eq_true, if_false]

theorem link_false (st f oSt oF : Name) (hasInv : Bool) (s : St) :
    linkCheck st f oSt oF hasInv false s = (s, lkRep st f oSt oF hasInv s) := by
  exact seq_id rfl (runSteps_rep (lkStep_false st f oSt oF) ..)

theorem constraint_false (c : Constraint) (s : St) : c.check false s = (s, c.rep s) := by
  cases c with
  | unique st f n => exact unique_false st f n s
  | setIdx st f => exact set_false st f s
  | fkIndex st f n fkSt fkF => exact fkIndex_false st f n fkSt fkF s
  | fkCons st f n linked => exact fkCons_false st f n linked s
  | noop => rfl

theorem seqAll_id {α : Type} (f : α → Proc) (R : α → St → List Report) (l : List α) (s : St)
    (h : ∀ a ∈ l, f a s = (s, R a s)) : seqAll (l.map f) s = (s, l.flatMap fun a => R a s) := by
  induction l with
  | nil => rfl
  | cons a t ih =>
    have h1 := h a (List.mem_cons_self ..)
    have h2 := ih fun b hb => h b (List.mem_cons_of_mem _ hb)
    exact seq_id h1 h2

theorem store_false (S : Schema) (sd : StoreDef) (s : St) : sd.check S false s = (s, sd.rep S s) := by
  exact seq_id
    (seqAll_id (LinkColl.check S false) (fun lc s => lc.rep S s) sd.links s
      fun lc _ => link_false lc.st lc.f lc.oSt lc.oF (S.hasInverse lc) s)
    (seqAll_id (Constraint.check false) (fun c s => c.rep s) sd.constraints s fun c _ => constraint_false c s)

theorem checkAll_false (S : Schema) (s : St) : checkAll S false s = (s, checkReports S s) := by
  unfold checkAll checkReports
  exact seqAll_id (StoreDef.check S false) (fun sd s => sd.rep S s) S s (fun sd _ => store_false S sd s)

/-- a report of the constraint declared on `(st, f)`, claiming a repair only if `fix` -/
def Report.Of (st f : Name) (fix : Bool) (r : Report) : Prop :=
  r.store = st ∧ r.field = f ∧ (r.fixed = true → fix = true)

theorem of_report {st f : Name} {fix b : Bool} (m : Msg) (h : b = true → fix = true) :
    ∀ r ∈ [(⟨st, f, m, b⟩ : Report)], r.Of st f fix := forall_mem_single ⟨rfl, rfl, h⟩

theorem uqStep1_of (st f : Name) (fix : Bool) (s : St) (kv : Bytes × Id) :
    ∀ r ∈ (uqStep1 st f fix s kv).2, r.Of st f fix :=
  forall_mem_ite_snd (of_report _ fun h => h) (forall_mem_ite_snd forall_mem_nil (of_report _ fun h => h))

theorem uqStep2_of (st f : Name) (n fix : Bool) (s : St) (id : Id) :
    ∀ r ∈ (uqStep2 st f n fix s id).2, r.Of st f fix := by
  rw [uqStep2_eq]
  refine forall_mem_ite_snd (forall_mem_ite forall_mem_nil (of_report _ nofun)) ?_
  cases get (s.evalB st id f) (s.uniq st f) with
  | none => exact of_report _ fun h => h
  | some x => exact forall_mem_ite_snd forall_mem_nil (of_report _ nofun)

theorem uniqueCheck_of (st f : Name) (n fix : Bool) (s : St) : ∀ r ∈ (uniqueCheck st f n fix s).2, r.Of st f fix :=
  seq_reports (fun s => runSteps_reports (uqStep1_of st f fix) _ s) (fun s => runSteps_reports (uqStep2_of st f n fix) _ s) s

theorem sxInner_of (st f : Name) (fix : Bool) (key : Bytes) (s : St) (id : Id) :
    ∀ r ∈ (sxInner st f fix key s id).2, r.Of st f fix :=
  forall_mem_ite_snd (of_report _ fun h => h) (forall_mem_ite_snd (of_report _ fun h => h) forall_mem_nil)

theorem sxStep1_of (st f : Name) (fix : Bool) (s : St) (kv : Bytes × SVal) :
    ∀ r ∈ (sxStep1 st f fix s kv).2, r.Of st f fix := by
  unfold sxStep1
  cases kv.2 with
  | junk => exact of_report _ fun h => h
  | ids l => exact forall_mem_append (runSteps_reports (sxInner_of st f fix kv.1) l s) (forall_mem_ite (of_report _ fun h => h) forall_mem_nil)

theorem sxStep2Val_of (st f : Name) (fix : Bool) (id : Id) (s : St) (v : Bytes) :
    ∀ r ∈ (sxStep2Val st f fix id s v).2, r.Of st f fix :=
  forall_mem_ite_snd forall_mem_nil (of_report _ fun h => h)

theorem setCheck_of (st f : Name) (fix : Bool) (s : St) : ∀ r ∈ (setCheck st f fix s).2, r.Of st f fix := by
  unfold setCheck
  refine seq_reports (fun s => ?_)
    (fun s => runSteps_reports (fun s id => runSteps_reports (sxStep2Val_of st f fix id) _ s) _ s) s
  exact runSteps_reports (sxStep1_of st f fix) (s.setx st f) s

theorem fkInner1_of (st f fkSt fkF : Name) (fix : Bool) (t : Id) (s : St) (x : Id) :
    ∀ r ∈ (fkInner1 st f fkSt fkF fix t s x).2, r.Of st f fix :=
  forall_mem_ite_snd (of_report _ fun h => h) (forall_mem_ite_snd (of_report _ fun h => h) forall_mem_nil)

theorem fkDanglingStep_of (st f : Name) (n fix : Bool) (s : St) (id key : Id) :
    ∀ r ∈ (fkDanglingStep st f n fix s id key).2, r.Of st f fix :=
  of_report _ fun h => (Bool.and_eq_true_iff.1 h).2

theorem fkStep2_of (st f : Name) (n : Bool) (fkSt fkF : Name) (fix : Bool) (s : St) (id : Id) :
    ∀ r ∈ (fkStep2 st f n fkSt fkF fix s id).2, r.Of st f fix :=
  forall_mem_ite_snd (forall_mem_ite forall_mem_nil (of_report _ nofun))
    (forall_mem_ite_snd (fkDanglingStep_of st f n fix s id _) (forall_mem_ite_snd forall_mem_nil (of_report _ fun h => h)))

theorem fkIndexCheck_of (st f : Name) (n : Bool) (fkSt fkF : Name) (fix : Bool) (s : St) :
    ∀ r ∈ (fkIndexCheck st f n fkSt fkF fix s).2, r.Of st f fix :=
  seq_reports (fun s => runSteps_reports (fun s t => runSteps_reports (fkInner1_of st f fkSt fkF fix t) _ s) _ s)
    (fun s => runSteps_reports (fkStep2_of st f n fkSt fkF fix) _ s) s

theorem fcStep_of (st f : Name) (n : Bool) (linked : Name) (fix : Bool) (s : St) (id : Id) :
    ∀ r ∈ (fcStep st f n linked fix s id).2, r.Of st f fix :=
  forall_mem_ite_snd (forall_mem_ite forall_mem_nil (of_report _ nofun)) (forall_mem_ite_snd (fkDanglingStep_of st f n fix s id _) forall_mem_nil)

theorem fkConsCheck_of (st f : Name) (n : Bool) (linked : Name) (fix : Bool) (s : St) :
    ∀ r ∈ (fkConsCheck st f n linked fix s).2, r.Of st f fix :=
  runSteps_reports (fcStep_of st f n linked fix) _ s

theorem lkInner_of (st f oSt oF : Name) (fix : Bool) (id : Id) (s : St) (l : Id) :
    ∀ r ∈ (lkInner st f oSt oF fix id s l).2, r.Of st f fix :=
  forall_mem_ite_snd (of_report _ fun h => h) (forall_mem_ite_snd (of_report _ fun h => h) forall_mem_nil)

theorem lkStep_of (st f oSt oF : Name) (fix : Bool) (s : St) (id : Id) :
    ∀ r ∈ (lkStep st f oSt oF fix s id).2, r.Of st f fix :=
  runSteps_reports (lkInner_of st f oSt oF fix id) _ s

theorem linkCheck_of (st f oSt oF : Name) (hasInv fix : Bool) (s : St) :
    ∀ r ∈ (linkCheck st f oSt oF hasInv fix s).2, r.Of st f fix := by
  unfold linkCheck
  refine seq_reports (fun s => ?_) (fun s => runSteps_reports (lkStep_of st f oSt oF fix) _ s) s
  exact forall_mem_ite forall_mem_nil (of_report _ nofun)

theorem checkAll_fixed (S : Schema) (fix : Bool) (s : St) : ∀ r ∈ (checkAll S fix s).2, r.fixed = true → fix = true := by
  refine seqAll_reports (fun p hp => ?_) s
  obtain ⟨sd, _, rfl⟩ := List.mem_map.1 hp
  refine seq_reports (seqAll_reports fun p hp => ?_) (seqAll_reports fun p hp => ?_)
  · obtain ⟨lc, _, rfl⟩ := List.mem_map.1 hp
    exact fun s r hr => (linkCheck_of _ _ _ _ _ fix s r hr).2.2
  · obtain ⟨c, _, rfl⟩ := List.mem_map.1 hp
    intro s r hr
    cases c with
    | unique st f n => exact (uniqueCheck_of st f n fix s r hr).2.2
    | setIdx st f => exact (setCheck_of st f fix s r hr).2.2
    | fkIndex st f n fkSt fkF => exact (fkIndexCheck_of st f n fkSt fkF fix s r hr).2.2
    | fkCons st f n linked => exact (fkConsCheck_of st f n linked fix s r hr).2.2
    | noop => cases hr

end StorageModel.C09
