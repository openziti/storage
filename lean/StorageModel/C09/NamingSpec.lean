import StorageModel.C09.NamingIrrelevant
/-
  C09 — specification and transport for schemas with names, keys / paths and declaring stores.

  * what an inconsistency is: `inconsistenciesN G L n` — the symmetric difference between every index /
    back-reference list / link list and the image of the entity table, where the value of a symbol of an
    entity is what is stored at the symbol's PATH inside the bucket its STORE's `GetEntityBucket` returns, and
    an index is the bucket named by the symbol's NAME (`inconsistencies` of C09/Spec.lean over `nview`);
  * well-formedness of the physical database (`NSt.WF`: what bbolt gives) and `nview_wf`;
  * a check-only run returns the PHYSICAL database unchanged (`checkAllN_false`, proved on the physical model:
    also the keys no symbol of the schema names are untouched);
  * a fix run writes entity buckets only at paths of declared symbols (`checkAllN_frame`): whatever is stored
    under a key that is not the path of a declared symbol of that store — in particular under a symbol's NAME
    when the name is not a key — is exactly what it was.
  Both are `simr_stores` (C09/NamingIrrelevant.lean) at the identity renaming: what is left to show is that each of
  the four kinds of writes keeps the frame.
-/
namespace StorageModel.C09

def inconsistenciesN (G : NSchema) (L : Layering) (n : NSt) : List Disc := inconsistencies G.flat (nview G L n)

/-- the consistent physical databases -/
def InvN (G : NSchema) (L : Layering) (n : NSt) : Prop := inconsistenciesN G L n = []

instance (G : NSchema) (L : Layering) (n : NSt) : Decidable (InvN G L n) := by unfold InvN; infer_instance

/-- what bbolt guarantees of the physical database: distinct keys per bucket, non-empty unique-index keys,
    distinct elements per list bucket -/
structure NSt.WF (n : NSt) : Prop where
  ents : ∀ r, NodupKeys (n.ents r)
  uniq : ∀ st f, NodupKeys (n.uniq st f)
  setx : ∀ st f, NodupKeys (n.setx st f)
  uniqKey : ∀ st f kv, kv ∈ n.uniq st f → kv.1 ≠ []
  own : ∀ r q p, q ∈ n.ents r → (q.2.own.sets p).Nodup
  child : ∀ r q c e p, q ∈ n.ents r → q.2.child c = some e → (e.sets p).Nodup
  idsNodup : ∀ st f kv l, kv ∈ n.setx st f → kv.2 = .ids l → l.Nodup

theorem NSt.WF.keysOk {n : NSt} (h : n.WF) : n.KeysOk := h.ents

theorem view_sets_nodup (G : NSchema) (st : Name) (e : NEnt) (h : ∀ p, (e.sets p).Nodup) (f : Name) :
    ((e.view G st).sets f).Nodup := by
  simp only [NEnt.view]
  cases G.pathOf st f with
  | none => exact List.nodup_nil
  | some p => exact h p

theorem rename_wf (G : NSchema) {n : NSt} (h : n.WF) : (n.rename G).WF := by
  refine ⟨rename_keysOk h.keysOk, h.uniq, h.setx, h.uniqKey, ?_, ?_, h.idsNodup⟩
  · intro r q f hq
    simp only [NSt.rename] at hq
    obtain ⟨q0, hq0, rfl⟩ := List.mem_map.1 hq
    exact view_sets_nodup G r q0.2.own (fun p => h.own r q0 p hq0) f
  · intro r q c e f hq hc
    simp only [NSt.rename] at hq
    obtain ⟨q0, hq0, rfl⟩ := List.mem_map.1 hq
    simp only at hc
    cases hc0 : q0.2.child c with
    | none => rw [hc0] at hc; cases hc
    | some e0 =>
      rw [hc0] at hc
      simp only [Option.map_some, Option.some.injEq] at hc
      subst hc
      exact view_sets_nodup G c e0 (fun p => h.child r q0 c e0 p hq0 hc0) f

theorem nview_wf (G : NSchema) (L : Layering) {n : NSt} (h : n.WF) : (nview G L n).WF :=
  view_wf L _ (rename_wf G h)

theorem renRel_refl (n : NSt) : RenRel id n n := ⟨rfl, fun _ _ => rfl, fun _ _ => rfl⟩

/-- **a check-only run returns the physical database unchanged** — every key of every bucket, also the
    ones no symbol of the schema names; no hypothesis.  (`simr_stores` at `ρ = id`, for the relation "both are `n`":
    without `fix` there is no write to account for.) -/
theorem checkStoresN_false (G : NSchema) (L : Layering) (sds : List NStoreDef) (n : NSt) :
    (checkStoresN G L false sds n).1 = n :=
  have W : RenInv L id false (fun _ => True) (fun m m' => m = n ∧ m' = n) :=
    ⟨fun h => h.1 ▸ h.2 ▸ renRel_refl n, nofun, nofun, nofun, nofun⟩
  (simr_stores (fun _ _ h => h) W G sds (fun _ _ _ _ => trivial) n n ⟨rfl, rfl⟩).1.1

theorem checkAllN_false (G : NSchema) (L : Layering) (n : NSt) : (checkAllN G L false n).1 = n :=
  checkStoresN_false G L G.stores n

/-- the paths of the symbols of store `st` the schema declares -/
def NSchema.pathsOf (G : NSchema) (st : Name) : List (List Name) :=
  (G.syms.filter fun y => y.store = st).map (·.path)

/-- `m` agrees with `n` on everything but the index buckets and the declared paths of entity buckets: the
    same ids in every entities bucket, the same child-store membership, and the same value / list under
    every path that is NOT the path of a declared symbol of the store the bucket belongs to -/
structure FrameN (G : NSchema) (n m : NSt) : Prop where
  keys : ∀ r, (m.ents r).map (·.1) = (n.ents r).map (·.1)
  own : ∀ r id q q', get id (n.ents r) = some q → get id (m.ents r) = some q' →
    (∀ p, p ∉ G.pathsOf r → q'.own.fields p = q.own.fields p ∧ q'.own.sets p = q.own.sets p) ∧
    (∀ c, (q'.child c).isSome = (q.child c).isSome) ∧
    (∀ c e e', q.child c = some e → q'.child c = some e' →
      ∀ p, p ∉ G.pathsOf c → e'.fields p = e.fields p ∧ e'.sets p = e.sets p)

theorem FrameN.refl (G : NSchema) (n : NSt) : FrameN G n n := by
  refine ⟨fun _ => rfl, ?_⟩
  intro r id q q' h h'
  rw [h] at h'
  cases h'
  refine ⟨fun _ _ => ⟨rfl, rfl⟩, fun _ => rfl, ?_⟩
  intro c e e' he he'
  rw [he] at he'
  cases he'
  exact fun _ _ => ⟨rfl, rfl⟩

theorem FrameN.trans {G : NSchema} {a b c : NSt} (h1 : FrameN G a b) (h2 : FrameN G b c) : FrameN G a c := by
  refine ⟨fun r => (h2.keys r).trans (h1.keys r), ?_⟩
  intro r id q q'' hq hq''
  have hmem : (get id (b.ents r)).isSome := by
    rw [get_isSome_iff]
    have : id ∈ (a.ents r).map (·.1) := List.mem_map.2 ⟨(id, q), get_some_mem hq, rfl⟩
    rw [← h1.keys r] at this
    obtain ⟨p, hp, e⟩ := List.mem_map.1 this
    exact ⟨p, hp, e⟩
  cases hq' : get id (b.ents r) with
  | none => rw [hq'] at hmem; cases hmem
  | some q' =>
    obtain ⟨o1, c1, d1⟩ := h1.own r id q q' hq hq'
    obtain ⟨o2, c2, d2⟩ := h2.own r id q' q'' hq' hq''
    refine ⟨fun p hp => ⟨((o2 p hp).1).trans (o1 p hp).1, ((o2 p hp).2).trans (o1 p hp).2⟩,
      fun c => (c2 c).trans (c1 c), ?_⟩
    intro c e e'' he he''
    have hs : (q'.child c).isSome := by rw [c1 c, he]; rfl
    cases he' : q'.child c with
    | none => rw [he'] at hs; cases hs
    | some e' =>
      intro p hp
      exact ⟨((d2 c e' e'' he' he'' p hp).1).trans (d1 c e e' he he' p hp).1,
        ((d2 c e' e'' he' he'' p hp).2).trans (d1 c e e' he he' p hp).2⟩

theorem FrameN.of_ents {G : NSchema} {n m : NSt} (h : m.ents = n.ents) : FrameN G n m := by
  refine ⟨fun r => by rw [h], ?_⟩
  intro r id q q' hq hq'
  rw [h] at hq'
  exact (FrameN.refl G n).own r id q q' hq hq'

theorem frameN_setUniq (G : NSchema) (n : NSt) (st f : Name) (b : List (Bytes × Id)) : FrameN G n (n.setUniq st f b) :=
  FrameN.of_ents rfl

theorem frameN_setSetx (G : NSchema) (n : NSt) (st f : Name) (b : List (Bytes × SVal)) : FrameN G n (n.setSetx st f b) :=
  FrameN.of_ents rfl

theorem frame_modEnt (G : NSchema) (L : Layering) (n : NSt) (st : Name) (id : Id) (g : NEnt → NEnt) (p0 : List Name)
    (hp0 : p0 ∈ G.pathsOf st)
    (hg : ∀ e p, p ≠ p0 → (g e).fields p = e.fields p ∧ (g e).sets p = e.sets p) :
    FrameN G n (n.modEnt L st id g) := by
  refine ⟨nModEnt_keys L n st id g, ?_⟩
  intro r k q q' hq hq'
  simp only [nModEnt_eq] at hq'
  by_cases hr : r = L.root st
  · subst hr
    rw [if_pos rfl, get_map_entry id k (NPEnt.modAt L st g), hq] at hq'
    by_cases hk : k = id
    · -- the entry written: `q.modAt L st g` differs from `q` in the data of `st` only
      rw [if_pos hk] at hq'
      cases hq'
      unfold NPEnt.modAt Layering.root
      cases L.decl st with
      | none =>
        refine ⟨fun p hp => hg q.own p fun e => hp (e ▸ hp0), fun _ => rfl, fun c e e' he he' => ?_⟩
        cases he.symm.trans he'
        exact fun _ _ => ⟨rfl, rfl⟩
      | some d =>
        refine ⟨fun _ _ => ⟨rfl, rfl⟩, fun c => ?_, fun c e e' he he' => ?_⟩
        · show (if c = st then (q.child st).map g else q.child c).isSome = (q.child c).isSome
          split
          · next hc => rw [hc]; cases q.child st <;> rfl
          · rfl
        · have he'' : (if c = st then (q.child st).map g else q.child c) = some e' := he'
          by_cases hc : c = st
          · subst hc
            rw [if_pos rfl, he] at he''
            cases he''
            exact fun p hp => hg e p fun e0 => hp (e0 ▸ hp0)
          · rw [if_neg hc, he] at he''
            cases he''
            exact fun _ _ => ⟨rfl, rfl⟩
    · rw [if_neg hk] at hq'
      cases hq'
      exact (FrameN.refl G n).own _ k q q hq hq
  · rw [if_neg hr] at hq'
    exact (FrameN.refl G n).own r k q q' hq hq'

theorem mem_pathsOf {G : NSchema} {y : NSym} (hy : y ∈ G.syms) : y.path ∈ G.pathsOf y.store := by
  unfold NSchema.pathsOf
  exact List.mem_map.2 ⟨y, List.mem_filter.2 ⟨hy, by simp⟩, rfl⟩

theorem frame_setSetAt {G : NSchema} (L : Layering) (n : NSt) {z : NSym} (hz : z ∈ G.syms) (id : Id)
    (h : List Bytes → List Bytes) :
    FrameN G n (n.modEnt L z.store id fun e => e.setSet z.path (h (e.sets z.path))) := by
  apply frame_modEnt G L n z.store id _ z.path (mem_pathsOf hz)
  intro e p hp
  exact ⟨rfl, by simp only [NEnt.setSet, if_neg hp]⟩

theorem frame_putNilAtPath {G : NSchema} (L : Layering) (n : NSt) {y : NSym} (hy : y ∈ G.syms) (id : Id) :
    FrameN G n (n.putNilAtPath L y id) := by
  unfold NSt.putNilAtPath
  apply frame_modEnt G L n y.store id _ y.path (mem_pathsOf hy)
  intro e p hp'
  exact ⟨by simp only [NEnt.setField, if_neg hp'], rfl⟩

/-- `a` keeps distinct ids and writes only index buckets and declared paths -/
def FrN (G : NSchema) (a : NProc) : Prop := ∀ n : NSt, n.KeysOk → (a n).1.KeysOk ∧ FrameN G n (a n).1

theorem FrN.id' (G : NSchema) (a : NProc) (h : ∀ n, (a n).1 = n) : FrN G a := by
  intro n hk
  rw [h n]
  exact ⟨hk, FrameN.refl G n⟩

variable {G : NSchema} {L : Layering}

/-- **a run writes entity buckets only at declared paths** (both modes, every schema and database, no
    hypothesis): the ids of every entities bucket, child-store membership, and every value / list stored under a
    path that is not the path of a declared symbol of that store are what they were.  (`simr_stores` at `ρ = id`, for
    "the first database is framed by `n`, the second equals it": each write is one of the four framed above.) -/
theorem checkStoresN_frame (fix : Bool) (sds : List NStoreDef) (hs : ∀ sd ∈ sds, sd ∈ G.stores) (n : NSt) :
    FrameN G n (checkStoresN G L fix sds n).1 :=
  have W : RenInv L id fix (· ∈ G.syms) (fun m m' => FrameN G n m ∧ m' = m) :=
    ⟨fun h => h.2 ▸ renRel_refl _,
     fun _ _ _ h st f b => ⟨h.1.trans (frameN_setUniq G _ st f b), by rw [h.2]; rfl⟩,
     fun _ _ _ h st f b => ⟨h.1.trans (frameN_setSetx G _ st f b), by rw [h.2]; rfl⟩,
     fun _ _ _ h y hy id g => ⟨h.1.trans (frame_setSetAt L _ hy id g), by rw [h.2]⟩,
     fun _ _ _ h y hy id => ⟨h.1.trans (frame_putNilAtPath L _ hy id), by rw [h.2]⟩⟩
  (simr_stores (fun _ _ h => h) W G sds (fun sd hsd _ hy => mem_syms_of_store (hs sd hsd) hy) n n
    ⟨FrameN.refl G n, rfl⟩).1.1

theorem checkAllN_frame (fix : Bool) (n : NSt) : FrameN G n (checkAllN G L fix n).1 :=
  checkStoresN_frame fix G.stores (fun _ h => h) n

end StorageModel.C09
