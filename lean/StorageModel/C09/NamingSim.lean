import StorageModel.C09.Naming
/-
  C09 — the run over a schema with names, keys / paths and declaring stores (`checkAllN`, C09/Naming.lean)
  IS the run of `checkAll` over the flat view `nview`:

      nview G L (checkAllN G L fix n).1 = (checkAll G.flat fix (nview G L n)).1
      (checkAllN G L fix n).2           = (checkAll G.flat fix (nview G L n)).2

  for every schema with `G.Ok` (a name denotes one symbol per store, different symbols live at different, non-empty
  paths), every layering and every physical database with distinct entity ids per bucket.  Proof: every read of the code's access paths is the
  corresponding read of the view (`nview_present`, `nview_ids`, `nview_evalT`, `nview_setOf`), every write is
  the corresponding write (`nview_setUniq`, `nview_setSetx`, `nview_modEnt` — the latter through the layered
  write `view_modEnt`: a write into the bucket `GetEntityBucket` returns changes exactly that store's entity
  in the view), then loop by loop.
-/
namespace StorageModel.C09

def PSt.modEnt (L : Layering) (p : PSt) (st : Name) (id : Id) (g : Ent → Ent) : PSt :=
  match L.decl st with
  | none =>
    { p with ents := fun r =>
        if r = st then (p.ents st).map fun q => if q.1 = id then (q.1, { q.2 with own := g q.2.own }) else q
        else p.ents r }
  | some d =>
    { p with ents := fun r =>
        if r = d.parent then
          (p.ents d.parent).map fun q =>
            if q.1 = id then (q.1, { q.2 with child := fun c => if c = st then (q.2.child st).map g else q.2.child c })
            else q
        else p.ents r }

def PEnt.modAt (L : Layering) (st : Name) (g : Ent → Ent) (pe : PEnt) : PEnt :=
  match L.decl st with
  | none => { pe with own := g pe.own }
  | some _ => { pe with child := fun c => if c = st then (pe.child st).map g else pe.child c }

def NPEnt.modAt (L : Layering) (st : Name) (g : NEnt → NEnt) (pe : NPEnt) : NPEnt :=
  match L.decl st with
  | none => { pe with own := g pe.own }
  | some _ => { pe with child := fun c => if c = st then (pe.child st).map g else pe.child c }

/-- a write through `GetEntityBucket` maps ONE root bucket at ONE id, and nothing else -/
theorem pModEnt_eq (L : Layering) (p : PSt) (st : Name) (id : Id) (g : Ent → Ent) :
    p.modEnt L st id g =
      { p with ents := fun r =>
          if r = L.root st then (p.ents (L.root st)).map fun q => if q.1 = id then (q.1, q.2.modAt L st g) else q
          else p.ents r } := by
  unfold PSt.modEnt Layering.root PEnt.modAt
  cases L.decl st <;> rfl

theorem nModEnt_eq (L : Layering) (n : NSt) (st : Name) (id : Id) (g : NEnt → NEnt) :
    n.modEnt L st id g =
      { n with ents := fun r =>
          if r = L.root st then (n.ents (L.root st)).map fun q => if q.1 = id then (q.1, q.2.modAt L st g) else q
          else n.ents r } := by
  unfold NSt.modEnt Layering.root NPEnt.modAt
  cases L.decl st <;> rfl

theorem data_modAt_self (L : Layering) (st : Name) (g : Ent → Ent) (pe : PEnt) :
    (pe.modAt L st g).data L st = (pe.data L st).map g := by
  unfold PEnt.data PEnt.modAt
  cases L.decl st with
  | none => rfl
  | some d => exact if_pos rfl

theorem data_modAt_ne (L : Layering) {st st' : Name} (hr : L.root st' = L.root st) (hs : st' ≠ st) (g : Ent → Ent)
    (pe : PEnt) : (pe.modAt L st g).data L st' = pe.data L st' := by
  unfold PEnt.data PEnt.modAt
  unfold Layering.root at hr
  cases hd : L.decl st with
  | none =>
    cases hd' : L.decl st' with
    | none => rw [hd, hd'] at hr; exact absurd hr hs
    | some d' => rfl
  | some d =>
    cases hd' : L.decl st' with
    | none => rfl
    | some d' => exact if_neg hs

theorem St.ext' {s t : St} (h1 : s.ents = t.ents) (h2 : s.uniq = t.uniq) (h3 : s.setx = t.setx) : s = t := by
  cases s; cases t; simp only at h1 h2 h3; subst h1; subst h2; subst h3; rfl

/-- **a layered write is the flat write**: modifying the bucket `GetEntityBucket(st, id)` returns (a root
    entity's own bucket, or a child store's data bucket inside it) modifies exactly the entity `id` of store
    `st` in the view, and no other store's -/
theorem view_modEnt (L : Layering) (p : PSt) (st : Name) (id : Id) (g : Ent → Ent) :
    (p.modEnt L st id g).view L = (p.view L).modEnt st id g := by
  rw [pModEnt_eq]
  apply St.ext'
  · funext st'
    show (({ p with ents := _ } : PSt).view L).ents st' =
      if st' = st then ((p.view L).ents st).map (fun r => if r.1 = id then (r.1, g r.2) else r) else (p.view L).ents st'
    simp only [view_ents]
    by_cases hs : st' = st
    · subst hs
      rw [if_pos rfl, if_pos rfl, List.filterMap_map, List.map_filterMap]
      congr 1
      funext q
      simp only [Function.comp]
      split
      · next hq =>
        rw [data_modAt_self]
        cases q.2.data L st' <;> simp [hq]
      · next hq => cases q.2.data L st' <;> simp [hq]
    · rw [if_neg hs]
      split
      · next hr =>
        -- another store read off the written bucket: its data in the written entry is what it was
        rw [List.filterMap_map, ← hr]
        congr 1
        funext q
        simp only [Function.comp]
        split
        · rw [data_modAt_ne L hr hs]
        · rfl
      · rfl
  · rfl
  · rfl

def NPEnt.view (G : NSchema) (r : Name) (pe : NPEnt) : PEnt :=
  { own := pe.own.view G r, child := fun c => (pe.child c).map (NEnt.view G c) }

theorem rename_keys (G : NSchema) (n : NSt) (r : Name) : ((n.rename G).ents r).map (·.1) = (n.ents r).map (·.1) := by
  simp only [NSt.rename, List.map_map]
  rfl

theorem rename_keysOk {G : NSchema} {n : NSt} (hk : n.KeysOk) : ∀ r, NodupKeys ((n.rename G).ents r) := by
  intro r
  unfold NodupKeys
  rw [rename_keys]
  exact hk r

theorem rename_get (G : NSchema) (n : NSt) (r : Name) (id : Id) :
    get id ((n.rename G).ents r) = (get id (n.ents r)).map (NPEnt.view G r) :=
  get_map_snd (NPEnt.view G r) id (n.ents r)

theorem rename_entityBucket (G : NSchema) (L : Layering) (n : NSt) (st : Name) (id : Id) :
    (n.rename G).entityBucket L st id = (n.entityBucket L st id).map (NEnt.view G st) := by
  unfold PSt.entityBucket NSt.entityBucket
  cases L.decl st with
  | none => simp only [rename_get]; cases get id (n.ents st) <;> rfl
  | some d => simp only [rename_get]; cases get id (n.ents d.parent) <;> rfl

theorem nview_ent {G : NSchema} {L : Layering} {n : NSt} (hk : n.KeysOk) (st : Name) (id : Id) :
    (nview G L n).ent st id = (n.entityBucket L st id).map (NEnt.view G st) := by
  unfold nview
  rw [← entityBucket_eq_view L _ (rename_keysOk hk), rename_entityBucket]

theorem nview_present {G : NSchema} {L : Layering} {n : NSt} (hk : n.KeysOk) (st : Name) :
    (nview G L n).present st = n.present L st := by
  funext id
  unfold St.present NSt.present
  rw [nview_ent hk]
  cases n.entityBucket L st id <;> rfl

theorem rename_present (G : NSchema) (L : Layering) (n : NSt) (st : Name) :
    (n.rename G).isEntityPresent L st = n.present L st := by
  funext id
  unfold PSt.isEntityPresent NSt.present
  rw [rename_entityBucket]
  cases n.entityBucket L st id <;> rfl

theorem rename_iterateIds (G : NSchema) (L : Layering) (n : NSt) (st : Name) :
    (n.rename G).iterateIds L st = n.iterateIds L st := by
  unfold PSt.iterateIds NSt.iterateIds
  have hb : ((n.rename G).bucket L st).map (·.1) = (n.bucket L st).map (·.1) := by
    unfold PSt.bucket NSt.bucket
    cases L.decl st <;> exact rename_keys G n _
  rw [hb, rename_present]

theorem rename_validIds (G : NSchema) (L : Layering) (n : NSt) (st : Name) :
    (n.rename G).validIds L st = n.ids L st := by
  unfold PSt.validIds NSt.ids
  rw [rename_iterateIds, rename_present]
  rfl

theorem nview_ids {G : NSchema} {L : Layering} {n : NSt} (hk : n.KeysOk) (st : Name) :
    (nview G L n).ids st = n.ids L st := by
  unfold nview
  rw [← validIds_eq_view L _ (rename_keysOk hk), rename_validIds]

theorem nview_uniq (G : NSchema) (L : Layering) (n : NSt) (st f : Name) : (nview G L n).uniq st f = n.uniq st f := rfl
theorem nview_setx (G : NSchema) (L : Layering) (n : NSt) (st f : Name) : (nview G L n).setx st f = n.setx st f := rfl

theorem pathOf_of_mem {G : NSchema} (hG : G.Ok) {y : NSym} (hy : y ∈ G.syms) : G.pathOf y.store y.name = some y.path := by
  unfold NSchema.pathOf
  cases hf : G.syms.find? (fun z => z.store = y.store ∧ z.name = y.name) with
  | none =>
    have := List.find?_eq_none.1 hf y hy
    simp at this
  | some z =>
    have hz := List.find?_some hf
    have hm := List.mem_of_find?_eq_some hf
    simp only [decide_eq_true_eq] at hz
    have : z = y := hG.names z hm y hy hz.1 hz.2
    rw [this]; rfl

theorem pathOf_eq_path {G : NSchema} (hG : G.Ok) {y : NSym} (hy : y ∈ G.syms) {f : Name}
    (h : G.pathOf y.store f = some y.path) : f = y.name := by
  unfold NSchema.pathOf at h
  cases hf : G.syms.find? (fun z => z.store = y.store ∧ z.name = f) with
  | none => rw [hf] at h; cases h
  | some z =>
    rw [hf] at h
    have hz := List.find?_some hf
    have hm := List.mem_of_find?_eq_some hf
    simp only [decide_eq_true_eq] at hz
    simp only [Option.map_some, Option.some.injEq] at h
    have : z = y := hG.paths z hm y hy hz.1 h
    rw [← hz.2, this]

theorem nview_evalT {G : NSchema} {L : Layering} {n : NSt} (hG : G.Ok) (hk : n.KeysOk) {y : NSym} (hy : y ∈ G.syms)
    (id : Id) : (nview G L n).evalT y.store id y.name = n.evalT L y id := by
  unfold St.evalT NSt.evalT
  rw [nview_ent hk]
  cases n.entityBucket L y.store id with
  | none => rfl
  | some e =>
    simp only [Option.map_some, NEnt.view, pathOf_of_mem hG hy]

theorem nview_evalB {G : NSchema} {L : Layering} {n : NSt} (hG : G.Ok) (hk : n.KeysOk) {y : NSym} (hy : y ∈ G.syms)
    (id : Id) : (nview G L n).evalB y.store id y.name = n.evalB L y id := by
  unfold St.evalB NSt.evalB
  rw [nview_evalT hG hk hy]

theorem nview_setOf {G : NSchema} {L : Layering} {n : NSt} (hG : G.Ok) (hk : n.KeysOk) {y : NSym} (hy : y ∈ G.syms)
    (id : Id) : (nview G L n).setOf y.store id y.name = n.setOf L y id := by
  unfold St.setOf NSt.setOf
  rw [nview_ent hk]
  cases n.entityBucket L y.store id with
  | none => rfl
  | some e =>
    simp only [Option.map_some, NEnt.view, pathOf_of_mem hG hy]

theorem nview_hasVal {G : NSchema} {L : Layering} {n : NSt} (hG : G.Ok) (hk : n.KeysOk) {y : NSym} (hy : y ∈ G.syms)
    (id : Id) (key : Bytes) : (nview G L n).hasVal y.store id y.name key = n.hasVal L y id key := by
  unfold St.hasVal NSt.hasVal
  rw [nview_setOf hG hk hy]

theorem nview_hasBack {G : NSchema} {L : Layering} {n : NSt} (hG : G.Ok) (hk : n.KeysOk) {z : NSym} (hz : z ∈ G.syms)
    (t id : Id) : (nview G L n).hasBack z.store t z.name id = n.hasBack L z t id := by
  unfold St.hasBack NSt.hasBack
  rw [nview_setOf hG hk hz]

theorem nview_setUniq (G : NSchema) (L : Layering) (n : NSt) (st f : Name) (b : List (Bytes × Id)) :
    nview G L (n.setUniq st f b) = (nview G L n).setUniq st f b := rfl

theorem nview_setSetx (G : NSchema) (L : Layering) (n : NSt) (st f : Name) (b : List (Bytes × SVal)) :
    nview G L (n.setSetx st f b) = (nview G L n).setSetx st f b := rfl

theorem view_modAt {G : NSchema} (L : Layering) {st : Name} {gN : NEnt → NEnt} {g : Ent → Ent}
    (hg : ∀ e, (gN e).view G st = g (e.view G st)) (pe : NPEnt) :
    (pe.modAt L st gN).view G (L.root st) = (pe.view G (L.root st)).modAt L st g := by
  unfold NPEnt.modAt PEnt.modAt Layering.root NPEnt.view
  cases L.decl st with
  | none => simp only [hg]
  | some d =>
    congr 1
    funext c
    by_cases hc : c = st
    · subst hc
      simp only [if_true]
      cases pe.child c with
      | none => rfl
      | some e => simp only [Option.map_some, hg]
    · simp only [if_neg hc]

theorem rename_modEnt (G : NSchema) (L : Layering) (n : NSt) (st : Name) (id : Id) (gN : NEnt → NEnt) (g : Ent → Ent)
    (hg : ∀ e, (gN e).view G st = g (e.view G st)) :
    (n.modEnt L st id gN).rename G = (n.rename G).modEnt L st id g := by
  rw [nModEnt_eq, pModEnt_eq]
  unfold NSt.rename
  congr 1
  funext r
  simp only
  split
  · next h =>
    subst h
    rw [List.map_map, List.map_map]
    apply List.map_congr_left
    intro q _
    simp only [Function.comp]
    split
    · exact congrArg (Prod.mk q.1) (view_modAt L hg q.2)
    · rfl
  · rfl

theorem nview_modEnt (G : NSchema) (L : Layering) (n : NSt) (st : Name) (id : Id) (gN : NEnt → NEnt) (g : Ent → Ent)
    (hg : ∀ e, (gN e).view G st = g (e.view G st)) :
    nview G L (n.modEnt L st id gN) = (nview G L n).modEnt st id g := by
  unfold nview
  rw [rename_modEnt G L n st id gN g hg, view_modEnt]

theorem Ent.ext' {a b : Ent} (h1 : a.fields = b.fields) (h2 : a.sets = b.sets) : a = b := by
  cases a; cases b; simp only at h1 h2; subst h1; subst h2; rfl

/-- an update of what is stored at a declared symbol's PATH is, read through the schema's symbols, the update
    of what is found under its NAME, and of nothing else -/
theorem pathOf_update {G : NSchema} (hG : G.Ok) {y : NSym} (hy : y ∈ G.syms) {α : Type} (d v : α) (φ : List Name → α)
    (f : Name) :
    (match G.pathOf y.store f with
      | some p => if p = y.path then v else φ p
      | none => d) =
    if f = y.name then v else
      match G.pathOf y.store f with
      | some p => φ p
      | none => d := by
  by_cases hf : f = y.name
  · subst hf
    simp only [pathOf_of_mem hG hy, if_true]
  · rw [if_neg hf]
    cases hp : G.pathOf y.store f with
    | none => rfl
    | some p =>
      have : p ≠ y.path := fun e => hf (pathOf_eq_path hG hy (e ▸ hp))
      simp only [if_neg this]

theorem view_setSet {G : NSchema} (hG : G.Ok) {y : NSym} (hy : y ∈ G.syms) (e : NEnt) (l : List Bytes) :
    (e.setSet y.path l).view G y.store = (e.view G y.store).setSet y.name l :=
  Ent.ext' rfl (funext fun f => pathOf_update hG hy [] l e.sets f)

theorem view_setField {G : NSchema} (hG : G.Ok) {y : NSym} (hy : y ∈ G.syms) (e : NEnt) (v : FVal) :
    (e.setField y.path v).view G y.store = (e.view G y.store).setField y.name v :=
  Ent.ext' (funext fun f => pathOf_update hG hy FVal.nil v e.fields f) rfl

theorem view_sets {G : NSchema} (hG : G.Ok) {y : NSym} (hy : y ∈ G.syms) (e : NEnt) :
    (e.view G y.store).sets y.name = e.sets y.path := by
  simp only [NEnt.view, pathOf_of_mem hG hy]

theorem nview_setSetAt {G : NSchema} (L : Layering) (n : NSt) (hG : G.Ok) {z : NSym} (hz : z ∈ G.syms) (id : Id)
    (h : List Bytes → List Bytes) :
    nview G L (n.modEnt L z.store id fun e => e.setSet z.path (h (e.sets z.path))) =
      (nview G L n).modEnt z.store id fun e => e.setSet z.name (h (e.sets z.name)) := by
  apply nview_modEnt
  intro e
  rw [view_setSet hG hz, view_sets hG hz]

theorem nview_addToSet {G : NSchema} (L : Layering) (n : NSt) (hG : G.Ok) {z : NSym} (hz : z ∈ G.syms) (id : Id) (x : Bytes) :
    nview G L (n.addToSet L z id x) = (nview G L n).addToSet z.store id z.name x := nview_setSetAt L n hG hz id (sins x)

theorem nview_delFromSet {G : NSchema} (L : Layering) (n : NSt) (hG : G.Ok) {z : NSym} (hz : z ∈ G.syms) (id : Id) (x : Bytes) :
    nview G L (n.delFromSet L z id x) = (nview G L n).delFromSet z.store id z.name x := nview_setSetAt L n hG hz id (sdel x)

theorem nview_putNilAtPath {G : NSchema} (L : Layering) (n : NSt) (hG : G.Ok) {y : NSym} (hy : y ∈ G.syms) (id : Id) :
    nview G L (n.putNilAtPath L y id) = (nview G L n).modEnt y.store id fun e => e.setField y.name .nil := by
  unfold NSt.putNilAtPath
  apply nview_modEnt
  intro e
  rw [view_setField hG hy]

theorem keysOk_setUniq {n : NSt} (hk : n.KeysOk) (st f : Name) (b : List (Bytes × Id)) : (n.setUniq st f b).KeysOk := hk
theorem keysOk_setSetx {n : NSt} (hk : n.KeysOk) (st f : Name) (b : List (Bytes × SVal)) : (n.setSetx st f b).KeysOk := hk

theorem nModEnt_keys (L : Layering) (n : NSt) (st : Name) (id : Id) (g : NEnt → NEnt) (r : Name) :
    ((n.modEnt L st id g).ents r).map (·.1) = (n.ents r).map (·.1) := by
  simp only [nModEnt_eq]
  split
  · next h => rw [h]; exact keys_map_entry id (NPEnt.modAt L st g) _
  · rfl

theorem keysOk_modEnt {n : NSt} (hk : n.KeysOk) (L : Layering) (st : Name) (id : Id) (g : NEnt → NEnt) :
    (n.modEnt L st id g).KeysOk := by
  intro r
  unfold NodupKeys
  rw [nModEnt_keys]
  exact hk r

/-- `a` (on the physical database) is `b` (on the view): same reports, the view of the result is the result
    on the view; distinct entity ids are an invariant -/
def Sim (G : NSchema) (L : Layering) (a : NProc) (b : Proc) : Prop :=
  ∀ n : NSt, n.KeysOk → (a n).1.KeysOk ∧ nview G L (a n).1 = (b (nview G L n)).1 ∧ (a n).2 = (b (nview G L n)).2

theorem sim_skip (G : NSchema) (L : Layering) : Sim G L NProc.skip Proc.skip := fun _ hk => ⟨hk, rfl, rfl⟩

theorem sim_seq {G : NSchema} {L : Layering} {a1 a2 : NProc} {b1 b2 : Proc} (h1 : Sim G L a1 b1) (h2 : Sim G L a2 b2) :
    Sim G L (a1.seq a2) (b1.seq b2) := by
  intro n hk
  obtain ⟨k1, v1, r1⟩ := h1 n hk
  obtain ⟨k2, v2, r2⟩ := h2 _ k1
  rw [v1] at v2 r2
  exact ⟨k2, v2, by show _ ++ _ = _ ++ _; rw [r1, r2]⟩

theorem sim_seqAll {G : NSchema} {L : Layering} {α : Type} (fa : α → NProc) (fb : α → Proc) (l : List α)
    (h : ∀ x ∈ l, Sim G L (fa x) (fb x)) : Sim G L (seqAllN (l.map fa)) (seqAll (l.map fb)) := by
  induction l with
  | nil => exact sim_skip G L
  | cons x t ih =>
    exact sim_seq (h x (List.mem_cons_self ..)) (ih fun y hy => h y (List.mem_cons_of_mem _ hy))

theorem sim_steps {G : NSchema} {L : Layering} {α : Type} (sa : NSt → α → NSt × List Report)
    (sb : St → α → St × List Report) (h : ∀ x, Sim G L (fun n => sa n x) (fun s => sb s x)) (l : List α) :
    Sim G L (runStepsN sa l) (runSteps sb l) := by
  induction l with
  | nil => exact sim_skip G L
  | cons x t ih => exact sim_seq (h x) ih

theorem sim_loop {G : NSchema} {L : Layering} {α : Type} (sa : NSt → α → NSt × List Report)
    (sb : St → α → St × List Report) (la : NSt → List α) (lb : St → List α)
    (hl : ∀ n : NSt, n.KeysOk → lb (nview G L n) = la n)
    (h : ∀ x, Sim G L (fun n => sa n x) (fun s => sb s x)) :
    Sim G L (fun n => runStepsN sa (la n) n) (fun s => runSteps sb (lb s) s) := by
  intro n hk
  dsimp only
  rw [hl n hk]
  exact sim_steps sa sb h (la n) n hk

theorem sim_scan {G : NSchema} {L : Layering} (sa : NSt → Id → NSt × List Report) (sb : St → Id → St × List Report)
    (st : Name) (h : ∀ x, Sim G L (fun n => sa n x) (fun s => sb s x)) :
    Sim G L (fun n => runStepsN sa (n.ids L st) n) (fun s => runSteps sb (s.ids st) s) :=
  sim_loop sa sb (fun n => n.ids L st) (fun s => s.ids st) (fun _ hk => nview_ids hk st) h

theorem sim_pure {G : NSchema} {L : Layering} {n : NSt} (hk : n.KeysOk) (rs : List Report) :
    (n, rs).1.KeysOk ∧ nview G L (n, rs).1 = ((nview G L n, rs) : St × List Report).1 ∧
      (n, rs).2 = ((nview G L n, rs) : St × List Report).2 := ⟨hk, rfl, rfl⟩

variable {G : NSchema} {L : Layering}

theorem sim_fix {n n' : NSt} {s' : St} (fix : Bool) (hk : n.KeysOk) (hk' : n'.KeysOk) (hv : nview G L n' = s')
    (rs : List Report) :
    ((if fix then n' else n, rs) : NSt × List Report).1.KeysOk ∧
      nview G L ((if fix then n' else n, rs) : NSt × List Report).1 =
        ((if fix then s' else nview G L n, rs) : St × List Report).1 ∧
      ((if fix then n' else n, rs) : NSt × List Report).2 = ((if fix then s' else nview G L n, rs) : St × List Report).2 := by
  cases fix
  · exact ⟨hk, rfl, rfl⟩
  · exact ⟨hk', hv, rfl⟩

theorem sim_branch {c : Prop} [Decidable c] {a b : NSt × List Report} {a' b' : St × List Report}
    (ha : a.1.KeysOk ∧ nview G L a.1 = a'.1 ∧ a.2 = a'.2) (hb : b.1.KeysOk ∧ nview G L b.1 = b'.1 ∧ b.2 = b'.2) :
    (if c then a else b).1.KeysOk ∧ nview G L (if c then a else b).1 = (if c then a' else b').1 ∧
      (if c then a else b).2 = (if c then a' else b').2 := by
  split <;> assumption

theorem sim_uqStep1 (hG : G.Ok) {y : NSym} (hy : y ∈ G.syms) (fix : Bool) (kv : Bytes × Id) :
    Sim G L (fun n => uqStep1N L y fix n kv) (fun s => uqStep1 y.store y.name fix s kv) := by
  intro n hk
  dsimp only
  unfold uqStep1N uqStep1
  rw [nview_present hk, nview_evalB hG hk hy, nview_uniq]
  have hw := sim_fix (G := G) (L := L) fix hk (keysOk_setUniq hk y.store y.name (del kv.1 (n.uniq y.store y.name))) rfl
  exact sim_branch (hw _) (sim_branch (sim_pure hk _) (hw _))

theorem sim_uqStep2 (hG : G.Ok) {y : NSym} (hy : y ∈ G.syms) (nullable fix : Bool) (id : Id) :
    Sim G L (fun n => uqStep2N L y nullable fix n id) (fun s => uqStep2 y.store y.name nullable fix s id) := by
  intro n hk
  dsimp only
  unfold uqStep2N uqStep2
  rw [nview_evalT hG hk hy]
  cases n.evalT L y id with
  | nil => exact sim_pure hk _
  | str fv =>
    refine sim_branch (sim_pure hk _) ?_
    rw [show readU (nview G L n) y.store y.name fv = readUN n y fv from rfl]
    cases readUN n y fv with
    | none =>
      refine sim_fix fix hk ?_ ?_ _ <;> unfold uqRepairN
      · split
        · exact hk
        · exact keysOk_setUniq hk _ _ _
      · unfold uqRepair; split <;> rfl
    | some idx => exact sim_branch (sim_pure hk _) (sim_pure hk _)

theorem sim_unique (hG : G.Ok) {y : NSym} (hy : y ∈ G.syms) (nullable fix : Bool) :
    Sim G L (uniqueCheckN L y nullable fix) (uniqueCheck y.store y.name nullable fix) := by
  unfold uniqueCheckN uniqueCheck
  apply sim_seq
  · exact sim_loop _ _ (fun n => n.uniq y.store y.name) (fun s => s.uniq y.store y.name) (fun n _ => rfl)
      (sim_uqStep1 hG hy fix)
  · exact sim_scan _ _ y.store (sim_uqStep2 hG hy nullable fix)

theorem nview_delIdx (n : NSt) (y : NSym) (key : Bytes) (id : Id) :
    nview G L (n.delIdx y key id) = (nview G L n).delIdx y.store y.name key id := by
  unfold NSt.delIdx St.delIdx
  rw [nview_setx]
  cases get key (n.setx y.store y.name) with
  | none => rfl
  | some v => cases v <;> rfl

theorem keysOk_delIdx {n : NSt} (hk : n.KeysOk) (y : NSym) (key : Bytes) (id : Id) : (n.delIdx y key id).KeysOk := by
  unfold NSt.delIdx; split <;> exact hk

theorem nview_addIdx (n : NSt) (y : NSym) (val : Bytes) (id : Id) :
    nview G L (n.addIdx y val id) = (nview G L n).addIdx y.store y.name val id := by
  unfold NSt.addIdx St.addIdx
  rw [nview_setx]
  cases get val (n.setx y.store y.name) with
  | none => rfl
  | some v => cases v <;> rfl

theorem keysOk_addIdx {n : NSt} (hk : n.KeysOk) (y : NSym) (val : Bytes) (id : Id) : (n.addIdx y val id).KeysOk := by
  unfold NSt.addIdx; split <;> exact hk

theorem sim_sxInner (hG : G.Ok) {y : NSym} (hy : y ∈ G.syms) (fix : Bool) (key : Bytes) (id : Id) :
    Sim G L (fun n => sxInnerN L y fix key n id) (fun s => sxInner y.store y.name fix key s id) := by
  intro n hk
  dsimp only
  unfold sxInnerN sxInner
  rw [nview_present hk, nview_hasVal hG hk hy]
  have hw := sim_fix (G := G) (L := L) fix hk (keysOk_delIdx hk y key id) (nview_delIdx n y key id)
  exact sim_branch (hw _) (sim_branch (hw _) (sim_pure hk _))

theorem sim_sxStep1 (hG : G.Ok) {y : NSym} (hy : y ∈ G.syms) (fix : Bool) (kv : Bytes × SVal) :
    Sim G L (fun n => sxStep1N L y fix n kv) (fun s => sxStep1 y.store y.name fix s kv) := by
  intro n hk
  dsimp only
  unfold sxStep1N sxStep1
  cases kv.2 with
  | junk => exact sim_fix fix hk (keysOk_setSetx hk _ _ _) rfl _
  | ids l =>
    obtain ⟨k1, v1, r1⟩ := sim_steps (G := G) (L := L) _ _ (sim_sxInner hG hy fix kv.1) l n hk
    exact ⟨k1, v1, by show _ ++ _ = _ ++ _; rw [r1]⟩

theorem sxKept_eq (hG : G.Ok) {y : NSym} (hy : y ∈ G.syms) (fix : Bool) (key : Bytes) {n : NSt} (hk : n.KeysOk)
    (l : List Id) : sxKeptN L y fix key n l = sxKept y.store y.name fix key (nview G L n) l := by
  unfold sxKeptN sxKept
  simp only [nview_present hk, nview_hasVal hG hk hy]

theorem sxToDelete_eq (hG : G.Ok) {y : NSym} (hy : y ∈ G.syms) (fix : Bool) {n : NSt} (hk : n.KeysOk)
    (l : List (Bytes × SVal)) : sxToDeleteN L y fix n l = sxToDelete y.store y.name fix (nview G L n) l := by
  induction l with
  | nil => rfl
  | cons kv t ih =>
    unfold sxToDeleteN sxToDelete
    cases hv : kv.2 with
    | junk => exact ih
    | ids l' =>
      show (if _ then _ else _) = (if _ then _ else _)
      rw [sxKept_eq hG hy fix kv.1 hk, ih]

theorem sim_sxDeleteKeys (y : NSym) (keys : List Bytes) (n : NSt) (hk : n.KeysOk) :
    (sxDeleteKeysN y keys n).KeysOk ∧
      nview G L (sxDeleteKeysN y keys n) = sxDeleteKeys y.store y.name keys (nview G L n) := by
  induction keys generalizing n with
  | nil => exact ⟨hk, rfl⟩
  | cons k t ih =>
    unfold sxDeleteKeysN sxDeleteKeys
    simp only [List.foldl_cons]
    exact ih _ (keysOk_setSetx hk _ _ _)

theorem sim_sxStep2Val (y : NSym) (fix : Bool) (id : Id) (val : Bytes) :
    Sim G L (fun n => sxStep2ValN y fix id n val) (fun s => sxStep2Val y.store y.name fix id s val) := by
  intro n hk
  dsimp only
  unfold sxStep2ValN sxStep2Val
  rw [show (nview G L n).inIdx y.store y.name val id = n.inIdx y val id from rfl]
  exact sim_branch (sim_pure hk _) (sim_fix fix hk (keysOk_addIdx hk _ _ _) (nview_addIdx _ _ _ _) _)

theorem sim_sxStep2 (hG : G.Ok) {y : NSym} (hy : y ∈ G.syms) (fix : Bool) (id : Id) :
    Sim G L (fun n => sxStep2N L y fix n id) (fun s => sxStep2 y.store y.name fix s id) := by
  unfold sxStep2N sxStep2
  exact sim_loop _ _ (fun n => n.setOf L y id) (fun s => s.setOf y.store id y.name)
    (fun n hk => nview_setOf hG hk hy id) (sim_sxStep2Val y fix id)

theorem sim_set (hG : G.Ok) {y : NSym} (hy : y ∈ G.syms) (fix : Bool) :
    Sim G L (setCheckN L y fix) (setCheck y.store y.name fix) := by
  unfold setCheckN setCheck
  apply sim_seq
  · intro n hk
    obtain ⟨k1, v1, r1⟩ := sim_steps (G := G) (L := L) _ _ (sim_sxStep1 hG hy fix) (n.setx y.store y.name) n hk
    obtain ⟨k2, v2⟩ := sim_sxDeleteKeys (G := G) (L := L) y
      (sxToDeleteN L y fix n (n.setx y.store y.name)) _ k1
    refine ⟨k2, ?_, r1⟩
    show nview G L (sxDeleteKeysN y _ _) = sxDeleteKeys y.store y.name _ _
    rw [v2, v1, sxToDelete_eq hG hy fix hk]
    rfl
  · exact sim_scan _ _ y.store (sim_sxStep2 hG hy fix)

theorem sim_fkInner1 (hG : G.Ok) {y z : NSym} (hy : y ∈ G.syms) (hz : z ∈ G.syms) (fix : Bool) (id fkId : Id) :
    Sim G L (fun n => fkInner1N L y z fix id n fkId) (fun s => fkInner1 y.store y.name z.store z.name fix id s fkId) := by
  intro n hk
  dsimp only
  unfold fkInner1N fkInner1
  rw [nview_present hk, nview_evalB hG hk hy]
  have hw := sim_fix (G := G) fix hk (keysOk_modEnt hk L _ _ _) (nview_delFromSet L n hG hz id fkId)
  exact sim_branch (hw _) (sim_branch (hw _) (sim_pure hk _))

theorem sim_fkStep1 (hG : G.Ok) {y z : NSym} (hy : y ∈ G.syms) (hz : z ∈ G.syms) (fix : Bool) (id : Id) :
    Sim G L (fun n => fkStep1N L y z fix n id) (fun s => fkStep1 y.store y.name z.store z.name fix s id) := by
  unfold fkStep1N fkStep1
  exact sim_loop _ _ (fun n => n.setOf L z id) (fun s => s.setOf z.store id z.name)
    (fun n hk => nview_setOf hG hk hz id) (sim_fkInner1 hG hy hz fix id)

/-- the dangling-reference branch: attempted for every nullable symbol, wherever it is stored -/
theorem sim_fkDangling (hG : G.Ok) {y : NSym} (hy : y ∈ G.syms) (nullable fix : Bool) (id key : Id) :
    Sim G L (fun n => fkDanglingStepN L y nullable fix n id key) (fun s => fkDanglingStep y.store y.name nullable fix s id key) := by
  intro n hk
  dsimp only
  unfold fkDanglingStepN fkDanglingStep
  rw [List.isEmpty_eq_false_iff.2 (hG.nonempty y hy), Bool.not_false, Bool.and_true]
  exact sim_fix _ hk (keysOk_modEnt hk _ _ _ _) (nview_putNilAtPath L n hG hy id) _

theorem sim_fkStep2 (hG : G.Ok) {y z : NSym} (hy : y ∈ G.syms) (hz : z ∈ G.syms) (nullable fix : Bool) (id : Id) :
    Sim G L (fun n => fkStep2N L y nullable z fix n id) (fun s => fkStep2 y.store y.name nullable z.store z.name fix s id) := by
  intro n hk
  dsimp only
  unfold fkStep2N fkStep2
  rw [nview_evalB hG hk hy, nview_present hk, nview_hasBack hG hk hz]
  exact sim_branch (sim_pure hk _) (sim_branch (sim_fkDangling hG hy nullable fix id _ n hk)
    (sim_branch (sim_pure hk _) (sim_fix fix hk (keysOk_modEnt hk _ _ _ _) (nview_addToSet L n hG hz _ _) _)))

theorem sim_fkIndex (hG : G.Ok) {y z : NSym} (hy : y ∈ G.syms) (hz : z ∈ G.syms) (nullable fix : Bool) :
    Sim G L (fkIndexCheckN L y nullable z fix) (fkIndexCheck y.store y.name nullable z.store z.name fix) := by
  unfold fkIndexCheckN fkIndexCheck
  apply sim_seq
  · exact sim_scan _ _ z.store (sim_fkStep1 hG hy hz fix)
  · exact sim_scan _ _ y.store (sim_fkStep2 hG hy hz nullable fix)

theorem sim_fcStep (hG : G.Ok) {y : NSym} (hy : y ∈ G.syms) (nullable : Bool) (linked : Name) (fix : Bool) (id : Id) :
    Sim G L (fun n => fcStepN L y nullable linked fix n id) (fun s => fcStep y.store y.name nullable linked fix s id) := by
  intro n hk
  dsimp only
  unfold fcStepN fcStep
  rw [nview_evalB hG hk hy, nview_present hk]
  exact sim_branch (sim_pure hk _) (sim_branch (sim_fkDangling hG hy nullable fix id _ n hk) (sim_pure hk _))

theorem sim_fkCons (hG : G.Ok) {y : NSym} (hy : y ∈ G.syms) (nullable : Bool) (linked : Name) (fix : Bool) :
    Sim G L (fkConsCheckN L y nullable linked fix) (fkConsCheck y.store y.name nullable linked fix) := by
  unfold fkConsCheckN fkConsCheck
  exact sim_scan _ _ y.store (sim_fcStep hG hy nullable linked fix)

theorem sim_lkInner (hG : G.Ok) {y z : NSym} (hz : z ∈ G.syms) (fix : Bool) (id linkId : Id) :
    Sim G L (fun n => lkInnerN L y z fix id n linkId) (fun s => lkInner y.store y.name z.store z.name fix id s linkId) := by
  intro n hk
  dsimp only
  unfold lkInnerN lkInner
  rw [nview_present hk, nview_hasBack hG hk hz]
  exact sim_branch (sim_pure hk _)
    (sim_branch (sim_fix fix hk (keysOk_modEnt hk _ _ _ _) (nview_addToSet L n hG hz _ _) _) (sim_pure hk _))

theorem sim_lkRemoveAll (hG : G.Ok) {y : NSym} (hy : y ∈ G.syms) (id : Id) (D : List Id) (n : NSt) (hk : n.KeysOk) :
    (lkRemoveAllN L y id D n).KeysOk ∧
      nview G L (lkRemoveAllN L y id D n) = lkRemoveAll y.store y.name id D (nview G L n) := by
  induction D generalizing n with
  | nil => exact ⟨hk, rfl⟩
  | cons d t ih =>
    unfold lkRemoveAllN lkRemoveAll
    simp only [List.foldl_cons]
    rw [← nview_delFromSet L n hG hy]
    exact ih _ (keysOk_modEnt hk _ _ _ _)

theorem sim_lkStep (hG : G.Ok) {y z : NSym} (hy : y ∈ G.syms) (hz : z ∈ G.syms) (fix : Bool) (id : Id) :
    Sim G L (fun n => lkStepN L y z fix n id) (fun s => lkStep y.store y.name z.store z.name fix s id) := by
  intro n hk
  dsimp only
  unfold lkStepN lkStep
  simp only [nview_setOf hG hk hy, nview_present hk]
  obtain ⟨k1, v1, r1⟩ := sim_steps (G := G) (L := L) _ _ (sim_lkInner (y := y) hG hz fix id) (n.setOf L y id) n hk
  obtain ⟨k2, v2⟩ := sim_lkRemoveAll (G := G) (L := L) hG hy id
    ((n.setOf L y id).filter fun l => !n.present L z.store l) _ k1
  rw [← v1, ← r1]
  exact sim_fix fix k1 k2 v2 _

theorem sim_link (hG : G.Ok) {y z : NSym} (hy : y ∈ G.syms) (hz : z ∈ G.syms) (hasInv fix : Bool) :
    Sim G L (linkCheckN L y z hasInv fix) (linkCheck y.store y.name z.store z.name hasInv fix) := by
  unfold linkCheckN linkCheck
  apply sim_seq
  · exact fun n hk => ⟨hk, rfl, rfl⟩
  · exact sim_scan _ _ y.store (sim_lkStep hG hy hz fix)

theorem mem_syms_of_store {sd : NStoreDef} (hsd : sd ∈ G.stores) {y : NSym} (hy : y ∈ sd.syms) : y ∈ G.syms :=
  List.mem_flatMap.2 ⟨sd, hsd, hy⟩

theorem mem_syms_of_constraint {sd : NStoreDef} (hsd : sd ∈ G.stores) {c : NConstraint} (hc : c ∈ sd.constraints)
    {y : NSym} (hy : y ∈ c.syms) : y ∈ G.syms :=
  mem_syms_of_store hsd (List.mem_append_right _ (List.mem_flatMap.2 ⟨c, hc, hy⟩))

theorem mem_syms_of_link {sd : NStoreDef} (hsd : sd ∈ G.stores) {lc : NLinkColl} (hlc : lc ∈ sd.links) :
    lc.field ∈ G.syms ∧ lc.other ∈ G.syms :=
  have h : ∀ y ∈ [lc.field, lc.other], y ∈ G.syms := fun y hy =>
    mem_syms_of_store hsd (List.mem_append_left _ (List.mem_flatMap.2 ⟨lc, hlc, hy⟩))
  ⟨h _ (by simp), h _ (by simp)⟩

theorem sim_constraint (hG : G.Ok) {sd : NStoreDef} (hsd : sd ∈ G.stores) {c : NConstraint}
    (hc : c ∈ sd.constraints) (fix : Bool) : Sim G L (c.check L fix) (c.flat.check fix) := by
  cases c with
  | unique y n => exact sim_unique hG (mem_syms_of_constraint hsd hc (by simp [NConstraint.syms])) n fix
  | setIdx y => exact sim_set hG (mem_syms_of_constraint hsd hc (by simp [NConstraint.syms])) fix
  | fkIndex y n z =>
    exact sim_fkIndex hG (mem_syms_of_constraint hsd hc (by simp [NConstraint.syms]))
      (mem_syms_of_constraint hsd hc (by simp [NConstraint.syms])) n fix
  | fkCons y n linked =>
    exact sim_fkCons hG (mem_syms_of_constraint hsd hc (by simp [NConstraint.syms])) n linked fix
  | noop => exact sim_skip G L

theorem sim_linkColl (hG : G.Ok) {sd : NStoreDef} (hsd : sd ∈ G.stores) {lc : NLinkColl} (hlc : lc ∈ sd.links)
    (fix : Bool) : Sim G L (lc.check G L fix) (lc.flat.check G.flat fix) := by
  unfold NLinkColl.check LinkColl.check
  rw [hG.inverse sd hsd lc hlc]
  obtain ⟨h1, h2⟩ := mem_syms_of_link hsd hlc
  exact sim_link hG h1 h2 _ fix

theorem sim_store (hG : G.Ok) {sd : NStoreDef} (hsd : sd ∈ G.stores) (fix : Bool) :
    Sim G L (sd.check G L fix) (sd.flat.check G.flat fix) := by
  unfold NStoreDef.check StoreDef.check NStoreDef.flat
  simp only [List.map_map]
  apply sim_seq
  · exact sim_seqAll _ _ _ fun lc hlc => sim_linkColl hG hsd hlc fix
  · exact sim_seqAll _ _ _ fun c hc => sim_constraint hG hsd hc fix

/-- **the run over names, keys and declaring stores is the run over the flat view** (any sublist / order of
    the schema's stores: one store in a transaction of its own, all stores, the reverse order) -/
theorem sim_stores (hG : G.Ok) (fix : Bool) (sds : List NStoreDef) (hs : ∀ sd ∈ sds, sd ∈ G.stores) :
    Sim G L (checkStoresN G L fix sds) (seqAll ((sds.map NStoreDef.flat).map (StoreDef.check G.flat fix))) := by
  unfold checkStoresN
  rw [List.map_map]
  exact sim_seqAll _ _ _ fun sd hsd => sim_store hG (hs sd hsd) fix

theorem sim_checkAll (hG : G.Ok) (fix : Bool) : Sim G L (checkAllN G L fix) (checkAll G.flat fix) :=
  sim_stores hG fix G.stores fun _ h => h

end StorageModel.C09
