import StorageModel.C09.Spec
import StorageModel.C09.Layered
/-
  The concrete schema (`uniSchema`) the C09 harness wires through the exported API (harness/c09_store.go), and
  helpers to build concrete states.  The theorems are schema-generic; this file is used by the
  driver and by the non-vacuity examples.
-/
namespace StorageModel.C09

def things : Name := "things"
def owners : Name := "owners"
/-- EXTENDED child store of `things` (data bucket `ext` inside the thing's entity bucket) -/
def thingsX : Name := "things_x"
/-- PLAIN child store of `things` (data bucket `pl`) -/
def thingsP : Name := "things_p"

def uniLayering : Layering := [⟨thingsX, things, true⟩, ⟨thingsP, things, false⟩]

/-- registration order = order of `BaseStore.CheckIntegrity`'s fan-out -/
def uniSchema : Schema :=
  [ { name := things
      links := [⟨things, "groups", owners, "members"⟩]
      constraints :=
        [ .unique things "name" false,
          .unique things "alias" true,
          .setIdx things "roles",
          .fkIndex things "owner" true owners "things",
          .fkIndex things "home" false owners "residents",
          .fkCons things "dep" true owners,
          .fkCons things "req" false owners,
          .fkIndex things "boss" true things "minions",
          .noop ] },
    -- the child stores carry their own constraints on their own fields; their index buckets live under
    -- the PARENT's entity type (`indexes/things/<field>`), the model names them by the child store
    { name := thingsX
      links := []
      constraints :=
        [ .unique thingsX "badge" false,
          .unique thingsX "tag" true,
          .setIdx thingsX "caps",
          .fkCons thingsX "sponsor" false owners ] },
    { name := thingsP
      links := []
      constraints :=
        [ .unique thingsP "code" false,
          .unique thingsP "nick" true,
          .setIdx thingsP "marks" ] },
    { name := owners
      links := [⟨owners, "members", things, "groups"⟩]
      constraints :=
        [ .noop, .noop, .noop, .noop,
          .unique owners "label" true ] } ]

def scalarsOf (st : Name) : List Name :=
  if st = things then ["name", "alias", "owner", "home", "dep", "req", "boss"]
  else if st = owners then ["label"]
  else if st = thingsX then ["badge", "tag", "sponsor"]
  else if st = thingsP then ["code", "nick"] else []

def setsOf (st : Name) : List Name :=
  if st = things then ["roles", "groups", "minions"]
  else if st = owners then ["things", "residents", "members"]
  else if st = thingsX then ["caps"]
  else if st = thingsP then ["marks"] else []

def storeOrder : List Name := [things, thingsX, thingsP, owners]
def uniqueIdxs : List (Name × Name) :=
  [(things, "name"), (things, "alias"), (thingsX, "badge"), (thingsX, "tag"), (thingsP, "code"), (thingsP, "nick"),
   (owners, "label")]
def setIdxs : List (Name × Name) := [(things, "roles"), (thingsX, "caps"), (thingsP, "marks")]

def assoc {V : Type} (d : V) (l : List (Name × V)) (k : Name) : V :=
  match l with
  | [] => d
  | p :: t => if k = p.1 then p.2 else assoc d t k

def mkEnt (fields : List (Name × FVal)) (sets : List (Name × List Bytes)) : Ent :=
  { fields := assoc .nil fields, sets := assoc [] sets }

def assoc2 {V : Type} (d : V) (l : List ((Name × Name) × V)) (a b : Name) : V :=
  match l with
  | [] => d
  | p :: t => if a = p.1.1 ∧ b = p.1.2 then p.2 else assoc2 d t a b

def mkSt (ents : List (Name × List (Id × Ent))) (uniq : List ((Name × Name) × List (Bytes × Id)))
    (setx : List ((Name × Name) × List (Bytes × SVal))) : St :=
  { ents := assoc [] ents, uniq := assoc2 [] uniq, setx := assoc2 [] setx }

structure EntD where
  id : Id
  fields : List (Name × FVal)
  sets : List (Name × List Bytes)
  deriving DecidableEq, Repr

structure StD where
  ents : List (Name × List EntD)
  uniq : List ((Name × Name) × List (Bytes × Id))
  setx : List ((Name × Name) × List (Bytes × SVal))
  deriving Repr

def EntD.toEnt (d : EntD) : Id × Ent := (d.id, mkEnt d.fields d.sets)

def StD.toSt (d : StD) : St :=
  mkSt (d.ents.map fun p => (p.1, p.2.map EntD.toEnt)) d.uniq d.setx

/-- the physical, layered database of a description: the records of a child store become the nested
    data buckets of the parent's entities -/
def StD.toPSt (L : Layering) (d : StD) : PSt :=
  { ents := fun r => (assoc [] d.ents r).map fun e =>
      (e.id,
        { own := mkEnt e.fields e.sets
          child := fun c =>
            match L.decl c with
            | some dc =>
              if dc.parent = r then ((assoc [] d.ents c).find? fun ce => ce.id = e.id).map fun ce => mkEnt ce.fields ce.sets
              else none
            | none => none })
    uniq := assoc2 [] d.uniq
    setx := assoc2 [] d.setx }

def nodupKeysB {V : Type} (l : List (Bytes × V)) : Bool := decide (l.map (·.1)).Nodup

def StD.wfB (d : StD) : Bool :=
  d.ents.all (fun p => decide ((p.2.map (·.id)).Nodup) && p.2.all fun e => e.sets.all fun q => decide q.2.Nodup)
  && d.uniq.all (fun p => nodupKeysB p.2 && p.2.all fun kv => decide (kv.1 ≠ []))
  && d.setx.all (fun p => nodupKeysB p.2 && p.2.all fun kv =>
      match kv.2 with
      | .ids l => decide l.Nodup
      | .junk => true)

theorem assoc_prop {V : Type} (P : V → Prop) (d : V) (l : List (Name × V)) (hd : P d)
    (hl : ∀ p ∈ l, P p.2) (k : Name) : P (assoc d l k) := by
  induction l with
  | nil => exact hd
  | cons p t ih =>
    unfold assoc
    split
    · exact hl p (List.mem_cons_self ..)
    · exact ih fun q hq => hl q (List.mem_cons_of_mem _ hq)

theorem assoc2_prop {V : Type} (P : V → Prop) (d : V) (l : List ((Name × Name) × V)) (hd : P d)
    (hl : ∀ p ∈ l, P p.2) (a b : Name) : P (assoc2 d l a b) := by
  induction l with
  | nil => exact hd
  | cons p t ih =>
    unfold assoc2
    split
    · exact hl p (List.mem_cons_self ..)
    · exact ih fun q hq => hl q (List.mem_cons_of_mem _ hq)

theorem StD.wf (d : StD) (h : d.wfB = true) : d.toSt.WF := by
  unfold StD.wfB at h
  simp only [Bool.and_eq_true, List.all_eq_true, decide_eq_true_eq] at h
  obtain ⟨⟨hE, hU⟩, hX⟩ := h
  refine ⟨?_, ?_, ?_, ?_, ?_, ?_⟩
  · intro st
    refine assoc_prop (fun l => NodupKeys l) [] _ (by simp [NodupKeys]) ?_ st
    intro p hp
    obtain ⟨q, hq, rfl⟩ := List.mem_map.1 hp
    have := (hE q hq).1
    simp only [NodupKeys, List.map_map]
    exact this
  · intro st f
    refine assoc2_prop (fun l => NodupKeys l) [] _ (by simp [NodupKeys]) ?_ st f
    intro p hp
    have := (hU p hp).1
    simpa [nodupKeysB, NodupKeys] using this
  · intro st f
    refine assoc2_prop (fun l => NodupKeys l) [] _ (by simp [NodupKeys]) ?_ st f
    intro p hp
    have := (hX p hp).1
    simpa [nodupKeysB, NodupKeys] using this
  · intro st f
    refine assoc2_prop (fun (l : List (Bytes × Id)) => ∀ kv ∈ l, kv.1 ≠ []) [] _ (by simp) ?_ st f
    intro p hp kv hkv
    exact (hU p hp).2 kv hkv
  · intro st
    refine assoc_prop (fun (l : List (Id × Ent)) => ∀ p f, p ∈ l → (p.2.sets f).Nodup) [] _ (by simp) ?_ st
    intro p hp q f hq
    obtain ⟨p0, hp0, rfl⟩ := List.mem_map.1 hp
    obtain ⟨e, he, rfl⟩ := List.mem_map.1 hq
    show (assoc [] e.sets f).Nodup
    refine assoc_prop (fun (l : List Bytes) => l.Nodup) [] _ List.nodup_nil ?_ f
    intro x hx
    exact (hE p0 hp0).2 e he x hx
  · intro st f
    refine assoc2_prop (fun (l : List (Bytes × SVal)) => ∀ kv l', kv ∈ l → kv.2 = SVal.ids l' → l'.Nodup) [] _ (by simp) ?_ st f
    intro p hp kv l' hkv hl'
    have := (hX p hp).2 kv hkv
    rw [hl'] at this
    simpa using this

end StorageModel.C09
