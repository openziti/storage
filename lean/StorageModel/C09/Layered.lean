import StorageModel.C09.SoundComplete
/-
  C09 — PARENT / CHILD layering of stores (boltz/store.go, boltz/store_query.go, boltz/query_scanners.go).

  A child store (`StoreDefinition.Parent != nil`) has no entities bucket of its own: its data for
  entity `id` is the nested bucket `<parent entities bucket>/<id>/<entityPath of the child>`, and an
  entity of the parent that has no such bucket is simply not a member of the child store.  A child
  store is either PLAIN or EXTENDED (`BaseStore.Extended()`).  The integrity checker reaches the
  entities of a store only through

    store.IterateValidIds(tx, true)   which ids a constraint's / link collection's entity scan visits
    store.IsEntityPresent(tx, id)     the index → entity passes, reference targets
    symbol.Eval / OpenCursor          via store.GetEntityBucket(tx, id)
    store.GetEntityBucket(tx, id)     the bucket a repair writes into

  all of the store that OWNS the symbol.  This file models the physical, layered database (`PSt`) and these access
  paths literally — the shared entities bucket, the scan rule of the filtered cursor (`IsChildStore &&
  !IsEntityPresent && !IsExtended → continue`), the `ValidIdsCursors` wrapper of an extended store with its INITIAL
  POSITIONING and its skipping `Next` — and proves that what they expose is the flat state `p.view L`
  (`validIds_eq_view`, `entityBucket_eq_view`, …), so that the checker on a layered database is `checkAll` on the view.

  Scope: one level of layering (the parent of a child store is a root store), which is what
  `GetEntityBucket` implements (`entityBucket.GetPath(store.entityPath...)` from the ROOT entity).
-/
namespace StorageModel.C09

/-- an entity bucket of a root store: its own fields / lists and the nested data buckets of the
    child stores (`none`: the entity has no data of that child store) -/
structure PEnt where
  own : Ent
  child : Name → Option Ent

structure PSt where
  /-- ROOT store name → entities bucket -/
  ents : Name → List (Id × PEnt)
  uniq : Name → Name → List (Bytes × Id)
  setx : Name → Name → List (Bytes × SVal)

structure ChildDecl where
  name : Name
  parent : Name
  extended : Bool
  deriving DecidableEq, Repr

/-- which store names are child stores (every other name is a root store) -/
abbrev Layering := List ChildDecl

def Layering.decl (L : Layering) (st : Name) : Option ChildDecl := L.find? fun d => d.name = st

/-- `store.GetEntitiesBucket(tx)`: a child store answers with its parent's bucket -/
def PSt.bucket (L : Layering) (p : PSt) (st : Name) : List (Id × PEnt) :=
  match L.decl st with
  | none => p.ents st
  | some d => p.ents d.parent

/-- `store.GetEntityBucket(tx, id)`: `baseBucket.GetBucket(id)`, and for a child store
    `entityBucket.GetPath(store.entityPath...)` (nil when either is missing) -/
def PSt.entityBucket (L : Layering) (p : PSt) (st : Name) (id : Id) : Option Ent :=
  match L.decl st with
  | none => (get id (p.ents st)).map (·.own)
  | some d => (get id (p.ents d.parent)).bind (·.child st)

/-- `store.IsEntityPresent(tx, id)` = `nil != store.GetEntityBucket(tx, id)` -/
def PSt.isEntityPresent (L : Layering) (p : PSt) (st : Name) (id : Id) : Bool := (p.entityBucket L st id).isSome

def Layering.isChild (L : Layering) (st : Name) : Bool := (L.decl st).isSome

def Layering.isExtended (L : Layering) (st : Name) : Bool :=
  match L.decl st with
  | some d => d.extended
  | none => false

/-- `store.IterateIds(tx, true)`: the rows the filtered cursor (`uniqueIndexScanner.nextUnpaged` over the
    entities bucket, filter `true`) stops at — `if store.IsChildStore() && !store.IsEntityPresent(...) &&
    !store.IsExtended() { continue }` -/
def PSt.iterateIds (L : Layering) (p : PSt) (st : Name) : List Id :=
  ((p.bucket L st).map (·.1)).filter fun id =>
    !(L.isChild st && !p.isEntityPresent L st id && !L.isExtended st)

/-- `for cursor.IsValid() && !cursor.IsExtendedDataPresent() { cursor.wrapped.Next() }` -/
def skipInvalid (pres : Id → Bool) (l : List Id) : List Id := l.dropWhile fun x => !pres x

/-- `ValidIdsCursors.Next`: `wrapped.Next()`, then skip the ids without extension data.
    (A cursor is the list of rows from its current position on.) -/
def validNext (pres : Id → Bool) (l : List Id) : List Id := skipInvalid pres l.tail

/-- `for c := …; c.IsValid(); c.Next() { visit c.Current() }` -/
def drain (next : List Id → List Id) : Nat → List Id → List Id
  | 0, _ => []
  | _, [] => []
  | n + 1, x :: t => x :: drain next n (next (x :: t))

/-- the ids a loop over `store.IterateValidIds(tx, true)` visits -/
def PSt.validIds (L : Layering) (p : PSt) (st : Name) : List Id :=
  let rows := p.iterateIds L st
  if L.isExtended st then
    let pres := p.isEntityPresent L st
    -- `if validIdsCursor.IsValid() && !validIdsCursor.IsExtendedDataPresent() { validIdsCursor.Next() }`
    let start :=
      match rows with
      | [] => []
      | x :: t => if !pres x then validNext pres (x :: t) else x :: t
    drain (validNext pres) (rows.length + 1) start
  else drain List.tail (rows.length + 1) rows

/-- what the access paths expose: a root store's own table; for a child store the table of the
    entities of the shared bucket that have its data bucket -/
def PSt.view (L : Layering) (p : PSt) : St :=
  { ents := fun st =>
      match L.decl st with
      | none => (p.ents st).map fun q => (q.1, q.2.own)
      | some d => (p.ents d.parent).filterMap fun q => (q.2.child st).map fun e => (q.1, e)
    uniq := p.uniq
    setx := p.setx }

/-- the checker over a layered database: every access goes through the paths above, i.e. sees the view -/
def checkAllL (L : Layering) (S : Schema) (fix : Bool) (p : PSt) : St × List Report := checkAll S fix (p.view L)

theorem filter_all {A : Type} (l : List A) : l.filter (fun _ => true) = l :=
  List.filter_eq_self.2 fun _ _ => rfl

theorem get_map_snd {A B : Type} (g : A → B) (k : Bytes) (l : List (Bytes × A)) :
    get k (l.map fun q => (q.1, g q.2)) = (get k l).map g := by
  induction l with
  | nil => rfl
  | cons q t ih =>
    simp only [List.map_cons, get_cons]
    split
    · rfl
    · exact ih

theorem get_filterMap {A B : Type} (g : A → Option B) (k : Bytes) (l : List (Bytes × A)) (hn : NodupKeys l) :
    get k (l.filterMap fun q => (g q.2).map fun e => (q.1, e)) = (get k l).bind g := by
  induction l with
  | nil => rfl
  | cons q t ih =>
    have iht := ih (nodupKeys_tail hn)
    rw [List.filterMap_cons, get_cons]
    by_cases hk : k = q.1
    · rw [if_pos hk]
      cases hg : g q.2 with
      | none =>
        simp only [Option.map_none, Option.bind_some]
        rw [iht, hg]
        have : get k t = none := get_none_iff.2 fun r hr e => nodupKeys_head hn r hr (e.trans hk)
        rw [this]; rfl
      | some e =>
        simp only [Option.map_some, get_cons, if_pos hk, Option.bind_some, hg]
    · rw [if_neg hk]
      cases hg : g q.2 with
      | none => simpa using iht
      | some e => simp only [Option.map_some, get_cons, if_neg hk]; exact iht

theorem drain_tail (n : Nat) (l : List Id) (h : l.length ≤ n) : drain List.tail n l = l := by
  induction n generalizing l with
  | zero =>
    cases l with
    | nil => rfl
    | cons x t => simp at h
  | succ n ih =>
    cases l with
    | nil => rfl
    | cons x t =>
      simp only [drain, List.tail_cons]
      rw [ih t (by simpa using h)]

theorem skipInvalid_length (pres : Id → Bool) (l : List Id) : (skipInvalid pres l).length ≤ l.length := by
  unfold skipInvalid
  induction l with
  | nil => simp
  | cons x t ih =>
    rw [List.dropWhile_cons]
    split
    · exact Nat.le_succ_of_le ih
    · exact Nat.le_refl _

theorem filter_skipInvalid (pres : Id → Bool) (l : List Id) : (skipInvalid pres l).filter pres = l.filter pres := by
  unfold skipInvalid
  induction l with
  | nil => rfl
  | cons x t ih =>
    rw [List.dropWhile_cons]
    cases hx : pres x with
    | true => simp [hx]
    | false => simp [hx, ih]

theorem skipInvalid_head (pres : Id → Bool) (l : List Id) :
    skipInvalid pres l = [] ∨ ∃ x t, skipInvalid pres l = x :: t ∧ pres x = true := by
  unfold skipInvalid
  induction l with
  | nil => exact Or.inl rfl
  | cons x t ih =>
    rw [List.dropWhile_cons]
    cases hx : pres x with
    | true => exact Or.inr ⟨x, t, by simp, hx⟩
    | false => simpa [hx] using ih

/-- a `ValidIdsCursors` positioned on an id WITH extension data (or exhausted) visits exactly the
    remaining ids with extension data -/
theorem drain_valid (pres : Id → Bool) (n : Nat) (l : List Id) (h : l.length ≤ n)
    (hpos : l = [] ∨ ∃ x t, l = x :: t ∧ pres x = true) : drain (validNext pres) n l = l.filter pres := by
  induction n generalizing l with
  | zero =>
    cases l with
    | nil => rfl
    | cons x t => simp at h
  | succ n ih =>
    cases l with
    | nil => rfl
    | cons x t =>
      rcases hpos with h0 | ⟨x', t', e, hx⟩
      · cases h0
      · cases e
        simp only [drain, validNext, List.tail_cons]
        rw [ih _ (Nat.le_trans (skipInvalid_length pres _) (by simpa using h)) (skipInvalid_head pres _),
          filter_skipInvalid, List.filter_cons, hx]
        rfl

/-- well-formedness of the physical database: what bbolt gives (distinct keys per bucket, non-empty
    unique-index keys, distinct list elements) -/
structure PSt.WF (p : PSt) : Prop where
  ents : ∀ r, NodupKeys (p.ents r)
  uniq : ∀ st f, NodupKeys (p.uniq st f)
  setx : ∀ st f, NodupKeys (p.setx st f)
  uniqKey : ∀ st f kv, kv ∈ p.uniq st f → kv.1 ≠ []
  own : ∀ r q f, q ∈ p.ents r → (q.2.own.sets f).Nodup
  child : ∀ r q c e f, q ∈ p.ents r → q.2.child c = some e → (e.sets f).Nodup
  idsNodup : ∀ st f kv l, kv ∈ p.setx st f → kv.2 = .ids l → l.Nodup

theorem entityBucket_eq_view (L : Layering) (p : PSt) (hk : ∀ r, NodupKeys (p.ents r)) (st : Name) (id : Id) :
    p.entityBucket L st id = (p.view L).ent st id := by
  unfold PSt.entityBucket St.ent PSt.view
  cases hd : L.decl st with
  | none => simp only [hd]; rw [get_map_snd]
  | some d => simp only [hd]; exact (get_filterMap (fun pe => pe.child st) id _ (hk _)).symm

theorem isEntityPresent_eq_view (L : Layering) (p : PSt) (hwf : p.WF) (st : Name) (id : Id) :
    p.isEntityPresent L st id = (p.view L).present st id := by
  unfold PSt.isEntityPresent St.present
  rw [entityBucket_eq_view L p hwf.ents]

/-- `symbol.Eval(tx, id)` of a symbol owned by `st`: `GetEntityBucket`, then the field -/
def PSt.evalT (L : Layering) (p : PSt) (st : Name) (id : Id) (f : Name) : FVal :=
  match p.entityBucket L st id with
  | some e => e.fields f
  | none => .nil

theorem evalT_eq_view (L : Layering) (p : PSt) (hwf : p.WF) (st : Name) (id : Id) (f : Name) :
    p.evalT L st id f = (p.view L).evalT st id f := by
  unfold PSt.evalT St.evalT
  rw [entityBucket_eq_view L p hwf.ents]
  cases (p.view L).ent st id <;> rfl

/-- the elements of a nested list bucket of a symbol owned by `st` -/
def PSt.setOf (L : Layering) (p : PSt) (st : Name) (id : Id) (f : Name) : List Bytes :=
  match p.entityBucket L st id with
  | some e => e.sets f
  | none => []

theorem setOf_eq_view (L : Layering) (p : PSt) (hwf : p.WF) (st : Name) (id : Id) (f : Name) :
    p.setOf L st id f = (p.view L).setOf st id f := by
  unfold PSt.setOf St.setOf
  rw [entityBucket_eq_view L p hwf.ents]
  cases (p.view L).ent st id <;> rfl

theorem filter_present_eq {A B : Type} (g : A → Option B) (l : List (Bytes × A)) (hn : NodupKeys l) :
    (l.map (·.1)).filter (fun id => ((get id l).bind g).isSome) =
      (l.filterMap fun q => (g q.2).map fun e => (q.1, e)).map (·.1) := by
  induction l with
  | nil => rfl
  | cons q t ih =>
    have iht := ih (nodupKeys_tail hn)
    have htail : (t.map (·.1)).filter (fun id => ((get id (q :: t)).bind g).isSome) =
        (t.map (·.1)).filter (fun id => ((get id t).bind g).isSome) := by
      apply List.filter_congr
      intro id hid
      obtain ⟨r, hr, e⟩ := List.mem_map.1 hid
      have hne : ¬ id = q.1 := fun h => nodupKeys_head hn r hr (e.trans h)
      rw [get_cons, if_neg hne]
    rw [List.map_cons, List.filter_cons, htail, iht, List.filterMap_cons]
    simp only [get_cons, if_true, Option.bind_some]
    cases hg : g q.2 with
    | none => simp
    | some e => simp

/-- **the entity scan.** The ids a loop over `IterateValidIds` visits are the ids of the view's table,
    in order: for a root store all of them; for a plain child store the filtered cursor drops the
    parent-only ids; for an extended child store the filtered cursor keeps them and `ValidIdsCursors`
    — initial positioning and `Next` — drops them, wherever they sit. -/
theorem validIds_eq_view (L : Layering) (p : PSt) (hk : ∀ r, NodupKeys (p.ents r)) (st : Name) :
    p.validIds L st = (p.view L).ids st := by
  unfold PSt.validIds PSt.iterateIds
  cases hd : L.decl st with
  | none =>
    have hc : L.isChild st = false := by unfold Layering.isChild; rw [hd]; rfl
    have he : L.isExtended st = false := by unfold Layering.isExtended; rw [hd]
    simp only [hc, he, Bool.false_and, Bool.not_false, filter_all, Bool.false_eq_true, if_false]
    rw [drain_tail _ _ (Nat.le_succ _)]
    unfold PSt.bucket St.ids PSt.view
    simp only [hd, List.map_map]
    rfl
  | some d =>
    have hc : L.isChild st = true := by unfold Layering.isChild; rw [hd]; rfl
    have he : L.isExtended st = d.extended := by unfold Layering.isExtended; rw [hd]
    have hview : (p.view L).ids st =
        ((p.ents d.parent).map (·.1)).filter (fun id => p.isEntityPresent L st id) := by
      unfold St.ids PSt.view PSt.isEntityPresent PSt.entityBucket
      simp only [hd]
      exact (filter_present_eq (fun pe => pe.child st) _ (hk _)).symm
    have hb : (p.bucket L st).map (·.1) = (p.ents d.parent).map (·.1) := by unfold PSt.bucket; rw [hd]
    rw [hview, hb, hc, he]
    cases hext : d.extended with
    | false =>
      simp only [Bool.true_and, Bool.not_false, Bool.and_true, Bool.not_not, Bool.false_eq_true, if_false]
      rw [drain_tail _ _ (Nat.le_succ _)]
    | true =>
      simp only [Bool.not_true, Bool.and_false, Bool.not_false, filter_all, if_true]
      generalize (p.ents d.parent).map (·.1) = rows
      cases rows with
      | nil => rfl
      | cons x t =>
        simp only
        cases hx : p.isEntityPresent L st x with
        | false =>
          simp only [Bool.not_false, if_true, validNext, List.tail_cons]
          rw [drain_valid _ _ _ (Nat.le_trans (skipInvalid_length _ _) (by simp only [List.length_cons]; omega)) (skipInvalid_head _ _),
            filter_skipInvalid, List.filter_cons, hx]
          rfl
        | true =>
          simp only [Bool.not_true, Bool.false_eq_true, if_false]
          rw [drain_valid _ _ _ (Nat.le_succ _) (Or.inr ⟨x, t, rfl, hx⟩)]

/-- the root store in whose entities bucket the entities of `st` live -/
def Layering.root (L : Layering) (st : Name) : Name :=
  match L.decl st with
  | none => st
  | some d => d.parent

/-- the data of store `st` inside an entity bucket of `L.root st` -/
def PEnt.data (L : Layering) (st : Name) (pe : PEnt) : Option Ent :=
  match L.decl st with
  | none => some pe.own
  | some _ => pe.child st

theorem view_ents (L : Layering) (p : PSt) (st : Name) :
    (p.view L).ents st = (p.ents (L.root st)).filterMap fun q => (q.2.data L st).map fun e => (q.1, e) := by
  unfold PSt.view Layering.root PEnt.data
  simp only
  cases L.decl st with
  | none => exact (congrFun List.filterMap_eq_map' _).symm
  | some d => rfl

theorem view_wf (L : Layering) (p : PSt) (hwf : p.WF) : (p.view L).WF := by
  refine ⟨fun st => ?_, hwf.uniq, hwf.setx, hwf.uniqKey, fun st q f hq => ?_, hwf.idsNodup⟩
  · unfold NodupKeys
    rw [view_ents, ← filter_present_eq (PEnt.data L st) _ (hwf.ents _)]
    exact List.filter_sublist.nodup (hwf.ents _)
  · rw [view_ents] at hq
    obtain ⟨r, hr, he⟩ := List.mem_filterMap.1 hq
    unfold PEnt.data at he
    cases hd : L.decl st with
    | none =>
      rw [hd] at he
      cases he
      exact hwf.own _ r f hr
    | some d =>
      rw [hd] at he
      cases hc : r.2.child st with
      | none => rw [hc] at he; cases he
      | some e =>
        rw [hc] at he
        cases he
        exact hwf.child _ r st e f hr hc

end StorageModel.C09
