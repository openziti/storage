import StorageModel.C09.Fix
/-
  C09 — a run keeps the state well-formed (distinct keys in every bucket, distinct elements in every list), so that
  the completeness theorem applies to the repaired state.  Every schema, both modes: `St.WF` survives each write the
  checker makes (an index entry deleted or put under a non-empty key, an id added to or removed from a value bucket,
  an element added to or removed from a nested list, a field cleared), hence each step, each loop and the whole run.
-/
namespace StorageModel.C09

namespace St.WF

theorem setUniq {s : St} (h : s.WF) {st f : Name} {b : List (Bytes × Id)} (hb : NodupKeys b)
    (hk : ∀ kv ∈ b, kv.1 ≠ []) : (s.setUniq st f b).WF := by
  refine { h with uniq := fun st' f' => ?_, uniqKey := fun st' f' => ?_ } <;>
    by_cases hc : st' = st ∧ f' = f
  · rw [hc.1, hc.2, setUniq_uniq_self]; exact hb
  · rw [setUniq_uniq_other _ _ _ _ _ _ hc]; exact h.uniq st' f'
  · rw [hc.1, hc.2, setUniq_uniq_self]; exact hk
  · rw [setUniq_uniq_other _ _ _ _ _ _ hc]; exact h.uniqKey st' f'

theorem setSetx {s : St} (h : s.WF) {st f : Name} {b : List (Bytes × SVal)} (hb : NodupKeys b)
    (hl : ∀ kv l, kv ∈ b → kv.2 = .ids l → l.Nodup) : (s.setSetx st f b).WF := by
  refine { h with setx := fun st' f' => ?_, idsNodup := fun st' f' => ?_ } <;>
    by_cases hc : st' = st ∧ f' = f
  · rw [hc.1, hc.2, setSetx_self]; exact hb
  · rw [setSetx_other _ _ _ _ _ _ hc]; exact h.setx st' f'
  · rw [hc.1, hc.2, setSetx_self]; exact hl
  · rw [setSetx_other _ _ _ _ _ _ hc]; exact h.idsNodup st' f'

theorem delUniq {s : St} (h : s.WF) (st f : Name) (k : Bytes) : (s.setUniq st f (del k (s.uniq st f))).WF :=
  h.setUniq (nodupKeys_del (h.uniq st f)) fun kv hkv => h.uniqKey st f kv (mem_del.1 hkv).1

theorem putUniq {s : St} (h : s.WF) (st f : Name) {v : Bytes} (hv : v ≠ []) (id : Id) :
    (s.setUniq st f (put v id (s.uniq st f))).WF :=
  h.setUniq (nodupKeys_put (h.uniq st f)) fun kv hkv => by
    rcases mem_put_sub hkv with rfl | hkv
    · exact hv
    · exact h.uniqKey st f kv hkv

theorem delKey {s : St} (h : s.WF) (st f : Name) (k : Bytes) : (s.setSetx st f (del k (s.setx st f))).WF :=
  h.setSetx (nodupKeys_del (h.setx st f)) fun kv l hkv => h.idsNodup st f kv l (mem_del.1 hkv).1

theorem putIds {s : St} (h : s.WF) (st f : Name) (k : Bytes) {l : List Id} (hl : l.Nodup) :
    (s.setSetx st f (put k (.ids l) (s.setx st f))).WF :=
  h.setSetx (nodupKeys_put (h.setx st f)) fun kv l' hkv hl' => by
    rcases mem_put_sub hkv with rfl | hkv
    · cases hl'; exact hl
    · exact h.idsNodup st f kv l' hkv hl'

theorem delIdx {s : St} (h : s.WF) (st f : Name) (k : Bytes) (id : Id) : (s.delIdx st f k id).WF := by
  unfold St.delIdx; split
  · next l hg => exact h.putIds st f k (nodup_sdel (h.idsNodup st f _ l (get_some_mem hg) rfl))
  · exact h

theorem addIdx {s : St} (h : s.WF) (st f : Name) (k : Bytes) (id : Id) : (s.addIdx st f k id).WF := by
  unfold St.addIdx; split
  · next l hg => exact h.putIds st f k (nodup_sins (h.idsNodup st f _ l (get_some_mem hg) rfl))
  · exact h.putIds st f k (List.nodup_cons.2 ⟨List.not_mem_nil, List.nodup_nil⟩)

theorem modEnt {s : St} (h : s.WF) (st : Name) (id : Id) {g : Ent → Ent}
    (hg : ∀ e, (∀ f, (e.sets f).Nodup) → ∀ f, ((g e).sets f).Nodup) : (s.modEnt st id g).WF := by
  refine { h with ents := fun st' => ?_, sets := fun st' p f hp => ?_ }
  · show ((s.modEnt st id g).ids st').Nodup
    rw [modEnt_ids]; exact h.ents st'
  · unfold St.modEnt at hp
    dsimp only at hp
    split at hp
    · obtain ⟨q, hq, rfl⟩ := List.mem_map.1 hp
      split
      · exact hg q.2 (fun f' => h.sets st q f' hq) f
      · exact h.sets st q f hq
    · exact h.sets st' p f hp

theorem setSet {s : St} (h : s.WF) (st : Name) (id : Id) (f : Name) {g : List Bytes → List Bytes}
    (hg : ∀ l, l.Nodup → (g l).Nodup) : (s.modEnt st id fun e => e.setSet f (g (e.sets f))).WF :=
  h.modEnt st id fun e he f' => by
    show (if f' = f then g (e.sets f) else e.sets f').Nodup
    split
    · exact hg _ (he f)
    · exact he f'

theorem setNil {s : St} (h : s.WF) (st : Name) (id : Id) (f : Name) :
    (s.modEnt st id fun e => e.setField f .nil).WF :=
  h.modEnt st id fun _ he => he

end St.WF

theorem ite_wf {s x : St} (c : Bool) (hs : s.WF) (hx : x.WF) : (if c then x else s).WF := by
  cases c
  · exact hs
  · exact hx

theorem fkCons_wf (st f : Name) (n : Bool) (linked : Name) (fix : Bool) (s : St) (h : s.WF) :
    (fkConsCheck st f n linked fix s).1.WF := by
  refine runSteps_inv _ St.WF (fun x a hx => ?_) _ s h
  exact ite_fst_of St.WF hx (ite_fst_of St.WF (ite_wf _ hx (hx.setNil ..)) hx)

theorem unique_wf (st f : Name) (n fix : Bool) (s : St) (h : s.WF) : (uniqueCheck st f n fix s).1.WF := by
  refine runSteps_inv _ St.WF (fun x id hx => ?_) _ _ (runSteps_inv _ St.WF (fun x kv hx => ?_) _ s h)
  · rw [uqStep2_eq]
    refine ite_fst_of St.WF hx ?_
    cases get (x.evalB st id f) (x.uniq st f) with
    | none =>
      show (if fix = true then uqRepair x st f (x.evalB st id f) id else x).WF
      unfold uqRepair
      split
      · split
        · exact hx
        · next hv => exact hx.putUniq st f hv id
      · exact hx
    | some i => exact ite_fst_of St.WF hx hx
  · have hw := ite_wf fix hx (hx.delUniq st f kv.1)
    exact ite_fst_of St.WF hw (ite_fst_of St.WF hx hw)

theorem fkIndex_wf (st f : Name) (n : Bool) (fkSt fkF : Name) (fix : Bool) (s : St) (h : s.WF) :
    (fkIndexCheck st f n fkSt fkF fix s).1.WF := by
  refine runSteps_inv _ St.WF (fun x id hx => ?_) _ _ (runSteps_inv _ St.WF (fun x t hx => ?_) _ s h)
  · refine ite_fst_of St.WF hx (ite_fst_of St.WF ?_ (ite_fst_of St.WF hx ?_))
    · exact ite_wf _ hx (hx.setNil ..)
    · exact ite_wf fix hx (hx.setSet _ _ _ fun _ => nodup_sins)
  · refine runSteps_inv _ St.WF (fun y b hy => ?_) _ x hx
    have hw := ite_wf fix hy (hy.setSet fkSt t fkF (g := sdel b) fun _ => nodup_sdel)
    exact ite_fst_of St.WF hw (ite_fst_of St.WF hw hy)

theorem link_wf (st f oSt oF : Name) (hasInv fix : Bool) (s : St) (h : s.WF) :
    (linkCheck st f oSt oF hasInv fix s).1.WF := by
  refine runSteps_inv _ St.WF (fun x a hx => ?_) _ s h
  have hloop : (runSteps (lkInner st f oSt oF fix a) (x.setOf st a f) x).1.WF :=
    runSteps_inv _ St.WF (fun y b hy => ite_fst_of St.WF hy (ite_fst_of St.WF
      (ite_wf fix hy (hy.setSet _ _ _ fun _ => nodup_sins)) hy)) _ x hx
  exact ite_wf fix hloop (foldl_inv St.WF _ (fun y c hy => hy.setSet st a f (g := sdel c) fun _ => nodup_sdel) _ _ hloop)

theorem set_wf (st f : Name) (fix : Bool) (s : St) (h : s.WF) : (setCheck st f fix s).1.WF := by
  refine runSteps_inv _ St.WF (fun x id hx => ?_) _ _
    (foldl_inv St.WF _ (fun y k hy => hy.delKey st f k) _ _ (runSteps_inv _ St.WF (fun x kv hx => ?_) _ s h))
  · exact runSteps_inv _ St.WF (fun y v hy => ite_fst_of St.WF hy (ite_wf fix hy (hy.addIdx ..))) _ x hx
  · unfold sxStep1
    cases kv.2 with
    | junk => exact ite_wf fix hx (hx.delKey ..)
    | ids l =>
      refine runSteps_inv _ St.WF (fun y i hy => ?_) l x hx
      have hw := ite_wf fix hy (hy.delIdx st f kv.1 i)
      exact ite_fst_of St.WF hw (ite_fst_of St.WF hw hy)

theorem checkAll_wf (S : Schema) (fix : Bool) (s : St) (hwf : s.WF) : (checkAll S fix s).1.WF := by
  refine seqAll_inv St.WF _ (fun p hp x hx => ?_) s hwf
  obtain ⟨sd, _, rfl⟩ := List.mem_map.1 hp
  refine seqAll_inv St.WF _ (fun p hp y hy => ?_) _ (seqAll_inv St.WF _ (fun p hp y hy => ?_) x hx)
  · obtain ⟨c, _, rfl⟩ := List.mem_map.1 hp
    cases c with
    | unique st f n => exact unique_wf st f n fix y hy
    | setIdx st f => exact set_wf st f fix y hy
    | fkIndex st f n fkSt fkF => exact fkIndex_wf st f n fkSt fkF fix y hy
    | fkCons st f n linked => exact fkCons_wf st f n linked fix y hy
    | noop => exact hy
  · obtain ⟨lc, _, rfl⟩ := List.mem_map.1 hp
    exact link_wf _ _ _ _ _ fix y hy

end StorageModel.C09
