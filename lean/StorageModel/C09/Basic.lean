import StorageModel.C09.Spec
/-
  C09 — basic lemmas: buckets (`get`/`put`/`del`), string lists (`sins`/`sdel`), `runSteps`,
  `Proc.seq` / `seqAll` with their loop principles (an invariant kept; a fact established per element), and
  what holds of every / of some report of a branch, a loop, a sequence.
-/
namespace StorageModel.C09

section bucket
variable {V : Type}

@[simp] theorem get_nil (k : Bytes) : get k ([] : List (Bytes × V)) = none := rfl

theorem get_cons (k : Bytes) (p : Bytes × V) (t : List (Bytes × V)) :
    get k (p :: t) = if k = p.1 then some p.2 else get k t := rfl

theorem get_some_mem {k : Bytes} {v : V} {l : List (Bytes × V)} (h : get k l = some v) : (k, v) ∈ l := by
  induction l with
  | nil => simp at h
  | cons p t ih =>
    rw [get_cons] at h
    split at h
    · next hk => cases h; subst hk; exact List.mem_cons_self ..
    · exact List.mem_cons_of_mem _ (ih h)

theorem get_isSome_iff {k : Bytes} {l : List (Bytes × V)} : (get k l).isSome ↔ ∃ p ∈ l, p.1 = k := by
  induction l with
  | nil => simp
  | cons p t ih =>
    rw [get_cons]
    by_cases h : k = p.1
    · simp only [h, if_true, Option.isSome_some, true_iff]
      exact ⟨p, List.mem_cons_self .., rfl⟩
    · rw [if_neg h, ih]
      constructor
      · rintro ⟨q, hq, e⟩; exact ⟨q, List.mem_cons_of_mem _ hq, e⟩
      · rintro ⟨q, hq, e⟩
        rcases List.mem_cons.1 hq with rfl | hq
        · exact absurd e.symm h
        · exact ⟨q, hq, e⟩

theorem get_none_iff {k : Bytes} {l : List (Bytes × V)} : get k l = none ↔ ∀ p ∈ l, p.1 ≠ k := by
  rw [← Option.not_isSome_iff_eq_none, get_isSome_iff]
  exact ⟨fun h p hp e => h ⟨p, hp, e⟩, fun h ⟨p, hp, e⟩ => h p hp e⟩

theorem nodupKeys_tail {p : Bytes × V} {t : List (Bytes × V)} (h : NodupKeys (p :: t)) : NodupKeys t := by
  unfold NodupKeys at h ⊢; rw [List.map_cons] at h; exact (List.nodup_cons.1 h).2

theorem nodupKeys_head {p : Bytes × V} {t : List (Bytes × V)} (h : NodupKeys (p :: t)) :
    ∀ q ∈ t, q.1 ≠ p.1 := by
  unfold NodupKeys at h; rw [List.map_cons] at h
  intro q hq e
  exact (List.nodup_cons.1 h).1 (e ▸ List.mem_map_of_mem (f := (·.1)) hq)

theorem get_of_mem_nodup {k : Bytes} {v : V} {l : List (Bytes × V)} (hn : NodupKeys l) (h : (k, v) ∈ l) :
    get k l = some v := by
  induction l with
  | nil => cases h
  | cons p t ih =>
    rw [get_cons]
    rcases List.mem_cons.1 h with rfl | ht
    · simp
    · rw [if_neg (nodupKeys_head hn _ ht), ih (nodupKeys_tail hn) ht]

theorem get_del (k k' : Bytes) (l : List (Bytes × V)) :
    get k' (del k l) = if k' = k then none else get k' l := by
  induction l with
  | nil => simp [del]
  | cons p t ih =>
    unfold del at ih ⊢
    rw [List.filter_cons]
    by_cases hp : p.1 = k
    · simp only [hp, ne_eq, not_true_eq_false, decide_false, Bool.false_eq_true, if_false, ih, get_cons]
      by_cases h1 : k' = k <;> simp [h1]
    · simp only [hp, ne_eq, not_false_eq_true, decide_true, if_true, get_cons, ih]
      by_cases h1 : k' = p.1
      · have : ¬ k' = k := fun e => hp (h1 ▸ e)
        rw [if_pos h1, if_neg this, if_pos h1]
      · rw [if_neg h1, if_neg h1]

theorem get_ins (k k' : Bytes) (v : V) (l : List (Bytes × V)) (hk : get k l = none) :
    get k' (ins k v l) = if k' = k then some v else get k' l := by
  induction l with
  | nil => simp [ins, get_cons]
  | cons p t ih =>
    rw [get_cons] at hk
    split at hk
    · cases hk
    · next hne =>
      unfold ins
      split
      · simp only [get_cons]
      · simp only [get_cons, ih hk]
        by_cases h2 : k' = p.1
        · have : ¬ k' = k := fun e => hne (e ▸ h2)
          rw [if_pos h2, if_neg this, if_pos h2]
        · rw [if_neg h2, if_neg h2]

theorem get_map_entry (id k : Bytes) (g : V → V) (l : List (Bytes × V)) :
    get k (l.map fun p => if p.1 = id then (p.1, g p.2) else p) = if k = id then (get k l).map g else get k l := by
  induction l with
  | nil => simp
  | cons p t ih =>
    rw [List.map_cons, get_cons, get_cons, ih, show (if p.1 = id then (p.1, g p.2) else p).1 = p.1 by split <;> rfl]
    by_cases hk : k = p.1
    · subst hk
      rw [if_pos rfl, if_pos rfl]
      by_cases h : p.1 = id
      · rw [if_pos h, if_pos h]; rfl
      · rw [if_neg h, if_neg h]
    · rw [if_neg hk, if_neg hk]

theorem keys_map_entry (id : Bytes) (g : V → V) (l : List (Bytes × V)) :
    (l.map fun p => if p.1 = id then (p.1, g p.2) else p).map (·.1) = l.map (·.1) := by
  rw [List.map_map]
  exact List.map_congr_left fun p _ => by simp only [Function.comp]; split <;> rfl

/-- the replacing branch of `put` in the shape `get_map_entry` and `keys_map_entry` are stated for -/
theorem replace_eq_map_entry (k : Bytes) (v : V) :
    (fun p : Bytes × V => if p.1 = k then (k, v) else p) = fun p => if p.1 = k then (p.1, (fun _ => v) p.2) else p := by
  funext p
  split
  · next h => rw [h]
  · rfl

theorem get_replace (k k' : Bytes) (v : V) (l : List (Bytes × V)) :
    get k' (l.map fun p => if p.1 = k then (k, v) else p) = if k' = k then (get k l).map (fun _ => v) else get k' l := by
  rw [replace_eq_map_entry, get_map_entry k k' fun _ => v]
  split
  · next h => rw [h]
  · rfl

theorem get_put (k k' : Bytes) (v : V) (l : List (Bytes × V)) :
    get k' (put k v l) = if k' = k then some v else get k' l := by
  unfold put
  split
  · next h =>
    rw [get_replace]
    split
    · cases hg : get k l with
      | none => rw [hg] at h; cases h
      | some x => rfl
    · rfl
  · next h =>
    have : get k l = none := by
      cases hg : get k l with
      | none => rfl
      | some x => rw [hg] at h; exact absurd rfl h
    exact get_ins k k' v l this

theorem mem_del {k : Bytes} {l : List (Bytes × V)} {p : Bytes × V} : p ∈ del k l ↔ p ∈ l ∧ p.1 ≠ k := by
  simp [del]

theorem ins_perm (k : Bytes) (v : V) (l : List (Bytes × V)) : (ins k v l).Perm ((k, v) :: l) := by
  induction l with
  | nil => exact .refl _
  | cons p t ih =>
    unfold ins
    split
    · exact .refl _
    · exact (ih.cons p).trans (.swap ..)

theorem mem_ins {k : Bytes} {v : V} {l : List (Bytes × V)} {p : Bytes × V} : p ∈ ins k v l ↔ p = (k, v) ∨ p ∈ l :=
  (ins_perm k v l).mem_iff.trans List.mem_cons

theorem mem_put_sub {k : Bytes} {v : V} {l : List (Bytes × V)} {p : Bytes × V} (h : p ∈ put k v l) :
    p = (k, v) ∨ p ∈ l := by
  unfold put at h
  split at h
  · obtain ⟨q, hq, rfl⟩ := List.mem_map.1 h
    split
    · exact Or.inl rfl
    · exact Or.inr hq
  · exact mem_ins.1 h

theorem nodupKeys_ins {k : Bytes} {v : V} {l : List (Bytes × V)} (hn : NodupKeys l) (hk : get k l = none) :
    NodupKeys (ins k v l) :=
  ((ins_perm k v l).map _).nodup_iff.2 (List.nodup_cons.2
    ⟨fun hm => let ⟨q, hq, e⟩ := List.mem_map.1 hm; get_none_iff.1 hk q hq e, hn⟩)

theorem nodupKeys_put {k : Bytes} {v : V} {l : List (Bytes × V)} (hn : NodupKeys l) : NodupKeys (put k v l) := by
  unfold put
  split
  · unfold NodupKeys
    rw [replace_eq_map_entry, keys_map_entry k fun _ => v]
    exact hn
  · next h =>
    apply nodupKeys_ins hn
    cases hg : get k l with
    | none => rfl
    | some x => rw [hg] at h; exact absurd rfl h

theorem nodupKeys_del {k : Bytes} {l : List (Bytes × V)} (hn : NodupKeys l) : NodupKeys (del k l) := by
  unfold NodupKeys del at *
  exact (List.filter_sublist.map _).nodup hn

end bucket

theorem sinsRaw_perm (x : Bytes) (l : List Bytes) : (sinsRaw x l).Perm (x :: l) := by
  induction l with
  | nil => exact .refl _
  | cons z t ih =>
    unfold sinsRaw
    split
    · exact .refl _
    · exact (ih.cons z).trans (.swap ..)

theorem mem_sinsRaw {x y : Bytes} {l : List Bytes} : y ∈ sinsRaw x l ↔ y = x ∨ y ∈ l :=
  (sinsRaw_perm x l).mem_iff.trans List.mem_cons

theorem mem_sins {x y : Bytes} {l : List Bytes} : y ∈ sins x l ↔ y = x ∨ y ∈ l := by
  unfold sins
  split
  · next h =>
    have hx : x ∈ l := by simpa using h
    constructor
    · exact Or.inr
    · rintro (rfl | h)
      · exact hx
      · exact h
  · exact mem_sinsRaw

theorem nodup_sinsRaw {x : Bytes} {l : List Bytes} (hn : l.Nodup) (hx : x ∉ l) : (sinsRaw x l).Nodup :=
  (sinsRaw_perm x l).nodup_iff.2 (List.nodup_cons.2 ⟨hx, hn⟩)

theorem nodup_sins {x : Bytes} {l : List Bytes} (hn : l.Nodup) : (sins x l).Nodup := by
  unfold sins
  split
  · exact hn
  · next h => exact nodup_sinsRaw hn (by simpa using h)

theorem mem_sdel {x y : Bytes} {l : List Bytes} : y ∈ sdel x l ↔ y ∈ l ∧ y ≠ x := by
  simp [sdel]

theorem nodup_sdel {x : Bytes} {l : List Bytes} (hn : l.Nodup) : (sdel x l).Nodup :=
  List.filter_sublist.nodup hn

@[simp] theorem runSteps_nil {α : Type} (step : St → α → St × List Report) (s : St) :
    runSteps step [] s = (s, []) := rfl

theorem runSteps_cons {α : Type} (step : St → α → St × List Report) (a : α) (as : List α) (s : St) :
    runSteps step (a :: as) s =
      ((runSteps step as (step s a).1).1, (step s a).2 ++ (runSteps step as (step s a).1).2) := rfl

@[simp] theorem seq_fst (p q : Proc) (s : St) : (p.seq q s).1 = (q (p s).1).1 := rfl
@[simp] theorem seq_snd (p q : Proc) (s : St) : (p.seq q s).2 = (p s).2 ++ (q (p s).1).2 := rfl
@[simp] theorem skip_apply (s : St) : Proc.skip s = (s, []) := rfl
@[simp] theorem seqAll_nil : seqAll [] = Proc.skip := rfl
@[simp] theorem seqAll_cons (p : Proc) (ps : List Proc) : seqAll (p :: ps) = p.seq (seqAll ps) := rfl

theorem seqAll_append (l1 l2 : List Proc) (s : St) : seqAll (l1 ++ l2) s = ((seqAll l1).seq (seqAll l2)) s := by
  induction l1 generalizing s with
  | nil => simp [Proc.seq]
  | cons p t ih =>
    simp only [List.cons_append, seqAll_cons, Proc.seq, ih, List.append_assoc]

theorem seqAll_flatMap {α : Type} (f : α → Proc) (g : α → List Proc) (h : ∀ a s, f a s = seqAll (g a) s)
    (l : List α) (s : St) : seqAll (l.map f) s = seqAll (l.flatMap g) s := by
  induction l generalizing s with
  | nil => rfl
  | cons a t ih =>
    simp only [List.map_cons, seqAll_cons, List.flatMap_cons, seqAll_append, Proc.seq, h, ih]

theorem seqAll_inv (I : St → Prop) (ps : List Proc) (h : ∀ p ∈ ps, ∀ s, I s → I (p s).1) (s : St) (hs : I s) :
    I (seqAll ps s).1 := by
  induction ps generalizing s with
  | nil => exact hs
  | cons p t ih => exact ih (fun q hq => h q (List.mem_cons_of_mem _ hq)) _ (h p (List.mem_cons_self ..) s hs)

theorem foldl_inv {σ α : Type} (I : σ → Prop) (g : σ → α → σ) (h : ∀ x a, I x → I (g x a)) (l : List α) (s : σ)
    (hs : I s) : I (l.foldl g s) := by
  induction l generalizing s with
  | nil => exact hs
  | cons a t ih => exact ih _ (h s a hs)

theorem runSteps_inv_mem {α : Type} (step : St → α → St × List Report) (I : St → Prop) (l : List α)
    (hI : ∀ s, ∀ a ∈ l, I s → I (step s a).1) (s : St) (h : I s) : I (runSteps step l s).1 := by
  induction l generalizing s with
  | nil => exact h
  | cons a t ih =>
    rw [runSteps_cons]
    exact ih (fun s b hb => hI s b (List.mem_cons_of_mem _ hb)) _ (hI s a (List.mem_cons_self ..) h)

theorem runSteps_inv {α : Type} (step : St → α → St × List Report) (I : St → Prop)
    (hI : ∀ s a, I s → I (step s a).1) (l : List α) (s : St) (h : I s) : I (runSteps step l s).1 :=
  runSteps_inv_mem step I l (fun s a _ => hI s a) s h

/-- if every step establishes `Q · a` for its own element and no step destroys `Q · b`, then after
    the loop `Q` holds for every element of the list (`I` is an invariant the steps may assume, and holds at the
    end as well; that a step keeps it may use membership in the list) -/
theorem runSteps_establish_mem {α : Type} (step : St → α → St × List Report) (I : St → Prop) (Q : St → α → Prop)
    (l : List α)
    (hI : ∀ s, ∀ a ∈ l, I s → I (step s a).1)
    (hpres : ∀ s a b, I s → Q s b → Q (step s a).1 b)
    (hest : ∀ s a, I s → Q (step s a).1 a)
    (s : St) (h : I s) : I (runSteps step l s).1 ∧ ∀ a ∈ l, Q (runSteps step l s).1 a := by
  refine ⟨runSteps_inv_mem step I l hI s h, ?_⟩
  suffices H : ∀ l' : List α, (∀ a ∈ l', a ∈ l) → ∀ s, I s → ∀ a ∈ l', Q (runSteps step l' s).1 a from
    H l (fun _ h => h) s h
  intro l'
  induction l' with
  | nil => intro _ _ _ a ha; cases ha
  | cons a t ih =>
    intro hsub s h b hb
    rw [runSteps_cons]
    have ha : a ∈ l := hsub a (List.mem_cons_self ..)
    have ht : ∀ c ∈ t, c ∈ l := fun c hc => hsub c (List.mem_cons_of_mem _ hc)
    rcases List.mem_cons.1 hb with rfl | hb
    · exact (runSteps_inv_mem step (fun s => I s ∧ Q s b) t
        (fun s c hc ⟨hi, hq⟩ => ⟨hI s c (ht c hc) hi, hpres s c b hi hq⟩) _
        ⟨hI s b ha h, hest s b h⟩).2
    · exact ih ht _ (hI s a ha h) b hb

theorem runSteps_establish {α : Type} (step : St → α → St × List Report) (I : St → Prop) (Q : St → α → Prop)
    (hI : ∀ s a, I s → I (step s a).1)
    (hpres : ∀ s a b, I s → Q s b → Q (step s a).1 b)
    (hest : ∀ s a, I s → Q (step s a).1 a)
    (l : List α) (s : St) (h : I s) : I (runSteps step l s).1 ∧ ∀ a ∈ l, Q (runSteps step l s).1 a :=
  runSteps_establish_mem step I Q l (fun s a _ => hI s a) hpres hest s h

theorem ite_fst_of {σ : Type} (Q : σ → Prop) {c : Prop} [Decidable c] {a b : σ × List Report} (ha : Q a.1) (hb : Q b.1) :
    Q (if c then a else b).1 := by
  split <;> assumption

theorem ite_fst {σ : Type} {c : Prop} [Decidable c] {a b : σ × List Report} {s : σ} (ha : a.1 = s) (hb : b.1 = s) :
    (if c then a else b).1 = s := ite_fst_of (· = s) ha hb

theorem runSteps_id {α : Type} (step : St → α → St × List Report) (h : ∀ s a, (step s a).1 = s)
    (l : List α) (s : St) : runSteps step l s = (s, l.flatMap fun a => (step s a).2) := by
  induction l with
  | nil => rfl
  | cons a t ih => rw [runSteps_cons, h, ih]; simp

theorem of_not_bnot {b : Bool} (h : ¬(!b) = true) : b = true := by cases b <;> simp at h ⊢

theorem not_of_bnot {b : Bool} (h : (!b) = true) : ¬b = true := by cases b <;> simp at h ⊢

theorem exists_mem_append {α : Type} {l1 l2 : List α} {p : α → Prop} :
    (∃ a ∈ l1 ++ l2, p a) ↔ (∃ a ∈ l1, p a) ∨ ∃ a ∈ l2, p a := by
  simp only [List.mem_append, or_and_right, exists_or]

theorem exists_mem_flatMap {α β : Type} {l : List α} {g : α → List β} {p : β → Prop} :
    (∃ b ∈ l.flatMap g, p b) ↔ ∃ a ∈ l, ∃ b ∈ g a, p b := by
  simp only [List.mem_flatMap]
  constructor
  · rintro ⟨b, ⟨a, ha, hb⟩, hp⟩; exact ⟨a, ha, b, hb, hp⟩
  · rintro ⟨a, ha, b, hb, hp⟩; exact ⟨b, ⟨a, ha, hb⟩, hp⟩

section reports
variable {P : Report → Prop}

theorem forall_mem_nil : ∀ r ∈ ([] : List Report), P r := fun _ hr => nomatch hr

theorem forall_mem_single {a : Report} (h : P a) : ∀ r ∈ [a], P r := fun _ hr => List.mem_singleton.1 hr ▸ h

theorem forall_mem_ite {c : Prop} [Decidable c] {a b : List Report} (ha : ∀ r ∈ a, P r) (hb : ∀ r ∈ b, P r) :
    ∀ r ∈ (if c then a else b), P r := by
  split <;> assumption

theorem forall_mem_ite_snd {c : Prop} [Decidable c] {a b : St × List Report} (ha : ∀ r ∈ a.2, P r)
    (hb : ∀ r ∈ b.2, P r) : ∀ r ∈ (if c then a else b).2, P r := by
  split <;> assumption

theorem forall_mem_ite_snd_iff {c : Prop} [Decidable c] {a b : St × List Report} {Q : Prop}
    (ha : c → ((∀ r ∈ a.2, P r) ↔ Q)) (hb : ¬c → ((∀ r ∈ b.2, P r) ↔ Q)) : (∀ r ∈ (if c then a else b).2, P r) ↔ Q := by
  split
  · exact ha ‹_›
  · exact hb ‹_›

theorem not_forall_mem_single {a : Report} (h : ¬P a) : ¬∀ r ∈ [a], P r := fun hr => h (hr a (List.mem_singleton.2 rfl))

theorem exists_mem_ite_snd_iff {p : Report → Prop} {c : Prop} [Decidable c] {a b : St × List Report} {Q : Prop}
    (ha : c → ((∃ r ∈ a.2, p r) ↔ Q)) (hb : ¬c → ((∃ r ∈ b.2, p r) ↔ Q)) : (∃ r ∈ (if c then a else b).2, p r) ↔ Q := by
  split
  · exact ha ‹_›
  · exact hb ‹_›

theorem not_exists_mem_nil {p : Report → Prop} : ¬∃ r ∈ ([] : List Report), p r := fun ⟨_, h, _⟩ => nomatch h

theorem forall_mem_append {a b : List Report} (ha : ∀ r ∈ a, P r) (hb : ∀ r ∈ b, P r) : ∀ r ∈ a ++ b, P r :=
  fun r hr => (List.mem_append.1 hr).elim (ha r) (hb r)

theorem runSteps_reports {α : Type} {step : St → α → St × List Report} (h : ∀ s a, ∀ r ∈ (step s a).2, P r)
    (l : List α) (s : St) : ∀ r ∈ (runSteps step l s).2, P r := by
  induction l generalizing s with
  | nil => exact fun _ hr => nomatch hr
  | cons a t ih => exact forall_mem_append (h s a) (ih _)

theorem seq_reports {p q : Proc} (hp : ∀ s, ∀ r ∈ (p s).2, P r) (hq : ∀ s, ∀ r ∈ (q s).2, P r) (s : St) :
    ∀ r ∈ (p.seq q s).2, P r := forall_mem_append (hp s) (hq _)

theorem seqAll_reports {ps : List Proc} (h : ∀ p ∈ ps, ∀ s, ∀ r ∈ (p s).2, P r) (s : St) :
    ∀ r ∈ (seqAll ps s).2, P r := by
  induction ps generalizing s with
  | nil => exact fun _ hr => nomatch hr
  | cons p t ih =>
    exact seq_reports (h p (List.mem_cons_self ..)) (fun s => ih (fun q hq => h q (List.mem_cons_of_mem _ hq)) s) s

end reports

end StorageModel.C09
