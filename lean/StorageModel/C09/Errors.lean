import StorageModel.C09.ModelE
import StorageModel.C09.Fix
/-
  C09 — no failure branch of the checker is reachable (`checkAllE_ok`): on EVERY state — any number
  of corruptions, aimed at the same index value / entity / bucket or not, well-formed or not — and
  in both modes the error-aware model `checkAllE` (ModelE.lean) returns `.ok` with exactly the state
  and the reports of the error-free model `checkAll` (Model.lean), about which the property
  theorems are stated.  No hypothesis is needed:

  * unique index: `processIntegrityFix` is called right after `index.Read` found NO entry for the
    value, in the same state — so `indexBucket.Get(newValue) != nil` is false and the put happens
    (this is exactly what breaks when the puts are deferred to after the scan: a second holder of
    the value is classified "missing" as well and its put meets the first one's entry);
  * set index: the first pass of a fix run removes every plain key before the second pass asks for
    the value buckets (`pass1_noJunk`), and the second pass only adds value buckets;
  * fk index / link collection: the creating lookups are reached only behind `IsEntityPresent`,
    and `RemoveLink` only for an entity that had links.
-/
namespace StorageModel.C09

theorem bind_ofPair (r : St × List Report) (k : St → Out) : (Out.ofPair r).bind k = (k r.1).prepend r.2 := rfl

theorem prepend_ofPair (rs : List Report) (r : St × List Report) :
    (Out.ofPair r).prepend rs = Out.ofPair (r.1, rs ++ r.2) := rfl

theorem ok_eq_ofPair (s : St) (rs : List Report) : Out.ok s rs = Out.ofPair (s, rs) := rfl

theorem ite_eq_of {α : Type} {c : Prop} [Decidable c] {a b x : α} (ha : c → a = x) (hb : ¬c → b = x) :
    (if c then a else b) = x := by
  split
  · exact ha ‹_›
  · exact hb ‹_›

theorem runStepsE_eq {α : Type} (stepE : St → α → Out) (step : St → α → St × List Report) (I : St → Prop)
    (hI : ∀ s a, I s → I (step s a).1) (h : ∀ s a, I s → stepE s a = Out.ofPair (step s a)) :
    ∀ (l : List α) (s : St), I s → runStepsE stepE l s = Out.ofPair (runSteps step l s) := by
  intro l
  induction l with
  | nil => intro s _; rfl
  | cons a as ih =>
    intro s hs
    show (stepE s a).bind (runStepsE stepE as) = _
    rw [h s a hs, bind_ofPair, ih _ (hI s a hs), prepend_ofPair]
    rfl

theorem runStepsE_ok {α : Type} (stepE : St → α → Out) (step : St → α → St × List Report)
    (h : ∀ s a, stepE s a = Out.ofPair (step s a)) (l : List α) (s : St) :
    runStepsE stepE l s = Out.ofPair (runSteps step l s) :=
  runStepsE_eq stepE step (fun _ => True) (fun _ _ _ => trivial) (fun s a _ => h s a) l s trivial

theorem seqE_eq (p q : ProcE) (p' q' : Proc) (s : St) (hp : p s = Out.ofPair (p' s))
    (hq : ∀ x, q x = Out.ofPair (q' x)) : (ProcE.seq p q) s = Out.ofPair (Proc.seq p' q' s) := by
  show (p s).bind q = _
  rw [hp, bind_ofPair, hq, prepend_ofPair]
  rfl

theorem seqAllE_eq {α : Type} (f : α → ProcE) (g : α → Proc) (h : ∀ a s, f a s = Out.ofPair (g a s)) :
    ∀ (l : List α) (s : St), seqAllE (l.map f) s = Out.ofPair (seqAll (l.map g) s) := by
  intro l
  induction l with
  | nil => intro s; rfl
  | cons a as ih =>
    intro s
    simp only [List.map_cons, seqAllE, seqAll_cons]
    exact seqE_eq _ _ _ _ s (h a s) ih

theorem uqFixE_after_read {s : St} {st f : Name} {n : Bool} {id : Id} {fv : Bytes}
    (hv : s.evalT st id f = .str fv) (hne : fv ≠ []) (hr : readU s st f fv = none) :
    uqFixE st f n s id = .ok (uqRepair s st f fv id) := by
  have hg : get fv (s.uniq st f) = none := by
    unfold readU at hr; rw [if_neg hne] at hr; exact hr
  unfold uqFixE uqRepair
  simp only [evalB_of_evalT_str hv, hg, Option.isSome_none, ne_eq, hne, not_false_eq_true, if_true,
    Bool.false_eq_true, if_false]

theorem uqStep2E_ok (st f : Name) (n fix : Bool) (s : St) (id : Id) :
    uqStep2E st f n fix s id = Out.ofPair (uqStep2 st f n fix s id) := by
  unfold uqStep2E uqStep2
  cases hv : s.evalT st id f with
  | nil => rfl
  | str fv =>
    simp only
    by_cases hne : fv = []
    · simp only [hne, if_true]; rfl
    · simp only [if_neg hne]
      cases hr : readU s st f fv with
      | none =>
        simp only
        cases fix with
        | false => rfl
        | true =>
          simp only [if_true]
          rw [uqFixE_after_read hv hne hr]
          rfl
      | some idxId =>
        simp only
        split <;> rfl

theorem uniqueCheckE_ok (st f : Name) (n fix : Bool) (s : St) :
    uniqueCheckE st f n fix s = Out.ofPair (uniqueCheck st f n fix s) := by
  unfold uniqueCheckE uniqueCheck
  apply seqE_eq
  · rfl
  · intro x
    exact runStepsE_ok _ _ (uqStep2E_ok st f n fix) _ x

/-- no key of the set-index bucket `st.f` is a plain key -/
def NoJunk (st f : Name) (s : St) : Prop := ∀ k, get k (s.setx st f) ≠ some .junk

/-- every plain key of `b'` is a plain key of `b` -/
def JunkSub (b' b : List (Bytes × SVal)) : Prop := ∀ k, get k b' = some .junk → get k b = some .junk

theorem JunkSub.refl (b : List (Bytes × SVal)) : JunkSub b b := fun _ h => h

theorem JunkSub.trans {a b c : List (Bytes × SVal)} (h1 : JunkSub a b) (h2 : JunkSub b c) : JunkSub a c :=
  fun k h => h2 k (h1 k h)

theorem junkSub_put_ids (k : Bytes) (l : List Id) (b : List (Bytes × SVal)) : JunkSub (put k (.ids l) b) b := by
  intro k' h
  rw [get_put] at h
  split at h
  · cases h
  · exact h

theorem junkSub_del (k : Bytes) (b : List (Bytes × SVal)) : JunkSub (del k b) b := by
  intro k' h
  rw [get_del] at h
  split at h
  · cases h
  · exact h

theorem delIdx_junkSub (s : St) (st f : Name) (key : Bytes) (id : Id) :
    JunkSub ((s.delIdx st f key id).setx st f) (s.setx st f) := by
  unfold St.delIdx
  split
  · rw [setSetx_self]; exact junkSub_put_ids _ _ _
  · exact JunkSub.refl _

theorem addIdx_junkSub (s : St) (st f : Name) (val : Bytes) (id : Id) :
    JunkSub ((s.addIdx st f val id).setx st f) (s.setx st f) := by
  unfold St.addIdx
  split
  · rw [setSetx_self]; exact junkSub_put_ids _ _ _
  · rw [setSetx_self]; exact junkSub_put_ids _ _ _

theorem sxInner_junkSub (st f : Name) (key : Bytes) (s : St) (id : Id) :
    JunkSub ((sxInner st f true key s id).1.setx st f) (s.setx st f) := by
  rw [sxInner_true_fst]
  split
  · exact JunkSub.refl _
  · exact delIdx_junkSub s st f key id

theorem runSteps_sxInner_junkSub (st f : Name) (key : Bytes) (l : List Id) (s : St) :
    JunkSub ((runSteps (sxInner st f true key) l s).1.setx st f) (s.setx st f) :=
  runSteps_inv _ (fun x => JunkSub (x.setx st f) (s.setx st f))
    (fun x a h => (sxInner_junkSub st f key x a).trans h) l s (JunkSub.refl _)

/-- first pass of a fix run: a plain key still in the bucket is one the cursor has not reached yet -/
theorem pass1_noJunk (st f : Name) (rem : List (Bytes × SVal)) (s : St)
    (h : ∀ k, get k (s.setx st f) = some .junk → (k, SVal.junk) ∈ rem) :
    NoJunk st f (runSteps (sxStep1 st f true) rem s).1 := by
  induction rem generalizing s with
  | nil =>
    intro k hk
    cases h k hk
  | cons kv rem ih =>
    rw [runSteps_cons]
    apply ih
    intro k hk
    unfold sxStep1 at hk
    cases hkv : kv.2 with
    | junk =>
      simp only [hkv, if_true, setSetx_self] at hk
      rw [get_del] at hk
      split at hk
      · cases hk
      · next hne =>
        rcases List.mem_cons.1 (h k hk) with e | hm
        · exact absurd (congrArg Prod.fst e) hne
        · exact hm
    | ids l =>
      simp only [hkv] at hk
      have := runSteps_sxInner_junkSub st f kv.1 l s k hk
      rcases List.mem_cons.1 (h k this) with e | hm
      · rw [← e] at hkv; cases hkv
      · exact hm

theorem sxDeleteKeys_junkSub (st f : Name) (keys : List Bytes) (s : St) :
    JunkSub ((sxDeleteKeys st f keys s).setx st f) (s.setx st f) :=
  foldl_inv (fun x => JunkSub (x.setx st f) (s.setx st f)) _
    (fun x k h => by rw [setSetx_self]; exact (junkSub_del k _).trans h) keys s (JunkSub.refl _)

theorem noJunk_of_junkSub {st f : Name} {s s' : St} (h : JunkSub (s'.setx st f) (s.setx st f)) (hn : NoJunk st f s) :
    NoJunk st f s' := fun k hk => hn k (h k hk)

theorem sxStep2Val_noJunk (st f : Name) (fix : Bool) (id : Id) (s : St) (val : Bytes) (h : NoJunk st f s) :
    NoJunk st f (sxStep2Val st f fix id s val).1 := by
  unfold sxStep2Val
  split
  · exact h
  · cases fix
    · exact h
    · exact noJunk_of_junkSub (addIdx_junkSub _ _ _ _ _) h

theorem sxStep2ValE_ok (st f : Name) (fix : Bool) (id : Id) (s : St) (val : Bytes) (h : fix = true → NoJunk st f s) :
    sxStep2ValE st f fix id s val = Out.ofPair (sxStep2Val st f fix id s val) := by
  unfold sxStep2ValE
  rw [if_neg]
  rintro ⟨hf, hj⟩
  exact h hf val hj

theorem sxStep2E_ok (st f : Name) (fix : Bool) (s : St) (id : Id) (h : fix = true → NoJunk st f s) :
    sxStep2E st f fix s id = Out.ofPair (sxStep2 st f fix s id) := by
  unfold sxStep2E sxStep2
  exact runStepsE_eq _ _ (fun x => fix = true → NoJunk st f x)
    (fun x a hx hf => sxStep2Val_noJunk st f fix id x a (hx hf))
    (fun x a hx => sxStep2ValE_ok st f fix id x a hx) _ s h

theorem sxStep2_noJunk (st f : Name) (fix : Bool) (s : St) (id : Id) (h : fix = true → NoJunk st f s) :
    fix = true → NoJunk st f (sxStep2 st f fix s id).1 := by
  unfold sxStep2
  exact runSteps_inv _ (fun x => fix = true → NoJunk st f x)
    (fun x a hx hf => sxStep2Val_noJunk st f fix id x a (hx hf)) _ s h

theorem setCheckE_ok (st f : Name) (fix : Bool) (s : St) : setCheckE st f fix s = Out.ofPair (setCheck st f fix s) := by
  unfold setCheckE setCheck
  show Out.bind (Out.ok _ _) _ = _
  simp only [Out.bind]
  rw [runStepsE_eq _ _ (fun x => fix = true → NoJunk st f x)
    (fun x a hx => sxStep2_noJunk st f fix x a hx) (fun x a hx => sxStep2E_ok st f fix x a hx)]
  · rfl
  · intro hf
    subst hf
    exact noJunk_of_junkSub (sxDeleteKeys_junkSub _ _ _ _) (pass1_noJunk st f _ s fun _ hk => get_some_mem hk)

theorem fkStep2E_ok (st f : Name) (n : Bool) (fkSt fkF : Name) (fix : Bool) (s : St) (id : Id) :
    fkStep2E st f n fkSt fkF fix s id = Out.ofPair (fkStep2 st f n fkSt fkF fix s id) := by
  unfold fkStep2E
  exact ite_eq_of (fun _ => rfl) fun _ => ite_eq_of (fun _ => rfl) fun hp => ite_eq_of (fun _ => rfl) fun _ =>
    if_neg fun h => hp h.2

theorem fkIndexCheckE_ok (st f : Name) (n : Bool) (fkSt fkF : Name) (fix : Bool) (s : St) :
    fkIndexCheckE st f n fkSt fkF fix s = Out.ofPair (fkIndexCheck st f n fkSt fkF fix s) := by
  unfold fkIndexCheckE fkIndexCheck
  apply seqE_eq
  · rfl
  · intro x
    exact runStepsE_ok _ _ (fkStep2E_ok st f n fkSt fkF fix) _ x

theorem lkInnerE_ok (st f oSt oF : Name) (fix : Bool) (id : Id) (s : St) (l : Id) :
    lkInnerE st f oSt oF fix id s l = Out.ofPair (lkInner st f oSt oF fix id s l) := by
  unfold lkInnerE
  exact ite_eq_of (fun _ => rfl) fun hp => ite_eq_of (fun _ => if_neg fun h => hp h.2) fun _ => rfl

theorem runSteps_lkInner_frame (st f oSt oF : Name) (id : Id) (ls : List Id) (s : St) :
    Frame [.set oSt oF] s (runSteps (lkInner st f oSt oF true id) ls s).1 :=
  runSteps_inv _ (fun x => Frame [.set oSt oF] s x) (fun _ _ h => h.trans (lkInner_frame ..)) ls s (Frame.refl _ s)

theorem lkStepE_ok (st f oSt oF : Name) (fix : Bool) (s : St) (id : Id) :
    lkStepE st f oSt oF fix s id = Out.ofPair (lkStep st f oSt oF fix s id) := by
  unfold lkStepE lkStep
  simp only
  rw [runStepsE_ok _ _ (lkInnerE_ok st f oSt oF fix id) _ s, bind_ofPair]
  cases fix with
  | false =>
    simp only [Bool.false_eq_true, if_false]
    show Out.ok _ (_ ++ []) = _
    rw [List.append_nil]; rfl
  | true =>
    simp only [if_true]
    rw [if_neg]
    · show Out.ok _ (_ ++ []) = _
      rw [List.append_nil]; rfl
    · rintro ⟨hd, hp⟩
      rw [(runSteps_lkInner_frame ..).present] at hp
      cases hl : List.filter (fun l => !s.present oSt l) (s.setOf st id f) with
      | nil => exact hd hl
      | cons x xs =>
        have hx : x ∈ s.setOf st id f :=
          (List.mem_filter.1 (hl ▸ List.mem_cons_self (a := x) (l := xs))).1
        rw [present_of_setOf hx] at hp
        cases hp

theorem linkCheckE_ok (st f oSt oF : Name) (hasInv fix : Bool) (s : St) :
    linkCheckE st f oSt oF hasInv fix s = Out.ofPair (linkCheck st f oSt oF hasInv fix s) := by
  unfold linkCheckE linkCheck
  apply seqE_eq
  · rfl
  · intro x
    exact runStepsE_ok _ _ (lkStepE_ok st f oSt oF fix) _ x

theorem constraintE_ok (fix : Bool) (c : Constraint) (s : St) : c.checkE fix s = Out.ofPair (c.check fix s) := by
  cases c with
  | unique st f n => exact uniqueCheckE_ok ..
  | setIdx st f => exact setCheckE_ok ..
  | fkIndex st f n fkSt fkF => exact fkIndexCheckE_ok ..
  | fkCons st f n linked => rfl
  | noop => rfl

theorem storeE_ok (S : Schema) (fix : Bool) (sd : StoreDef) (s : St) :
    sd.checkE S fix s = Out.ofPair (sd.check S fix s) := by
  unfold StoreDef.checkE StoreDef.check
  apply seqE_eq
  · exact seqAllE_eq _ _ (fun lc x => linkCheckE_ok ..) _ s
  · exact seqAllE_eq _ _ (constraintE_ok fix) _

theorem checkAllE_ok (S : Schema) (fix : Bool) (s : St) : checkAllE S fix s = Out.ofPair (checkAll S fix s) := by
  unfold checkAllE checkAll
  exact seqAllE_eq _ _ (storeE_ok S fix) _ s

end StorageModel.C09
