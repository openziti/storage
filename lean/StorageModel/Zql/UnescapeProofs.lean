import StorageModel.Zql.Unescape
/-
  `GoodTable`: a decidable condition on a replacement table under which `unescape` undoes every
  `Escaping` (`unescape_escaping_good`): in a single pass whose `old`s are all backslash + one byte,
  only a backslash can start a match, and it consumes exactly the byte the writer put after it.
  The two `isStringBody` steps are what `literal_lexes` (Properties/C11.lean) needs.
-/
namespace StorageModel.Zql

def required : List (UInt8 × UInt8) :=
  [(BS, BS), (DQ, DQ), (ch_f, FF), (ch_n, LF), (ch_r, CR), (ch_t, TAB)]

def lookupEsc (pairs : List (Bytes × Bytes)) (x : UInt8) : Option Bytes :=
  (pairs.find? fun p => p.1 == [BS, x]).map (·.2)

/-- Decidable well-formedness of a replacement table that suffices for C11: one left-to-right
    pass, quotes trimmed, every `old` is backslash + one byte, and the first pair for each of the
    six required escapes yields the right byte. Pair order and extra escapes are irrelevant. -/
def GoodTable (t : UnescapeTable) : Bool :=
  t.mode == .single && t.trimQuotes &&
  t.pairs.all (fun p => match p.1 with | [b, _] => b == BS | _ => false) &&
  required.all (fun (x, y) => lookupEsc t.pairs x == some [y])

theorem find?_congr {α : Type} {p q : α → Bool} : ∀ {l : List α}, (∀ a ∈ l, p a = q a) → l.find? p = l.find? q
  | [], _ => rfl
  | a :: l, h => by
    rw [List.find?_cons, List.find?_cons, h a (List.mem_cons_self ..),
      find?_congr fun b hb => h b (List.mem_cons_of_mem _ hb)]

theorem firstMatch_esc (pairs : List (Bytes × Bytes)) (hall : ∀ p ∈ pairs, ∃ c, p.1 = [BS, c])
    (x : UInt8) (l : Bytes) :
    firstMatch pairs (BS :: x :: l) = pairs.find? (fun p => p.1 == [BS, x]) := by
  refine find?_congr fun p hp => ?_
  obtain ⟨c, hc⟩ := hall p hp
  rw [hc]
  simp [List.isPrefixOf]

theorem firstMatch_raw (pairs : List (Bytes × Bytes)) (hall : ∀ p ∈ pairs, ∃ c, p.1 = [BS, c])
    (c : UInt8) (hc : c ≠ BS) (l : Bytes) :
    firstMatch pairs (c :: l) = none := by
  refine List.find?_eq_none.2 fun p hp => ?_
  obtain ⟨d, hd⟩ := hall p hp
  rw [hd]
  simp [List.isPrefixOf, Ne.symm hc]

theorem good_parts {t : UnescapeTable} (h : GoodTable t = true) :
    t.mode = .single ∧ t.trimQuotes = true ∧ (∀ p ∈ t.pairs, ∃ c, p.1 = [BS, c]) ∧
    ∀ x y, (x, y) ∈ required → lookupEsc t.pairs x = some [y] := by
  rw [GoodTable, Bool.and_eq_true, Bool.and_eq_true, Bool.and_eq_true] at h
  obtain ⟨⟨⟨h1, h2⟩, h3⟩, h4⟩ := h
  refine ⟨eq_of_beq h1, h2, fun p hp => ?_, fun x y hxy => eq_of_beq (List.all_eq_true.1 h4 (x, y) hxy)⟩
  have := List.all_eq_true.1 h3 p hp
  obtain ⟨o, n⟩ := p
  match o, this with
  | [b, c], h => exact ⟨c, by rw [eq_of_beq h]⟩

theorem singlePassGo_esc {t : UnescapeTable} (h : GoodTable t = true) (x y : UInt8) (l : Bytes)
    (hxy : (x, y) ∈ required) :
    singlePassGo t.pairs 0 (BS :: x :: l) = y :: singlePassGo t.pairs 0 l := by
  obtain ⟨_, _, hall, hreq⟩ := good_parts h
  have hl := hreq x y hxy
  simp only [lookupEsc, Option.map_eq_some_iff] at hl
  obtain ⟨⟨o, n⟩, hf, hn⟩ := hl
  have ho : o = [BS, x] := by
    have := List.find?_some hf
    simpa using this
  simp only at hn
  subst hn ho
  simp [singlePassGo, firstMatch_esc t.pairs hall x l, hf]

theorem singlePassGo_raw {t : UnescapeTable} (h : GoodTable t = true) (c : UInt8) (l : Bytes) (hc : c ≠ BS) :
    singlePassGo t.pairs 0 (c :: l) = c :: singlePassGo t.pairs 0 l := by
  obtain ⟨_, _, hall, _⟩ := good_parts h
  simp [singlePassGo, firstMatch_raw t.pairs hall c hc l]

theorem ctl_required : ∀ p ∈ ctlEscapes, (p.2, p.1) ∈ required := by decide

theorem singlePass_escaping_good {t : UnescapeTable} (h : GoodTable t = true) {s l : Bytes}
    (he : Escaping s l) : singlePass t.pairs l = s := by
  unfold singlePass
  induction he with
  | nil => rfl
  | bs _ ih => rw [singlePassGo_esc h BS BS _ (by decide), ih]
  | dq _ ih => rw [singlePassGo_esc h DQ DQ _ (by decide), ih]
  | ctl c e hmem _ ih => rw [singlePassGo_esc h e c _ (ctl_required (c, e) hmem), ih]
  | raw c hbs _ _ ih => rw [singlePassGo_raw h c _ hbs, ih]

theorem strip_quote (l : Bytes) : trimSuffixDQ (trimPrefixDQ (quote l)) = l := by
  simp [quote, trimPrefixDQ, trimSuffixDQ]

theorem unescape_escaping_good {t : UnescapeTable} (h : GoodTable t = true) {s l : Bytes}
    (he : Escaping s l) : unescape t (quote l) = s := by
  obtain ⟨hm, htq, _, _⟩ := good_parts h
  simp only [unescape, htq, if_true, strip_quote, applyTable, hm]
  exact singlePass_escaping_good h he

theorem mem_of_lookup {a b : UInt8} {l : List (UInt8 × UInt8)} (h : l.lookup a = some b) : (a, b) ∈ l := by
  obtain ⟨l₁, l₂, rfl, _⟩ := List.lookup_eq_some_iff.1 h
  exact List.mem_append_right _ (List.mem_cons_self ..)

theorem isStringBody_esc (x : UInt8) (t : Bytes) (hx : x ∈ [DQ, BS, ch_f, ch_n, ch_r, ch_t])
    (ht : isStringBody t = true) : isStringBody (BS :: x :: t) = true := by
  simp only [List.mem_cons, List.mem_nil_iff, or_false] at hx
  rcases hx with rfl | rfl | rfl | rfl | rfl | rfl <;> exact ht

theorem isStringBody_raw (c : UInt8) (t : Bytes) (h1 : c ≠ BS) (h2 : c ≠ DQ) (h3 : c ≥ 32)
    (ht : isStringBody t = true) : isStringBody (c :: t) = true := by
  unfold isStringBody
  rw [if_neg h1, bne_iff_ne.2 h2, decide_eq_true h3, ht]; rfl

theorem ctl_letters : ∀ p ∈ ctlEscapes, p.2 ∈ [DQ, BS, ch_f, ch_n, ch_r, ch_t] := by decide

end StorageModel.Zql
