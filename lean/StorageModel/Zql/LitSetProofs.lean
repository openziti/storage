import StorageModel.Zql.LitSet
/-
  Independence of the comparisons of a filter over set symbols: whatever the shared runtime object of a set symbol
  holds when a comparison starts (cursor position, anything an earlier comparison or an earlier row left), the
  comparison is decided by its own literal and the row's elements - including the seek shortcut, which seeks to the
  literal's own key.
-/
namespace StorageModel.Zql

theorem bytesLt_iff : ∀ a b : Bytes, bytesLt a b = true ↔ a < b
  | [], [] => by simp [bytesLt]
  | [], _ :: _ => by simp [bytesLt]
  | _ :: _, [] => by simp [bytesLt]
  | a :: as, b :: bs => by simp [bytesLt, List.cons_lt_cons_iff, bytesLt_iff as bs]

theorem bytesLt_irrefl (a : Bytes) : bytesLt a a = false :=
  Bool.eq_false_iff.2 fun h => List.lt_irrefl a ((bytesLt_iff a a).1 h)

theorem Rt.put_same (st : Rt) (i : Nat) (v : RtSym) : (st.put i v) i = v :=
  if_pos rfl

/-- `OpenCursor` forgets the position: every comparison starts from the row's first element -/
theorem openCur_cur (row : SetRow) (st : Rt) (i : Nat) : (openCur row st i i).cur = row.elems i := by
  rw [openCur, Rt.put_same]

theorem anyLoop_fst (p : Bytes → Bool) (l : List Bytes) : (anyLoop p l).1 = l.any p := by
  induction l with
  | nil => rfl
  | cons e t ih =>
    unfold anyLoop
    cases h : p e <;> simp [h, ih]

theorem allLoop_fst (p : Bytes → Bool) (l : List Bytes) : (allLoop p l).1 = l.all p := by
  induction l with
  | nil => rfl
  | cons e t ih =>
    unfold allLoop
    cases h : p e <;> simp [h, ih]

/-- **the seek shortcut**: in a bucket (strictly ascending keys) the first element not below the literal's OWN key
    is the literal iff the literal is an element -/
theorem seek_own_key (d : Bytes) (l : List Bytes) (hs : Sorted l) :
    (match (seekTo d l).head? with
     | some v => v == d
     | none => false) = l.any (fun e => e == d) := by
  induction l with
  | nil => rfl
  | cons e t ih =>
    rw [seekTo, List.dropWhile_cons, List.any_cons]
    cases hed : bytesLt e d with
    | false =>
      -- the seek stops at `e`; the later elements are above `e`, which is not below `d`
      have : t.any (fun x => x == d) = false := List.any_eq_false.2 fun x hx hxd => by
        have := hs.1 x hx
        rw [eq_of_beq hxd, hed] at this
        cases this
      rw [this, Bool.or_false]; rfl
    | true =>
      -- `e` is skipped, and it is not the literal
      have : (e == d) = false := beq_eq_false_iff_ne.2 fun h => by
        rw [h, bytesLt_irrefl] at hed
        cases hed
      rw [this, Bool.false_or]
      exact ih hs.2

theorem evalAtom_fst (row : SetRow) (hrow : row.sorted) (q : Quant) (i : Nat) (op : SetOp) (d : Bytes) (st : Rt) :
    (evalAtom false row q i op d st).1 = atomSpec q op d (row.elems i) := by
  cases q <;> cases op <;>
    simp only [evalAtom, atomSpec, quant, openCur_cur, anyLoop_fst, allLoop_fst, predOn, Bool.false_eq_true, if_false]
  -- the seekable case; `predOn .eq d (some v)` is `v == d`
  exact seek_own_key d (row.elems i) (hrow i)

theorem evalInAtom_fst (row : SetRow) (q : Quant) (i : Nat) (ds : List Bytes) (st : Rt) :
    (evalInAtom row q i ds st).1 = atomInSpec q ds (row.elems i) := by
  cases q <;> simp only [evalInAtom, atomInSpec, quant, openCur_cur, anyLoop_fst, allLoop_fst]

theorem evalRt_fst (row : SetRow) (hrow : row.sorted) (flt : SetFilter) (st : Rt) :
    (evalRt false row flt st).1 = specSet row flt := by
  induction flt generalizing st with
  | cmp q i op d => exact evalAtom_fst row hrow q i op d st
  | inl q i ds => exact evalInAtom_fst row q i ds st
  | and a b iha ihb =>
    rw [specSet, ← iha st, ← ihb (evalRt false row a st).2, evalRt]
    cases (evalRt false row a st).1 <;> rfl
  | or a b iha ihb =>
    rw [specSet, ← iha st, ← ihb (evalRt false row a st).2, evalRt]
    cases (evalRt false row a st).1 <;> rfl
  | not a iha => simp only [evalRt, specSet, iha st]

theorem runRows_spec (flt : SetFilter) (rows : List SetRow) (hrows : ∀ r ∈ rows, r.sorted) (st : Rt) :
    runRows false flt rows st = rows.map (fun r => specSet r flt) := by
  induction rows generalizing st with
  | nil => rfl
  | cons r rs ih =>
    simp only [runRows, List.map_cons]
    rw [evalRt_fst r (hrows r (List.mem_cons_self ..)), ih (fun x hx => hrows x (List.mem_cons_of_mem _ hx))]

/-! writing the elements into a bucket gives a sorted row (non-vacuity of `Sorted`, used by the driver) -/

theorem bytesLt_trans {a b c : Bytes} (h1 : bytesLt a b = true) (h2 : bytesLt b c = true) : bytesLt a c = true :=
  (bytesLt_iff a c).2 (List.lt_trans ((bytesLt_iff a b).1 h1) ((bytesLt_iff b c).1 h2))

theorem bytesLt_total {a b : Bytes} (h : ¬ bytesLt a b = true) (hne : ¬ (a == b) = true) : bytesLt b a = true := by
  refine (bytesLt_iff b a).2 (Decidable.byContradiction fun h2 => hne (beq_iff_eq.2 ?_))
  exact List.le_antisymm (List.not_lt.1 h2) (List.not_lt.1 fun h1 => h ((bytesLt_iff a b).2 h1))

theorem mem_insertSorted {x y : Bytes} {l : List Bytes} (h : y ∈ insertSorted x l) : y = x ∨ y ∈ l := by
  induction l with
  | nil => exact Or.inl (List.mem_singleton.1 h)
  | cons e t ih =>
    rw [insertSorted] at h
    split at h
    · exact List.mem_cons.1 h
    · split at h
      · exact Or.inr h
      · rcases List.mem_cons.1 h with rfl | h
        · exact Or.inr (List.mem_cons_self ..)
        · exact (ih h).imp_right (List.mem_cons_of_mem _)

theorem insertSorted_sorted (x : Bytes) (l : List Bytes) (hs : Sorted l) : Sorted (insertSorted x l) := by
  induction l with
  | nil => exact ⟨fun _ h => (nomatch h), trivial⟩
  | cons e t ih =>
    obtain ⟨hlt, hst⟩ := hs
    rw [insertSorted]
    split
    · next hxe =>
      refine ⟨fun y hy => ?_, hlt, hst⟩
      rcases List.mem_cons.1 hy with rfl | hy
      · exact hxe
      · exact bytesLt_trans hxe (hlt y hy)
    · next hxe =>
      split
      · exact ⟨hlt, hst⟩
      · next hne =>
        refine ⟨fun y hy => ?_, ih hst⟩
        rcases mem_insertSorted hy with rfl | hy
        · exact bytesLt_total hxe hne
        · exact hlt y hy

theorem sortElems_sorted (l : List Bytes) : Sorted (sortElems l) := by
  induction l with
  | nil => trivial
  | cons x t ih => exact insertSorted_sorted x _ ih

end StorageModel.Zql
