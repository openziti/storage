import StorageModel.Zql.LitFilter
/-
  Alias freedom of the constant cells of a filter: the listener's cells are only ever extended
  (never overwritten) by the later stages, so the value a comparison reads is the value its own
  STRING token was unescaped to, whatever else the filter contains.
-/
namespace StorageModel.Zql

theorem Heap.read_append_left {h : Heap} (e : Heap) {r : Nat} (hr : r < h.length) :
    Heap.read (h ++ e) r = Heap.read h r := by
  simp [Heap.read, List.getElem?_append_left hr]

theorem Heap.read_length (h e : Heap) (v : Bytes) : Heap.read (h ++ v :: e) h.length = v := by
  simp [Heap.read]

theorem any_read_append (h e : Heap) (field : Bytes) (rs : List Nat) (hx : ∀ r ∈ rs, r < h.length) :
    rs.any (fun r => field == Heap.read (h ++ e) r) = rs.any (fun r => field == Heap.read h r) := by
  induction rs with
  | nil => rfl
  | cons r rs ih =>
    simp only [List.any_cons, Heap.read_append_left e (hx r (List.mem_cons_self ..)),
      ih (fun x hx' => hx x (List.mem_cons_of_mem _ hx'))]

theorem Node.refsBelow_mono {n m : Nat} (hnm : n ≤ m) (x : Node) (hx : x.refsBelow n) : x.refsBelow m := by
  induction x with
  | cmp _ _ r => exact Nat.lt_of_lt_of_le hx hnm
  | inl _ rs => exact fun r hr => Nat.lt_of_lt_of_le (hx r hr) hnm
  | and a b iha ihb => exact ⟨iha hx.1, ihb hx.2⟩
  | or a b iha ihb => exact ⟨iha hx.1, ihb hx.2⟩
  | not a iha => exact iha hx

theorem eval_append (h e : Heap) (field : Bytes) (x : Node) (hx : x.refsBelow h.length) :
    eval (h ++ e) field x = eval h field x := by
  induction x with
  | cmp u op r => simp only [eval, Heap.read_append_left e hx]
  | inl neg rs => simp only [eval, any_read_append h e field rs hx]
  | and a b iha ihb => simp only [eval, iha hx.1, ihb hx.2]
  | or a b iha ihb => simp only [eval, iha hx.1, ihb hx.2]
  | not a iha => simp only [eval, iha hx]

theorem allocAll_spec (t : UnescapeTable) (ls : List Bytes) (h : Heap) :
    ∃ e, (allocAll t ls h).2 = h ++ e ∧ (∀ r ∈ (allocAll t ls h).1, r < (allocAll t ls h).2.length) ∧
      (allocAll t ls h).1.map (Heap.read (allocAll t ls h).2) = ls.map (unescape t) := by
  induction ls generalizing h with
  | nil => exact ⟨[], (List.append_nil h).symm, fun _ hr => (nomatch hr), rfl⟩
  | cons l ls ih =>
    obtain ⟨e, he, hb, hv⟩ := ih (h ++ [unescape t l])
    rw [List.append_assoc] at he
    refine ⟨unescape t l :: e, he, fun r hr => ?_, ?_⟩
    · rcases List.mem_cons.1 hr with rfl | hr
      · show h.length < (allocAll t ls _).2.length
        rw [he, List.length_append]
        exact Nat.lt_add_of_pos_right (Nat.succ_pos _)
      · exact hb r hr
    · show Heap.read (allocAll t ls _).2 h.length :: List.map (Heap.read (allocAll t ls _).2) _ = _
      rw [hv, he]
      exact congrArg (· :: _) (Heap.read_length h e _)

/-- What every stage guarantees about its result `r` on the heap `h`: the heap has only grown,
    every reference of the tree exists, and the tree has the value `v`. -/
def Grows (r : Node × Heap) (h : Heap) (v : Bytes → Bool) : Prop :=
  ∃ e, r.2 = h ++ e ∧ r.1.refsBelow r.2.length ∧ ∀ field, eval r.2 field r.1 = v field

theorem grows_length_le {r : Node × Heap} {h : Heap} {v : Bytes → Bool} (g : Grows r h v) :
    h.length ≤ r.2.length := by
  obtain ⟨e, he, _⟩ := g
  rw [he, List.length_append]; exact Nat.le_add_right _ _

theorem grows_congr {r : Node × Heap} {h : Heap} {v v' : Bytes → Bool} (g : Grows r h v)
    (hv : ∀ field, v field = v' field) : Grows r h v' := by
  obtain ⟨e, he, hb, hval⟩ := g
  exact ⟨e, he, hb, fun field => (hval field).trans (hv field)⟩

/-- two stages one after the other, under a binary connective: the second only extends the heap
    of the first, so the first tree still reads its own cells -/
theorem grows_bin {mk : Node → Node → Node} {f : Bool → Bool → Bool}
    (hrefs : ∀ a b n, (mk a b).refsBelow n = (a.refsBelow n ∧ b.refsBelow n))
    (heval : ∀ h field a b, eval h field (mk a b) = f (eval h field a) (eval h field b))
    {ra rb : Node × Heap} {h : Heap} {va vb : Bytes → Bool} (ga : Grows ra h va) (gb : Grows rb ra.2 vb) :
    Grows (mk ra.1 rb.1, rb.2) h (fun field => f (va field) (vb field)) := by
  have hle := grows_length_le gb
  obtain ⟨ea, hea, hba, hva⟩ := ga
  obtain ⟨eb, heb, hbb, hvb⟩ := gb
  refine ⟨ea ++ eb, by rw [heb, hea, List.append_assoc], ?_, fun field => ?_⟩
  · rw [hrefs]; exact ⟨Node.refsBelow_mono hle _ hba, hbb⟩
  · rw [heval, hvb field]
    show f (eval rb.2 field ra.1) _ = _
    rw [heb, eval_append _ _ _ _ hba, hva field]

theorem grows_not {ra : Node × Heap} {h : Heap} {va : Bytes → Bool} (ga : Grows ra h va) :
    Grows (.not ra.1, ra.2) h (fun field => !va field) := by
  obtain ⟨ea, hea, hba, hva⟩ := ga
  exact ⟨ea, hea, hba, fun field => congrArg (!·) (hva field)⟩

theorem build_spec (t : UnescapeTable) (flt : Filter) (h : Heap) :
    Grows (build t flt h) h fun field => specEval field (flt.map (unescape t)) := by
  induction flt generalizing h with
  | cmp op lit =>
    refine ⟨[unescape t lit], rfl, ?_, fun field => ?_⟩
    · show h.length < (h ++ [unescape t lit]).length
      rw [List.length_append]; exact Nat.lt_succ_self _
    · simp only [build, eval, Filter.map, specEval, Heap.read_length, Bool.false_eq_true, if_false]
  | inl neg lits =>
    obtain ⟨e, he, hb, hv⟩ := allocAll_spec t lits h
    exact ⟨e, he, hb, fun field => congrArg (neg != ·) (by rw [← hv, List.any_map]; rfl)⟩
  | and a b iha ihb | or a b iha ihb => exact grows_bin (fun _ _ _ => rfl) (fun _ _ _ _ => rfl) (iha h) (ihb _)
  | not a iha => exact grows_not (iha h)

theorem upperAscii_idem (b : Bytes) : upperAscii (upperAscii b) = upperAscii b := by
  simp only [upperAscii, List.map_map]
  -- an upper-cased byte is not a lower-case letter: it was none, or it is 32 below one
  refine List.map_congr_left fun c _ => if_neg ?_
  show ¬ (97 ≤ (ite _ _ _ : UInt8).toNat ∧ (ite _ _ _ : UInt8).toNat ≤ 122)
  split
  · rw [UInt8.toNat_ofNat']; omega
  · assumption

theorem transform_spec (x : Node) (h : Heap) (hx : x.refsBelow h.length) :
    Grows (transform x h) h fun field => eval h field x := by
  induction x generalizing h with
  | cmp u op r =>
    have upper : ∀ op', Grows (.cmp true op' h.length, h ++ [upperAscii (h.read r)]) h fun field =>
        evalLitOp op' (upperAscii (h.read r)) (upperAscii field) := fun op' =>
      ⟨_, rfl, by show h.length < _; rw [List.length_append]; exact Nat.lt_succ_self _,
        fun field => by simp only [eval, Heap.read_length, if_true]⟩
    cases op
    case icontains =>
      exact grows_congr (upper .contains) fun field => by
        cases u <;> simp only [eval, evalLitOp, upperAscii_idem, Bool.false_eq_true, if_false, if_true]
    case notIcontains =>
      exact grows_congr (upper .notContains) fun field => by
        cases u <;> simp only [eval, evalLitOp, upperAscii_idem, Bool.false_eq_true, if_false, if_true]
    all_goals exact ⟨[], (List.append_nil h).symm, hx, fun _ => rfl⟩
  | inl neg rs => exact ⟨[], (List.append_nil h).symm, hx, fun _ => rfl⟩
  | and a b iha ihb | or a b iha ihb =>
    have ga := iha h hx.1
    obtain ⟨ea, hea, _⟩ := id ga
    have gb := ihb (transform a h).2 (Node.refsBelow_mono (grows_length_le ga) _ hx.2)
    exact grows_congr (grows_bin (fun _ _ _ => rfl) (fun _ _ _ _ => rfl) ga gb) fun field => by
      rw [hea, eval_append _ _ _ _ hx.2]; rfl
  | not a iha => exact grows_not (iha h hx)

/-- **compositionality**: the pipeline listener → transform → EvalBool computes, for every filter
    and every table, the documented semantics over the strings the tokens are unescaped to: each
    occurrence of a literal denotes `unescape t text`, whatever operators and other literals
    (equal or different) the filter contains -/
theorem runFilter_compositional (t : UnescapeTable) (flt : Filter) (field : Bytes) :
    runFilter t flt field = specEval field (flt.map (unescape t)) := by
  obtain ⟨_, _, hb, hv⟩ := build_spec t flt []
  obtain ⟨_, _, _, hv'⟩ := transform_spec (build t flt []).1 (build t flt []).2 hb
  exact (hv' field).trans (hv field)

end StorageModel.Zql
