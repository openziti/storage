import StorageModel.C04.Model
/-
  C04, round 9 — fk constraints over a CHAIN of three stores, every combination of restrict / cascade on
  the two links (a restrict-protected entity can be REACHED BY A CASCADE that started one store further up):

      T0 ("zowners")  <-- ref --  T1 ("zitems")  <-- ref --  T2 ("znotes")

  wired as in /verif/harness/c04_tier.go:
      items.AddFkConstraint(items.ref -> owners, null1, casc1 ? CascadeDelete : CascadeNone)
      notes.AddFkConstraint(notes.ref -> items,  null2, casc2 ? CascadeDelete : CascadeNone)

  so `Indexer.AddFkConstraint` puts an `fkConstraint` on the referring store (existence check on
  create / update) and an `fkDeleteCascadeConstraint` on the TARGET store (`ProcessBeforeDelete`: restrict
  check or cascade loop).  Followed branch by branch: `BaseStore.Create` / `Update` (nil checker) /
  `DeleteById`, `fkConstraint.ProcessAfterUpdate`, `fkDeleteCascadeConstraint.ProcessBeforeDelete` with
  `fkReferrerFilter.EvalBool`, the nested `DeleteById` of every referrer INSIDE the loop — which runs the
  referrer store's own `ProcessBeforeDelete` constraints, so a restrict constraint of a lower link is
  consulted for every entity a cascade reaches — the first-error-wins error holder, transactions.

  The in-progress map of the mutate context is keyed by `<entity type> \0 <id>`; the loop of a link only asks
  about entities of the REFERRING store, a cascade only ever marks entities of stores further up the chain,
  the three entity types are distinct and contain no NUL: no referrer is ever stepped over here (the
  correspondence exercises it with one id naming an entity in all three stores).  State = the three tables.
-/
namespace StorageModel.C04
open StorageModel

structure TSchema where
  /-- `AddFkConstraint(items.ref, _, CascadeDelete)` (otherwise `CascadeNone`) -/
  casc1 : Bool
  null1 : Bool
  /-- `AddFkConstraint(notes.ref, _, CascadeDelete)` (otherwise `CascadeNone`) -/
  casc2 : Bool
  null2 : Bool
deriving DecidableEq, Repr

structure TSt where
  t0 : Map Unit := []
  t1 : Map FV := []
  t2 : Map FV := []

abbrev TRes := Except Err TSt

/-- `fkReferrerFilter.EvalBool` on row `x` of a table: `val != nil && *val == id` -/
def tIsRef (m : Map FV) (id x : Bytes) : Bool :=
  match m.lookup x with
  | some (some v) => v == id
  | _ => false

/-- the ids `IterateValidIds(tx, &fkReferrerFilter{ref, id})` yields, in key order -/
def tReferrers (m : Map FV) (id : Bytes) : List Bytes := sortB (m.keys.filter (tIsRef m id))

/-- `fkConstraint.ProcessAfterUpdate` -/
def tFkCheck (nullable : Bool) (tgt : Bytes → Bool) (isCreate : Bool) (old new : Bytes) : Option Err :=
  if ¬ isCreate ∧ old = new then none
  else if new ≠ [] then (if tgt new then none else some .notFound)
  else if nullable then none else some .nullNotAllowed

def tCreate0 (s : TSt) (id : Bytes) : TRes :=
  if id = [] then .error .other
  else if s.t0.contains id then .error .other
  else .ok { s with t0 := s.t0.insert id () }

def tCreate1 (σ : TSchema) (s : TSt) (id : Bytes) (r : FV) : TRes :=
  if id = [] then .error .other
  else if s.t1.contains id then .error .other
  else match tFkCheck σ.null1 s.t0.contains true [] (evalVal r) with
    | none => .ok { s with t1 := s.t1.insert id r }
    | some e => .error e

def tCreate2 (σ : TSchema) (s : TSt) (id : Bytes) (r : FV) : TRes :=
  if id = [] then .error .other
  else if s.t2.contains id then .error .other
  else match tFkCheck σ.null2 s.t1.contains true [] (evalVal r) with
    | none => .ok { s with t2 := s.t2.insert id r }
    | some e => .error e

/-- `BaseStore.Update` with a nil checker -/
def tUpdate1 (σ : TSchema) (s : TSt) (id : Bytes) (r : FV) : TRes :=
  if id = [] then .error .other
  else match s.t1.lookup id with
    | none => .error .notFound
    | some cur =>
      match tFkCheck σ.null1 s.t0.contains false (evalVal cur) (evalVal r) with
      | none => .ok { s with t1 := s.t1.insert id r }
      | some e => .error e

def tUpdate2 (σ : TSchema) (s : TSt) (id : Bytes) (r : FV) : TRes :=
  if id = [] then .error .other
  else match s.t2.lookup id with
    | none => .error .notFound
    | some cur =>
      match tFkCheck σ.null2 s.t1.contains false (evalVal cur) (evalVal r) with
      | none => .ok { s with t2 := s.t2.insert id r }
      | some e => .error e

/-- the cascade loop (`for cursor.IsValid() { DeleteById(cursor.Current()); cursor.Seek(...) }`): the sorted
    initial candidates, each re-checked at its turn (see `cascadeOver` in Model.lean) -/
def tCascade (del : TSt → Bytes → TRes) (isRef : TSt → Bytes → Bool) (cands : List Bytes) (s : TSt) : TRes :=
  cands.foldlM (fun st x => if isRef st x then del st x else .ok st) s

/-- `DeleteById` on notes: nothing refers to a note -/
def tDelete2 (s : TSt) (id : Bytes) : TRes :=
  if s.t2.contains id then .ok { s with t2 := s.t2.erase id } else .error .notFound

/-- `fkDeleteCascadeConstraint{notes.ref}.ProcessBeforeDelete` for item `id` -/
def tBefore1 (σ : TSchema) (s : TSt) (id : Bytes) : TRes :=
  let refs := tReferrers s.t2 id
  if σ.casc2 then tCascade tDelete2 (fun st x => tIsRef st.t2 id x) refs s
  else if refs ≠ [] then .error .refExists else .ok s

/-- `DeleteById` on items -/
def tDelete1 (σ : TSchema) (s : TSt) (id : Bytes) : TRes :=
  if s.t1.contains id then
    match tBefore1 σ s id with
    | .ok s1 => if s1.t1.contains id then .ok { s1 with t1 := s1.t1.erase id } else .error .other
    | .error e => .error e
  else .error .notFound

/-- `fkDeleteCascadeConstraint{items.ref}.ProcessBeforeDelete` for owner `id`: the nested `DeleteById` of a
    referring item runs the items store's own constraints (`tDelete1`), the restrict check included -/
def tBefore0 (σ : TSchema) (s : TSt) (id : Bytes) : TRes :=
  let refs := tReferrers s.t1 id
  if σ.casc1 then tCascade (tDelete1 σ) (fun st x => tIsRef st.t1 id x) refs s
  else if refs ≠ [] then .error .refExists else .ok s

/-- `DeleteById` on owners -/
def tDelete0 (σ : TSchema) (s : TSt) (id : Bytes) : TRes :=
  if s.t0.contains id then
    match tBefore0 σ s id with
    | .ok s1 => if s1.t0.contains id then .ok { s1 with t0 := s1.t0.erase id } else .error .other
    | .error e => .error e
  else .error .notFound

inductive TOp
  | create0 (id : Bytes)
  | create1 (id : Bytes) (r : FV)
  | create2 (id : Bytes) (r : FV)
  | update1 (id : Bytes) (r : FV)
  | update2 (id : Bytes) (r : FV)
  | delete0 (id : Bytes)
  | delete1 (id : Bytes)
  | delete2 (id : Bytes)
deriving Repr

def tApply (σ : TSchema) (s : TSt) : TOp → TRes
  | .create0 id => tCreate0 s id
  | .create1 id r => tCreate1 σ s id r
  | .create2 id r => tCreate2 σ s id r
  | .update1 id r => tUpdate1 σ s id r
  | .update2 id r => tUpdate2 σ s id r
  | .delete0 id => tDelete0 σ s id
  | .delete1 id => tDelete1 σ s id
  | .delete2 id => tDelete2 s id

/-- a transaction: the first failing operation (index, error) aborts and rolls back everything -/
def tRunTxFrom (σ : TSchema) (s0 : TSt) : Nat → TSt → List TOp → TSt × Option (Nat × Err)
  | _, s, [] => (s, none)
  | i, s, op :: rest =>
    match tApply σ s op with
    | .ok s' => tRunTxFrom σ s0 (i + 1) s' rest
    | .error e => (s0, some (i, e))

def tRunTx (σ : TSchema) (s : TSt) (ops : List TOp) : TSt × Option (Nat × Err) := tRunTxFrom σ s 0 s ops

def tRunHistory (σ : TSchema) (txs : List (List TOp)) : TSt :=
  txs.foldl (fun s tx => (tRunTx σ s tx).1) {}

/-! ### the specification (what the property text says, over the three tables; no loops, no nesting)

    * a write is accepted iff the reference it newly carries names an existing target, or is null / empty and
      the link is nullable;
    * deleting an entity: the removal set is the entity and everything that refers to it through CASCADE links,
      transitively (items: `tIsRef s.t1 id`, notes: `specNoteOf`).  If an entity of the removal set is referred to through a
      RESTRICT link — by anything: an entity that refers through a restrict link is never in a removal set
      here — the delete is refused with reference-exists and nothing changes; otherwise exactly the removal
      set goes. -/

/-- drop every key satisfying `p` -/
def dropKeys {V : Type} (m : Map V) (p : Bytes → Bool) : Map V := m.filter (fun kv => !p kv.1)

/-- some row of the table refers to `id` -/
def tReferred (m : Map FV) (id : Bytes) : Bool := m.keys.any (tIsRef m id)

def specDelete2 (s : TSt) (id : Bytes) : TRes :=
  if s.t2.contains id then .ok { s with t2 := dropKeys s.t2 (· == id) } else .error .notFound

def specDelete1 (σ : TSchema) (s : TSt) (id : Bytes) : TRes :=
  if ¬ s.t1.contains id then .error .notFound
  else if σ.casc2 then
    .ok { s with t1 := dropKeys s.t1 (· == id), t2 := dropKeys s.t2 (tIsRef s.t2 id) }
  else if tReferred s.t2 id then .error .refExists
  else .ok { s with t1 := dropKeys s.t1 (· == id) }

/-- note `n` refers to an item that refers to owner `id` -/
def specNoteOf (s : TSt) (id n : Bytes) : Bool := s.t1.keys.any (fun i => tIsRef s.t1 id i && tIsRef s.t2 i n)

def specDelete0 (σ : TSchema) (s : TSt) (id : Bytes) : TRes :=
  if ¬ s.t0.contains id then .error .notFound
  else if ¬ tReferred s.t1 id then .ok { s with t0 := dropKeys s.t0 (· == id) }
  else if ¬ σ.casc1 then .error .refExists
  else if σ.casc2 then
    .ok { t0 := dropKeys s.t0 (· == id), t1 := dropKeys s.t1 (tIsRef s.t1 id), t2 := dropKeys s.t2 (specNoteOf s id) }
  else if s.t2.keys.any (specNoteOf s id) then .error .refExists        -- a restrict-protected item in the removal set
  else .ok { s with t0 := dropKeys s.t0 (· == id), t1 := dropKeys s.t1 (tIsRef s.t1 id) }

def tSpecWrite (nullable : Bool) (tgt : Bytes → Bool) (isCreate : Bool) (old new : Bytes) : Option Err :=
  if ¬ isCreate ∧ old = new then none                    -- the reference is not newly carried
  else if new = [] then (if nullable then none else some .nullNotAllowed)
  else if tgt new then none else some .notFound

def tSpecApply (σ : TSchema) (s : TSt) : TOp → TRes
  | .create0 id => tCreate0 s id
  | .create1 id r =>
    if id = [] ∨ s.t1.contains id then .error .other
    else match tSpecWrite σ.null1 s.t0.contains true [] (evalVal r) with
      | none => .ok { s with t1 := s.t1.insert id r }
      | some e => .error e
  | .create2 id r =>
    if id = [] ∨ s.t2.contains id then .error .other
    else match tSpecWrite σ.null2 s.t1.contains true [] (evalVal r) with
      | none => .ok { s with t2 := s.t2.insert id r }
      | some e => .error e
  | .update1 id r =>
    if id = [] then .error .other
    else match s.t1.lookup id with
      | none => .error .notFound
      | some cur =>
        match tSpecWrite σ.null1 s.t0.contains false (evalVal cur) (evalVal r) with
        | none => .ok { s with t1 := s.t1.insert id r }
        | some e => .error e
  | .update2 id r =>
    if id = [] then .error .other
    else match s.t2.lookup id with
      | none => .error .notFound
      | some cur =>
        match tSpecWrite σ.null2 s.t1.contains false (evalVal cur) (evalVal r) with
        | none => .ok { s with t2 := s.t2.insert id r }
        | some e => .error e
  | .delete0 id => specDelete0 σ s id
  | .delete1 id => specDelete1 σ s id
  | .delete2 id => specDelete2 s id

def tSpecRunTxFrom (σ : TSchema) (s0 : TSt) : Nat → TSt → List TOp → TSt × Option (Nat × Err)
  | _, s, [] => (s, none)
  | i, s, op :: rest =>
    match tSpecApply σ s op with
    | .ok s' => tSpecRunTxFrom σ s0 (i + 1) s' rest
    | .error e => (s0, some (i, e))

def tSpecRunTx (σ : TSchema) (s : TSt) (ops : List TOp) : TSt × Option (Nat × Err) := tSpecRunTxFrom σ s 0 s ops

end StorageModel.C04
