import StorageModel.C04.Delete
/-
  C04 — every operation preserves `Inv`, hence every transaction and history (`history_pres`).  The writes are
  `Written.inv`.  `DeleteById` on A is an induction along its recursion on `GInv σ P`, for any pending set `P` that
  holds the in-progress set: a round makes the entity pending as well (`preDelete_inv`), the nested deletes keep `GInv`
  with it pending, and once only pending entities still refer to it its row goes and the pending set is `P` again
  (`erase_inv`).
-/
namespace StorageModel.C04
open StorageModel

theorem createB_ok {s s' : St} {id : Bytes} (h : createB s id = .ok s') :
    id ≠ [] ∧ s.bs.contains id = false ∧ s' = { s with bs := s.bs.insert id () } := by
  unfold createB at h
  split at h
  · cases h
  · next hid =>
    split at h
    · cases h
    · next hc => cases h; exact ⟨hid, Bool.eq_false_iff.2 hc, rfl⟩

theorem createB_inv {σ : Schema} {s s' : St} {id : Bytes} (hI : Inv σ s) (h : createB s id = .ok s') : Inv σ s' := by
  obtain ⟨hid, _, rfl⟩ := createB_ok h
  have hmono := Map.contains_insert_mono s.bs id ()
  refine ⟨hI.things, hI.minions, hI.ownerT.mono hmono, hI.bossT, hI.depT.mono hmono, hI.bossNN, hI.depNN,
    fun t ht => hmono _ (hI.thingsK t ht), hI.minionsK, hI.nonEmpty, ?_⟩
  rw [Map.lookup_insert, if_neg fun h => hid h.symm]; exact hI.nonEmptyB

theorem preDelete_inv {σ : Schema} {P : Bytes → Prop} {s : St} {id : Bytes} (hI : GInv σ P s) :
    GInv σ (plus P id) (preDelete s id) := by
  have a := idxDelB_spec (tgt := s.bs.contains) (v := fieldOf s id (·.owner)) hI.things
    (fun _ he => (fieldOf_some he _).symm) hI.thingsK
  have b := idxDelB_spec (f := (·.boss)) (P := P) (as := s.as) (tgt := s.as.contains)
    (v := fieldOf s id (·.boss)) hI.minions (fun _ he => (fieldOf_some he _).symm) hI.minionsK
  exact ⟨a.1, b.1, hI.ownerT, fun k e he hp => hI.bossT k e he (fun h => hp (Or.inl h)), hI.depT, hI.bossNN, hI.depNN,
    a.2, b.2, hI.nonEmpty, hI.nonEmptyB⟩

/-- `bucket.DeleteEntity(id)` once only pending entities still refer to `id` -/
theorem erase_inv {σ : Schema} {P : Bytes → Prop} {s : St} {id : Bytes}
    (hI : GInv σ (plus P id) s) (hno : ∀ x, isReferrer s (·.boss) id x = true → P x ∨ x = id)
    (hid : s.as.contains id = true) :
    GInv σ P { s with as := s.as.erase id, minions := s.minions.erase id } := by
  have hidne : id ≠ [] := hI.ne_nilA hid
  have hnoref : ∀ k e, s.as.lookup k = some e → k ≠ id → ¬ P k → evalVal e.boss ≠ id := by
    intro k e he hk hp hb
    rcases hno k ((isReferrer_iff s (·.boss) id k).2 ⟨e, he, evalVal_eq_some hb hidne⟩) with h | h
    · exact hp h
    · exact hk h
  refine ⟨hI.things.erase, ?_, ?_, ?_, ?_, ?_, ?_, hI.thingsK, ?_, ?_, hI.nonEmptyB⟩
  · refine hI.minions.erase.erase_key ?_
    intro k e he hp _; exact hnoref k e (Map.lookup_erase_some he).2 (Map.lookup_erase_some he).1 hp
  · exact hI.ownerT.erase
  · intro k e he hp hne
    obtain ⟨hk, he'⟩ := Map.lookup_erase_some he
    exact Map.contains_erase_of_ne _ _ _ (hnoref k e he' hk hp) (hI.bossT k e he' (fun h => h.elim hp hk) hne)
  · exact hI.depT.erase
  · intro k e he; exact hI.bossNN k e (Map.lookup_erase_some he).2
  · intro hn k e he; exact hI.depNN hn k e (Map.lookup_erase_some he).2
  · exact keysLive_erase id hI.minionsK
  · rw [Map.lookup_erase, if_neg fun h => hidne h.symm]; exact hI.nonEmpty

/-- `prog` (in progress) ⊆ `P` (pending) -/
theorem deleteA_inv {σ : Schema} {n : Nat} {P : Bytes → Prop} {prog : List Bytes} {s s' : St} {id : Bytes}
    (hI : GInv σ P s) (h : deleteA σ n prog s id = .ok s') (hprog : ∀ x ∈ prog, P x) : GInv σ P s' := by
  induction n generalizing P prog s id s' with
  | zero => cases h
  | succ n ih =>
    obtain ⟨_, s3, hF, hc3, rfl, _⟩ := deleteA_succ_char h
    -- a round makes `id` pending (`preDelete_inv`); the nested deletes of its loop keep the invariant with `id` pending
    have hpass : ∀ (Q : Bytes → Prop), (∀ x ∈ prog, Q x) → ∀ st s3, GInv σ Q st →
        passA σ (deleteA σ n) prog id st = .ok s3 → GInv σ (plus Q id) s3 := fun Q hQ st s3 hst hp => by
      rw [passA_eq] at hp
      refine cascadeOver_pres (fun st x st' _ _ a b => ih a b fun y hy => ?_) _ _ s3
        (preDelete_inv hst) hp
      exact ((mem_mark prog id y).1 hy).symm.imp (hQ y) fun e => e
    have hI3 : GInv σ (plus P id) s3 := rounds_first (fun _ _ g a => a.of_geq g) (fun s3 => hpass P hprog s s3 hI)
      (fun st s3 a hp => (hpass _ (fun x hx => Or.inl (hprog x hx)) st s3 a hp).congr (plus_idem P id))
      (roundsOf_ne_nil σ s id) hF
    have hdone : ∀ x, isReferrer s3 (·.boss) id x = true → x ∈ mark prog id :=
      rounds_first (R := fun st => ∀ x, isReferrer st (·.boss) id x = true → x ∈ mark prog id)
        (fun _ _ g a x hr => a x (isReferrer_as g.1 _ id x ▸ hr)) (fun _ => pass_done) (fun _ _ _ => pass_done)
        (roundsOf_ne_nil σ s id) hF
    exact erase_inv hI3 (fun x hr => ((mem_mark prog id x).1 (hdone x hr)).symm.imp (hprog x) fun e => e) hc3

theorem depStep_inv {σ : Schema} {n : Nat} {id : Bytes} {st st' : St} (hI : Inv σ st)
    (h : beforeDeleteB σ (deleteA σ n []) id st .depCascade = .ok st') : Inv σ st' :=
  depStep_pres (fun _ _ _ _ a b => deleteA_inv a b nofun) h hI

theorem owner_ne_of_things_empty {σ : Schema} {id : Bytes} {st : St} (hI : Inv σ st)
    (hemp : (st.things.lookup id).getD [] = []) :
    ∀ k e, st.as.lookup k = some e → evalVal e.owner ≠ [] → evalVal e.owner ≠ id := by
  intro k e he hne hv
  have : k ∈ (st.things.lookup id).getD [] := (hI.things id k).2 ⟨e, he, hv, hv ▸ hne, fun h => h⟩
  rw [hemp] at this; cases this

/-- deleting the B entity bucket (with its back-reference bucket) once nothing refers to it -/
theorem eraseB_inv {σ : Schema} {s : St} {id : Bytes} (hI : Inv σ s)
    (hown : ∀ k e, s.as.lookup k = some e → evalVal e.owner ≠ [] → evalVal e.owner ≠ id)
    (hdep : ∀ x, isReferrer s (·.dep) id x = false) :
    Inv σ { s with bs := s.bs.erase id, things := s.things.erase id } := by
  have hkeep := Map.contains_erase_of_ne s.bs id
  refine ⟨?_, hI.minions, ?_, hI.bossT, ?_, hI.bossNN, hI.depNN, ?_, hI.minionsK, hI.nonEmpty, ?_⟩
  · exact hI.things.erase_key (fun k e he _ hne => hown k e he hne)
  · intro k e he hne; exact hkeep _ (hown k e he hne) (hI.ownerT k e he hne)
  · intro k e he hne
    refine hkeep _ ?_ (hI.depT k e he hne)
    intro hv
    have := (isReferrer_iff s (·.dep) id k).2 ⟨e, he, evalVal_eq_some hv (hv ▸ hne)⟩
    rw [hdep k] at this; cases this
  · exact keysLive_erase id hI.thingsK
  · rw [Map.lookup_erase]
    by_cases h : ([] : Bytes) = id
    · simp [h]
    · simp only [h, if_false]; exact hI.nonEmptyB

theorem deleteB_inv {σ : Schema} {s s' : St} {id : Bytes} (hI : Inv σ s) (h : deleteB σ s id = .ok s') : Inv σ s' := by
  obtain ⟨_, sF, hd, hemp, _, _, rfl⟩ := deleteB_char h
  have hI' : Inv σ sF := depStep_inv hI hd
  -- nothing refers to `id` any more: through `owner` since its set was empty, through `dep` since the loop ran
  have hown : ∀ k e, sF.as.lookup k = some e → evalVal e.owner ≠ [] → evalVal e.owner ≠ id := by
    cases hdf : σ.depFirst
    · rw [hdf] at hemp; exact fun k e he => owner_ne_of_things_empty hI hemp k e ((depStep_sub hd).1 k e he)
    · rw [hdf] at hemp; exact owner_ne_of_things_empty hI' hemp
  have hdep : ∀ x, isReferrer sF (·.dep) id x = false := fun x => Bool.eq_false_iff.2 fun hr => nomatch
    cascadeOver_referrers (fun _ _ _ b => ⟨deleteA_sub b, deleteA_gone b⟩) (depStep_char hd) x hr
  exact (eraseB_inv hI' hown hdep).of_geq ⟨rfl, rfl, rfl, rfl⟩

theorem inv_empty (σ : Schema) : Inv σ {} := by
  refine ⟨?_, ?_, ?_, ?_, ?_, ?_, ?_, ?_, ?_, rfl, rfl⟩
  · intro t k; simp
  · intro t k; simp
  all_goals (intros; simp_all [Targets, NonNull])

theorem apply_inv {σ : Schema} {s s' : St} (op : Op) (hI : Inv σ s) (h : apply σ s op = .ok s') : Inv σ s' := by
  cases op with
  | createB id => exact createB_inv hI h
  | createA id e => exact (createA_written h).2.inv hI
  | updateA id e mo mb md => obtain ⟨_, _, w⟩ := updateA_written h; exact w.inv hI
  | deleteA id => exact deleteA_inv hI h nofun
  | deleteB id => exact deleteB_inv hI h
  | createC c id e x => exact (createC_written h).2.inv hI
  | updateC c id e x mo mb md mt mm mg => obtain ⟨_, _, _, _, w⟩ := updateC_written h; exact w.inv hI
  | deleteC id => exact deleteA_inv hI h nofun
  | deleteAV id v =>
    exact (deleteA_inv (σ := σ.withProtect v) (hI.of_schema rfl) h nofun).of_schema rfl
  | deleteBV id v =>
    exact (deleteB_inv (σ := σ.withProtect v) (hI.of_schema rfl) h).of_schema rfl

theorem runTx_pres {σ : Schema} {R : St → Prop} (hstep : ∀ s s' op, R s → apply σ s op = .ok s' → R s')
    {s0 : St} (h0 : R s0) : ∀ (ops : List Op) (i : Nat) (s : St), R s → R (runTxFrom σ s0 i s ops).1 := by
  intro ops
  induction ops with
  | nil => intro i s hs; exact hs
  | cons op rest ih =>
    intro i s hs
    unfold runTxFrom
    cases ha : apply σ s op with
    | ok s' => exact ih (i + 1) s' (hstep s s' op hs ha)
    | error e => exact h0

theorem history_pres {σ : Schema} {R : St → Prop} (hstep : ∀ s s' op, R s → apply σ s op = .ok s' → R s')
    (txs : List (List Op)) (s : St) (h : R s) : R (txs.foldl (fun s tx => (runTx σ s tx).1) s) :=
  List.foldlRecOn txs _ h fun s hs tx _ => runTx_pres hstep hs tx 0 s hs

theorem foldl_inv {σ : Schema} (txs : List (List Op)) : ∀ s, Inv σ s →
    Inv σ (txs.foldl (fun s tx => (runTx σ s tx).1) s) :=
  history_pres (fun _ _ op => apply_inv op) txs

end StorageModel.C04
