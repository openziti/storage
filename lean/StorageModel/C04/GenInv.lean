import StorageModel.C04.GenProofs
/-
  C04 — restrict over the schema-parametric model, for EVERY schema:
  a store `t` that no cascading declaration targets, a restrict declaration `i` targeting it and a referrer `r`
  that remains (through the back-reference set of an fk index: `r ≠ id`; through an fk constraint: any row)
  ⇒ `DeleteById(t, id)` = reference-exists, whatever the other declarations, their order and the map are.
  And target existence on writes: a successful create / update preserves `GTargetInv` (every stored non-empty fk
  value names a live entity of the declared target store).
-/
namespace StorageModel.C04
open StorageModel

def GC.noCascade : GC → Bool
  | .own _ _ => true
  | .del _ d => !d.cascade

/-- `r` blocks the delete of `(tgt, id)` through declaration `i`: listed in the back-reference set (fk index; a
    self reference does not block — the own-side entry takes it out first), or a referring row (fk constraint) -/
def GBlocks (s : GSt) (i : Nat) (d : GDecl) (id r : Bytes) : Prop :=
  if d.index then r ∈ s.back i id ∧ r ≠ id else (gIsRef s i d id r = true ∧ (d.src, r) ∈ s.ids)

theorem GBlocks_setBack (s : GSt) (i : Nat) (d : GDecl) (id r : Bytes) (j : Nat) (v : Bytes)
    (h : GBlocks s i d id r) : GBlocks (s.setBack j v (setDel id (s.back j v))) i d id r := by
  unfold GBlocks at *
  split
  · next hi =>
    simp only [hi, if_true] at h
    refine ⟨?_, h.2⟩
    simp only [GSt.setBack]
    split
    · next hc =>
      obtain ⟨hj, hv⟩ := hc
      subst hj; subst hv
      exact (mem_setDel id r _).mpr ⟨h.2, h.1⟩
    · exact h.1
  · next hi =>
    simp only [hi] at h
    exact h

theorem gBefore1_noCascade (del : GMarks → GSt → Nat → Bytes → GResM) (t : Nat) (id : Bytes) (s : GSt) (m : GMarks)
    (c : GC) (hc : c.noCascade = true) (i : Nat) (d : GDecl) (r : Bytes) (hb : GBlocks s i d id r) :
    (∃ s', gBefore1 del t id s m c = (.ok s', m) ∧ GBlocks s' i d id r) ∨
      gBefore1 del t id s m c = (.error .refExists, m) := by
  cases c with
  | own j e =>
    left
    rcases gBefore1_own del t id s m j e with h | ⟨v, h⟩
    · exact ⟨_, h, hb⟩
    · exact ⟨_, h, GBlocks_setBack s i d id r j v hb⟩
  | del j e =>
    rw [gBefore1_restrict del t id s m j e (by simpa [GC.noCascade] using hc)]
    by_cases hx : if e.index then s.back j id ≠ [] else gReferrers s j e id ≠ []
    · right; rw [if_pos hx]
    · left; rw [if_neg hx]; exact ⟨_, rfl, hb⟩

theorem gBefore1_blocked (del : GMarks → GSt → Nat → Bytes → GResM) (t : Nat) (id : Bytes) (s : GSt) (m : GMarks)
    (i : Nat) (d : GDecl) (r : Bytes) (hd : d.cascade = false) (hb : GBlocks s i d id r) :
    gBefore1 del t id s m (.del i d) = (.error .refExists, m) := by
  rw [gBefore1_restrict del t id s m i d hd, if_pos]
  unfold GBlocks at hb
  split
  · next hi => rw [if_pos hi] at hb; exact List.ne_nil_of_mem hb.1
  · next hi =>
    rw [if_neg hi] at hb
    refine List.ne_nil_of_mem (a := r) ?_
    simp only [gReferrers, mem_sortB, List.mem_map, List.mem_filter]
    exact ⟨(d.src, r), ⟨hb.2, by simp [hb.1]⟩, rfl⟩

theorem gPass_blocked (del : GMarks → GSt → Nat → Bytes → GResM) (t : Nat) (id : Bytes) (m : GMarks)
    (i : Nat) (d : GDecl) (r : Bytes) (hd : d.cascade = false) :
    ∀ (l : List GC) (s : GSt), (∀ c ∈ l, c.noCascade = true) → GC.del i d ∈ l → GBlocks s i d id r →
      gPass del t id l s m = (.error .refExists, m) := by
  intro l
  induction l with
  | nil => intro s _ hm _; cases hm
  | cons c rest ih =>
    intro s hall hm hb
    simp only [gPass]
    rcases gBefore1_noCascade del t id s m c (hall c (List.mem_cons_self ..)) i d r hb with ⟨s', hs', hb'⟩ | he
    · rw [hs']
      simp only
      rcases List.mem_cons.mp hm with hc | hr
      · subst hc
        rw [gBefore1_blocked del t id s m i d r hd hb] at hs'
        cases hs'
      · exact ih s' (fun c hc => hall c (List.mem_cons_of_mem _ hc)) hr hb'
    · rw [he]

theorem mem_gConstraints (σ : GSchema) (t : Nat) (c : GC) :
    c ∈ gConstraints σ t ↔
      ∃ p ∈ gDecls σ, (p.2.src = t ∧ c = .own p.1 p.2) ∨ (p.2.tgt = t ∧ c = .del p.1 p.2) := by
  simp only [gConstraints, List.mem_flatMap, List.mem_append]
  refine exists_congr fun p => and_congr_right fun _ => or_congr ?_ ?_ <;> split <;> simp [*]

theorem gDelete_restrict_refuses (σ : GSchema) (n : Nat) (m : GMarks) (s : GSt) (t : Nat) (id : Bytes)
    (i : Nat) (d : GDecl) (r : Bytes) (hlive : s.live t id = true)
    (hdecl : (i, d) ∈ gDecls σ) (ht : d.tgt = t)
    (hnone : ∀ p ∈ gDecls σ, p.2.tgt = t → p.2.cascade = false)
    (hb : GBlocks s i d id r) :
    gDelete σ (n + 1) m s t id = (.error .refExists, m) := by
  simp only [gDelete, hlive, Bool.not_true, Bool.false_eq_true, if_false]
  have hall : ∀ c ∈ gConstraints σ t, c.noCascade = true := fun c hc => by
    obtain ⟨p, hp, ⟨_, rfl⟩ | ⟨hpt, rfl⟩⟩ := (mem_gConstraints σ t c).1 hc
    · rfl
    · simp [GC.noCascade, hnone p hp hpt]
  rw [gPass_blocked (gDelete σ n) t id m i d r (hnone (i, d) hdecl ht) (gConstraints σ t) s hall
    ((mem_gConstraints σ t _).2 ⟨(i, d), hdecl, Or.inr ⟨ht, rfl⟩⟩) hb]

theorem GSt.live_congr {s s' : GSt} (h : s'.ent = s.ent) (t : Nat) (id : Bytes) : s'.live t id = s.live t id := by
  unfold GSt.live; rw [h]

theorem live_setEnt_mono (s : GSt) (t : Nat) (id : Bytes) (row : GRow) (a : Nat) (b : Bytes)
    (h : s.live a b = true) : (s.setEnt t id (some row)).live a b = true := by
  simp only [GSt.live, GSt.setEnt] at h ⊢
  split
  · rfl
  · exact h

theorem gAfter1_ok (i : Nat) (d : GDecl) (t : Nat) (id : Bytes) (c : Bool) (old new : Bytes) (s s' : GSt)
    (h : gAfter1 i d t id c old new s = .ok s') :
    s'.ent = s.ent ∧ (d.src = t → (c = true ∨ old ≠ new) → new ≠ [] → s.live d.tgt new = true) := by
  unfold gAfter1 at h
  by_cases h1 : d.src ≠ t
  · rw [if_pos h1] at h; cases h; exact ⟨rfl, fun hs => absurd hs h1⟩
  rw [if_neg h1] at h
  by_cases h2 : (!c) = true ∧ old = new
  · rw [if_pos h2] at h; cases h
    refine ⟨rfl, fun _ hc => ?_⟩
    rcases hc with rfl | hc
    · cases h2.1
    · exact absurd h2.2 hc
  rw [if_neg h2] at h
  cases hi : d.index
  · simp only [hi, Bool.false_eq_true, if_false] at h
    refine ⟨?_, fun _ _ hn => ?_⟩
    · by_cases hn : new ≠ []
      · rw [if_pos hn] at h; split at h <;> cases h; rfl
      · rw [if_neg hn] at h; split at h <;> cases h; rfl
    · rw [if_pos hn] at h; split at h
      · assumption
      · cases h
  · simp only [hi, if_true] at h
    split at h
    · cases h
    · next s1 hs1 =>
      have e1 : s1.ent = s.ent := by
        by_cases ho : old ≠ []
        · rw [if_pos ho] at hs1; split at hs1 <;> cases hs1; rfl
        · rw [if_neg ho] at hs1; cases hs1; rfl
      refine ⟨?_, fun _ _ hn => ?_⟩
      · by_cases hn : new ≠ []
        · rw [if_pos hn] at h; split at h <;> cases h; exact e1
        · rw [if_neg hn] at h; split at h <;> cases h; exact e1
      · rw [if_pos hn] at h; split at h
        · next hl => exact GSt.live_congr e1 _ _ ▸ hl
        · cases h

theorem gAfterAll_target (t : Nat) (id : Bytes) (c : Bool) (oldRow newRow : GRow) :
    ∀ (l : List (Nat × GDecl)) (s s' : GSt), gAfterAll t id c oldRow newRow l s = .ok s' →
      s'.ent = s.ent ∧ ∀ p ∈ l, p.2.src = t → (c = true ∨ evalVal (oldRow p.1) ≠ evalVal (newRow p.1)) →
        evalVal (newRow p.1) ≠ [] → s.live p.2.tgt (evalVal (newRow p.1)) = true := by
  intro l
  induction l with
  | nil => intro s s' h; cases h; exact ⟨rfl, fun p hp => by cases hp⟩
  | cons q rest ih =>
    intro s s' h
    obtain ⟨i, d⟩ := q
    simp only [gAfterAll] at h
    split at h
    · next s1 h1 =>
      obtain ⟨e1, t1⟩ := gAfter1_ok i d t id c _ _ s s1 h1
      obtain ⟨e2, h2⟩ := ih s1 s' h
      refine ⟨e2.trans e1, ?_⟩
      intro p hp hsrc hch hn
      rcases List.mem_cons.mp hp with rfl | hr
      · exact t1 hsrc hch hn
      · exact GSt.live_congr e1 _ _ ▸ h2 p hr hsrc hch hn
    · cases h

/-- every stored non-empty fk value names an existing entity of the declared target store -/
def GTargetInv (σ : GSchema) (s : GSt) : Prop :=
  ∀ t x row, s.ent t x = some row → ∀ p ∈ gDecls σ, p.2.src = t → evalVal (row p.1) ≠ [] →
    s.live p.2.tgt (evalVal (row p.1)) = true

theorem gCreate_targetInv (σ : GSchema) (s : GSt) (t : Nat) (id : Bytes) (row : GRow) (s' : GSt)
    (h : gCreate σ s t id row = .ok s') (hinv : GTargetInv σ s) : GTargetInv σ s' := by
  unfold gCreate at h
  split at h
  · cases h
  · split at h
    · cases h
    · obtain ⟨he, ht⟩ := gAfterAll_target t id true (fun _ => none) row (gDecls σ) _ s' h
      intro t' x row' hrow p hp hsrc hn
      rw [GSt.live_congr he]
      rw [he] at hrow
      simp only [GSt.setEnt] at hrow
      split at hrow
      · next hc =>
        obtain ⟨h1, h2⟩ := hc
        subst h1; subst h2
        cases hrow
        exact ht p hp hsrc (Or.inl rfl) hn
      · exact live_setEnt_mono s t id row _ _ (hinv t' x row' hrow p hp hsrc hn)

theorem gUpdate_targetInv (σ : GSchema) (s : GSt) (t : Nat) (id : Bytes) (sel : Nat → Bool) (row : GRow) (s' : GSt)
    (h : gUpdate σ s t id sel row = .ok s') (hinv : GTargetInv σ s) : GTargetInv σ s' := by
  unfold gUpdate at h
  split at h
  · cases h
  · split at h
    · cases h
    · next cur hcur =>
      simp only at h
      obtain ⟨he, ht⟩ := gAfterAll_target t id false cur _ (gDecls σ) _ s' h
      intro t' x row' hrow p hp hsrc hn
      rw [GSt.live_congr he]
      rw [he] at hrow
      simp only [GSt.setEnt] at hrow
      split at hrow
      · next hc =>
        obtain ⟨h1, h2⟩ := hc
        subst h1; subst h2
        cases hrow
        by_cases hch : evalVal (cur p.1) = evalVal (if sel p.1 = true then row p.1 else cur p.1)
        · rw [← hch] at hn ⊢
          exact live_setEnt_mono s _ _ _ _ _ (hinv _ _ cur hcur p hp hsrc hn)
        · exact ht p hp hsrc (Or.inr hch) hn
      · exact live_setEnt_mono s t id _ _ _ (hinv t' x row' hrow p hp hsrc hn)

theorem GTargetInv_empty (σ : GSchema) : GTargetInv σ GSt.empty := by
  intro t x row h; cases h

theorem gCreate_targets (σ : GSchema) (s : GSt) (t : Nat) (id : Bytes) (row : GRow) (s' : GSt)
    (h : gCreate σ s t id row = .ok s') :
    ∀ p ∈ gDecls σ, p.2.src = t → evalVal (row p.1) ≠ [] → s'.live p.2.tgt (evalVal (row p.1)) = true := by
  unfold gCreate at h
  split at h
  · cases h
  · split at h
    · cases h
    · obtain ⟨he, ht⟩ := gAfterAll_target t id true (fun _ => none) row (gDecls σ) _ s' h
      exact fun p hp hsrc hn => GSt.live_congr he _ _ ▸ ht p hp hsrc (Or.inl rfl) hn

end StorageModel.C04
