import StorageModel.C04.Model
/-
  C04 — the "cascading delete in progress" set as what it is in the code: STATE of the `MutateContext`
  (`cascadeDeletesInProgress(ctx)`: a map stored in the context's `context.Context`), not a parameter.  It
  outlives the operation and — when the caller reuses the context object for several `Db.Update` calls — the
  transaction; a rolled-back transaction does not roll it back.

  `Model.lean` passes the set DOWN the recursion (`prog`), which is only right if every
  `fkDeleteCascadeConstraint.ProcessBeforeDelete` leaves the map as it found it — on every exit, also when a
  referrer's delete fails and the loop returns early (`defer delete(inProgress, self)`).  Here the same functions
  are written state-passing, branch by branch as the code mutates the map: the entry is added unless present,
  the loop consults the CURRENT map, the entry is removed on the way out iff this call added it.
  `MarksProofs.lean` proves that the map always comes back unchanged (`applyM_balanced`, the property theorem `cascade_marks_balanced`) and that this
  model computes exactly what `Model.lean` computes — so a failed cascade leaves nothing behind in the context
  and later cascades, in the same transaction or in a later one on the same context, are exact.
-/
namespace StorageModel.C04
open StorageModel

/-- the in-progress map of one `MutateContext`: keys `"things\x00" ++ id` (`a`) and `"owners\x00" ++ id` (`b`) -/
structure Ctx where
  a : List Bytes := []
  b : List Bytes := []
deriving DecidableEq, Repr

abbrev ResM := Res × Ctx

/-- the cascade loop over the current map -/
def cascadeOverM (del : Ctx → St → Bytes → ResM) (f : EntA → FV) (id : Bytes) :
    List Bytes → St → Ctx → ResM
  | [], s, m => (.ok s, m)
  | x :: rest, s, m =>
    if x ∈ m.a then cascadeOverM del f id rest s m                     -- busy: cursor.Next()
    else if isReferrer s f id x then
      match del m s x with
      | (.ok s', m') => cascadeOverM del f id rest s' m'
      | (.error e, m') => (.error e, m')                               -- SetError … return (the deferred delete still runs)
    else cascadeOverM del f id rest s m

/-- `ProcessBeforeDelete` of one constraint of A -/
def beforeDeleteAM (del : Ctx → St → Bytes → ResM) (id : Bytes) (s : St) (m : Ctx) (c : CA) : ResM :=
  match c with
  | .bossCascade =>
    let nested := decide (id ∈ m.a)
    let m1 : Ctx := if nested then m else { m with a := id :: m.a }    -- inProgress[self] = struct{}{}
    let r := cascadeOverM del (·.boss) id (referrers s (·.boss) id) s m1
    (r.1, if nested then r.2 else { r.2 with a := r.2.a.filter (fun k => decide (k ≠ id)) })   -- defer delete(inProgress, self)
  | c => (beforeDeleteA (fun _ _ _ => .error .other) [] id s c, m)       -- the index steps do not touch the map

def passAM (σ : Schema) (del : Ctx → St → Bytes → ResM) (id : Bytes) : List CA → St → Ctx → ResM
  | [], s, m => (.ok s, m)
  | c :: rest, s, m =>
    match beforeDeleteAM del id s m c with
    | (.ok s', m') => passAM σ del id rest s' m'
    | (.error e, m') => (.error e, m')

def roundsAM (σ : Schema) (del : Ctx → St → Bytes → ResM) (id : Bytes) : List (Option Child) → St → Ctx → ResM
  | [], s, m => (.ok s, m)
  | r :: rest, s, m =>
    match passAM σ del id (orderA σ) s m with
    | (.ok s1, m') => roundsAM σ del id rest (afterRound σ id s1 r) m'
    | (.error e, m') => (.error e, m')

/-- `BaseStore.DeleteById` on A, the in-progress map threaded through -/
def deleteAM (σ : Schema) : Nat → Ctx → St → Bytes → ResM
  | 0, m, _, _ => (.error .diverge, m)
  | n + 1, m, s, id =>
    if s.as.contains id then
      match roundsAM σ (deleteAM σ n) id (roundsOf σ s id) s m with
      | (.ok s1, m') =>
        if s1.as.contains id then
          if σ.protect = some id then (.error .veto, m')
          else (.ok { s1 with as := s1.as.erase id, minions := s1.minions.erase id }, m')
        else (.error .other, m')
      | (.error e, m') => (.error e, m')
    else (.error .notFound, m)

/-- `ProcessBeforeDelete` of one constraint of B -/
def beforeDeleteBM (σ : Schema) (n : Nat) (id : Bytes) (s : St) (m : Ctx) (c : CB) : ResM :=
  match c with
  | .depCascade =>
    if σ.depCascade then
      let nested := decide (id ∈ m.b)
      let m1 : Ctx := if nested then m else { m with b := id :: m.b }
      let r := cascadeOverM (deleteAM σ n) (·.dep) id (referrers s (·.dep) id) s m1
      (r.1, if nested then r.2 else { r.2 with b := r.2.b.filter (fun k => decide (k ≠ id)) })
    else (beforeDeleteB σ (fun _ _ => .error .other) id s .depCascade, m)      -- CascadeNone: no map access
  | .thingsRestrict => (beforeDeleteB σ (fun _ _ => .error .other) id s .thingsRestrict, m)

def passBM (σ : Schema) (n : Nat) (id : Bytes) : List CB → St → Ctx → ResM
  | [], s, m => (.ok s, m)
  | c :: rest, s, m =>
    match beforeDeleteBM σ n id s m c with
    | (.ok s', m') => passBM σ n id rest s' m'
    | (.error e, m') => (.error e, m')

def deleteBM (σ : Schema) (m : Ctx) (s : St) (id : Bytes) : ResM :=
  if s.bs.contains id then
    match passBM σ (fuelOf s) id (orderB σ) s m with
    | (.ok s1, m') =>
      if childRestrict σ s1 id .c1 || childRestrict σ s1 id .c2 then (.error .refExists, m')
      else if s1.bs.contains id then
        (.ok { s1 with bs := s1.bs.erase id, things := s1.things.erase id,
                       mentees1 := s1.mentees1.erase id, mentees2 := s1.mentees2.erase id }, m')
      else (.error .other, m')
    | (.error e, m') => (.error e, m')
  else (.error .notFound, m)

/-- one operation on a mutate context whose in-progress map is `m` -/
def applyM (σ : Schema) (m : Ctx) (s : St) : Op → ResM
  | .deleteA id => deleteAM σ (fuelOf s) m s id
  | .deleteC id => deleteAM σ (fuelOf s) m s id
  | .deleteAV id v => deleteAM (σ.withProtect v) (fuelOf s) m s id
  | .deleteB id => deleteBM σ m s id
  | .deleteBV id v => deleteBM (σ.withProtect v) m s id
  | op => (apply σ s op, m)

/-- a transaction on context map `m`: the first failing operation rolls the DATABASE back — not the context -/
def runTxMFrom (σ : Schema) (s0 : St) : Nat → Ctx → St → List Op → (St × Option (Nat × Err)) × Ctx
  | _, m, s, [] => ((s, none), m)
  | i, m, s, op :: rest =>
    match applyM σ m s op with
    | (.ok s', m') => runTxMFrom σ s0 (i + 1) m' s' rest
    | (.error e, m') => ((s0, some (i, e)), m')

def runTxM (σ : Schema) (m : Ctx) (s : St) (ops : List Op) : (St × Option (Nat × Err)) × Ctx := runTxMFrom σ s 0 m s ops

/-- a history; `reuse`: the caller passes ONE `MutateContext` to every `Db.Update` (otherwise a fresh one each time) -/
def runHistoryM (σ : Schema) (reuse : Bool) (txs : List (List Op)) : St × Ctx :=
  txs.foldl (fun (acc : St × Ctx) tx =>
    let r := runTxM σ (if reuse then acc.2 else {}) acc.1 tx
    (r.1.1, r.2)) ({}, {})

end StorageModel.C04
