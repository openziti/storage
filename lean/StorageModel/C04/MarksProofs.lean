import StorageModel.C04.Marks
import StorageModel.C04.Delete
/-
  C04 — the in-progress map of the mutate context is balanced: every operation, successful or failed, leaves
  it exactly as it found it; therefore the state-passing model (`Marks.lean`) computes what `Model.lean`
  computes, on a fresh context and on a context that has been through any number of earlier operations and
  transactions.
-/
namespace StorageModel.C04
open StorageModel

theorem foldlM_error {α : Type} (f : St → α → Res) (e : Err) (l : List α) :
    l.foldlM (fun st a => f st a) (m := Except Err) = fun s => l.foldlM f s := rfl

theorem foldlM_cons_ok {α : Type} (f : St → α → Res) (a : α) (l : List α) (s s' : St) (h : f s a = .ok s') :
    (a :: l).foldlM f s = l.foldlM f s' := by
  simp only [List.foldlM_cons, h]; rfl

theorem foldlM_cons_err {α : Type} (f : St → α → Res) (a : α) (l : List α) (s : St) (e : Err) (h : f s a = .error e) :
    (a :: l).foldlM f s = .error e := by
  simp only [List.foldlM_cons, h]; rfl

theorem cascadeOverM_eq {del : Ctx → St → Bytes → ResM} {delR : List Bytes → St → Bytes → Res} {f : EntA → FV} {id : Bytes}
    (hdel : ∀ m st x, del m st x = (delR m.a st x, m)) :
    ∀ (cands : List Bytes) (s : St) (m : Ctx),
      cascadeOverM del f id cands s m = (cascadeOver (delR m.a) f id m.a cands s, m) := by
  intro cands
  induction cands with
  | nil => intro s m; rfl
  | cons x rest ih =>
    intro s m
    rw [cascadeOver_cons]
    unfold cascadeOverM
    by_cases hx : x ∈ m.a
    · rw [if_pos hx, ih s m, if_neg fun h => h.1 hx]
    · rw [if_neg hx]
      by_cases hr : isReferrer s f id x = true
      · rw [if_pos hr, hdel m s x, if_pos ⟨hx, hr⟩]
        cases hd : delR m.a s x with
        | ok s' => exact ih s' m
        | error e => rfl
      · rw [if_neg hr, ih s m, if_neg fun h => hr h.2]

theorem Ctx.eta_a (m : Ctx) : ({ m with a := m.a } : Ctx) = m := by cases m; rfl
theorem Ctx.eta_b (m : Ctx) : ({ m with b := m.b } : Ctx) = m := by cases m; rfl

theorem beforeDeleteAM_eq {del : Ctx → St → Bytes → ResM} {delR : List Bytes → St → Bytes → Res}
    (hdel : ∀ m st x, del m st x = (delR m.a st x, m)) (id : Bytes) (s : St) (m : Ctx) (c : CA) :
    beforeDeleteAM del id s m c = (beforeDeleteA delR m.a id s c, m) := by
  cases c with
  | ownerIdx => rfl
  | bossIdx => rfl
  | depFk => rfl
  | bossCascade =>
    simp only [beforeDeleteAM, beforeDeleteA]
    by_cases hn : id ∈ m.a
    · have hmark : mark m.a id = m.a := by simp [mark, hn]
      simp only [hn, decide_true, if_true]
      rw [cascadeOverM_eq hdel, hmark]
    · have hmark : mark m.a id = id :: m.a := by simp [mark, hn]
      simp only [hn, decide_false, Bool.false_eq_true, if_false]
      rw [cascadeOverM_eq hdel, hmark]
      simp only
      rw [filter_ne_cons_self id m.a hn]

theorem passAM_eq {σ : Schema} {del : Ctx → St → Bytes → ResM} {delR : List Bytes → St → Bytes → Res}
    (hdel : ∀ m st x, del m st x = (delR m.a st x, m)) (id : Bytes) :
    ∀ (l : List CA) (s : St) (m : Ctx), passAM σ del id l s m = (l.foldlM (beforeDeleteA delR m.a id) s, m) := by
  intro l
  induction l with
  | nil => intro s m; rfl
  | cons c rest ih =>
    intro s m
    unfold passAM
    rw [beforeDeleteAM_eq hdel]
    cases hb : beforeDeleteA delR m.a id s c with
    | ok s' => simp only; rw [ih s' m, foldlM_cons_ok _ c rest s s' hb]
    | error e => simp only; rw [foldlM_cons_err _ c rest s e hb]

theorem roundsAM_eq {σ : Schema} {del : Ctx → St → Bytes → ResM} {delR : List Bytes → St → Bytes → Res}
    (hdel : ∀ m st x, del m st x = (delR m.a st x, m)) (id : Bytes) :
    ∀ (l : List (Option Child)) (s : St) (m : Ctx),
      roundsAM σ del id l s m = (l.foldlM (roundA σ delR m.a id) s, m) := by
  intro l
  induction l with
  | nil => intro s m; rfl
  | cons r rest ih =>
    intro s m
    unfold roundsAM
    rw [passAM_eq hdel]
    cases hp : (orderA σ).foldlM (beforeDeleteA delR m.a id) s with
    | ok s1 =>
      simp only
      rw [ih _ m, foldlM_cons_ok _ r rest s (afterRound σ id s1 r) (by unfold roundA passA; rw [hp])]
    | error e =>
      simp only
      rw [foldlM_cons_err _ r rest s e (by unfold roundA passA; rw [hp])]

theorem deleteAM_eq (σ : Schema) : ∀ (n : Nat) (m : Ctx) (s : St) (id : Bytes),
    deleteAM σ n m s id = (deleteA σ n m.a s id, m) := by
  intro n
  induction n with
  | zero => intro m s id; rfl
  | succ n ih =>
    intro m s id
    unfold deleteAM deleteA
    by_cases hc : s.as.contains id = true
    · simp only [hc, if_true]
      rw [roundsAM_eq (delR := deleteA σ n) ih]
      cases hr : (roundsOf σ s id).foldlM (roundA σ (deleteA σ n) m.a id) s with
      | ok s1 =>
        simp only
        by_cases hc1 : s1.as.contains id = true
        · simp only [hc1, if_true]
          by_cases hv : σ.protect = some id
          · simp only [hv, if_true]
          · simp only [hv, if_false]
        · simp only [hc1, Bool.false_eq_true, if_false]
      | error e => simp only
    · simp only [hc, Bool.false_eq_true, if_false]

/-! ### B: reader-style with the A-part of the map as a parameter (`Model.deleteB` is the case `prog = []`) -/

def beforeDeleteBR (σ : Schema) (n : Nat) (prog : List Bytes) (id : Bytes) (s : St) (c : CB) : Res :=
  match c with
  | .thingsRestrict => if (s.things.lookup id).getD [] ≠ [] then .error .refExists else .ok s
  | .depCascade =>
    let refs := referrers s (·.dep) id
    if σ.depCascade then cascadeOver (deleteA σ n prog) (·.dep) id prog refs s
    else if refs ≠ [] then .error .refExists else .ok s

def deleteBR (σ : Schema) (prog : List Bytes) (s : St) (id : Bytes) : Res :=
  if s.bs.contains id then
    match (orderB σ).foldlM (beforeDeleteBR σ (fuelOf s) prog id) s with
    | .ok s1 =>
      if childRestrict σ s1 id .c1 || childRestrict σ s1 id .c2 then .error .refExists
      else if s1.bs.contains id then
        .ok { s1 with bs := s1.bs.erase id, things := s1.things.erase id,
                      mentees1 := s1.mentees1.erase id, mentees2 := s1.mentees2.erase id }
      else .error .other
    | .error e => .error e
  else .error .notFound

theorem deleteBR_nil (σ : Schema) (s : St) (id : Bytes) : deleteBR σ [] s id = deleteB σ s id := rfl

theorem beforeDeleteBM_eq (σ : Schema) (n : Nat) (id : Bytes) (s : St) (m : Ctx) (c : CB) :
    beforeDeleteBM σ n id s m c = (beforeDeleteBR σ n m.a id s c, m) := by
  cases c with
  | thingsRestrict => rfl
  | depCascade =>
    simp only [beforeDeleteBM, beforeDeleteBR]
    by_cases hcas : σ.depCascade = true
    · simp only [hcas, if_true]
      by_cases hn : id ∈ m.b
      · simp only [hn, decide_true, if_true]
        rw [cascadeOverM_eq (delR := deleteA σ n) (deleteAM_eq σ n)]
      · simp only [hn, decide_false, Bool.false_eq_true, if_false]
        rw [cascadeOverM_eq (delR := deleteA σ n) (deleteAM_eq σ n)]
        simp only
        rw [filter_ne_cons_self id m.b hn]
    · simp only [hcas, Bool.false_eq_true, if_false, beforeDeleteB]

theorem passBM_eq (σ : Schema) (n : Nat) (id : Bytes) :
    ∀ (l : List CB) (s : St) (m : Ctx), passBM σ n id l s m = (l.foldlM (beforeDeleteBR σ n m.a id) s, m) := by
  intro l
  induction l with
  | nil => intro s m; rfl
  | cons c rest ih =>
    intro s m
    unfold passBM
    rw [beforeDeleteBM_eq]
    cases hb : beforeDeleteBR σ n m.a id s c with
    | ok s' => simp only; rw [ih s' m, foldlM_cons_ok _ c rest s s' hb]
    | error e => simp only; rw [foldlM_cons_err _ c rest s e hb]

theorem deleteBM_eq (σ : Schema) (m : Ctx) (s : St) (id : Bytes) : deleteBM σ m s id = (deleteBR σ m.a s id, m) := by
  unfold deleteBM deleteBR
  by_cases hc : s.bs.contains id = true
  · simp only [hc, if_true]
    rw [passBM_eq]
    cases hr : (orderB σ).foldlM (beforeDeleteBR σ (fuelOf s) m.a id) s with
    | ok s1 =>
      simp only
      by_cases h1 : (childRestrict σ s1 id .c1 || childRestrict σ s1 id .c2) = true
      · simp only [h1, if_true]
      · simp only [h1, Bool.false_eq_true, if_false]
        by_cases h2 : s1.bs.contains id = true
        · simp only [h2, if_true]
        · simp only [h2, Bool.false_eq_true, if_false]
    | error e => simp only
  · simp only [hc, Bool.false_eq_true, if_false]

theorem applyM_balanced (σ : Schema) (m : Ctx) (s : St) (op : Op) : (applyM σ m s op).2 = m := by
  cases op <;> simp only [applyM, deleteAM_eq, deleteBM_eq]

theorem applyM_apply (σ : Schema) (m : Ctx) (s : St) (op : Op) (hm : m.a = []) : (applyM σ m s op).1 = apply σ s op := by
  cases op <;> simp only [applyM, deleteAM_eq, deleteBM_eq, hm, apply, deleteBR_nil]

theorem runTxMFrom_eq (σ : Schema) (s0 : St) : ∀ (ops : List Op) (i : Nat) (m : Ctx) (s : St), m.a = [] →
    runTxMFrom σ s0 i m s ops = (runTxFrom σ s0 i s ops, m) := by
  intro ops
  induction ops with
  | nil => intro i m s _; rfl
  | cons op rest ih =>
    intro i m s hm
    unfold runTxMFrom runTxFrom
    have h1 := applyM_apply σ m s op hm
    have h2 := applyM_balanced σ m s op
    cases hr : applyM σ m s op with
    | mk r m' =>
      rw [hr] at h1 h2
      simp only at h1 h2
      subst h2
      rw [← h1]
      cases r with
      | ok s' => simp only; exact ih (i + 1) m' s' hm
      | error e => rfl

theorem runHistoryM_eq (σ : Schema) (reuse : Bool) (txs : List (List Op)) :
    runHistoryM σ reuse txs = (runHistory σ txs, {}) := by
  unfold runHistoryM runHistory
  suffices h : ∀ (acc : St) , txs.foldl (fun (acc : St × Ctx) tx =>
      let r := runTxM σ (if reuse then acc.2 else {}) acc.1 tx
      (r.1.1, r.2)) (acc, ({} : Ctx)) = (txs.foldl (fun s tx => (runTx σ s tx).1) acc, {}) from h {}
  induction txs with
  | nil => intro acc; rfl
  | cons tx rest ih =>
    intro acc
    simp only [List.foldl_cons]
    have hm : (if reuse then ({} : Ctx) else {}) = {} := by cases reuse <;> rfl
    have := runTxMFrom_eq σ acc tx 0 {} acc rfl
    simp only [runTxM, hm, this, runTx]
    exact ih _

end StorageModel.C04
