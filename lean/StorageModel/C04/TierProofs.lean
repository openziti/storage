import StorageModel.C04.Tier
/-
  C04 — proofs about the three-store chain (`Tier.lean`): what `DeleteById` does at every level, for every
  schema, state and id (no invariant needed), phrased through `lookup` (`t…_char`: the loops by induction over the
  candidate list with the state and the set of rows removed generalised).  From these: `TInv` under every operation,
  and the spec oracle `specDelete0` answers as `tDelete0` does (`tDelete0_agrees_spec`).
-/
namespace StorageModel.C04
open StorageModel

theorem if_congr {α : Type} {p q : Prop} [Decidable p] [Decidable q] (h : p ↔ q) (a b : α) :
    (if p then a else b) = if q then a else b :=
  ite_congr (propext h) (fun _ => rfl) (fun _ => rfl)

theorem lookup_dropKeys {V : Type} (m : Map V) (p : Bytes → Bool) (x : Bytes) :
    (dropKeys m p).lookup x = if p x then none else m.lookup x := by
  rw [dropKeys, Map.lookup_filter_key m (fun k => !p k)]
  cases p x <;> rfl

theorem tIsRef_iff (m : Map FV) (id x : Bytes) :
    tIsRef m id x = true ↔ m.lookup x = some (some id) := by
  unfold tIsRef
  split
  · next v h => rw [h]; simp
  · next h =>
    constructor
    · intro h'; cases h'
    · intro h'; exact absurd h' (by intro e; exact h id e)

theorem tIsRef_contains (m : Map FV) (id x : Bytes) (h : tIsRef m id x = true) : m.contains x = true := by
  rw [tIsRef_iff] at h; simp [Map.contains, h]

theorem mem_keys_of_tIsRef {m : Map FV} {id x : Bytes} (h : tIsRef m id x = true) : x ∈ m.keys :=
  (Map.mem_keys_iff m x).2 (tIsRef_contains m id x h)

theorem tIsRef_drop {m m' : Map FV} {p : Bytes → Prop} [DecidablePred p]
    (h : ∀ y, m'.lookup y = if p y then none else m.lookup y) (id y : Bytes) :
    tIsRef m' id y = true ↔ ¬ p y ∧ tIsRef m id y = true := by
  rw [tIsRef_iff, tIsRef_iff, h]
  by_cases hp : p y
  · rw [if_pos hp]; exact ⟨nofun, fun h => absurd hp h.1⟩
  · rw [if_neg hp]; exact (and_iff_right hp).symm

theorem mem_tReferrers (m : Map FV) (id x : Bytes) : x ∈ tReferrers m id ↔ tIsRef m id x = true := by
  unfold tReferrers
  rw [mem_sortB, List.mem_filter]
  exact ⟨fun h => h.2, fun h => ⟨mem_keys_of_tIsRef h, h⟩⟩

theorem tReferred_iff (m : Map FV) (id : Bytes) : tReferred m id = true ↔ ∃ x, tIsRef m id x = true := by
  unfold tReferred
  rw [List.any_eq_true]
  exact ⟨fun ⟨x, _, h⟩ => ⟨x, h⟩, fun ⟨x, h⟩ => ⟨x, mem_keys_of_tIsRef h, h⟩⟩

theorem not_tIsRef_of_tReferred_false {m : Map FV} {id : Bytes} (h : tReferred m id = false) (y : Bytes) :
    ¬ tIsRef m id y = true :=
  fun hy => Bool.false_ne_true (h.symm.trans ((tReferred_iff m id).2 ⟨y, hy⟩))

theorem tReferrers_ne_nil (m : Map FV) (id : Bytes) : tReferrers m id ≠ [] ↔ tReferred m id = true := by
  rw [tReferred_iff]
  constructor
  · intro h
    cases hl : tReferrers m id with
    | nil => exact absurd hl h
    | cons x t => exact ⟨x, (mem_tReferrers m id x).1 (by rw [hl]; simp)⟩
  · rintro ⟨x, hx⟩ hnil
    have := (mem_tReferrers m id x).2 hx
    rw [hnil] at this; cases this

/-- the restrict branch of `ProcessBeforeDelete` -/
theorem tRestrict_eq (m : Map FV) (id : Bytes) (s : TSt) :
    (if tReferrers m id ≠ [] then Except.error Err.refExists else Except.ok s : TRes) =
      if tReferred m id = true then .error .refExists else .ok s :=
  if_congr (tReferrers_ne_nil m id) _ _

theorem tCascade_nil (del : TSt → Bytes → TRes) (isRef : TSt → Bytes → Bool) (s : TSt) :
    tCascade del isRef [] s = .ok s := rfl

theorem tCascade_cons (del : TSt → Bytes → TRes) (isRef : TSt → Bytes → Bool) (x : Bytes) (rest : List Bytes) (s : TSt) :
    tCascade del isRef (x :: rest) s =
      (match (if isRef s x = true then del s x else .ok s) with
       | .ok s1 => tCascade del isRef rest s1
       | .error e => .error e) := by
  unfold tCascade
  rw [List.foldlM_cons]
  cases (if isRef s x = true then del s x else Except.ok s) <;> rfl

theorem tCascade2_char (id : Bytes) (cands : List Bytes) (s : TSt) (P : Bytes → Prop) [DecidablePred P]
    (hP : ∀ y, P y ↔ y ∈ cands ∧ tIsRef s.t2 id y = true) :
    ∃ s', tCascade tDelete2 (fun st x => tIsRef st.t2 id x) cands s = .ok s' ∧ s'.t0 = s.t0 ∧ s'.t1 = s.t1 ∧
      ∀ y, s'.t2.lookup y = if P y then none else s.t2.lookup y := by
  induction cands generalizing s P with
  | nil => exact ⟨s, tCascade_nil _ _ _, rfl, rfl, fun y => (if_neg fun h => nomatch ((hP y).1 h).1).symm⟩
  | cons x rest ih =>
    rw [tCascade_cons]
    by_cases hx : tIsRef s.t2 id x = true
    · rw [if_pos hx, tDelete2, if_pos (tIsRef_contains _ _ _ hx)]
      obtain ⟨s', h1, h2, h3, h4⟩ := ih { s with t2 := s.t2.erase x } (fun y => y ≠ x ∧ P y) fun y => by
        rw [hP, tIsRef_drop (Map.lookup_erase s.t2 x), List.mem_cons]
        exact ⟨fun ⟨a, b, c⟩ => ⟨b.resolve_left a, a, c⟩, fun ⟨a, b, c⟩ => ⟨b, Or.inr a, c⟩⟩
      refine ⟨s', h1, h2, h3, fun y => ?_⟩
      rw [h4, Map.lookup_erase]
      by_cases hyx : y = x
      · rw [if_pos hyx, ite_self, if_pos ((hP y).2 ⟨hyx ▸ List.mem_cons_self, hyx ▸ hx⟩)]
      · rw [if_neg hyx]
        exact if_congr (and_iff_right hyx) _ _
    · rw [if_neg hx]
      exact ih s P fun y => (hP y).trans (and_congr_left fun hy => by
        rw [List.mem_cons, or_iff_right (fun e : y = x => hx (e ▸ hy))])

theorem tBefore1_char (σ : TSchema) (s : TSt) (id : Bytes) :
    match tBefore1 σ s id with
    | .ok s' => (σ.casc2 = false → tReferred s.t2 id = false) ∧ s'.t0 = s.t0 ∧ s'.t1 = s.t1 ∧
        (∀ y, s'.t2.lookup y = if tIsRef s.t2 id y = true then none else s.t2.lookup y)
    | .error e => e = .refExists ∧ σ.casc2 = false ∧ tReferred s.t2 id = true := by
  simp only [tBefore1]
  cases σ.casc2
  · rw [if_neg Bool.false_ne_true, tRestrict_eq]
    cases hr : tReferred s.t2 id
    · rw [if_neg Bool.false_ne_true]
      exact ⟨fun _ => rfl, rfl, rfl, fun y => (if_neg (not_tIsRef_of_tReferred_false hr y)).symm⟩
    · exact ⟨rfl, rfl, rfl⟩
  · obtain ⟨s', h1, h2, h3, h4⟩ := tCascade2_char id (tReferrers s.t2 id) s (tIsRef s.t2 id · = true)
      fun y => (and_iff_right_of_imp (mem_tReferrers _ _ _).2).symm
    rw [if_pos rfl, h1]
    exact ⟨nofun, h2, h3, h4⟩

theorem tDelete1_char (σ : TSchema) (s : TSt) (id : Bytes) :
    match tDelete1 σ s id with
    | .ok s' => s.t1.contains id = true ∧ (σ.casc2 = false → tReferred s.t2 id = false) ∧ s'.t0 = s.t0 ∧
        (∀ y, s'.t1.lookup y = if y = id then none else s.t1.lookup y) ∧
        (∀ y, s'.t2.lookup y = if tIsRef s.t2 id y = true then none else s.t2.lookup y)
    | .error e => (e = .notFound ∧ s.t1.contains id = false) ∨
        (e = .refExists ∧ s.t1.contains id = true ∧ σ.casc2 = false ∧ tReferred s.t2 id = true) := by
  have hb := tBefore1_char σ s id
  unfold tDelete1
  cases hc : s.t1.contains id
  · exact Or.inl ⟨rfl, rfl⟩
  · rw [if_pos rfl]
    cases hbe : tBefore1 σ s id with
    | error e =>
      rw [hbe] at hb
      exact Or.inr ⟨hb.1, rfl, hb.2⟩
    | ok s1 =>
      rw [hbe] at hb
      obtain ⟨a, b, c, d⟩ := hb
      dsimp only
      rw [if_pos (c ▸ hc)]
      exact ⟨rfl, a, b, fun y => by rw [c]; exact Map.lookup_erase _ _ _, d⟩

/-- the cascade loop of the UPPER link (items of an owner), whose nested `DeleteById` runs the restrict / cascade
    rule of the LOWER link for every item it reaches; `P`: the items the loop removes -/
theorem tCascade1_char (σ : TSchema) (id : Bytes) (cands : List Bytes) (s : TSt) (P : Bytes → Prop) [DecidablePred P]
    (hP : ∀ i, P i ↔ i ∈ cands ∧ tIsRef s.t1 id i = true) :
    match tCascade (tDelete1 σ) (fun st x => tIsRef st.t1 id x) cands s with
    | .ok s' => s'.t0 = s.t0 ∧ (∀ y, s'.t1.lookup y = if P y then none else s.t1.lookup y) ∧
        (∀ n, ((∃ i, P i ∧ tIsRef s.t2 i n = true) → s'.t2.lookup n = none) ∧
              ((¬ ∃ i, P i ∧ tIsRef s.t2 i n = true) → s'.t2.lookup n = s.t2.lookup n)) ∧
        (σ.casc2 = false → ∀ i, P i → tReferred s.t2 i = false)
    | .error e => e = .refExists ∧ σ.casc2 = false ∧ ∃ i, P i ∧ tReferred s.t2 i = true := by
  induction cands generalizing s P with
  | nil =>
    have hno : ∀ i, ¬ P i := fun i h => nomatch ((hP i).1 h).1
    exact ⟨rfl, fun y => (if_neg (hno y)).symm, fun n => ⟨fun ⟨i, hi, _⟩ => absurd hi (hno i), fun _ => rfl⟩,
      fun _ i hi => absurd hi (hno i)⟩
  | cons x rest ih =>
    rw [tCascade_cons]
    by_cases hx : tIsRef s.t1 id x = true
    · rw [if_pos hx]
      have hPx : P x := (hP x).2 ⟨List.mem_cons_self, hx⟩
      have hd := tDelete1_char σ s x
      cases hdel : tDelete1 σ s x with
      | error e =>
        rw [hdel] at hd
        rcases hd with ⟨_, hnc⟩ | ⟨he, _, hm, hr⟩
        · rw [tIsRef_contains _ _ _ hx] at hnc; cases hnc
        · exact ⟨he, hm, x, hPx, hr⟩
      | ok s1 =>
        rw [hdel] at hd
        obtain ⟨_, hrestr, h0, h1, h2⟩ := hd
        -- what the rows of `s1` refer to, in terms of `s`: item `x` and the notes referring to it are gone
        have e2 := fun i => tIsRef_drop h2 i
        have ih' := ih s1 (fun i => i ≠ x ∧ P i) fun i => by
          rw [hP, tIsRef_drop h1, List.mem_cons]
          exact ⟨fun ⟨a, b, c⟩ => ⟨b.resolve_left a, a, c⟩, fun ⟨a, b, c⟩ => ⟨b, Or.inr a, c⟩⟩
        dsimp only
        cases hres : tCascade (tDelete1 σ) (fun st x => tIsRef st.t1 id x) rest s1 with
        | error e =>
          rw [hres] at ih'
          obtain ⟨he, hm, i, hi, hrr⟩ := ih'
          obtain ⟨n, hn⟩ := (tReferred_iff _ _).1 hrr
          exact ⟨he, hm, i, hi.2, (tReferred_iff _ _).2 ⟨n, ((e2 i n).1 hn).2⟩⟩
        | ok s' =>
          rw [hres] at ih'
          obtain ⟨g0, g1, g2, g3⟩ := ih'
          refine ⟨g0.trans h0, fun y => ?_, fun n => ?_, fun hm i hi => ?_⟩
          · rw [g1, h1]
            by_cases hyx : y = x
            · rw [if_pos hyx, ite_self, if_pos (hyx ▸ hPx)]
            · rw [if_neg hyx]
              exact if_congr (and_iff_right hyx) _ _
          · have key : (∃ i, P i ∧ tIsRef s.t2 i n = true) ↔
                tIsRef s.t2 x n = true ∨ ∃ i, (i ≠ x ∧ P i) ∧ tIsRef s1.t2 i n = true := by
              by_cases hxn : tIsRef s.t2 x n = true
              · exact iff_of_true ⟨x, hPx, hxn⟩ (Or.inl hxn)
              · rw [or_iff_right hxn]
                refine exists_congr fun i => ?_
                rw [e2]
                exact ⟨fun ⟨a, b⟩ => ⟨⟨fun e => hxn (e ▸ b), a⟩, hxn, b⟩, fun ⟨a, b⟩ => ⟨a.2, b.2⟩⟩
            rw [key]
            by_cases hr1 : ∃ i, (i ≠ x ∧ P i) ∧ tIsRef s1.t2 i n = true
            · exact ⟨fun _ => (g2 n).1 hr1, fun h => absurd (Or.inr hr1) h⟩
            · rw [(g2 n).2 hr1, h2]
              exact ⟨fun h => if_pos (h.resolve_right hr1), fun h => if_neg fun hxn => h (Or.inl hxn)⟩
          · by_cases hix : i = x
            · exact hix ▸ hrestr hm
            · refine Bool.eq_false_iff.2 fun hh => ?_
              obtain ⟨n, hn⟩ := (tReferred_iff _ _).1 hh
              have hxn := not_tIsRef_of_tReferred_false (hrestr hm) n
              exact Bool.false_ne_true ((g3 hm i ⟨hix, hi⟩).symm.trans ((tReferred_iff _ _).2 ⟨n, (e2 i n).2 ⟨hxn, hn⟩⟩))
    · rw [if_neg hx]
      exact ih s P fun i => (hP i).trans (and_congr_left fun hi => by
        rw [List.mem_cons, or_iff_right (fun e : i = x => hx (e ▸ hi))])

theorem tDelete0_char (σ : TSchema) (s : TSt) (id : Bytes) :
    match tDelete0 σ s id with
    | .ok s' => s.t0.contains id = true ∧ (σ.casc1 = false → tReferred s.t1 id = false) ∧
        (σ.casc2 = false → ∀ i, tIsRef s.t1 id i = true → tReferred s.t2 i = false) ∧
        (∀ y, s'.t0.lookup y = if y = id then none else s.t0.lookup y) ∧
        (∀ y, s'.t1.lookup y = if tIsRef s.t1 id y = true then none else s.t1.lookup y) ∧
        (∀ n, ((∃ i, tIsRef s.t1 id i = true ∧ tIsRef s.t2 i n = true) → s'.t2.lookup n = none) ∧
              ((¬ ∃ i, tIsRef s.t1 id i = true ∧ tIsRef s.t2 i n = true) → s'.t2.lookup n = s.t2.lookup n))
    | .error e => (e = .notFound ∧ s.t0.contains id = false) ∨
        (e = .refExists ∧ s.t0.contains id = true ∧
          ((σ.casc1 = false ∧ tReferred s.t1 id = true) ∨
           (σ.casc1 = true ∧ σ.casc2 = false ∧ ∃ i, tIsRef s.t1 id i = true ∧ tReferred s.t2 i = true))) := by
  have hch := tCascade1_char σ id (tReferrers s.t1 id) s (tIsRef s.t1 id · = true)
    fun i => (and_iff_right_of_imp (mem_tReferrers _ _ _).2).symm
  simp only [tDelete0, tBefore0]
  cases hc : s.t0.contains id
  · exact Or.inl ⟨rfl, rfl⟩
  rw [if_pos rfl]
  cases σ.casc1
  · rw [if_neg Bool.false_ne_true, tRestrict_eq]
    cases hr : tReferred s.t1 id
    · have hno := not_tIsRef_of_tReferred_false hr
      rw [if_neg Bool.false_ne_true]
      dsimp only
      rw [if_pos hc]
      exact ⟨rfl, fun _ => rfl, fun _ i hi => absurd hi (hno i), fun y => Map.lookup_erase _ _ _,
        fun y => (if_neg (hno y)).symm, fun n => ⟨fun ⟨i, hi, _⟩ => absurd hi (hno i), fun _ => rfl⟩⟩
    · exact Or.inr ⟨rfl, rfl, Or.inl ⟨rfl, rfl⟩⟩
  · rw [if_pos rfl]
    cases hres : tCascade (tDelete1 σ) (fun st x => tIsRef st.t1 id x) (tReferrers s.t1 id) s with
    | error err =>
      rw [hres] at hch
      exact Or.inr ⟨hch.1, rfl, Or.inr ⟨rfl, hch.2⟩⟩
    | ok s1 =>
      rw [hres] at hch
      obtain ⟨g0, g1, g2, g3⟩ := hch
      dsimp only
      rw [if_pos (g0 ▸ hc)]
      exact ⟨rfl, nofun, g3, fun y => by rw [← g0]; exact Map.lookup_erase _ _ _, g1, g2⟩

/-- every stored reference names an existing target — or is null / empty, which only a nullable link allows -/
def RowOk (nullable : Bool) (tgt : Map α) (v : FV) : Prop :=
  (evalVal v ≠ [] → tgt.contains (evalVal v) = true) ∧ (evalVal v = [] → nullable = true)

def TInv (σ : TSchema) (s : TSt) : Prop :=
  (∀ x v, s.t1.lookup x = some v → RowOk σ.null1 s.t0 v) ∧ (∀ x v, s.t2.lookup x = some v → RowOk σ.null2 s.t1 v)

theorem tFkCheck_ok {α : Type} (nullable : Bool) (tgt : Map α) (ic : Bool) (old : FV) (r : FV)
    (hold : ic = false → RowOk nullable tgt old)
    (h : tFkCheck nullable tgt.contains ic (evalVal old) (evalVal r) = none) : RowOk nullable tgt r := by
  unfold tFkCheck at h
  by_cases hsame : ¬ ic = true ∧ evalVal old = evalVal r
  · have hic : ic = false := by cases ic <;> simp_all
    have := hold hic
    unfold RowOk at this ⊢
    rw [← hsame.2]; exact this
  · rw [if_neg hsame] at h
    by_cases hne : evalVal r ≠ []
    · rw [if_pos hne] at h
      by_cases ht : tgt.contains (evalVal r) = true
      · exact ⟨fun _ => ht, fun e => absurd e hne⟩
      · rw [if_neg ht] at h; cases h
    · rw [if_neg hne] at h
      have he : evalVal r = [] := by simpa using hne
      by_cases hn : nullable = true
      · exact ⟨fun e => absurd he e, fun _ => hn⟩
      · rw [if_neg hn] at h; cases h

theorem tIsRef_of_evalVal {m : Map FV} {id x : Bytes} {v : FV} (hx : m.lookup x = some v) (hne : evalVal v ≠ [])
    (he : evalVal v = id) : tIsRef m id x = true := by
  rw [tIsRef_iff, hx]
  cases v with
  | none => exact absurd rfl hne
  | some w => exact congrArg (fun b => some (some b)) he

theorem RowOk.mono {α : Type} {nullable : Bool} {tgt tgt' : Map α} {v : FV} (h : RowOk nullable tgt v)
    (hm : ∀ t, tgt.contains t = true → tgt'.contains t = true) : RowOk nullable tgt' v :=
  ⟨fun hne => hm _ (h.1 hne), h.2⟩

theorem tWrite_ok {α : Type} {nullable : Bool} {tgt : Map α} {ic : Bool} {old r : FV} {s' s1 : TSt}
    (hold : ic = false → RowOk nullable tgt old)
    (h : (match tFkCheck nullable tgt.contains ic (evalVal old) (evalVal r) with
          | none => Except.ok s1 | some e => Except.error e) = Except.ok s') : s' = s1 ∧ RowOk nullable tgt r := by
  split at h
  · next hchk => cases h; exact ⟨rfl, tFkCheck_ok nullable tgt ic old r hold hchk⟩
  · cases h

/-- rows after a delete: the target table lost the keys in `p`, the referring table at least every row whose
    reference is in `p` -/
theorem rows_delete {α : Type} {nullable : Bool} {p : Bytes → Prop} [DecidablePred p] {T T' : Map FV} {U U' : Map α}
    (hU : ∀ y, U'.lookup y = if p y then none else U.lookup y)
    (hT : ∀ x v, T'.lookup x = some v → T.lookup x = some v ∧ (evalVal v ≠ [] → ¬ p (evalVal v)))
    (hi : ∀ x v, T.lookup x = some v → RowOk nullable U v) : ∀ x v, T'.lookup x = some v → RowOk nullable U' v := by
  intro x v hx
  obtain ⟨hx0, hp⟩ := hT x v hx
  refine ⟨fun hne => ?_, (hi x v hx0).2⟩
  have := (hi x v hx0).1 hne
  unfold Map.contains at this ⊢
  rw [hU, if_neg (hp hne)]; exact this

theorem tInv_apply (σ : TSchema) (s s' : TSt) (op : TOp) (hi : TInv σ s) (h : tApply σ s op = .ok s') : TInv σ s' := by
  obtain ⟨i1, i2⟩ := hi
  cases op with
  | create0 id =>
    simp only [tApply, tCreate0] at h
    split at h
    · cases h
    · split at h
      · cases h
      · cases h
        exact ⟨fun x v hx => (i1 x v hx).mono (Map.contains_insert_mono s.t0 id ()), i2⟩
  | create1 id r =>
    simp only [tApply, tCreate1] at h
    split at h
    · cases h
    · split at h
      · cases h
      · obtain ⟨rfl, hr⟩ := tWrite_ok (old := none) (fun h => by cases h) h
        exact ⟨Map.forall_insert i1 hr, fun x v hx => (i2 x v hx).mono (Map.contains_insert_mono s.t1 id r)⟩
  | create2 id r =>
    simp only [tApply, tCreate2] at h
    split at h
    · cases h
    · split at h
      · cases h
      · obtain ⟨rfl, hr⟩ := tWrite_ok (old := none) (fun h => by cases h) h
        exact ⟨i1, Map.forall_insert i2 hr⟩
  | update1 id r =>
    simp only [tApply, tUpdate1] at h
    split at h
    · cases h
    · split at h
      · cases h
      · next cur hcur =>
        obtain ⟨rfl, hr⟩ := tWrite_ok (fun _ => i1 id cur hcur) h
        exact ⟨Map.forall_insert i1 hr, fun x v hx => (i2 x v hx).mono (Map.contains_insert_mono s.t1 id r)⟩
  | update2 id r =>
    simp only [tApply, tUpdate2] at h
    split at h
    · cases h
    · split at h
      · cases h
      · next cur hcur =>
        obtain ⟨rfl, hr⟩ := tWrite_ok (fun _ => i2 id cur hcur) h
        exact ⟨i1, Map.forall_insert i2 hr⟩
  | delete2 id =>
    simp only [tApply, tDelete2] at h
    split at h
    · cases h
      exact ⟨i1, fun x v hx => i2 x v (Map.lookup_erase_some hx).2⟩
    · cases h
  | delete1 id =>
    have hch := tDelete1_char σ s id
    rw [show tDelete1 σ s id = .ok s' from h] at hch
    obtain ⟨_, _, h0, h1, h2⟩ := hch
    refine ⟨fun x v hx => ?_, rows_delete h1 (fun x v hx => ?_) i2⟩
    · rw [h1] at hx
      split at hx
      · cases hx
      · exact h0 ▸ i1 x v hx
    · rw [h2] at hx
      split at hx
      · cases hx
      · next hnr => exact ⟨hx, fun hne he => hnr (tIsRef_of_evalVal hx hne he)⟩
  | delete0 id =>
    have hch := tDelete0_char σ s id
    rw [show tDelete0 σ s id = .ok s' from h] at hch
    obtain ⟨_, _, _, h0, h1, h2⟩ := hch
    refine ⟨rows_delete h0 (fun x v hx => ?_) i1, rows_delete h1 (fun x v hx => ?_) i2⟩
    · rw [h1] at hx
      split at hx
      · cases hx
      · next hnr => exact ⟨hx, fun hne he => hnr (tIsRef_of_evalVal hx hne he)⟩
    · by_cases hreach : ∃ i, tIsRef s.t1 id i = true ∧ tIsRef s.t2 i x = true
      · rw [(h2 x).1 hreach] at hx; cases hx
      · rw [(h2 x).2 hreach] at hx
        exact ⟨hx, fun hne hr => hreach ⟨evalVal v, hr, tIsRef_of_evalVal hx hne rfl⟩⟩

theorem tInv_runTxFrom (σ : TSchema) (s0 : TSt) (h0 : TInv σ s0) (ops : List TOp) :
    ∀ (i : Nat) (s : TSt), TInv σ s → TInv σ (tRunTxFrom σ s0 i s ops).1 := by
  induction ops with
  | nil => intro i s hs; exact hs
  | cons op rest ih =>
    intro i s hs
    unfold tRunTxFrom
    cases h : tApply σ s op with
    | ok s' => exact ih (i + 1) s' (tInv_apply σ s s' op hs h)
    | error e => exact h0

theorem tInv_history (σ : TSchema) (txs : List (List TOp)) : TInv σ (tRunHistory σ txs) :=
  List.foldlRecOn (motive := TInv σ) txs _ ⟨fun _ _ => nofun, fun _ _ => nofun⟩
    fun s hs tx _ => tInv_runTxFrom σ s hs tx 0 s hs

def TSt.Eqv (a b : TSt) : Prop :=
  (∀ x, a.t0.lookup x = b.t0.lookup x) ∧ (∀ x, a.t1.lookup x = b.t1.lookup x) ∧ (∀ x, a.t2.lookup x = b.t2.lookup x)

def TRes.Agree : TRes → TRes → Prop
  | .ok a, .ok b => a.Eqv b
  | .error e, .error e' => e = e'
  | _, _ => False

theorem specNoteOf_iff (s : TSt) (id n : Bytes) :
    specNoteOf s id n = true ↔ ∃ i, tIsRef s.t1 id i = true ∧ tIsRef s.t2 i n = true := by
  unfold specNoteOf
  rw [List.any_eq_true]
  constructor
  · rintro ⟨i, _, h⟩
    simp only [Bool.and_eq_true] at h
    exact ⟨i, h.1, h.2⟩
  · rintro ⟨i, a, b⟩
    exact ⟨i, mem_keys_of_tIsRef a, by rw [a, b]; rfl⟩

theorem specBlocked_iff (s : TSt) (id : Bytes) :
    s.t2.keys.any (specNoteOf s id) = true ↔ ∃ i, tIsRef s.t1 id i = true ∧ tReferred s.t2 i = true := by
  rw [List.any_eq_true]
  constructor
  · rintro ⟨n, _, h⟩
    obtain ⟨i, a, b⟩ := (specNoteOf_iff s id n).1 h
    exact ⟨i, a, (tReferred_iff _ _).2 ⟨n, b⟩⟩
  · rintro ⟨i, a, h⟩
    obtain ⟨n, b⟩ := (tReferred_iff _ _).1 h
    exact ⟨n, mem_keys_of_tIsRef b, (specNoteOf_iff s id n).2 ⟨i, a, b⟩⟩

theorem tDelete0_agrees_spec (σ : TSchema) (s : TSt) (id : Bytes) :
    TRes.Agree (tDelete0 σ s id) (specDelete0 σ s id) := by
  have hch := tDelete0_char σ s id
  unfold specDelete0
  cases hres : tDelete0 σ s id with
  | error e =>
    rw [hres] at hch
    rcases hch with ⟨rfl, hnc⟩ | ⟨rfl, hc, ⟨hm, hr⟩ | ⟨hm, hm2, hb⟩⟩
    · rw [if_pos (by rw [hnc]; exact Bool.false_ne_true)]; exact rfl
    · rw [if_neg (not_not_intro hc), if_neg (not_not_intro hr), if_pos (by rw [hm]; exact Bool.false_ne_true)]; exact rfl
    · have hr : tReferred s.t1 id = true := hb.elim fun i h => (tReferred_iff _ _).2 ⟨i, h.1⟩
      rw [if_neg (not_not_intro hc), if_neg (not_not_intro hr), if_neg (not_not_intro hm),
        if_neg (by rw [hm2]; exact Bool.false_ne_true), if_pos ((specBlocked_iff s id).2 hb)]
      exact rfl
  | ok s' =>
    rw [hres] at hch
    obtain ⟨hc, hr1, hr2, h0, h1, h2⟩ := hch
    have e0 : ∀ x, s'.t0.lookup x = (dropKeys s.t0 (· == id)).lookup x := fun x => by
      rw [h0, lookup_dropKeys]; exact if_congr beq_iff_eq.symm _ _
    have e1 : ∀ x, s'.t1.lookup x = (dropKeys s.t1 (tIsRef s.t1 id)).lookup x := fun x => by
      rw [h1, lookup_dropKeys]
    rw [if_neg (not_not_intro hc)]
    cases hr : tReferred s.t1 id
    · rw [if_pos Bool.false_ne_true]
      have hno := not_tIsRef_of_tReferred_false hr
      exact ⟨e0, fun x => (h1 x).trans (if_neg (hno x)), fun n => (h2 n).2 fun ⟨i, a, _⟩ => hno i a⟩
    · have hm : σ.casc1 = true := by
        cases h : σ.casc1 with
        | true => rfl
        | false => exact (hr1 h).symm.trans hr
      rw [if_neg (not_not_intro rfl), if_neg (not_not_intro hm)]
      cases hm2 : σ.casc2
      · have hnb : ¬ s.t2.keys.any (specNoteOf s id) = true := fun h => by
          obtain ⟨i, a, b⟩ := (specBlocked_iff s id).1 h
          exact Bool.false_ne_true ((hr2 hm2 i a).symm.trans b)
        rw [if_neg Bool.false_ne_true, if_neg hnb]
        exact ⟨e0, e1, fun n => (h2 n).2 fun ⟨i, a, b⟩ => hnb ((specBlocked_iff s id).2 ⟨i, a, (tReferred_iff _ _).2 ⟨n, b⟩⟩)⟩
      · rw [if_pos rfl]
        refine ⟨e0, e1, fun n => ?_⟩
        rw [lookup_dropKeys]
        by_cases hn : specNoteOf s id n = true
        · rw [if_pos hn]; exact (h2 n).1 ((specNoteOf_iff s id n).1 hn)
        · rw [if_neg hn]; exact (h2 n).2 fun h => hn ((specNoteOf_iff s id n).2 h)

end StorageModel.C04
