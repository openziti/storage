import StorageModel.C04.Delete
/-
  C04 — what a successful cascading delete removes: exactly the target and everything that refers to
  it transitively (`Reach`); why the recursion always comes back (the in-progress set); how a delete can fail
  (`deleteA_error`), and that on an existing entity it does not.
-/
namespace StorageModel.C04
open StorageModel

/-- `Reach as id k`: entity `k` refers to `id` through a non-empty chain of `boss` references -/
inductive Reach (as : Map EntA) (id : Bytes) : Bytes → Prop
  | direct {k : Bytes} {e : EntA} : as.lookup k = some e → e.boss = some id → Reach as id k
  | step {k y : Bytes} {e : EntA} : Reach as id y → as.lookup k = some e → e.boss = some y → Reach as id k

theorem Reach.mono {as as' : Map EntA} {id k : Bytes} (hsub : ∀ k e, as'.lookup k = some e → as.lookup k = some e)
    (h : Reach as' id k) : Reach as id k := by
  induction h with
  | direct he hb => exact .direct (hsub _ _ he) hb
  | step _ he hb ih => exact .step ih (hsub _ _ he) hb

theorem Reach.under {as : Map EntA} {id x k : Bytes} {ex : EntA} (hx : as.lookup x = some ex) (hb : ex.boss = some id)
    (h : Reach as x k) : Reach as id k := by
  induction h with
  | direct he hb' => exact .step (.direct hx hb) he hb'
  | step _ he hb' ih => exact .step ih he hb'

theorem Reach.exists_entry {as : Map EntA} {id k : Bytes} (h : Reach as id k) : ∃ e, as.lookup k = some e := by
  cases h with
  | direct he _ => exact ⟨_, he⟩
  | step _ he _ => exact ⟨_, he⟩

/-- what a cascade on B that starts through field `f` removes: `k` refers to `id` through `f`, or reaches such a referrer
    through `boss` -/
def RemovedVia (f : EntA → FV) (as : Map EntA) (id k : Bytes) : Prop :=
  ∃ x ex, as.lookup x = some ex ∧ f ex = some id ∧ (k = x ∨ Reach as x k)

/-- soundness of the cascade, in every state: whatever a delete removes is its target or refers to it transitively.
    Every call of the recursion is about the target or an entity that reaches it in the table the delete started from. -/
theorem deleteA_removed {σ : Schema} {n : Nat} {prog : List Bytes} {s s' : St} {id : Bytes}
    (h : deleteA σ n prog s id = .ok s') :
    ∀ k e, s.as.lookup k = some e → s'.as.lookup k = none → k = id ∨ Reach s.as id k := by
  refine (deleteA_pres (σ := σ) (E := fun _ x => x = id ∨ Reach s.as id x)
    (R := fun st => Sub st s ∧ ∀ k e, s.as.lookup k = some e → st.as.lookup k = none → k = id ∨ Reach s.as id k)
    (fun st st' ha _ hR => ⟨(Sub.of_as ha).trans hR.1, fun k e he hn => hR.2 k e he (ha ▸ hn)⟩)
    (fun _ st x _ hx hR => ⟨(Sub.erase st x _).trans hR.1, fun k e he hn => ?_⟩) (fun {_ st y x} hy hR _ hr => ?_)
    h (Or.inl rfl) ⟨Sub.refl s, fun k e he hn => nomatch he.symm.trans hn⟩).2
  · by_cases hk : k = x
    · exact hk ▸ hx
    · rw [Map.lookup_erase, if_neg hk] at hn; exact hR.2 k e he hn
  · obtain ⟨ex, hex, hb⟩ := (isReferrer_iff st _ y x).1 hr
    exact Or.inr (hy.elim (fun e => .direct (hR.1 x ex hex) (e ▸ hb)) fun hy => .step hy (hR.1 x ex hex) hb)

/-- completeness of the cascade, from the invariant of the result -/
theorem reach_removed {σ : Schema} {s s' : St} {id : Bytes} (hI' : Inv σ s') (hsub : Sub s' s)
    (hid : s'.as.lookup id = none) {k : Bytes} (h : Reach s.as id k) : s'.as.lookup k = none := by
  have key : ∀ (y k : Bytes) (e : EntA), s'.as.lookup y = none → s.as.lookup k = some e → e.boss = some y →
      s'.as.lookup k = none := by
    intro y k e hy he hb
    cases hk : s'.as.lookup k with
    | none => rfl
    | some e' =>
      have := hsub k e' hk
      rw [he] at this; cases this
      have hne : evalVal e.boss ≠ [] := hI'.bossNN k e hk
      have hc := hI'.bossT k e hk (fun hp => hp) hne
      have hv : evalVal e.boss = y := by simp [evalVal, hb]
      rw [hv] at hc
      obtain ⟨v, hv'⟩ := (Map.contains_iff _ _).1 hc
      rw [hy] at hv'; cases hv'
  induction h with
  | direct he hb => exact key id _ _ hid he hb
  | step _ he hb ih => exact key _ _ _ ih he hb

/-! ### the recursion always comes back

  Every nested `DeleteById` is about an entity that is not in the in-progress set (the loop steps over
  those), and it puts that entity into the set: the set is duplicate-free, grows by one per level and
  stays inside the keys of the table the top-level call started from — so the depth is at most the
  number of entities, and fuel > |table| − |in progress| is never exhausted. -/

/-- **Termination of the cascading delete** (explicit measure: table size − in-progress set size).
    `keys0` = the ids of the table the outermost call started from. -/
theorem deleteA_terminates (σ : Schema) (keys0 : List Bytes) : ∀ (n : Nat) (prog : List Bytes) (s : St) (id : Bytes),
    prog.Nodup → (∀ x ∈ prog, x ∈ keys0) → id ∉ prog →
    (∀ k e, s.as.lookup k = some e → k ∈ keys0) → s.as.contains id = true →
    keys0.length < n + prog.length → deleteA σ n prog s id ≠ .error .diverge := by
  intro n
  induction n with
  | zero =>
    intro prog s id hnd hsub hid hkeys hc hlen _
    obtain ⟨e, he⟩ := (Map.contains_iff _ _).1 hc
    have hnd' : (id :: prog).Nodup := List.nodup_cons.2 ⟨hid, hnd⟩
    have hsub' : (id :: prog) ⊆ keys0 := by
      intro x hx
      rcases List.mem_cons.1 hx with rfl | hx'
      · exact hkeys _ e he
      · exact hsub x hx'
    have := List.Nodup.length_le_of_subset hnd' hsub'
    simp only [List.length_cons] at this
    omega
  | succ n ih =>
    intro prog s id hnd hsub hid hkeys hc hlen h
    obtain ⟨e, he⟩ := (Map.contains_iff _ _).1 hc
    -- running out of fuel is a failure of the rounds, that is of a nested delete
    rcases deleteA_succ_char h with ⟨⟨⟩, _⟩ | ⟨_, hF | ⟨⟨⟩, _⟩ | ⟨⟨⟩, _⟩⟩
    obtain ⟨st, x, hst, hxs, hcx, hd⟩ := rounds_error_nested hF
    have hmark : mark prog id = id :: prog := by simp [mark, hid]
    rw [hmark] at hxs hd
    refine ih (id :: prog) st x (List.nodup_cons.2 ⟨hid, hnd⟩) ?_ hxs ?_ hcx ?_ hd
    · intro y hy
      rcases List.mem_cons.1 hy with rfl | hy'
      · exact hkeys _ e he
      · exact hsub y hy'
    · exact fun k ek hk => hkeys k ek (hst k ek hk)
    · simp only [List.length_cons]; omega

theorem deleteA_top_terminates (σ : Schema) (s0 st : St) (id : Bytes) (hsub : Sub st s0) :
    deleteA σ (fuelOf s0) [] st id ≠ .error .diverge := by
  by_cases hc : st.as.contains id = true
  · refine deleteA_terminates σ s0.as.keys (fuelOf s0) [] st id List.nodup_nil (fun _ h => by cases h) (by simp)
      (fun k e he => Map.mem_keys_of_lookup (hsub k e he)) hc ?_
    simp [fuelOf, Map.keys]
  · unfold fuelOf deleteA
    simp [hc]

/-- **the failures of `DeleteById` on A, in every state**: not-found for a missing id, the veto of the caller's entity
    constraint, running out of fuel.  Never a reference error and never `other`, whatever the number of rounds (one per
    child store holding data for the entity, then A's own): since 001d2d2 the index steps of a round cannot fail
    (`passA_eq`; a later round may find the boss already deleted by an earlier round's cascade — a reference cycle
    through the entity —, before the fix that was a not-found failure), the loop only deletes rows it has just found,
    and a round never removes the entity itself (`pass_keeps_id`). -/
theorem deleteA_error {σ : Schema} {n : Nat} {prog : List Bytes} {s : St} {id : Bytes} {e : Err}
    (h : deleteA σ n prog s id = .error e) :
    (e = .notFound ∧ s.as.contains id = false) ∨ e = .diverge ∨ (e = .veto ∧ σ.protect ≠ none) := by
  induction n generalizing prog s id with
  | zero => cases h; exact Or.inr (Or.inl rfl)
  | succ n ih =>
    rcases deleteA_succ_char h with h1 | ⟨hc, hF | ⟨_, sF, hF, hcF⟩ | ⟨h1, hv⟩⟩
    · exact Or.inl h1
    · -- a round failed: in the nested delete of a row its loop had just found
      obtain ⟨st, x, _, _, hcx, hd⟩ := rounds_error_nested hF
      rcases ih hd with ⟨_, hn⟩ | h2
      · rw [hcx] at hn; cases hn
      · exact Or.inr h2
    · -- the rounds do not remove the entity itself
      obtain ⟨e0, he0⟩ := (Map.contains_iff _ _).1 hc
      rw [(Map.contains_iff _ _).2 ⟨e0, rounds_keeps_id _ s sF he0 hF⟩] at hcF; cases hcF
    · exact Or.inr (Or.inr ⟨h1, by rw [hv]; simp⟩)

/-- **`DeleteById` on an existing A entity always succeeds** — in every state, cycles and self references included:
    none of its failures applies, and the fuel `step` supplies is never exhausted -/
theorem deleteA_succeeds {σ : Schema} {s0 st : St} {id : Bytes} (hsub : Sub st s0)
    (hc : st.as.contains id = true) (hp : σ.protect = none) : ∃ st', deleteA σ (fuelOf s0) [] st id = .ok st' := by
  cases h : deleteA σ (fuelOf s0) [] st id with
  | ok st' => exact ⟨st', rfl⟩
  | error e =>
    rcases deleteA_error h with ⟨_, hn⟩ | rfl | ⟨_, hv⟩
    · rw [hc] at hn; cases hn
    · exact absurd h (deleteA_top_terminates σ s0 st id hsub)
    · exact absurd hp hv

/-- **restrict or cascade, in every state**: deleting an existing B entity succeeds or is refused with reference-exists -/
theorem deleteB_progress {σ : Schema} {s : St} {b : Bytes} (hc : s.bs.contains b = true) (hp : σ.protect = none) :
    (∃ s', deleteB σ s b = .ok s') ∨ deleteB σ s b = .error .refExists := by
  -- the dep step fails only by refusing: its loop deletes existing rows of sub-tables of `s` with the fuel of `s`
  have hC : ∀ e, beforeDeleteB σ (deleteA σ (fuelOf s) []) b s .depCascade = .error e → e = .refExists := fun e h => by
    rcases depStep_char h with hl | ⟨_, he, _⟩
    · obtain ⟨st, x, hs, _, hr, hd⟩ := cascadeOver_error (R := fun st => Sub st s)
        (fun _ _ _ a b => (deleteA_sub b).trans a) _ s (Sub.refl s) hl
      obtain ⟨ex, hex, _⟩ := (isReferrer_iff st _ b x).1 hr
      obtain ⟨st', hok⟩ := deleteA_succeeds hs ((Map.contains_iff _ _).2 ⟨ex, hex⟩) hp
      rw [hok] at hd; cases hd
    · exact he
  cases h : deleteB σ s b with
  | ok s' => exact Or.inl ⟨s', rfl⟩
  | error e =>
    refine Or.inr ?_
    rcases deleteB_char h with ⟨_, hn⟩ | ⟨_, h1 | ⟨rfl, _⟩ | ⟨sF, hd, ⟨rfl, _⟩ | ⟨_, hn⟩⟩⟩
    · rw [hc] at hn; cases hn
    · rw [hC e h1]
    · rfl
    · rfl
    · -- the dep step leaves B's table alone
      rw [(depStep_sub hd).2, hc] at hn; cases hn

theorem deleteB_removed {σ : Schema} {s s' : St} {id : Bytes} (h : deleteB σ s id = .ok s') :
    Sub s' s ∧ ∀ k e, s.as.lookup k = some e → s'.as.lookup k = none → RemovedVia (·.dep) s.as id k := by
  obtain ⟨_, sF, hd, _, _, _, rfl⟩ := deleteB_char h
  refine depStep_pres (st' := sF) (R := fun st => Sub st s ∧ ∀ k e, s.as.lookup k = some e → st.as.lookup k = none →
    RemovedVia (·.dep) s.as id k) (fun st x st' hr hR hd => ⟨(deleteA_sub hd).trans hR.1, fun k e he hn => ?_⟩)
    hd ⟨Sub.refl s, fun k e he hn => nomatch he.symm.trans hn⟩
  cases hk : st.as.lookup k with
  | none => exact hR.2 k e he hk
  | some e1 =>
    obtain ⟨ex, hex, hf⟩ := (isReferrer_iff st _ id x).1 hr
    exact ⟨x, ex, hR.1 x ex hex, hf, (deleteA_removed hd k e1 hk hn).imp (fun h => h) (·.mono hR.1)⟩

end StorageModel.C04
