import StorageModel.C04.Cascade
import StorageModel.C04.Child
/-
  C04 — restrict and cascade are exact, read off the invariant: before the delete it makes the set of a referenced
  target non-empty, so the check refuses (`deleteB_refuses`); after a successful delete the invariant of the RESULT
  leaves no row naming a missing target (`deleteB_no_orphans`; `reach_removed` in `deleteA_exact`, `deleteB_exact`).
  Properties/C04.lean restates these as property theorems; they are here because SpecProofs.lean uses them.
-/
namespace StorageModel.C04
open StorageModel

theorem foldB_restrict {σ : Schema} (hc : σ.depCascade = false) (delA : St → Bytes → Res) (id : Bytes) (s : St) :
    (orderB σ).foldlM (beforeDeleteB σ delA id) s =
      if (s.things.lookup id).getD [] ≠ [] ∨ referrers s (·.dep) id ≠ [] then .error .refExists else .ok s := by
  have hdep : ∀ st, beforeDeleteB σ delA id st .depCascade =
      if referrers st (·.dep) id ≠ [] then .error .refExists else .ok st := by
    intro st; simp only [beforeDeleteB, hc, Bool.false_eq_true, if_false]
  cases hdf : σ.depFirst
  · rw [foldB_depLast hdf, restrictB_eq]
    by_cases h1 : (s.things.lookup id).getD [] ≠ []
    · rw [if_pos h1, if_pos (Or.inl h1)]; rfl
    · rw [if_neg h1]; show beforeDeleteB σ delA id s .depCascade = _
      rw [hdep]
      by_cases h2 : referrers s (·.dep) id ≠ []
      · rw [if_pos h2, if_pos (Or.inr h2)]
      · rw [if_neg h2, if_neg (fun h => h.elim h1 h2)]
  · rw [foldB_depFirst hdf, hdep]
    by_cases h2 : referrers s (·.dep) id ≠ []
    · rw [if_pos h2, if_pos (Or.inr h2)]; rfl
    · rw [if_neg h2]; show beforeDeleteB σ delA id s .thingsRestrict = _
      rw [restrictB_eq]
      by_cases h1 : (s.things.lookup id).getD [] ≠ []
      · rw [if_pos h1, if_pos (Or.inl h1)]
      · rw [if_neg h1, if_neg (fun h => h.elim h1 h2)]

theorem deleteB_refuses (σ : Schema) (s : St) (b : Bytes) (hI : Inv σ s) (hb : s.bs.contains b = true)
    (href : (∃ k e, s.as.lookup k = some e ∧ evalVal e.owner = b ∧ b ≠ []) ∨
            (σ.depCascade = false ∧ ∃ k e, s.as.lookup k = some e ∧ e.dep = some b))
    (hord : ¬ (σ.depFirst = true ∧ σ.depCascade = true)) :
    step σ s (.deleteB b) = (s, some .refExists) := by
  have hthings : (∃ k e, s.as.lookup k = some e ∧ evalVal e.owner = b ∧ b ≠ []) →
      (s.things.lookup b).getD [] ≠ [] := by
    rintro ⟨k, e, he, hv, hne⟩
    exact List.ne_nil_of_mem ((hI.things b k).2 ⟨e, he, hv, hne, fun h => h⟩)
  have hfold : (orderB σ).foldlM (beforeDeleteB σ (deleteA σ (fuelOf s) []) b) s = .error .refExists := by
    cases hcas : σ.depCascade
    · rw [foldB_restrict hcas, if_pos]
      rcases href with h | ⟨_, k, e, he, hv⟩
      · exact Or.inl (hthings h)
      · exact Or.inr (List.ne_nil_of_mem ((mem_referrers s _ b k).2 ((isReferrer_iff s _ b k).2 ⟨e, he, hv⟩)))
    · -- the cascade variant: the restrict check is registered first
      have hdf : σ.depFirst = false := Bool.eq_false_iff.2 fun h => hord ⟨h, hcas⟩
      rcases href with h | ⟨hc, _⟩
      · rw [foldB_depLast hdf, restrictB_eq, if_pos (hthings h)]; rfl
      · rw [hcas] at hc; cases hc
  have hd : deleteB σ s b = .error .refExists := by unfold deleteB; rw [if_pos hb, hfold]
  simp only [step, apply, hd]

theorem deleteB_no_orphans (σ : Schema) (s s' : St) (b : Bytes) (hI : Inv σ s)
    (h : apply σ s (.deleteB b) = .ok s') (k : Bytes) (e : EntA) (he : s'.as.lookup k = some e) :
    (evalVal e.owner ≠ [] → evalVal e.owner ≠ b) ∧ (evalVal e.dep ≠ [] → evalVal e.dep ≠ b) := by
  have hI' := deleteB_inv hI h
  have hgone : s'.bs.contains b = false := deleteB_bs h ▸ Map.contains_erase_self s.bs b
  constructor
  · intro hne hv
    have := hI'.ownerT k e he hne
    rw [hv, hgone] at this; cases this
  · intro hne hv
    have := hI'.depT k e he hne
    rw [hv, hgone] at this; cases this

theorem deleteB_no_orphans_child {σ : Schema} {s s' : St} {b : Bytes} (hF : FullInv σ s)
    (h : apply σ s (.deleteB b) = .ok s') (k : Bytes) (e : EntA) (he : s'.as.lookup k = some e) (c : Child) :
    mentorOf σ c e ≠ some b ∧ guardOf σ c e ≠ some b := by
  have hF' := apply_full _ hF h
  have hbs := deleteB_bs (σ := σ) h
  have hbne : b ≠ [] := hF.1.ne_nilB (deleteB_char h).1
  have hgone : s'.bs.contains b = false := hbs ▸ Map.contains_erase_self s.bs b
  constructor
  · intro hm
    have := hF'.2.menT c k e he (by simp [evalVal, hm, hbne])
    simp only [evalVal, hm, Option.getD_some] at this
    rw [hgone] at this; cases this
  · intro hg
    have := hF'.2.guardT c k e he (by simp [evalVal, hg, hbne])
    simp only [evalVal, hg, Option.getD_some] at this
    rw [hgone] at this; cases this

theorem lookup_none_iff {as as' : Map EntA} {R : Bytes → Prop}
    (hsub : ∀ k e, as'.lookup k = some e → as.lookup k = some e)
    (hrem : ∀ k e, as.lookup k = some e → as'.lookup k = none → R k) (hgone : ∀ k, R k → as'.lookup k = none) (k : Bytes) :
    as'.lookup k = none ↔ (as.lookup k = none ∨ R k) := by
  constructor
  · intro hn
    cases hk : as.lookup k with
    | none => exact Or.inl rfl
    | some e => exact Or.inr (hrem k e hk hn)
  · rintro (hn | hr)
    · cases hk : as'.lookup k with
      | none => rfl
      | some e => have := hsub k e hk; rw [hn] at this; cases this
    · exact hgone k hr

theorem deleteA_exact (σ : Schema) (s s' : St) (id : Bytes) (hI : Inv σ s)
    (h : apply σ s (.deleteA id) = .ok s') :
    s'.bs = s.bs ∧
    (∀ k e, s'.as.lookup k = some e → s.as.lookup k = some e) ∧
    (∀ k, s'.as.lookup k = none ↔ (s.as.lookup k = none ∨ k = id ∨ Reach s.as id k)) := by
  have hI' := deleteA_inv hI h nofun
  have hid := deleteA_gone (σ := σ) h
  have hsub := deleteA_sub (σ := σ) h
  exact ⟨deleteA_bs h, hsub, lookup_none_iff hsub (deleteA_removed h)
    fun k hr => hr.elim (fun hk => hk ▸ hid) (reach_removed hI' hsub hid)⟩

theorem deleteB_exact (σ : Schema) (s s' : St) (b : Bytes) (hI : Inv σ s)
    (h : apply σ s (.deleteB b) = .ok s') :
    s'.bs = s.bs.erase b ∧
    (∀ k e, s'.as.lookup k = some e → s.as.lookup k = some e) ∧
    (∀ k, s'.as.lookup k = none ↔ (s.as.lookup k = none ∨ RemovedVia (·.dep) s.as b k)) := by
  have hI' := deleteB_inv hI h
  obtain ⟨hsub, hrem⟩ := deleteB_removed h
  have hbne : b ≠ [] := hI.ne_nilB (deleteB_char h).1
  refine ⟨deleteB_bs h, hsub, lookup_none_iff hsub hrem ?_⟩
  rintro k ⟨x, ex, hx, hfx, hkx⟩
  -- the `dep` referrer `x` itself is gone: a surviving row does not refer to `b`
  have hxgone : s'.as.lookup x = none := by
    cases hx' : s'.as.lookup x with
    | none => rfl
    | some e' =>
      have := hsub x e' hx'
      rw [hx] at this; cases this
      have hv : evalVal ex.dep = b := congrArg evalVal hfx
      exact ((deleteB_no_orphans σ s s' b hI h x ex hx').2 (hv ▸ hbne) hv).elim
  exact hkx.elim (fun hk => hk ▸ hxgone) (reach_removed hI' hsub hxgone)

theorem deleteB_refExists_reason {σ : Schema} {s : St} {b : Bytes} (hI : Inv σ s) (hM : CInv σ s)
    (h : deleteB σ s b = .error .refExists) :
    (∃ k e, s.as.lookup k = some e ∧ evalVal e.owner = b ∧ b ≠ []) ∨
    (σ.depCascade = false ∧ ∃ k e, s.as.lookup k = some e ∧ e.dep = some b) ∨
    (∃ c k e, s.as.lookup k = some e ∧ (mentorOf σ c e = some b ∨ guardOf σ c e = some b)) := by
  have hR : ∀ st, Inv σ st → Sub st s → (st.things.lookup b).getD [] ≠ [] →
      ∃ k e, s.as.lookup k = some e ∧ evalVal e.owner = b ∧ b ≠ [] := by
    intro st hst hsub hne
    obtain ⟨k, hk⟩ := List.exists_mem_of_ne_nil _ hne
    obtain ⟨e, he, hv, hb, _⟩ := (hst.things b k).1 hk
    exact ⟨k, e, hsub k e he, hv, hb⟩
  rcases deleteB_char h with ⟨h1, _⟩ | ⟨hb, h1 | ⟨_, st, hst, hne⟩ | ⟨sF, hd, ⟨_, hcr⟩ | ⟨h1, _⟩⟩⟩
  · cases h1
  · rcases depStep_char h1 with hl | ⟨hnc, _, href⟩
    · -- a cascading delete of a referrer never fails with reference-exists
      obtain ⟨st', x, _, _, _, hx⟩ := cascadeOver_error (R := fun _ => True) (fun _ _ _ _ _ => trivial) _ s trivial hl
      rcases deleteA_error hx with ⟨h', _⟩ | h' | ⟨h', _⟩ <;> cases h'
    · exact Or.inr (Or.inl ⟨hnc, href⟩)
  · rcases hst with rfl | h1
    · exact Or.inl (hR st hI (Sub.refl _) hne)
    · exact Or.inl (hR st (depStep_inv hI h1) (depStep_sub h1).1 hne)
  · -- refused by a restrict check of a child-declared fk
    right; right
    have hsub := (depStep_sub hd).1
    have key : ∀ c, childRestrict σ sF b c = true →
        ∃ k e, s.as.lookup k = some e ∧ (mentorOf σ c e = some b ∨ guardOf σ c e = some b) := fun c hc =>
      have ⟨k, e, he, hx⟩ := (childRestrict_iff (depStep_cinv hM hd) (hI.ne_nilB hb) c).1 hc
      ⟨k, e, hsub k e he, hx⟩
    rcases Bool.or_eq_true_iff.1 hcr with h1 | h1
    · exact ⟨.c1, key .c1 h1⟩
    · exact ⟨.c2, key .c2 h1⟩
  · cases h1

theorem deleteB_refuses_child (σ : Schema) (s : St) (b : Bytes) (hI : Inv σ s) (hM : CInv σ s)
    (hb : s.bs.contains b = true) (hnc : σ.depCascade = false)
    (href : ∃ c k e, s.as.lookup k = some e ∧ (mentorOf σ c e = some b ∨ guardOf σ c e = some b)) :
    step σ s (.deleteB b) = (s, some .refExists) := by
  have hcr : (childRestrict σ s b .c1 || childRestrict σ s b .c2) = true := by
    obtain ⟨c, hc⟩ := href
    have := (childRestrict_iff hM (hI.ne_nilB hb) c).2 hc
    cases c <;> simp [this]
  have hd : deleteB σ s b = .error .refExists := by
    unfold deleteB
    rw [if_pos hb, foldB_restrict hnc]
    by_cases hr : (s.things.lookup b).getD [] ≠ [] ∨ referrers s (·.dep) b ≠ []
    · rw [if_pos hr]
    · rw [if_neg hr]; simp only [hcr, if_true]
  simp only [step, apply, hd]

end StorageModel.C04
