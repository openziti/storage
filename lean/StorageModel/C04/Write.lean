import StorageModel.C04.Index
/-
  C04 — the four write operations (`createA`, `updateA`, `createC`, `updateC`) are one: A's handlers are `idxWrite` on
  their own map, and a successful write is described by `Written`, which keeps the invariant (`Written.inv`).
-/
namespace StorageModel.C04
open StorageModel

theorem bind_ok {α β : Type} {x : Except Err α} {f : α → Except Err β} {b : β} :
    (x >>= f) = .ok b ↔ ∃ a, x = .ok a ∧ f a = .ok b := by
  cases x with
  | error e => simp [bind, Except.bind]
  | ok a => simp [bind, Except.bind]

theorem bind_error {α β : Type} {x : Except Err α} {f : α → Except Err β} {e : Err} :
    (x >>= f) = .error e ↔ x = .error e ∨ ∃ a, x = .ok a ∧ f a = .error e := by
  cases x with
  | error e' => simp [bind, Except.bind]
  | ok a => simp [bind, Except.bind]

def liftThings (s : St) : Except Err (Map (List Bytes)) → Res
  | .ok m => .ok { s with things := m }
  | .error e => .error e

def liftMinions (s : St) : Except Err (Map (List Bytes)) → Res
  | .ok m => .ok { s with minions := m }
  | .error e => .error e

theorem ownerIdx_eq (σ : Schema) (ic : Bool) (old : Olds) (id : Bytes) (s : St) :
    afterUpdateA σ ic old id s .ownerIdx =
      liftThings s (idxWrite true s.bs.contains ic old.owner (fieldOf s id (·.owner)) id s.things) := by
  simp only [afterUpdateA, idxWrite]
  generalize fieldOf s id (fun x => x.owner) = new
  by_cases h1 : ¬ ic = true ∧ old.owner = new
  · rw [if_pos h1, if_pos h1]; rfl
  rw [if_neg h1, if_neg h1]
  have hdel : (if old.owner ≠ [] then thingsDel s old.owner id else .ok s) =
      liftThings s (idxDel s.bs.contains old.owner id s.things) := by
    unfold thingsDel idxDel
    by_cases h2 : old.owner ≠ []
    · rw [if_pos h2, if_pos h2]; split <;> rfl
    · rw [if_neg h2, if_neg h2]; rfl
  rw [hdel]
  cases idxDel s.bs.contains old.owner id s.things with
  | error e => rfl
  | ok m1 =>
    simp only [liftThings, thingsAdd, idxAdd]
    by_cases h3 : new ≠ []
    · rw [if_pos h3, if_pos h3]; split <;> rfl
    · rw [if_neg h3, if_neg h3]; rfl

theorem bossIdx_eq (σ : Schema) (ic : Bool) (old : Olds) (id : Bytes) (s : St) :
    afterUpdateA σ ic old id s .bossIdx =
      liftMinions s (idxWrite false s.as.contains ic old.boss (fieldOf s id (·.boss)) id s.minions) := by
  simp only [afterUpdateA, idxWrite]
  generalize fieldOf s id (fun x => x.boss) = new
  by_cases h1 : ¬ ic = true ∧ old.boss = new
  · rw [if_pos h1, if_pos h1]; rfl
  rw [if_neg h1, if_neg h1]
  have hdel : (if old.boss ≠ [] then minionsDel s old.boss id else .ok s) =
      liftMinions s (idxDel s.as.contains old.boss id s.minions) := by
    unfold minionsDel idxDel
    by_cases h2 : old.boss ≠ []
    · rw [if_pos h2, if_pos h2]; split <;> rfl
    · rw [if_neg h2, if_neg h2]; rfl
  rw [hdel]
  cases idxDel s.as.contains old.boss id s.minions with
  | error e => rfl
  | ok m1 =>
    simp only [liftMinions, minionsAdd, idxAdd]
    by_cases h3 : new ≠ []
    · rw [if_pos h3, if_pos h3]; split <;> rfl
    · rw [if_neg h3, if_neg h3]; rfl

theorem lift_ok_things {s s1 : St} {r : Except Err (Map (List Bytes))} (h : liftThings s r = .ok s1) :
    ∃ m, r = .ok m ∧ s1 = { s with things := m } := by
  cases r with
  | error e => cases h
  | ok m => cases h; exact ⟨m, rfl, rfl⟩

theorem lift_ok_minions {s s1 : St} {r : Except Err (Map (List Bytes))} (h : liftMinions s r = .ok s1) :
    ∃ m, r = .ok m ∧ s1 = { s with minions := m } := by
  cases r with
  | error e => cases h
  | ok m => cases h; exact ⟨m, rfl, rfl⟩

/-- the shape of `fkConstraint.ProcessAfterUpdate`, wherever it is attached: no state change, the new value checked -/
theorem fkCheck_ok {nullable ic : Bool} {tgt : Bytes → Bool} {old new : Bytes} {s s' : St}
    (h : (if ¬ ic = true ∧ old = new then Except.ok s
          else if new ≠ [] then (if tgt new = true then .ok s else .error Err.notFound)
          else if nullable = true then .ok s else .error .nullNotAllowed) = Except.ok s') :
    s' = s ∧ Checked nullable tgt ic old new := by
  by_cases h1 : ¬ ic = true ∧ old = new
  · rw [if_pos h1] at h; cases h; exact ⟨rfl, Or.inl ⟨Bool.eq_false_iff.2 h1.1, h1.2⟩⟩
  rw [if_neg h1] at h
  by_cases h2 : new ≠ []
  · rw [if_pos h2] at h
    by_cases h3 : tgt new = true
    · rw [if_pos h3] at h; cases h; exact ⟨rfl, Or.inr ⟨fun _ => h3, fun h0 => absurd h0 h2⟩⟩
    · rw [if_neg h3] at h; cases h
  · rw [if_neg h2] at h
    by_cases h3 : nullable = true
    · rw [if_pos h3] at h; cases h; exact ⟨rfl, Or.inr ⟨fun h0 => absurd h0 h2, fun _ => h3⟩⟩
    · rw [if_neg h3] at h; cases h

/-- what `ProcessBeforeUpdate` captured, relative to the table before the write -/
inductive OpKind (as0 : Map EntA) (id : Bytes) (ic : Bool) (old : Olds) : Prop
  | create : ic = true → as0.lookup id = none → old.owner = [] → old.boss = [] → old.dep = [] → OpKind as0 id ic old
  | update (cur : EntA) : as0.lookup id = some cur → old.owner = evalVal cur.owner →
      old.boss = evalVal cur.boss → old.dep = evalVal cur.dep → OpKind as0 id ic old

theorem OpKind.dep {as0 id ic old} (h : OpKind as0 id ic old) : WriteKind (·.dep) as0 id ic old.dep := by
  cases h with
  | create a b c d e => exact .create a b e
  | update cur b c d e => exact .update cur b e

theorem fieldOf_some {s : St} {id : Bytes} {e : EntA} (he : s.as.lookup id = some e) (f : EntA → FV) :
    fieldOf s id f = evalVal (f e) := by
  unfold fieldOf; rw [he]

/-- the entity a create through child store `c` writes: the given parent fields, `x` as `c`'s data, the
    sibling child store's data (if the parent entity exists) kept -/
def createdEnt (s : St) (c : Child) (id : Bytes) (e : EntA) (x : Ext) : EntA :=
  match s.as.lookup id with
  | none => ({ owner := e.owner, boss := e.boss, dep := e.dep } : EntA).setExt c (some x)
  | some cur => ({ owner := e.owner, boss := e.boss, dep := e.dep, ext1 := cur.ext1, ext2 := cur.ext2 } : EntA).setExt c (some x)

theorem setExt_fields (e : EntA) (c : Child) (x : Option Ext) :
    (e.setExt c x).owner = e.owner ∧ (e.setExt c x).boss = e.boss ∧ (e.setExt c x).dep = e.dep ∧
    (e.setExt c x).extOf c = x := by
  cases c <;> exact ⟨rfl, rfl, rfl, rfl⟩

theorem createdEnt_fields (s : St) (c : Child) (id : Bytes) (e : EntA) (x : Ext) :
    (createdEnt s c id e x).owner = e.owner ∧ (createdEnt s c id e x).boss = e.boss ∧
    (createdEnt s c id e x).dep = e.dep ∧ (createdEnt s c id e x).extOf c = some x := by
  unfold createdEnt
  cases s.as.lookup id <;> exact setExt_fields _ c _

def updatedEnt (cur : EntA) (cx : Ext) (c : Child) (e : EntA) (x : Ext) (mo mb md mt mm mg : Bool) : EntA :=
  ({ owner := if mo then e.owner else cur.owner, boss := if mb then e.boss else cur.boss,
     dep := if md then e.dep else cur.dep, ext1 := cur.ext1, ext2 := cur.ext2 } : EntA).setExt c
    (some { tag := if mt then x.tag else cx.tag, m := if mm then x.m else cx.m, g := if mg then x.g else cx.g })

theorem setMentees_self (s : St) (c : Child) : s.setMentees c (s.mentees c) = s := by cases c <;> rfl

theorem mentees_setMentees (s : St) (c c' : Child) (m : Map (List Bytes)) :
    (s.setMentees c m).mentees c' = if c' = c then m else s.mentees c' := by
  cases c <;> cases c' <;> simp [St.setMentees, St.mentees]

theorem extOf_setExt (e : EntA) (c c' : Child) (x : Option Ext) :
    (e.setExt c x).extOf c' = if c' = c then x else e.extOf c' := by
  cases c <;> cases c' <;> simp [EntA.setExt, EntA.extOf]

theorem mentorOf_noExt {σ : Schema} {c : Child} {e : EntA} (h : e.extOf c = none) : mentorOf σ c e = none := by
  unfold mentorOf; rw [h]; simp

theorem guardOf_noExt {σ : Schema} {c : Child} {e : EntA} (h : e.extOf c = none) : guardOf σ c e = none := by
  unfold guardOf; rw [h]; simp

theorem mentorOf_undeclared {σ : Schema} {c : Child} (h : σ.idx c = false) (e : EntA) : mentorOf σ c e = none := by
  unfold mentorOf; simp [h]

theorem guardOf_undeclared {σ : Schema} {c : Child} (h : σ.fk c = false) (e : EntA) : guardOf σ c e = none := by
  unfold guardOf; simp [h]

theorem childField_m {σ : Schema} {c : Child} {s : St} {id : Bytes} {e : EntA} (hidx : σ.idx c = true)
    (he : s.as.lookup id = some e) : childField s id c (·.m) = evalVal (mentorOf σ c e) := by
  simp only [childField, mentorOf, he, hidx, if_true]
  cases e.extOf c <;> rfl

theorem childField_g {σ : Schema} {c : Child} {s : St} {id : Bytes} {e : EntA} (hfk : σ.fk c = true)
    (he : s.as.lookup id = some e) : childField s id c (·.g) = evalVal (guardOf σ c e) := by
  simp only [childField, guardOf, he, hfk, if_true]
  cases e.extOf c <;> rfl

theorem plain_extOf (e : EntA) (c : Child) : e.plain.extOf c = none := by cases c <;> rfl

/-- what a successful write of `e'` under `id` through store A (`via = none`) or child store `c` (`via = some c`)
    does: the row is written, B is untouched; every fk index of A and of the writing store ran `idxWrite` on its own map
    against the stored value (`fieldOf`: `[]` without a row), every fk constraint checked the new value — where the
    schema does not declare the child store's fk this is the trivial write / check of `[]` over `[]`; the other child
    store's data and map stay -/
structure Written (σ : Schema) (via : Option Child) (ic : Bool) (id : Bytes) (e' : EntA) (s s' : St) : Prop where
  ne : id ≠ []
  fresh : s.as.lookup id = none → ic = true
  as : s'.as = s.as.insert id e'
  bs : s'.bs = s.bs
  things : idxWrite true s.bs.contains ic (fieldOf s id (·.owner)) (evalVal e'.owner) id s.things = .ok s'.things
  minions : idxWrite false (s.as.insert id e').contains ic (fieldOf s id (·.boss)) (evalVal e'.boss) id s.minions =
    .ok s'.minions
  dep : Checked σ.depNullable s.bs.contains ic (fieldOf s id (·.dep)) (evalVal e'.dep)
  mentees : ∀ c, via = some c → idxWrite true s.bs.contains ic (fieldOf s id (mentorOf σ c))
    (evalVal (mentorOf σ c e')) id (s.mentees c) = .ok (s'.mentees c)
  guard : ∀ c, via = some c → Checked true s.bs.contains ic (fieldOf s id (guardOf σ c)) (evalVal (guardOf σ c e'))
  other : ∀ c, via ≠ some c → s'.mentees c = s.mentees c ∧
    (∀ cur, s.as.lookup id = some cur → cur.extOf c = e'.extOf c) ∧ (s.as.lookup id = none → e'.extOf c = none)

theorem Written.kind {σ : Schema} {via : Option Child} {ic : Bool} {id : Bytes} {e' : EntA} {s s' : St}
    (w : Written σ via ic id e' s s') (f : EntA → FV) : WriteKind f s.as id ic (fieldOf s id f) := by
  unfold fieldOf
  cases hl : s.as.lookup id with
  | none => exact .create (w.fresh hl) hl rfl
  | some cur => exact .update cur hl rfl

theorem Written.lookup {σ : Schema} {via : Option Child} {ic : Bool} {id : Bytes} {e' : EntA} {s s' : St}
    (w : Written σ via ic id e' s s') : s'.as.lookup id = some e' := by
  rw [w.as, Map.lookup_insert, if_pos rfl]

/-- A's constraints in either registration order: three independent steps on the written table -/
theorem processAfterUpdateA_ok {σ : Schema} {s0 s' : St} {id : Bytes} {ic : Bool} {old : Olds} {e' : EntA}
    (h : processAfterUpdateA σ ic old id { s0 with as := s0.as.insert id e' } = .ok s') :
    ∃ mt mm, s' = { s0 with as := s0.as.insert id e', things := mt, minions := mm } ∧
      idxWrite true s0.bs.contains ic old.owner (evalVal e'.owner) id s0.things = .ok mt ∧
      idxWrite false (s0.as.insert id e').contains ic old.boss (evalVal e'.boss) id s0.minions = .ok mm ∧
      Checked σ.depNullable s0.bs.contains ic old.dep (evalVal e'.dep) := by
  have hl : ∀ {s : St}, s.as = s0.as.insert id e' → s.as.lookup id = some e' := fun has => by
    rw [has, Map.lookup_insert, if_pos rfl]
  have hown : ∀ {s s1 : St}, afterUpdateA σ ic old id s .ownerIdx = .ok s1 → s.as = s0.as.insert id e' →
      ∃ m, s1 = { s with things := m } ∧
        idxWrite true s.bs.contains ic old.owner (evalVal e'.owner) id s.things = .ok m := by
    intro s s1 h1 has
    rw [ownerIdx_eq, fieldOf_some (hl has)] at h1
    obtain ⟨m, hw, rfl⟩ := lift_ok_things h1
    exact ⟨m, rfl, hw⟩
  have hboss : ∀ {s s1 : St}, afterUpdateA σ ic old id s .bossIdx = .ok s1 → s.as = s0.as.insert id e' →
      ∃ m, s1 = { s with minions := m } ∧
        idxWrite false s.as.contains ic old.boss (evalVal e'.boss) id s.minions = .ok m := by
    intro s s1 h1 has
    rw [bossIdx_eq, fieldOf_some (hl has)] at h1
    obtain ⟨m, hw, rfl⟩ := lift_ok_minions h1
    exact ⟨m, rfl, hw⟩
  have hdep : ∀ {s s1 : St}, afterUpdateA σ ic old id s .depFk = .ok s1 → s.as = s0.as.insert id e' →
      s1 = s ∧ Checked σ.depNullable s.bs.contains ic old.dep (evalVal e'.dep) := by
    intro s s1 h1 has
    simp only [afterUpdateA] at h1
    rw [fieldOf_some (hl has)] at h1
    exact fkCheck_ok h1
  unfold processAfterUpdateA orderA at h
  cases hdf : σ.depFirst
  case true =>
    simp only [hdf, if_true, List.foldlM_cons, List.foldlM_nil, bind_ok] at h
    obtain ⟨s1, h1, s2, h2, s3, h3, s4, h4, h5⟩ := h
    cases h5; cases h4
    obtain ⟨rfl, hD⟩ := hdep h1 rfl
    obtain ⟨mt, rfl, hT⟩ := hown h2 rfl
    obtain ⟨mm, rfl, hM⟩ := hboss h3 rfl
    exact ⟨mt, mm, rfl, hT, hM, hD⟩
  case false =>
    simp only [hdf, Bool.false_eq_true, if_false, List.foldlM_cons, List.foldlM_nil, bind_ok] at h
    obtain ⟨s1, h1, s2, h2, s3, h3, s4, h4, h5⟩ := h
    cases h5; cases h3
    obtain ⟨mt, rfl, hT⟩ := hown h1 rfl
    obtain ⟨mm, rfl, hM⟩ := hboss h2 rfl
    obtain ⟨rfl, hD⟩ := hdep h4 rfl
    exact ⟨mt, mm, rfl, hT, hM, hD⟩

/-- the mentor index of child store `c`, declared or not: `idxWrite` on `c`'s map (undeclared: of `[]` over `[]`) -/
theorem childIdxStep_ok {σ : Schema} {c : Child} {ic : Bool} {om id : Bytes} {e' : EntA} {s s' : St}
    (hlk : s.as.lookup id = some e') (h : childIdxStep σ c ic om id s = .ok s') :
    ∃ m, s' = s.setMentees c m ∧
      idxWrite true s.bs.contains ic (if σ.idx c then om else []) (evalVal (mentorOf σ c e')) id (s.mentees c) = .ok m := by
  unfold childIdxStep at h
  cases hidx : σ.idx c
  · simp only [hidx, Bool.false_eq_true, if_false] at h ⊢
    cases h
    refine ⟨s.mentees c, (setMentees_self _ _).symm, ?_⟩
    rw [mentorOf_undeclared hidx]
    cases ic <;> rfl
  · simp only [hidx, if_true] at h ⊢
    rw [childField_m hidx hlk] at h
    cases hw : idxWrite true s.bs.contains ic om (evalVal (mentorOf σ c e')) id (s.mentees c) with
    | error err => rw [hw] at h; cases h
    | ok m => rw [hw] at h; cases h; exact ⟨m, rfl, rfl⟩

theorem childFkStep_ok {σ : Schema} {c : Child} {ic : Bool} {og id : Bytes} {e' : EntA} {s s' : St}
    (hlk : s.as.lookup id = some e') (h : childFkStep σ c ic og id s = .ok s') :
    s' = s ∧ Checked true s.bs.contains ic (if σ.fk c then og else []) (evalVal (guardOf σ c e')) := by
  unfold childFkStep at h
  cases hfk : σ.fk c
  · simp only [hfk, Bool.false_eq_true, if_false] at h ⊢
    cases h
    rw [guardOf_undeclared hfk]
    exact ⟨rfl, Or.inr ⟨fun h => absurd rfl h, fun _ => rfl⟩⟩
  · simp only [hfk, if_true] at h ⊢
    rw [childField_g hfk hlk] at h
    exact fkCheck_ok (nullable := true) (by rw [if_pos rfl]; exact h)

theorem childAfterUpdate_ok {σ : Schema} {c : Child} {ic : Bool} {oldM oldG id : Bytes} {e' : EntA} {s1 s' : St}
    (hlk : s1.as.lookup id = some e') (h : childAfterUpdate σ c ic oldM oldG id s1 = .ok s') :
    ∃ m, s' = s1.setMentees c m ∧
      idxWrite true s1.bs.contains ic (if σ.idx c then oldM else []) (evalVal (mentorOf σ c e')) id (s1.mentees c) = .ok m ∧
      Checked true s1.bs.contains ic (if σ.fk c then oldG else []) (evalVal (guardOf σ c e')) := by
  obtain ⟨s2, h2, h3⟩ := bind_ok.1 h
  obtain ⟨m, rfl, hw⟩ := childIdxStep_ok hlk h2
  obtain ⟨rfl, hg⟩ := childFkStep_ok (e' := e') (by cases c <;> exact hlk) h3
  exact ⟨m, rfl, hw, by cases c <;> exact hg⟩

/-- the four write operations are this one: A's constraints on the written table with the stored values as old
    values, then (through a child store) that store's own -/
theorem Written.of_run {σ : Schema} {via : Option Child} {ic : Bool} {id : Bytes} {e' : EntA} {old : Olds}
    {oldM oldG : Bytes} {s s1 s' : St} (hid : id ≠ []) (hfresh : s.as.lookup id = none → ic = true)
    (hold : old = match s.as.lookup id with | some cur => oldsOf cur | none => {})
    (hother : ∀ c, via ≠ some c → (∀ cur, s.as.lookup id = some cur → cur.extOf c = e'.extOf c) ∧
      (s.as.lookup id = none → e'.extOf c = none))
    (hM : ∀ c, via = some c → (if σ.idx c then oldM else []) = fieldOf s id (mentorOf σ c) ∧
      (if σ.fk c then oldG else []) = fieldOf s id (guardOf σ c))
    (h1 : processAfterUpdateA σ ic old id { s with as := s.as.insert id e' } = .ok s1)
    (h2 : (match via with | none => pure s1 | some c => childAfterUpdate σ c ic oldM oldG id s1) = Except.ok s') :
    Written σ via ic id e' s s' := by
  obtain ⟨mt, mm, rfl, hT, hB, hD⟩ := processAfterUpdateA_ok h1
  have ho : old.owner = fieldOf s id (·.owner) ∧ old.boss = fieldOf s id (·.boss) ∧ old.dep = fieldOf s id (·.dep) := by
    unfold fieldOf; rw [hold]; cases s.as.lookup id <;> exact ⟨rfl, rfl, rfl⟩
  rw [ho.1] at hT; rw [ho.2.1] at hB; rw [ho.2.2] at hD
  cases via with
  | none =>
    cases h2
    exact ⟨hid, hfresh, rfl, rfl, hT, hB, hD, fun _ => nofun, fun _ => nofun,
      fun c _ => ⟨by cases c <;> rfl, hother c nofun⟩⟩
  | some c =>
    obtain ⟨m, rfl, hw, hg⟩ := childAfterUpdate_ok (e' := e') (by simp) h2
    refine ⟨hid, hfresh, by cases c <;> rfl, by cases c <;> rfl, by cases c <;> exact hT, by cases c <;> exact hB, hD,
      fun c' hc' => ?_, fun c' hc' => ?_, fun c' hc' => ⟨?_, hother c' hc'⟩⟩
    · cases hc'; rw [← (hM c rfl).1, mentees_setMentees, if_pos rfl]; cases c <;> exact hw
    · cases hc'; rw [← (hM c rfl).2]; cases c <;> exact hg
    · rw [mentees_setMentees, if_neg fun h : c' = c => hc' (h ▸ rfl)]; cases c' <;> rfl

theorem createA_written {σ : Schema} {s s' : St} {id : Bytes} {e : EntA} (h : createA σ s id e = .ok s') :
    s.as.lookup id = none ∧ Written σ none true id e.plain s s' := by
  unfold createA at h
  by_cases hid : id = []
  · rw [if_pos hid] at h; cases h
  rw [if_neg hid] at h
  rcases Option.eq_none_or_eq_some (s.as.lookup id) with hl | ⟨v, hl⟩
  · rw [if_neg (fun hc => by obtain ⟨v, hv⟩ := (Map.contains_iff _ _).1 hc; rw [hl] at hv; cases hv)] at h
    exact ⟨hl, .of_run (oldM := []) (oldG := []) hid (fun _ => rfl) (by rw [hl])
      (fun c _ => ⟨fun _ hc => (nomatch hl.symm.trans hc), fun _ => plain_extOf e c⟩) (fun _ => nofun) h rfl⟩
  · rw [if_pos ((Map.contains_iff _ _).2 ⟨v, hl⟩)] at h; cases h

theorem updateA_written {σ : Schema} {s s' : St} {id : Bytes} {e : EntA} {mo mb md : Bool}
    (h : updateA σ s id e mo mb md = .ok s') :
    ∃ cur, s.as.lookup id = some cur ∧ Written σ none false id
      { owner := if mo then e.owner else cur.owner, boss := if mb then e.boss else cur.boss,
        dep := if md then e.dep else cur.dep, ext1 := cur.ext1, ext2 := cur.ext2 } s s' := by
  unfold updateA at h
  by_cases hid : id = []
  · rw [if_pos hid] at h; cases h
  rw [if_neg hid] at h
  rcases Option.eq_none_or_eq_some (s.as.lookup id) with hl | ⟨cur, hl⟩
  · rw [hl] at h; cases h
  · rw [hl] at h
    exact ⟨cur, hl, .of_run (oldM := []) (oldG := []) hid (fun hn => (nomatch hl.symm.trans hn)) (by rw [hl])
      (fun c _ => ⟨fun _ hc => (by cases hl.symm.trans hc; cases c <;> rfl), fun hn => (nomatch hl.symm.trans hn)⟩)
      (fun _ => nofun) h rfl⟩

/-- Create through a child store — also over an existing parent entity, whatever its stored values -/
theorem createC_written {σ : Schema} {c : Child} {s s' : St} {id : Bytes} {e : EntA} {x : Ext}
    (h : createC σ c s id e x = .ok s') :
    (∀ cur, s.as.lookup id = some cur → cur.extOf c = none) ∧
      Written σ (some c) true id (createdEnt s c id e x) s s' := by
  unfold createC at h
  by_cases hid : id = []
  · rw [if_pos hid] at h; cases h
  rw [if_neg hid] at h
  have hoth : ∀ c', some c ≠ some c' → (∀ cur, s.as.lookup id = some cur → cur.extOf c' = (createdEnt s c id e x).extOf c') ∧
      (s.as.lookup id = none → (createdEnt s c id e x).extOf c' = none) := fun c' hc' => by
    have : c' ≠ c := fun h => hc' (h ▸ rfl)
    constructor
    · intro cur hcur; simp only [createdEnt, hcur, extOf_setExt, this, if_false]; cases c' <;> rfl
    · intro hn; simp only [createdEnt, hn, extOf_setExt, this, if_false]; cases c' <;> rfl
  rcases Option.eq_none_or_eq_some (s.as.lookup id) with hl | ⟨cur, hl⟩
  · rw [hl] at h
    obtain ⟨s1, h1, h2⟩ := bind_ok.1 h
    refine ⟨fun _ hc => (nomatch hl.symm.trans hc), .of_run hid (fun _ => rfl) (by rw [hl]) hoth ?_
      (by simpa only [createdEnt, hl] using h1) h2⟩
    rintro _ ⟨⟩; simp [fieldOf, hl]
  · rw [hl] at h
    cases hx : cur.extOf c with
    | some v => simp only [hx, Option.isSome_some, if_true] at h; cases h
    | none =>
      simp only [hx, Option.isSome_none, Bool.false_eq_true, if_false] at h
      obtain ⟨s1, h1, h2⟩ := bind_ok.1 h
      refine ⟨fun _ hc => (by cases hl.symm.trans hc; exact hx), .of_run hid (fun _ => rfl) (by rw [hl]) hoth ?_
        (by simpa only [createdEnt, hl] using h1) h2⟩
      rintro _ ⟨⟩
      simp [fieldOf_some hl, mentorOf_noExt hx, guardOf_noExt hx, evalVal]

theorem updateC_written {σ : Schema} {c : Child} {s s' : St} {id : Bytes} {e : EntA} {x : Ext} {mo mb md mt mm mg : Bool}
    (h : updateC σ c s id e x mo mb md mt mm mg = .ok s') :
    ∃ cur cx, s.as.lookup id = some cur ∧ cur.extOf c = some cx ∧
      Written σ (some c) false id (updatedEnt cur cx c e x mo mb md mt mm mg) s s' := by
  unfold updateC at h
  by_cases hid : id = []
  · rw [if_pos hid] at h; cases h
  rw [if_neg hid] at h
  rcases Option.eq_none_or_eq_some (s.as.lookup id) with hl | ⟨cur, hl⟩
  · rw [hl] at h; cases h
  · rw [hl] at h
    cases hx : cur.extOf c with
    | none => simp only [hx] at h; cases h
    | some cx =>
      simp only [hx] at h
      obtain ⟨s1, h1, h2⟩ := bind_ok.1 h
      refine ⟨cur, cx, hl, hx, .of_run hid (fun hn => (nomatch hl.symm.trans hn)) (by rw [hl]) (fun c' hc' => ?_) ?_ h1 h2⟩
      · refine ⟨fun _ hc => ?_, fun hn => (nomatch hl.symm.trans hn)⟩
        cases hl.symm.trans hc
        simp only [updatedEnt, extOf_setExt, show c' ≠ c from fun h => hc' (h ▸ rfl), if_false]; cases c' <;> rfl
      · rintro _ ⟨⟩
        simp only [fieldOf_some hl, mentorOf, guardOf, hx]
        constructor <;> split <;> rfl

/-- a write keeps A's part of the invariant: each index by `idxWrite_spec` on its own map, `dep` by `Targets.write` -/
theorem Written.inv {σ : Schema} {via : Option Child} {ic : Bool} {id : Bytes} {e' : EntA} {s s' : St}
    (w : Written σ via ic id e' s s') (hI : Inv σ s) : Inv σ s' := by
  have hT := idxWrite_spec (f := (·.owner)) (e' := e') hI.things (w.kind _) hI.ownerT (fun _ h => h) hI.thingsK w.things
  have hB := idxWrite_spec (f := (·.boss)) (e' := e') hI.minions (w.kind _) hI.bossTargets
    (Map.contains_insert_mono s.as id e') hI.minionsK w.minions
  refine ⟨w.as ▸ hT.1, w.as ▸ hB.1, w.as ▸ w.bs ▸ hT.2.1, fun k e he _ hne => ?_, ?_, w.as ▸ hB.2.2.2 rfl hI.bossNN,
    fun hn => w.as ▸ (hI.depNN hn).write (w.kind _) (hn ▸ w.dep), w.bs ▸ hT.2.2.1, w.as ▸ hB.2.2.1, ?_, w.bs ▸ hI.nonEmptyB⟩
  · rw [w.as] at he ⊢; exact hB.2.1 k e he hne
  · rw [w.as, w.bs]; exact hI.depT.write (fun _ h => h) (w.kind _) w.dep
  · rw [w.as, Map.lookup_insert, if_neg (fun h => w.ne h.symm)]; exact hI.nonEmpty

end StorageModel.C04
