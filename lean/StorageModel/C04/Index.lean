import StorageModel.C04.Inv
/-
  C04 — one fk index on its own back-reference map, generic in the field, the pending set, the table and the target
  test: what `idxDelB` (delete side) and `idxWrite` (write side) do to `SetExact`, `Targets`, `NonNull`.  A's two
  indexes and the mentor index of either child store are instances.
-/
namespace StorageModel.C04
open StorageModel

theorem keysLive_insert {m : Map (List Bytes)} {tgt : Bytes → Bool} {v : Bytes} {l : List Bytes}
    (hK : ∀ t, m.lookup t ≠ none → tgt t = true) (hv : tgt v = true) :
    ∀ t, (m.insert v l).lookup t ≠ none → tgt t = true := by
  intro t ht
  rw [Map.lookup_insert] at ht
  by_cases h : t = v
  · rw [h]; exact hv
  · rw [if_neg h] at ht; exact hK t ht

theorem keysLive_erase {V : Type} {m : Map (List Bytes)} {tbl : Map V} (id : Bytes)
    (hK : ∀ t, m.lookup t ≠ none → tbl.contains t = true) :
    ∀ t, (m.erase id).lookup t ≠ none → (tbl.erase id).contains t = true := by
  intro t ht
  rw [Map.lookup_erase] at ht
  by_cases h : t = id
  · rw [if_pos h] at ht; exact absurd rfl ht
  · rw [if_neg h] at ht; exact Map.contains_erase_of_ne tbl id t h (hK t ht)

theorem idxDelB_spec {f : EntA → FV} {P : Bytes → Prop} {as : Map EntA} {m : Map (List Bytes)}
    {tgt : Bytes → Bool} {v id : Bytes}
    (hS : SetExact f P as m) (hv : ∀ e, as.lookup id = some e → evalVal (f e) = v)
    (hK : ∀ t, m.lookup t ≠ none → tgt t = true) :
    SetExact f (plus P id) as (idxDelB tgt v id m) ∧ (∀ t, (idxDelB tgt v id m).lookup t ≠ none → tgt t = true) := by
  unfold idxDelB
  by_cases hv0 : v = []
  · rw [if_neg (not_not_intro hv0)]
    exact ⟨hS.del_null (hv0 ▸ hv), hK⟩
  rw [if_pos hv0]
  by_cases htv : tgt v = true
  · rw [if_pos htv]
    exact ⟨hS.del hv, keysLive_insert hK htv⟩
  · -- the target is gone: no set lists `id` (a listed key has an existing target)
    rw [if_neg htv]
    refine ⟨hS.pend_unlisted fun t hm => ?_, hK⟩
    obtain ⟨e, he, h1, _⟩ := (hS t id).1 hm
    have hne : m.lookup t ≠ none := fun hn => by rw [hn] at hm; cases hm
    exact htv ((h1.symm.trans (hv e he)) ▸ hK t hne)

/-- the old entry's removal inside a write is the delete-side removal, except that it fails on a missing target -/
theorem idxDel_ok {tgt : Bytes → Bool} {v id : Bytes} {m m' : Map (List Bytes)}
    (h : idxDel tgt v id m = .ok m') : m' = idxDelB tgt v id m := by
  unfold idxDel at h
  unfold idxDelB
  by_cases hv0 : v ≠ []
  · rw [if_pos hv0] at h ⊢
    by_cases htv : tgt v = true
    · rw [if_pos htv] at h ⊢; cases h; rfl
    · rw [if_neg htv] at h; cases h
  · rw [if_neg hv0] at h ⊢; cases h; rfl

theorem SetExact.erase_key {f : EntA → FV} {P : Bytes → Prop} {as : Map EntA} {m : Map (List Bytes)} {id : Bytes}
    (h : SetExact f P as m)
    (hno : ∀ k e, as.lookup k = some e → ¬ P k → evalVal (f e) ≠ [] → evalVal (f e) ≠ id) :
    SetExact f P as (m.erase id) := by
  intro t k
  rw [Map.lookup_erase]
  by_cases ht : t = id
  · subst ht
    simp only [if_true, Option.getD_none, List.not_mem_nil, false_iff]
    rintro ⟨e, he, h1, h2, h3⟩
    exact hno k e he h3 (h1 ▸ h2) h1
  · simp only [ht, if_false]; exact h t k

theorem Targets.insert {f : EntA → FV} {as : Map EntA} {tgt : Bytes → Bool} {id : Bytes} {e' : EntA}
    (h : Targets f as tgt) (hn : evalVal (f e') ≠ [] → tgt (evalVal (f e')) = true) :
    Targets f (as.insert id e') tgt :=
  Map.forall_insert h hn

theorem Targets.mono {f : EntA → FV} {as : Map EntA} {tgt0 tgt : Bytes → Bool}
    (h : Targets f as tgt0) (htgt : ∀ t, tgt0 t = true → tgt t = true) : Targets f as tgt :=
  fun k e he hne => htgt _ (h k e he hne)

theorem Targets.insert_same {f : EntA → FV} {as : Map EntA} {tgt : Bytes → Bool} {id : Bytes} {e' : EntA}
    (h : Targets f as tgt) (hsame : ∀ cur, as.lookup id = some cur → evalVal (f cur) = evalVal (f e'))
    (hnew : as.lookup id = none → evalVal (f e') = []) : Targets f (as.insert id e') tgt := by
  refine h.insert fun hne => ?_
  cases hl : as.lookup id with
  | none => exact absurd (hnew hl) hne
  | some cur => rw [← hsame cur hl] at hne ⊢; exact h id cur hl hne

theorem Targets.erase {f : EntA → FV} {as : Map EntA} {tgt : Bytes → Bool} {id : Bytes}
    (h : Targets f as tgt) : Targets f (as.erase id) tgt :=
  fun k e he => h k e (Map.lookup_erase_some he).2

theorem Targets.of_sub {f : EntA → FV} {as as' : Map EntA} {tgt : Bytes → Bool}
    (h : Targets f as tgt) (hsub : ∀ k e, as'.lookup k = some e → as.lookup k = some e) : Targets f as' tgt :=
  fun k e he hne => h k e (hsub k e he) hne

theorem NonNull.insert {f : EntA → FV} {as : Map EntA} {id : Bytes} {e' : EntA}
    (h : NonNull f as) (hn : evalVal (f e') ≠ []) : NonNull f (as.insert id e') :=
  Map.forall_insert h hn

/-- how the written entity relates to the table before the write -/
inductive WriteKind (f : EntA → FV) (as0 : Map EntA) (id : Bytes) (ic : Bool) (old : Bytes) : Prop
  | create : ic = true → as0.lookup id = none → old = [] → WriteKind f as0 id ic old
  /-- the row exists and `old` is its stored value — an update (`ic = false`), or a create through the
      child store over an existing parent entity (`ic = true`: the "unchanged" shortcut is off) -/
  | update (cur : EntA) : as0.lookup id = some cur → old = evalVal (f cur) → WriteKind f as0 id ic old

theorem WriteKind.stored {f : EntA → FV} {as0 : Map EntA} {id : Bytes} {ic : Bool} {old : Bytes}
    (hk : WriteKind f as0 id ic old) (e : EntA) (he : as0.lookup id = some e) : evalVal (f e) = old := by
  cases hk with
  | create _ hnone _ => rw [hnone] at he; cases he
  | update cur hc ho => rw [hc] at he; cases he; exact ho.symm

theorem WriteKind.of_update {f : EntA → FV} {as0 : Map EntA} {id : Bytes} {ic : Bool} {old : Bytes}
    (hk : WriteKind f as0 id ic old) (hic : ic = false) : ∃ cur, as0.lookup id = some cur ∧ old = evalVal (f cur) := by
  cases hk with
  | create h1 _ _ => rw [hic] at h1; cases h1
  | update cur hc ho => exact ⟨cur, hc, ho⟩

/-- what a successful `ProcessAfterUpdate` of an fk index or fk constraint says about the value written: the step
    was skipped because an update left it unchanged, or the value names an existing target and is null only where
    the field is nullable -/
def Checked (nullable : Bool) (tgt : Bytes → Bool) (ic : Bool) (old new : Bytes) : Prop :=
  (ic = false ∧ old = new) ∨ ((new ≠ [] → tgt new = true) ∧ (new = [] → nullable = true))

theorem Targets.write {f : EntA → FV} {as0 : Map EntA} {tgt0 tgt : Bytes → Bool} {nullable ic : Bool}
    {old id : Bytes} {e' : EntA} (hT : Targets f as0 tgt0) (htgt : ∀ t, tgt0 t = true → tgt t = true)
    (hk : WriteKind f as0 id ic old) (hc : Checked nullable tgt ic old (evalVal (f e'))) :
    Targets f (as0.insert id e') tgt := by
  refine (hT.mono htgt).insert fun hne => ?_
  rcases hc with ⟨hic, ho⟩ | ⟨h1, _⟩
  · -- unchanged: the stored value named a target already
    obtain ⟨cur, hcur, hold⟩ := hk.of_update hic
    rw [← ho, hold] at hne ⊢
    exact htgt _ (hT id cur hcur hne)
  · exact h1 hne

theorem NonNull.write {f : EntA → FV} {as0 : Map EntA} {tgt : Bytes → Bool} {ic : Bool}
    {old id : Bytes} {e' : EntA} (hN : NonNull f as0)
    (hk : WriteKind f as0 id ic old) (hc : Checked false tgt ic old (evalVal (f e'))) :
    NonNull f (as0.insert id e') := by
  refine hN.insert ?_
  rcases hc with ⟨hic, ho⟩ | ⟨_, h2⟩
  · obtain ⟨cur, hcur, hold⟩ := hk.of_update hic
    rw [← ho, hold]; exact hN id cur hcur
  · exact fun h0 => Bool.noConfusion (h2 h0)

theorem idxAdd_ok {nullable : Bool} {tgt : Bytes → Bool} {new id : Bytes} {m1 m' : Map (List Bytes)}
    (h : idxAdd nullable tgt new id m1 = .ok m') :
    (new ≠ [] ∧ tgt new = true ∧ m' = m1.insert new (setIns id ((m1.lookup new).getD []))) ∨
      (new = [] ∧ nullable = true ∧ m' = m1) := by
  unfold idxAdd at h
  by_cases hn : new ≠ []
  · rw [if_pos hn] at h
    by_cases ht : tgt new = true
    · rw [if_pos ht] at h; cases h; exact Or.inl ⟨hn, ht, rfl⟩
    · rw [if_neg ht] at h; cases h
  · rw [if_neg hn] at h
    by_cases hl : nullable = true
    · rw [if_pos hl] at h; cases h; exact Or.inr ⟨Decidable.not_not.1 hn, hl, rfl⟩
    · rw [if_neg hl] at h; cases h

theorem idxWrite_spec {f : EntA → FV} {as0 : Map EntA} {m m' : Map (List Bytes)} {nullable ic : Bool}
    {tgt0 tgt : Bytes → Bool} {old id : Bytes} {e' : EntA}
    (hS : SetExact f none' as0 m) (hk : WriteKind f as0 id ic old)
    (hT0 : Targets f as0 tgt0) (htgt : ∀ t, tgt0 t = true → tgt t = true)
    (hK : ∀ t, m.lookup t ≠ none → tgt0 t = true)
    (hres : idxWrite nullable tgt ic old (evalVal (f e')) id m = .ok m') :
    SetExact f none' (as0.insert id e') m' ∧ Targets f (as0.insert id e') tgt ∧
    (∀ t, m'.lookup t ≠ none → tgt t = true) ∧
    (nullable = false → NonNull f as0 → NonNull f (as0.insert id e')) := by
  suffices key : SetExact f none' (as0.insert id e') m' ∧ (∀ t, m'.lookup t ≠ none → tgt t = true) ∧
      Checked nullable tgt ic old (evalVal (f e')) from
    ⟨key.1, hT0.write htgt hk key.2.2, key.2.1, fun hn hnn => hnn.write hk (hn ▸ key.2.2)⟩
  have hlk : (as0.insert id e').lookup id = some e' := by rw [Map.lookup_insert, if_pos rfl]
  unfold idxWrite at hres
  by_cases hskip : ¬ ic = true ∧ old = evalVal (f e')
  · rw [if_pos hskip] at hres; cases hres
    have hic : ic = false := Bool.eq_false_iff.2 hskip.1
    obtain ⟨cur, hc, ho⟩ := hk.of_update hic
    exact ⟨hS.same_value hc (ho ▸ hskip.2), fun t ht => htgt t (hK t ht), Or.inl ⟨hic, hskip.2⟩⟩
  · rw [if_neg hskip] at hres
    cases hm1 : idxDel tgt old id m with
    | error err => rw [hm1] at hres; cases hres
    | ok m1 =>
      rw [hm1] at hres
      cases idxDel_ok hm1
      obtain ⟨hS1, hK1⟩ := idxDelB_spec (tgt := tgt) hS hk.stored (fun t ht => htgt t (hK t ht))
      have hS1 := hS1.insert_pending (Or.inr rfl) e'
      rcases idxAdd_ok hres with ⟨hnew, htn, rfl⟩ | ⟨hnew, hnl, rfl⟩
      · exact ⟨hS1.add hlk rfl hnew, keysLive_insert hK1 htn, Or.inr ⟨fun _ => htn, fun h => absurd h hnew⟩⟩
      · exact ⟨hS1.add_null fun e he => by rw [hlk] at he; cases he; exact hnew, hK1,
          Or.inr ⟨fun h => absurd hnew h, fun _ => hnl⟩⟩

end StorageModel.C04
