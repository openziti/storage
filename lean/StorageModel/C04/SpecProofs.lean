import StorageModel.Base.Lists
import StorageModel.C04.Exact
import StorageModel.C04.Spec
/-
  C04 — the executable spec (`Spec.lean`, the run-time oracle of the check) tied to the property theorems:
  `closure` (bounded fixpoint iteration; a counting argument gives the bound) is "the seeds and everything that
  refers to them transitively" (`Reach`); where the model's operation succeeds from a state satisfying the
  invariant, the spec's operation succeeds too, with the same entity tables.
-/
namespace StorageModel.C04
open StorageModel

theorem mem_grow (as : Map EntA) (d : List Bytes) (k : Bytes) :
    k ∈ grow as d ↔ k ∈ d ∨ ∃ e y, as.lookup k = some e ∧ e.boss = some y ∧ y ∈ d := by
  unfold grow
  rw [List.mem_append, List.mem_filter]
  by_cases hk : k ∈ d
  · exact iff_of_true (Or.inl hk) (Or.inl hk)
  rw [or_iff_right hk, or_iff_right hk]
  cases hl : as.lookup k with
  | none => simp
  | some e =>
    cases hb : e.boss with
    | none => simp [hb]
    | some y => simp [hb, hk, Map.mem_keys_of_lookup hl]

/-- `d` is closed under "refers to a member" -/
def Closed (as : Map EntA) (d : List Bytes) : Prop :=
  ∀ k e y, as.lookup k = some e → e.boss = some y → y ∈ d → k ∈ d

/-- number of table keys still outside `d` -/
def outside (as : Map EntA) (d : List Bytes) : Nat := (as.keys.filter (fun k => decide (k ∉ d))).length

/-- a round adds nothing to a closed set -/
theorem closed_grow {as : Map EntA} {d : List Bytes} (hc : Closed as d) : Closed as (grow as d) := by
  have hsame : ∀ k, k ∈ grow as d → k ∈ d := fun k hk =>
    ((mem_grow as d k).1 hk).elim id fun ⟨e, y, he, hb, hy⟩ => hc k e y he hb hy
  exact fun k e y he hb hy => (mem_grow as d k).2 (Or.inl (hc k e y he hb (hsame y hy)))

theorem closed_growN {as : Map EntA} : ∀ (n : Nat) (d : List Bytes), Closed as d → Closed as (growN as n d)
  | 0, _, hc => hc
  | n + 1, _, hc => closed_growN n _ (closed_grow hc)

/-- after as many rounds as there are keys outside, the set is closed (each round that changes
    anything captures at least one more key) -/
theorem growN_closed (as : Map EntA) : ∀ (n : Nat) (d : List Bytes), outside as d ≤ n → Closed as (growN as n d) := by
  intro n
  induction n with
  | zero =>
    intro d h k e y he _ _
    show k ∈ d
    refine Decidable.byContradiction fun hk => ?_
    have hmem : k ∈ as.keys.filter (fun k => decide (k ∉ d)) :=
      List.mem_filter.2 ⟨Map.mem_keys_of_lookup he, decide_eq_true hk⟩
    have := List.length_pos_of_mem hmem
    unfold outside at h; omega
  | succ n ih =>
    intro d h
    by_cases hnew : ∃ k, k ∈ grow as d ∧ k ∉ d
    · -- the round captures a key from outside
      obtain ⟨k, hk, hkd⟩ := hnew
      obtain ⟨e, _, he, _⟩ := ((mem_grow as d k).1 hk).resolve_left hkd
      have hlt : outside as (grow as d) < outside as d := by
        unfold outside
        refine List.length_filter_lt_of_imp (fun x hx => ?_) (Map.mem_keys_of_lookup he) (decide_eq_true hkd)
          (decide_eq_false (not_not_intro hk))
        simp only [decide_eq_true_eq] at hx ⊢
        exact fun hxd => hx ((mem_grow as d x).2 (Or.inl hxd))
      exact ih _ (by omega)
    · -- nothing new: `d` is closed already
      exact closed_growN (n + 1) d fun k e y he hb hy => Decidable.byContradiction fun hkd =>
        hnew ⟨k, (mem_grow as d k).2 (Or.inr ⟨e, y, he, hb, hy⟩), hkd⟩

theorem subset_growN (as : Map EntA) : ∀ (n : Nat) (d : List Bytes) (k : Bytes), k ∈ d → k ∈ growN as n d := by
  intro n
  induction n with
  | zero => intro d k h; exact h
  | succ n ih => intro d k h; exact ih _ k ((mem_grow as d k).2 (Or.inl h))

theorem growN_sound (as : Map EntA) : ∀ (n : Nat) (d : List Bytes) (k : Bytes), k ∈ growN as n d →
    k ∈ d ∨ ∃ x ∈ d, Reach as x k := by
  intro n
  induction n with
  | zero => intro d k h; exact Or.inl h
  | succ n ih =>
    intro d k h
    rcases ih (grow as d) k h with h1 | ⟨x, hx, hr⟩
    · exact ((mem_grow as d k).1 h1).imp_right fun ⟨e, y, he, hb, hy⟩ => ⟨y, hy, .direct he hb⟩
    · rcases (mem_grow as d x).1 hx with h2 | ⟨e, y, he, hb, hy⟩
      · exact Or.inr ⟨x, h2, hr⟩
      · exact Or.inr ⟨y, hy, Reach.under he hb hr⟩

theorem outside_le (as : Map EntA) (d : List Bytes) : outside as d ≤ as.length := by
  unfold outside
  have := List.length_filter_le (fun k => decide (k ∉ d)) as.keys
  simpa [Map.keys] using this

theorem mem_closure (as : Map EntA) (seeds : List Bytes) (k : Bytes) :
    k ∈ closure as seeds ↔ k ∈ seeds ∨ ∃ x ∈ seeds, Reach as x k := by
  constructor
  · exact growN_sound as _ seeds k
  · have hcl : Closed as (closure as seeds) := growN_closed as _ seeds (outside_le as seeds)
    rintro (h | ⟨x, hx, hr⟩)
    · exact subset_growN as _ seeds k h
    · have hx' : x ∈ closure as seeds := subset_growN as _ seeds x hx
      induction hr with
      | direct he hb => exact hcl _ _ _ he hb hx'
      | step _ he hb ih => exact hcl _ _ _ he hb ih

theorem lookup_removeAll (as : Map EntA) (d : List Bytes) (k : Bytes) :
    (removeAll as d).lookup k = if k ∈ d then none else as.lookup k := by
  rw [removeAll, Map.lookup_filter_key as (fun k => decide (k ∉ d))]
  by_cases h : k ∈ d
  · rw [if_pos h, if_neg]; simpa using h
  · rw [if_neg h, if_pos]; simpa using h

/-- the entity tables of a model state -/
def absSt (s : St) : SSt := { as := s.as, bs := s.bs }

def TEq {V : Type} (a b : Map V) : Prop := ∀ k, a.lookup k = b.lookup k

theorem absSt_as (s : St) : (absSt s).as = s.as := rfl

/-- the spec's referrer filter is the model's (`isReferrer`) on the table alone -/
theorem mem_specReferrers (as : Map EntA) (f : EntA → FV) (id x : Bytes) :
    x ∈ specReferrers as f id ↔ ∃ e, as.lookup x = some e ∧ f e = some id := by
  show x ∈ as.keys.filter (isReferrer { as := as } f id) ↔ _
  rw [List.mem_filter, isReferrer_iff]
  exact ⟨fun h => h.2, fun ⟨e, he, hf⟩ => ⟨Map.mem_keys_of_lookup he, e, he, hf⟩⟩

theorem specReferrers_nil_iff (as : Map EntA) (f : EntA → FV) (id : Bytes) :
    specReferrers as f id = [] ↔ ∀ k e, as.lookup k = some e → f e ≠ some id := by
  rw [List.eq_nil_iff_forall_not_mem]
  exact ⟨fun h k e he hf => h k ((mem_specReferrers as f id k).2 ⟨e, he, hf⟩),
    fun h k hk => have ⟨e, he, hf⟩ := (mem_specReferrers as f id k).1 hk; h k e he hf⟩

theorem specCheck_none {σ : Schema} {s' : St} {id : Bytes} {e : EntA} (ic : Bool) (old : Olds)
    (hI' : Inv σ s') (he : s'.as.lookup id = some e) (c : CA) :
    specCheck σ ic old (absSt s') e c = none := by
  have ho : ∀ h : evalVal e.owner ≠ [], s'.bs.contains (evalVal e.owner) = true := hI'.ownerT id e he
  have hb1 : evalVal e.boss ≠ [] := hI'.bossNN id e he
  have hb2 : s'.as.contains (evalVal e.boss) = true := hI'.bossT id e he (fun hp => hp) hb1
  have hd : ∀ h : evalVal e.dep ≠ [], s'.bs.contains (evalVal e.dep) = true := hI'.depT id e he
  cases c with
  | ownerIdx =>
    simp only [specCheck, absSt]
    by_cases h1 : ¬ ic = true ∧ old.owner = evalVal e.owner
    · rw [if_pos h1]
    · rw [if_neg h1]
      by_cases h2 : evalVal e.owner = []
      · simp [h2]
      · simp [h2, ho h2]
  | bossIdx =>
    simp only [specCheck, absSt]
    by_cases h1 : ¬ ic = true ∧ old.boss = evalVal e.boss
    · rw [if_pos h1]
    · rw [if_neg h1]; simp [hb1, hb2]
  | bossCascade => rfl
  | depFk =>
    simp only [specCheck, absSt]
    by_cases h1 : ¬ ic = true ∧ old.dep = evalVal e.dep
    · rw [if_pos h1]
    · rw [if_neg h1]
      by_cases h2 : evalVal e.dep = []
      · have : σ.depNullable = true := by
          cases hn : σ.depNullable with
          | true => rfl
          | false => exact absurd h2 (hI'.depNN hn id e he)
        simp [h2, this]
      · simp [h2, hd h2]

theorem specWrite_ok {σ : Schema} {via : Option Child} {ic : Bool} {s s' : St} {id : Bytes} {e : EntA} (old : Olds)
    (w : Written σ via ic id e s s') (hI' : Inv σ s') : specWrite σ ic old (absSt s) id e = .ok (absSt s') := by
  have habs : ({ absSt s with as := (absSt s).as.insert id e } : SSt) = absSt s' := by
    simp only [absSt, w.as, w.bs]
  unfold specWrite
  simp only [habs]
  rw [List.findSome?_eq_none_iff.2 fun c _ => specCheck_none ic old hI' w.lookup c]

theorem specCheckChild_none {σ : Schema} {s' : St} {id : Bytes} {e : EntA} (c : Child) (ic : Bool) (om og : Bytes)
    (hM' : CInv σ s') (he : s'.as.lookup id = some e) : specCheckChild σ c ic om og (absSt s') e = none := by
  have hm : evalVal (mentorOf σ c e) ≠ [] → s'.bs.contains (evalVal (mentorOf σ c e)) = true := hM'.menT c id e he
  have hg : evalVal (guardOf σ c e) ≠ [] → s'.bs.contains (evalVal (guardOf σ c e)) = true := hM'.guardT c id e he
  have h1 : ¬ (σ.idx c = true ∧ ¬ (¬ ic = true ∧ om = evalVal (mentorOf σ c e)) ∧ evalVal (mentorOf σ c e) ≠ [] ∧
      ¬ (absSt s').bs.contains (evalVal (mentorOf σ c e)) = true) := by
    rintro ⟨_, _, h3, h4⟩; exact h4 (hm h3)
  have h2 : ¬ (σ.fk c = true ∧ ¬ (¬ ic = true ∧ og = evalVal (guardOf σ c e)) ∧ evalVal (guardOf σ c e) ≠ [] ∧
      ¬ (absSt s').bs.contains (evalVal (guardOf σ c e)) = true) := by
    rintro ⟨_, _, h3, h4⟩; exact h4 (hg h3)
  unfold specCheckChild
  simp only
  rw [if_neg h1, if_neg h2]

theorem specWriteC_ok {σ : Schema} {ic : Bool} {s s' : St} {id : Bytes} {e : EntA} {c : Child} (old : Olds) (om og : Bytes)
    (w : Written σ (some c) ic id e s s') (hF' : FullInv σ s') :
    specWriteC σ c ic old om og (absSt s) id e = .ok (absSt s') := by
  unfold specWriteC
  rw [specWrite_ok old w hF'.1]
  simp only [specCheckChild_none c ic om og hF'.2 w.lookup]

theorem mem_closure_referrers (as : Map EntA) (f : EntA → FV) (id k : Bytes) :
    k ∈ closure as (specReferrers as f id) ↔ RemovedVia f as id k := by
  rw [mem_closure]
  constructor
  · rintro (hk | ⟨x, hx, hk⟩)
    · obtain ⟨ex, hx', hfx⟩ := (mem_specReferrers _ _ _ _).1 hk
      exact ⟨k, ex, hx', hfx, Or.inl rfl⟩
    · obtain ⟨ex, hx', hfx⟩ := (mem_specReferrers _ _ _ _).1 hx
      exact ⟨x, ex, hx', hfx, Or.inr hk⟩
  · rintro ⟨x, ex, hx, hfx, hk | hk⟩
    · exact Or.inl (hk ▸ (mem_specReferrers _ _ _ _).2 ⟨ex, hx, hfx⟩)
    · exact Or.inr ⟨x, (mem_specReferrers _ _ _ _).2 ⟨ex, hx, hfx⟩, hk⟩

/-! What the model's delete theorems say about the table `as'` after a delete of rows `R` from `as`
    (`deleteA_exact`, `deleteB_exact`), and what the spec needs of it. -/
section Removed
variable {as as' : Map EntA} {R : Bytes → Prop} (hiff : ∀ k, as'.lookup k = none ↔ as.lookup k = none ∨ R k)
include hiff

theorem lookup_kept (hsub : ∀ k e, as'.lookup k = some e → as.lookup k = some e) {k : Bytes} (hnr : ¬ R k) :
    as.lookup k = as'.lookup k := by
  cases hs' : as'.lookup k with
  | some e' => exact hsub k e' hs'
  | none => exact ((hiff k).1 hs').resolve_right hnr

theorem teq_removeAll (hsub : ∀ k e, as'.lookup k = some e → as.lookup k = some e) {d : List Bytes}
    (hd : ∀ k, k ∈ d ↔ R k) : TEq (removeAll as d) as' := by
  intro k
  rw [lookup_removeAll]
  by_cases hk : k ∈ d
  · rw [if_pos hk]; exact ((hiff k).2 (Or.inr ((hd k).1 hk))).symm
  · rw [if_neg hk]; exact lookup_kept hiff hsub fun h => hk ((hd k).2 h)

/-- the protected entity survives a successful delete, so it is outside the removal set `d` -/
theorem protectedIn_false {σ : Schema} {d : List Bytes} (hd : ∀ k, k ∈ d ↔ R k)
    (hentry : ∀ k, R k → ∃ e, as.lookup k = some e)
    (hkeep : ∀ v e, σ.protect = some v → as.lookup v = some e → as'.lookup v = some e) :
    σ.protectedIn d = false := by
  unfold Schema.protectedIn
  cases hv : σ.protect with
  | none => rfl
  | some v =>
    refine decide_eq_false fun hm => ?_
    have hr := (hd v).1 hm
    obtain ⟨e, he⟩ := hentry v hr
    have := hkeep v e hv he
    rw [(hiff v).2 (Or.inr hr)] at this; cases this

end Removed

theorem spec_agrees_deleteA {σ : Schema} {s s' : St} {id : Bytes} (hI : Inv σ s)
    (h : deleteA σ (fuelOf s) [] s id = .ok s') :
    ∃ ss', specDeleteA σ (absSt s) id = .ok ss' ∧ TEq ss'.as s'.as ∧ TEq ss'.bs s'.bs := by
  obtain ⟨hbs, hsub, hiff⟩ := deleteA_exact σ s s' id hI h
  have hc : (absSt s).as.contains id = true := (deleteA_succ_char (n := s.as.length) h).1
  have hd : ∀ k, k ∈ closure (absSt s).as [id] ↔ (k = id ∨ Reach s.as id k) := fun k => by
    rw [mem_closure]; simp [absSt]
  have hprot : σ.protectedIn (closure (absSt s).as [id]) = false :=
    protectedIn_false hiff hd (fun k hk => hk.elim (fun e => e ▸ (Map.contains_iff _ _).1 hc) Reach.exists_entry)
      fun v e hv => deleteA_keeps_protected hv h
  refine ⟨{ absSt s with as := removeAll s.as (closure s.as [id]) }, ?_, teq_removeAll hiff hsub hd,
    fun k => by rw [hbs]; rfl⟩
  unfold specDeleteA
  rw [if_pos hc, hprot]; rfl

theorem RemovedVia.exists_entry {f : EntA → FV} {as : Map EntA} {id k : Bytes} (h : RemovedVia f as id k) :
    ∃ e, as.lookup k = some e := by
  obtain ⟨x, ex, hx, _, hk | hk⟩ := h
  · exact hk ▸ ⟨ex, hx⟩
  · exact hk.exists_entry

theorem spec_agrees_deleteB {σ : Schema} {s s' : St} {b : Bytes} (hF : FullInv σ s)
    (h : deleteB σ s b = .ok s') :
    ∃ ss', specDeleteBTop σ (absSt s) b = .ok ss' ∧ TEq ss'.as s'.as ∧ TEq ss'.bs s'.bs := by
  have hI : Inv σ s := hF.1
  obtain ⟨hbs, hsub, hiff⟩ := deleteB_exact σ s s' b hI h
  have hb : s.bs.contains b = true := (deleteB_char h).1
  have hbne : b ≠ [] := hI.ne_nilB hb
  have hd := mem_closure_referrers s.as (·.dep) b
  -- a referrer for which the model refuses (`deleteB_refuses`) is absent: the delete succeeded
  have hrefuse := fun href hord => show False by
    have := deleteB_refuses σ s b hI hb href hord
    rw [show step σ s (.deleteB b) = (s', none) by simp only [step, apply, h]] at this; cases this
  -- the table after the dep step of the spec
  let T1 : Map EntA := if σ.depCascade then removeAll s.as (closure s.as (specReferrers s.as (·.dep) b)) else s.as
  have hdep : specDeleteB σ b (absSt s) .depCascade = .ok { absSt s with as := T1 } ∧ TEq T1 s'.as := by
    cases hcas : σ.depCascade
    · have hnil : specReferrers s.as (·.dep) b = [] := (specReferrers_nil_iff _ _ _).2 fun k e he hf =>
        hrefuse (Or.inr ⟨hcas, k, e, he, hf⟩) (by rw [hcas]; simp)
      rw [show T1 = s.as from if_neg (by rw [hcas]; exact Bool.false_ne_true)]
      refine ⟨?_, fun k => lookup_kept hiff hsub fun ⟨x, ex, hx, hfx, _⟩ => (specReferrers_nil_iff _ _ _).1 hnil x ex hx hfx⟩
      simp only [specDeleteB, absSt, hcas, hnil, Bool.false_eq_true, if_false, ne_eq, not_true_eq_false]
    · rw [show T1 = removeAll s.as (closure s.as (specReferrers s.as (·.dep) b)) from if_pos hcas]
      refine ⟨?_, teq_removeAll hiff hsub hd⟩
      simp only [specDeleteB, absSt, hcas, if_true, Bool.false_eq_true, if_false,
        protectedIn_false hiff hd (fun _ => RemovedVia.exists_entry) fun v e hv => deleteB_keeps_protected hv h]
  obtain ⟨hdep, hT1⟩ := hdep
  have hT1nil : ∀ f : EntA → FV, (∀ k e, s'.as.lookup k = some e → f e ≠ some b) → specReferrers T1 f b = [] :=
    fun f hf => (specReferrers_nil_iff _ _ _).2 fun k e he => hf k e (hT1 k ▸ he)
  have hown : ∀ ss : SSt, specReferrers ss.as (·.owner) b = [] → specDeleteB σ b ss .thingsRestrict = .ok ss :=
    fun ss hss => if_neg (not_not_intro hss)
  have hfold : (orderB σ).foldlM (specDeleteB σ b) (absSt s) = .ok { absSt s with as := T1 } := by
    cases hdf : σ.depFirst
    · -- the restrict check runs first: no owner referrer at all
      rw [foldB_depLast hdf, hown]
      · exact hdep
      · exact (specReferrers_nil_iff _ _ _).2 fun k e he hf =>
          hrefuse (Or.inl ⟨k, e, he, by rw [hf]; rfl, hbne⟩) (by rw [hdf]; simp)
    · -- it runs after the cascade: no owner referrer survives
      rw [foldB_depFirst hdf, hdep]
      exact hown _ (hT1nil _ fun k e he hf =>
        have hv : evalVal e.owner = b := by rw [hf]; rfl
        (deleteB_no_orphans σ s s' b hI h k e he).1 (hv ▸ hbne) hv)
  have hchild : ∀ c, specChildRestrict σ T1 b c = false := fun c => by
    have hno := fun k e he => deleteB_no_orphans_child hF h k e he c
    simp [specChildRestrict, hT1nil _ fun k e he => (hno k e he).1, hT1nil _ fun k e he => (hno k e he).2]
  refine ⟨{ as := T1, bs := s.bs.erase b }, ?_, hT1, fun k => by rw [hbs]⟩
  unfold specDeleteBTop
  rw [if_pos (show (absSt s).bs.contains b = true from hb), hfold]
  show (if (specChildRestrict σ T1 b .c1 || specChildRestrict σ T1 b .c2) = true then _ else _) = _
  rw [hchild, hchild]; rfl

theorem spec_agrees_on_success {σ : Schema} {s s' : St} (op : Op) (hF : FullInv σ s) (h : apply σ s op = .ok s') :
    ∃ ss', specApply σ (absSt s) op = .ok ss' ∧ TEq ss'.as s'.as ∧ TEq ss'.bs s'.bs := by
  have hI : Inv σ s := hF.1
  have hF' : FullInv σ s' := apply_full op hF h
  cases op with
  | createB id =>
    obtain ⟨hid, hc, rfl⟩ := createB_ok h
    refine ⟨{ absSt s with bs := s.bs.insert id () }, ?_, fun _ => rfl, fun _ => rfl⟩
    simp [specApply, absSt, hid, hc]
  | createA id e =>
    obtain ⟨hnone, w⟩ := createA_written h
    refine ⟨absSt s', ?_, fun _ => rfl, fun _ => rfl⟩
    have : ¬ (id = [] ∨ (absSt s).as.contains id = true) := by
      rintro (h1 | h1)
      · exact w.ne h1
      · obtain ⟨v, hv⟩ := (Map.contains_iff _ _).1 h1
        rw [absSt_as, hnone] at hv; cases hv
    simp only [specApply, if_neg this]
    exact specWrite_ok {} w hF'.1
  | updateA id e mo mb md =>
    obtain ⟨cur, hcur, w⟩ := updateA_written h
    refine ⟨absSt s', ?_, fun _ => rfl, fun _ => rfl⟩
    simp only [specApply, if_neg w.ne, absSt_as, hcur]
    exact specWrite_ok _ w hF'.1
  | deleteA id => exact spec_agrees_deleteA hI h
  | deleteC id => exact spec_agrees_deleteA (id := id) hI h
  | createC c id e x =>
    obtain ⟨hnoext, w⟩ := createC_written h
    refine ⟨absSt s', ?_, fun _ => rfl, fun _ => rfl⟩
    simp only [specApply, if_neg w.ne, absSt_as]
    cases hl : s.as.lookup id with
    | none =>
      simp only [createdEnt, hl] at w
      exact specWriteC_ok {} [] [] w hF'
    | some cur =>
      simp only [hnoext cur hl, Option.isSome_none, Bool.false_eq_true, if_false]
      simp only [createdEnt, hl] at w
      exact specWriteC_ok {} [] [] w hF'
  | updateC c id e x mo mb md mt mm mg =>
    obtain ⟨cur, cx, hcur, hx, w⟩ := updateC_written h
    refine ⟨absSt s', ?_, fun _ => rfl, fun _ => rfl⟩
    simp only [specApply, if_neg w.ne, absSt_as, hcur, hx]
    exact specWriteC_ok _ _ _ w hF'
  | deleteB b => exact spec_agrees_deleteB hF h
  | deleteAV id v =>
    exact spec_agrees_deleteA (σ := σ.withProtect v) (hI.of_schema rfl) h
  | deleteBV id v =>
    exact spec_agrees_deleteB (σ := σ.withProtect v) ⟨hI.of_schema rfl, hF.2.of_schema rfl rfl⟩ h

end StorageModel.C04
