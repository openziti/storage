import StorageModel.C04.Model
/-
  C04 — invariants and the generic lemmas about one back-reference index.

  `SetExact f P as m`: the back-reference map `m` lists, under target `t`, exactly the entities of
  table `as` whose fk field `f` evaluates to `t` — except the *pending* entities `P` (an entity is
  pending between the moment `ProcessBeforeDelete` / the first half of `ProcessAfterUpdate` removed
  its back-reference and the moment its bucket is deleted / its new back-reference is written).
  With `P = ∅` this is the property's "back-reference set = exactly the referrers, both directions".
-/
namespace StorageModel.C04
open StorageModel

def SetExact (f : EntA → FV) (P : Bytes → Prop) (as : Map EntA) (m : Map (List Bytes)) : Prop :=
  ∀ t k, k ∈ (m.lookup t).getD [] ↔ ∃ e, as.lookup k = some e ∧ evalVal (f e) = t ∧ t ≠ [] ∧ ¬ P k

def Targets (f : EntA → FV) (as : Map EntA) (tgt : Bytes → Bool) : Prop :=
  ∀ k e, as.lookup k = some e → evalVal (f e) ≠ [] → tgt (evalVal (f e)) = true

def NonNull (f : EntA → FV) (as : Map EntA) : Prop :=
  ∀ k e, as.lookup k = some e → evalVal (f e) ≠ []

def none' : Bytes → Prop := fun _ => False
def plus (P : Bytes → Prop) (id : Bytes) : Bytes → Prop := fun k => P k ∨ k = id

theorem plus_idem (P : Bytes → Prop) (id k : Bytes) : plus (plus P id) id k ↔ plus P id k := by
  unfold plus; rw [or_assoc, or_self]

theorem SetExact.mem_iff {f : EntA → FV} {as : Map EntA} {m : Map (List Bytes)} (h : SetExact f none' as m)
    (t k : Bytes) : k ∈ (m.lookup t).getD [] ↔ ∃ e, as.lookup k = some e ∧ evalVal (f e) = t ∧ t ≠ [] :=
  (h t k).trans ⟨fun ⟨e, a, b, c, _⟩ => ⟨e, a, b, c⟩, fun ⟨e, a, b, c⟩ => ⟨e, a, b, c, fun hp => hp⟩⟩

theorem SetExact.mem_of_lookup {f : EntA → FV} {as : Map EntA} {m : Map (List Bytes)} {id : Bytes} {e : EntA}
    (h : SetExact f none' as m) (he : as.lookup id = some e) (t : Bytes) :
    id ∈ (m.lookup t).getD [] ↔ evalVal (f e) = t ∧ t ≠ [] := by
  rw [h.mem_iff t id, he]
  exact ⟨fun ⟨_, h1, h2⟩ => by cases h1; exact h2, fun h2 => ⟨e, rfl, h2⟩⟩

/-- `DeleteListEntry` of `id` under its current fk value `o` makes `id` pending -/
theorem SetExact.del {f : EntA → FV} {P : Bytes → Prop} {as : Map EntA} {m : Map (List Bytes)} {id o : Bytes}
    (h : SetExact f P as m) (ho : ∀ e, as.lookup id = some e → evalVal (f e) = o) :
    SetExact f (plus P id) as (m.insert o (setDel id ((m.lookup o).getD []))) := by
  intro t k
  have ht := h t k
  simp only [Map.lookup_insert, plus]
  by_cases hto : t = o
  · subst hto
    simp only [if_true, Option.getD_some, mem_setDel]
    constructor
    · rintro ⟨hk, hm⟩
      obtain ⟨e, he, h1, h2, h3⟩ := ht.1 hm
      exact ⟨e, he, h1, h2, fun hc => hc.elim h3 hk⟩
    · rintro ⟨e, he, h1, h2, h3⟩
      exact ⟨fun hc => h3 (Or.inr hc), ht.2 ⟨e, he, h1, h2, fun hc => h3 (Or.inl hc)⟩⟩
  · simp only [hto, if_false]
    constructor
    · intro hm
      obtain ⟨e, he, h1, h2, h3⟩ := ht.1 hm
      refine ⟨e, he, h1, h2, fun hc => hc.elim h3 ?_⟩
      intro hk; subst hk
      exact hto ((ho e he).symm.trans h1).symm
    · rintro ⟨e, he, h1, h2, h3⟩
      exact ht.2 ⟨e, he, h1, h2, fun hc => h3 (Or.inl hc)⟩

/-- the index map untouched, the table and the pending set changed at the one key `id`: what `id` contributes
    to the sets has to be the same before and after -/
theorem SetExact.at_key {f : EntA → FV} {P P' : Bytes → Prop} {as as' : Map EntA} {m : Map (List Bytes)} {id : Bytes}
    (h : SetExact f P as m) (hne : ∀ k, k ≠ id → as'.lookup k = as.lookup k ∧ (P' k ↔ P k))
    (hid : ∀ t, (∃ e, as.lookup id = some e ∧ evalVal (f e) = t ∧ t ≠ [] ∧ ¬ P id) ↔
      ∃ e, as'.lookup id = some e ∧ evalVal (f e) = t ∧ t ≠ [] ∧ ¬ P' id) :
    SetExact f P' as' m := by
  intro t k
  rw [h t k]
  by_cases hk : k = id
  · rw [hk]; exact hid t
  · rw [(hne k hk).1, (hne k hk).2]

/-- an entity no set lists can be made pending: because its fk value is null (`del_null`), because it has no row
    (`pend_absent`), because the target of its value is gone and took its set along (`idxDelB_spec`) -/
theorem SetExact.pend_unlisted {f : EntA → FV} {P : Bytes → Prop} {as : Map EntA} {m : Map (List Bytes)} {id : Bytes}
    (h : SetExact f P as m) (hno : ∀ t, id ∉ (m.lookup t).getD []) : SetExact f (plus P id) as m :=
  h.at_key (fun _ hk => ⟨rfl, or_iff_left hk⟩) fun t =>
    ⟨fun hx => absurd ((h t id).2 hx) (hno t), fun ⟨_, _, _, _, h3⟩ => absurd (Or.inr rfl) h3⟩

theorem SetExact.del_null {f : EntA → FV} {P : Bytes → Prop} {as : Map EntA} {m : Map (List Bytes)} {id : Bytes}
    (h : SetExact f P as m) (ho : ∀ e, as.lookup id = some e → evalVal (f e) = []) :
    SetExact f (plus P id) as m :=
  h.pend_unlisted fun t hm => have ⟨e, he, h1, h2, _⟩ := (h t id).1 hm; h2 ((ho e he).symm.trans h1).symm

theorem SetExact.insert_pending {f : EntA → FV} {Q : Bytes → Prop} {as : Map EntA} {m : Map (List Bytes)} {id : Bytes}
    (h : SetExact f Q as m) (hq : Q id) (e' : EntA) : SetExact f Q (as.insert id e') m :=
  h.at_key (fun k hk => ⟨by rw [Map.lookup_insert, if_neg hk], Iff.rfl⟩) fun _ =>
    ⟨fun ⟨_, _, _, _, h3⟩ => absurd hq h3, fun ⟨_, _, _, _, h3⟩ => absurd hq h3⟩

/-- `bucket.DeleteEntity(id)` of an entity no set lists — it is pending, or its fk value is null: the row goes, and
    with it whatever the pending set said about `id` -/
theorem SetExact.erase_unlisted {f : EntA → FV} {P P' : Bytes → Prop} {as : Map EntA} {m : Map (List Bytes)} {id : Bytes}
    (h : SetExact f P' as m) (hP : ∀ k, k ≠ id → (P k ↔ P' k))
    (hid : P' id ∨ ∀ e, as.lookup id = some e → evalVal (f e) = []) : SetExact f P (as.erase id) m :=
  h.at_key (fun k hk => ⟨by rw [Map.lookup_erase, if_neg hk], hP k hk⟩) fun _ =>
    ⟨fun ⟨e, he, h1, h2, h3⟩ => hid.elim (absurd · h3) fun hn => absurd ((hn e he).symm.trans h1).symm h2,
     fun ⟨_, he, _⟩ => by rw [Map.lookup_erase, if_pos rfl] at he; cases he⟩

theorem SetExact.erase {f : EntA → FV} {P : Bytes → Prop} {as : Map EntA} {m : Map (List Bytes)} {id : Bytes}
    (h : SetExact f (plus P id) as m) : SetExact f P (as.erase id) m :=
  h.erase_unlisted (fun _ hk => (or_iff_left hk).symm) (Or.inl (Or.inr rfl))

theorem SetExact.pend_absent {f : EntA → FV} {P : Bytes → Prop} {as : Map EntA} {m : Map (List Bytes)} {id : Bytes}
    (h : SetExact f P as m) (ha : as.lookup id = none) : SetExact f (plus P id) as m :=
  h.pend_unlisted fun t hm => have ⟨_, he, _⟩ := (h t id).1 hm; nomatch ha.symm.trans he

/-- `SetListEntry` of the pending `id` under its new fk value `n` completes the index -/
theorem SetExact.add {f : EntA → FV} {as : Map EntA} {m : Map (List Bytes)} {id n : Bytes} {e : EntA}
    (h : SetExact f (plus none' id) as m) (he : as.lookup id = some e) (hn : evalVal (f e) = n) (hne : n ≠ []) :
    SetExact f none' as (m.insert n (setIns id ((m.lookup n).getD []))) := by
  intro t k
  have ht := h t k
  simp only [Map.lookup_insert, none', not_false_eq_true, and_true]
  simp only [plus, none', false_or] at ht
  by_cases htn : t = n
  · subst htn
    simp only [if_true, Option.getD_some, mem_setIns]
    constructor
    · rintro (hk | hm)
      · subst hk; exact ⟨e, he, hn, hne⟩
      · obtain ⟨e', he', h1, h2, _⟩ := ht.1 hm; exact ⟨e', he', h1, h2⟩
    · rintro ⟨e', he', h1, h2⟩
      by_cases hk : k = id
      · exact Or.inl hk
      · exact Or.inr (ht.2 ⟨e', he', h1, h2, hk⟩)
  · simp only [htn, if_false]
    constructor
    · intro hm; obtain ⟨e', he', h1, h2, _⟩ := ht.1 hm; exact ⟨e', he', h1, h2⟩
    · rintro ⟨e', he', h1, h2⟩
      refine ht.2 ⟨e', he', h1, h2, ?_⟩
      intro hk; subst hk
      rw [he] at he'; cases he'
      exact htn (h1.symm.trans hn)

theorem SetExact.add_null {f : EntA → FV} {as : Map EntA} {m : Map (List Bytes)} {id : Bytes}
    (h : SetExact f (plus none' id) as m) (hn : ∀ e, as.lookup id = some e → evalVal (f e) = []) :
    SetExact f none' as m :=
  h.at_key (fun _ hk => ⟨rfl, (or_iff_left hk).symm⟩) fun _ =>
    ⟨fun ⟨_, _, _, _, h3⟩ => absurd (Or.inr rfl) h3, fun ⟨e, he, h1, h2, _⟩ => absurd ((hn e he).symm.trans h1).symm h2⟩

theorem SetExact.insert_same {f : EntA → FV} {P : Bytes → Prop} {as : Map EntA} {m : Map (List Bytes)} {id : Bytes}
    {e' : EntA} (h : SetExact f P as m)
    (hsame : ∀ cur, as.lookup id = some cur → evalVal (f cur) = evalVal (f e'))
    (hnew : as.lookup id = none → evalVal (f e') = []) : SetExact f P (as.insert id e') m := by
  refine h.at_key (fun k hk => ⟨by rw [Map.lookup_insert, if_neg hk], Iff.rfl⟩) fun t => ?_
  rw [Map.lookup_insert, if_pos rfl]
  constructor
  · rintro ⟨e, he, h1⟩; exact ⟨e', rfl, hsame e he ▸ h1⟩
  · rintro ⟨e, he, h1, h2, h3⟩
    cases he
    cases hl : as.lookup id with
    | none => exact absurd ((hnew hl).symm.trans h1).symm h2
    | some cur => exact ⟨cur, rfl, (hsame cur hl).trans h1, h2, h3⟩

theorem SetExact.same_value {f : EntA → FV} {P : Bytes → Prop} {as : Map EntA} {m : Map (List Bytes)} {id : Bytes}
    {cur e' : EntA} (h : SetExact f P as m) (hc : as.lookup id = some cur) (hv : evalVal (f cur) = evalVal (f e')) :
    SetExact f P (as.insert id e') m :=
  h.insert_same (fun c hc' => by rw [hc] at hc'; cases hc'; exact hv) fun hn => by rw [hc] at hn; cases hn

theorem SetExact.congr {f : EntA → FV} {P Q : Bytes → Prop} {as : Map EntA} {m : Map (List Bytes)}
    (hpq : ∀ k, P k ↔ Q k) (h : SetExact f P as m) : SetExact f Q as m := by
  intro t k
  rw [h t k, hpq k]

structure GInv (σ : Schema) (P : Bytes → Prop) (s : St) : Prop where
  things : SetExact (·.owner) P s.as s.things
  minions : SetExact (·.boss) P s.as s.minions
  ownerT : Targets (·.owner) s.as s.bs.contains
  /-- a pending entity may (transiently) refer to a boss that is already gone: its own bucket is
      about to be deleted by the `DeleteById` call that made it pending -/
  bossT : ∀ k e, s.as.lookup k = some e → ¬ P k → evalVal e.boss ≠ [] → s.as.contains (evalVal e.boss) = true
  depT : Targets (·.dep) s.as s.bs.contains
  bossNN : NonNull (·.boss) s.as
  depNN : σ.depNullable = false → NonNull (·.dep) s.as
  thingsK : ∀ t, s.things.lookup t ≠ none → s.bs.contains t = true
  minionsK : ∀ t, s.minions.lookup t ≠ none → s.as.contains t = true
  nonEmpty : s.as.lookup [] = none
  nonEmptyB : s.bs.lookup [] = none

/-- **the C04 invariant**: both back-reference indexes are exact, every stored reference names an
    existing target, null only where the field is nullable -/
abbrev Inv (σ : Schema) (s : St) : Prop := GInv σ none' s

theorem GInv.bossTargets {σ : Schema} {s : St} (h : GInv σ none' s) : Targets (·.boss) s.as s.as.contains :=
  fun k e he hne => h.bossT k e he (fun hp => hp) hne

theorem GInv.ne_nilB {σ : Schema} {P : Bytes → Prop} {s : St} {b : Bytes} (h : GInv σ P s)
    (hb : s.bs.contains b = true) : b ≠ [] := by
  rintro rfl
  obtain ⟨v, hv⟩ := (Map.contains_iff _ _).1 hb
  rw [h.nonEmptyB] at hv; cases hv

theorem GInv.ne_nilA {σ : Schema} {P : Bytes → Prop} {s : St} {id : Bytes} (h : GInv σ P s)
    (hid : s.as.contains id = true) : id ≠ [] := by
  rintro rfl
  obtain ⟨v, hv⟩ := (Map.contains_iff _ _).1 hid
  rw [h.nonEmpty] at hv; cases hv

theorem GInv.congr {σ : Schema} {P Q : Bytes → Prop} {s : St} (hpq : ∀ k, P k ↔ Q k) (h : GInv σ P s) : GInv σ Q s :=
  ⟨h.things.congr hpq, h.minions.congr hpq, h.ownerT, fun k e he hq => h.bossT k e he (fun hp => hq ((hpq k).1 hp)),
    h.depT, h.bossNN, h.depNN, h.thingsK, h.minionsK, h.nonEmpty, h.nonEmptyB⟩

theorem GInv.toInv {σ : Schema} {s : St} (h : GInv σ (· ∈ ([] : List Bytes)) s) : Inv σ s :=
  h.congr (fun k => by simp [none'])

theorem GInv.of_schema {σ σ' : Schema} {P : Bytes → Prop} {s : St} (h : GInv σ' P s)
    (hn : σ'.depNullable = σ.depNullable) : GInv σ P s :=
  ⟨h.things, h.minions, h.ownerT, h.bossT, h.depT, h.bossNN, fun hf => h.depNN (hn.trans hf), h.thingsK, h.minionsK,
    h.nonEmpty, h.nonEmptyB⟩

/-- the part of the invariant that speaks about the fks DECLARED BY the child stores C (`.c1`) and C2 (`.c2`):
    the back-reference sets `mentees1` / `mentees2` are exact for the declared mentor indexes (with a pending set
    per index: an entity is pending for index `c` between `c`'s `ProcessBeforeDelete` and the removal of its
    bucket), declared mentor / guard values name existing B entities, set buckets only under existing B entities.
    `mentorOf` / `guardOf` are `none` for a child store that does not declare the fk, so the statements are
    uniform in the schema. -/
structure MInv (σ : Schema) (P : Child → Bytes → Prop) (s : St) : Prop where
  men : ∀ c, SetExact (mentorOf σ c) (P c) s.as (s.mentees c)
  menT : ∀ c, Targets (mentorOf σ c) s.as s.bs.contains
  guardT : ∀ c, Targets (guardOf σ c) s.as s.bs.contains
  menK : ∀ c t, (s.mentees c).lookup t ≠ none → s.bs.contains t = true

abbrev CInv (σ : Schema) (s : St) : Prop := MInv σ (fun _ => none') s

/-- **the whole C04 invariant**: A's fks (`Inv`) and the child-declared fks (`CInv`) -/
def FullInv (σ : Schema) (s : St) : Prop := Inv σ s ∧ CInv σ s

theorem FullInv.targets {σ : Schema} {s : St} {k : Bytes} {e : EntA} (hF : FullInv σ s) (he : s.as.lookup k = some e) :
    (evalVal e.owner ≠ [] → s.bs.contains (evalVal e.owner) = true) ∧
    (evalVal e.boss ≠ [] ∧ s.as.contains (evalVal e.boss) = true) ∧
    (evalVal e.dep ≠ [] → s.bs.contains (evalVal e.dep) = true) ∧
    (σ.depNullable = false → evalVal e.dep ≠ []) ∧
    (∀ c, (evalVal (mentorOf σ c e) ≠ [] → s.bs.contains (evalVal (mentorOf σ c e)) = true) ∧
          (evalVal (guardOf σ c e) ≠ [] → s.bs.contains (evalVal (guardOf σ c e)) = true)) :=
  have h := hF.1
  ⟨h.ownerT k e he, ⟨h.bossNN k e he, h.bossT k e he (fun hp => hp) (h.bossNN k e he)⟩, h.depT k e he,
    fun hn => h.depNN hn k e he, fun c => ⟨hF.2.menT c k e he, hF.2.guardT c k e he⟩⟩

def Sub (st s : St) : Prop := ∀ k e, st.as.lookup k = some e → s.as.lookup k = some e

theorem Sub.refl (s : St) : Sub s s := fun _ _ h => h
theorem Sub.trans {a b c : St} (h1 : Sub a b) (h2 : Sub b c) : Sub a c := fun k e h => h2 k e (h1 k e h)

theorem Sub.of_as {s s' : St} (h : s'.as = s.as) : Sub s' s := fun _ _ he => h ▸ he

theorem Sub.erase (s : St) (id : Bytes) (m : Map (List Bytes)) : Sub { s with as := s.as.erase id, minions := m } s :=
  fun _ _ he => (Map.lookup_erase_some he).2

end StorageModel.C04
