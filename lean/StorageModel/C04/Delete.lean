import StorageModel.C04.Write
/-
  C04 — the recursion of `DeleteById`, no invariant anywhere: normal forms of the cascade loop (`cascadeOver_cons`), of a
  round (`passA_eq`, `rounds_cons`) and of B's constraints in either registration order; each level of the two deletes
  read off its outcome (`…_char`); what the loop, the rounds and the whole delete keep (`cascadeOver_pres`, `rounds_pres`,
  `deleteA_pres`, `depStep_pres`) and what they leave (`cascadeOver_leaves`).
-/
namespace StorageModel.C04
open StorageModel

theorem isReferrer_iff (s : St) (f : EntA → FV) (id x : Bytes) :
    isReferrer s f id x = true ↔ ∃ e, s.as.lookup x = some e ∧ f e = some id := by
  unfold isReferrer referrerMatch evalString
  cases hl : s.as.lookup x with
  | none => simp
  | some e =>
    cases hf : f e with
    | none => simp [hf]
    | some v => simp [hf]

theorem isReferrer_as {s s' : St} (h : s'.as = s.as) (f : EntA → FV) (id x : Bytes) :
    isReferrer s' f id x = isReferrer s f id x := by
  unfold isReferrer; rw [h]

theorem mem_referrers (s : St) (f : EntA → FV) (id x : Bytes) :
    x ∈ referrers s f id ↔ isReferrer s f id x = true := by
  unfold referrers
  rw [mem_sortB, List.mem_filter]
  constructor
  · exact fun h => h.2
  · intro h
    refine ⟨?_, h⟩
    obtain ⟨e, he, _⟩ := (isReferrer_iff s f id x).1 h
    exact Map.mem_keys_of_lookup he

theorem evalVal_eq_some {v : FV} {id : Bytes} (h : evalVal v = id) (hid : id ≠ []) : v = some id := by
  cases v with
  | none => exact absurd h.symm hid
  | some w => simp [evalVal] at h; rw [h]

theorem cascadeOver_cons (del : St → Bytes → Res) (f : EntA → FV) (id : Bytes) (skip : List Bytes) (c : Bytes)
    (rest : List Bytes) (st : St) :
    cascadeOver del f id skip (c :: rest) st =
      if c ∉ skip ∧ isReferrer st f id c = true then del st c >>= cascadeOver del f id skip rest
      else cascadeOver del f id skip rest st := by
  simp only [cascadeOver, List.foldlM_cons]
  by_cases hcs : c ∈ skip
  · rw [if_pos hcs, if_neg fun h => h.1 hcs]; rfl
  · rw [if_neg hcs]
    by_cases hr : isReferrer st f id c = true
    · rw [if_pos hr, if_pos ⟨hcs, hr⟩]; rfl
    · rw [if_neg hr, if_neg fun h => hr h.2]; rfl

theorem cascadeOver_pres {R : St → Prop} {del : St → Bytes → Res} {f : EntA → FV} {id : Bytes} {skip : List Bytes}
    (hdel : ∀ st x st', x ∉ skip → isReferrer st f id x = true → R st → del st x = .ok st' → R st') :
    ∀ (cands : List Bytes) (st st' : St), R st → cascadeOver del f id skip cands st = .ok st' → R st' := by
  intro cands
  induction cands with
  | nil => intro st st' hR h; cases h; exact hR
  | cons c rest ih =>
    intro st st' hR h
    rw [cascadeOver_cons] at h
    split at h
    · next hc =>
      obtain ⟨st1, h1, h2⟩ := bind_ok.1 h
      exact ih st1 st' (hdel st c st1 hc.1 hc.2 hR h1) h2
    · exact ih st st' hR h

theorem cascadeOver_error {R : St → Prop} {del : St → Bytes → Res} {f : EntA → FV} {id : Bytes} {skip : List Bytes}
    {e : Err} (hdel : ∀ st x st', R st → del st x = .ok st' → R st') :
    ∀ (cands : List Bytes) (st : St), R st → cascadeOver del f id skip cands st = .error e →
      ∃ st' x, R st' ∧ x ∉ skip ∧ isReferrer st' f id x = true ∧ del st' x = .error e := by
  intro cands
  induction cands with
  | nil => intro st _ h; cases h
  | cons c rest ih =>
    intro st hR h
    rw [cascadeOver_cons] at h
    split at h
    · next hc =>
      rcases bind_error.1 h with h1 | ⟨st1, h1, h2⟩
      · exact ⟨st, c, hR, hc.1, hc.2, h1⟩
      · exact ih st1 (hdel st c st1 hR h1) h2
    · exact ih st hR h

/-- loop invariant: whatever refers to `id` is stepped over or still to come (a candidate that is deleted at its turn is
    gone, and deletes only remove rows) -/
theorem cascadeOver_leaves {del : St → Bytes → Res} {f : EntA → FV} {id : Bytes} {skip : List Bytes}
    (hdel : ∀ st x st', del st x = .ok st' → Sub st' st ∧ st'.as.lookup x = none) :
    ∀ (cands : List Bytes) (st st' : St), (∀ x, isReferrer st f id x = true → x ∈ skip ∨ x ∈ cands) →
      cascadeOver del f id skip cands st = .ok st' → ∀ x, isReferrer st' f id x = true → x ∈ skip := by
  intro cands
  induction cands with
  | nil => intro st st' hall h; cases h; exact fun x hr => (hall x hr).resolve_right List.not_mem_nil
  | cons c rest ih =>
    intro st st' hall h
    rw [cascadeOver_cons] at h
    split at h
    · obtain ⟨st1, h1, h2⟩ := bind_ok.1 h
      obtain ⟨hsub, hgone⟩ := hdel st c st1 h1
      refine ih st1 st' (fun x hr => ?_) h2
      obtain ⟨e, he, hf⟩ := (isReferrer_iff st1 f id x).1 hr
      refine (hall x ((isReferrer_iff st f id x).2 ⟨e, hsub x e he, hf⟩)).imp_right fun h =>
        (List.mem_cons.1 h).resolve_left ?_
      rintro rfl
      exact nomatch hgone.symm.trans he
    · next hc =>
      refine ih st st' (fun x hr => (hall x hr).elim Or.inl fun h => ?_) h
      rcases List.mem_cons.1 h with rfl | h
      · exact Or.inl (Decidable.not_not.1 fun hcs => hc ⟨hcs, hr⟩)
      · exact Or.inr h

theorem cascadeOver_referrers {del : St → Bytes → Res} {f : EntA → FV} {id : Bytes} {skip : List Bytes} {st st' : St}
    (hdel : ∀ st x st', del st x = .ok st' → Sub st' st ∧ st'.as.lookup x = none)
    (h : cascadeOver del f id skip (referrers st f id) st = .ok st') (x : Bytes)
    (hr : isReferrer st' f id x = true) : x ∈ skip :=
  cascadeOver_leaves hdel _ st st' (fun x hx => Or.inr ((mem_referrers st f id x).2 hx)) h x hr

theorem ownerDel_eq (del : List Bytes → St → Bytes → Res) (prog : List Bytes) (id : Bytes) (s : St) :
    beforeDeleteA del prog id s .ownerIdx =
      .ok { s with things := idxDelB s.bs.contains (fieldOf s id (·.owner)) id s.things } := by
  simp only [beforeDeleteA]
  generalize fieldOf s id (fun x => x.owner) = v
  simp only [idxDelB, thingsDel]
  by_cases h2 : v = [] <;> by_cases h4 : s.bs.contains v = true <;> simp [h2, h4]

theorem bossDel_eq (del : List Bytes → St → Bytes → Res) (prog : List Bytes) (id : Bytes) (s : St) :
    beforeDeleteA del prog id s .bossIdx =
      .ok { s with minions := idxDelB s.as.contains (fieldOf s id (·.boss)) id s.minions } := by
  simp only [beforeDeleteA]
  generalize fieldOf s id (fun x => x.boss) = v
  simp only [idxDelB, minionsDel]
  by_cases h2 : v = [] <;> by_cases h4 : s.as.contains v = true <;> simp [h2, h4]

/-- the state after the two `ProcessBeforeDelete` index steps for `id` -/
def preDelete (s : St) (id : Bytes) : St :=
  { s with things := idxDelB s.bs.contains (fieldOf s id (·.owner)) id s.things,
           minions := idxDelB s.as.contains (fieldOf s id (·.boss)) id s.minions }

/-- a round of A's `ProcessBeforeDelete` constraints (`passA`), whatever the constraint order: the two index
    steps — which cannot fail —, then the cascade loop -/
theorem passA_eq (σ : Schema) (del : List Bytes → St → Bytes → Res) (prog : List Bytes) (id : Bytes) (s : St) :
    passA σ del prog id s =
      cascadeOver (del (mark prog id)) (·.boss) id (mark prog id) (referrers (preDelete s id) (·.boss) id)
        (preDelete s id) := by
  have okb : ∀ (a : St) (f : St → Res), (Except.ok a >>= f) = f a := fun _ _ => rfl
  have bpure : ∀ (x : Res), (x >>= fun v => pure v) = x := by intro x; cases x <;> rfl
  have hdep : ∀ st, beforeDeleteA del prog id st .depFk = .ok st := fun st => rfl
  have hcasc : ∀ st, beforeDeleteA del prog id st .bossCascade =
      cascadeOver (del (mark prog id)) (·.boss) id (mark prog id) (referrers st (·.boss) id) st := fun st => rfl
  unfold passA orderA
  cases σ.depFirst
  · simp only [Bool.false_eq_true, if_false, List.foldlM_cons, List.foldlM_nil]
    rw [ownerDel_eq, okb, bossDel_eq, okb, hcasc]
    have : (fun s' => beforeDeleteA del prog id s' CA.depFk >>= fun s' => pure s') = fun v => pure v := by
      funext s'; rw [hdep]; rfl
    rw [this, bpure]; rfl
  · simp only [if_true, List.foldlM_cons, List.foldlM_nil]
    rw [hdep, okb, ownerDel_eq, okb, bossDel_eq, okb, hcasc, bpure]; rfl

theorem rounds_cons (σ : Schema) (del : List Bytes → St → Bytes → Res) (prog : List Bytes) (id : Bytes) (s : St)
    (r : Option Child) (rest : List (Option Child)) :
    (r :: rest).foldlM (roundA σ del prog id) s =
      passA σ del prog id s >>= fun s3 => rest.foldlM (roundA σ del prog id) (afterRound σ id s3 r) := by
  simp only [List.foldlM_cons, roundA]
  cases passA σ del prog id s <;> rfl

/-- same tables and same A-declared index maps — everything `GInv` speaks about -/
def GEq (s s' : St) : Prop := s'.as = s.as ∧ s'.bs = s.bs ∧ s'.things = s.things ∧ s'.minions = s.minions

theorem GEq.refl (s : St) : GEq s s := ⟨rfl, rfl, rfl, rfl⟩

theorem GEq.trans {a b c : St} (h1 : GEq a b) (h2 : GEq b c) : GEq a c :=
  ⟨h2.1.trans h1.1, h2.2.1.trans h1.2.1, h2.2.2.1.trans h1.2.2.1, h2.2.2.2.trans h1.2.2.2⟩

theorem GInv.of_geq {σ : Schema} {P : Bytes → Prop} {s s' : St} (h : GInv σ P s) (e : GEq s s') : GInv σ P s' := by
  obtain ⟨as', bs', th', mi', m1', m2'⟩ := s'
  obtain ⟨as, bs, th, mi, m1, m2⟩ := s
  obtain ⟨a, b, c, d⟩ := e
  simp only at a b c d
  subst a b c d
  exact ⟨h.things, h.minions, h.ownerT, h.bossT, h.depT, h.bossNN, h.depNN, h.thingsK, h.minionsK, h.nonEmpty, h.nonEmptyB⟩

theorem setMentees_geq (s : St) (c : Child) (m : Map (List Bytes)) : GEq s (s.setMentees c m) := by
  cases c <;> exact ⟨rfl, rfl, rfl, rfl⟩

theorem childBeforeDelete_geq (σ : Schema) (c : Child) (id : Bytes) (s : St) : GEq s (childBeforeDelete σ c id s) := by
  unfold childBeforeDelete
  split
  · exact setMentees_geq _ _ _
  · exact GEq.refl _

theorem afterRound_geq {σ : Schema} {s3 : St} {id : Bytes} (r : Option Child) :
    GEq s3 (afterRound σ id s3 r) := by
  cases r with
  | none => exact GEq.refl _
  | some c => exact childBeforeDelete_geq σ c id s3

/-- the rounds of one `DeleteById` keep whatever every pass keeps and the child stores' own steps cannot see -/
theorem rounds_pres {σ : Schema} {del : List Bytes → St → Bytes → Res} {prog : List Bytes} {id : Bytes} {R : St → Prop}
    (hgeq : ∀ st st', GEq st st' → R st → R st')
    (hpass : ∀ st s3, R st → passA σ del prog id st = .ok s3 → R s3)
    (l : List (Option Child)) (s s' : St) (hR : R s) (h : l.foldlM (roundA σ del prog id) s = .ok s') : R s' := by
  induction l generalizing s with
  | nil => cases h; exact hR
  | cons r rest ih =>
    obtain ⟨s3, hp, h2⟩ := bind_ok.1 (rounds_cons .. ▸ h)
    exact ih _ (hgeq _ _ (afterRound_geq r) (hpass s s3 hR hp)) h2

theorem rounds_error {σ : Schema} {del : List Bytes → St → Bytes → Res} {prog : List Bytes} {id : Bytes} {R : St → Prop}
    {e : Err} (hgeq : ∀ st st', GEq st st' → R st → R st')
    (hpass : ∀ st s3, R st → passA σ del prog id st = .ok s3 → R s3)
    (l : List (Option Child)) (s : St) (hR : R s) (h : l.foldlM (roundA σ del prog id) s = .error e) :
    ∃ st, R st ∧ passA σ del prog id st = .error e := by
  induction l generalizing s with
  | nil => cases h
  | cons r rest ih =>
    rcases bind_error.1 (rounds_cons .. ▸ h) with hp | ⟨s3, hp, h2⟩
    · exact ⟨s, hR, hp⟩
    · exact ih _ (hgeq _ _ (afterRound_geq r) (hpass s s3 hR hp)) h2

theorem rounds_first {σ : Schema} {del : List Bytes → St → Bytes → Res} {prog : List Bytes} {id : Bytes} {R : St → Prop}
    {s s' : St} (hgeq : ∀ st st', GEq st st' → R st → R st') (hfirst : ∀ s3, passA σ del prog id s = .ok s3 → R s3)
    (hpass : ∀ st s3, R st → passA σ del prog id st = .ok s3 → R s3)
    {l : List (Option Child)} (hl : l ≠ []) (h : l.foldlM (roundA σ del prog id) s = .ok s') : R s' := by
  cases l with
  | nil => exact absurd rfl hl
  | cons r rest =>
    obtain ⟨s3, hp, h2⟩ := bind_ok.1 (rounds_cons .. ▸ h)
    exact rounds_pres hgeq hpass rest _ s' (hgeq _ _ (afterRound_geq r) (hfirst s3 hp)) h2

theorem deleteA_succ_char {σ : Schema} {n : Nat} {prog : List Bytes} {s : St} {id : Bytes} {r : Res} :
    deleteA σ (n + 1) prog s id = r → match r with
    | .ok s' => s.as.contains id = true ∧ ∃ s3,
        (roundsOf σ s id).foldlM (roundA σ (deleteA σ n) prog id) s = .ok s3 ∧
        s3.as.contains id = true ∧
        s' = { s3 with as := s3.as.erase id, minions := s3.minions.erase id } ∧ σ.protect ≠ some id
    | .error e => (e = .notFound ∧ s.as.contains id = false) ∨ (s.as.contains id = true ∧
        ((roundsOf σ s id).foldlM (roundA σ (deleteA σ n) prog id) s = .error e ∨
          (e = .other ∧ ∃ sF, (roundsOf σ s id).foldlM (roundA σ (deleteA σ n) prog id) s = .ok sF ∧
            sF.as.contains id = false) ∨
          (e = .veto ∧ σ.protect = some id))) := by
  rintro rfl
  unfold deleteA
  by_cases hc : s.as.contains id = true
  · rw [if_pos hc]
    cases hF : (roundsOf σ s id).foldlM (roundA σ (deleteA σ n) prog id) s with
    | error e => exact Or.inr ⟨hc, Or.inl rfl⟩
    | ok sF =>
      dsimp only
      by_cases hcF : sF.as.contains id = true
      · rw [if_pos hcF]
        by_cases hv : σ.protect = some id
        · rw [if_pos hv]; exact Or.inr ⟨hc, Or.inr (Or.inr ⟨rfl, hv⟩)⟩
        · rw [if_neg hv]; exact ⟨hc, sF, rfl, hcF, rfl, hv⟩
      · rw [if_neg hcF]; exact Or.inr ⟨hc, Or.inr (Or.inl ⟨rfl, sF, rfl, Bool.eq_false_iff.2 hcF⟩)⟩
  · rw [if_neg hc]; exact Or.inl ⟨rfl, Bool.eq_false_iff.2 hc⟩

theorem roundsOf_ne_nil (σ : Schema) (s : St) (id : Bytes) : roundsOf σ s id ≠ [] := by
  unfold roundsOf; simp

theorem mem_mark (prog : List Bytes) (id x : Bytes) : x ∈ mark prog id ↔ x = id ∨ x ∈ prog := by
  unfold mark
  split
  · next h => constructor
              · exact Or.inr
              · rintro (rfl | h'); exact h; exact h'
  · simp

/-- a property `R` of the two tables survives `DeleteById` if it survives every removal of a row the delete performs —
    nothing else writes a table.  `E prog id` is what may be assumed of the entity of a call and the in-progress set it
    is made with: it has to pass from a call to the nested deletes of its cascade loop, which are about a referrer that
    is not in progress. -/
theorem deleteA_pres {σ : Schema} {R : St → Prop} {E : List Bytes → Bytes → Prop}
    (hmaps : ∀ s s', s'.as = s.as → s'.bs = s.bs → R s → R s')
    (herase : ∀ prog s id, σ.protect ≠ some id → E prog id → R s →
      R { s with as := s.as.erase id, minions := s.minions.erase id })
    (hnext : ∀ {prog st id x}, E prog id → R st → x ∉ mark prog id → isReferrer st (·.boss) id x = true →
      E (mark prog id) x)
    {n : Nat} {prog : List Bytes} {s s' : St} {id : Bytes} (h : deleteA σ n prog s id = .ok s') (hE : E prog id) (hR : R s) :
    R s' := by
  induction n generalizing prog s id s' with
  | zero => cases h
  | succ n ih =>
    obtain ⟨_, s3, hF, _, rfl, hne⟩ := deleteA_succ_char h
    refine herase prog s3 id hne hE (rounds_pres (fun _ _ g => hmaps _ _ g.1 g.2.1) (fun st sp hst hc => ?_) _ s s3 hR hF)
    rw [passA_eq] at hc
    exact cascadeOver_pres (fun st x st' hx hr a b => ih b (hnext hE a hx hr) a) _
      (preDelete st id) sp (hmaps st _ rfl rfl hst) hc

theorem deleteA_bs {σ : Schema} {n : Nat} {prog : List Bytes} {s s' : St} {id : Bytes}
    (h : deleteA σ n prog s id = .ok s') : s'.bs = s.bs :=
  deleteA_pres (R := fun st => st.bs = s.bs) (E := fun _ _ => True) (fun _ _ _ hb h => hb.trans h) (fun _ _ _ _ _ h => h)
    (fun _ _ _ _ => trivial) h trivial rfl

theorem deleteA_sub {σ : Schema} {n : Nat} {prog : List Bytes} {s s' : St} {id : Bytes}
    (h : deleteA σ n prog s id = .ok s') : Sub s' s :=
  deleteA_pres (R := fun st => Sub st s) (E := fun _ _ => True) (fun _ _ ha _ h => (Sub.of_as ha).trans h)
    (fun _ st id _ _ h => (Sub.erase st id _).trans h) (fun _ _ _ _ => trivial) h trivial (Sub.refl s)

theorem deleteA_keeps_protected {σ : Schema} {v : Bytes} (hv : σ.protect = some v) {e : EntA} {n : Nat}
    {prog : List Bytes} {s s' : St} {id : Bytes} (h : deleteA σ n prog s id = .ok s') (he : s.as.lookup v = some e) :
    s'.as.lookup v = some e :=
  deleteA_pres (R := fun st => st.as.lookup v = some e) (E := fun _ _ => True) (fun _ _ ha _ h => ha ▸ h)
    (fun _ s id hne _ h => by
      have : v ≠ id := fun hh => hne (hh ▸ hv)
      simpa only [Map.lookup_erase, if_neg this] using h) (fun _ _ _ _ => trivial) h trivial he

theorem deleteA_kept {σ : Schema} {n : Nat} {prog : List Bytes} {s s' : St} {id k : Bytes} {e : EntA}
    (h : deleteA σ n prog s id = .ok s') (hk : k ∈ prog) (hne : k ≠ id) (he : s.as.lookup k = some e) :
    s'.as.lookup k = some e :=
  deleteA_pres (R := fun st => st.as.lookup k = some e) (E := fun prog id => k ∈ prog ∧ k ≠ id) (fun _ _ ha _ h => ha ▸ h)
    (fun _ _ id _ hE h => by simpa only [Map.lookup_erase, if_neg hE.2] using h)
    (fun {prog _ id x} hE _ hx _ => ⟨(mem_mark prog id k).2 (Or.inr hE.1),
      fun hkx => hx (hkx ▸ (mem_mark prog id k).2 (Or.inr hE.1))⟩) h ⟨hk, hne⟩ he

theorem deleteA_gone {σ : Schema} {n : Nat} {prog : List Bytes} {s s' : St} {id : Bytes}
    (h : deleteA σ n prog s id = .ok s') : s'.as.lookup id = none := by
  cases n with
  | zero => cases h
  | succ n =>
    obtain ⟨_, s3, _, _, rfl, _⟩ := deleteA_succ_char h
    exact (Map.lookup_erase _ _ _).trans (if_pos rfl)

theorem pass_sub {σ : Schema} {n : Nat} {prog : List Bytes} {id : Bytes} {s s3 : St}
    (h : passA σ (deleteA σ n) prog id s = .ok s3) : Sub s3 s :=
  cascadeOver_pres (R := fun st => Sub st s) (fun _ _ _ _ _ a b => (deleteA_sub b).trans a) _ (preDelete s id) s3
    (Sub.of_as rfl) (passA_eq σ _ prog id s ▸ h)

theorem pass_done {σ : Schema} {n : Nat} {prog : List Bytes} {id : Bytes} {s s3 : St}
    (h : passA σ (deleteA σ n) prog id s = .ok s3) (x : Bytes) (hr : isReferrer s3 (·.boss) id x = true) :
    x ∈ mark prog id :=
  cascadeOver_referrers (fun _ _ _ hd => ⟨deleteA_sub hd, deleteA_gone hd⟩) (passA_eq σ _ prog id s ▸ h) x hr

/-- a round never removes an entity that is in progress — in particular not the entity being deleted:
    the second `FindById` of `DeleteById` (A's own `processDeleteConstraints`) always finds it -/
theorem pass_keeps_id {σ : Schema} {n : Nat} {prog : List Bytes} {s s3 : St} {id : Bytes} {e : EntA}
    (h : passA σ (deleteA σ n) prog id s = .ok s3) (he : s.as.lookup id = some e) : s3.as.lookup id = some e :=
  have hid := (mem_mark prog id id).2 (Or.inl rfl)
  cascadeOver_pres (R := fun st => st.as.lookup id = some e)
    (fun _ _ _ hx _ a b => deleteA_kept b hid (ne_of_mem_of_not_mem hid hx) a) _ (preDelete s id) s3 he
    (passA_eq σ _ prog id s ▸ h)

theorem rounds_keeps_id {σ : Schema} {n : Nat} {prog : List Bytes} {id : Bytes} {e : EntA}
    (l : List (Option Child)) (st s' : St) (he : st.as.lookup id = some e)
    (h : l.foldlM (roundA σ (deleteA σ n) prog id) st = .ok s') : s'.as.lookup id = some e :=
  rounds_pres (R := fun st => st.as.lookup id = some e) (fun _ _ g h => g.1 ▸ h) (fun _ _ h hp => pass_keeps_id hp h)
    l st s' he h

theorem rounds_error_nested {σ : Schema} {m : Nat} {prog : List Bytes} {id : Bytes} {e : Err} {l : List (Option Child)}
    {s : St} (h : l.foldlM (roundA σ (deleteA σ m) prog id) s = .error e) :
    ∃ st x, Sub st s ∧ x ∉ mark prog id ∧ st.as.contains x = true ∧ deleteA σ m (mark prog id) st x = .error e := by
  obtain ⟨st, hst, hp⟩ := rounds_error (R := fun st => Sub st s) (fun _ _ g h => (Sub.of_as g.1).trans h)
    (fun _ _ h hp => (pass_sub hp).trans h) l s (Sub.refl s) h
  obtain ⟨st', x, hst', hxs, hr, hd⟩ := cascadeOver_error (R := fun x => Sub x s)
    (fun _ _ _ a b => (deleteA_sub b).trans a) _ (preDelete st id) hst (passA_eq σ _ prog id st ▸ hp)
  obtain ⟨ex, hex, _⟩ := (isReferrer_iff st' _ id x).1 hr
  exact ⟨st', x, hst', hxs, (Map.contains_iff _ _).2 ⟨ex, hex⟩, hd⟩

theorem foldB_depLast {σ : Schema} {α : Type} (hdf : σ.depFirst = false) (g : α → CB → Except Err α) (s : α) :
    (orderB σ).foldlM g s = g s .thingsRestrict >>= fun s1 => g s1 .depCascade := by
  simp only [orderB, hdf, Bool.false_eq_true, if_false, List.foldlM_cons, List.foldlM_nil, bind_pure]

theorem foldB_depFirst {σ : Schema} {α : Type} (hdf : σ.depFirst = true) (g : α → CB → Except Err α) (s : α) :
    (orderB σ).foldlM g s = g s .depCascade >>= fun s1 => g s1 .thingsRestrict := by
  simp only [orderB, hdf, if_true, List.foldlM_cons, List.foldlM_nil, bind_pure]

theorem restrictB_eq (σ : Schema) (delA : St → Bytes → Res) (id : Bytes) (st : St) :
    beforeDeleteB σ delA id st .thingsRestrict =
      if (st.things.lookup id).getD [] ≠ [] then .error .refExists else .ok st := rfl

/-- B's constraints in either registration order: the `dep` step, and the restrict check on the state before it or
    after it -/
theorem foldB_char {σ : Schema} {delA : St → Bytes → Res} {id : Bytes} {s : St} {r : Res} :
    (orderB σ).foldlM (beforeDeleteB σ delA id) s = r → match r with
    | .ok sF => beforeDeleteB σ delA id s .depCascade = .ok sF ∧
        ((if σ.depFirst then sF else s).things.lookup id).getD [] = []
    | .error e => beforeDeleteB σ delA id s .depCascade = .error e ∨
        (e = .refExists ∧ ∃ st, (st = s ∨ beforeDeleteB σ delA id s .depCascade = .ok st) ∧
          (st.things.lookup id).getD [] ≠ []) := by
  rintro rfl
  cases hdf : σ.depFirst
  · rw [foldB_depLast hdf, restrictB_eq]
    by_cases hne : (s.things.lookup id).getD [] ≠ []
    · rw [if_pos hne]; exact Or.inr ⟨rfl, s, Or.inl rfl, hne⟩
    · rw [if_neg hne]
      dsimp only [bind, Except.bind]
      cases hd : beforeDeleteB σ delA id s .depCascade with
      | ok sF => exact ⟨rfl, Decidable.not_not.1 hne⟩
      | error e => exact Or.inl rfl
  · rw [foldB_depFirst hdf]
    cases hd : beforeDeleteB σ delA id s .depCascade with
    | error e => exact Or.inl rfl
    | ok sF =>
      dsimp only [bind, Except.bind]
      rw [restrictB_eq]
      by_cases hne : (sF.things.lookup id).getD [] ≠ []
      · rw [if_pos hne]; exact Or.inr ⟨rfl, sF, Or.inr rfl, hne⟩
      · rw [if_neg hne]; exact ⟨rfl, Decidable.not_not.1 hne⟩

/-- where the `dep` step succeeds it is the cascade loop in both variants: the restrict check passes only on an empty
    list of referrers -/
theorem depStep_char {σ : Schema} {delA : St → Bytes → Res} {id : Bytes} {st : St} {r : Res} :
    beforeDeleteB σ delA id st .depCascade = r → match r with
    | .ok st' => cascadeOver delA (·.dep) id [] (referrers st (·.dep) id) st = .ok st'
    | .error e => cascadeOver delA (·.dep) id [] (referrers st (·.dep) id) st = .error e ∨
        (σ.depCascade = false ∧ e = .refExists ∧ ∃ k ex, st.as.lookup k = some ex ∧ ex.dep = some id) := by
  rintro rfl
  simp only [beforeDeleteB]
  by_cases hc : σ.depCascade = true
  · rw [if_pos hc]
    cases hl : cascadeOver delA (·.dep) id [] (referrers st (·.dep) id) st with
    | ok st' => rfl
    | error e => exact Or.inl rfl
  · rw [if_neg hc]
    by_cases hne : referrers st (·.dep) id ≠ []
    · rw [if_pos hne]
      obtain ⟨k, hk⟩ := List.exists_mem_of_ne_nil _ hne
      exact Or.inr ⟨by simpa using hc, rfl, k, (isReferrer_iff st _ id k).1 ((mem_referrers st _ id k).1 hk)⟩
    · rw [if_neg hne, Decidable.not_not.1 hne]; rfl

theorem depStep_pres {σ : Schema} {delA : St → Bytes → Res} {id : Bytes} {R : St → Prop}
    (hdel : ∀ st x st', isReferrer st (·.dep) id x = true → R st → delA st x = .ok st' → R st') {st st' : St}
    (h : beforeDeleteB σ delA id st .depCascade = .ok st') (hR : R st) : R st' :=
  cascadeOver_pres (fun st x st' _ => hdel st x st') _ st st' hR (depStep_char h)

theorem depStep_sub {σ : Schema} {n : Nat} {id : Bytes} {st st' : St}
    (h : beforeDeleteB σ (deleteA σ n []) id st .depCascade = .ok st') : Sub st' st ∧ st'.bs = st.bs :=
  depStep_pres (R := fun x => Sub x st ∧ x.bs = st.bs)
    (fun _ _ _ _ a b => ⟨(deleteA_sub b).trans a.1, (deleteA_bs b).trans a.2⟩)
    h ⟨Sub.refl st, rfl⟩

/-- whatever the registration order of B's two constraints: the `things` set was empty when the restrict check looked at
    it — before the `dep` step or after it -/
theorem deleteB_char {σ : Schema} {s : St} {id : Bytes} {r : Res} :
    deleteB σ s id = r → match r with
    | .ok s' => s.bs.contains id = true ∧ ∃ sF,
        beforeDeleteB σ (deleteA σ (fuelOf s) []) id s .depCascade = .ok sF ∧
        ((if σ.depFirst then sF else s).things.lookup id).getD [] = [] ∧
        childRestrict σ sF id .c1 = false ∧ childRestrict σ sF id .c2 = false ∧
        s' = { sF with bs := sF.bs.erase id, things := sF.things.erase id,
                       mentees1 := sF.mentees1.erase id, mentees2 := sF.mentees2.erase id }
    | .error e => (e = .notFound ∧ s.bs.contains id = false) ∨ (s.bs.contains id = true ∧
        (beforeDeleteB σ (deleteA σ (fuelOf s) []) id s .depCascade = .error e ∨
          (e = .refExists ∧ ∃ st, (st = s ∨ beforeDeleteB σ (deleteA σ (fuelOf s) []) id s .depCascade = .ok st) ∧
            (st.things.lookup id).getD [] ≠ []) ∨
          ∃ sF, beforeDeleteB σ (deleteA σ (fuelOf s) []) id s .depCascade = .ok sF ∧
            ((e = .refExists ∧ (childRestrict σ sF id .c1 || childRestrict σ sF id .c2) = true) ∨
              (e = .other ∧ sF.bs.contains id = false)))) := by
  rintro rfl
  unfold deleteB
  by_cases hc : s.bs.contains id = true
  · rw [if_pos hc]
    cases hF : (orderB σ).foldlM (beforeDeleteB σ (deleteA σ (fuelOf s) []) id) s with
    | error e => exact Or.inr ⟨hc, (foldB_char hF).imp_right Or.inl⟩
    | ok sF =>
      obtain ⟨hd, hemp⟩ := foldB_char hF
      dsimp only
      cases hcr : (childRestrict σ sF id .c1 || childRestrict σ sF id .c2)
      · rw [if_neg Bool.false_ne_true]
        by_cases hcF : sF.bs.contains id = true
        · rw [if_pos hcF]
          exact ⟨hc, sF, hd, hemp, (Bool.or_eq_false_iff.1 hcr).1, (Bool.or_eq_false_iff.1 hcr).2, rfl⟩
        · rw [if_neg hcF]
          exact Or.inr ⟨hc, Or.inr (Or.inr ⟨sF, hd, Or.inr ⟨rfl, Bool.eq_false_iff.2 hcF⟩⟩)⟩
      · exact Or.inr ⟨hc, Or.inr (Or.inr ⟨sF, hd, Or.inl ⟨rfl, hcr⟩⟩)⟩
  · rw [if_neg hc]; exact Or.inl ⟨rfl, Bool.eq_false_iff.2 hc⟩

theorem deleteB_bs {σ : Schema} {s s' : St} {id : Bytes} (h : deleteB σ s id = .ok s') : s'.bs = s.bs.erase id := by
  obtain ⟨_, sF, hd, _, _, _, rfl⟩ := deleteB_char h
  exact congrArg (·.erase id) (depStep_sub hd).2

theorem deleteB_keeps_protected {σ : Schema} {v : Bytes} (hv : σ.protect = some v) {e : EntA} {s s' : St} {id : Bytes}
    (h : deleteB σ s id = .ok s') (he : s.as.lookup v = some e) : s'.as.lookup v = some e := by
  obtain ⟨_, sF, hd, _, _, _, rfl⟩ := deleteB_char h
  exact depStep_pres (R := fun st => st.as.lookup v = some e) (st' := sF)
    (fun _ _ _ _ a b => deleteA_keeps_protected hv b a) hd he

end StorageModel.C04
