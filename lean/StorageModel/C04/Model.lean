import StorageModel.C04.Map
/-
  C04 — executable model of the foreign-key machinery of boltz, following the Go code branch by
  branch (boltz/indexes.go: fkIndex, fkConstraint, fkDeleteConstraint, fkDeleteCascadeConstraint,
  fkReferrerFilter; boltz/store_crud.go: Create, Update, DeleteById, processDeleteConstraints).

  Two stores, wired as in /verif/harness/c04.go:

    A ("things")  owner : *string  AddNullableFkIndex      -> B.things   (back-reference set on B)
                  boss  : string   AddFkIndexCascadeDelete -> A.minions  (self reference, cascades)
                  dep   : *string  AddFkConstraint(nullable?, CascadeNone | CascadeDelete) -> B
    B ("owners")  no fields
    C, C2         two plain sibling child stores of A (data in `<A entity bucket>/ext1`, `/ext2`), each with
                  tag : *string, mentor : *string (fk -> B), guard : *string (fk -> B).  Per schema variant a
                  child store DECLARES a nullable fk index on its mentor (-> B.mentees1 / B.mentees2) and / or a
                  nullable fk constraint (CascadeNone) on its guard — or neither (then the field is plain data).
                  Every operation through a child store runs A's constraints through the parent
                  `IndexingContext` and then the child store's own; `DeleteById` fans out over the registered
                  child stores in registration order (`Schema.c2First`): for each one holding data for the
                  entity a full round of A's `ProcessBeforeDelete` constraints plus that child store's, then
                  A's own round (`roundsOf`).

  State = the two entity tables (child data is part of the A entry: `EntA.ext`, it goes with the entity
  bucket) + the two back-reference maps (key present ⇔ the set bucket
  exists under the target's entity bucket; `GetOrCreatePath` creates it on first use and it stays,
  possibly empty).  A failed operation leaves the state unchanged (bbolt rollback — assumed).
-/
namespace StorageModel.C04
open StorageModel

/-- a stored typed field value: `none` = `[TypeNil]`, `some v` = `[TypeString] ++ v` -/
abbrev FV := Option Bytes

/-- the value part of `symbol.Eval` (`GetTypeAndValue`): nil for TypeNil *and* for an empty
    payload; the Go code only ever tests `len(v) > 0` and `bytes.Equal`, for which nil = empty -/
def evalVal (v : FV) : Bytes := v.getD []

/-- `rowCursor.EvalString` (`FieldToString`): nil pointer for TypeNil, otherwise the payload
    (an empty payload gives a pointer to "") -/
def evalString (v : FV) : Option Bytes := v

/-- the data a child store holds for an entity (bucket `ext1` / `ext2` under the entity bucket) -/
structure Ext where
  tag : FV
  /-- mentor: fk value -> B (indexed when the child store declares the fk index) -/
  m : FV := none
  /-- guard: fk value -> B (checked when the child store declares the fk constraint) -/
  g : FV := none
deriving DecidableEq, Repr

inductive Child | c1 | c2
deriving DecidableEq, Repr

structure EntA where
  owner : FV
  boss : FV
  dep : FV
  /-- child-store data: `none` = no bucket `ext1` under the entity bucket -/
  ext1 : Option Ext := none
  ext2 : Option Ext := none
deriving DecidableEq, Repr

/-- the fields store A itself persists -/
def EntA.plain (e : EntA) : EntA := { owner := e.owner, boss := e.boss, dep := e.dep }

def EntA.extOf (e : EntA) : Child → Option Ext
  | .c1 => e.ext1
  | .c2 => e.ext2

def EntA.setExt (e : EntA) (c : Child) (x : Option Ext) : EntA :=
  match c with
  | .c1 => { e with ext1 := x }
  | .c2 => { e with ext2 := x }

structure St where
  as : Map EntA := []
  bs : Map Unit := []
  /-- B id ↦ keys of the bucket `<b>/things` -/
  things : Map (List Bytes) := []
  /-- A id ↦ keys of the bucket `<a>/minions` -/
  minions : Map (List Bytes) := []
  /-- B id ↦ keys of the bucket `<b>/mentees1` (back-references of C.mentor) -/
  mentees1 : Map (List Bytes) := []
  /-- B id ↦ keys of the bucket `<b>/mentees2` (back-references of C2.mentor) -/
  mentees2 : Map (List Bytes) := []

def St.mentees (s : St) : Child → Map (List Bytes)
  | .c1 => s.mentees1
  | .c2 => s.mentees2

def St.setMentees (s : St) (c : Child) (m : Map (List Bytes)) : St :=
  match c with
  | .c1 => { s with mentees1 := m }
  | .c2 => { s with mentees2 := m }

inductive Err
  | notFound | refExists | nullNotAllowed | other
  /-- the DeleteById recursion does not come back (fuel exhausted, see `deleteA`); provably never
      returned with the fuel `step` supplies (`cascade_terminates`), but it is what the harness reports
      for a tree whose recursion is unbounded (the code before bda5470) -/
  | diverge
  /-- an entity constraint of the caller (`EntityConstraint.ProcessPreCommit` on store A) refused the delete of
      the protected entity (`Schema.protect`) -/
  | veto
deriving DecidableEq, Repr

abbrev Res := Except Err St

/-- how the fk fields owner, boss, dep, mentor, guard are named: each has a symbol name `f` (what queries and
    the constraints use), a stored key (what the entity strategy persists under: `AddFkSymbolWithKey`) and a
    caller-side name (what the `FieldChecker` of an update is asked for: `PersistContext.WithFieldOverrides`) -/
inductive Naming
  /-- all three are `f` -/
  | same
  /-- key = caller-side name = `fId` -/
  | keyed
  /-- key = `fId`, caller-side name = `f` (an override) -/
  | overridden
  /-- key = `fId`, caller-side name = `fRef` -/
  | allDifferent
deriving DecidableEq, Repr

/-- `TypedBucket.ProceedWithSet(key, checker)` under `MappedFieldChecker`: does a checker that lists the field's
    caller-side name (`chk`), its stored key (`key`), its symbol name (`sym`) select the field?  Only the
    caller-side name does — the other two only where the naming makes them the same string.  (The constraints
    never consult the checker: what a selected field's new value means for the indexes does not depend on any
    of these names.) -/
def Naming.selects : Naming → (chk key sym : Bool) → Bool
  | .same, c, k, y => c || k || y
  | .keyed, c, k, _ => c || k
  | .overridden, c, _, y => c || y
  | .allDifferent, c, _, _ => c

/-- schema variant -/
structure Schema where
  /-- `AddFkConstraint(dep, _, CascadeDelete)` (otherwise `CascadeNone`) -/
  depCascade : Bool
  depNullable : Bool
  /-- the dep constraint is registered before the two fk indexes -/
  depFirst : Bool
  /-- child store C / C2 declares `AddNullableFkIndex(mentor, B.mentees1 / mentees2)` -/
  idx1 : Bool := false
  idx2 : Bool := false
  /-- child store C / C2 declares `AddFkConstraint(guard, nullable, CascadeNone)` -/
  fk1 : Bool := false
  fk2 : Bool := false
  /-- `RegisterChildStoreStrategy` was called for C2 before C -/
  c2First : Bool := false
  naming : Naming := .same
  /-- an A entity whose delete an `EntityConstraint` registered on store A refuses (`ProcessPreCommit` returns an
      error for `EntityDeleted` of this id) while the current operation runs; `none`: no such constraint is active.
      It is how a cascading delete can FAIL part-way in this universe (a transitive referrer refuses to go). -/
  protect : Option Bytes := none
deriving DecidableEq, Repr

def Schema.withProtect (σ : Schema) (v : Bytes) : Schema := { σ with protect := some v }

def Schema.idx (σ : Schema) : Child → Bool
  | .c1 => σ.idx1
  | .c2 => σ.idx2

def Schema.fk (σ : Schema) : Child → Bool
  | .c1 => σ.fk1
  | .c2 => σ.fk2

/-- the child stores in `childStoreStrategies` order -/
def childOrder (σ : Schema) : List Child := if σ.c2First then [.c2, .c1] else [.c1, .c2]

/-- constraints of store A / store B, in `Indexer.constraints` order -/
inductive CA | ownerIdx | bossIdx | bossCascade | depFk
deriving DecidableEq, Repr
inductive CB | thingsRestrict | depCascade
deriving DecidableEq, Repr

def orderA (σ : Schema) : List CA :=
  if σ.depFirst then [.depFk, .ownerIdx, .bossIdx, .bossCascade] else [.ownerIdx, .bossIdx, .bossCascade, .depFk]

def orderB (σ : Schema) : List CB :=
  if σ.depFirst then [.depCascade, .thingsRestrict] else [.thingsRestrict, .depCascade]

/-- `symbol.Eval(tx, rowId)` for a field of A (missing entity bucket: nil) -/
def fieldOf (s : St) (id : Bytes) (f : EntA → FV) : Bytes :=
  match s.as.lookup id with
  | some e => evalVal (f e)
  | none => []

/-! ### `fkIndex.getIndexBucket` + `SetListEntry` / `DeleteListEntry` -/

def thingsAdd (s : St) (t id : Bytes) : Res :=
  if s.bs.contains t then .ok { s with things := s.things.insert t (setIns id ((s.things.lookup t).getD [])) }
  else .error .notFound

def thingsDel (s : St) (t id : Bytes) : Res :=
  if s.bs.contains t then .ok { s with things := s.things.insert t (setDel id ((s.things.lookup t).getD [])) }
  else .error .notFound

def minionsAdd (s : St) (t id : Bytes) : Res :=
  if s.as.contains t then .ok { s with minions := s.minions.insert t (setIns id ((s.minions.lookup t).getD [])) }
  else .error .notFound

def minionsDel (s : St) (t id : Bytes) : Res :=
  if s.as.contains t then .ok { s with minions := s.minions.insert t (setDel id ((s.minions.lookup t).getD [])) }
  else .error .notFound

/-! ### one fk index on its back-reference map alone (used literally for the child-declared index; the
    handlers of A's two indexes below are proved equal to these in Write.lean and Delete.lean) -/

/-- old entry removal inside `fkIndex.ProcessAfterUpdate` (`getIndexBucket`: not-found if the target is gone) -/
def idxDel (tgt : Bytes → Bool) (v id : Bytes) (m : Map (List Bytes)) : Except Err (Map (List Bytes)) :=
  if v ≠ [] then
    (if tgt v then .ok (m.insert v (setDel id ((m.lookup v).getD []))) else .error .notFound)
  else .ok m

def idxAdd (nullable : Bool) (tgt : Bytes → Bool) (new id : Bytes) (m1 : Map (List Bytes)) :
    Except Err (Map (List Bytes)) :=
  if new ≠ [] then
    (if tgt new then .ok (m1.insert new (setIns id ((m1.lookup new).getD []))) else .error .notFound)
  else if nullable then .ok m1 else .error .nullNotAllowed

/-- `fkIndex.ProcessAfterUpdate` on the back-reference map alone -/
def idxWrite (nullable : Bool) (tgt : Bytes → Bool) (ic : Bool) (old new id : Bytes) (m : Map (List Bytes)) :
    Except Err (Map (List Bytes)) :=
  if ¬ ic ∧ old = new then .ok m else
    match idxDel tgt old id m with
    | .ok m1 => idxAdd nullable tgt new id m1
    | .error e => .error e

/-- `fkIndex.ProcessBeforeDelete` on the back-reference map alone (since 001d2d2: a target that is gone is
    skipped, so this step never fails) -/
def idxDelB (tgt : Bytes → Bool) (v id : Bytes) (m : Map (List Bytes)) : Map (List Bytes) :=
  if v ≠ [] then (if tgt v then m.insert v (setDel id ((m.lookup v).getD [])) else m) else m

/-- `AtomStates` captured by `ProcessBeforeUpdate` -/
structure Olds where
  owner : Bytes := []
  boss : Bytes := []
  dep : Bytes := []

/-- `ProcessAfterUpdate` of one constraint of A.  The error holder keeps the first error and
    every later step is skipped or irrelevant (the transaction is rolled back): `Except` bind. -/
def afterUpdateA (σ : Schema) (isCreate : Bool) (old : Olds) (id : Bytes) (s : St) (c : CA) : Res :=
  match c with
  | .ownerIdx =>
    let new := fieldOf s id (·.owner)
    if ¬ isCreate ∧ old.owner = new then .ok s else
      match (if old.owner ≠ [] then thingsDel s old.owner id else .ok s) with
      | .ok s1 => if new ≠ [] then thingsAdd s1 new id else .ok s1          -- nullable
      | .error e => .error e
  | .bossIdx =>
    let new := fieldOf s id (·.boss)
    if ¬ isCreate ∧ old.boss = new then .ok s else
      match (if old.boss ≠ [] then minionsDel s old.boss id else .ok s) with
      | .ok s1 => if new ≠ [] then minionsAdd s1 new id else .error .nullNotAllowed
      | .error e => .error e
  | .bossCascade => .ok s
  | .depFk =>
    let new := fieldOf s id (·.dep)
    if ¬ isCreate ∧ old.dep = new then .ok s
    else if new ≠ [] then (if s.bs.contains new then .ok s else .error .notFound)
    else if σ.depNullable then .ok s else .error .nullNotAllowed

def processAfterUpdateA (σ : Schema) (isCreate : Bool) (old : Olds) (id : Bytes) (s : St) : Res :=
  (orderA σ).foldlM (afterUpdateA σ isCreate old id) s

/-- `BaseStore.Create` on A -/
def createA (σ : Schema) (s : St) (id : Bytes) (e : EntA) : Res :=
  if id = [] then .error .other                         -- blank id
  else if s.as.contains id then .error .other           -- already exists
  else processAfterUpdateA σ true {} id { s with as := s.as.insert id e.plain }   -- A writes no child data

/-- `BaseStore.Create` on B (its constraints do nothing on create) -/
def createB (s : St) (id : Bytes) : Res :=
  if id = [] then .error .other
  else if s.bs.contains id then .error .other
  else .ok { s with bs := s.bs.insert id () }

/-- `IndexingContext.ProcessBeforeUpdate`: the fk values of the stored entity -/
def oldsOf (cur : EntA) : Olds := { owner := evalVal cur.owner, boss := evalVal cur.boss, dep := evalVal cur.dep }

/-! ### the constraints a child store declares -/

/-- `symbol.Eval` of a field of child store `c` (nil without child data) -/
def childField (s : St) (id : Bytes) (c : Child) (f : Ext → FV) : Bytes :=
  match s.as.lookup id with
  | some e => (match e.extOf c with | some x => evalVal (f x) | none => [])
  | none => []

/-- `fkIndex.ProcessAfterUpdate` of the nullable mentor index child store `c` declares (if it does) -/
def childIdxStep (σ : Schema) (c : Child) (ic : Bool) (oldM : Bytes) (id : Bytes) (s : St) : Res :=
  if σ.idx c then
    match idxWrite true s.bs.contains ic oldM (childField s id c (·.m)) id (s.mentees c) with
    | .ok m => .ok (s.setMentees c m)
    | .error e => .error e
  else .ok s

/-- `fkConstraint.ProcessAfterUpdate` of the nullable guard constraint child store `c` declares (if it does) -/
def childFkStep (σ : Schema) (c : Child) (ic : Bool) (oldG : Bytes) (id : Bytes) (s : St) : Res :=
  if σ.fk c then
    let new := childField s id c (·.g)
    if ¬ ic ∧ oldG = new then .ok s
    else if new ≠ [] then (if s.bs.contains new then .ok s else .error .notFound)
    else .ok s                                                             -- nullable
  else .ok s

/-- `ProcessAfterUpdate` of child store `c`'s constraints, in declaration order: the nullable fk index on
    `mentor`, then the nullable fk constraint on `guard` — each only if the schema declares it -/
def childAfterUpdate (σ : Schema) (c : Child) (ic : Bool) (oldM oldG : Bytes) (id : Bytes) (s : St) : Res :=
  childIdxStep σ c ic oldM id s >>= childFkStep σ c ic oldG id

/-- `ProcessBeforeDelete` of child store `c`'s constraints (only the fk index does anything; never fails) -/
def childBeforeDelete (σ : Schema) (c : Child) (id : Bytes) (s : St) : St :=
  if σ.idx c then s.setMentees c (idxDelB s.bs.contains (childField s id c (·.m)) id (s.mentees c)) else s

/-- `BaseStore.Update` on A with a field checker (`m*` = field is in the checker).  When the entity has
    child data the first registered `ChildStoreUpdateHandler` whose store holds data for it hands the update
    to that child store (new parent values, stored child fields): `Update` there runs `ProcessBeforeUpdate` /
    `ProcessAfterUpdate` of A's constraints through the parent indexing context with `IsCreate = false`,
    persists the same parent fields under the same checker, and the child store's own constraints see
    unchanged values — the same effect whichever store carries it out; the child data stays as it is. -/
def updateA (σ : Schema) (s : St) (id : Bytes) (e : EntA) (mOwner mBoss mDep : Bool) : Res :=
  if id = [] then .error .other
  else match s.as.lookup id with
    | none => .error .notFound
    | some cur =>
      let e' : EntA := { owner := if mOwner then e.owner else cur.owner,
                         boss := if mBoss then e.boss else cur.boss,
                         dep := if mDep then e.dep else cur.dep,
                         ext1 := cur.ext1, ext2 := cur.ext2 }
      processAfterUpdateA σ false (oldsOf cur) id { s with as := s.as.insert id e' }

/-- `BaseStore.Create` on child store `c`: only `c`'s own data is looked at for "already exists"; the
    parent entity may exist already (possibly with data of the sibling child store, which stays) — then
    (since /repo 8269ce9) `Parent.ProcessBeforeUpdate` captures its stored fk values, every parent field is
    overwritten (no field checker on create) and `ProcessAfterUpdate` runs with `IsCreate = true` and those
    old values: the "unchanged" shortcut is off, the old back-reference is removed and the new one written
    even when both name the same target.  Then `c`'s own constraints, with no old values. -/
def createC (σ : Schema) (c : Child) (s : St) (id : Bytes) (e : EntA) (x : Ext) : Res :=
  if id = [] then .error .other
  else
    match s.as.lookup id with
    | none =>
      let e' : EntA := ({ owner := e.owner, boss := e.boss, dep := e.dep } : EntA).setExt c (some x)
      processAfterUpdateA σ true {} id { s with as := s.as.insert id e' } >>= childAfterUpdate σ c true [] [] id
    | some cur =>
      if (cur.extOf c).isSome then .error .other                             -- child data exists already
      else
        let e' : EntA := ({ owner := e.owner, boss := e.boss, dep := e.dep, ext1 := cur.ext1, ext2 := cur.ext2 } : EntA).setExt c (some x)
        processAfterUpdateA σ true (oldsOf cur) id { s with as := s.as.insert id e' } >>=
          childAfterUpdate σ c true [] [] id

/-- `BaseStore.Update` on child store `c` (`FindById` through `c`: not found without child data);
    `mTag mM mG` = the child fields in the checker -/
def updateC (σ : Schema) (c : Child) (s : St) (id : Bytes) (e : EntA) (x : Ext)
    (mOwner mBoss mDep mTag mM mG : Bool) : Res :=
  if id = [] then .error .other
  else match s.as.lookup id with
    | none => .error .notFound
    | some cur =>
      match cur.extOf c with
      | none => .error .notFound
      | some cx =>
        let x' : Ext := { tag := if mTag then x.tag else cx.tag, m := if mM then x.m else cx.m,
                          g := if mG then x.g else cx.g }
        let e' : EntA := ({ owner := if mOwner then e.owner else cur.owner,
                            boss := if mBoss then e.boss else cur.boss,
                            dep := if mDep then e.dep else cur.dep,
                            ext1 := cur.ext1, ext2 := cur.ext2 } : EntA).setExt c (some x')
        processAfterUpdateA σ false (oldsOf cur) id { s with as := s.as.insert id e' } >>=
          childAfterUpdate σ c false (evalVal cx.m) (evalVal cx.g) id

/-! ### referrer lookup: `IterateValidIds(tx, &fkReferrerFilter{symbol, id})` -/

/-- `fkReferrerFilter.EvalBool`: `val != nil && *val == id` -/
def referrerMatch (f : EntA → FV) (id : Bytes) (e : EntA) : Bool :=
  match evalString (f e) with
  | some v => v == id
  | none => false

def isReferrer (s : St) (f : EntA → FV) (id x : Bytes) : Bool :=
  match s.as.lookup x with
  | some e => referrerMatch f id e
  | none => false

/-- the ids the filtered cursor yields, in key order -/
def referrers (s : St) (f : EntA → FV) (id : Bytes) : List Bytes :=
  sortB (s.as.keys.filter (isReferrer s f id))

/-- the cascade loop:

        for cursor.IsValid() {
            if inProgress[cursor.Current()] { cursor.Next(); continue }
            DeleteById(cursor.Current()); cursor.Seek(cursor.Current())
        }

    The cursor re-seeks after every delete, so it yields the rows that still exist and still match;
    deletes never add referrers, so those are the members of the initial candidate list that are
    still referrers when their turn comes.  `skip` = the entities whose cascading delete is in
    progress (`cascadeDeletesInProgress`): the loop steps over them. -/
def cascadeOver (del : St → Bytes → Res) (f : EntA → FV) (id : Bytes) (skip : List Bytes) (cands : List Bytes)
    (s : St) : Res :=
  cands.foldlM (fun st x => if x ∈ skip then .ok st else if isReferrer st f id x then del st x else .ok st) s

/-- `inProgress[self] = struct{}{}` unless it is there already -/
def mark (prog : List Bytes) (id : Bytes) : List Bytes := if id ∈ prog then prog else id :: prog

/-- `ProcessBeforeDelete` of one constraint of A (`prog` = A entities whose cascade is in progress) -/
def beforeDeleteA (del : List Bytes → St → Bytes → Res) (prog : List Bytes) (id : Bytes) (s : St) (c : CA) : Res :=
  match c with
  | .ownerIdx =>
    -- since /repo 001d2d2: the removal is skipped when the referenced entity is already gone
    -- (`IsEntityPresent`): its back-reference set went with it
    let v := fieldOf s id (·.owner)
    if v ≠ [] then (if s.bs.contains v then thingsDel s v id else .ok s) else .ok s
  | .bossIdx =>
    let v := fieldOf s id (·.boss)
    if v ≠ [] then (if s.as.contains v then minionsDel s v id else .ok s) else .ok s
  | .bossCascade => cascadeOver (del (mark prog id)) (·.boss) id (mark prog id) (referrers s (·.boss) id) s
  | .depFk => .ok s

/-- `processDeleteConstraints` of one store level: `ProcessBeforeDelete` of every constraint of A in order -/
def passA (σ : Schema) (del : List Bytes → St → Bytes → Res) (prog : List Bytes) (id : Bytes) (s : St) : Res :=
  (orderA σ).foldlM (beforeDeleteA del prog id) s

/-- child store `c` finds the entity (`FindById` through it): its bucket `ext1` / `ext2` exists -/
def hasExt (s : St) (id : Bytes) (c : Child) : Bool :=
  match s.as.lookup id with
  | some e => (e.extOf c).isSome
  | none => false

/-- the `processDeleteConstraints` rounds of one `DeleteById`: one per registered child store that holds
    data for the entity (`some c`), in registration order, then A's own (`none`) -/
def roundsOf (σ : Schema) (s : St) (id : Bytes) : List (Option Child) :=
  ((childOrder σ).filter (hasExt s id)).map some ++ [none]

/-- one round: A's constraints (a child store's indexing context starts with its parent's), then the
    child store's own -/
def afterRound (σ : Schema) (id : Bytes) (s1 : St) : Option Child → St
  | some c => childBeforeDelete σ c id s1
  | none => s1

def roundA (σ : Schema) (del : List Bytes → St → Bytes → Res) (prog : List Bytes) (id : Bytes) (s : St)
    (r : Option Child) : Res :=
  match passA σ del prog id s with
  | .ok s1 => .ok (afterRound σ id s1 r)
  | .error e => .error e

/-- `BaseStore.DeleteById` on A (`DeleteById` on a child store goes straight here).  For every registered
    child store whose `FindById` finds the entity, `processDeleteConstraints` of that child store runs — its
    indexing context starts with the parent's constraints, so A's `ProcessBeforeDelete` constraints run in
    every round — and then A's own `processDeleteConstraints` (`roundsOf`; an earlier round's cascade may
    already have deleted the boss — a reference cycle through the entity — which is why, since 001d2d2,
    `fkIndex.ProcessBeforeDelete` skips a target that is gone).  Between the rounds the entity and its child
    data still exist (`pass_keeps_id`: a round never removes an entity that is in progress), so which child
    stores find it can be read off the initial state and A's own `FindById` always finds it.

    The Go function recurses through
    `fkDeleteCascadeConstraint.ProcessBeforeDelete` *before* the entity bucket is removed; since
    commit bda5470 the entities whose cascade has started are remembered in the mutate context and
    the loop steps over them, so every nested call is about an entity that is not yet in progress:
    the in-progress set grows strictly along the recursion and stays inside the table, which bounds
    the depth by |A| (`deleteA_terminates`).  The model still takes fuel (structural recursion) and
    reports `diverge` when it runs out; `step` supplies |A| + 1, which is never exhausted. -/
def deleteA (σ : Schema) : Nat → List Bytes → St → Bytes → Res
  | 0, _, _, _ => .error .diverge
  | n + 1, prog, s, id =>
    if s.as.contains id then                                                    -- FindById
      match (roundsOf σ s id).foldlM (roundA σ (deleteA σ n) prog id) s with    -- the rounds
      | .ok s1 =>
        if s1.as.contains id then                                               -- bucket.DeleteEntity(id)
          if σ.protect = some id then .error .veto                              -- changeFlow.fireEvents: pre-commit veto
          else .ok { s1 with as := s1.as.erase id, minions := s1.minions.erase id }
        else .error .other
      | .error e => .error e
    else .error .notFound

def fuelOf (s : St) : Nat := s.as.length + 1

/-- `ProcessBeforeDelete` of one constraint of B -/
def beforeDeleteB (σ : Schema) (delA : St → Bytes → Res) (id : Bytes) (s : St) (c : CB) : Res :=
  match c with
  | .thingsRestrict =>                                     -- fkDeleteConstraint
    if (s.things.lookup id).getD [] ≠ [] then .error .refExists else .ok s
  | .depCascade =>                                         -- fkDeleteCascadeConstraint
    let refs := referrers s (·.dep) id
    if σ.depCascade then cascadeOver delA (·.dep) id [] refs s     -- no A entity is in progress here
    else if refs ≠ [] then .error .refExists else .ok s

def guardOf (σ : Schema) (c : Child) (e : EntA) : FV :=
  if σ.fk c then (match e.extOf c with | some x => x.g | none => none) else none

def mentorOf (σ : Schema) (c : Child) (e : EntA) : FV :=
  if σ.idx c then (match e.extOf c with | some x => x.m | none => none) else none

/-- the restrict checks the child-declared fks register on B (after A's, in the harness' wiring order:
    C's index, C's constraint, C2's index, C2's constraint): `fkDeleteConstraint` (back-reference set
    non-empty) and `fkDeleteCascadeConstraint` with CascadeNone (a row of the child store whose guard is
    the id) -/
def childRestrict (σ : Schema) (s : St) (id : Bytes) : Child → Bool
  | c => (σ.idx c && decide (((s.mentees c).lookup id).getD [] ≠ [])) ||
         decide (referrers s (guardOf σ c) id ≠ [])

/-- `BaseStore.DeleteById` on B -/
def deleteB (σ : Schema) (s : St) (id : Bytes) : Res :=
  if s.bs.contains id then
    match (orderB σ).foldlM (beforeDeleteB σ (deleteA σ (fuelOf s) []) id) s with
    | .ok s1 =>
      if childRestrict σ s1 id .c1 || childRestrict σ s1 id .c2 then .error .refExists
      else if s1.bs.contains id then
        .ok { s1 with bs := s1.bs.erase id, things := s1.things.erase id,
                      mentees1 := s1.mentees1.erase id, mentees2 := s1.mentees2.erase id }
      else .error .other
    | .error e => .error e
  else .error .notFound

/-! ### operations, transactions, histories -/

inductive Op
  | createB (id : Bytes)
  | createA (id : Bytes) (e : EntA)
  | updateA (id : Bytes) (e : EntA) (mOwner mBoss mDep : Bool)
  | deleteA (id : Bytes)
  | deleteB (id : Bytes)
  /-- through a child store -/
  | createC (c : Child) (id : Bytes) (e : EntA) (x : Ext)
  | updateC (c : Child) (id : Bytes) (e : EntA) (x : Ext) (mOwner mBoss mDep mTag mM mG : Bool)
  | deleteC (id : Bytes)
  /-- `DeleteById` on A / on B while the caller's entity constraint protects A entity `v` -/
  | deleteAV (id v : Bytes)
  | deleteBV (id v : Bytes)
deriving Repr

def apply (σ : Schema) (s : St) : Op → Res
  | .createB id => createB s id
  | .createA id e => createA σ s id e
  | .updateA id e mo mb md => updateA σ s id e mo mb md
  | .deleteA id => deleteA σ (fuelOf s) [] s id
  | .deleteB id => deleteB σ s id
  | .createC c id e x => createC σ c s id e x
  | .updateC c id e x mo mb md mt mm mg => updateC σ c s id e x mo mb md mt mm mg
  | .deleteC id => deleteA σ (fuelOf s) [] s id                 -- `store.parent.DeleteById`
  | .deleteAV id v => deleteA (σ.withProtect v) (fuelOf s) [] s id
  | .deleteBV id v => deleteB (σ.withProtect v) s id

/-- one operation in its own transaction: an error rolls back -/
def step (σ : Schema) (s : St) (op : Op) : St × Option Err :=
  match apply σ s op with
  | .ok s' => (s', none)
  | .error e => (s, some e)

/-- a transaction: the first failing operation (index, error) aborts and rolls back everything -/
def runTxFrom (σ : Schema) (s0 : St) : Nat → St → List Op → St × Option (Nat × Err)
  | _, s, [] => (s, none)
  | i, s, op :: rest =>
    match apply σ s op with
    | .ok s' => runTxFrom σ s0 (i + 1) s' rest
    | .error e => (s0, some (i, e))

def runTx (σ : Schema) (s : St) (ops : List Op) : St × Option (Nat × Err) := runTxFrom σ s 0 s ops

/-- state after a history of transactions -/
def runHistory (σ : Schema) (txs : List (List Op)) : St :=
  txs.foldl (fun s tx => (runTx σ s tx).1) {}

end StorageModel.C04
