import StorageModel.Base.Bytes
/-
  C04: association-list maps keyed by byte strings (a bbolt bucket is a finite map; everything is
  phrased through `lookup`) and byte-string sets (the keys of a back-reference bucket).
  Key order is not part of the state: wherever the Go code observes bucket order (cursor walks,
  dumps) the model sorts explicitly (`sortB`).
-/
namespace StorageModel.C04
open StorageModel

abbrev Map (V : Type) := List (Bytes × V)

namespace Map
variable {V : Type}

def lookup : Map V → Bytes → Option V
  | [], _ => none
  | (k', v) :: t, k => if k' = k then some v else lookup t k

def erase (m : Map V) (k : Bytes) : Map V := m.filter (fun p => decide (p.1 ≠ k))

def insert (m : Map V) (k : Bytes) (v : V) : Map V := (k, v) :: erase m k

def keys (m : Map V) : List Bytes := m.map (·.1)

def contains (m : Map V) (k : Bytes) : Bool := (lookup m k).isSome

@[simp] theorem lookup_nil (k : Bytes) : lookup ([] : Map V) k = none := rfl

theorem lookup_filter_key (m : Map V) (p : Bytes → Bool) (k : Bytes) :
    lookup (m.filter (fun kv => p kv.1)) k = if p k = true then lookup m k else none := by
  induction m with
  | nil => simp only [List.filter_nil, lookup, ite_self]
  | cons kv t ih =>
    obtain ⟨a, b⟩ := kv
    have hpos : p a = true → List.filter (fun kv => p kv.1) ((a, b) :: t) = (a, b) :: t.filter (fun kv => p kv.1) :=
      fun hp => List.filter_cons_of_pos (p := fun kv : Bytes × V => p kv.1) hp
    have hneg : ¬ p a = true → List.filter (fun kv => p kv.1) ((a, b) :: t) = t.filter (fun kv => p kv.1) :=
      fun hp => List.filter_cons_of_neg (p := fun kv : Bytes × V => p kv.1) hp
    by_cases hp : p a = true
    · rw [hpos hp]
      by_cases hak : a = k
      · subst hak; simp only [lookup, if_true, hp]
      · simp only [lookup, if_neg hak]; exact ih
    · rw [hneg hp, ih]
      by_cases hak : a = k
      · subst hak; rw [if_neg hp, if_neg hp]
      · simp only [lookup, if_neg hak]

@[simp] theorem lookup_erase (m : Map V) (k k' : Bytes) :
    lookup (erase m k) k' = if k' = k then none else lookup m k' := by
  rw [erase, lookup_filter_key m (fun x => decide (x ≠ k))]
  by_cases h : k' = k
  · rw [if_pos h, if_neg]; simpa using h
  · rw [if_neg h, if_pos]; simpa using h
@[simp] theorem lookup_insert (m : Map V) (k k' : Bytes) (v : V) :
    lookup (insert m k v) k' = if k' = k then some v else lookup m k' := by
  by_cases h : k' = k
  · subst h; simp [insert, lookup]
  · have : ¬ k = k' := fun e => h e.symm
    simp [insert, lookup, this, h]

theorem lookup_erase_some {m : Map V} {k k' : Bytes} {v : V} (h : lookup (erase m k) k' = some v) :
    k' ≠ k ∧ lookup m k' = some v := by
  rw [lookup_erase] at h
  split at h
  · cases h
  · next hk => exact ⟨hk, h⟩

theorem forall_insert {P : V → Prop} {m : Map V} {k : Bytes} {v : V} (hm : ∀ k' v', lookup m k' = some v' → P v')
    (hv : P v) : ∀ k' v', lookup (insert m k v) k' = some v' → P v' := by
  intro k' v' h
  rw [lookup_insert] at h
  split at h
  · cases h; exact hv
  · exact hm k' v' h

theorem mem_keys_iff (m : Map V) (k : Bytes) : k ∈ keys m ↔ (lookup m k).isSome = true := by
  induction m with
  | nil => simp [keys, lookup]
  | cons p t ih =>
    obtain ⟨a, b⟩ := p
    by_cases h : a = k
    · simp [keys, lookup, h]
    · have h' : ¬ k = a := fun e => h e.symm
      simp only [keys, List.map_cons, List.mem_cons, lookup, h, if_false, h', false_or] at ih ⊢
      exact ih

@[simp] theorem contains_iff (m : Map V) (k : Bytes) : contains m k = true ↔ ∃ v, lookup m k = some v := by
  simp [contains, Option.isSome_iff_exists]

theorem mem_keys_of_lookup {m : Map V} {k : Bytes} {v : V} (h : lookup m k = some v) : k ∈ keys m :=
  (mem_keys_iff m k).2 (by rw [h]; rfl)

theorem contains_insert_mono (m : Map V) (id : Bytes) (v : V) (t : Bytes)
    (ht : contains m t = true) : contains (insert m id v) t = true := by
  rw [contains_iff, lookup_insert]
  by_cases htid : t = id
  · exact ⟨v, if_pos htid⟩
  · rw [if_neg htid]; exact (contains_iff _ _).1 ht

theorem contains_erase_of_ne (m : Map V) (id t : Bytes) (hne : t ≠ id)
    (ht : contains m t = true) : contains (erase m id) t = true := by
  rw [contains_iff, lookup_erase, if_neg hne]; exact (contains_iff _ _).1 ht

theorem contains_erase_self (m : Map V) (id : Bytes) : contains (erase m id) id = false := by
  rw [contains, lookup_erase, if_pos rfl]; rfl

end Map

/-! ### byte order (`bytes.Compare`) and sorting — only the *membership* of a sorted list is ever
    used by a theorem; the order matters for which referrer a cursor visits first. -/

def bytesLe : Bytes → Bytes → Bool
  | [], _ => true
  | _ :: _, [] => false
  | a :: as, b :: bs => if a < b then true else if b < a then false else bytesLe as bs

/-- insertion sort (structural, so that closed examples evaluate in the kernel) -/
def insertB (a : Bytes) : List Bytes → List Bytes
  | [] => [a]
  | x :: t => if bytesLe a x then a :: x :: t else x :: insertB a t

def sortB (l : List Bytes) : List Bytes := l.foldr insertB []

@[simp] theorem mem_insertB (a x : Bytes) (l : List Bytes) : x ∈ insertB a l ↔ x = a ∨ x ∈ l := by
  induction l with
  | nil => simp [insertB]
  | cons y t ih =>
    unfold insertB
    split
    · simp
    · simp only [List.mem_cons, ih]
      constructor
      · rintro (h | h | h) <;> simp [h]
      · rintro (h | h | h) <;> simp [h]

@[simp] theorem mem_sortB (x : Bytes) (l : List Bytes) : x ∈ sortB l ↔ x ∈ l := by
  induction l with
  | nil => simp [sortB]
  | cons y t ih =>
    have : sortB (y :: t) = insertB y (sortB t) := rfl
    rw [this, mem_insertB, ih]; simp

theorem filter_ne_cons_self {α : Type} [DecidableEq α] (k : α) (m : List α) (h : k ∉ m) :
    (k :: m).filter (fun x => decide (x ≠ k)) = m := by
  rw [List.filter_cons_of_neg (by simp)]
  exact List.filter_eq_self.mpr fun a ha => decide_eq_true fun e => h (e ▸ ha)

/-- `SetListEntry`: put a key into a set bucket -/
def setIns (a : Bytes) (l : List Bytes) : List Bytes := if a ∈ l then l else a :: l

/-- `DeleteListEntry`: delete a key from a set bucket (absent key: no error, as in bbolt) -/
def setDel (a : Bytes) (l : List Bytes) : List Bytes := l.filter (fun x => decide (x ≠ a))

@[simp] theorem mem_setIns (a x : Bytes) (l : List Bytes) : x ∈ setIns a l ↔ x = a ∨ x ∈ l := by
  unfold setIns
  split
  · next h => constructor
              · intro hx; exact Or.inr hx
              · rintro (rfl | hx); exact h; exact hx
  · simp

@[simp] theorem mem_setDel (a x : Bytes) (l : List Bytes) : x ∈ setDel a l ↔ x ≠ a ∧ x ∈ l := by
  simp [setDel, and_comm]

end StorageModel.C04
