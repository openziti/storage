import StorageModel.C04.Gen
/-
  C04 — proofs about the schema-parametric model (`Gen.lean`), for EVERY schema, in one walk through `DeleteById`
  (`GPost`): the in-progress map of the MutateContext is balanced (every operation, successful or refused, from any
  map), hence a history on one reused context is the history with a fresh context per transaction; a successful delete
  only REMOVES rows (any cascade, any nesting, any map: every row of every store is exactly as it was or gone, no stored
  fk value changes — "… and nothing else"); a refused operation changes nothing (transactions).
-/
namespace StorageModel.C04
open StorageModel

theorem gBefore1_own (del : GMarks → GSt → Nat → Bytes → GResM) (t : Nat) (id : Bytes) (s : GSt) (m : GMarks)
    (i : Nat) (d : GDecl) :
    gBefore1 del t id s m (.own i d) = (.ok s, m) ∨
      ∃ v, gBefore1 del t id s m (.own i d) = (.ok (s.setBack i v (setDel id (s.back i v))), m) := by
  simp only [gBefore1]
  split
  · split
    · split
      · exact Or.inr ⟨_, rfl⟩
      · exact Or.inl rfl
    · exact Or.inl rfl
  · exact Or.inl rfl

theorem gBefore1_restrict (del : GMarks → GSt → Nat → Bytes → GResM) (t : Nat) (id : Bytes) (s : GSt) (m : GMarks)
    (i : Nat) (d : GDecl) (hd : d.cascade = false) :
    gBefore1 del t id s m (.del i d) =
      (if (if d.index then s.back i id ≠ [] else gReferrers s i d id ≠ []) then .error .refExists else .ok s, m) := by
  simp only [gBefore1, hd, Bool.false_eq_true, if_false]
  cases d.index <;> simp only [Bool.false_eq_true, if_false, if_true] <;> split <;> rfl

theorem gBefore1_cascade (del : GMarks → GSt → Nat → Bytes → GResM) (t : Nat) (id : Bytes) (s : GSt) (m : GMarks)
    (i : Nat) (d : GDecl) (hd : d.cascade = true) :
    gBefore1 del t id s m (.del i d) =
      if (t, id) ∈ m then gLoop del i d id (gReferrers s i d id) s m
      else
        let r := gLoop del i d id (gReferrers s i d id) s ((t, id) :: m)
        (r.1, r.2.filter (fun k => decide (k ≠ (t, id)))) := by
  simp only [gBefore1, hd, if_true]
  by_cases h : (t, id) ∈ m <;> simp only [h, decide_true, decide_false, if_true, if_false, Bool.false_eq_true]

def GOnlyRemoves (s s' : GSt) : Prop := ∀ t x, s'.ent t x = s.ent t x ∨ s'.ent t x = none

theorem GOnlyRemoves.refl (s : GSt) : GOnlyRemoves s s := fun _ _ => Or.inl rfl

theorem GOnlyRemoves.trans {a b c : GSt} (h1 : GOnlyRemoves a b) (h2 : GOnlyRemoves b c) : GOnlyRemoves a c := by
  intro t x
  rcases h2 t x with h | h
  · rcases h1 t x with h' | h'
    · exact Or.inl (h.trans h')
    · exact Or.inr (h.trans h')
  · exact Or.inr h

theorem GOnlyRemoves.setBack (s : GSt) (i : Nat) (y : Bytes) (l : List Bytes) : GOnlyRemoves s (s.setBack i y l) :=
  fun _ _ => Or.inl rfl

theorem GOnlyRemoves.dropEnt (σ : GSchema) (s : GSt) (t : Nat) (id : Bytes) : GOnlyRemoves s (s.dropEnt σ t id) := by
  intro t' x
  simp only [GSt.dropEnt]
  split
  · exact Or.inr rfl
  · exact Or.inl rfl

/-- what every level of `DeleteById` guarantees, whatever its outcome: the in-progress map comes back as it was, and
    on success rows were only removed -/
def GPost (m : GMarks) (s : GSt) (r : GResM) : Prop := r.2 = m ∧ ∀ s', r.1 = .ok s' → GOnlyRemoves s s'

theorem GPost.ok (m : GMarks) {s s' : GSt} (h : GOnlyRemoves s s') : GPost m s (.ok s', m) :=
  ⟨rfl, fun _ e => by cases e; exact h⟩

theorem GPost.error (m : GMarks) (s : GSt) (e : Err) : GPost m s (.error e, m) := ⟨rfl, nofun⟩

theorem GPost.seq {m m1 : GMarks} {s s1 : GSt} {q : GResM} (h : GPost m s (.ok s1, m1)) (hq : GPost m1 s1 q) :
    GPost m s q :=
  ⟨hq.1.trans h.1, fun s' e => (h.2 s1 rfl).trans (hq.2 s' e)⟩

theorem gLoop_post (del : GMarks → GSt → Nat → Bytes → GResM) (hdel : ∀ m s t x, GPost m s (del m s t x))
    (i : Nat) (d : GDecl) (id : Bytes) : ∀ (l : List Bytes) (s : GSt) (m : GMarks), GPost m s (gLoop del i d id l s m) := by
  intro l
  induction l with
  | nil => intro s m; exact GPost.ok m (GOnlyRemoves.refl s)
  | cons x rest ih =>
    intro s m
    simp only [gLoop]
    split
    · exact ih s m
    · split
      · have h := hdel m s d.src x
        split
        · next s1 m1 heq => rw [heq] at h; exact h.seq (ih s1 m1)
        · next e m1 heq => rw [heq] at h; exact h
      · exact ih s m

theorem gBefore1_post (del : GMarks → GSt → Nat → Bytes → GResM) (hdel : ∀ m s t x, GPost m s (del m s t x))
    (t : Nat) (id : Bytes) (s : GSt) (m : GMarks) (c : GC) : GPost m s (gBefore1 del t id s m c) := by
  cases c with
  | own i d =>
    rcases gBefore1_own del t id s m i d with h | ⟨v, h⟩ <;> rw [h]
    · exact GPost.ok m (GOnlyRemoves.refl s)
    · exact GPost.ok m (GOnlyRemoves.setBack _ _ _ _)
  | del i d =>
    cases hd : d.cascade
    · rw [gBefore1_restrict del t id s m i d hd]
      by_cases hx : if d.index then s.back i id ≠ [] else gReferrers s i d id ≠ []
      · rw [if_pos hx]; exact GPost.error m s _
      · rw [if_neg hx]; exact GPost.ok m (GOnlyRemoves.refl s)
    · -- the mark is taken off again iff this call put it on
      rw [gBefore1_cascade del t id s m i d hd]
      by_cases hn : (t, id) ∈ m
      · rw [if_pos hn]; exact gLoop_post del hdel i d id _ s m
      · rw [if_neg hn]
        obtain ⟨h1, h2⟩ := gLoop_post del hdel i d id (gReferrers s i d id) s ((t, id) :: m)
        exact ⟨by show List.filter _ _ = m; rw [h1]; exact filter_ne_cons_self (t, id) m hn, h2⟩

theorem gPass_post (del : GMarks → GSt → Nat → Bytes → GResM) (hdel : ∀ m s t x, GPost m s (del m s t x))
    (t : Nat) (id : Bytes) : ∀ (l : List GC) (s : GSt) (m : GMarks), GPost m s (gPass del t id l s m) := by
  intro l
  induction l with
  | nil => intro s m; exact GPost.ok m (GOnlyRemoves.refl s)
  | cons c rest ih =>
    intro s m
    simp only [gPass]
    have h := gBefore1_post del hdel t id s m c
    split
    · next s1 m1 heq => rw [heq] at h; exact h.seq (ih s1 m1)
    · next e m1 heq => rw [heq] at h; exact h

theorem gDelete_post (σ : GSchema) : ∀ (n : Nat) (m : GMarks) (s : GSt) (t : Nat) (id : Bytes),
    GPost m s (gDelete σ n m s t id) := by
  intro n
  induction n with
  | zero => intro m s t id; exact GPost.error m s _
  | succ n ih =>
    intro m s t id
    simp only [gDelete]
    split
    · exact GPost.error m s _
    · have h := gPass_post (gDelete σ n) ih t id (gConstraints σ t) s m
      split
      · next s1 m1 heq =>
        rw [heq] at h
        split
        · exact h.seq (GPost.ok m1 (GOnlyRemoves.dropEnt σ s1 t id))
        · exact h.seq (GPost.error m1 s1 _)
      · next e m1 heq => rw [heq] at h; exact h

theorem gDelete_marks (σ : GSchema) (n : Nat) (m : GMarks) (s : GSt) (t : Nat) (id : Bytes) :
    (gDelete σ n m s t id).2 = m :=
  (gDelete_post σ n m s t id).1

theorem gDelete_onlyRemoves (σ : GSchema) (n : Nat) (m : GMarks) (s : GSt) (t : Nat) (x : Bytes) (s' : GSt) (m' : GMarks)
    (h : gDelete σ n m s t x = (.ok s', m')) : GOnlyRemoves s s' :=
  (gDelete_post σ n m s t x).2 s' (by rw [h])

theorem gDelete_removes_self (σ : GSchema) (n : Nat) (m : GMarks) (s : GSt) (t : Nat) (id : Bytes) (s' : GSt) (m' : GMarks)
    (h : gDelete σ n m s t id = (.ok s', m')) : s'.ent t id = none := by
  cases n with
  | zero => simp only [gDelete] at h; cases h
  | succ n =>
    simp only [gDelete] at h
    split at h
    · cases h
    · split at h
      · split at h
        · cases h; simp [GSt.dropEnt]
        · cases h
      · cases h

theorem gApply_marks (σ : GSchema) (m : GMarks) (s : GSt) (op : GOp) : (gApply σ m s op).2 = m := by
  cases op with
  | create t id row => rfl
  | update t id sel row => rfl
  | delete t id => exact gDelete_marks σ _ m s t id

theorem gRunOps_marks (σ : GSchema) : ∀ (ops : List GOp) (k : Nat) (s : GSt) (m : GMarks),
    (gRunOps σ k ops s m).2.2 = m := by
  intro ops
  induction ops with
  | nil => intro k s m; rfl
  | cons op rest ih =>
    intro k s m
    simp only [gRunOps]
    have h := gApply_marks σ m s op
    split
    · next s' m' heq => rw [heq] at h; simp only at h; subst h; exact ih _ s' _
    · next e m' heq => rw [heq] at h; simpa using h

theorem gRunTx_marks (σ : GSchema) (m : GMarks) (s : GSt) (tx : List GOp) : (gRunTx σ m s tx).2 = m := by
  have h := gRunOps_marks σ tx 0 s m
  simp only [gRunTx]
  split
  · next s' m' heq => rw [heq] at h; simpa using h
  · next e x m' heq => rw [heq] at h; simpa using h

theorem gRunHistory_fresh (σ : GSchema) (reuse : Bool) : ∀ (h : List (List GOp)) (s : GSt),
    gRunHistory σ reuse h s [] = ((gRunHistory σ false h s []).1, []) := by
  intro h
  induction h with
  | nil => intro s; rfl
  | cons tx rest ih =>
    intro s
    cases reuse
    · exact ih _
    · simp only [gRunHistory, if_true, Bool.false_eq_true, if_false]
      rw [gRunTx_marks σ [] s tx]
      exact ih _

theorem gRunTx_refused_unchanged (σ : GSchema) (m : GMarks) (s : GSt) (tx : List GOp) (e : Nat × Err)
    (h : (gRunTx σ m s tx).1.2 = some e) : (gRunTx σ m s tx).1.1 = s := by
  simp only [gRunTx] at h ⊢
  split at h
  · simp at h
  · rfl

end StorageModel.C04
