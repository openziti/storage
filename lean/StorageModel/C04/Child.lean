import StorageModel.C04.Proofs
/-
  C04 — the fks DECLARED BY the child stores (mentor index, guard constraint): every operation of the
  model preserves `MInv` (Inv.lean); together with `Inv` this is the whole invariant `FullInv`.
  `Inv` alone is proved in Proofs.lean — it does not mention `mentees1/2`, and the child stores' own
  constraint steps do not touch what it mentions (`GEq`).
-/
namespace StorageModel.C04
open StorageModel

theorem MInv.congr {σ : Schema} {P Q : Child → Bytes → Prop} {s : St} (hpq : ∀ c k, P c k ↔ Q c k) (h : MInv σ P s) :
    MInv σ Q s :=
  ⟨fun c => (h.men c).congr (hpq c), h.menT, h.guardT, h.menK⟩

theorem MInv.untouched {σ : Schema} {s : St} {id : Bytes} {e' : EntA} (hM : CInv σ s) (c : Child)
    (hs : ∀ cur, s.as.lookup id = some cur → cur.extOf c = e'.extOf c)
    (hn : s.as.lookup id = none → e'.extOf c = none) :
    SetExact (mentorOf σ c) none' (s.as.insert id e') (s.mentees c) ∧
      Targets (mentorOf σ c) (s.as.insert id e') s.bs.contains ∧
      Targets (guardOf σ c) (s.as.insert id e') s.bs.contains :=
  have hvM : ∀ cur, s.as.lookup id = some cur → evalVal (mentorOf σ c cur) = evalVal (mentorOf σ c e') :=
    fun cur hc => by unfold mentorOf; rw [hs cur hc]
  have hnM : s.as.lookup id = none → evalVal (mentorOf σ c e') = [] := fun hl => by rw [mentorOf_noExt (hn hl)]; rfl
  ⟨(hM.men c).insert_same hvM hnM, (hM.menT c).insert_same hvM hnM,
    (hM.guardT c).insert_same (fun cur hc => by unfold guardOf; rw [hs cur hc])
      (fun hl => by rw [guardOf_noExt (hn hl)]; rfl)⟩

/-- a write keeps the child-declared part of the invariant: the writing store's own index by `idxWrite_spec`, its
    guard by `Targets.write`, the other child store's fks because its data is untouched -/
theorem Written.cinv {σ : Schema} {via : Option Child} {ic : Bool} {id : Bytes} {e' : EntA} {s s' : St}
    (w : Written σ via ic id e' s s') (hM : CInv σ s) : CInv σ s' := by
  have hC : ∀ c, SetExact (mentorOf σ c) none' (s.as.insert id e') (s'.mentees c) ∧
      Targets (mentorOf σ c) (s.as.insert id e') s.bs.contains ∧ Targets (guardOf σ c) (s.as.insert id e') s.bs.contains ∧
      ∀ t, (s'.mentees c).lookup t ≠ none → s.bs.contains t = true := fun c => by
    by_cases hv : via = some c
    · have sp := idxWrite_spec (f := mentorOf σ c) (e' := e') (hM.men c) (w.kind _) (hM.menT c) (fun _ h => h) (hM.menK c)
        (w.mentees c hv)
      exact ⟨sp.1, sp.2.1, (hM.guardT c).write (fun _ h => h) (w.kind _) (w.guard c hv), sp.2.2.1⟩
    · obtain ⟨hm, hs, hn⟩ := w.other c hv
      have u := hM.untouched (e' := e') c hs hn
      exact ⟨hm ▸ u.1, u.2.1, u.2.2, hm ▸ hM.menK c⟩
  exact ⟨fun c => w.as ▸ (hC c).1, fun c => w.as ▸ w.bs ▸ (hC c).2.1, fun c => w.as ▸ w.bs ▸ (hC c).2.2.1,
    fun c => w.bs ▸ (hC c).2.2.2⟩

theorem createB_cinv {σ : Schema} {s s' : St} {id : Bytes} (hM : CInv σ s) (h : createB s id = .ok s') : CInv σ s' := by
  obtain ⟨_, _, rfl⟩ := createB_ok h
  have hmono := Map.contains_insert_mono s.bs id ()
  exact ⟨fun c => by cases c <;> exact hM.men _, fun c => (hM.menT c).mono hmono, fun c => (hM.guardT c).mono hmono,
    fun c t ht => hmono _ (hM.menK c t (by cases c <;> exact ht))⟩

/-- pending sets after the child-store steps of the rounds `l` -/
def addAll (Q : Child → Bytes → Prop) (id : Bytes) (l : List (Option Child)) : Child → Bytes → Prop :=
  fun c k => Q c k ∨ (some c ∈ l ∧ k = id)

/-- child store `c`'s `ProcessBeforeDelete`: the entity becomes pending for `c`'s index -/
theorem childBeforeDelete_minv {σ : Schema} {Q : Child → Bytes → Prop} {c : Child} {id : Bytes} {s : St}
    (hM : MInv σ Q s) : MInv σ (fun c' k => Q c' k ∨ (c' = c ∧ k = id)) (childBeforeDelete σ c id s) := by
  unfold childBeforeDelete
  cases hidx : σ.idx c
  · simp only [Bool.false_eq_true, if_false]
    refine ⟨fun c' => ?_, hM.menT, hM.guardT, hM.menK⟩
    by_cases hc' : c' = c
    · subst hc'
      refine ((hM.men c').del_null (id := id) ?_).congr (fun k => by simp [plus])
      intro e _; rw [mentorOf_undeclared hidx]; rfl
    · exact (hM.men c').congr (fun k => by simp [hc'])
  · simp only [if_true]
    have hv : ∀ e, s.as.lookup id = some e → evalVal (mentorOf σ c e) = childField s id c (·.m) :=
      fun e he => (childField_m hidx he).symm
    have sp := idxDelB_spec (tgt := s.bs.contains) (hM.men c) hv (hM.menK c)
    have has : (s.setMentees c (idxDelB s.bs.contains (childField s id c (·.m)) id (s.mentees c))).as = s.as := by
      cases c <;> rfl
    have hbs : (s.setMentees c (idxDelB s.bs.contains (childField s id c (·.m)) id (s.mentees c))).bs = s.bs := by
      cases c <;> rfl
    refine ⟨fun c' => ?_, fun c' => by rw [has, hbs]; exact hM.menT c', fun c' => by rw [has, hbs]; exact hM.guardT c',
      fun c' t ht => ?_⟩
    · rw [has, mentees_setMentees]
      by_cases hc' : c' = c
      · subst hc'; simp only [if_true]; exact sp.1.congr (fun k => by simp [plus])
      · simp only [hc', if_false]; exact (hM.men c').congr (fun k => by simp)
    · rw [hbs]
      rw [mentees_setMentees] at ht
      by_cases hc' : c' = c
      · subst hc'; simp only [if_true] at ht; exact sp.2 t ht
      · simp only [hc', if_false] at ht; exact hM.menK c' t ht

theorem rounds_minv {σ : Schema} {del : List Bytes → St → Bytes → Res} {prog : List Bytes} {id : Bytes}
    (hdel : ∀ (Q : Child → Bytes → Prop) st x st', MInv σ Q st → del (mark prog id) st x = .ok st' → MInv σ Q st') :
    ∀ (l : List (Option Child)) (Q : Child → Bytes → Prop) (st s' : St), MInv σ Q st →
      l.foldlM (roundA σ del prog id) st = .ok s' → MInv σ (addAll Q id l) s' := by
  intro l
  induction l with
  | nil =>
    intro Q st s' hM h
    simp only [List.foldlM_nil, pure, Except.pure] at h
    cases h
    exact hM.congr (fun c k => by simp [addAll])
  | cons r rest ih =>
    intro Q st s' hM h
    obtain ⟨s3, hp, h2⟩ := bind_ok.1 (rounds_cons .. ▸ h)
    -- A's round leaves the child-declared indexes to the nested deletes
    have hM3 : MInv σ Q s3 := cascadeOver_pres (fun st x st' _ _ => hdel Q st x st') _ (preDelete st id) s3
      ⟨hM.men, hM.menT, hM.guardT, hM.menK⟩ (passA_eq .. ▸ hp)
    cases r with
    | none =>
      refine (ih Q _ s' hM3 h2).congr ?_
      intro c k
      simp [addAll]
    | some c0 =>
      have hM1 := childBeforeDelete_minv (c := c0) (id := id) hM3
      refine (ih _ _ s' hM1 h2).congr ?_
      intro c k
      simp only [addAll, List.mem_cons, Option.some.injEq, or_and_right, or_assoc]

theorem mem_roundsOf (σ : Schema) (s : St) (id : Bytes) (c : Child) :
    some c ∈ roundsOf σ s id ↔ hasExt s id c = true := by
  unfold roundsOf childOrder
  cases σ.c2First <;> cases c <;> simp

theorem deleteA_minv {σ : Schema} {n : Nat} {Q : Child → Bytes → Prop} {prog : List Bytes} {s s' : St} {id : Bytes}
    (hM : MInv σ Q s) (h : deleteA σ n prog s id = .ok s') : MInv σ Q s' := by
  induction n generalizing Q prog s id s' with
  | zero => cases h
  | succ n ih =>
    obtain ⟨hc, s3, hF, _, rfl, _⟩ := deleteA_succ_char h
    obtain ⟨e, he⟩ := (Map.contains_iff _ _).1 hc
    have hM3 := rounds_minv (fun _ _ _ _ a b => ih a b) _ Q s s3 hM hF
    have he3 : s3.as.lookup id = some e := rounds_keeps_id _ s s3 he hF
    refine ⟨fun c => ?_, fun c => (hM3.menT c).erase, fun c => (hM3.guardT c).erase,
      fun c t ht => hM3.menK c t (by cases c <;> exact ht)⟩
    have hmen : ({ s3 with as := s3.as.erase id, minions := s3.minions.erase id } : St).mentees c = s3.mentees c := by
      cases c <;> rfl
    rw [hmen]
    refine (hM3.men c).erase_unlisted (fun k hk => (or_iff_left fun h => hk h.2).symm) ?_
    -- `c`'s round made `id` pending, or `c` holds no data for it and its mentor value there is null
    cases hx : e.extOf c with
    | some v => exact Or.inl (Or.inr ⟨(mem_roundsOf σ s id c).2 (by simp [hasExt, he, hx]), rfl⟩)
    | none => exact Or.inr fun e' he' => by rw [he3] at he'; cases he'; rw [mentorOf_noExt hx]; rfl

theorem depStep_cinv {σ : Schema} {n : Nat} {id : Bytes} {st st' : St} (hM : CInv σ st)
    (h : beforeDeleteB σ (deleteA σ n []) id st .depCascade = .ok st') : CInv σ st' :=
  depStep_pres (fun _ _ _ _ a b => deleteA_minv a b) h hM

theorem childRestrict_iff {σ : Schema} {s : St} {b : Bytes} (hM : CInv σ s) (hb : b ≠ []) (c : Child) :
    childRestrict σ s b c = true ↔
      ∃ k e, s.as.lookup k = some e ∧ (mentorOf σ c e = some b ∨ guardOf σ c e = some b) := by
  simp only [childRestrict, Bool.or_eq_true, Bool.and_eq_true, decide_eq_true_eq]
  constructor
  · rintro (⟨_, hne⟩ | hne)
    · obtain ⟨k, hk⟩ := List.exists_mem_of_ne_nil _ hne
      obtain ⟨e, he, hv, _, _⟩ := ((hM.men c) b k).1 hk
      exact ⟨k, e, he, Or.inl (evalVal_eq_some hv hb)⟩
    · obtain ⟨k, hk⟩ := List.exists_mem_of_ne_nil _ hne
      obtain ⟨e, he, hf⟩ := (isReferrer_iff s _ b k).1 ((mem_referrers s _ b k).1 hk)
      exact ⟨k, e, he, Or.inr hf⟩
  · rintro ⟨k, e, he, hm | hg⟩
    · have hidx : σ.idx c = true := by
        cases hi : σ.idx c with
        | true => rfl
        | false => rw [mentorOf_undeclared hi] at hm; cases hm
      exact Or.inl ⟨hidx, List.ne_nil_of_mem (((hM.men c) b k).2 ⟨e, he, congrArg evalVal hm, hb, fun h => h⟩)⟩
    · exact Or.inr (List.ne_nil_of_mem ((mem_referrers s _ b k).2 ((isReferrer_iff s _ b k).2 ⟨e, he, hg⟩)))

theorem deleteB_cinv {σ : Schema} {s s' : St} {id : Bytes} (hI : Inv σ s) (hM : CInv σ s)
    (h : deleteB σ s id = .ok s') : CInv σ s' := by
  obtain ⟨hb, s2, hd, _, hr1, hr2, rfl⟩ := deleteB_char h
  have hidne : id ≠ [] := hI.ne_nilB hb
  have hM2 : CInv σ s2 := depStep_cinv hM hd
  -- nothing refers to `id` through a declared mentor / guard
  have hno : ∀ c k e, s2.as.lookup k = some e → mentorOf σ c e ≠ some id ∧ guardOf σ c e ≠ some id := fun c k e he =>
    have hr : childRestrict σ s2 id c = false := by cases c; exact hr1; exact hr2
    ⟨fun hm => Bool.false_ne_true (hr.symm.trans ((childRestrict_iff hM2 hidne c).2 ⟨k, e, he, Or.inl hm⟩)),
     fun hg => Bool.false_ne_true (hr.symm.trans ((childRestrict_iff hM2 hidne c).2 ⟨k, e, he, Or.inr hg⟩))⟩
  have hnoM : ∀ c k e, s2.as.lookup k = some e → evalVal (mentorOf σ c e) ≠ [] → evalVal (mentorOf σ c e) ≠ id :=
    fun c k e he _ hv => (hno c k e he).1 (evalVal_eq_some hv hidne)
  have hnoG : ∀ c k e, s2.as.lookup k = some e → evalVal (guardOf σ c e) ≠ [] → evalVal (guardOf σ c e) ≠ id :=
    fun c k e he _ hv => (hno c k e he).2 (evalVal_eq_some hv hidne)
  have hkeep := Map.contains_erase_of_ne s2.bs id
  have hmen : ∀ c, St.mentees (St.mk s2.as (s2.bs.erase id) (s2.things.erase id) s2.minions (s2.mentees1.erase id)
      (s2.mentees2.erase id)) c = (s2.mentees c).erase id :=
    fun c => by cases c <;> rfl
  refine ⟨fun c => ?_, fun c k e he hne => ?_, fun c k e he hne => ?_, fun c t ht => ?_⟩
  · rw [hmen c]
    exact (hM2.men c).erase_key (fun k e he _ hne => hnoM c k e he hne)
  · exact hkeep _ (hnoM c k e he hne) (hM2.menT c k e he hne)
  · exact hkeep _ (hnoG c k e he hne) (hM2.guardT c k e he hne)
  · exact keysLive_erase id (hM2.menK c) t (hmen c ▸ ht)

theorem cinv_empty (σ : Schema) : CInv σ {} := by
  refine ⟨fun c => ?_, fun c => ?_, fun c => ?_, fun c t ht => ?_⟩
  · intro t k; cases c <;> simp [St.mentees]
  · intro k e he; simp at he
  · intro k e he; simp at he
  · cases c <;> simp [St.mentees] at ht

theorem MInv.of_schema {σ σ' : Schema} {P : Child → Bytes → Prop} {s : St} (h : MInv σ' P s)
    (hi : σ'.idx = σ.idx) (hf : σ'.fk = σ.fk) : MInv σ P s := by
  have hm : ∀ c, mentorOf σ' c = mentorOf σ c := fun c => by funext e; unfold mentorOf; rw [hi]
  have hg : ∀ c, guardOf σ' c = guardOf σ c := fun c => by funext e; unfold guardOf; rw [hf]
  exact ⟨fun c => hm c ▸ h.men c, fun c => hm c ▸ h.menT c, fun c => hg c ▸ h.guardT c, h.menK⟩

theorem apply_full {σ : Schema} {s s' : St} (op : Op) (hF : FullInv σ s) (h : apply σ s op = .ok s') : FullInv σ s' := by
  refine ⟨apply_inv op hF.1 h, ?_⟩
  cases op with
  | createB id => exact createB_cinv hF.2 h
  | createA id e => exact (createA_written h).2.cinv hF.2
  | updateA id e mo mb md => obtain ⟨_, _, w⟩ := updateA_written h; exact w.cinv hF.2
  | deleteA id => exact deleteA_minv hF.2 h
  | deleteB id => exact deleteB_cinv hF.1 hF.2 h
  | createC c id e x => exact (createC_written h).2.cinv hF.2
  | updateC c id e x mo mb md mt mm mg => obtain ⟨_, _, _, _, w⟩ := updateC_written h; exact w.cinv hF.2
  | deleteC id => exact deleteA_minv hF.2 h
  | deleteAV id v =>
    exact (deleteA_minv (σ := σ.withProtect v) (hF.2.of_schema rfl rfl) h).of_schema rfl rfl
  | deleteBV id v =>
    exact (deleteB_cinv (σ := σ.withProtect v) (hF.1.of_schema rfl) (hF.2.of_schema rfl rfl) h).of_schema rfl rfl

theorem full_reachable (σ : Schema) (txs : List (List Op)) : FullInv σ (runHistory σ txs) :=
  history_pres (fun _ _ op => apply_full op) txs {} ⟨inv_empty σ, cinv_empty σ⟩

end StorageModel.C04
