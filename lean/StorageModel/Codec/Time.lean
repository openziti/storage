import StorageModel.Codec.Bucket
/-
  `UnmarshalBinary ∘ MarshalBinary` preserves the instant in every representation `MarshalBinary` accepts, which
  ones it refuses, and that the `UTC()` of `SetTime` / `SetTimeP` makes the stored bytes a function of the instant.
-/
namespace StorageModel.Codec
open StorageModel

theorem be_length (w n : Nat) : (be w n).length = w := by simp [be, le_length]

theorem ofBE_be (w n : Nat) : ofBE (be w n) = n % 256 ^ w := by
  simp [ofBE, be, ofLE_le]

theorem fields_split (a b c : Nat) (rest : Bytes) :
    let buf := be 8 a ++ be 4 b ++ be 2 c ++ rest
    buf.take 8 = be 8 a ∧ (buf.drop 8).take 4 = be 4 b ∧ (buf.drop 12).take 2 = be 2 c ∧ buf.drop 14 = rest := by
  intro buf
  have e8 : buf = be 8 a ++ (be 4 b ++ (be 2 c ++ rest)) := by simp [buf]
  have d8 : buf.drop 8 = be 4 b ++ (be 2 c ++ rest) := by
    rw [e8]; exact List.drop_left' (be_length 8 a)
  have d12 : buf.drop 12 = be 2 c ++ rest := by
    have : buf.drop 12 = (buf.drop 8).drop 4 := by simp [List.drop_drop]
    rw [this, d8]; exact List.drop_left' (be_length 4 b)
  have d14 : buf.drop 14 = rest := by
    have : buf.drop 14 = (buf.drop 12).drop 2 := by simp [List.drop_drop]
    rw [this, d12]; exact List.drop_left' (be_length 2 c)
  refine ⟨?_, ?_, ?_, d14⟩
  · rw [e8]; exact List.take_left' (be_length 8 a)
  · rw [d8]; exact List.take_left' (be_length 4 b)
  · rw [d12]; exact List.take_left' (be_length 2 c)

theorem timeFields_length (v : UInt8) (t : GoTime) (m : Int) : (timeFields v t m).length = 15 := by
  simp [timeFields, be_length]

theorem sec_back (s : Int) (h : InInt64 s) : toSigned 64 (ofBE (be 8 (toUnsigned 64 s))) = s :=
  (ofBE_be 8 _).symm ▸ toSigned_mod 64 (by decide) s h.1 h.2

theorem nsec_back (n : Nat) (h : n < 1000000000) : ofBE (be 4 n) = n :=
  (ofBE_be 4 n).trans (Nat.mod_eq_of_lt (Nat.lt_trans h (by decide)))

theorem offmin_back (m : Int) (hlo : -32768 ≤ m) (hhi : m ≤ 32767) :
    toSigned 16 (ofBE (be 2 (toUnsigned 16 m))) = m :=
  (ofBE_be 2 _).symm ▸ toSigned_mod 16 (by decide) m hlo (Int.lt_of_le_sub_one hhi)

theorem unmarshal_fields (v : UInt8) (t : GoTime) (m : Int) (rest : Bytes) (ht : t.valid)
    (hv : v = 1 ∨ v = 2) (hlen : rest.length = if v = 2 then 1 else 0) (hlo : -32768 ≤ m) (hhi : m ≤ 32767) :
    unmarshalBinary (timeFields v t m ++ rest) =
      .ok { sec := t.sec, nsec := t.nsec, mono := false,
            loc := if m * 60 + (if v = 2 then ((rest.headD 0).toNat : Int) else 0) = -60 then .utc
                   else .zone (m * 60 + (if v = 2 then ((rest.headD 0).toNat : Int) else 0)) } := by
  obtain ⟨h1, h2, h3, h4⟩ := fields_split (toUnsigned 64 t.sec) t.nsec (toUnsigned 16 m) rest
  have hver : ¬ (v ≠ 1 ∧ v ≠ 2) := by rcases hv with rfl | rfl <;> decide
  have hl : ¬ ((v :: (be 8 (toUnsigned 64 t.sec) ++ be 4 t.nsec ++ be 2 (toUnsigned 16 m) ++ rest)).length ≠
      (if v = 2 then 16 else 15)) := by
    simp only [List.length_cons, List.length_append, be_length, hlen]
    rcases hv with rfl | rfl <;> simp
  have hn : t.nsec < 2 ^ 31 := Nat.lt_trans ht.2 (by decide)
  have hn30 : t.nsec % 2 ^ 30 = t.nsec := Nat.mod_eq_of_lt (Nat.lt_trans ht.2 (by decide))
  rw [timeFields, List.cons_append, unmarshalBinary]
  simp only [hver, hl, if_false, h1, h2, h3, h4, nsec_back t.nsec ht.2, hn, if_true, sec_back t.sec ht.1, hn30,
    offmin_back m hlo hhi]

theorem marshal_utc (t : GoTime) : marshalBinary t.utc = .ok (timeFields 1 t (-1)) := rfl

theorem timePayload_ok (t : GoTime) : timePayload t = .ok (timeFields 1 t (-1)) := rfl

theorem unmarshal_utc_bytes (t : GoTime) (ht : t.valid) :
    unmarshalBinary (timeFields 1 t (-1)) = .ok t.utc := by
  have := unmarshal_fields 1 t (-1) [] ht (Or.inl rfl) rfl (by decide) (by decide)
  rw [List.append_nil] at this
  exact this

/-- Go's truncating division through the flooring one, which `omega` decides -/
theorem tdiv60 (off : Int) : off.tdiv 60 = if 0 ≤ off then off / 60 else -((-off) / 60) := by
  split
  · next h => exact Int.tdiv_eq_ediv_of_nonneg h
  · next h =>
    have := Int.neg_tdiv (-off) 60
    rw [Int.neg_neg] at this
    rw [this, Int.tdiv_eq_ediv_of_nonneg (by omega)]

/-- the minute counts `MarshalBinary` refuses, as offsets in seconds: the count -1 is -119 … -60 s -/
theorem tdiv60_refused (off : Int) :
    (off.tdiv 60 < -32768 ∨ off.tdiv 60 = -1 ∨ off.tdiv 60 > 32767) ↔
      ((-119 ≤ off ∧ off ≤ -60) ∨ off ≤ -1966140 ∨ 1966080 ≤ off) := by
  rw [tdiv60]
  split <;> omega

theorem marshal_refuses_iff (t : GoTime) :
    marshalBinary t = .error .zoneOffset ↔
      ∃ off, t.loc = .zone off ∧ ((-119 ≤ off ∧ off ≤ -60) ∨ off ≤ -1966140 ∨ 1966080 ≤ off) := by
  fun_cases marshalBinary t with
  | case1 hl => exact iff_of_false (fun h => nomatch h) fun ⟨off, ho, _⟩ => nomatch hl.symm.trans ho
  | case2 off hl m hm => exact iff_of_true rfl ⟨off, hl, (tdiv60_refused off).mp hm⟩
  | case3 off hl m hm | case4 off hl m hm =>
    refine iff_of_false (fun h => nomatch h) fun ⟨off', ho, hr⟩ => hm ?_
    obtain rfl := Loc.zone.inj (hl.symm.trans ho)
    exact (tdiv60_refused _).mpr hr

theorem unmarshal_marshal_instant (t : GoTime) (p : Bytes) (ht : t.valid) (h : marshalBinary t = .ok p) :
    ∃ u, unmarshalBinary p = .ok u ∧ u.sameInstant t := by
  revert h
  fun_cases marshalBinary t with
  | case1 hl =>
    intro h
    obtain rfl := Except.ok.inj h
    exact ⟨_, unmarshal_utc_bytes t ht, rfl, rfl⟩
  | case2 => exact fun h => nomatch h
  | case3 off hl m hm hmod =>
    intro h
    obtain rfl := Except.ok.inj h
    exact ⟨_, unmarshal_fields 2 t _ [_] ht (Or.inr rfl) rfl (Int.not_lt.mp fun h => hm (Or.inl h))
      (Int.not_lt.mp fun h => hm (Or.inr (Or.inr h))), rfl, rfl⟩
  | case4 off hl m hm hmod =>
    intro h
    obtain rfl := Except.ok.inj h
    have := unmarshal_fields 1 t m [] ht (Or.inl rfl) rfl (Int.not_lt.mp fun h => hm (Or.inl h))
      (Int.not_lt.mp fun h => hm (Or.inr (Or.inr h)))
    rw [List.append_nil] at this
    exact ⟨_, this, rfl, rfl⟩

theorem timePayload_instant (t u : GoTime) (h : t.sameInstant u) : timePayload t = timePayload u := by
  rw [timePayload_ok, timePayload_ok]
  simp [timeFields, h.1, h.2]

theorem timeFields_ne_nil (v : UInt8) (t : GoTime) (m : Int) : timeFields v t m ≠ [] := by simp [timeFields]

mutual
/-- the value with every time (at any depth) replaced by its UTC representation: two values with
    the same `utcRep` differ only in how their times are represented -/
def utcRep : Value → Value
  | .time t => .time t.utc
  | .map kvs => .map (utcKvs kvs)
  | .list xs => .list (utcXs xs)
  | .nil => .nil
  | .str s => .str s
  | .i32 i => .i32 i
  | .i64 i => .i64 i
  | .goInt i => .goInt i
  | .f64 b => .f64 b
  | .bool b => .bool b
  | .unsupported => .unsupported
def utcKvs : List (Bytes × Value) → List (Bytes × Value)
  | [] => []
  | (k, v) :: r => (k, utcRep v) :: utcKvs r
def utcXs : List Value → List Value
  | [] => []
  | v :: r => utcRep v :: utcXs r
end

theorem utcXs_length (xs : List Value) : (utcXs xs).length = xs.length := by
  induction xs with
  | nil => rfl
  | cons v r ih => simp [utcXs, ih]

mutual
theorem setMarshaled_utcRep (v : Value) (es : Bkt) (name : Bytes) (a : Bool) :
    setMarshaled es name (utcRep v) a = setMarshaled es name v a := by
  cases v
  case map kvs => simp only [utcRep, setMarshaled, putEntries_utcRep kvs [] true]
  case list xs => simp only [utcRep, setMarshaled, putElems_utcRep xs [] 0, utcXs_length]
  all_goals rfl
theorem putEntries_utcRep (kvs : List (Bytes × Value)) (child : Bkt) (a : Bool) :
    putEntries child (utcKvs kvs) a = putEntries child kvs a := by
  match kvs with
  | [] => rfl
  | (k, v) :: r =>
    simp only [utcKvs, putEntries, setMarshaled_utcRep v child k a]
    split
    · rfl
    · exact putEntries_utcRep r _ a
theorem putElems_utcRep (xs : List Value) (child : Bkt) (idx : Nat) :
    putElems child (utcXs xs) idx = putElems child xs idx := by
  match xs with
  | [] => rfl
  | v :: r =>
    simp only [utcXs, putElems, setMarshaled_utcRep v child (idxKey idx) true]
    split
    · rfl
    · exact putElems_utcRep r _ (idx + 1)
end

mutual
theorem normalize_utcRep (v : Value) : normalize (utcRep v) = normalize v := by
  cases v
  case map kvs => simp only [utcRep, normalize, normKvs_utcRep kvs []]
  case list xs => simp only [utcRep, normalize, normXs_utcRep xs]
  all_goals rfl
theorem normKvs_utcRep (kvs : List (Bytes × Value)) (acc : List (Bytes × Value)) :
    normKvs (utcKvs kvs) acc = normKvs kvs acc := by
  match kvs with
  | [] => rfl
  | (k, v) :: r => simp only [utcKvs, normKvs, normalize_utcRep v, normKvs_utcRep r]
theorem normXs_utcRep (xs : List Value) : normXs (utcXs xs) = normXs xs := by
  match xs with
  | [] => rfl
  | v :: r => simp only [utcXs, normXs, normalize_utcRep v, normXs_utcRep r]
end

end StorageModel.Codec
