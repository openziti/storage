import StorageModel.Codec.Nested
/-
  The keys of a list bucket are the tag byte 02 and the four LITTLE-endian bytes of the index, in a bucket
  that bbolt keeps in `bytes.Compare` order: key order is index order only below 256, and element 256 is the
  second entry a cursor delivers.  `GetList` looks every index up; `getListByCursor` is the strategy this breaks.
-/
namespace StorageModel.Codec
open StorageModel

theorem u8_ofNat_lt (a b : Nat) (hb : b < 256) (h : a < b) : UInt8.ofNat a < UInt8.ofNat b := by
  rw [UInt8.lt_iff_toNat_lt, UInt8.toNat_ofNat', UInt8.toNat_ofNat']
  have e : 2 ^ 8 = 256 := by decide
  rw [e, Nat.mod_eq_of_lt (by omega), Nat.mod_eq_of_lt hb]
  exact h

/-- below 65536 the keys compare as (low byte, second byte) of the index -/
theorem idxKey_lt (i j : Nat) (hi : i < 65536) (hj : j < 65536)
    (h : i % 256 < j % 256 ∨ i % 256 = j % 256 ∧ i / 256 < j / 256) : idxKey i < idxKey j := by
  have hb : (65536 : Nat) < 2 ^ 32 := by decide
  rw [idxKey_eq i (Nat.lt_trans hi hb), idxKey_eq j (Nat.lt_trans hj hb)]
  simp only [le]
  rw [List.cons_lt_cons_iff]
  refine Or.inr ⟨rfl, ?_⟩
  rw [List.cons_lt_cons_iff]
  rcases h with h | ⟨h1, h2⟩
  · exact Or.inl (u8_ofNat_lt _ _ (Nat.mod_lt j (by decide)) h)
  · have hq : j / 256 < 256 := Nat.div_lt_of_lt_mul hj
    rw [h1, Nat.mod_eq_of_lt hq, Nat.mod_eq_of_lt (Nat.lt_trans h2 hq)]
    exact Or.inr ⟨rfl, List.cons_lt_cons_iff.mpr (Or.inl (u8_ofNat_lt _ _ hq h2))⟩

/-- 256 is (0, 1): every other index except 0 has a larger low byte, or low byte 0 and a larger second byte -/
theorem idxKey_256_lt (i : Nat) (h0 : i ≠ 0) (h256 : i ≠ 256) (hi : i < 65536) : idxKey 256 < idxKey i :=
  idxKey_lt 256 i (by decide) hi (by omega)

theorem idxKey_0_lt_256 : idxKey 0 < idxKey 256 := by decide
theorem idxKey_256_lt_1 : idxKey 256 < idxKey 1 := by decide
theorem idxKey_256_lt_listSizeKey : idxKey 256 < listSizeKey := by decide

theorem putElems_sorted (xs : List Value) (child : Bkt) (idx : Nat) (child' : Bkt)
    (h : putElems child xs idx = .ok child') (hsd : Sorted child) : Sorted child' := by
  induction xs generalizing child idx with
  | nil => simp only [putElems] at h; injection h with h; subst h; exact hsd
  | cons v r ih =>
    obtain ⟨c1, hc1, h⟩ := putElems_cons h
    obtain ⟨n, hn⟩ := setMarshaled_shape hc1
    exact ih c1 (idx + 1) h (by rw [hn]; exact sorted_ins _ _ _ hsd)

theorem putElems_keys (xs : List Value) (child : Bkt) (idx : Nat) (child' : Bkt)
    (h : putElems child xs idx = .ok child') (k : Bytes) (hk : k ∈ keys child') :
    k ∈ keys child ∨ ∃ i, i < xs.length ∧ k = idxKey (idx + i) := by
  apply Classical.or_iff_not_imp_right.mpr
  intro hne
  rw [mem_keys_iff, ← putElems_frame xs child idx child' h k fun i hi e => hne ⟨i, hi, e⟩, ← mem_keys_iff]
  exact hk

theorem sorted_head {α : Type} {k0 : Bytes} {n0 : α} {t : List (Bytes × α)} {a : Bytes}
    (hs : Sorted ((k0, n0) :: t)) (ha : a ∈ keys ((k0, n0) :: t))
    (hmin : ∀ k ∈ keys ((k0, n0) :: t), k = a ∨ a < k) : k0 = a := by
  rcases List.mem_cons.mp ha with e | hat
  · exact e.symm
  · rcases hmin k0 (List.mem_cons_self ..) with e | h2
    · exact e
    · exact absurd (List.lt_trans ((sorted_cons.mp hs).1 a hat) h2) (List.lt_irrefl _)

theorem sorted_head2 {α : Type} (l : List (Bytes × α)) (a b : Bytes) (hs : Sorted l) (ha : a ∈ keys l) (hb : b ∈ keys l)
    (hab : a < b) (hall : ∀ k ∈ keys l, k = a ∨ k = b ∨ b < k) :
    ∃ na nb rest, l = (a, na) :: (b, nb) :: rest := by
  cases l with
  | nil => nomatch ha
  | cons e0 t =>
    obtain ⟨k0, n0⟩ := e0
    obtain rfl : k0 = a :=
      sorted_head hs ha fun k hk => (hall k hk).imp_right fun h => h.elim (· ▸ hab) (List.lt_trans hab)
    obtain ⟨hlt, hst⟩ := sorted_cons.mp hs
    have hbt : b ∈ keys t := (List.mem_cons.mp hb).resolve_left fun e => List.lt_irrefl _ (e ▸ hab)
    cases t with
    | nil => nomatch hbt
    | cons e1 t' =>
      obtain ⟨k1, n1⟩ := e1
      obtain rfl : k1 = b := sorted_head hst hbt fun k hk =>
        (hall k (List.mem_cons_of_mem _ hk)).elim (fun e => absurd (e ▸ hlt k hk) (List.lt_irrefl _)) id
      exact ⟨n0, n1, t', rfl⟩

/-- what a single cursor pass over a list bucket delivers: the readings of the entries in key
    order, the size entry skipped -/
def cursorWalk (c : Bkt) : List (Res Value) :=
  ((readEs c).filter fun e => e.1 ≠ listSizeKey).map (·.2)

/-- "walk the list bucket once and append in key order" -/
def getListByCursor (c : Bkt) : Res Value := (seqAll (cursorWalk c)).map .list

theorem getListByCursor_second {k0 k1 : Bytes} {n0 n1 : Node} {rest : Bkt} {v : Value} {l : List Value}
    (h0 : k0 ≠ listSizeKey) (h1 : k1 ≠ listSizeKey) (hr : readNode n1 = .ok v)
    (h : getListByCursor ((k0, n0) :: (k1, n1) :: rest) = .ok (.list l)) : l.getD 1 .nil = v := by
  have hw : cursorWalk ((k0, n0) :: (k1, n1) :: rest) = readNode n0 :: .ok v :: cursorWalk rest := by
    simp [cursorWalk, readEs, h0, h1, hr]
  rw [getListByCursor, hw] at h
  -- `seqAll` succeeds only if the first reading and the rest do, and then keeps `v` in second place
  cases hn0 : readNode n0 with
  | panic => rw [hn0] at h; cases h
  | ok a0 =>
    cases hq : seqAll (cursorWalk rest) with
    | panic => simp only [hn0, seqAll, hq] at h; cases h
    | ok vs =>
      simp only [hn0, seqAll, hq] at h
      injection h with h
      injection h with h
      subst h
      rfl

theorem list_bucket_head (xs : List Value) (child child' : Bkt)
    (h256 : 256 < xs.length) (hle : xs.length ≤ 65536) (hs : supportedXs xs = true)
    (hc : putElems [] xs 0 = .ok child)
    (hc' : child' = ins child listSizeKey (.val (int32ToBytes (xs.length : Int)))) :
    ∃ n0 n256 rest, child' = (idxKey 0, n0) :: (idxKey 256, n256) :: rest ∧
      readNode n256 = .ok ((normXs xs).getD 256 .nil) := by
  have hsorted : Sorted child' := hc' ▸ sorted_ins _ _ _ (putElems_sorted xs [] 0 child hc sorted_nil)
  have hlook : ∀ i, i < xs.length →
      ∃ n, look child' (idxKey i) = some n ∧ readNode n = .ok ((normXs xs).getD i .nil) := by
    intro i hi
    obtain ⟨n, hn, hr⟩ :=
      putElems_spec xs [] 0 child hc hs (by rw [Nat.zero_add]; exact Nat.le_trans hle (by decide)) i hi
    exact ⟨n, by rw [hc', look_ins_ne _ _ _ _ (idxKey_ne_listSizeKey i)]; exact Nat.zero_add i ▸ hn, hr⟩
  have hmem : ∀ i, i < xs.length → idxKey i ∈ keys child' := fun i hi =>
    let ⟨n, hn, _⟩ := hlook i hi
    (mem_keys_iff _ _).mpr ⟨n, hn⟩
  have hall : ∀ k ∈ keys child', k = idxKey 0 ∨ k = idxKey 256 ∨ idxKey 256 < k := by
    intro k hk
    rw [hc', mem_keys_ins] at hk
    rcases hk with rfl | hk
    · exact Or.inr (Or.inr idxKey_256_lt_listSizeKey)
    · rcases putElems_keys xs [] 0 child hc k hk with h | ⟨i, hi, rfl⟩
      · nomatch h
      · rw [Nat.zero_add]
        by_cases h0 : i = 0
        · exact Or.inl (h0 ▸ rfl)
        · by_cases h2 : i = 256
          · exact Or.inr (Or.inl (h2 ▸ rfl))
          · exact Or.inr (Or.inr (idxKey_256_lt i h0 h2 (Nat.lt_of_lt_of_le hi hle)))
  obtain ⟨n0, n256, rest, hshape⟩ :=
    sorted_head2 child' (idxKey 0) (idxKey 256) hsorted (hmem 0 (Nat.lt_trans (by decide) h256)) (hmem 256 h256) idxKey_0_lt_256 hall
  obtain ⟨n, hn, hr⟩ := hlook 256 h256
  have hne : idxKey 256 ≠ idxKey 0 := by decide
  rw [hshape, look, if_neg hne, look, if_pos rfl] at hn
  exact ⟨n0, n256, rest, hshape, Option.some.inj hn ▸ hr⟩

end StorageModel.Codec
