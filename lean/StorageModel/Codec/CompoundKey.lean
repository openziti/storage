import StorageModel.Codec.Varint
/-
  Model of boltz/encode.go: EncodeStringSlice / EncodeByteSlice / DecodeStringSlice / DecodeNext.
  `MaxLinkedSetKeySize = 4096` (boltz/link_collection.go).
-/
namespace StorageModel.Codec
open StorageModel

inductive KeyErr
  | encodeTooLong      -- "On encode, linked key component … exceeds max size"
  | badVarint          -- Uvarint read < 1: "incorrectly encoded compound key?"
  | decodeTooLong      -- "On decoded, linked key component exceeds max size"
  | short              -- "Not enough bytes left to decode"
  deriving DecidableEq, Repr

def maxLinkedSetKeySize : Nat := 4096

/-- `EncodeByteSlice` -/
def encodeByteSlice (value : Bytes) : Except KeyErr Bytes :=
  if value.length > maxLinkedSetKeySize then .error .encodeTooLong
  else .ok (putUvarint value.length ++ value)

/-- `EncodeStringSlice`: the loop `compoundKey = append(compoundKey, encoded...)`, first error wins -/
def encodeFrom (acc : Bytes) : List Bytes → Except KeyErr Bytes
  | [] => .ok acc
  | v :: rest =>
    match encodeByteSlice v with
    | .error e => .error e
    | .ok enc => encodeFrom (acc ++ enc) rest

def encodeStringSlice (values : List Bytes) : Except KeyErr Bytes := encodeFrom [] values

/-- `DecodeNext` : (next, remaining) -/
def decodeNext (val : Bytes) : Except KeyErr (Bytes × Bytes) :=
  let (keyLen, read) := uvarint val
  if read < 1 then .error .badVarint
  else if keyLen > maxLinkedSetKeySize then .error .decodeTooLong
  else
    let val' := val.drop read.toNat
    if val'.length < keyLen then .error .short
    else .ok (val'.take keyLen, val'.drop keyLen)

/-- the loop of `DecodeStringSlice`; `fuel` bounds the number of iterations (every iteration
    consumes at least one byte, so `fuel = len(compoundKey)` is never exhausted) -/
def decodeLoop : Nat → Bytes → List Bytes → Except KeyErr (List Bytes)
  | _, [], acc => .ok acc
  | 0, _ :: _, _ => .error .badVarint   -- unreachable with fuel = length
  | fuel + 1, c :: key, acc =>
    match decodeNext (c :: key) with
    | .error e => .error e
    | .ok (next, rest) => decodeLoop fuel rest (acc ++ [next])

def decodeStringSlice (compoundKey : Bytes) : Except KeyErr (List Bytes) :=
  decodeLoop compoundKey.length compoundKey []

def AllWithin (xs : List Bytes) : Prop := ∀ x ∈ xs, x.length ≤ maxLinkedSetKeySize

/-- the plain concatenation the encoder produces when nothing is rejected -/
def encodeSpec : List Bytes → Bytes
  | [] => []
  | v :: rest => putUvarint v.length ++ v ++ encodeSpec rest

instance (xs : List Bytes) : Decidable (AllWithin xs) := by unfold AllWithin; infer_instance

theorem encodeFrom_eq (xs : List Bytes) (acc : Bytes) :
    encodeFrom acc xs = if AllWithin xs then .ok (acc ++ encodeSpec xs) else .error .encodeTooLong := by
  induction xs generalizing acc with
  | nil => simp [encodeFrom, encodeSpec, AllWithin]
  | cons v rest ih =>
    have hc : AllWithin (v :: rest) ↔ v.length ≤ maxLinkedSetKeySize ∧ AllWithin rest := List.forall_mem_cons
    by_cases hv : v.length > maxLinkedSetKeySize
    · rw [if_neg fun h => absurd (hc.mp h).1 (Nat.not_le.mpr hv)]
      simp [encodeFrom, encodeByteSlice, hv]
    · simp only [encodeFrom, encodeByteSlice, hv, if_false, ih, hc, Nat.not_lt.mp hv, true_and, encodeSpec,
        List.append_assoc]

theorem encodeStringSlice_eq (xs : List Bytes) :
    encodeStringSlice xs = if AllWithin xs then .ok (encodeSpec xs) else .error .encodeTooLong :=
  encodeFrom_eq xs []

theorem encodeStringSlice_ok {xs : List Bytes} {e : Bytes} (h : encodeStringSlice xs = .ok e) :
    AllWithin xs ∧ e = encodeSpec xs := by
  rw [encodeStringSlice_eq] at h
  split at h
  · next hw => exact ⟨hw, (Except.ok.inj h).symm⟩
  · cases h

theorem decodeNext_prefix (n : Nat) (tail : Bytes) (hn : n < 2 ^ 64) :
    decodeNext (putUvarint n ++ tail) =
      if n > maxLinkedSetKeySize then .error .decodeTooLong
      else if tail.length < n then .error .short
      else .ok (tail.take n, tail.drop n) := by
  have hpos := putUvarint_length_pos n
  have h1 : ¬ (((putUvarint n).length : Int) < 1) := by omega
  simp only [decodeNext, uvarint_put n tail hn, h1, if_false, Int.toNat_natCast, List.drop_left]

theorem decodeNext_encoded (v rest : Bytes) (hv : v.length ≤ maxLinkedSetKeySize) :
    decodeNext (putUvarint v.length ++ v ++ rest) = .ok (v, rest) := by
  rw [List.append_assoc, decodeNext_prefix _ _ (Nat.lt_of_le_of_lt hv (by decide)), if_neg (Nat.not_lt.mpr hv),
    if_neg (by rw [List.length_append]; exact Nat.not_lt.mpr (Nat.le_add_right ..)), List.take_left, List.drop_left]

theorem decodeLoop_succ (fuel : Nat) (key : Bytes) (acc : List Bytes) (hne : key ≠ []) :
    decodeLoop (fuel + 1) key acc =
      match decodeNext key with
      | .error e => .error e
      | .ok (next, rest) => decodeLoop fuel rest (acc ++ [next]) := by
  cases key with
  | nil => exact absurd rfl hne
  | cons c key => rfl

theorem decodeLoop_encoded (xs : List Bytes) (h : AllWithin xs) :
    ∀ (fuel : Nat) (acc : List Bytes), (encodeSpec xs).length ≤ fuel →
      decodeLoop fuel (encodeSpec xs) acc = .ok (acc ++ xs) := by
  induction xs with
  | nil => intro fuel acc _; cases fuel <;> simp [encodeSpec, decodeLoop]
  | cons v rest ih =>
    intro fuel acc hf
    have hne : encodeSpec (v :: rest) ≠ [] :=
      fun e => putUvarint_ne_nil v.length (List.append_eq_nil_iff.mp (List.append_eq_nil_iff.mp e).1).1
    have hpos := putUvarint_length_pos v.length
    rw [encodeSpec, List.length_append, List.length_append] at hf
    cases fuel with
    | zero => omega
    | succ fuel =>
      rw [decodeLoop_succ _ _ _ hne, encodeSpec, decodeNext_encoded v _ (h v (List.mem_cons_self ..))]
      simp only []
      rw [ih (fun x hx => h x (List.mem_cons_of_mem _ hx)) fuel (acc ++ [v]) (by omega), List.append_assoc]
      rfl

theorem decodeStringSlice_encodeSpec (xs : List Bytes) (h : AllWithin xs) : decodeStringSlice (encodeSpec xs) = .ok xs := by
  simpa [decodeStringSlice] using decodeLoop_encoded xs h _ [] (Nat.le_refl _)

end StorageModel.Codec
