import StorageModel.Codec.Context
import StorageModel.Codec.Fields
/- Every write through a derived context is a `setAt` of the bucket at the context's path, so the frames of
   all of them come from `setAt_frame` and from one step below a replaced child (`nodeAt_replFirst`). -/
namespace StorageModel.Codec
open StorageModel

theorem look_replFirst_ne (es : Bkt) (k j : Bytes) (n : Node) (h : j ≠ k) : look (replFirst es k n) j = look es j := by
  fun_induction replFirst es k n with
  | case1 => rfl
  | case2 k n' r n => rw [look_cons, look_cons, if_neg h, if_neg h]
  | case3 k' n' r k n hk ih => rw [look_cons, look_cons, ih h]

theorem look_replFirst_self (es : Bkt) (k : Bytes) (n m : Node) (h : look es k = some m) : look (replFirst es k n) k = some n := by
  fun_induction replFirst es k n with
  | case1 => cases h
  | case2 k n' r n => exact if_pos rfl
  | case3 k' n' r k n hk ih =>
    rw [look_cons, if_neg hk] at h ⊢
    exact ih h

theorem replFirst_self (es : Bkt) (k : Bytes) (n : Node) (h : look es k = some n) : replFirst es k n = es := by
  fun_induction replFirst es k n with
  | case1 => rfl
  | case2 k n' r n => rw [look_cons, if_pos rfl] at h; rw [Option.some.inj h]
  | case3 k' n' r k n hk ih => rw [look_cons, if_neg hk] at h; rw [ih h]

theorem bbucket_some {es : Bkt} {k : Bytes} {c : Bkt} (h : bbucket es k = some c) : look es k = some (.sub c) := by
  revert h
  fun_cases bbucket es k with
  | case1 c' hc => exact fun h => Option.some.inj h ▸ hc
  | case2 => exact fun h => nomatch h

theorem bbucket_of_look {es : Bkt} {k : Bytes} {c : Bkt} (h : look es k = some (.sub c)) : bbucket es k = some c := by
  simp [bbucket, h]

theorem bbucket_congr {a b : Bkt} {j : Bytes} (h : look a j = look b j) : bbucket a j = bbucket b j := by
  simp [bbucket, h]

theorem bbucket_replFirst_self (es : Bkt) (k : Bytes) (c s : Bkt) (h : bbucket es k = some c) :
    bbucket (replFirst es k (.sub s)) k = some s :=
  bbucket_of_look (look_replFirst_self es k _ _ (bbucket_some h))

theorem nodeAt_cons (es : Bkt) (k : Bytes) (rt : List Bytes) (h : rt ≠ []) :
    nodeAt es (k :: rt) = (match bbucket es k with
      | some c => nodeAt c rt
      | none => none) := by
  cases rt with
  | nil => exact absurd rfl h
  | cons j r => rfl

theorem nodeAt_single (es : Bkt) (k : Bytes) : nodeAt es [k] = look es k := rfl

theorem nodeAt_congr {a b : Bkt} {j : Bytes} (rt : List Bytes) (h : look a j = look b j) :
    nodeAt a (j :: rt) = nodeAt b (j :: rt) := by
  cases rt with
  | nil => exact h
  | cons j2 r2 => rw [nodeAt_cons _ _ _ (by simp), nodeAt_cons _ _ _ (by simp), bbucket_congr h]

theorem nodeAt_nil_bkt (t : List Bytes) : nodeAt ([] : Bkt) t = none := by
  cases t with
  | nil => rfl
  | cons j r =>
    cases r with
    | nil => rfl
    | cons j2 r2 => rfl

theorem nodeAt_replFirst {es : Bkt} {k : Bytes} {c : Bkt} (c' : Bkt) (hc : bbucket es k = some c) (j : Bytes)
    (rt : List Bytes) (h : j = k → rt ≠ [] ∧ nodeAt c' rt = nodeAt c rt) :
    nodeAt (replFirst es k (.sub c')) (j :: rt) = nodeAt es (j :: rt) := by
  by_cases hj : j = k
  · obtain ⟨hrt, hn⟩ := h hj
    subst hj
    rw [nodeAt_cons _ _ _ hrt, nodeAt_cons _ _ _ hrt, bbucket_replFirst_self es j c _ hc, hc]
    exact hn
  · exact nodeAt_congr rt (look_replFirst_ne es k j _ hj)

theorem setAt_self (p : List Bytes) (es b : Bkt) (h : subAt es p = some b) : setAt es p b = es := by
  fun_induction setAt es p b with
  | case1 es b => exact (Option.some.inj h).symm
  | case2 es k r b c hc ih =>
    simp only [subAt, hc] at h
    rw [ih h]
    exact replFirst_self es k _ (bbucket_some hc)
  | case3 => rfl

theorem subAt_setAt_self (p : List Bytes) (es b new : Bkt) (h : subAt es p = some b) : subAt (setAt es p new) p = some new := by
  fun_induction setAt es p new with
  | case1 => rfl
  | case2 es k r new c hc ih =>
    simp only [subAt, hc] at h
    simp only [subAt, bbucket_replFirst_self es k c _ hc]
    exact ih h
  | case3 es k r new hn => simp only [subAt, hn] at h; cases h

/-- **tree frame**: replacing the bucket at `p` leaves every node alone that is not an ancestor of
    the bucket (or the bucket itself), provided the new bucket agrees with the old one on the node's
    path below `p` (if it lies below `p` at all) -/
theorem setAt_frame (p : List Bytes) (es b new : Bkt) (t : List Bytes) (hb : subAt es p = some b)
    (hnew : ∀ t', p ++ t' = t → nodeAt new t' = nodeAt b t') (hnp : ¬ t <+: p) :
    nodeAt (setAt es p new) t = nodeAt es t := by
  fun_induction setAt es p new generalizing t with
  | case1 es new =>
    obtain rfl := Option.some.inj hb
    exact hnew t rfl
  | case2 es k p' new c hc ih =>
    simp only [subAt, hc] at hb
    cases t with
    | nil => exact absurd List.nil_prefix hnp
    | cons j rt =>
      refine nodeAt_replFirst _ hc j rt fun hj => ?_
      subst hj
      have hnp' : ¬ rt <+: p' := fun hp => hnp (List.cons_prefix_cons.mpr ⟨rfl, hp⟩)
      exact ⟨fun e => hnp' (e ▸ List.nil_prefix),
        ih rt hb (fun t' he => hnew t' (by rw [List.cons_append, he])) hnp'⟩
  | case3 => rfl

theorem applyOp_err (tb : TB) (name : Bytes) (op : FieldOp) (chk : Checker) (e : BErr) (h : tb.err = some e) :
    applyOp tb name op chk = tb := by
  have hp : ¬ proceedWithSet tb name chk = true := by simp [proceedWithSet, h]
  cases op
  case setNil => exact if_neg (by simp [h])
  all_goals exact if_neg hp

theorem persist_err (ops : List (Bytes × FieldOp)) (tb : TB) (chk : Checker) (e : BErr) (h : tb.err = some e) :
    persist tb ops chk = tb := by
  fun_induction persist tb ops chk with
  | case1 => rfl
  | case2 tb name op r ih => rw [applyOp_err tb name op chk e h] at ih ⊢; exact ih h

/-- node `t` is neither (an ancestor of) the entry written at `w` nor inside it -/
def Apart (w t : List Bytes) : Prop := ¬ t <+: w ∧ ¬ w <+: t

theorem apart_of_head_ne {a b : Bytes} (w t : List Bytes) (h : a ≠ b) : Apart (a :: w) (b :: t) :=
  ⟨fun hp => h (List.cons_prefix_cons.mp hp).1.symm, fun hp => h (List.cons_prefix_cons.mp hp).1⟩

theorem apart_sibling (b : List Bytes) {x j : Bytes} (h : x ≠ j) : Apart (b ++ [x]) (b ++ [j]) :=
  ⟨fun hp => h (List.cons_prefix_cons.mp ((List.prefix_append_right_inj b).mp hp)).1.symm,
   fun hp => h (List.cons_prefix_cons.mp ((List.prefix_append_right_inj b).mp hp)).1⟩

theorem ctxApply_noop {tb : TB} {ctx : PCtx} {name : Bytes} {op : FieldOp}
    (h : ∀ b, applyOp { es := b, err := tb.err } name op ctx.chk = { es := b, err := tb.err }) :
    ctxApply tb ctx name op = tb := by
  fun_cases ctxApply tb ctx name op with
  | case1 => rfl
  | case2 b hb => rw [h b]; simp only [setAt_self ctx.path tb.es b hb]

theorem ctxApply_skips (tb : TB) (ctx : PCtx) (name : Bytes) (op : FieldOp) (h : Skips ctx.chk name op) :
    ctxApply tb ctx name op = tb :=
  ctxApply_noop fun _ => applyOp_skips h

theorem ctxApply_err (tb : TB) (ctx : PCtx) (name : Bytes) (op : FieldOp) (e : BErr) (h : tb.err = some e) :
    ctxApply tb ctx name op = tb :=
  ctxApply_noop fun _ => applyOp_err _ name op ctx.chk e h

theorem apart_head {p : List Bytes} {name j : Bytes} {rt t : List Bytes} (he : p ++ j :: rt = t)
    (ha : Apart (p ++ [name]) t) : j ≠ name := by
  rintro rfl
  exact ha.2 ⟨rt, by rw [← he, List.append_assoc]; rfl⟩

theorem ctxApply_frame (tb : TB) (ctx : PCtx) (name : Bytes) (op : FieldOp) (t : List Bytes)
    (ha : Apart (ctx.path ++ [name]) t) : nodeAt (ctxApply tb ctx name op).es t = nodeAt tb.es t := by
  fun_cases ctxApply tb ctx name op with
  | case1 => rfl
  | case2 b hb =>
    refine setAt_frame ctx.path tb.es b _ t hb (fun t' he => ?_)
      fun hp => ha.1 (hp.trans (List.prefix_append _ _))
    cases t' with
    | nil => rfl
    | cons j rt =>
      exact nodeAt_congr rt (applyOp_frame { es := b, err := tb.err } name op ctx.chk j (apart_head he ha))

theorem ctxPersist_frame (ops : List (Bytes × FieldOp)) (tb : TB) (ctx : PCtx) (t : List Bytes)
    (h : ∀ p ∈ ops, Skips ctx.chk p.1 p.2 ∨ Apart (ctx.path ++ [p.1]) t) :
    nodeAt (ctxPersist tb ctx ops).es t = nodeAt tb.es t := by
  fun_induction ctxPersist tb ctx ops with
  | case1 => rfl
  | case2 tb name op r ih =>
    rw [ih fun q hq => h q (List.mem_cons_of_mem _ hq)]
    rcases h (name, op) (List.mem_cons_self ..) with hs | ha
    · rw [ctxApply_skips tb ctx name op hs]
    · exact ctxApply_frame tb ctx name op t ha

theorem ctxPersist_err (ops : List (Bytes × FieldOp)) (tb : TB) (ctx : PCtx) (e : BErr) (h : tb.err = some e) :
    ctxPersist tb ctx ops = tb := by
  fun_induction ctxPersist tb ctx ops with
  | case1 => rfl
  | case2 tb name op r ih => rw [ctxApply_err tb ctx name op e h] at ih ⊢; exact ih h

theorem getOrCreateBucket_frame {es es1 : Bkt} {k : Bytes} (h : getOrCreateBucket es k = .ok es1) (t : List Bytes)
    (ht : ¬ t <+: [k]) : nodeAt es1 t = nodeAt es t := by
  revert h
  fun_cases getOrCreateBucket es k with
  | case1 c hc => exact fun h => Except.ok.inj h ▸ rfl
  | case2 | case3 => exact fun h => nomatch h
  | case4 hn hk =>
    intro h
    obtain rfl := Except.ok.inj h
    cases t with
    | nil => rfl
    | cons j rt =>
      by_cases hj : j = k
      · subst hj
        have hrt : rt ≠ [] := fun e => ht (e ▸ List.prefix_refl _)
        rw [nodeAt_cons _ _ _ hrt, nodeAt_cons _ _ _ hrt, bbucket_ins_self, bbucket, hn]
        exact nodeAt_nil_bkt rt
      · exact nodeAt_congr rt (look_ins_ne _ _ _ _ hj)

theorem getOrCreatePath_frame (np : List Bytes) (es : Bkt) (t : List Bytes) (h : ¬ t <+: np) :
    nodeAt (getOrCreatePath es np).1 t = nodeAt es t := by
  fun_induction getOrCreatePath es np generalizing t with
  | case1 | case2 => rfl
  | case3 es k r es1 h1 hn =>
    exact getOrCreateBucket_frame h1 t fun hp => h (hp.trans (List.cons_prefix_cons.mpr ⟨rfl, List.nil_prefix⟩))
  | case4 es k r es1 h1 c hc ih =>
    rw [← getOrCreateBucket_frame h1 t fun hp => h (hp.trans (List.cons_prefix_cons.mpr ⟨rfl, List.nil_prefix⟩))]
    cases t with
    | nil => rfl
    | cons j rt =>
      refine nodeAt_replFirst _ hc j rt fun hj => ?_
      subst hj
      have hnp : ¬ rt <+: r := fun hp => h (List.cons_prefix_cons.mpr ⟨rfl, hp⟩)
      exact ⟨fun e => hnp (e ▸ List.nil_prefix), ih rt hnp⟩

theorem nestedPersist_err (tb : TB) (ctx : PCtx) (np : List Bytes) (ops : List (Bytes × FieldOp)) :
    (nestedPersist tb ctx np ops).1.err = tb.err := by
  fun_cases nestedPersist tb ctx np ops <;> rfl

theorem nestedPersist_frame (tb : TB) (ctx : PCtx) (np : List Bytes) (ops : List (Bytes × FieldOp)) (t : List Bytes)
    (hcreate : ¬ t <+: ctx.path ++ np)
    (h : ∀ p ∈ ops, Skips ctx.chk p.1 p.2 ∨ Apart (ctx.path ++ np ++ [p.1]) t) :
    nodeAt (nestedPersist tb ctx np ops).1.es t = nodeAt tb.es t := by
  have hnp : ¬ t <+: ctx.path := fun hp => hcreate (List.IsPrefix.trans hp (List.prefix_append _ _))
  have hrel : ∀ t', ctx.path ++ t' = t → ¬ t' <+: np :=
    fun t' he hp => hcreate (he ▸ (List.prefix_append_right_inj _).mpr hp)
  have hcr : ∀ b t', ctx.path ++ t' = t → nodeAt (getOrCreatePath b np).1 t' = nodeAt b t' :=
    fun b t' he => getOrCreatePath_frame np b t' (hrel t' he)
  fun_cases nestedPersist tb ctx np ops with
  | case1 | case2 => rfl
  | case3 _ b hb | case4 _ b hb => exact setAt_frame ctx.path tb.es b _ t hb (hcr b) hnp
  | case5 _ b hb created _ sub hsub =>
    -- the path is created first, then the fields are written into its last bucket
    refine setAt_frame ctx.path tb.es b _ t hb (fun t' he => ?_) hnp
    rw [← hcr b t' he]
    refine setAt_frame np _ sub _ t' hsub (fun t'' he' => ?_) (hrel t' he)
    cases t'' with
    | nil => rfl
    | cons j rt =>
      refine nodeAt_congr rt (persist_look _ _ _ _ fun p hp => (h p hp).imp_right fun ha => ?_)
      exact (apart_head (by rw [List.append_assoc, he', he]) ha).symm

/-- the bucket a block writes into -/
def Group.bucket (own : List Bytes) (pp : Option (List Bytes)) (g : Group) : List Bytes :=
  (if g.parent then pp.getD [] else own) ++ g.np

theorem getParentContext_ok {ctx q : PCtx} {root : Bkt} (h : ctx.getParentContext root = .ok q) :
    q.chk = ctx.chk ∧ q.isCreate = ctx.isCreate ∧ ctx.parentPath = some q.path := by
  revert h
  fun_cases PCtx.getParentContext ctx root with
  | case1 | case2 => exact fun h => nomatch h
  | case3 pp hpp b hb => exact fun h => Res.ok.inj h ▸ ⟨rfl, rfl, hpp⟩

theorem groupCtx_plain {st : RunState} {g : Group} {c : PCtx} (hovr : g.ovr = []) (h : groupCtx st g = some c) :
    c.chk = st.ctx.chk ∧ c.path ++ g.np = g.bucket st.ctx.path st.ctx.parentPath ∧
      (if g.parent then st.ctx else c) = st.ctx := by
  revert h
  unfold Group.bucket
  fun_cases groupCtx st g with
  | case1 => exact fun h => nomatch h
  | case2 hpar q hq =>
    intro h
    obtain rfl := Option.some.inj h
    obtain ⟨h1, _, h3⟩ := getParentContext_ok hq
    rw [hovr, hpar, h3]
    exact ⟨h1, rfl, rfl⟩
  | case3 hpar =>
    intro h
    obtain rfl := Option.some.inj h
    rw [hovr, if_neg hpar, if_neg hpar]
    exact ⟨rfl, rfl, rfl⟩

theorem runGroup_frame (st : RunState) (g : Group) (t : List Bytes) (hovr : g.ovr = [])
    (hcreate : g.np ≠ [] → ¬ t <+: g.bucket st.ctx.path st.ctx.parentPath)
    (h : ∀ p ∈ g.ops, Skips st.ctx.chk p.1 p.2 ∨ Apart (g.bucket st.ctx.path st.ctx.parentPath ++ [p.1]) t) :
    nodeAt (runGroup st g).tb.es t = nodeAt st.tb.es t ∧ (runGroup st g).ctx = st.ctx := by
  fun_cases runGroup st g with
  | case1 | case2 => exact ⟨rfl, rfl⟩
  | case3 _ c hc own hnp =>
    obtain ⟨hchk, hpath, hown⟩ := groupCtx_plain hovr hc
    rw [← hchk, ← hpath, hnp, List.append_nil] at h
    exact ⟨ctxPersist_frame g.ops st.tb c t h, hown⟩
  | case4 _ c hc own hnp =>
    obtain ⟨hchk, hpath, hown⟩ := groupCtx_plain hovr hc
    rw [← hchk, ← hpath] at h
    exact ⟨nestedPersist_frame st.tb c g.np g.ops t (hpath ▸ hcreate hnp) h, hown⟩

end StorageModel.Codec
