import StorageModel.Base.Bytes
/-
  Model of the typed value encoding of boltz/typed_bucket.go: one type-tag byte followed by the
  payload (`PrependFieldType` / `GetTypeAndValue`), and the `BytesTo*` / `FieldTo*` readers.

  * int32 / int64: little-endian two's complement (`binary.LittleEndian.PutUint32(uint32(v))`),
    modelled over `Int` with `le w n` = the `w` little-endian bytes of `n mod 256^w`;
  * float64: the 8 little-endian bytes of `math.Float64bits(v)`; the model carries the bit pattern
    (a `Nat`), `Float64bits` / `Float64frombits` being mutually inverse is assumed (Go stdlib);
  * time: a `time.Time` is modelled by what `UTC`, `MarshalBinary`, `UnmarshalBinary` and `Equal` look at
    (`GoTime`: the instant as `t.sec()` / `t.nsec()`, the location as "UTC or a zone with this offset",
    the presence of a monotonic clock reading); `MarshalBinary` / `UnmarshalBinary` are transcribed from
    Go 1.23 `src/time/time.go` (version byte, 8 + 4 big-endian bytes, zone offset in minutes with -1
    reserved for UTC, an optional seconds byte in version 2, the refusals) and compared with the real
    functions by the `tm` / `tu` cases of the harness;
  * Go `nil` vs empty `[]byte` is `Option Bytes` where the code tests it (`GetTypeAndValue` returns
    nil for a value that holds only the type byte; `BytesToDatetime(nil) = nil`).
-/
namespace StorageModel.Codec
open StorageModel

def typeBool : UInt8 := 1
def typeInt32 : UInt8 := 2
def typeInt64 : UInt8 := 3
def typeFloat64 : UInt8 := 4
def typeString : UInt8 := 5
def typeTime : UInt8 := 6
def typeNil : UInt8 := 7

/-- `ListSizeKeyName = "__list__size__36484231-110c-4767-afe2-01b6e3db107a"` -/
def listSizeKey : Bytes :=
  [95, 95, 108, 105, 115, 116, 95, 95, 115, 105, 122, 101, 95, 95, 51, 54, 52, 56, 52, 50, 51, 49, 45, 49, 49,
   48, 99, 45, 52, 55, 54, 55, 45, 97, 102, 101, 50, 45, 48, 49, 98, 54, 101, 51, 100, 98, 49, 48, 55, 97]

#guard listSizeKey == "__list__size__36484231-110c-4767-afe2-01b6e3db107a".toUTF8.toList

/-- `PrependFieldType` -/
def prependFieldType (t : UInt8) (value : Bytes) : Bytes := t :: value

/-- `GetTypeAndValue`: (type, value) where value is Go-nil (`none`) unless more than the type byte
    is present. -/
def getTypeAndValue : Option Bytes → UInt8 × Option Bytes
  | none => (typeNil, none)
  | some [] => (typeNil, none)
  | some [t] => (t, none)
  | some (t :: v) => (t, some v)

/-- Go `len(buf)` of a possibly-nil slice -/
def olen : Option Bytes → Nat
  | none => 0
  | some b => b.length

def obytes : Option Bytes → Bytes
  | none => []
  | some b => b

/-- the `w` little-endian bytes of `n mod 256^w` (`binary.LittleEndian.PutUint32/64`) -/
def le : Nat → Nat → Bytes
  | 0, _ => []
  | w + 1, n => UInt8.ofNat (n % 256) :: le w (n / 256)

/-- `binary.LittleEndian.Uint32/64` -/
def ofLE : Bytes → Nat
  | [] => 0
  | b :: r => b.toNat + 256 * ofLE r

/-- `uint32(v)` / `uint64(v)` of a signed value: reduction mod 2^bits -/
def toUnsigned (bits : Nat) (i : Int) : Nat := (i % (2 ^ bits : Nat)).toNat

/-- `int32(u)` / `int64(u)` of an unsigned value below 2^bits -/
def toSigned (bits : Nat) (u : Nat) : Int :=
  if u < 2 ^ (bits - 1) then (u : Int) else (u : Int) - (2 ^ bits : Nat)

def encInt32 (i : Int) : Bytes := le 4 (toUnsigned 32 i)
def encInt64 (i : Int) : Bytes := le 8 (toUnsigned 64 i)

/-- `Int32ToBytes` (tag included) -/
def int32ToBytes (i : Int) : Bytes := typeInt32 :: encInt32 i

/-- `BytesToInt32`: nil unless exactly 4 bytes -/
def bytesToInt32 (buf : Option Bytes) : Option Int :=
  if olen buf ≠ 4 then none else some (toSigned 32 (ofLE (obytes buf)))

/-- `BytesToInt64`: nil unless exactly 8 bytes -/
def bytesToInt64 (buf : Option Bytes) : Option Int :=
  if olen buf ≠ 8 then none else some (toSigned 64 (ofLE (obytes buf)))

/-- `BytesToFloat64`: the bit pattern, nil unless exactly 8 bytes -/
def bytesToFloat64 (buf : Option Bytes) : Option Nat :=
  if olen buf ≠ 8 then none else some (ofLE (obytes buf))

/-- `BytesToBool`: nil for an empty/nil buffer, else `value[0] == 1` -/
def bytesToBool (buf : Option Bytes) : Option Bool :=
  match buf with
  | none => none
  | some [] => none
  | some (b :: _) => some (b == 1)

/-- `BytesToString`: never nil (`string(clone(nil)) = ""`) -/
def bytesToString (buf : Option Bytes) : Bytes := obytes buf

/-! ### `time.Time` and its binary form (Go 1.23 `src/time/time.go`) -/

/-- `t.Location() == UTC`, or any other location (a `FixedZone`, `Local`, a loaded zone) together
    with the offset `t.Zone()` reports for the instant (seconds east of UTC, a Go `int`) -/
inductive Loc
  | utc
  | zone (offset : Int)
  deriving DecidableEq, Repr

/-- a `time.Time` as far as `UTC`, `MarshalBinary`, `UnmarshalBinary` and `Equal` look at it:
    `sec` = `t.sec()` (seconds since January 1, year 1, 00:00:00 UTC; an int64), `nsec` = `t.nsec()`,
    the location, and whether the value carries a monotonic clock reading (`wall&hasMonotonic`). -/
structure GoTime where
  sec : Int
  nsec : Nat
  loc : Loc := .utc
  mono : Bool := false
  deriving DecidableEq, Repr

/-- `t.UTC()` = `t.setLoc(&utcLoc)`: the monotonic reading is stripped, the location becomes UTC,
    `sec()` / `nsec()` are unchanged -/
def GoTime.utc (t : GoTime) : GoTime := { t with loc := .utc, mono := false }

/-- `t.Equal(u)` for two values without monotonic reading (and what the property calls "equal as
    instants"): same `sec()` and `nsec()`, whatever the locations -/
def GoTime.sameInstant (t u : GoTime) : Prop := t.sec = u.sec ∧ t.nsec = u.nsec

/-- the `w` big-endian bytes of `n mod 256^w` (`byte(x >> 8*(w-1)), …, byte(x)`) -/
def be (w n : Nat) : Bytes := (le w n).reverse

/-- `int64(buf[w-1]) | int64(buf[w-2])<<8 | …` -/
def ofBE (b : Bytes) : Nat := ofLE b.reverse

inductive TimeErr
  | zoneOffset      -- "Time.MarshalBinary: unexpected zone offset"
  | noData          -- "Time.UnmarshalBinary: no data"
  | version         -- "Time.UnmarshalBinary: unsupported version"
  | length          -- "Time.UnmarshalBinary: invalid length"
  deriving DecidableEq, Repr

/-- version byte, bytes 1-8 seconds, bytes 9-12 nanoseconds, bytes 13-14 zone offset in minutes -/
def timeFields (version : UInt8) (t : GoTime) (offsetMin : Int) : Bytes :=
  version :: (be 8 (toUnsigned 64 t.sec) ++ be 4 t.nsec ++ be 2 (toUnsigned 16 offsetMin))

/-- `Time.MarshalBinary`: offset minutes -1 is the UTC marker, so a zone whose offset truncates to
    -1 minute (-119 s … -60 s) is refused, as is one beyond an int16 of minutes; an offset that is
    not a whole number of minutes makes it version 2 with the (Go-truncated) remainder as one more
    byte.  `/` and `%` on Go ints truncate towards zero (`Int.tdiv` / `Int.tmod`).  The monotonic
    reading plays no part. -/
def marshalBinary (t : GoTime) : Except TimeErr Bytes :=
  match t.loc with
  | .utc => .ok (timeFields 1 t (-1))
  | .zone off =>
    let m := off.tdiv 60
    if m < -32768 ∨ m = -1 ∨ m > 32767 then .error .zoneOffset
    else if off.tmod 60 ≠ 0 then .ok (timeFields 2 t m ++ [UInt8.ofNat (toUnsigned 8 (off.tmod 60))])
    else .ok (timeFields 1 t m)

/-- `wallToInternal`: seconds from year 1 to 1885 -/
def wallToInternal : Int := 59453308800

/-- `Time.UnmarshalBinary`.  `t.wall = uint64(nsec)` with `nsec` an int32: a pattern with bit 31 set
    sign-extends into `hasMonotonic` and the wall seconds (which `setLoc` then folds into `ext`), bit
    30 is outside `nsecMask`; none of that is reachable from bytes `MarshalBinary` wrote.  The seconds
    byte of version 2 is added as an unsigned byte.  Offset -60 s (minutes = -1) means UTC; otherwise
    the location is `Local` or a `FixedZone` with that offset (not distinguished here). -/
def unmarshalBinary (data : Bytes) : Except TimeErr GoTime :=
  match data with
  | [] => .error .noData
  | version :: buf =>
    if version ≠ 1 ∧ version ≠ 2 then .error .version
    else if data.length ≠ (if version = 2 then 16 else 15) then .error .length
    else
      let sec := toSigned 64 (ofBE (buf.take 8))
      let n := ofBE ((buf.drop 8).take 4)
      let offsetMin := toSigned 16 (ofBE ((buf.drop 12).take 2))
      let offset : Int := offsetMin * 60 + (if version = 2 then (((buf.drop 14).headD 0).toNat : Int) else 0)
      let sec' : Int := if n < 2 ^ 31 then sec else wallToInternal + (2 ^ 33 - 2 + ((n / 2 ^ 30 % 2 : Nat) : Int))
      .ok { sec := sec', nsec := n % 2 ^ 30, loc := if offset = -60 then .utc else .zone offset, mono := false }

/-- `BytesToDatetime`: nil for a nil buffer and when `UnmarshalBinary` refuses the bytes -/
def bytesToDatetime (buf : Option Bytes) : Option GoTime :=
  match buf with
  | none => none
  | some b =>
    match unmarshalBinary b with
    | .ok t => some t
    | .error _ => none

def fieldToBool (t : UInt8) (v : Option Bytes) : Option Bool :=
  if t = typeBool then bytesToBool v else none

def fieldToInt32 (t : UInt8) (v : Option Bytes) : Option Int :=
  if t = typeInt32 then bytesToInt32 v else none

/-- `FieldToInt64`: an int32 widens -/
def fieldToInt64 (t : UInt8) (v : Option Bytes) : Option Int :=
  if t = typeInt32 then bytesToInt32 v
  else if t = typeInt64 then bytesToInt64 v
  else none

/-- `FieldToFloat64`; the result is either a bit pattern or an integer still to be converted
    with `float64(int64)` (conversion not modelled) -/
inductive FloatRead
  | bits (b : Nat)
  | ofInt (i : Int)
  deriving DecidableEq, Repr

def fieldToFloat64 (t : UInt8) (v : Option Bytes) : Option FloatRead :=
  if t = typeInt32 ∨ t = typeInt64 then (fieldToInt64 t v).map .ofInt
  else if t = typeFloat64 then (bytesToFloat64 v).map .bits
  else none

def fieldToDatetime (t : UInt8) (v : Option Bytes) : Option GoTime :=
  if t = typeTime then bytesToDatetime v else none

/-- result of `FieldToString`; `strconv` / `MarshalText` formatting of floats and times is not
    modelled (`opaque`), `*boolVal` / `*intVal` on a malformed payload is a nil dereference -/
inductive StrRead
  | nil
  | str (s : Bytes)
  | ofBool (b : Bool)        -- strconv.FormatBool
  | ofInt (i : Int)          -- strconv.Itoa
  | opaque                   -- float / time formatting
  | panic
  deriving DecidableEq, Repr

def fieldToString (t : UInt8) (v : Option Bytes) : StrRead :=
  if t = typeString then .str (bytesToString v)
  else if t = typeBool then
    match fieldToBool t v with
    | some b => .ofBool b
    | none => .panic
  else if t = typeInt32 ∨ t = typeInt64 then
    match fieldToInt64 t v with
    | some i => .ofInt i
    | none => .panic
  else if t = typeFloat64 then
    match fieldToFloat64 t v with
    | some _ => .opaque
    | none => .panic
  else if t = typeTime then
    match fieldToDatetime t v with
    | some _ => .opaque
    | none => .nil
  else .nil

def InInt32 (i : Int) : Prop := -2147483648 ≤ i ∧ i < 2147483648
def InInt64 (i : Int) : Prop := -9223372036854775808 ≤ i ∧ i < 9223372036854775808
instance (i : Int) : Decidable (InInt32 i) := by unfold InInt32; infer_instance
instance (i : Int) : Decidable (InInt64 i) := by unfold InInt64; infer_instance

/-- what every `time.Time` satisfies: `sec()` is an int64, `0 ≤ nsec() < 1e9` -/
def GoTime.valid (t : GoTime) : Prop := InInt64 t.sec ∧ t.nsec < 1000000000
instance (t : GoTime) : Decidable t.valid := by unfold GoTime.valid; infer_instance

theorem le_length (w n : Nat) : (le w n).length = w := by
  induction w generalizing n with
  | zero => rfl
  | succ w ih => simp [le, ih]

theorem ofLE_le (w n : Nat) : ofLE (le w n) = n % 256 ^ w := by
  induction w generalizing n with
  | zero => simp [le, ofLE, Nat.mod_one]
  | succ w ih =>
    have hb : (UInt8.ofNat (n % 256)).toNat = n % 256 := by
      simp [UInt8.toNat_ofNat']
    simp only [le, ofLE, hb, ih]
    rw [Nat.pow_succ, Nat.mul_comm (256 ^ w) 256, Nat.mod_mul]

theorem toSigned_toUnsigned (bits : Nat) (hb : 0 < bits) (i : Int)
    (hlo : -(2 ^ (bits - 1) : Nat) ≤ i) (hhi : i < (2 ^ (bits - 1) : Nat)) :
    toSigned bits (toUnsigned bits i) = i := by
  have hpow : (2 ^ bits : Nat) = 2 * 2 ^ (bits - 1) := by
    rw [← Nat.pow_succ', Nat.succ_eq_add_one, Nat.sub_add_cancel hb]
  unfold toSigned toUnsigned
  generalize (2 ^ (bits - 1) : Nat) = P at *
  generalize (2 ^ bits : Nat) = Q at *
  by_cases hneg : i < 0
  · -- a negative number is stored as `i + 2^bits`, which is at least `2^(bits-1)`
    obtain ⟨n, hn⟩ := Int.eq_ofNat_of_zero_le (show 0 ≤ i + (Q : Int) by omega)
    have hm : i % (Q : Int) = n := by
      rw [← Int.add_emod_right i (Q : Int), hn]; exact Int.emod_eq_of_lt (by omega) (by omega)
    rw [hm, Int.toNat_natCast, if_neg (by omega)]; omega
  · obtain ⟨n, hn⟩ := Int.eq_ofNat_of_zero_le (Int.not_lt.mp hneg)
    subst hn
    have hnP : n < P := Int.ofNat_lt.mp hhi
    rw [Int.emod_eq_of_lt (Int.natCast_nonneg n) (Int.ofNat_lt.mpr (by omega)), Int.toNat_natCast, if_pos hnP]

theorem toUnsigned_lt (bits : Nat) (i : Int) : toUnsigned bits i < 2 ^ bits := by
  have hpos : (0 : Int) < ((2 ^ bits : Nat) : Int) := Int.natCast_pos.mpr (Nat.pow_pos (by decide))
  exact (Int.toNat_lt (Int.emod_nonneg i (Int.ne_of_gt hpos))).mpr (Int.emod_lt_of_pos i hpos)

/-- … also after the reduction mod `2^bits` that reading `bits / 8` bytes back brings in -/
theorem toSigned_mod (bits : Nat) (hb : 0 < bits) (i : Int)
    (hlo : -(2 ^ (bits - 1) : Nat) ≤ i) (hhi : i < (2 ^ (bits - 1) : Nat)) :
    toSigned bits (toUnsigned bits i % 2 ^ bits) = i := by
  rw [Nat.mod_eq_of_lt (toUnsigned_lt bits i)]
  exact toSigned_toUnsigned bits hb i hlo hhi

theorem toUnsigned_nat (bits n : Nat) (h : n < 2 ^ bits) : toUnsigned bits (n : Int) = n := by
  rw [toUnsigned, Int.emod_eq_of_lt (Int.natCast_nonneg n) (Int.ofNat_lt.mpr h), Int.toNat_natCast]

theorem bytesToInt32_enc (i : Int) (h : InInt32 i) : bytesToInt32 (some (encInt32 i)) = some i := by
  rw [bytesToInt32, if_neg (fun hne => hne (le_length 4 _))]
  exact congrArg some ((ofLE_le 4 _).symm ▸ toSigned_mod 32 (by decide) i h.1 h.2)

theorem bytesToInt64_enc (i : Int) (h : InInt64 i) : bytesToInt64 (some (encInt64 i)) = some i := by
  rw [bytesToInt64, if_neg (fun hne => hne (le_length 8 _))]
  exact congrArg some ((ofLE_le 8 _).symm ▸ toSigned_mod 64 (by decide) i h.1 h.2)

theorem bytesToFloat64_le (bits : Nat) (h : bits < 2 ^ 64) : bytesToFloat64 (some (le 8 bits)) = some bits := by
  rw [bytesToFloat64, if_neg (fun hne => hne (le_length 8 _))]
  exact congrArg some ((ofLE_le 8 bits).trans (Nat.mod_eq_of_lt h))

end StorageModel.Codec
