import StorageModel.Codec.Lemmas
/- nested maps / lists: what `setMarshaled` leaves in the bucket and what `getMarshaled` makes of it -/
namespace StorageModel.Codec
open StorageModel

def okify (l : List (Bytes × Value)) : List (Bytes × Res Value) := l.map fun e => (e.1, .ok e.2)

theorem readEs_eq_map (es : Bkt) : readEs es = es.map fun e => (e.1, readNode e.2) := by
  induction es with
  | nil => simp [readEs]
  | cons e r ih => obtain ⟨k, n⟩ := e; simp [readEs, ih]

theorem readEs_ins (es : Bkt) (k : Bytes) (n : Node) : readEs (ins es k n) = ins (readEs es) k (readNode n) := by
  rw [readEs_eq_map, readEs_eq_map, map_ins]

theorem look_readEs (es : Bkt) (k : Bytes) : look (readEs es) k = (look es k).map readNode := by
  rw [readEs_eq_map, look_map]

theorem okify_ins (l : List (Bytes × Value)) (k : Bytes) (v : Value) : okify (ins l k v) = ins (okify l) k (.ok v) := by
  unfold okify; exact map_ins (fun v => Res.ok v) l k v

theorem seqKvs_okify (l : List (Bytes × Value)) : seqKvs (okify l) = .ok l := by
  induction l with
  | nil => rfl
  | cons e r ih =>
    obtain ⟨k, v⟩ := e
    have : okify ((k, v) :: r) = (k, Res.ok v) :: okify r := rfl
    rw [this, seqKvs, ih]

theorem seqAll_ok (l : List Nat) (f : Nat → Res Value) (g : Nat → Value) (h : ∀ i ∈ l, f i = .ok (g i)) :
    seqAll (l.map f) = .ok (l.map g) := by
  induction l with
  | nil => rfl
  | cons a r ih =>
    have ha := h a (List.mem_cons_self ..)
    have hr := ih (fun i hi => h i (List.mem_cons_of_mem _ hi))
    simp only [List.map_cons, ha, seqAll, hr]

theorem map_range_getD (l : List Value) (d : Value) : (List.range l.length).map (fun i => l.getD i d) = l := by
  apply List.ext_getElem
  · simp
  · intro i h1 h2
    simp [List.getD, List.getElem?_eq_getElem h2]

theorem typeNil_ne_int32 : typeNil ≠ typeInt32 := by decide

theorem getInt32_congr {es es' : Bkt} {k : Bytes} (h : look es k = look es' k) : getInt32 es k = getInt32 es' k := by
  simp [getInt32, getTyped, bget, h]

theorem getInt32_absent {es : Bkt} {k : Bytes} (h : look es k = none) : getInt32 es k = none := by
  simp [getInt32, getTyped, bget, h, getTypeAndValue, fieldToInt32, typeNil_ne_int32]

theorem getInt32_sub {es : Bkt} {k : Bytes} {c : Bkt} (h : look es k = some (.sub c)) : getInt32 es k = none := by
  simp [getInt32, getTyped, bget, h, getTypeAndValue, fieldToInt32, typeNil_ne_int32]

/-- an integer of at least one byte is not the empty payload (which would read back as Go-nil) -/
theorem le_succ_ne_nil (w n : Nat) : le (w + 1) n ≠ [] := List.cons_ne_nil _ _

theorem encInt32_ne_nil (i : Int) : encInt32 i ≠ [] := le_succ_ne_nil 3 _

theorem getInt32_stored (es : Bkt) (k : Bytes) (i : Int) (h : InInt32 i) :
    getInt32 (ins es k (.val (int32ToBytes i))) k = some i := by
  unfold getInt32
  rw [show int32ToBytes i = typeInt32 :: encInt32 i from rfl, getTyped_ins_self]
  simp [fieldToInt32, encInt32_ne_nil, bytesToInt32_enc i h]

theorem listSizeKey_length : listSizeKey.length = 50 := by decide

theorem idxKey_length (i : Nat) : (idxKey i).length = 5 := by
  simp [idxKey, int32ToBytes, encInt32, le_length]

theorem idxKey_ne_nil (i : Nat) : idxKey i ≠ [] := by simp [idxKey, int32ToBytes]

theorem idxKey_ne_listSizeKey (i : Nat) : idxKey i ≠ listSizeKey := by
  intro h
  have := congrArg List.length h
  rw [idxKey_length, listSizeKey_length] at this
  omega

theorem idxKey_eq (i : Nat) (h : i < 2 ^ 32) : idxKey i = typeInt32 :: le 4 i := by
  unfold idxKey int32ToBytes encInt32
  rw [toUnsigned_nat 32 i h]

theorem idxKey_inj (i j : Nat) (hi : i < 2 ^ 31) (hj : j < 2 ^ 31) (h : idxKey i = idxKey j) : i = j := by
  have hb : (2 : Nat) ^ 31 < 256 ^ 4 := by decide
  rw [idxKey_eq i (Nat.lt_trans hi (by decide)), idxKey_eq j (Nat.lt_trans hj (by decide))] at h
  have := congrArg ofLE (List.cons.inj h).2
  rwa [ofLE_le, ofLE_le, Nat.mod_eq_of_lt (Nat.lt_trans hi hb), Nat.mod_eq_of_lt (Nat.lt_trans hj hb)] at this

theorem idxKey_ne_of_lt {i j : Nat} (h : i < j) (hj : j < 2 ^ 31) : idxKey i ≠ idxKey j :=
  fun e => Nat.ne_of_lt h (idxKey_inj i j (Nat.lt_trans h hj) hj e)

theorem typeTags_distinct : typeBool ≠ typeString ∧ typeInt32 ≠ typeString ∧ typeInt64 ≠ typeString ∧
    typeFloat64 ≠ typeString ∧ typeTime ≠ typeString ∧ typeNil ≠ typeString := by decide

theorem encInt64_ne_nil (i : Int) : encInt64 i ≠ [] := le_succ_ne_nil 7 _

theorem le8_ne_nil (n : Nat) : le 8 n ≠ [] := le_succ_ne_nil 7 n

/-- the `switch` of `getMarshaled` on what `encScalar` wrote: per kind, the tag selects the decoder that undoes
    the encoder.  A number, bool or time payload is never the empty one that `GetTypeAndValue` hands on as
    Go-nil; the payload of `""` is, and `BytesToString(nil)` is `""` again -/
theorem scalarOf_enc {v : Value} {b : Bytes} (hb : encScalar v = some b) (hs : supported v = true) :
    scalarOf (some b) = normalize v := by
  cases v <;> first | cases hb | (injection hb with hb; subst hb)
  case nil => rfl
  case str s =>
    unfold scalarOf
    rw [getTypeAndValue_cons]
    cases s <;> simp [bytesToString, obytes, normalize]
  case i32 i =>
    simp [scalarOf, normalize, int32ToBytes, getTypeAndValue_cons, encInt32_ne_nil,
      bytesToInt32_enc i (of_decide_eq_true hs), typeString, typeInt32]
  case i64 i | goInt i =>
    simp [scalarOf, normalize, getTypeAndValue_cons, encInt64_ne_nil, bytesToInt64_enc i (of_decide_eq_true hs),
      typeString, typeInt32, typeInt64]
  case f64 bits =>
    simp [scalarOf, normalize, getTypeAndValue_cons, le8_ne_nil, bytesToFloat64_le bits (of_decide_eq_true hs),
      typeString, typeInt32, typeInt64, typeFloat64]
  case bool b => cases b <;> rfl
  case time t =>
    show scalarOf (some (typeTime :: timeFields 1 t (-1))) = .time t.utc
    simp [scalarOf, getTypeAndValue_cons, timeFields_ne_nil, bytesToDatetime,
      unmarshal_utc_bytes t (of_decide_eq_true hs), typeString, typeInt32, typeInt64, typeFloat64, typeTime]

theorem normXs_length (xs : List Value) : (normXs xs).length = xs.length := by
  induction xs with
  | nil => rfl
  | cons v r ih => simp [normXs, ih]

theorem ins_emptyBucket {es es1 : Bkt} {k : Bytes} (h : emptyBucket es k = .ok es1) (n : Node) :
    ins es1 k n = ins es k n := by
  rw [emptyBucket_ok h, ins_ins]

theorem putMapRaw_shape {es es' : Bkt} {name : Bytes} {kvs : List (Bytes × Value)} {a : Bool}
    (h : putMapRaw es name kvs a = .ok es') : ∃ child, putEntries [] kvs a = .ok child ∧ es' = ins es name (.sub child) := by
  revert h
  fun_cases putMapRaw es name kvs a with
  | case1 | case2 => exact fun h => nomatch h
  | case3 es1 he child hc => exact fun h => ⟨child, hc, by rw [← Except.ok.inj h, ins_emptyBucket he]⟩

theorem putListRaw_shape {es es' : Bkt} {name : Bytes} {xs : List Value}
    (h : putListRaw es name xs = .ok es') :
    ∃ child, putElems [] xs 0 = .ok child ∧
      es' = ins es name (.sub (ins child listSizeKey (.val (int32ToBytes (xs.length : Int))))) := by
  revert h
  fun_cases putListRaw es name xs with
  | case1 | case2 | case3 => exact fun h => nomatch h
  | case4 es1 he child hc child' hb =>
    exact fun h => ⟨child, hc, by rw [← Except.ok.inj h, ins_emptyBucket he, bput_ok hb]⟩

theorem setMarshaled_map (es : Bkt) (name : Bytes) (kvs : List (Bytes × Value)) :
    setMarshaled es name (.map kvs) true = putMapRaw es name kvs true := by
  simp [setMarshaled, putMapRaw]

theorem setMarshaled_list (es : Bkt) (name : Bytes) (xs : List Value) :
    setMarshaled es name (.list xs) true = putListRaw es name xs := by
  simp [setMarshaled, putListRaw]

theorem setMarshaled_shape {v : Value} {es es' : Bkt} {name : Bytes} {a : Bool}
    (h : setMarshaled es name v a = .ok es') : ∃ n, es' = ins es name n := by
  cases v
  case unsupported => cases h
  case map kvs =>
    cases a
    · cases h
    · obtain ⟨_, _, hc⟩ := putMapRaw_shape (setMarshaled_map es name kvs ▸ h); exact ⟨_, hc⟩
  case list xs =>
    cases a
    · cases h
    · obtain ⟨_, _, hc⟩ := putListRaw_shape (setMarshaled_list es name xs ▸ h); exact ⟨_, hc⟩
  all_goals exact ⟨_, bput_ok h⟩

theorem putElems_cons {v : Value} {r : List Value} {child child' : Bkt} {idx : Nat}
    (h : putElems child (v :: r) idx = .ok child') :
    ∃ c1, setMarshaled child (idxKey idx) v true = .ok c1 ∧ putElems c1 r (idx + 1) = .ok child' := by
  simp only [putElems] at h
  split at h
  · cases h
  · next c1 hc1 => exact ⟨c1, hc1, h⟩

theorem putElems_frame (xs : List Value) (child : Bkt) (idx : Nat) (child' : Bkt)
    (h : putElems child xs idx = .ok child') (j : Bytes) (hj : ∀ i, i < xs.length → j ≠ idxKey (idx + i)) :
    look child' j = look child j := by
  induction xs generalizing child idx with
  | nil => simp only [putElems] at h; injection h with h; subst h; rfl
  | cons v r ih =>
    obtain ⟨c1, hc1, h⟩ := putElems_cons h
    obtain ⟨n, hn⟩ := setMarshaled_shape hc1
    have h1 := ih c1 (idx + 1) h (fun i hi => by
      have := hj (i + 1) (Nat.succ_lt_succ hi)
      rwa [← Nat.add_assoc, Nat.add_right_comm] at this)
    rw [h1, hn]
    exact look_ins_ne _ _ _ _ (hj 0 (Nat.zero_lt_succ _))

theorem mapFrom_okify (kvs : List (Bytes × Value)) : mapFrom (okify kvs) = .ok (.map kvs) := by
  rw [mapFrom, seqKvs_okify]; rfl

theorem readNode_mapBucket {child : Bkt} {kvs : List (Bytes × Value)} (hr : readEs child = okify kvs)
    (hl : look child listSizeKey = none) : readNode (.sub child) = .ok (.map kvs) := by
  rw [readNode, listSize, getInt32_absent hl, hr]
  exact mapFrom_okify kvs

theorem readNode_listBucket (child : Bkt) (vs : List Value) (n : Nat) (hn : vs.length = n) (hlen : n < 2 ^ 31)
    (h : ∀ i, i < n → ∃ m, look child (idxKey i) = some m ∧ readNode m = .ok (vs.getD i .nil)) :
    readNode (.sub (ins child listSizeKey (.val (int32ToBytes (n : Int))))) = .ok (.list vs) := by
  subst hn
  have hin : InInt32 (vs.length : Int) := ⟨by omega, by omega⟩
  have helem : ∀ i ∈ List.range vs.length,
      elemAt (readEs (ins child listSizeKey (.val (int32ToBytes (vs.length : Int))))) i = .ok (vs.getD i .nil) := by
    intro i hi
    obtain ⟨m, hm, hrm⟩ := h i (List.mem_range.mp hi)
    rw [elemAt, look_readEs, look_ins_ne _ _ _ _ (idxKey_ne_listSizeKey i), hm]
    exact hrm
  have hnot : ¬ ((vs.length : Int) < 0) := by omega
  rw [readNode, listSize, getInt32_stored child listSizeKey _ hin]
  simp only [listFrom, hnot, if_false, Int.toNat_natCast, seqAll_ok _ _ _ helem, map_range_getD, Res.map]

theorem getMarshaled_ins (es : Bkt) (name : Bytes) (n : Node) : getMarshaled (ins es name n) name = readNode n := by
  rw [getMarshaled, look_ins_self]

theorem getMap_ins (es : Bkt) (name : Bytes) (c : Bkt) : getMap (ins es name (.sub c)) name = mapFrom (readEs c) := by
  rw [getMap, bbucket_ins_self]

theorem getList_ins {c : Bkt} {n : Int} (es : Bkt) (name : Bytes) (h : listSize c = some n) :
    getList (ins es name (.sub c)) name = (readNode (.sub c)).map some := by
  rw [getList, bbucket_ins_self, readNode]
  simp only [h]

theorem supportedKvs_cons {k : Bytes} {v : Value} {r : List (Bytes × Value)} :
    supportedKvs ((k, v) :: r) = true ↔ k ≠ listSizeKey ∧ supported v = true ∧ supportedKvs r = true := by
  simp [supportedKvs, and_assoc]

mutual
theorem setMarshaled_spec (v : Value) (es : Bkt) (name : Bytes) (a : Bool) (es' : Bkt)
    (h : setMarshaled es name v a = .ok es') (hs : supported v = true) :
    ∃ n, es' = ins es name n ∧ readNode n = .ok (normalize v) := by
  cases v
  case unsupported => cases hs
  case map kvs =>
    cases a
    · cases h
    · obtain ⟨child, hc, hes⟩ := putMapRaw_shape (setMarshaled_map es name kvs ▸ h)
      obtain ⟨hr, hl⟩ := putEntries_spec kvs [] [] true child hc hs rfl rfl
      exact ⟨_, hes, readNode_mapBucket hr hl⟩
  case list xs =>
    cases a
    · cases h
    · obtain ⟨child, hc, hes⟩ := putListRaw_shape (setMarshaled_list es name xs ▸ h)
      obtain ⟨hlen, hk⟩ := (Bool.and_eq_true _ _).mp hs
      have hlen : xs.length < 2 ^ 31 := of_decide_eq_true hlen
      refine ⟨_, hes, readNode_listBucket child (normXs xs) xs.length (normXs_length xs) hlen fun i hi => ?_⟩
      have := putElems_spec xs [] 0 child hc hk (by omega) i hi
      rwa [Nat.zero_add] at this
  all_goals exact ⟨_, bput_ok h, scalarOf_enc rfl hs ▸ rfl⟩

theorem putEntries_spec (kvs : List (Bytes × Value)) (child : Bkt) (acc : List (Bytes × Value)) (a : Bool)
    (child' : Bkt) (h : putEntries child kvs a = .ok child') (hs : supportedKvs kvs = true)
    (hacc : readEs child = okify acc) (hl : look child listSizeKey = none) :
    readEs child' = okify (normKvs kvs acc) ∧ look child' listSizeKey = none := by
  match kvs with
  | [] =>
    simp only [putEntries] at h
    injection h with h
    subst h
    exact ⟨hacc, hl⟩
  | (k, v) :: r =>
    simp only [putEntries] at h
    split at h
    · cases h
    · next c1 hc1 =>
      obtain ⟨hk, hv, hr⟩ := supportedKvs_cons.mp hs
      obtain ⟨n, hn, hrn⟩ := setMarshaled_spec v child k a c1 hc1 hv
      exact putEntries_spec r c1 (ins acc k (normalize v)) a child' h hr
        (by rw [hn, readEs_ins, hrn, hacc, okify_ins])
        (by rw [hn, look_ins_ne _ _ _ _ hk.symm]; exact hl)

theorem putElems_spec (xs : List Value) (child : Bkt) (idx : Nat) (child' : Bkt)
    (h : putElems child xs idx = .ok child') (hs : supportedXs xs = true) (hb : idx + xs.length ≤ 2 ^ 31) :
    ∀ i, i < xs.length → ∃ n, look child' (idxKey (idx + i)) = some n ∧
        readNode n = .ok ((normXs xs).getD i .nil) := by
  match xs with
  | [] => exact fun i hi => absurd hi (Nat.not_lt_zero i)
  | v :: r =>
    obtain ⟨c1, hc1, h⟩ := putElems_cons h
    obtain ⟨hv, hr⟩ := (Bool.and_eq_true _ _).mp hs
    obtain ⟨n, hn, hrn⟩ := setMarshaled_spec v child (idxKey idx) true c1 hc1 hv
    have hb' : idx + 1 + r.length ≤ 2 ^ 31 := Nat.le_trans (Nat.le_of_eq (Nat.succ_add_eq_add_succ ..)) hb
    intro i hi
    cases i with
    | zero =>
      -- the later elements are written under other keys
      have hfr : look child' (idxKey idx) = look c1 (idxKey idx) := by
        apply putElems_frame r c1 (idx + 1) child' h
        exact fun i hi' => idxKey_ne_of_lt (by omega) (by omega)
      exact ⟨n, by rw [Nat.add_zero, hfr, hn, look_ins_self], hrn⟩
    | succ i =>
      have := putElems_spec r c1 (idx + 1) child' h hr hb' i (Nat.lt_of_succ_lt_succ hi)
      rw [Nat.add_right_comm, Nat.add_assoc] at this
      exact this
end

end StorageModel.Codec
