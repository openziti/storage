import StorageModel.Codec.Nested
/- The bucket `SetStringList` fills is walked as `sortDedup`; every well-keyed value is accepted on a fresh key;
   `normalize` on a map is sorting by key. -/
namespace StorageModel.Codec
open StorageModel

/-- a list key without its type byte, as `ReadStringList` computes it -/
def untag (k : Bytes) : Bytes := obytes (getTypeAndValue (some k)).2

theorem untag_cons (t : UInt8) (x : Bytes) : untag (t :: x) = x := by
  unfold untag
  rw [getTypeAndValue_cons]
  cases x <;> simp [obytes]

theorem readStringList_eq (c : Bkt) : readStringList c = (keys c).map untag := by
  simp [readStringList, keys, untag, List.map_map, Function.comp_def]

def AllTagged (l : List Bytes) : Prop := ∀ k ∈ l, ∃ x, k = typeString :: x

theorem pairwise_untag (l : List Bytes) (h : l.Pairwise (· < ·)) (ht : AllTagged l) :
    (l.map untag).Pairwise (· < ·) := by
  rw [List.pairwise_map]
  refine h.imp_of_mem fun {a b} ha hb hlt => ?_
  obtain ⟨x1, rfl⟩ := ht a ha
  obtain ⟨x2, rfl⟩ := ht b hb
  rw [untag_cons, untag_cons]
  -- the tags are equal, so the order is that of what follows them
  exact ((List.cons_lt_cons_iff.mp hlt).resolve_left (by decide)).2

theorem mem_untag (l : List Bytes) (ht : AllTagged l) (y : Bytes) :
    y ∈ l.map untag ↔ (typeString :: y) ∈ l := by
  constructor
  · intro h
    obtain ⟨k, hk, rfl⟩ := List.mem_map.mp h
    obtain ⟨x, rfl⟩ := ht k hk
    rwa [untag_cons]
  · intro h
    exact List.mem_map.mpr ⟨_, h, untag_cons _ _⟩

theorem setListEntries_spec (xs : List Bytes) (child child' : Bkt) (h : setListEntries child xs = .ok child')
    (hs : Sorted child) (ht : AllTagged (keys child)) :
    Sorted child' ∧ AllTagged (keys child') ∧
      ∀ y, (typeString :: y) ∈ keys child' ↔ ((typeString :: y) ∈ keys child ∨ y ∈ xs) := by
  fun_induction setListEntries child xs with
  | case1 child => injection h with h; subst h; exact ⟨hs, ht, fun y => by simp⟩
  | case2 child x r e he => cases h
  | case3 child x r c1 hc1 ih =>
    obtain rfl : c1 = ins child (prependFieldType typeString x) (.val []) := bput_ok hc1
    have ht1 : AllTagged (keys (ins child (prependFieldType typeString x) (.val []))) := fun k hk =>
      ((mem_keys_ins _ _ _ _).mp hk).elim (fun e => ⟨x, e⟩) (ht k)
    obtain ⟨a, b, c⟩ := ih h (sorted_ins _ _ _ hs) ht1
    refine ⟨a, b, fun y => ?_⟩
    rw [c y, mem_keys_ins]
    simp only [prependFieldType, List.cons.injEq, true_and, List.mem_cons]
    exact or_assoc.trans or_left_comm

theorem setListEntries_ok (xs : List Bytes) (child : Bkt) (hlen : ∀ x ∈ xs, x.length < maxKeySize)
    (hv : ∀ k c, look child k ≠ some (.sub c)) :
    ∃ child', setListEntries child xs = .ok child' := by
  induction xs generalizing child with
  | nil => exact ⟨child, rfl⟩
  | cons x r ih =>
    have hw : Writable child (prependFieldType typeString x) := by
      refine ⟨by simp [prependFieldType], ?_, fun c => hv _ c⟩
      have := hlen x (List.mem_cons_self ..)
      simp [prependFieldType]; omega
    simp only [setListEntries, bput_of_writable [] hw]
    apply ih _ (fun y hy => hlen y (List.mem_cons_of_mem _ hy))
    intro k c
    by_cases hk : k = prependFieldType typeString x
    · subst hk; rw [look_ins_self]; simp
    · rw [look_ins_ne _ _ _ _ hk]; exact hv k c

theorem sortDedup_sorted (xs : List Bytes) : (sortDedup xs).Pairwise (· < ·) := by
  induction xs with
  | nil => simp [sortDedup]
  | cons x r ih => exact insertSorted_sorted x _ ih

theorem mem_sortDedup (xs : List Bytes) (y : Bytes) : y ∈ sortDedup xs ↔ y ∈ xs := by
  induction xs with
  | nil => simp [sortDedup]
  | cons x r ih =>
    show y ∈ insertSorted x (sortDedup r) ↔ _
    rw [insertSorted_mem, ih]; simp

theorem readStringList_setListEntries {xs : List Bytes} {child : Bkt} (hc : setListEntries [] xs = .ok child) :
    readStringList child = sortDedup xs := by
  obtain ⟨hs, ht, hm⟩ := setListEntries_spec xs [] child hc sorted_nil (fun k hk => nomatch hk)
  rw [readStringList_eq]
  apply sorted_ext _ _ (pairwise_untag _ hs ht) (sortDedup_sorted xs)
  intro y
  rw [mem_untag _ ht, hm y, mem_sortDedup]
  exact or_iff_right (fun h => nomatch h)

theorem wellKeyedKvs_cons {k : Bytes} {v : Value} {r : List (Bytes × Value)} :
    wellKeyedKvs ((k, v) :: r) = true ↔
      k ≠ [] ∧ k.length ≤ maxKeySize ∧ k ∉ r.map Prod.fst ∧ wellKeyed v = true ∧ wellKeyedKvs r = true := by
  simp [wellKeyedKvs, and_assoc]

mutual
theorem setMarshaled_ok (v : Value) (es : Bkt) (name : Bytes) (hw : wellKeyed v = true)
    (h1 : name ≠ []) (h2 : name.length ≤ maxKeySize) (h3 : look es name = none) :
    ∃ es', setMarshaled es name v true = .ok es' := by
  cases v
  case unsupported => cases hw
  case map kvs =>
    obtain ⟨child, hc⟩ := putEntries_ok kvs [] hw (fun k _ => rfl)
    exact ⟨_, by rw [setMarshaled_map, putMapRaw, emptyBucket_fresh h1 h3, hc]⟩
  case list xs =>
    obtain ⟨hlen, hk⟩ := (Bool.and_eq_true _ _).mp hw
    have hlen : xs.length < 2 ^ 31 := of_decide_eq_true hlen
    obtain ⟨child, hc⟩ := putElems_ok xs [] 0 hk (by omega) (fun i _ => rfl)
    have hfr : look child listSizeKey = none :=
      putElems_frame xs [] 0 child hc listSizeKey (fun i _ => (idxKey_ne_listSizeKey _).symm)
    have hb := bput_fresh (es := child) (k := listSizeKey) (int32ToBytes (xs.length : Int)) (by decide)
      (by rw [listSizeKey_length]; decide) hfr
    exact ⟨_, by simp only [setMarshaled_list, putListRaw, emptyBucket_fresh h1 h3, hc, hb]; rfl⟩
  all_goals exact ⟨_, bput_fresh _ h1 h2 h3⟩

theorem putEntries_ok (kvs : List (Bytes × Value)) (child : Bkt) (hw : wellKeyedKvs kvs = true)
    (hf : ∀ k ∈ kvs.map Prod.fst, look child k = none) :
    ∃ child', putEntries child kvs true = .ok child' := by
  match kvs with
  | [] => exact ⟨child, by simp [putEntries]⟩
  | (k, v) :: r =>
    obtain ⟨k1, k2, k3, k4, k5⟩ := wellKeyedKvs_cons.mp hw
    obtain ⟨c1, hc1⟩ := setMarshaled_ok v child k k4 k1 k2 (hf k (List.mem_cons_self ..))
    obtain ⟨n, hn⟩ := setMarshaled_shape hc1
    have hf1 : ∀ k' ∈ r.map Prod.fst, look c1 k' = none := by
      intro k' hk'
      rw [hn, look_ins_ne _ _ _ _ (fun e : k' = k => k3 (e ▸ hk'))]
      exact hf k' (List.mem_cons_of_mem _ hk')
    obtain ⟨child', hc'⟩ := putEntries_ok r c1 k5 hf1
    exact ⟨child', by simp only [putEntries, hc1, hc']⟩

theorem putElems_ok (xs : List Value) (child : Bkt) (idx : Nat) (hw : wellKeyedXs xs = true)
    (hb : idx + xs.length ≤ 2 ^ 31) (hf : ∀ i, i < xs.length → look child (idxKey (idx + i)) = none) :
    ∃ child', putElems child xs idx = .ok child' := by
  match xs with
  | [] => exact ⟨child, by simp [putElems]⟩
  | v :: r =>
    obtain ⟨hv, hr⟩ := (Bool.and_eq_true _ _).mp hw
    have hb' : idx + 1 + r.length ≤ 2 ^ 31 := Nat.le_trans (Nat.le_of_eq (Nat.succ_add_eq_add_succ ..)) hb
    obtain ⟨c1, hc1⟩ := setMarshaled_ok v child (idxKey idx) hv (idxKey_ne_nil idx)
      (by rw [idxKey_length]; decide) (hf 0 (Nat.zero_lt_succ _))
    obtain ⟨n, hn⟩ := setMarshaled_shape hc1
    have hf1 : ∀ i, i < r.length → look c1 (idxKey (idx + 1 + i)) = none := by
      intro i hi
      rw [hn, look_ins_ne _ _ _ _ (idxKey_ne_of_lt (by omega) (by omega)).symm, Nat.add_right_comm, Nat.add_assoc]
      exact hf (i + 1) (Nat.succ_lt_succ hi)
    obtain ⟨child', hc'⟩ := putElems_ok r c1 (idx + 1) hr hb' hf1
    exact ⟨child', by simp only [putElems, hc1, hc']⟩
end

theorem normKvs_sorted (kvs acc : List (Bytes × Value)) (h : Sorted acc) : Sorted (normKvs kvs acc) := by
  induction kvs generalizing acc with
  | nil => simpa [normKvs] using h
  | cons e r ih => obtain ⟨k, v⟩ := e; simp only [normKvs]; exact ih _ (sorted_ins _ _ _ h)

theorem normKvs_look (kvs acc : List (Bytes × Value)) (hn : (kvs.map Prod.fst).Nodup) (k : Bytes) :
    look (normKvs kvs acc) k = match look kvs k with
      | some v => some (normalize v)
      | none => look acc k := by
  induction kvs generalizing acc with
  | nil => simp [normKvs, look]
  | cons e r ih =>
    obtain ⟨k', v'⟩ := e
    simp only [List.map_cons, List.nodup_cons] at hn
    simp only [normKvs]
    rw [ih _ hn.2]
    by_cases hk : k = k'
    · subst hk
      have : look r k = none := (look_eq_none_iff r k).mpr hn.1
      simp [this, look, look_ins_self]
    · simp [look, hk, look_ins_ne _ _ _ _ hk]

end StorageModel.Codec
