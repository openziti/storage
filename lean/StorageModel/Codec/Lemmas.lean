import StorageModel.Codec.Time
import StorageModel.Base.Lists
/- `look` / `ins` and the bbolt primitives over them.  On the keys `ins` is `insertSorted` (`keys_ins`), which
   carries membership and order of the keys. -/
namespace StorageModel.Codec
open StorageModel

@[simp] theorem look_nil {α : Type} (k : Bytes) : look ([] : List (Bytes × α)) k = none := rfl

theorem look_cons {α : Type} (k' : Bytes) (a : α) (r : List (Bytes × α)) (k : Bytes) :
    look ((k', a) :: r) k = if k = k' then some a else look r k := rfl

theorem look_ins_self {α : Type} (l : List (Bytes × α)) (k : Bytes) (a : α) : look (ins l k a) k = some a := by
  -- the cases of `ins`: the empty list, `k` below the head key `k'`, equal to it, above it
  fun_induction ins l k a with
  | case1 | case2 | case3 => exact if_pos rfl
  | case4 k' a' r k a h1 h2 ih => rw [look_cons, if_neg h2]; exact ih

theorem look_ins_ne {α : Type} (l : List (Bytes × α)) (k j : Bytes) (a : α) (h : j ≠ k) :
    look (ins l k a) j = look l j := by
  fun_induction ins l k a with
  | case1 | case2 => exact if_neg h
  | case3 => rw [look_cons, look_cons, if_neg h, if_neg h]
  | case4 k' a' r k a h1 h2 ih => rw [look_cons, look_cons, ih h]

theorem ins_ins {α : Type} (l : List (Bytes × α)) (k : Bytes) (a b : α) : ins (ins l k a) k b = ins l k b := by
  fun_induction ins l k a with
  | case1 | case3 => simp [ins, List.lt_irrefl]
  | case2 k' a' r k a h => simp [ins, h, List.lt_irrefl]
  | case4 k' a' r k a h1 h2 ih => simp [ins, h1, h2, ih]

theorem ins_ne_nil {α : Type} (l : List (Bytes × α)) (k : Bytes) (a : α) : ins l k a ≠ [] := by
  fun_induction ins l k a <;> exact List.cons_ne_nil _ _

theorem map_ins {α β : Type} (f : α → β) (l : List (Bytes × α)) (k : Bytes) (a : α) :
    (ins l k a).map (fun e => (e.1, f e.2)) = ins (l.map fun e => (e.1, f e.2)) k (f a) := by
  fun_induction ins l k a with
  | case1 => rfl
  | case2 k' a' r k a h1 => exact (if_pos h1).symm
  | case3 a' r k a h1 => exact ((if_neg h1).trans (if_pos rfl)).symm
  | case4 k' a' r k a h1 h2 ih => exact (congrArg _ ih).trans ((if_neg h1).trans (if_neg h2)).symm

theorem look_map {α β : Type} (f : α → β) (l : List (Bytes × α)) (k : Bytes) :
    look (l.map fun e => (e.1, f e.2)) k = (look l k).map f := by
  fun_induction look l k with
  | case1 => rfl
  | case2 k' a r => exact if_pos rfl
  | case3 k' a r k h ih => exact (if_neg h).trans ih

def keys {α : Type} (l : List (Bytes × α)) : List Bytes := l.map Prod.fst

theorem keys_cons {α : Type} (k : Bytes) (a : α) (r : List (Bytes × α)) : keys ((k, a) :: r) = k :: keys r := rfl

theorem insertSorted_mem (x y : Bytes) (l : List Bytes) : y ∈ insertSorted x l ↔ y = x ∨ y ∈ l := by
  fun_induction insertSorted x l with
  | case1 => exact List.mem_singleton.trans ⟨Or.inl, fun h => h.elim id fun h => nomatch h⟩
  | case2 => exact List.mem_cons
  | case3 => exact ⟨Or.inr, fun h => h.elim (fun e => e ▸ List.mem_cons_self ..) id⟩
  | case4 z r h1 h2 ih => rw [List.mem_cons, List.mem_cons, ih]; exact or_left_comm

theorem insertSorted_sorted (x : Bytes) (l : List Bytes) (h : l.Pairwise (· < ·)) :
    (insertSorted x l).Pairwise (· < ·) := by
  fun_induction insertSorted x l with
  | case1 => exact List.pairwise_singleton _ _
  | case2 z r hlt =>
    obtain ⟨hz, _⟩ := List.pairwise_cons.mp h
    exact List.pairwise_cons.mpr
      ⟨fun y hy => (List.mem_cons.mp hy).elim (· ▸ hlt) fun hy => List.lt_trans hlt (hz y hy), h⟩
  | case3 => exact h
  | case4 z r h1 h2 ih =>
    obtain ⟨hz, hr⟩ := List.pairwise_cons.mp h
    have hgt : z < x := ((Std.lt_trichotomy x z).resolve_left h1).resolve_left h2
    exact List.pairwise_cons.mpr ⟨fun y hy => ((insertSorted_mem x y r).mp hy).elim (· ▸ hgt) (hz y), ih hr⟩

theorem keys_ins {α : Type} (l : List (Bytes × α)) (k : Bytes) (a : α) : keys (ins l k a) = insertSorted k (keys l) := by
  fun_induction ins l k a with
  | case1 => rfl
  | case2 k' a' r k a h1 => exact (if_pos h1).symm
  | case3 a' r k a h1 => exact ((if_neg h1).trans (if_pos rfl)).symm
  | case4 k' a' r k a h1 h2 ih => exact (congrArg _ ih).trans ((if_neg h1).trans (if_neg h2)).symm

theorem mem_keys_ins {α : Type} (l : List (Bytes × α)) (k j : Bytes) (a : α) :
    j ∈ keys (ins l k a) ↔ j = k ∨ j ∈ keys l := by
  rw [keys_ins, insertSorted_mem]

/-- strictly increasing keys: what a bbolt cursor walk delivers -/
def Sorted {α : Type} (l : List (Bytes × α)) : Prop := (keys l).Pairwise (· < ·)

theorem sorted_nil {α : Type} : Sorted ([] : List (Bytes × α)) := List.Pairwise.nil

theorem sorted_cons {α : Type} {k : Bytes} {a : α} {r : List (Bytes × α)} :
    Sorted ((k, a) :: r) ↔ (∀ x ∈ keys r, k < x) ∧ Sorted r := List.pairwise_cons

theorem sorted_ins {α : Type} (l : List (Bytes × α)) (k : Bytes) (a : α) (h : Sorted l) : Sorted (ins l k a) := by
  rw [Sorted, keys_ins]
  exact insertSorted_sorted k _ h

theorem look_eq_none_iff {α : Type} (l : List (Bytes × α)) (k : Bytes) : look l k = none ↔ k ∉ keys l := by
  fun_induction look l k with
  | case1 => exact ⟨fun _ h => (nomatch h), fun _ => rfl⟩
  | case2 k' a r => exact ⟨fun h => (nomatch h), fun h => absurd (List.mem_cons_self ..) h⟩
  | case3 k' a r k h ih =>
    rw [keys_cons, List.mem_cons, not_or]
    exact ih.trans ⟨fun h' => ⟨h, h'⟩, And.right⟩

theorem mem_keys_iff {α : Type} (l : List (Bytes × α)) (k : Bytes) : k ∈ keys l ↔ ∃ a, look l k = some a := by
  rw [← Option.ne_none_iff_exists', Ne, look_eq_none_iff, Decidable.not_not]

theorem sorted_ext (l₁ l₂ : List Bytes) (h₁ : l₁.Pairwise (· < ·)) (h₂ : l₂.Pairwise (· < ·))
    (h : ∀ x, x ∈ l₁ ↔ x ∈ l₂) : l₁ = l₂ :=
  List.Pairwise.eq_of_mem_iff List.lt_asymm h₁ h₂ h

theorem bput_ok_inv {es es' : Bkt} {k v : Bytes} (h : bput es k v = .ok es') :
    k ≠ [] ∧ k.length ≤ maxKeySize ∧ es' = ins es k (.val v) := by
  revert h
  fun_cases bput es k v with
  | case1 | case2 | case3 => exact fun h => nomatch h
  | case4 h1 h2 hn => exact fun h => ⟨h1, Nat.le_of_not_gt h2, (Except.ok.inj h).symm⟩

theorem bput_ok {es es' : Bkt} {k v : Bytes} (h : bput es k v = .ok es') : es' = ins es k (.val v) :=
  (bput_ok_inv h).2.2

theorem bput_ok_key {es es' : Bkt} {k v : Bytes} (h : bput es k v = .ok es') : k ≠ [] ∧ k.length ≤ maxKeySize :=
  ⟨(bput_ok_inv h).1, (bput_ok_inv h).2.1⟩

theorem bput_error {es : Bkt} {k v : Bytes} {e : BErr} (h : bput es k v = .error e) :
    e = .keyRequired ∨ e = .keyTooLarge ∨ e = .incompatible := by
  revert h
  fun_cases bput es k v with
  | case1 => exact fun h => Or.inl (Except.error.inj h).symm
  | case2 => exact fun h => Or.inr (Or.inl (Except.error.inj h).symm)
  | case3 => exact fun h => Or.inr (Or.inr (Except.error.inj h).symm)
  | case4 => exact fun h => nomatch h

/-- a key a plain value may be stored under -/
def Writable (es : Bkt) (k : Bytes) : Prop :=
  k ≠ [] ∧ k.length ≤ maxKeySize ∧ ∀ c, look es k ≠ some (.sub c)

theorem bput_of_writable {es : Bkt} {k : Bytes} (v : Bytes) (h : Writable es k) :
    bput es k v = .ok (ins es k (.val v)) := by
  obtain ⟨h1, h2, h3⟩ := h
  fun_cases bput es k v with
  | case1 h => exact absurd h h1
  | case2 _ h => exact absurd h (by omega)
  | case3 _ _ c hc => exact absurd hc (h3 c)
  | case4 => rfl

theorem bput_fresh {es : Bkt} {k : Bytes} (v : Bytes) (h1 : k ≠ []) (h2 : k.length ≤ maxKeySize) (h3 : look es k = none) :
    bput es k v = .ok (ins es k (.val v)) :=
  bput_of_writable v ⟨h1, h2, fun c => by rw [h3]; simp⟩

theorem bget_ins_self (es : Bkt) (k v : Bytes) : bget (ins es k (.val v)) k = some v := by
  simp [bget, look_ins_self]

theorem bget_ins_ne (es : Bkt) (k j : Bytes) (n : Node) (h : j ≠ k) : bget (ins es k n) j = bget es j := by
  simp [bget, look_ins_ne _ _ _ _ h]

theorem bbucket_ins_self (es : Bkt) (k : Bytes) (c : Bkt) : bbucket (ins es k (.sub c)) k = some c := by
  simp [bbucket, look_ins_self]

theorem emptyBucket_ok {es es' : Bkt} {k : Bytes} (h : emptyBucket es k = .ok es') : es' = ins es k (.sub []) := by
  revert h
  fun_cases emptyBucket es k with
  | case1 | case2 => exact fun h => nomatch h
  | case3 => exact fun h => (Except.ok.inj h).symm

/-- a key a child bucket may be (re)created under -/
def BucketWritable (es : Bkt) (k : Bytes) : Prop := k ≠ [] ∧ ∀ v, look es k ≠ some (.val v)

theorem emptyBucket_of_writable {es : Bkt} {k : Bytes} (h : BucketWritable es k) :
    emptyBucket es k = .ok (ins es k (.sub [])) := by
  fun_cases emptyBucket es k with
  | case1 hk => exact absurd hk h.1
  | case2 _ v hv => exact absurd hv (h.2 v)
  | case3 => rfl

theorem emptyBucket_fresh {es : Bkt} {k : Bytes} (h1 : k ≠ []) (h3 : look es k = none) :
    emptyBucket es k = .ok (ins es k (.sub [])) :=
  emptyBucket_of_writable ⟨h1, fun v => by rw [h3]; simp⟩

theorem apply_ok_of_err_none {tb : TB} {r : Except BErr Bkt} (h : (tb.apply r).err = none) : ∃ es', r = .ok es' := by
  cases r with
  | error e => nomatch h
  | ok es' => exact ⟨es', rfl⟩

theorem err_none_of_proceed {tb : TB} {name : Bytes} {chk : Checker} (h : proceedWithSet tb name chk = true) : tb.err = none := by
  unfold proceedWithSet at h
  cases he : tb.err with
  | none => rfl
  | some e => simp [he] at h

theorem getTypeAndValue_cons (t : UInt8) (v : Bytes) :
    getTypeAndValue (some (t :: v)) = (t, if v = [] then none else some v) := by
  cases v with
  | nil => rfl
  | cons c r => rfl

theorem getTyped_ins_self (es : Bkt) (k : Bytes) (t : UInt8) (v : Bytes) :
    getTyped (ins es k (.val (t :: v))) k = (t, if v = [] then none else some v) := by
  simp [getTyped, bget_ins_self, getTypeAndValue_cons]

end StorageModel.Codec
