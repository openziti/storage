import StorageModel.Codec.Lists
/- Every raw writer fails or yields `ins es name n`, so a field operation changes nothing but its
   own key; one whose field the checker does not select (`Skips`) changes nothing at all. -/
namespace StorageModel.Codec
open StorageModel

theorem apply_es_of_ok {tb : TB} {r : Except BErr Bkt} {es' : Bkt} (h : r = .ok es') : (tb.apply r).es = es' := by
  subst h; rfl

theorem apply_bput_es {tb : TB} {k v : Bytes} (hok : (tb.apply (bput tb.es k v)).err = none) :
    (tb.apply (bput tb.es k v)).es = ins tb.es k (.val v) := by
  obtain ⟨es', h1⟩ := apply_ok_of_err_none hok
  rw [apply_es_of_ok h1, bput_ok h1]

theorem setTyped_some {tb : TB} {t : UInt8} {name v : Bytes} (ht : t ≠ typeNil) :
    setTyped tb t name (some v) = tb.apply (bput tb.es name (t :: v)) := by
  simp [setTyped, ht, prependFieldType]

theorem setNil_eq {tb : TB} {name : Bytes} (h : tb.err = none) :
    setNil tb name = tb.apply (bput tb.es name [typeNil]) := by
  simp [setNil, h, setTyped]

theorem setStringListRaw_shape {es es' : Bkt} {name : Bytes} {xs : List Bytes}
    (h : setStringListRaw es name xs = .ok es') :
    ∃ child, setListEntries [] xs = .ok child ∧ es' = ins es name (.sub child) := by
  revert h
  fun_cases setStringListRaw es name xs with
  | case1 | case2 => exact fun h => nomatch h
  | case3 es1 he child hc => exact fun h => ⟨child, hc, by rw [← Except.ok.inj h, ins_emptyBucket he]⟩

theorem apply_frame {tb : TB} {name : Bytes} {r : Except BErr Bkt} (hs : ∀ es', r = .ok es' → ∃ n, es' = ins tb.es name n)
    (j : Bytes) (hj : j ≠ name) : look (tb.apply r).es j = look tb.es j := by
  cases r with
  | error e => rfl
  | ok es' =>
    obtain ⟨n, hn⟩ := hs es' rfl
    show look es' j = _
    rw [hn, look_ins_ne _ _ _ _ hj]

theorem setTyped_frame (tb : TB) (t : UInt8) (name : Bytes) (v : Option Bytes) (j : Bytes) (hj : j ≠ name) :
    look (setTyped tb t name v).es j = look tb.es j := by
  fun_cases setTyped tb t name v <;> exact apply_frame (fun _ h => ⟨_, bput_ok h⟩) j hj

theorem setNil_frame (tb : TB) (name : Bytes) (j : Bytes) (hj : j ≠ name) :
    look (setNil tb name).es j = look tb.es j := by
  unfold setNil
  split
  · exact setTyped_frame _ _ _ _ j hj
  · rfl

/-- operations that consult the field checker (`SetNil` has no checker argument) -/
def FieldOp.checked : FieldOp → Bool
  | .setNil => false
  | _ => true

theorem guarded_frame {c : Prop} [Decidable c] {tb tb' : TB} {j : Bytes} (h : look tb'.es j = look tb.es j) :
    look (if c then tb' else tb).es j = look tb.es j := by
  split
  · exact h
  · rfl

theorem applyOp_frame (tb : TB) (name : Bytes) (op : FieldOp) (chk : Checker) (j : Bytes) (hj : j ≠ name) :
    look (applyOp tb name op chk).es j = look tb.es j := by
  have hput : ∀ v, look (tb.apply (bput tb.es name v)).es j = look tb.es j :=
    fun v => apply_frame (fun _ h => ⟨_, bput_ok h⟩) j hj
  have htyped : ∀ t v, look (setTyped tb t name v).es j = look tb.es j := fun t v => setTyped_frame tb t name v j hj
  cases op with
  | str s => exact guarded_frame (htyped ..)
  | getAndSetStr s => exact guarded_frame (htyped ..)
  | strP s =>
    cases s with
    | none => exact guarded_frame (setNil_frame _ _ j hj)
    | some v => exact guarded_frame (htyped ..)
  | requiredStr s => exact guarded_frame (by split; rfl; exact htyped ..)
  | i32 i => exact guarded_frame (hput _)
  | i64 i => exact guarded_frame (hput _)
  | f64 b => exact guarded_frame (hput _)
  | bool b => exact guarded_frame (hput _)
  | time p => exact guarded_frame (htyped ..)
  | timeP p =>
    cases p with
    | none => exact guarded_frame (setNil_frame _ _ j hj)
    | some v => exact guarded_frame (htyped ..)
  | strList xs => exact guarded_frame (apply_frame (fun _ h => let ⟨_, _, hc⟩ := setStringListRaw_shape h; ⟨_, hc⟩) j hj)
  | getAndSetStrList xs => exact guarded_frame (apply_frame (fun _ h => let ⟨_, _, hc⟩ := setStringListRaw_shape h; ⟨_, hc⟩) j hj)
  | map kvs a => exact guarded_frame (apply_frame (fun _ h => let ⟨_, _, hc⟩ := putMapRaw_shape h; ⟨_, hc⟩) j hj)
  | list xs => exact guarded_frame (apply_frame (fun _ h => let ⟨_, _, hc⟩ := putListRaw_shape h; ⟨_, hc⟩) j hj)
  | setNil => exact setNil_frame _ _ j hj

theorem applyOp_of_not_proceed {tb : TB} {name : Bytes} {op : FieldOp} {chk : Checker} (hc : op.checked = true)
    (hp : ¬ proceedWithSet tb name chk = true) : applyOp tb name op chk = tb := by
  cases op <;> first | exact if_neg hp | cases hc

theorem applyOp_unselected (tb : TB) (name : Bytes) (op : FieldOp) (f : Bytes → Bool)
    (hf : f name = false) (hc : op.checked = true) : applyOp tb name op (some f) = tb :=
  applyOp_of_not_proceed hc (by simp [proceedWithSet, hf])

/-- the operation does nothing because the checker does not select its field -/
def Skips (chk : Checker) (name : Bytes) (op : FieldOp) : Prop :=
  ∃ f, chk = some f ∧ f name = false ∧ op.checked = true

theorem applyOp_skips {tb : TB} {name : Bytes} {op : FieldOp} {chk : Checker} (h : Skips chk name op) :
    applyOp tb name op chk = tb := by
  obtain ⟨f, hc, hf, hck⟩ := h
  rw [hc]
  exact applyOp_unselected tb name op f hf hck

/-- what `persist_look` asks of every operation, for a field `j` the checker does not select; the tree frames
    take the same alternative with `Apart` in place of `≠` -/
theorem skips_or_ne {chk : Checker} {f : Bytes → Bool} {j : Bytes} (hchk : chk = some f) (hf : f j = false)
    (p : Bytes × FieldOp) (hc : p.1 = j → p.2.checked = true) : Skips chk p.1 p.2 ∨ p.1 ≠ j :=
  if hn : p.1 = j then .inl ⟨f, hchk, hn ▸ hf, hc hn⟩ else .inr hn

theorem persist_look (ops : List (Bytes × FieldOp)) (tb : TB) (chk : Checker) (j : Bytes)
    (h : ∀ p ∈ ops, Skips chk p.1 p.2 ∨ p.1 ≠ j) : look (persist tb ops chk).es j = look tb.es j := by
  fun_induction persist tb ops chk with
  | case1 => rfl
  | case2 tb name op r ih =>
    rw [ih fun q hq => h q (List.mem_cons_of_mem _ hq)]
    rcases h (name, op) (List.mem_cons_self ..) with hs | hne
    · rw [applyOp_skips hs]
    · exact applyOp_frame tb name op chk j (Ne.symm hne)

theorem persist_append (ops₁ ops₂ : List (Bytes × FieldOp)) (tb : TB) (chk : Checker) :
    persist tb (ops₁ ++ ops₂) chk = persist (persist tb ops₁ chk) ops₂ chk := by
  induction ops₁ generalizing tb with
  | nil => rfl
  | cons p r ih => obtain ⟨name, op⟩ := p; simp only [List.cons_append, persist, ih]

end StorageModel.Codec
