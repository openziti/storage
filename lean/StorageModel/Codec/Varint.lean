import StorageModel.Base.Bytes
/-
  LEB128 unsigned varints as `encoding/binary` `PutUvarint` / `Uvarint` do them (Go 1.23):

    func PutUvarint(buf []byte, x uint64) int {            func Uvarint(buf []byte) (uint64, int) {
      i := 0                                                 var x uint64; var s uint
      for x >= 0x80 {                                        for i, b := range buf {
        buf[i] = byte(x) | 0x80; x >>= 7; i++                  if i == MaxVarintLen64 { return 0, -(i + 1) }
      }                                                        if b < 0x80 {
      buf[i] = byte(x); return i + 1                             if i == MaxVarintLen64-1 && b > 1 { return 0, -(i + 1) }
    }                                                            return x | uint64(b)<<s, i + 1 }
                                                               x |= uint64(b&0x7f) << s; s += 7 }
                                                             return 0, 0 }

  Modelled, not verified: that the Go functions behave as transcribed (exercised by the
  correspondence on every run).  The bit operations act on disjoint bit ranges, so they are
  written with `+`, `*`, `%` and `/` over `Nat`.
-/
namespace StorageModel.Codec
open StorageModel

/-- `PutUvarint` (the bytes written; their number is the returned count). -/
def putUvarint (x : Nat) : Bytes :=
  if x < 128 then [UInt8.ofNat x] else UInt8.ofNat (x % 128 + 128) :: putUvarint (x / 128)
termination_by x
decreasing_by omega

/-- the loop of `Uvarint` from iteration `i` on, with accumulator `x`; the shift is `s = 7 * i`.
    Result: (value, n) with n > 0 bytes read, n = 0 buffer too small, n < 0 overflow. -/
def uvarintGo : Bytes → Nat → Nat → Nat × Int
  | [], _, _ => (0, 0)
  | b :: rest, i, x =>
    if i = 10 then (0, -((i : Int) + 1))
    else if b.toNat < 128 then
      if i = 9 ∧ b.toNat > 1 then (0, -((i : Int) + 1))
      else (x + b.toNat * 2 ^ (7 * i), (i : Int) + 1)
    else uvarintGo rest (i + 1) (x + (b.toNat % 128) * 2 ^ (7 * i))

/-- `binary.Uvarint` -/
def uvarint (buf : Bytes) : Nat × Int := uvarintGo buf 0 0

theorem putUvarint_lt (x : Nat) (h : x < 128) : putUvarint x = [UInt8.ofNat x] := by
  rw [putUvarint]; simp [h]

theorem putUvarint_ge (x : Nat) (h : ¬ x < 128) :
    putUvarint x = UInt8.ofNat (x % 128 + 128) :: putUvarint (x / 128) := by
  rw [putUvarint]; simp [h]

theorem putUvarint_ne_nil (x : Nat) : putUvarint x ≠ [] := by
  rw [putUvarint]; split <;> simp

theorem putUvarint_length_pos (x : Nat) : 0 < (putUvarint x).length :=
  List.length_pos_iff.mpr (putUvarint_ne_nil x)

private theorem toNat_ofNat_lt (n : Nat) (h : n < 256) : (UInt8.ofNat n).toNat = n := by
  rw [UInt8.toNat_ofNat']; exact Nat.mod_eq_of_lt h

theorem uvarintGo_last (b : UInt8) (rest : Bytes) (i x : Nat) (hi : i ≤ 9) (hb : b.toNat < 128)
    (h9 : i = 9 → b.toNat ≤ 1) :
    uvarintGo (b :: rest) i x = (x + b.toNat * 2 ^ (7 * i), (i : Int) + 1) := by
  have h10 : i ≠ 10 := by omega
  have h9' : ¬ (i = 9 ∧ b.toNat > 1) := by omega
  simp only [uvarintGo, if_neg h10, if_pos hb, if_neg h9']

theorem uvarintGo_more (b : UInt8) (rest : Bytes) (i x : Nat) (hi : i ≤ 9) (hb : ¬ b.toNat < 128) :
    uvarintGo (b :: rest) i x = uvarintGo rest (i + 1) (x + b.toNat % 128 * 2 ^ (7 * i)) := by
  have h10 : i ≠ 10 := by omega
  simp only [uvarintGo, if_neg h10, if_neg hb]

/-- invariant of the decoding loop on an encoding: at iteration `i`, `x` has been read and `y` is still to be
    read; the bound keeps the tenth byte at most 1. -/
theorem uvarintGo_put (y : Nat) : ∀ (i x : Nat) (rest : Bytes), i ≤ 9 → y * 2 ^ (7 * i) < 2 ^ 64 →
    uvarintGo (putUvarint y ++ rest) i x = (x + y * 2 ^ (7 * i), (i : Int) + (putUvarint y).length) := by
  induction y using Nat.strongRecOn with
  | _ y ih =>
    intro i x rest hi hy
    have h9 : i = 9 → y ≤ 1 := by
      rintro rfl
      have : y * 9223372036854775808 < 18446744073709551616 := hy
      omega
    by_cases h : y < 128
    · have hb : (UInt8.ofNat y).toNat = y := toNat_ofNat_lt y (by omega)
      rw [putUvarint_lt y h, List.singleton_append, uvarintGo_last _ _ _ _ hi (by omega) (by omega), hb]
      rfl
    · have hb : (UInt8.ofNat (y % 128 + 128)).toNat = y % 128 + 128 := toNat_ofNat_lt _ (by omega)
      have e2 : 2 ^ (7 * (i + 1)) = 128 * 2 ^ (7 * i) := by rw [Nat.mul_succ, Nat.pow_add, Nat.mul_comm]
      have hy' : y / 128 * 2 ^ (7 * (i + 1)) < 2 ^ 64 := by
        rw [e2, ← Nat.mul_assoc]
        exact Nat.lt_of_le_of_lt (Nat.mul_le_mul_right _ (Nat.div_mul_le_self y 128)) hy
      have hlt : y / 128 < y := Nat.div_lt_self (by omega) (by decide)
      have hi8 : i + 1 ≤ 9 :=
        Nat.succ_le_of_lt (Nat.lt_of_le_of_ne hi fun e => h (Nat.lt_of_le_of_lt (h9 e) (by decide)))
      rw [putUvarint_ge y h, List.cons_append, uvarintGo_more _ _ _ _ hi (by rw [hb]; omega), hb,
        ih (y / 128) hlt (i + 1) _ rest hi8 hy', Nat.add_mod_right, Nat.mod_mod, e2,
        ← Nat.mul_assoc, Nat.add_assoc, ← Nat.add_mul, Nat.mul_comm (y / 128), Nat.mod_add_div,
        List.length_cons]
      exact congrArg _ (by omega)

theorem uvarint_put (y : Nat) (rest : Bytes) (hy : y < 2 ^ 64) :
    uvarint (putUvarint y ++ rest) = (y, ((putUvarint y).length : Int)) := by
  have := uvarintGo_put y 0 0 rest (Nat.zero_le _) (by rwa [Nat.mul_zero, Nat.pow_zero, Nat.mul_one])
  simpa [uvarint] using this

end StorageModel.Codec
