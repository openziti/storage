/-
  C17 — the `reloadLock` protocol of boltz/db.go as a transition system.

  Threads:
  * a transaction thread runs a program over `rlock / runlock / read`
      View / Update / Batch / StreamToWriter / GetSnapshotId / GetTimelineId :  rlock, read, runlock
      Snapshot before /repo 1716f6e (= View around a SnapshotInTx that took the read lock AGAIN)  :  rlock, rlock, read, runlock, runlock
    (`read` = one bolt transaction / file copy against the currently open handle `self.db`);
  * a restore thread follows RestoreFromReader:
      persist (no lock) ; Lock() = announce + acquire ; Close ; Rename,Rename,Open (= swap) ;
      `go listener()` (fire) ; deferred Unlock().

  The lock is Go's `sync.RWMutex`: `RLock` blocks as soon as a writer has *announced* itself
  (called `Lock`, even if it is still waiting for the active readers to leave); a writer
  acquires when the number of read holds is 0; writers exclude each other from the moment they
  announce.  A read hold is not owned by a goroutine, so a nested `RLock` is a second hold and it
  blocks behind an announced writer like any other — that is what makes re-entrant read locking
  deadlock-prone.
-/
namespace StorageModel.C17.Lock

inductive TxAct where
  | rlock | runlock | read
  deriving DecidableEq, Repr

inductive RPc where
  | persist | announce | acquire | close | swap | fire | unlock | done
  deriving DecidableEq, Repr

/-- `obs`: for every `read`, (generation pinned when the outermost read lock was taken,
    generation actually seen, `none` when the handle was closed) -/
inductive Thread where
  | tx (prog : List TxAct) (depth : Nat) (pin : Option Nat) (obs : List (Option Nat × Option Nat))
  | restore (pc : RPc)
  deriving DecidableEq, Repr

/-- globals: the open database handle and the RWMutex -/
structure G where
  gen : Nat := 0          -- which file `self.db` is (changes exactly at the swap)
  isOpen : Bool := true
  readers : Nat := 0      -- read holds
  pending : Bool := false -- a writer has called Lock() and not yet Unlock()
  held : Bool := false    -- ... and has acquired
  fired : Nat := 0
  deriving DecidableEq, Repr

def Thread.step (g : G) : Thread → Option (G × Thread)
  | .tx (.rlock :: p) d pin obs =>
    if g.pending then none
    else some ({ g with readers := g.readers + 1 }, .tx p (d + 1) (if d = 0 then some g.gen else pin) obs)
  | .tx (.runlock :: p) (d + 1) pin obs =>
    some ({ g with readers := g.readers - 1 }, .tx p d (if d = 0 then none else pin) obs)
  | .tx (.runlock :: _) 0 _ _ => none          -- RUnlock of an unlocked RWMutex: fatal error
  | .tx (.read :: p) d pin obs =>
    some (g, .tx p d pin ((pin, if g.isOpen then some g.gen else none) :: obs))
  | .tx [] _ _ _ => none
  | .restore .persist => some (g, .restore .announce)
  | .restore .announce => if g.pending then none else some ({ g with pending := true }, .restore .acquire)
  | .restore .acquire => if g.readers = 0 then some ({ g with held := true }, .restore .close) else none
  | .restore .close => some ({ g with isOpen := false }, .restore .swap)
  | .restore .swap => some ({ g with gen := g.gen + 1, isOpen := true }, .restore .fire)
  | .restore .fire => some ({ g with fired := g.fired + 1 }, .restore .unlock)
  | .restore .unlock => some ({ g with pending := false, held := false }, .restore .done)
  | .restore .done => none

structure St where
  g : G := {}
  threads : List Thread
  deriving DecidableEq, Repr

/-- thread `i` takes one step, if it can -/
def stepAt (s : St) (i : Nat) : Option St :=
  match s.threads.drop i with
  | [] => none
  | t :: post =>
    match t.step s.g with
    | none => none
    | some (g', t') => some { g := g', threads := s.threads.take i ++ t' :: post }

/-- an interleaving = a list of thread indices; a pick that is not enabled is skipped -/
def exec (s : St) : List Nat → St
  | [] => s
  | i :: is => exec ((stepAt s i).getD s) is

def Thread.finished : Thread → Bool
  | .tx [] _ _ _ => true
  | .restore .done => true
  | _ => false

def Thread.enabled (g : G) (t : Thread) : Bool := (t.step g).isSome

def allDone (s : St) : Bool := s.threads.all Thread.finished
def stuck (s : St) : Bool := !allDone s && s.threads.all (fun t => !t.enabled s.g)

/-- a read observed something else than the database the transaction started on -/
def Thread.mixed : Thread → Bool
  | .tx _ _ _ obs => obs.any (fun o => o.1.isNone || o.2 != o.1)
  | .restore _ => false

def anyMixed (s : St) : Bool := s.threads.any Thread.mixed

/-- balanced, reads only under a read hold -/
def wf : Nat → List TxAct → Bool
  | d, [] => d == 0
  | d, .rlock :: p => wf (d + 1) p
  | d + 1, .runlock :: p => wf d p
  | 0, .runlock :: _ => false
  | d, .read :: p => d != 0 && wf d p

/-- as `wf`, and the read lock is never taken while already held -/
def flat : Nat → List TxAct → Bool
  | 0, [] => true
  | 0, .rlock :: p => flat 1 p
  | 1, .read :: p => flat 1 p
  | 1, .runlock :: p => flat 0 p
  | _, _ => false

def mkTx (p : List TxAct) : Thread := .tx p 0 none []
def init (ts : List Thread) : St := { threads := ts }

/-- a thread as it is before it starts -/
def Thread.initial : Thread → Bool
  | .tx p d pin obs => d == 0 && pin.isNone && obs.isEmpty && wf 0 p
  | .restore pc => pc == .persist

def Thread.initialFlat : Thread → Bool
  | .tx p d pin obs => d == 0 && pin.isNone && obs.isEmpty && flat 0 p
  | .restore pc => pc == .persist

/-- Variant used only for a non-vacuity example: a restore that swaps WITHOUT the write lock. -/
def Thread.stepNoLock (g : G) : Thread → Option (G × Thread)
  | .restore .announce => some (g, .restore .acquire)
  | .restore .acquire => some (g, .restore .close)
  | .restore .unlock => some (g, .restore .done)
  | t => t.step g

def stepAtNoLock (s : St) (i : Nat) : Option St :=
  match s.threads.drop i with
  | [] => none
  | t :: post =>
    match t.stepNoLock s.g with
    | none => none
    | some (g', t') => some { g := g', threads := s.threads.take i ++ t' :: post }

def execNoLock (s : St) : List Nat → St
  | [] => s
  | i :: is => execNoLock ((stepAtNoLock s i).getD s) is

end StorageModel.C17.Lock
