/-
  C17 — the lock transition system keeps a counting invariant (read holds = sum of the threads' depths; at most one
  restore in each section of its program, and the flags of `G` say which); no mixed view, progress of flat programs
  and completion under round-robin follow from it.
-/
import StorageModel.C17.Lock
namespace StorageModel.C17.Lock

def sumBy (f : Thread → Nat) (l : List Thread) : Nat := (l.map f).sum

@[simp] theorem sumBy_nil (f : Thread → Nat) : sumBy f [] = 0 := rfl
@[simp] theorem sumBy_cons (f : Thread → Nat) (t : Thread) (l : List Thread) :
    sumBy f (t :: l) = f t + sumBy f l := by simp [sumBy]
@[simp] theorem sumBy_append (f : Thread → Nat) (a b : List Thread) :
    sumBy f (a ++ b) = sumBy f a + sumBy f b := by simp [sumBy]

theorem sumBy_split (f : Thread → Nat) (pre post : List Thread) (t : Thread) :
    sumBy f (pre ++ t :: post) = f t + sumBy f (pre ++ post) := by
  simp only [sumBy_append, sumBy_cons]
  exact Nat.add_left_comm _ _ _

theorem sumBy_eq_zero_iff {f : Thread → Nat} {l : List Thread} : sumBy f l = 0 ↔ ∀ t ∈ l, f t = 0 := by
  induction l with
  | nil => simp
  | cons a t ih => simp [Nat.add_eq_zero_iff, ih]

theorem exists_pos_of_sumBy {f : Thread → Nat} {l : List Thread} (h : 0 < sumBy f l) : ∃ t ∈ l, 0 < f t :=
  Decidable.byContradiction fun hn =>
    Nat.ne_of_gt h (sumBy_eq_zero_iff.mpr fun t ht => Nat.eq_zero_of_not_pos fun hp => hn ⟨t, ht, hp⟩)

theorem sumBy_le {f g : Thread → Nat} (hfg : ∀ t, f t ≤ g t) (l : List Thread) : sumBy f l ≤ sumBy g l := by
  induction l with
  | nil => exact Nat.le_refl _
  | cons a t ih => simp only [sumBy_cons]; exact Nat.add_le_add (hfg a) ih

theorem mem_replace {pre post : List Thread} {t t' u : Thread} (h : u ∈ pre ++ t' :: post) :
    u = t' ∨ u ∈ pre ++ t :: post := by
  simp only [List.mem_append, List.mem_cons] at h ⊢
  rcases h with h | h | h
  · exact .inr (.inl h)
  · exact .inl h
  · exact .inr (.inr (.inr h))

def depthOf : Thread → Nat
  | .tx _ d _ _ => d
  | .restore _ => 0

/-- `inPending`, `inHeld`, `inClosed`: 1 at the program counters at which a restore has raised `pending`, has raised `held`,
    has closed the handle, and not yet undone it — three nested sections of its program, one flag of `G` each -/
def inPending : Thread → Nat
  | .restore .acquire => 1
  | .restore .close => 1
  | .restore .swap => 1
  | .restore .fire => 1
  | .restore .unlock => 1
  | _ => 0

def inHeld : Thread → Nat
  | .restore .close => 1
  | .restore .swap => 1
  | .restore .fire => 1
  | .restore .unlock => 1
  | _ => 0

def inClosed : Thread → Nat
  | .restore .swap => 1
  | _ => 0

theorem inClosed_le_inHeld (t : Thread) : inClosed t ≤ inHeld t := by
  cases t with
  | tx => exact Nat.le_refl 0
  | restore pc => cases pc <;> decide

theorem inHeld_le_inPending (t : Thread) : inHeld t ≤ inPending t := by
  cases t with
  | tx => exact Nat.le_refl 0
  | restore pc => cases pc <;> decide

def TOk (g : G) : Thread → Prop
  | .tx p d pin obs =>
    wf d p = true ∧ (d = 0 → pin = none) ∧ (0 < d → pin = some g.gen ∧ g.isOpen = true) ∧
      ∀ o ∈ obs, o.1.isSome = true ∧ o.2 = o.1
  | .restore _ => True

structure Inv (s : St) : Prop where
  readers : s.g.readers = sumBy depthOf s.threads
  pend : sumBy inPending s.threads = if s.g.pending then 1 else 0
  held : sumBy inHeld s.threads = if s.g.held then 1 else 0
  closed : sumBy inClosed s.threads = if s.g.isOpen then 0 else 1
  excl : s.g.held = true → s.g.readers = 0
  thr : ∀ t ∈ s.threads, TOk s.g t

theorem TOk_frame {g g' : G} {t : Thread} (h : depthOf t = 0 ∨ (g'.gen = g.gen ∧ g'.isOpen = g.isOpen))
    (hok : TOk g t) : TOk g' t := by
  cases t with
  | restore pc => trivial
  | tx p d pin obs =>
    obtain ⟨hwf, h0, hpos, hobs⟩ := hok
    refine ⟨hwf, h0, fun hd => ?_, hobs⟩
    rcases h with h | ⟨hg, ho⟩
    · exact absurd h (Nat.ne_of_gt hd)
    · rw [hg, ho]; exact hpos hd

/-- the ten transitions of `Thread.step`, their guards as premisses -/
inductive Step (g : G) : Thread → G → Thread → Prop
  | rlock {p d pin obs} : g.pending = false → Step g (.tx (.rlock :: p) d pin obs)
      { g with readers := g.readers + 1 } (.tx p (d + 1) (if d = 0 then some g.gen else pin) obs)
  | runlock {p d pin obs} : Step g (.tx (.runlock :: p) (d + 1) pin obs)
      { g with readers := g.readers - 1 } (.tx p d (if d = 0 then none else pin) obs)
  | read {p d pin obs} : Step g (.tx (.read :: p) d pin obs) g
      (.tx p d pin ((pin, if g.isOpen then some g.gen else none) :: obs))
  | persist : Step g (.restore .persist) g (.restore .announce)
  | announce : g.pending = false → Step g (.restore .announce) { g with pending := true } (.restore .acquire)
  | acquire : g.readers = 0 → Step g (.restore .acquire) { g with held := true } (.restore .close)
  | close : Step g (.restore .close) { g with isOpen := false } (.restore .swap)
  | swap : Step g (.restore .swap) { g with gen := g.gen + 1, isOpen := true } (.restore .fire)
  | fire : Step g (.restore .fire) { g with fired := g.fired + 1 } (.restore .unlock)
  | unlock : Step g (.restore .unlock) { g with pending := false, held := false } (.restore .done)

theorem Step_of_step {g g' : G} {t t' : Thread} (h : t.step g = some (g', t')) : Step g t g' t' := by
  cases t with
  | restore pc =>
    cases pc with
    | persist | close | swap | fire | unlock => cases h; constructor
    | announce => simp only [Thread.step] at h; split at h <;> cases h; exact .announce ((Bool.not_eq_true _).mp ‹_›)
    | acquire => simp only [Thread.step] at h; split at h <;> cases h; exact .acquire ‹_›
    | done => cases h
  | tx p d pin obs =>
    match p, d with
    | [], _ | .runlock :: _, 0 => cases h
    | .rlock :: p, d => simp only [Thread.step] at h; split at h <;> cases h; exact .rlock ((Bool.not_eq_true _).mp ‹_›)
    | .runlock :: p, d + 1 | .read :: p, d => cases h; constructor

theorem stepAt_some {s s' : St} {i : Nat} (h : stepAt s i = some s') :
    ∃ pre t post g' t', s.threads = pre ++ t :: post ∧ Step s.g t g' t' ∧
      s' = { g := g', threads := pre ++ t' :: post } := by
  unfold stepAt at h
  split at h
  · cases h
  · next t post hd =>
    split at h
    · cases h
    · next g' t' hs =>
      refine ⟨s.threads.take i, t, post, g', t', ?_, Step_of_step hs, ?_⟩
      · rw [← hd]; exact (List.take_append_drop i s.threads).symm
      · cases h; rfl

theorem Inv_init {ts : List Thread} (h : ∀ t ∈ ts, t.initial = true) : Inv (init ts) := by
  have h0 : ∀ t ∈ ts, depthOf t = 0 ∧ inPending t = 0 ∧ TOk {} t := fun t ht => by
    have := h t ht
    cases t with
    | tx p d pin obs =>
      simp [Thread.initial] at this
      obtain ⟨⟨⟨rfl, rfl⟩, rfl⟩, hwf⟩ := this
      exact ⟨rfl, rfl, hwf, fun _ => rfl, nofun, nofun⟩
    | restore pc => simp [Thread.initial] at this; subst this; exact ⟨rfl, rfl, trivial⟩
  have hh : ∀ t ∈ ts, inHeld t = 0 := fun t ht => Nat.le_zero.mp ((h0 t ht).2.1 ▸ inHeld_le_inPending t)
  have hc : ∀ t ∈ ts, inClosed t = 0 := fun t ht => Nat.le_zero.mp (hh t ht ▸ inClosed_le_inHeld t)
  exact ⟨(sumBy_eq_zero_iff.mpr fun t ht => (h0 t ht).1).symm, sumBy_eq_zero_iff.mpr fun t ht => (h0 t ht).2.1,
    sumBy_eq_zero_iff.mpr hh, sumBy_eq_zero_iff.mpr hc, nofun, fun t ht => (h0 t ht).2.2⟩

/-- a restore inside a section is the only one there, and the section's flag is up -/
theorem flag_up_of_member {b : Bool} {n : Nat} (h : 1 + n = if b = true then 1 else 0) : b = true ∧ n = 0 := by
  cases b <;> simp at h ⊢
  omega

theorem empty_section_iff {b : Bool} {n : Nat} (h : 0 + n = if b = true then 1 else 0) : n = 0 ↔ b = false := by
  cases b <;> simp at h ⊢ <;> omega

theorem isOpen_of_empty_section {b : Bool} {n : Nat} (h : 0 + n = if b = true then 0 else 1) (hn : n = 0) : b = true := by
  cases b
  · subst hn; cases h
  · rfl

/-- The invariant seen from one thread `t`; the other threads enter through their sums `d p h c` only. -/
structure Local (g : G) (t : Thread) (d p h c : Nat) : Prop where
  readers : g.readers = depthOf t + d
  pend : inPending t + p = if g.pending then 1 else 0
  held : inHeld t + h = if g.held then 1 else 0
  closed : inClosed t + c = if g.isOpen then 0 else 1
  excl : g.held = true → g.readers = 0
  ok : TOk g t

/-- The second conjunct is what lets the other threads' own invariants survive: the step leaves generation and
    handle alone, or happens while nobody holds a read lock. -/
theorem step_local {g g' : G} {t t' : Thread} {d p h c : Nat} (hs : Step g t g' t')
    (hl : Local g t d p h c) (hch : c ≤ h) (hhp : h ≤ p) :
    Local g' t' d p h c ∧ (g.readers = 0 ∨ (g'.gen = g.gen ∧ g'.isOpen = g.isOpen)) := by
  obtain ⟨hr, hp, hh, hc, hex, hok⟩ := hl
  cases hs with
  | @rlock _ dep _ _ hnp =>
    -- RLock got past `pending`: no restore is between announce and Unlock, the handle is open
    obtain ⟨hwf, hpin0, hpin, hobs⟩ := hok
    have hp0 : p = 0 := (empty_section_iff hp).mpr hnp
    have hh0 : h = 0 := Nat.le_zero.mp (hp0 ▸ hhp)
    have hheld := (empty_section_iff hh).mp hh0
    have hopen := isOpen_of_empty_section hc (Nat.le_zero.mp (hh0 ▸ hch))
    refine ⟨⟨?_, hp, hh, hc, fun hg => absurd (hheld ▸ hg) Bool.false_ne_true, hwf, nofun, fun _ => ?_, hobs⟩,
      .inr ⟨rfl, rfl⟩⟩
    · show g.readers + 1 = dep + 1 + d
      rw [hr]; exact Nat.add_right_comm dep d 1
    · cases dep with
      | zero => exact ⟨rfl, hopen⟩
      | succ n => exact hpin (Nat.succ_pos n)
  | @runlock _ e =>
    obtain ⟨hwf, hpin0, hpin, hobs⟩ := hok
    refine ⟨⟨?_, hp, hh, hc, fun hg => ?_, hwf, ?_, fun he => ?_, hobs⟩, .inr ⟨rfl, rfl⟩⟩
    · show g.readers - 1 = e + d
      rw [hr]; exact congrArg (· - 1) (Nat.add_right_comm e 1 d)
    · show g.readers - 1 = 0
      rw [hex hg]
    · rintro rfl; rfl
    · cases e with
      | zero => cases he
      | succ n => exact hpin (Nat.succ_pos _)
  | read =>
    obtain ⟨hwf, hpin0, hpin, hobs⟩ := hok
    simp only [wf, Bool.and_eq_true, bne_iff_ne, ne_eq] at hwf
    obtain ⟨hg, ho⟩ := hpin (Nat.pos_of_ne_zero hwf.1)
    refine ⟨⟨hr, hp, hh, hc, hex, hwf.2, hpin0, hpin, fun o ho' => ?_⟩, .inr ⟨rfl, rfl⟩⟩
    rcases List.mem_cons.mp ho' with rfl | ho'
    · rw [hg, ho]; exact ⟨rfl, rfl⟩
    · exact hobs o ho'
  | persist | fire => exact ⟨⟨hr, hp, hh, hc, hex, trivial⟩, .inr ⟨rfl, rfl⟩⟩
  | announce hnp =>
    have hp0 : p = 0 := (empty_section_iff hp).mpr hnp
    exact ⟨⟨hr, congrArg (1 + ·) hp0, hh, hc, hex, trivial⟩, .inr ⟨rfl, rfl⟩⟩
  | acquire hr0 =>
    obtain ⟨_, hp0⟩ := flag_up_of_member hp
    exact ⟨⟨hr, hp, congrArg (1 + ·) (Nat.le_zero.mp (hp0 ▸ hhp)), hc, fun _ => hr0, trivial⟩, .inr ⟨rfl, rfl⟩⟩
  | close =>
    obtain ⟨hheld, hh0⟩ := flag_up_of_member hh
    exact ⟨⟨hr, hp, hh, congrArg (1 + ·) (Nat.le_zero.mp (hh0 ▸ hch)), hex, trivial⟩, .inl (hex hheld)⟩
  | swap =>
    obtain ⟨hheld, hh0⟩ := flag_up_of_member hh
    exact ⟨⟨hr, hp, hh, congrArg (0 + ·) (Nat.le_zero.mp (hh0 ▸ hch)), hex, trivial⟩, .inl (hex hheld)⟩
  | unlock =>
    obtain ⟨_, hp0⟩ := flag_up_of_member hp
    obtain ⟨_, hh0⟩ := flag_up_of_member hh
    exact ⟨⟨hr, congrArg (0 + ·) hp0, congrArg (0 + ·) hh0, hc, nofun, trivial⟩, .inr ⟨rfl, rfl⟩⟩

theorem Inv_step {s s' : St} {i : Nat} (hi : Inv s) (h : stepAt s i = some s') : Inv s' := by
  obtain ⟨pre, t, post, g', t', hthr, hstep, rfl⟩ := stepAt_some h
  obtain ⟨g, threads⟩ := s
  simp only at hthr hstep
  subst hthr
  obtain ⟨hr, hp, hh, hc, hex, hth⟩ := hi
  have hr0 := hr
  simp only [sumBy_split] at hr hp hh hc
  obtain ⟨⟨hr', hp', hh', hc', hex', hme'⟩, hfr⟩ := step_local hstep ⟨hr, hp, hh, hc, hex, hth t (by simp)⟩
    (sumBy_le inClosed_le_inHeld _) (sumBy_le inHeld_le_inPending _)
  refine ⟨?_, ?_, ?_, ?_, hex', fun u hu => ?_⟩
  · rw [sumBy_split]; exact hr'
  · rw [sumBy_split]; exact hp'
  · rw [sumBy_split]; exact hh'
  · rw [sumBy_split]; exact hc'
  · rcases mem_replace (t := t) hu with rfl | hu
    · exact hme'
    · exact TOk_frame (hfr.imp_left fun h0 => sumBy_eq_zero_iff.mp (hr0.symm.trans h0) u hu) (hth u hu)

theorem exec_preserves {P : St → Prop} (hstep : ∀ {s s' i}, P s → stepAt s i = some s' → P s') {s : St} (h : P s)
    (sched : List Nat) : P (exec s sched) := by
  induction sched generalizing s with
  | nil => exact h
  | cons i is ih =>
    simp only [exec]
    cases hs : stepAt s i with
    | none => exact ih h
    | some s' => exact ih (hstep h hs)

theorem Inv_exec {s : St} (hi : Inv s) (sched : List Nat) : Inv (exec s sched) := exec_preserves Inv_step hi sched

theorem not_mixed_of_Inv {s : St} (hi : Inv s) : anyMixed s = false := by
  simp only [anyMixed, List.any_eq_false]
  intro t ht
  have := hi.thr t ht
  cases t with
  | tx p d pin obs =>
    simp only [Thread.mixed, Bool.not_eq_true, List.any_eq_false, Bool.or_eq_true, not_or]
    intro o ho
    obtain ⟨h1, h2⟩ := this.2.2.2 o ho
    rw [h2]
    cases h : o.1 with
    | none => rw [h] at h1; cases h1
    | some v => simp
  | restore pc => simp [Thread.mixed]

theorem flat_nil {d : Nat} : flat d [] = true ↔ d = 0 := by
  rcases d with _ | d <;> simp [flat]

theorem flat_rlock {d : Nat} {p : List TxAct} : flat d (.rlock :: p) = true ↔ d = 0 ∧ flat 1 p = true := by
  rcases d with _ | _ | d <;> simp [flat]

theorem flat_runlock {d : Nat} {p : List TxAct} : flat d (.runlock :: p) = true ↔ d = 1 ∧ flat 0 p = true := by
  rcases d with _ | _ | d <;> simp [flat]

theorem flat_read {d : Nat} {p : List TxAct} : flat d (.read :: p) = true ↔ d = 1 ∧ flat 1 p = true := by
  rcases d with _ | _ | d <;> simp [flat]

theorem flat_wf : ∀ (p : List TxAct) (d : Nat), flat d p = true → wf d p = true
  | [], d, h => by rw [flat_nil.mp h]; rfl
  | .rlock :: p, d, h => by obtain ⟨rfl, h⟩ := flat_rlock.mp h; exact flat_wf p 1 h
  | .runlock :: p, d, h => by obtain ⟨rfl, h⟩ := flat_runlock.mp h; exact flat_wf p 0 h
  | .read :: p, d, h => by
    obtain ⟨rfl, h⟩ := flat_read.mp h
    show (1 != 0 && wf 1 p) = true
    rw [flat_wf p 1 h]; rfl

def FlatOk : Thread → Prop
  | .tx p d _ _ => flat d p = true
  | .restore _ => True

theorem of_initialFlat {t : Thread} (h : t.initialFlat = true) : t.initial = true ∧ FlatOk t := by
  cases t with
  | tx p d pin obs =>
    simp only [Thread.initialFlat, Thread.initial, Bool.and_eq_true, beq_iff_eq] at h ⊢
    obtain ⟨⟨⟨rfl, hp⟩, ho⟩, hf⟩ := h
    exact ⟨⟨⟨⟨rfl, hp⟩, ho⟩, flat_wf p 0 hf⟩, hf⟩
  | restore pc => exact ⟨h, trivial⟩

theorem FlatOk_step {g g' : G} {t t' : Thread} (h : FlatOk t) (hs : Step g t g' t') : FlatOk t' := by
  cases hs with
  | rlock => obtain ⟨rfl, h⟩ := flat_rlock.mp h; exact h
  | runlock => obtain ⟨he, h⟩ := flat_runlock.mp h; cases he; exact h
  | read => obtain ⟨rfl, h⟩ := flat_read.mp h; exact h
  | _ => trivial

def AllFlat (s : St) : Prop := ∀ t ∈ s.threads, FlatOk t

theorem Inv_init_flat {ts : List Thread} (h : ∀ t ∈ ts, t.initialFlat = true) : Inv (init ts) ∧ AllFlat (init ts) :=
  ⟨Inv_init fun t ht => (of_initialFlat (h t ht)).1, fun t ht => (of_initialFlat (h t ht)).2⟩

theorem AllFlat_step {s s' : St} {i : Nat} (hf : AllFlat s) (h : stepAt s i = some s') : AllFlat s' := by
  obtain ⟨pre, t, post, g', t', hthr, hstep, rfl⟩ := stepAt_some h
  intro u hu
  rcases mem_replace (t := t) hu with rfl | hu
  · exact FlatOk_step (hf t (by rw [hthr]; simp)) hstep
  · exact hf u (hthr ▸ hu)

theorem AllFlat_exec {s : St} (hf : AllFlat s) (sched : List Nat) : AllFlat (exec s sched) :=
  exec_preserves AllFlat_step hf sched

/-- under a read hold a flat program continues with `read` or `runlock`, which never wait; only its `rlock`, taken at
    depth 0, can -/
theorem flat_enabled {g : G} {p d pin obs} (hf : flat d p = true) (h0 : d = 0 → p ≠ [] ∧ g.pending = false) :
    (Thread.tx p d pin obs).enabled g = true := by
  match p with
  | [] => exact absurd rfl (h0 (flat_nil.mp hf)).1
  | .rlock :: p => simp [Thread.enabled, Thread.step, (h0 (flat_rlock.mp hf).1).2]
  | .runlock :: p => obtain ⟨rfl, _⟩ := flat_runlock.mp hf; rfl
  | .read :: p => rfl

theorem restore_enabled {g : G} {pc : RPc} (ha : pc = .announce → g.pending = false)
    (hq : pc = .acquire → g.readers = 0) (hd : pc ≠ .done) : (Thread.restore pc).enabled g = true := by
  cases pc with
  | persist | close | swap | fire | unlock => rfl
  | announce => simp [Thread.enabled, Thread.step, ha rfl]
  | acquire => simp [Thread.enabled, Thread.step, hq rfl]
  | done => exact absurd rfl hd

theorem exists_enabled_of_Inv {s : St} (hi : Inv s) (hf : AllFlat s) (hnd : allDone s = false) :
    ∃ t ∈ s.threads, t.enabled s.g = true := by
  obtain ⟨t0, ht0, hnf⟩ := List.all_eq_false.mp hnd
  by_cases hrd : 0 < sumBy depthOf s.threads
  · -- somebody holds a read lock: it can read or unlock
    obtain ⟨t, ht, hpos⟩ := exists_pos_of_sumBy hrd
    refine ⟨t, ht, ?_⟩
    cases t with
    | tx p d pin obs => exact flat_enabled (hf _ ht) fun h0 => absurd h0 (Nat.ne_of_gt hpos)
    | restore pc => cases hpos
  · have hr0 : s.g.readers = 0 := hi.readers.trans (Nat.eq_zero_of_not_pos hrd)
    by_cases hpend : s.g.pending = true
    · -- a restore is between announce and Unlock; with no readers it need not wait
      have hp := hi.pend
      rw [hpend] at hp
      obtain ⟨t, ht, hpos⟩ := exists_pos_of_sumBy (f := inPending) (l := s.threads) (by rw [hp]; decide)
      refine ⟨t, ht, ?_⟩
      cases t with
      | tx => cases hpos
      | restore pc => exact restore_enabled (by rintro rfl; cases hpos) (fun _ => hr0) (by rintro rfl; cases hpos)
    · -- no writer around: the unfinished thread t0 can move
      rw [Bool.not_eq_true] at hpend
      refine ⟨t0, ht0, ?_⟩
      cases t0 with
      | restore pc => exact restore_enabled (fun _ => hpend) (fun _ => hr0) (by rintro rfl; exact hnf rfl)
      | tx p d pin obs => exact flat_enabled (hf _ ht0) fun _ => ⟨fun hp => hnf (hp ▸ rfl), hpend⟩

theorem not_stuck_of_Inv {s : St} (hi : Inv s) (hf : AllFlat s) : stuck s = false := by
  simp only [stuck, Bool.and_eq_false_iff, Bool.not_eq_false']
  cases hnd : allDone s with
  | true => exact .inl rfl
  | false =>
    obtain ⟨t, ht, he⟩ := exists_enabled_of_Inv hi hf hnd
    exact .inr (List.all_eq_false.mpr ⟨t, ht, by simp [he]⟩)

def RPc.remaining : RPc → Nat
  | .persist => 7 | .announce => 6 | .acquire => 5 | .close => 4 | .swap => 3 | .fire => 2 | .unlock => 1 | .done => 0

def Thread.remaining : Thread → Nat
  | .tx p _ _ _ => p.length
  | .restore pc => pc.remaining

def work (s : St) : Nat := sumBy Thread.remaining s.threads

theorem step_remaining {g g' : G} {t t' : Thread} (h : Step g t g' t') : t'.remaining + 1 = t.remaining := by
  cases h <;> rfl

theorem stepAt_work {s s' : St} {i : Nat} (h : stepAt s i = some s') : work s' + 1 = work s := by
  obtain ⟨pre, t, post, g', t', hthr, hstep, rfl⟩ := stepAt_some h
  simp only [work, hthr, sumBy_split, ← step_remaining hstep]
  exact Nat.add_right_comm _ _ _

theorem stepAt_length {s s' : St} {i : Nat} (h : stepAt s i = some s') : s'.threads.length = s.threads.length := by
  obtain ⟨pre, t, post, g', t', hthr, _, rfl⟩ := stepAt_some h
  simp [hthr]

theorem exec_length (s : St) (l : List Nat) : (exec s l).threads.length = s.threads.length :=
  exec_preserves (P := fun s' => s'.threads.length = s.threads.length) (fun h hs => (stepAt_length hs).trans h) rfl l

theorem exec_work_le (s : St) (l : List Nat) : work (exec s l) ≤ work s :=
  exec_preserves (P := fun s' => work s' ≤ work s)
    (fun h hs => by have := stepAt_work hs; omega) (Nat.le_refl _) l

theorem exec_progress (s : St) (l : List Nat) : (∀ i ∈ l, stepAt s i = none) ∨ work (exec s l) < work s := by
  induction l with
  | nil => exact .inl nofun
  | cons i is ih =>
    simp only [exec]
    cases h : stepAt s i with
    | none => exact ih.imp_left fun hall j hj => by rcases List.mem_cons.mp hj with rfl | hj; exact h; exact hall j hj
    | some s' =>
      right
      show work (exec s' is) < work s
      have := exec_work_le s' is; have := stepAt_work h; omega

theorem stepAt_of_enabled {s : St} {t : Thread} (ht : t ∈ s.threads) (he : t.enabled s.g = true) :
    ∃ i, i < s.threads.length ∧ (stepAt s i).isSome = true := by
  obtain ⟨i, hi, hget⟩ := List.mem_iff_getElem.mp ht
  refine ⟨i, hi, ?_⟩
  have hd : s.threads.drop i = s.threads[i] :: s.threads.drop (i + 1) := List.drop_eq_getElem_cons hi
  simp only [stepAt, hd, hget]
  simp only [Thread.enabled] at he
  cases hs : t.step s.g with
  | none => rw [hs] at he; cases he
  | some r => rfl

theorem finished_iff_remaining {t : Thread} : t.finished = true ↔ t.remaining = 0 := by
  cases t with
  | tx p d pin obs => cases p <;> simp [Thread.finished, Thread.remaining]
  | restore pc => cases pc <;> simp [Thread.finished, Thread.remaining, RPc.remaining]

theorem allDone_iff_work_zero {s : St} : allDone s = true ↔ work s = 0 := by
  simp only [allDone, List.all_eq_true, work, sumBy_eq_zero_iff, finished_iff_remaining]

theorem round_progress {s : St} (hi : Inv s) (hf : AllFlat s) (hnd : allDone s = false) :
    work (exec s (List.range s.threads.length)) < work s := by
  obtain ⟨t, ht, he⟩ := exists_enabled_of_Inv hi hf hnd
  obtain ⟨i, hlt, hsome⟩ := stepAt_of_enabled ht he
  rcases exec_progress s (List.range s.threads.length) with hall | hlt'
  · rw [hall i (List.mem_range.mpr hlt)] at hsome; cases hsome
  · exact hlt'

/-- `k` round-robin passes over `n` threads -/
def roundRobin (n : Nat) : Nat → List Nat
  | 0 => []
  | k + 1 => List.range n ++ roundRobin n k

theorem exec_append (s : St) (a b : List Nat) : exec s (a ++ b) = exec (exec s a) b := by
  induction a generalizing s with
  | nil => rfl
  | cons i is ih => simp only [List.cons_append, exec]; exact ih _

theorem rounds_complete {s : St} (hi : Inv s) (hf : AllFlat s) (k : Nat) (hk : work s ≤ k) :
    allDone (exec s (roundRobin s.threads.length k)) = true := by
  induction k generalizing s with
  | zero => exact allDone_iff_work_zero.mpr (Nat.le_zero.mp hk)
  | succ k ih =>
    simp only [roundRobin, exec_append]
    have hw : work (exec s (List.range s.threads.length)) ≤ k := by
      cases hnd : allDone s with
      | true =>
        have := exec_work_le s (List.range s.threads.length)
        rw [allDone_iff_work_zero.mp hnd] at this
        exact Nat.le_trans this (Nat.zero_le k)
      | false => exact Nat.le_of_lt_succ (Nat.lt_of_lt_of_le (round_progress hi hf hnd) hk)
    have r := ih (Inv_exec hi _) (AllFlat_exec hf _) hw
    rwa [exec_length] at r

theorem forall_population {P : Thread → Prop} {f : String → Option (List TxAct)} {names : List String}
    (hp : ∀ n ∈ names, ∀ p, f n = some p → P (mkTx p)) (hr : P (.restore .persist)) (nRestores : Nat) :
    ∀ t ∈ names.filterMap (fun n => (f n).map mkTx) ++ List.replicate nRestores (.restore .persist), P t := by
  intro t ht
  rcases List.mem_append.mp ht with ht | ht
  · obtain ⟨n, hn, hsome⟩ := List.mem_filterMap.mp ht
    obtain ⟨p, hfp, rfl⟩ := Option.map_eq_some_iff.mp hsome
    exact hp n hn p hfp
  · rw [(List.mem_replicate.mp ht).2]; exact hr

end StorageModel.C17.Lock
