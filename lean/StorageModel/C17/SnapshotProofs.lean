/-
  C17 — the sequential model: a slot left alone is restored as it was; a settled timeline id survives every history
  without a restore or forced reset; every trace of the model passes the oracle (simulation `Rel` between the
  oracle's bookkeeping and the system).
-/
import StorageModel.C17.Snapshot
namespace StorageModel.C17

theorem decodeBody_encodeDb (d : Db) : decodeBody (encodeDb d) = some d := by
  obtain ⟨c, m⟩ := d
  induction c with
  | nil => simp [encodeDb, decodeBody]
  | cons kv r ih =>
    simp only [encodeDb, List.map_cons, List.cons_append] at ih ⊢
    simp only [decodeBody, ih]
    simp

theorem decodeDb_encodeDb (d : Db) : decodeDb (encodeDb d) = some d := by
  rw [← decodeBody_encodeDb d]
  cases he : encodeDb d with
  | nil => simp [encodeDb] at he
  | cons a r => rfl

theorem Delivers.reopen {rs : List (ReadResult Piece)} {f : Db} (h : Delivers rs (encodeDb f)) :
    decodeDb (copyAll rs) = some f := by
  rw [h.copyAll_eq, decodeDb_encodeDb]

@[simp] theorem restoreVia_eq (f : Db) (rd : Reader) : restoreVia f rd = some f :=
  (script_delivers rd (encodeDb f)).reopen

def Op.keeps (k : Nat) : Op → Bool
  | .snap j _ => j != k
  | .snapUpd j _ => j != k
  | .stream j => j != k
  | _ => true

def KeepsSlot (k : Nat) (h : List Op) : Prop := ∀ o ∈ h, o.keeps k = true

theorem getTimeline_keeps_files_and_counters (m : Mode) (ok : Bool) (s : Sys) :
    (getTimeline m ok s).1.files = s.files ∧ (getTimeline m ok s).1.nextId = s.nextId ∧
    (getTimeline m ok s).1.listeners = s.listeners ∧ (getTimeline m ok s).1.fired = s.fired := by
  unfold getTimeline
  by_cases hc : (s.db.mt.rt.getD false || m.force s.db.mt.tl) = true <;> cases ok <;> simp [hc]

theorem step_keeps_file (s : Sys) (o : Op) (k : Nat) (h : o.keeps k = true) :
    lookup k (step s o).1.files = lookup k s.files := by
  cases o with
  | tx ws c => cases c <;> rfl
  | snap j _ | snapUpd j _ | stream j =>
    exact lookup_store_other _ _ _ _ fun e => by simp [Op.keeps, e] at h
  | snapFail | gsid | listen | dump => rfl
  | restore j b => simp only [step]; split <;> simp
  | gtl m ok => exact congrArg (lookup k) (getTimeline_keeps_files_and_counters m ok s).1

theorem run_keeps_file (s : Sys) (h : List Op) (k : Nat) (hk : KeepsSlot k h) :
    lookup k (run s h).1.files = lookup k s.files := by
  induction h generalizing s with
  | nil => rfl
  | cons o os ih =>
    simp only [run]
    rw [ih (step s o).1 (fun x hx => hk x (by simp [hx]))]
    exact step_keeps_file s o k (hk o (by simp))

theorem run_restore_kept (s0 : Sys) (h1 h2 : List Op) (o : Op) (k : Nat) (rd : Reader) (f : Db)
    (hf : lookup k (step (run s0 h1).1 o).1.files = some f) (hk : KeepsSlot k h2) :
    (run s0 (h1 ++ [o] ++ h2 ++ [.restore k rd])).1.db = f := by
  simp only [run_append, run]
  generalize (step (run s0 h1).1 o).1 = s at hf ⊢
  simp only [step, run_keeps_file s h2 k hk, hf, restoreVia_eq]

/-- operations after which a settled timeline id is still the stored one: everything except a
    restore and a forced reset -/
def Op.quiet : Op → Bool
  | .restore _ _ => false
  | .gtl .forceReset _ => false
  | _ => true

def Settled (t : Nat) (s : Sys) : Prop := s.db.mt.rt.getD false = false ∧ s.db.mt.tl = some t

/-- the left side is the test under which `getTimeline` calls `idF` and replaces the stored id -/
theorem Settled.regenerates_iff {s : Sys} {t : Nat} (hs : Settled t s) (m : Mode) :
    (s.db.mt.rt.getD false || m.force s.db.mt.tl) = true ↔ m = .forceReset := by
  rw [hs.1, hs.2]
  cases m <;> simp [Mode.force]

theorem getTimeline_settled {s : Sys} {t : Nat} (hs : Settled t s) {m : Mode} (hm : m ≠ .forceReset) (ok : Bool) :
    getTimeline m ok s = ({ s with db := { s.db with mt := { s.db.mt with present := true } } }, .tl (some t) 0) := by
  simp only [getTimeline]
  rw [if_neg (mt (hs.regenerates_iff m).mp hm), hs.2]

theorem getTimeline_fresh (s : Sys) (m : Mode) (hrt : s.db.mt.rt = some true) :
    getTimeline m true s =
      ({ s with idf := s.idf + 1,
                db := { s.db with mt := { s.db.mt with present := true, tl := some (s.idf + 1), rt := some false } } },
       .tl (some (s.idf + 1)) 1) := by
  simp [getTimeline, hrt]

theorem marked_reports {s : Sys} {id : Nat} {d : Db} (h : s.db = mark id d) :
    (step s .gsid).2 = .sid (some id) ∧ ∀ m, (step s (.gtl m true)).2 = .tl (some (s.idf + 1)) 1 :=
  ⟨by simp [step, h, mark], fun m => congrArg Prod.snd (getTimeline_fresh s m (by rw [h]; rfl))⟩

theorem step_quiet_settled (s : Sys) (o : Op) (t : Nat) (hq : o.quiet = true) (hs : Settled t s) :
    Settled t (step s o).1 := by
  cases o with
  | tx ws c => cases c <;> exact hs
  | snap | snapUpd | snapFail | stream | gsid | listen | dump => exact hs
  | restore j b => cases hq
  | gtl m ok =>
    have hm : m ≠ .forceReset := by rintro rfl; cases hq
    simp only [step, getTimeline_settled hs hm]
    exact hs

theorem run_quiet_settled (s : Sys) (h : List Op) (t : Nat) (hq : ∀ o ∈ h, o.quiet = true) (hs : Settled t s) :
    Settled t (run s h).1 := by
  induction h generalizing s with
  | nil => exact hs
  | cons o os ih =>
    simp only [run]
    exact ih _ (fun x hx => hq x (by simp [hx])) (step_quiet_settled s o t (hq o (by simp)) hs)

def toFile : Option Nat × Db → Db
  | (some id, d) => mark id d
  | (none, d) => d

theorem expectedAfterRestore_eq (sv : Option Nat × Db) : expectedAfterRestore sv = toFile sv := by
  obtain ⟨i, d⟩ := sv
  cases i <;> rfl

theorem lookupS_storeS (k j : Nat) (v : Option Nat × Db) (l : List (Nat × (Option Nat × Db))) :
    lookupS j (storeS k v l) = if j = k then some v else lookupS j l := by
  induction l with
  | nil => by_cases h : j = k <;> simp [storeS, lookupS, h]
  | cons hd t ih =>
    obtain ⟨k', d'⟩ := hd
    by_cases hk : k = k'
    · subst hk; by_cases h : j = k <;> simp [storeS, lookupS, h]
    · by_cases hj : j = k'
      · have : k' ≠ k := fun e => hk e.symm
        subst hj
        simp [storeS, lookupS, hk, this]
      · simp [storeS, lookupS, hk, hj, ih]

def TlRel (x : TlExpect) (s : Sys) : Prop :=
  match x with
  | .free => True
  | .fresh => s.db.mt.rt = some true
  | .settled t => Settled t s

structure Rel (st : SpecSt) (s : Sys) : Prop where
  files : ∀ k, lookup k s.files = (lookupS k st.saved).map toFile
  listeners : st.listeners = s.listeners
  fired : st.fired = s.fired
  idf : st.idf = s.idf
  sid : ∀ id, st.sidExpect = some id → s.db.mt.present = true ∧ s.db.mt.sid = some id
  tlx : TlRel st.tlx s

theorem Rel_init : Rel {} {} := ⟨fun _ => rfl, rfl, rfl, rfl, fun _ h => by simp at h, trivial⟩

theorem rel_step_gtl (st : SpecSt) (s : Sys) (m : Mode) (ok : Bool) (hr : Rel st s) :
    ∃ st', specStep st (.gtl m ok) (step s (.gtl m ok)).2 = some st' ∧ Rel st' (step s (.gtl m ok)).1 := by
  obtain ⟨saved, ls, fr, idf, sx, tlx⟩ := st
  obtain ⟨hfiles, hl, hf, hidf, hsid, htl⟩ := hr
  simp only at hl hf hidf hsid htl
  subst hidf
  simp only [step, getTimeline]
  by_cases hc : (s.db.mt.rt.getD false || m.force s.db.mt.tl) = true
  · simp only [hc, if_true]
    cases ok with
    | true =>
      simp only [if_true]
      cases tlx with
      | free => exact ⟨_, rfl, hfiles, hl, hf, rfl, fun id hid => ⟨rfl, (hsid id hid).2⟩, trivial⟩
      | fresh =>
        exact ⟨⟨saved, ls, fr, s.idf + 1, sx, .settled (s.idf + 1)⟩, by simp [specStep],
          hfiles, hl, hf, rfl, fun id hid => ⟨rfl, (hsid id hid).2⟩, rfl, rfl⟩
      | settled t =>
        cases (htl.regenerates_iff m).mp hc
        exact ⟨_, rfl, hfiles, hl, hf, rfl, fun id hid => ⟨rfl, (hsid id hid).2⟩, trivial⟩
    | false =>
      simp only [Bool.false_eq_true, if_false]
      cases tlx with
      | free => exact ⟨_, rfl, hfiles, hl, hf, rfl, hsid, trivial⟩
      | fresh => exact ⟨_, rfl, hfiles, hl, hf, rfl, hsid, htl⟩
      | settled t =>
        cases (htl.regenerates_iff m).mp hc
        exact ⟨_, rfl, hfiles, hl, hf, rfl, hsid, trivial⟩
  · simp only [hc]
    cases tlx with
    | free => exact ⟨_, rfl, hfiles, hl, hf, rfl, fun id hid => ⟨rfl, (hsid id hid).2⟩, trivial⟩
    | fresh => exact absurd (by rw [show s.db.mt.rt = some true from htl]; rfl) hc
    | settled t =>
      have hm : m ≠ .forceReset := fun e => hc ((htl.regenerates_iff m).mpr e)
      exact ⟨⟨saved, ls, fr, s.idf, sx, .settled t⟩, by simp [specStep, hm, htl.2],
        hfiles, hl, hf, rfl, fun id hid => ⟨rfl, (hsid id hid).2⟩, htl⟩

theorem specStep_gsid {st : SpecSt} {s : Sys}
    (h : ∀ id, st.sidExpect = some id → s.db.mt.present = true ∧ s.db.mt.sid = some id) :
    specStep st .gsid (step s .gsid).2 = some st := by
  cases hx : st.sidExpect with
  | none => simp [step, specStep, hx]
  | some id => simp [step, specStep, hx, h id hx]

theorem rel_files_store (st : SpecSt) (s : Sys) (k : Nat) (v : Option Nat × Db)
    (hfiles : ∀ k, lookup k s.files = (lookupS k st.saved).map toFile) (j : Nat) :
    lookup j (store k (toFile v) s.files) = (lookupS j (storeS k v st.saved)).map toFile := by
  rw [lookupS_storeS]
  split
  · next h => rw [h]; exact lookup_store_same k _ _
  · next h => rw [lookup_store_other _ _ _ _ h]; exact hfiles j

theorem Rel_restored {st : SpecSt} {s : Sys} (hr : Rel st s) (sv : Option Nat × Db) :
    Rel { st with fired := s.fired + s.listeners,
                  sidExpect := (match sv.1 with | some id => some id | none => none),
                  tlx := (match sv.1 with | some _ => .fresh | none => .free) }
        { s with db := toFile sv, prev := some s.db, fired := s.fired + s.listeners } := by
  obtain ⟨hfiles, hl, hf, hidf, hsid, htl⟩ := hr
  obtain ⟨i, d⟩ := sv
  cases i with
  | none => exact ⟨hfiles, hl, rfl, hidf, nofun, trivial⟩
  | some id0 =>
    refine ⟨hfiles, hl, rfl, hidf, fun id hid => ?_, rfl⟩
    cases hid
    exact ⟨rfl, rfl⟩

theorem rel_step (st : SpecSt) (s : Sys) (o : Op) (hr : Rel st s) :
    ∃ st', specStep st o (step s o).2 = some st' ∧ Rel st' (step s o).1 := by
  cases o with
  | gtl m ok => exact rel_step_gtl st s m ok hr
  -- a transaction writes content only, which no field of `Rel` reads
  | tx ws c => cases c <;> exact ⟨st, rfl, { hr with }⟩
  | snap k b | snapUpd k ws =>
    exact ⟨_, rfl, { hr with files := rel_files_store st s k (some s.nextId, s.db) hr.files }⟩
  | stream k => exact ⟨_, rfl, { hr with files := rel_files_store st s k (none, s.db) hr.files }⟩
  | snapFail | dump => exact ⟨st, rfl, hr⟩
  | restore k b =>
    have hk := hr.files k
    cases hsv : lookupS k st.saved with
    | none =>
      rw [hsv] at hk
      refine ⟨st, by simp [step, hk, specStep, hsv], ?_⟩
      simp only [step, hk, Option.map_none]
      exact hr
    | some sv =>
      rw [hsv] at hk
      simp only [step, hk, Option.map_some, restoreVia_eq]
      obtain ⟨i, d⟩ := sv
      cases i <;> exact ⟨_, by simp [specStep, hsv, expectedAfterRestore_eq, hr.fired, hr.listeners], Rel_restored hr _⟩
  | gsid => exact ⟨st, specStep_gsid hr.sid, hr⟩
  | listen => exact ⟨_, rfl, { hr with listeners := congrArg (· + 1) hr.listeners }⟩

theorem rel_run (st : SpecSt) (s : Sys) (h : List Op) (hr : Rel st s) :
    ∃ st', specRun st h (run s h).2 = some st' ∧ Rel st' (run s h).1 := by
  induction h generalizing st s with
  | nil => exact ⟨st, by simp [specRun], hr⟩
  | cons o os ih =>
    obtain ⟨st1, h1, h2⟩ := rel_step st s o hr
    obtain ⟨st2, h3, h4⟩ := ih st1 _ h2
    exact ⟨st2, by simp only [run, specRun, h1, h3], h4⟩

theorem specFirstFail_none_iff (st : SpecSt) (ops : List Op) (obs : List Obs) (i : Nat) :
    specFirstFail st ops obs i = none ↔ (specRun st ops obs).isSome = true := by
  induction ops generalizing st obs i with
  | nil => simp [specFirstFail, specRun]
  | cons o os ih =>
    cases obs with
    | nil => simp [specFirstFail, specRun]
    | cons b bs =>
      simp only [specFirstFail, specRun]
      cases h : specStep st o b with
      | none => simp
      | some st' => simpa using ih st' bs (i + 1)

end StorageModel.C17
