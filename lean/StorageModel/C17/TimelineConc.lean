import StorageModel.C17.SnapshotProofs
import StorageModel.C17.LockTable
/-
  C17 — GetTimelineId under CONCURRENT requests, at the granularity of its bolt transactions.

  bbolt serialises read-write transactions (one writer) and gives every transaction a consistent
  view; so ONE `View(func)` / `Update(func)` is one atomic step against the `meta` bucket, and a method
  that uses several transactions is a program of several steps between which other requests' steps
  may fall.  A requester runs a program over

      atomic   Update{ read resetTimeline, timelineId; if reset ∨ mode.force: idF, write both; else return stored }
                                                      -- boltz/db.go GetTimelineId as it is: decision and action in ONE transaction
      check    View{ read resetTimeline, timelineId }; outside: return the stored id unless reset ∨ mode.force
      act      Update{ idF; write timelineId, resetTimeline := false }      -- unconditional

  `[atomic]` is the code (obligation `timeline_steps_expected` over the regenerated `Generated.dbMetaOps`:
  GetTimelineId is exactly one Update whose idF call and writes sit under a guard on values read in that
  same transaction); `[check, act]` is the check-then-act split, kept here as the design for which the
  clause "fresh id exactly once" FAILS under an interleaving (decided in Properties/C17.lean,
  `split_program_generates_twice`) — sequentially it behaves the same.
-/
namespace StorageModel.C17

inductive TlAct where
  | atomic | check | act
  deriving DecidableEq, Repr

inductive Req where
  | todo (m : Mode) (prog : List TlAct)
  | done (ret : Option Nat)              -- the id returned (none = "")
  deriving DecidableEq, Repr

structure TSys where
  sys : Sys
  reqs : List Req
  deriving DecidableEq, Repr

def retOf : Obs → Option Nat
  | .tl id _ => id
  | _ => none

/-- one atomic step (one bolt transaction, plus the transaction-free code up to the next one) -/
def reqStep (sys : Sys) : Req → Sys × Req
  | .todo m (.atomic :: _) => let r := getTimeline m true sys; (r.1, .done (retOf r.2))
  | .todo m (.check :: rest) =>
    if sys.db.mt.rt.getD false || m.force sys.db.mt.tl then (sys, .todo m rest) else (sys, .done sys.db.mt.tl)
  | .todo _ (.act :: _) =>
    ({ sys with idf := sys.idf + 1,
                db := { sys.db with mt := { sys.db.mt with present := true, tl := some (sys.idf + 1), rt := some false } } },
     .done (some (sys.idf + 1)))
  | .todo _ [] => (sys, .done none)
  | .done r => (sys, .done r)

def tstep (s : TSys) (i : Nat) : TSys :=
  match s.reqs[i]? with
  | some r => { sys := (reqStep s.sys r).1, reqs := s.reqs.set i (reqStep s.sys r).2 }
  | none => s

/-- an interleaving = the list of requester indices in the order in which their steps happen -/
def texec (s : TSys) : List Nat → TSys
  | [] => s
  | i :: is => texec (tstep s i) is

def tinit (sys : Sys) (prog : List TlAct) (ms : List Mode) : TSys :=
  { sys := sys, reqs := ms.map fun m => .todo m prog }

def Waiting (r : Req) : Prop := ∃ m, m ≠ Mode.forceReset ∧ r = .todo m [.atomic]

/-- nobody has run yet: the reset marker is still set -/
def FreshPhase (id0 : Nat) (s : TSys) : Prop :=
  s.sys.db.mt.rt = some true ∧ s.sys.idf = id0 ∧ ∀ r ∈ s.reqs, Waiting r

/-- somebody has run: the id is settled, everybody who finished returned it -/
def SettledPhase (id0 : Nat) (s : TSys) : Prop :=
  Settled (id0 + 1) s.sys ∧ s.sys.idf = id0 + 1 ∧ ∀ r ∈ s.reqs, Waiting r ∨ r = .done (some (id0 + 1))

def TInv (id0 : Nat) (s : TSys) : Prop := FreshPhase id0 s ∨ SettledPhase id0 s

theorem tstep_length (s : TSys) (i : Nat) : (tstep s i).reqs.length = s.reqs.length := by
  unfold tstep
  cases s.reqs[i]? <;> simp

theorem forall_mem_set {α : Type} {P : α → Prop} {l : List α} (h : ∀ x ∈ l, P x) {y : α} (hy : P y) (i : Nat) :
    ∀ x ∈ l.set i y, P x := by
  intro x hx
  rcases List.mem_or_eq_of_mem_set hx with hx | rfl
  · exact h x hx
  · exact hy

theorem tstep_inv (id0 : Nat) (s : TSys) (i : Nat) (h : TInv id0 s) :
    TInv id0 (tstep s i) ∧ (i < s.reqs.length → (tstep s i).reqs[i]? = some (.done (some (id0 + 1)))) := by
  unfold tstep
  cases hget : s.reqs[i]? with
  | none =>
    refine ⟨h, fun hi => ?_⟩
    have := List.getElem?_eq_none_iff.mp hget
    omega
  | some r =>
    have hmem : r ∈ s.reqs := List.mem_of_getElem? hget
    have hi : i < s.reqs.length := (List.getElem?_eq_some_iff.mp hget).1
    rcases h with ⟨hrt, hidf, hall⟩ | ⟨hset, hidf, hall⟩
    · -- first step of anybody: generates the id
      obtain ⟨m, hm, rfl⟩ := hall r hmem
      simp only [reqStep, getTimeline_fresh s.sys m hrt, retOf, hidf]
      exact ⟨Or.inr ⟨⟨rfl, rfl⟩, by simp, forall_mem_set (P := fun r => Waiting r ∨ r = .done (some (id0 + 1))) (fun x hx => Or.inl (hall x hx))
          (Or.inr rfl) i⟩,
        fun _ => by simp [hi]⟩
    · rcases hall r hmem with ⟨m, hm, rfl⟩ | rfl
      · -- a later request: returns the settled id, no idF call
        simp only [reqStep, getTimeline_settled hset hm true, retOf]
        exact ⟨Or.inr ⟨hset, hidf, forall_mem_set hall (Or.inr rfl) i⟩, fun _ => by simp [hi]⟩
      · simp only [reqStep]
        exact ⟨Or.inr ⟨hset, hidf, forall_mem_set hall (Or.inr rfl) i⟩, fun _ => by simp [hi]⟩

theorem texec_inv (id0 : Nat) (s : TSys) (sched : List Nat) (h : TInv id0 s) : TInv id0 (texec s sched) := by
  induction sched generalizing s with
  | nil => exact h
  | cons i is ih => exact ih _ (tstep_inv id0 s i h).1

theorem texec_length (s : TSys) (sched : List Nat) : (texec s sched).reqs.length = s.reqs.length := by
  induction sched generalizing s with
  | nil => rfl
  | cons i is ih => simp [texec, ih, tstep_length]

theorem tstep_done_stays (s : TSys) (i j : Nat) (r : Option Nat) (h : s.reqs[j]? = some (.done r)) :
    (tstep s i).reqs[j]? = some (.done r) := by
  unfold tstep
  cases hget : s.reqs[i]? with
  | none => exact h
  | some x =>
    by_cases hij : i = j
    · subst hij
      rw [hget] at h
      cases h
      have hi : i < s.reqs.length := (List.getElem?_eq_some_iff.mp hget).1
      simp [reqStep, hi]
    · simp [List.getElem?_set_ne hij, h]

theorem texec_done_stays (s : TSys) (sched : List Nat) (j : Nat) (r : Option Nat) (h : s.reqs[j]? = some (.done r)) :
    (texec s sched).reqs[j]? = some (.done r) := by
  induction sched generalizing s with
  | nil => exact h
  | cons i is ih => exact ih _ (tstep_done_stays s i j r h)

theorem texec_scheduled_done (id0 : Nat) (s : TSys) (sched : List Nat) (h : TInv id0 s) (j : Nat) (hj : j ∈ sched)
    (hlen : j < s.reqs.length) : (texec s sched).reqs[j]? = some (.done (some (id0 + 1))) := by
  induction sched generalizing s with
  | nil => cases hj
  | cons i is ih =>
    simp only [texec]
    by_cases hij : j = i
    · subst hij
      exact texec_done_stays _ is j _ ((tstep_inv id0 s j h).2 hlen)
    · have : j ∈ is := by
        rcases List.mem_cons.mp hj with e | e
        · exact absurd e hij
        · exact e
      exact ih _ (tstep_inv id0 s i h).1 this (by rw [tstep_length]; exact hlen)

theorem tinit_fresh (sys : Sys) (hrt : sys.db.mt.rt = some true) (ms : List Mode) (hms : ∀ m ∈ ms, m ≠ Mode.forceReset) :
    TInv sys.idf (tinit sys [.atomic] ms) := by
  refine Or.inl ⟨hrt, rfl, ?_⟩
  intro r hr
  obtain ⟨m, hm, rfl⟩ := List.mem_map.mp hr
  exact ⟨m, hms m hm, rfl⟩

def atomicEvs : List TxEv :=
  [.read .resetTimeline, .read .timelineId, .guard [.resetTimeline, .timelineId], .idF, .write .timelineId, .write .resetTimeline]

def TxEv.isRead : TxEv → Bool
  | .read _ => true
  | _ => false

def TxEv.isGuard : TxEv → Bool
  | .guard _ => true
  | _ => false

def readTlStep : MetaStep → Option (List TlAct)
  | .decide _ => some []                     -- belongs to the `check` before it
  | .tx .update evs =>
    if evs = atomicEvs then some [.atomic]
    else if evs.contains .idF && !evs.any TxEv.isGuard then some [.act]
    else none
  | .tx .view evs => if evs.all TxEv.isRead then some [.check] else none

def readTlProgram (steps : List MetaStep) : Option (List TlAct) :=
  (steps.mapM readTlStep).map List.flatten

def markerStepsExpected (t : MetaOps) : Bool :=
  t.get "GetSnapshotId" == [.tx .view [.read .snapshotId]] &&
  t.get "MarkAsSnapshot" == [.tx .update [.write .snapshotId, .write .resetTimeline]]

end StorageModel.C17
