import StorageModel.C17.Snapshot
/-
  C17 — the PATH argument of Snapshot / SnapshotInTx and the files it names.

  boltz/db.go, SnapshotInTx(tx, path):

      now := time.Now(); dateStr := now.Format("20060102"); timeStr := now.Format("150405")
      path = strings.ReplaceAll(path, "__DATE__", dateStr)
      path = strings.ReplaceAll(path, "__TIME__", timeStr)
      path = strings.ReplaceAll(path, "__DB_DIR__", filepath.Dir(self.db.Path()))
      path = strings.ReplaceAll(path, "__DB_FILE__", filepath.Base(self.db.Path()))
      path = strings.ReplaceAll(path, "DATE", dateStr)
      path = strings.ReplaceAll(path, "TIME", timeStr)
      path = strings.ReplaceAll(path, "DB_DIR", filepath.Dir(self.db.Path()))
      path = strings.ReplaceAll(path, "DB_FILE", filepath.Base(self.db.Path()))
      tx.CopyFile(path, 0600)              -- os.OpenFile(O_RDWR|O_CREATE|O_TRUNC): creates / overwrites
      snapshotId := MarkAsSnapshot(path)   -- bbolt.Open(path): opens, CREATING AN EMPTY DATABASE WHEN MISSING;
                                           -- one Update writes meta/snapshotId, meta/resetTimeline
      return path, snapshotId

  The slot of the sequential model (Snapshot.lean: `Op.snap k`) stands for "the file the caller
  finds under the path the call RETURNED".  Here the path is a string, the argument is a TEMPLATE,
  the directory is a map from path strings to bolt files, and the three uses of the path
  (CopyFile, MarkAsSnapshot, the returned value) are explicit, so that "the file under the
  returned path is the marked copy, and no other file was touched" is a theorem about the expansion
  and the file operations rather than an assumption of the slot abstraction.  `PSys`/`pstep` run
  whole histories at that level; `Properties/C17.lean` proves that they refine the slot model
  through any injective naming of paths, which carries every sequential theorem over.
-/
namespace StorageModel.C17

abbrev Path := List Char

/-- `strings.ReplaceAll(s, old, new)` for a non-empty `old`: leftmost, non-overlapping occurrences.
    `skip` = characters of a matched occurrence still to be dropped. -/
def replaceGo (old new : Path) : Nat → Path → Path
  | _, [] => []
  | skip + 1, _ :: r => replaceGo old new skip r
  | 0, c :: r =>
    if old.isPrefixOf (c :: r) then new ++ replaceGo old new (old.length - 1) r
    else c :: replaceGo old new 0 r

def replaceAll (old new : Path) (s : Path) : Path := replaceGo old new 0 s

/-- what the expansion reads from the clock and from the open handle -/
structure Env where
  date : Path      -- now.Format("20060102")
  time : Path      -- now.Format("150405")
  dbDir : Path     -- filepath.Dir(self.db.Path())
  dbFile : Path    -- filepath.Base(self.db.Path())
  deriving DecidableEq, Repr

/-- the eight ReplaceAll calls, in the order of the code (the `__X__` forms first, so that their
    underscores go away; a later call sees the text an earlier one put in) -/
def expand (e : Env) (p : Path) : Path :=
  let p := replaceAll "__DATE__".toList e.date p
  let p := replaceAll "__TIME__".toList e.time p
  let p := replaceAll "__DB_DIR__".toList e.dbDir p
  let p := replaceAll "__DB_FILE__".toList e.dbFile p
  let p := replaceAll "DATE".toList e.date p
  let p := replaceAll "TIME".toList e.time p
  let p := replaceAll "DB_DIR".toList e.dbDir p
  replaceAll "DB_FILE".toList e.dbFile p

/-- the directory: path ↦ bolt file -/
abbrev PFS := List (Path × Db)

def lookupP (p : Path) : PFS → Option Db
  | [] => none
  | (q, d) :: r => if p = q then some d else lookupP p r

def storeP (p : Path) (d : Db) : PFS → PFS
  | [] => [(p, d)]
  | (q, d') :: r => if p = q then (p, d) :: r else (q, d') :: storeP p d r

theorem lookupP_storeP_same (p : Path) (d : Db) (l : PFS) : lookupP p (storeP p d l) = some d := by
  induction l with
  | nil => simp [storeP, lookupP]
  | cons h t ih =>
    obtain ⟨q, d'⟩ := h
    by_cases hk : p = q <;> simp [storeP, lookupP, hk, ih]

theorem lookupP_storeP_other (p j : Path) (d : Db) (l : PFS) (h : j ≠ p) :
    lookupP j (storeP p d l) = lookupP j l := by
  induction l with
  | nil => simp [storeP, lookupP, h]
  | cons hd t ih =>
    obtain ⟨q, d'⟩ := hd
    by_cases hk : p = q
    · subst hk; simp [storeP, lookupP, h]
    · by_cases hj : j = q <;> simp [storeP, lookupP, hk, hj, ih]

/-- `tx.CopyFile(p)`: the file under `p` is created or truncated and receives the copy -/
def copyFile (p : Path) (copy : Db) (fs : PFS) : PFS := storeP p copy fs

/-- `MarkAsSnapshot(p)`: `bbolt.Open(p)` opens the file under `p` — an empty database is created when
    there is none — and one Update writes the two markers into it -/
def markAsSnapshot (p : Path) (id : Nat) (fs : PFS) : PFS :=
  storeP p (mark id ((lookupP p fs).getD {})) fs

/-- the three uses of a path in SnapshotInTx -/
structure PathUse where
  copyTo : Path
  markAt : Path
  returned : Path
  deriving DecidableEq, Repr

/-- the code: all three are the expanded template -/
def pathUseCode (e : Env) (tmpl : Path) : PathUse :=
  let path := expand e tmpl
  { copyTo := path, markAt := path, returned := path }

/-- SnapshotInTx on the directory, for a given use of paths: result = (returned path, directory) -/
def snapshotFiles (u : PathUse) (id : Nat) (copy : Db) (fs : PFS) : Path × PFS :=
  (u.returned, markAsSnapshot u.markAt id (copyFile u.copyTo copy fs))

/-- SnapshotInTx as it is -/
def snapshotInTx (e : Env) (tmpl : Path) (id : Nat) (copy : Db) (fs : PFS) : Path × PFS :=
  snapshotFiles (pathUseCode e tmpl) id copy fs

/-- the variant in which the expansion is kept in a second variable and `MarkAsSnapshot` still gets
    the argument (kept as a counter-model: see the examples in Properties/C17.lean) -/
def pathUseSplit (e : Env) (tmpl : Path) : PathUse :=
  { copyTo := expand e tmpl, markAt := tmpl, returned := expand e tmpl }

/-- the system with a directory instead of slots; `base.files` is not used at this level -/
structure PSys where
  base : Sys := {}
  fs : PFS := []
  deriving DecidableEq, Repr

inductive POp where
  | snapT (tmpl : Path) (inTx : Bool)             -- Snapshot(tmpl) / View{ SnapshotInTx(tx, tmpl) }
  | snapUpdT (tmpl : Path) (ws : List Write)      -- Update{ writes; SnapshotInTx(tx, tmpl) }
  | streamTo (p : Path)                           -- os.Create(p); StreamToWriter(file)
  | restoreFrom (p : Path) (rd : Reader)          -- the caller opens / reads the file under `p` and restores it
  | other (o : Op)                                -- an operation that touches no snapshot file
  deriving DecidableEq, Repr

inductive PObs where
  | snappedAt (p : Path) (id : Nat) (atTime : Db) -- returned path, returned id, dump at that time
  | plain (o : Obs)
  deriving DecidableEq, Repr

/-- operations of the sequential model that touch no snapshot file -/
def Op.fileFree : Op → Bool
  | .tx _ _ | .snapFail | .gsid | .gtl _ _ | .listen | .dump => true
  | _ => false

/-- `e` is the environment at the moment of the call (the clock moves between calls) -/
def pstep (e : Env) (s : PSys) : POp → PSys × PObs
  | .snapT tmpl _ =>
    let r := snapshotInTx e tmpl s.base.nextId s.base.db s.fs
    ({ base := { s.base with nextId := s.base.nextId + 1 }, fs := r.2 }, .snappedAt r.1 s.base.nextId s.base.db)
  | .snapUpdT tmpl ws =>
    let r := snapshotInTx e tmpl s.base.nextId s.base.db s.fs
    ({ base := { s.base with nextId := s.base.nextId + 1,
                             db := { s.base.db with content := ws.foldl applyWrite s.base.db.content } }, fs := r.2 },
     .snappedAt r.1 s.base.nextId s.base.db)
  | .streamTo p => ({ s with fs := storeP p s.base.db s.fs }, .plain (.streamed s.base.db))
  | .restoreFrom p rd =>
    match lookupP p s.fs with
    | none => (s, .plain .nofile)
    | some f =>
      match restoreVia f rd with
      | some d => ({ s with base := { s.base with db := d, prev := some s.base.db, fired := s.base.fired + s.base.listeners } },
                   .plain (.restored (s.base.fired + s.base.listeners) d))
      | none => (s, .plain .err)
  | .other o =>
    if o.fileFree then let r := step s.base o; ({ s with base := r.1 }, .plain r.2)
    else (s, .plain .err)

/-- a history: each operation with the environment (clock) at which it is made -/
def prun (s : PSys) : List (Env × POp) → PSys × List PObs
  | [] => (s, [])
  | (e, o) :: os =>
    let (s1, ob) := pstep e s o
    let (s2, obs) := prun s1 os
    (s2, ob :: obs)

/-- the slot-level operation a path-level operation stands for, under a naming `code` of paths -/
def POp.abs (code : Path → Nat) (e : Env) : POp → Op
  | .snapT tmpl inTx => .snap (code (expand e tmpl)) inTx
  | .snapUpdT tmpl ws => .snapUpd (code (expand e tmpl)) ws
  | .streamTo p => .stream (code p)
  | .restoreFrom p rd => .restore (code p) rd
  | .other o => if o.fileFree then o else .snapFail

def PObs.abs : PObs → Obs
  | .snappedAt _ id d => .snapped id d
  | .plain o => o

end StorageModel.C17
