import StorageModel.C17.Paths
import StorageModel.C17.LockTable
/-
  C17 — reading of the regenerated table `Generated.dbSnapshotPathOps` (extract/dbpaths.go: what SnapshotInTx does
  with its path strings) as the path-level model of Paths.lean: ONE variable, rewritten by a chain of
  strings.ReplaceAll calls, and that variable — after the last rewrite — is what CopyFile receives, what
  MarkAsSnapshot receives and what is returned.
-/
namespace StorageModel.C17

/-- `some replacements` when the table has that shape (`PathUse`: all three uses are the same variable at the same
    version), `none` otherwise (a second variable, a use of an earlier version, an assignment of another kind) -/
def readPathProgram (evs : List PathEv) : Option (List (String × String)) :=
  match evs with
  | .replace v _ _ _ :: _ =>
    let reps := evs.filterMap fun ev => match ev with
      | .replace _ _ o b => some (o, b)
      | _ => none
    let n := reps.length
    let expected := (reps.zipIdx.map fun obi => PathEv.replace v (obi.2 + 1) obi.1.1 obi.1.2) ++ [.copy v n, .mark v n, .ret v n]
    if evs = expected then some reps else none
  | [.copy v 0, .mark v' 0, .ret v'' 0] => if v = v' ∧ v' = v'' then some [] else none
  | _ => none

def Env.field (e : Env) : String → Option Path
  | "date" => some e.date
  | "time" => some e.time
  | "dbDir" => some e.dbDir
  | "dbFile" => some e.dbFile
  | _ => none

def expandTable (e : Env) : List (String × String) → Path → Option Path
  | [], p => some p
  | (old, by_) :: r, p =>
    match e.field by_ with
    | some new => expandTable e r (replaceAll old.toList new p)
    | none => none

/-- the chain the model's `expand` is written after -/
def codeReplacements : List (String × String) :=
  [("__DATE__", "date"), ("__TIME__", "time"), ("__DB_DIR__", "dbDir"), ("__DB_FILE__", "dbFile"),
   ("DATE", "date"), ("TIME", "time"), ("DB_DIR", "dbDir"), ("DB_FILE", "dbFile")]

theorem expandTable_code (e : Env) (p : Path) : expandTable e codeReplacements p = some (expand e p) := rfl

end StorageModel.C17
