/-
  C17 — lemmas about the staged restore (C17/Staged.lean): the persist loop issues every queued call,
  in order, and persists the whole stream, for every reader behaviour and every choice of positions;
  model ⊨ spec for the enlarged vocabulary.
-/
import StorageModel.C17.Staged
import StorageModel.C17.SnapshotProofs
namespace StorageModel.C17

theorem issueWhile_run (due : Cb → Bool) (s : Sys) (cs : List Cb) :
    run s (cs.map Cb.act) =
      ((run (issueWhile due s cs).2.1 ((issueWhile due s cs).1.map Cb.act)).1,
       (issueWhile due s cs).2.2 ++ (run (issueWhile due s cs).2.1 ((issueWhile due s cs).1.map Cb.act)).2) := by
  induction cs generalizing s with
  | nil => simp [issueWhile, run]
  | cons c cs ih =>
    simp only [issueWhile]
    by_cases hd : due c = true
    · simp only [hd, if_true, List.map_cons, run]
      rw [ih (step s c.act).1]
      simp
    · simp [hd, run]

theorem issueWhile_true (s : Sys) (cs : List Cb) :
    issueWhile (fun _ => true) s cs = ([], (run s (cs.map Cb.act)).1, (run s (cs.map Cb.act)).2) := by
  induction cs generalizing s with
  | nil => simp [issueWhile, run]
  | cons c cs ih => simp [issueWhile, run, ih]

theorem readLoop_of_delivers (len : Nat) {rs : List (ReadResult Piece)} {data : List Piece} (h : Delivers rs data)
    (p : Persist) :
    (readLoop len rs p).tmp = p.tmp ++ data ∧ (readLoop len rs p).pending = [] ∧
    (readLoop len rs p).sys = (run p.sys (p.pending.map Cb.act)).1 ∧
    (readLoop len rs p).obs = p.obs ++ (run p.sys (p.pending.map Cb.act)).2 := by
  induction h generalizing p with
  | eof d rest =>
    -- the call that carries io.EOF: the due calls, then the flush of the rest
    simp only [readLoop, if_true, issueWhile_true,
      issueWhile_run (fun c => c.pos.due len p.delivered) p.sys p.pending, and_self]
  | more d _ ih =>
    simp only [readLoop, Bool.false_eq_true, if_false]
    obtain ⟨h1, h2, h3, h4⟩ := ih _
    refine ⟨by rw [h1, List.append_assoc], h2, ?_, ?_⟩
    · rw [h3]; simp only [issueWhile_run (fun c => c.pos.due len p.delivered) p.sys p.pending]
    · rw [h4]; simp only [issueWhile_run (fun c => c.pos.due len p.delivered) p.sys p.pending,
        List.append_nil, List.append_assoc]

theorem stagePersist_transparent (s : Sys) (f : Db) (rd : Reader) (cbs : List Cb) :
    (stagePersist s f rd cbs).tmp = encodeDb f ∧
    (stagePersist s f rd cbs).pending = [] ∧
    (stagePersist s f rd cbs).sys = (run s (cbs.map Cb.act)).1 ∧
    (stagePersist s f rd cbs).obs = (run s (cbs.map Cb.act)).2 :=
  readLoop_of_delivers _ (script_delivers rd _) { sys := s, pending := cbs }

theorem xstep_restoreCb (s : Sys) (k : Nat) (rd : Reader) (cbs : List Cb) (f : Db) (hf : lookup k s.files = some f) :
    xstep s (.restoreCb k rd cbs) =
      ({ (run s (cbs.map Cb.act)).1 with
           db := f, prev := some (run s (cbs.map Cb.act)).1.db,
           fired := (run s (cbs.map Cb.act)).1.fired + (run s (cbs.map Cb.act)).1.listeners },
       .restoredCb (run s (cbs.map Cb.act)).2
         ((run s (cbs.map Cb.act)).1.fired + (run s (cbs.map Cb.act)).1.listeners) f) := by
  obtain ⟨h1, _, h3, h4⟩ := stagePersist_transparent s f rd cbs
  simp only [xstep, hf, stageSwap, h1, decodeDb_encodeDb, Option.map_some, stageFire, h3, h4]

theorem xstep_restoreCb_nofile (s : Sys) (k : Nat) (rd : Reader) (cbs : List Cb) (hf : lookup k s.files = none) :
    xstep s (.restoreCb k rd cbs) = (s, .plain .nofile) := by
  simp [xstep, hf]

theorem ro_step_state (s : Sys) (a : RoAct) : (step s a.toOp).1 = s := by
  cases a <;> rfl

theorem run_ro (s : Sys) (as : List RoAct) : run s (as.map RoAct.toOp) = (s, as.map (roObs s)) := by
  induction as with
  | nil => rfl
  | cons a as ih =>
    simp only [List.map_cons, run, ro_step_state, ih]
    rfl

def XOp.keeps (k : Nat) : XOp → Bool
  | .plain o => o.keeps k
  | .restoreCb _ _ cbs => cbs.all fun c => c.act.keeps k
  | .inTx t _ _ => t.toOp.keeps k

def XKeepsSlot (k : Nat) (h : List XOp) : Prop := ∀ o ∈ h, o.keeps k = true

theorem xstep_keeps_file (s : Sys) (o : XOp) (k : Nat) (h : o.keeps k = true) :
    lookup k (xstep s o).1.files = lookup k s.files := by
  cases o with
  | plain o => exact step_keeps_file s o k h
  | inTx t pre post => exact step_keeps_file s t.toOp k h
  | restoreCb j rd cbs =>
    cases hf : lookup j s.files with
    | none => rw [xstep_restoreCb_nofile s j rd cbs hf]
    | some f =>
      rw [xstep_restoreCb s j rd cbs f hf]
      simp only [XOp.keeps, List.all_eq_true] at h
      exact run_keeps_file s (cbs.map Cb.act) k (by
        intro o ho
        obtain ⟨c, hc, rfl⟩ := List.mem_map.mp ho
        exact h c hc)

theorem xrun_keeps_file (s : Sys) (h : List XOp) (k : Nat) (hk : XKeepsSlot k h) :
    lookup k (xrun s h).1.files = lookup k s.files := by
  induction h generalizing s with
  | nil => rfl
  | cons o os ih =>
    simp only [xrun]
    rw [ih (xstep s o).1 (fun x hx => hk x (by simp [hx]))]
    exact xstep_keeps_file s o k (hk o (by simp))

theorem xrun_restoreCb_kept (s0 : Sys) (h1 h2 : List XOp) (o : XOp) (k : Nat) (rd : Reader) (cbs : List Cb) (f : Db)
    (hf : lookup k (xstep (xrun s0 h1).1 o).1.files = some f) (hk : XKeepsSlot k h2) :
    (xrun s0 (h1 ++ [o] ++ h2 ++ [.restoreCb k rd cbs])).1.db = f := by
  simp only [xrun_append, xrun]
  rw [xstep_restoreCb _ k rd cbs f ((xrun_keeps_file _ h2 k hk).trans hf)]

def XOp.quiet : XOp → Bool
  | .plain o => o.quiet
  | .restoreCb _ _ _ => false
  | .inTx _ _ _ => true

theorem xstep_quiet_settled (s : Sys) (o : XOp) (t : Nat) (hq : o.quiet = true) (hs : Settled t s) :
    Settled t (xstep s o).1 := by
  cases o with
  | plain o => exact step_quiet_settled s o t hq hs
  | restoreCb j rd cbs => simp [XOp.quiet] at hq
  | inTx tk pre post => cases tk <;> exact step_quiet_settled s _ t rfl hs

theorem xrun_quiet_settled (s : Sys) (h : List XOp) (t : Nat) (hq : ∀ o ∈ h, o.quiet = true) (hs : Settled t s) :
    Settled t (xrun s h).1 := by
  induction h generalizing s with
  | nil => exact hs
  | cons o os ih =>
    simp only [xrun]
    exact ih _ (fun x hx => hq x (by simp [hx])) (xstep_quiet_settled s o t (hq o (by simp)) hs)

theorem specRun_ro (st : SpecSt) (s : Sys) (as : List RoAct)
    (h : ∀ id, st.sidExpect = some id → s.db.mt.present = true ∧ s.db.mt.sid = some id) :
    specRun st (as.map RoAct.toOp) (as.map (roObs s)) = some st := by
  induction as with
  | nil => rfl
  | cons a as ih =>
    have ha : specStep st a.toOp (roObs s a) = some st := by
      cases a with
      | gsid => exact specStep_gsid h
      | dump => rfl
    simp only [List.map_cons, specRun, ha, ih]

theorem xrel_step (st : SpecSt) (s : Sys) (o : XOp) (hr : Rel st s) :
    ∃ st', xspecStep st o (xstep s o).2 = some st' ∧ Rel st' (xstep s o).1 := by
  cases o with
  | plain o =>
    obtain ⟨st', h1, h2⟩ := rel_step st s o hr
    exact ⟨st', by simpa [xstep, xspecStep] using h1, h2⟩
  | inTx t pre post =>
    -- the reading calls are judged against the committed state `s`; the copy in between is an ordinary step,
    -- and it leaves `s.db.mt` alone, so what `Rel` says of the id after it is still said of `s`
    have hpre := specRun_ro st s pre hr.sid
    obtain ⟨st2, h3, h4⟩ := rel_step st s t.toOp hr
    have hpost := specRun_ro st2 s post (by cases t <;> exact h4.sid)
    exact ⟨st2, by simp [xstep, xspecStep, hpre, h3, hpost], h4⟩
  | restoreCb k rd cbs =>
    have hk := hr.files k
    cases hsv : lookupS k st.saved with
    | none =>
      rw [hsv] at hk
      simp only [Option.map_none] at hk
      rw [xstep_restoreCb_nofile s k rd cbs hk]
      exact ⟨st, by simp [xspecStep, hsv], hr⟩
    | some sv =>
      rw [hsv] at hk
      simp only [Option.map_some] at hk
      rw [xstep_restoreCb s k rd cbs (toFile sv) hk]
      obtain ⟨st1, h1, h2⟩ := rel_run st s (cbs.map Cb.act) hr
      have hlen : (run s (cbs.map Cb.act)).2.length = cbs.length := by simp [run_length]
      obtain ⟨i, d⟩ := sv
      cases i <;>
        exact ⟨_, by simp [xspecStep, hsv, hlen, h1, restoreJudge, expectedAfterRestore_eq, h2.fired, h2.listeners],
          Rel_restored h2 _⟩

theorem xrel_run (st : SpecSt) (s : Sys) (h : List XOp) (hr : Rel st s) :
    (xspecRun st h (xrun s h).2).isSome = true := by
  induction h generalizing st s with
  | nil => simp [xspecRun]
  | cons o os ih =>
    obtain ⟨st', h1, h2⟩ := xrel_step st s o hr
    simp only [xrun, xspecRun, h1]
    exact ih st' _ h2

theorem xspecFirstFail_none_iff (st : SpecSt) (ops : List XOp) (obs : List XObs) (i : Nat) :
    xspecFirstFail st ops obs i = none ↔ (xspecRun st ops obs).isSome = true := by
  induction ops generalizing st obs i with
  | nil => simp [xspecFirstFail, xspecRun]
  | cons o os ih =>
    cases obs with
    | nil => simp [xspecFirstFail, xspecRun]
    | cons b bs =>
      simp only [xspecFirstFail, xspecRun]
      cases h : xspecStep st o b with
      | none => simp
      | some st' => simpa using ih st' bs (i + 1)

end StorageModel.C17
