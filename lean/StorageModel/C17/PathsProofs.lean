import StorageModel.C17.Paths
import StorageModel.C17.SnapshotProofs
/-
  C17 — the path level (Paths.lean) refines the slot model under any injective naming of paths (`pstep_refines`);
  `expand` is the identity on text without `D` and `T`, and is evaluated on test vectors through `expandChars`.
-/
namespace StorageModel.C17

theorem replaceAll_no_occurrence (old new s : Path) (x : Char) (hx : x ∈ old) (hs : x ∉ s) :
    replaceAll old new s = s := by
  unfold replaceAll
  induction s with
  | nil => rfl
  | cons c r ih =>
    have hr : x ∉ r := fun h => hs (List.mem_cons_of_mem _ h)
    have hp : old.isPrefixOf (c :: r) = false :=
      Bool.eq_false_iff.mpr fun hpre => hs ((List.isPrefixOf_iff_prefix.mp hpre).mem hx)
    simp [replaceGo, hp, ih hr]

/-- A literal unfolds to `String.ofList` of its characters at once, whereas evaluating `toList` on it decodes the
    UTF-8 bytes position by position, which is slow to check for all but the shortest strings. -/
theorem toList_literal {a : String} {l : Path} (h : a = String.ofList l) : a.toList = l := by
  rw [h, String.toList_ofList]

def expandChars (e : Env) (p : Path) : Path :=
  let p := replaceAll ['_', '_', 'D', 'A', 'T', 'E', '_', '_'] e.date p
  let p := replaceAll ['_', '_', 'T', 'I', 'M', 'E', '_', '_'] e.time p
  let p := replaceAll ['_', '_', 'D', 'B', '_', 'D', 'I', 'R', '_', '_'] e.dbDir p
  let p := replaceAll ['_', '_', 'D', 'B', '_', 'F', 'I', 'L', 'E', '_', '_'] e.dbFile p
  let p := replaceAll ['D', 'A', 'T', 'E'] e.date p
  let p := replaceAll ['T', 'I', 'M', 'E'] e.time p
  let p := replaceAll ['D', 'B', '_', 'D', 'I', 'R'] e.dbDir p
  replaceAll ['D', 'B', '_', 'F', 'I', 'L', 'E'] e.dbFile p

theorem expand_eq_expandChars (e : Env) (p : Path) : expand e p = expandChars e p := by
  unfold expand expandChars
  rw [toList_literal (a := "__DATE__") rfl, toList_literal (a := "__TIME__") rfl, toList_literal (a := "__DB_DIR__") rfl,
    toList_literal (a := "__DB_FILE__") rfl, toList_literal (a := "DATE") rfl, toList_literal (a := "TIME") rfl,
    toList_literal (a := "DB_DIR") rfl, toList_literal (a := "DB_FILE") rfl]

/-- every placeholder contains a `D` or a `T` -/
theorem expand_plain (e : Env) (p : Path) (hD : 'D' ∉ p) (hT : 'T' ∉ p) : expand e p = p := by
  rw [expand_eq_expandChars]
  unfold expandChars
  simp only []
  rw [replaceAll_no_occurrence _ e.date p 'D' ?_ hD, replaceAll_no_occurrence _ e.time p 'T' ?_ hT,
    replaceAll_no_occurrence _ e.dbDir p 'D' ?_ hD, replaceAll_no_occurrence _ e.dbFile p 'D' ?_ hD,
    replaceAll_no_occurrence _ e.date p 'D' ?_ hD, replaceAll_no_occurrence _ e.time p 'T' ?_ hT,
    replaceAll_no_occurrence _ e.dbDir p 'D' ?_ hD, replaceAll_no_occurrence _ e.dbFile p 'D' ?_ hD]
  all_goals decide

theorem expand_literal {e e' : Env} {a b : String} {la lb : Path} (he : e = e') (ha : a = String.ofList la)
    (hb : b = String.ofList lb) (h : expandChars e' la = lb) : expand e a.toList = b.toList := by
  rw [he, toList_literal ha, toList_literal hb, expand_eq_expandChars, h]

theorem snapshotFiles_same (p : Path) (id : Nat) (copy : Db) (fs : PFS) :
    lookupP p (snapshotFiles ⟨p, p, p⟩ id copy fs).2 = some (mark id copy) := by
  simp [snapshotFiles, markAsSnapshot, copyFile, lookupP_storeP_same]

theorem snapshotFiles_other (p q : Path) (id : Nat) (copy : Db) (fs : PFS) (h : q ≠ p) :
    lookupP q (snapshotFiles ⟨p, p, p⟩ id copy fs).2 = lookupP q fs := by
  simp [snapshotFiles, markAsSnapshot, copyFile, lookupP_storeP_other _ _ _ _ h]

theorem snapshotInTx_eq_store (e : Env) (tmpl : Path) (id : Nat) (copy : Db) (fs : PFS) :
    ∀ q, lookupP q (snapshotInTx e tmpl id copy fs).2 = lookupP q (storeP (expand e tmpl) (mark id copy) fs) := by
  intro q
  by_cases hq : q = expand e tmpl
  · subst hq
    rw [lookupP_storeP_same]
    exact snapshotFiles_same _ _ _ _
  · rw [lookupP_storeP_other _ _ _ _ hq]
    exact snapshotFiles_other _ _ _ _ _ hq

def POp.keepsPath (e : Env) (p : Path) : POp → Bool
  | .snapT tmpl _ => decide (expand e tmpl ≠ p)
  | .snapUpdT tmpl _ => decide (expand e tmpl ≠ p)
  | .streamTo q => decide (q ≠ p)
  | _ => true

def KeepsPath (p : Path) (h : List (Env × POp)) : Prop := ∀ eo ∈ h, eo.2.keepsPath eo.1 p = true

theorem pstep_keeps_file (e : Env) (s : PSys) (o : POp) (p : Path) (h : o.keepsPath e p = true) :
    lookupP p (pstep e s o).1.fs = lookupP p s.fs := by
  cases o with
  | snapT tmpl _ | snapUpdT tmpl _ =>
    have hne : p ≠ expand e tmpl := fun hh => by simp [POp.keepsPath, hh] at h
    exact (snapshotInTx_eq_store e tmpl _ _ _ p).trans (lookupP_storeP_other _ _ _ _ hne)
  | streamTo q =>
    have hne : p ≠ q := fun hh => by simp [POp.keepsPath, hh] at h
    exact lookupP_storeP_other _ _ _ _ hne
  | restoreFrom q rd =>
    simp only [pstep]
    split
    · rfl
    · split <;> rfl
  | other o =>
    simp only [pstep]
    split <;> rfl

theorem prun_keeps_file (s : PSys) (h : List (Env × POp)) (p : Path) (hk : KeepsPath p h) :
    lookupP p (prun s h).1.fs = lookupP p s.fs := by
  induction h generalizing s with
  | nil => rfl
  | cons eo os ih =>
    obtain ⟨e, o⟩ := eo
    simp only [prun]
    rw [ih (pstep e s o).1 (fun x hx => hk x (by simp [hx]))]
    exact pstep_keeps_file e s o p (hk (e, o) (by simp))

theorem prun_append (s : PSys) (a b : List (Env × POp)) :
    prun s (a ++ b) = ((prun (prun s a).1 b).1, (prun s a).2 ++ (prun (prun s a).1 b).2) := by
  induction a generalizing s with
  | nil => simp [prun]
  | cons o os ih => obtain ⟨e, o⟩ := o; simp [prun, ih]

theorem prun_restore_kept (s0 : PSys) (h1 h2 : List (Env × POp)) (e0 : Env) (o : POp) (p : Path) (e : Env) (rd : Reader)
    (f : Db) (hf : lookupP p (pstep e0 (prun s0 h1).1 o).1.fs = some f) (hk : KeepsPath p h2) :
    (prun s0 (h1 ++ [(e0, o)] ++ h2 ++ [(e, .restoreFrom p rd)])).1.base.db = f := by
  simp only [prun_append, prun]
  generalize (pstep e0 (prun s0 h1).1 o).1 = s at hf ⊢
  simp only [pstep, prun_keeps_file s h2 p hk, hf, restoreVia_eq]

def FsRel (code : Path → Nat) (pfs : PFS) (files : List (Nat × Db)) : Prop :=
  ∀ q, lookupP q pfs = lookup (code q) files

/-- equal in every field but `files` (the directory stands for those) -/
def SameBut (a b : Sys) : Prop :=
  a.db = b.db ∧ a.nextId = b.nextId ∧ a.idf = b.idf ∧ a.listeners = b.listeners ∧ a.fired = b.fired ∧ a.prev = b.prev

def Sim (code : Path → Nat) (ps : PSys) (s : Sys) : Prop := SameBut ps.base s ∧ FsRel code ps.fs s.files

theorem FsRel.store {code : Path → Nat} (hinj : ∀ a b, code a = code b → a = b) {pfs : PFS} {files : List (Nat × Db)}
    (h : FsRel code pfs files) (p : Path) (d : Db) : FsRel code (storeP p d pfs) (store (code p) d files) := by
  intro q
  by_cases hq : q = p
  · subst hq; rw [lookupP_storeP_same, lookup_store_same]
  · have : code q ≠ code p := fun hh => hq (hinj _ _ hh)
    rw [lookupP_storeP_other _ _ _ _ hq, lookup_store_other _ _ _ _ this]
    exact h q

theorem step_fileFree {o : Op} (h : o.fileFree = true) (s : Sys) (fl : List (Nat × Db)) :
    step { s with files := fl } o = ({ (step s o).1 with files := fl }, (step s o).2) := by
  cases o with
  | tx ws c => cases c <;> rfl
  | snapFail | gsid | listen | dump => rfl
  | gtl m ok =>
    simp only [step, getTimeline]
    split
    · cases ok <;> rfl
    · rfl
  | snap | snapUpd | stream | restore => cases h

theorem pstep_refines (code : Path → Nat) (hinj : ∀ a b, code a = code b → a = b) (e : Env) (ps : PSys) (s : Sys)
    (o : POp) (h : Sim code ps s) :
    Sim code (pstep e ps o).1 (step s (o.abs code e)).1 ∧ (pstep e ps o).2.abs = (step s (o.abs code e)).2 := by
  obtain ⟨⟨pdb, pfiles, pn, pi, pl, pf, pp⟩, pfs⟩ := ps
  obtain ⟨sdb, sfiles, sn, si, sl, sf, sp⟩ := s
  obtain ⟨⟨h1, h2, h3, h4, h5, h6⟩, hf⟩ := h
  simp only at h1 h2 h3 h4 h5 h6 hf
  subst h1 h2 h3 h4 h5 h6
  cases o with
  | snapT tmpl _ | snapUpdT tmpl _ =>
    exact ⟨⟨⟨rfl, rfl, rfl, rfl, rfl, rfl⟩, fun q =>
      (snapshotInTx_eq_store e tmpl _ _ _ q).trans (FsRel.store hinj hf _ _ q)⟩, rfl⟩
  | streamTo p => exact ⟨⟨⟨rfl, rfl, rfl, rfl, rfl, rfl⟩, FsRel.store hinj hf _ _⟩, rfl⟩
  | restoreFrom p rd =>
    have hp := hf p
    simp only [pstep, step, POp.abs, ← hp]
    cases hl : lookupP p pfs with
    | none => exact ⟨⟨⟨rfl, rfl, rfl, rfl, rfl, rfl⟩, hf⟩, rfl⟩
    | some f =>
      simp only [restoreVia_eq]
      exact ⟨⟨⟨rfl, rfl, rfl, rfl, rfl, rfl⟩, hf⟩, rfl⟩
  | other o =>
    simp only [pstep, POp.abs]
    cases hff : o.fileFree with
    | false => exact ⟨⟨⟨rfl, rfl, rfl, rfl, rfl, rfl⟩, hf⟩, rfl⟩
    | true =>
      simp only [if_true]
      rw [step_fileFree hff ⟨pdb, pfiles, pn, pi, pl, pf, pp⟩ sfiles]
      exact ⟨⟨⟨rfl, rfl, rfl, rfl, rfl, rfl⟩, hf⟩, rfl⟩

end StorageModel.C17
