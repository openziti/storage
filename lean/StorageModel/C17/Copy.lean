/-
  C17 — the copy step of `persistSnapshot` (boltz/db.go): `io.Copy(f, snapshot)`.

  An `io.Reader` delivers a stream as a sequence of `Read` results `(n bytes, err)`; the io.Reader
  contract allows the last bytes to come TOGETHER with `io.EOF` (compress/flate, gzip,
  iotest.DataErrReader, framed network readers do that), allows short reads and zero-length reads.
  `io.Copy` writes the `n` bytes of every call first and looks at the error afterwards, so:

      persisted bytes = concatenation of everything the reader returned,
                        including the bytes returned together with the error.

  `copyAll` is that loop; `script` is the family of reader behaviours the harness drives
  RestoreFromReader through (a prefix of explicit read sizes — 0 = an empty read — then a fixed
  chunk size; EOF with the last data or on a separate call).
-/
namespace StorageModel.C17

/-- one `Read` call: the bytes it returned and whether `io.EOF` came with them -/
structure ReadResult (α : Type) where
  data : List α
  eof : Bool
  deriving DecidableEq, Repr

/-- `io.Copy`: write what each Read returned, stop after the call that carried EOF -/
def copyAll {α : Type} : List (ReadResult α) → List α
  | [] => []
  | r :: rs => r.data ++ (if r.eof then [] else copyAll rs)

/-- the faulty loop of the seeded change: test for EOF BEFORE writing the bytes that came with it -/
def copyDroppingEofData {α : Type} : List (ReadResult α) → List α
  | [] => []
  | r :: rs => if r.eof then [] else r.data ++ copyDroppingEofData rs

structure Reader where
  pre : List Nat := []        -- sizes of the first reads (0 = a read returning no bytes and no error)
  chunk : Nat := 0            -- afterwards every read returns at most chunk+1 bytes
  eofWithData : Bool := false -- the last bytes come together with io.EOF
  deriving DecidableEq, Repr

/-- the read that exhausts the stream -/
def finalReads {α : Type} (data : List α) (e : Bool) : List (ReadResult α) :=
  if e then [⟨data, true⟩] else [⟨data, false⟩, ⟨[], true⟩]

def scriptChunks {α : Type} (c : Nat) (e : Bool) : Nat → List α → List (ReadResult α)
  | 0, data => finalReads data e
  | fuel + 1, data =>
    if data.length ≤ c + 1 then finalReads data e
    else ⟨data.take (c + 1), false⟩ :: scriptChunks c e fuel (data.drop (c + 1))

def scriptPre {α : Type} (c : Nat) (e : Bool) : List Nat → List α → List (ReadResult α)
  | [], data => scriptChunks c e data.length data
  | n :: ns, data =>
    if data.length ≤ n ∧ 0 < n then finalReads data e
    else ⟨data.take n, false⟩ :: scriptPre c e ns (data.drop n)

/-- the Read results a reader of behaviour `rd` produces for the stream `data` -/
def script {α : Type} (rd : Reader) (data : List α) : List (ReadResult α) :=
  scriptPre rd.chunk rd.eofWithData rd.pre data

/-- the Read results hand over `data` in order, `io.EOF` coming with or after its last bytes and not before (what the
    io.Reader contract asks of a reader that has `data` to give; reads after the one carrying EOF are never made) -/
inductive Delivers {α : Type} : List (ReadResult α) → List α → Prop
  | eof (d : List α) (rest : List (ReadResult α)) : Delivers (⟨d, true⟩ :: rest) d
  | more (d : List α) {rs : List (ReadResult α)} {data : List α} :
      Delivers rs data → Delivers (⟨d, false⟩ :: rs) (d ++ data)

theorem Delivers.copyAll_eq {α : Type} {rs : List (ReadResult α)} {data : List α} (h : Delivers rs data) :
    copyAll rs = data := by
  induction h with
  | eof d rest => simp [copyAll]
  | more d _ ih => simp [copyAll, ih]

theorem Delivers.split {α : Type} {rs : List (ReadResult α)} (n : Nat) {data : List α}
    (h : Delivers rs (data.drop n)) : Delivers (⟨data.take n, false⟩ :: rs) data := by
  have := Delivers.more (data.take n) h
  rwa [List.take_append_drop] at this

theorem finalReads_delivers {α : Type} (data : List α) (e : Bool) : Delivers (finalReads data e) data := by
  cases e
  · simpa [finalReads] using Delivers.more data (Delivers.eof [] [])
  · exact Delivers.eof data []

theorem scriptChunks_delivers {α : Type} (c : Nat) (e : Bool) (fuel : Nat) (data : List α) :
    Delivers (scriptChunks c e fuel data) data := by
  induction fuel generalizing data with
  | zero => exact finalReads_delivers data e
  | succ fuel ih =>
    simp only [scriptChunks]
    split
    · exact finalReads_delivers data e
    · exact (ih _).split _

theorem scriptPre_delivers {α : Type} (c : Nat) (e : Bool) (pre : List Nat) (data : List α) :
    Delivers (scriptPre c e pre data) data := by
  induction pre generalizing data with
  | nil => exact scriptChunks_delivers c e data.length data
  | cons n ns ih =>
    simp only [scriptPre]
    split
    · exact finalReads_delivers data e
    · exact (ih _).split _

theorem script_delivers {α : Type} (rd : Reader) (data : List α) : Delivers (script rd data) data :=
  scriptPre_delivers rd.chunk rd.eofWithData rd.pre data

theorem copyAll_script {α : Type} (rd : Reader) (data : List α) : copyAll (script rd data) = data :=
  (script_delivers rd data).copyAll_eq

end StorageModel.C17
