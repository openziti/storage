import StorageModel.C03.LayeredInv
import StorageModel.C03.Refine
/-
  C03, enlarged model: the engine model refines the specification of LayeredSpec.lean and keeps its
  invariant, for every schema (base path, names, registered indexes, registration order): each
  operation is analysed once (`stepRaw_sim`), refinement and preservation are its two halves.
-/
namespace StorageModel.C03.Layered

theorem heldByOther_iff (f : Ent → Bytes) (ents : Map Id Ent) (id : Id) (v : Bytes) :
    Spec.heldByOther f ents id v = true ↔ HeldByOther f ents id v := by
  unfold Spec.heldByOther HeldByOther
  simp only [List.any_eq_true, Bool.and_eq_true, decide_eq_true_eq, Prod.exists, Map.mem_entries_iff]
  constructor
  · rintro ⟨i, e, hl, hne, hf⟩; exact ⟨i, e, hne, hl, hf⟩
  · rintro ⟨i, e, hne, hl, hf⟩; exact ⟨i, e, hl, hne, hf⟩

theorem mem_violations (sch : Schema) (ents : Map Id Ent) (id : Id) (e : Ent) (x : Err) :
    x ∈ Spec.violations sch ents id e ↔ Listed sch ents id e x := by
  unfold Spec.violations Listed
  simp only [List.mem_append, mem_ite_singleton, heldByOther_iff, or_assoc]

theorem violations_nil_iff (sch : Schema) (ents : Map Id Ent) (id : Id) (e : Ent) :
    Spec.violations sch ents id e = [] ↔ Acceptable sch ents id e := by
  unfold Spec.violations Acceptable
  simp only [List.append_eq_nil_iff, ite_singleton_eq_nil, heldByOther_iff, not_and, not_or, Nat.not_lt, and_assoc]

def abs (s : State) : Spec.SState := ⟨s.base.hasEnts, s.base.ents, s.ext⟩

@[simp] theorem hasExt_abs (s : State) (id : Id) : Spec.hasExt (abs s) id = hasExt s id := rfl

theorem put_agrees {sch : Schema} {s : State} {id : Id} {e : Ent} {hb : Bool} {x : Option Bytes} {r : Except Err C03.State}
    (hi : Inv sch s)
    (h : match r with
      | .ok b' => BInv sch b' ∧ b'.ents = s.base.ents.insert id e ∧ b'.hasEnts = hb ∧ Acceptable sch s.base.ents id e
      | .error y => Listed sch s.base.ents id e y) :
    Agree (Inv sch) abs
      (match (generalizing := false) r with
        | .ok b => .ok ⟨b, match x with | some y => s.ext.insert id y | none => s.ext⟩
        | .error y => .error y) (Spec.put sch (abs s) id e hb x) := by
  cases r with
  | ok b' =>
    simp only at h
    have hv := (violations_nil_iff _ _ _ _).2 h.2.2.2
    simp only [Spec.put, abs, hv]
    refine ⟨⟨h.1, ?_⟩, by cases x <;> simp [abs, h.2.1, h.2.2.1]⟩
    -- child data: the entity written is there; for the others nothing changed on either side
    show ∀ k t, _ → (b'.ents.lookup k).isSome = true
    intro k t hk
    rw [h.2.1, Map.lookup_insert]
    split
    · rfl
    · next hne =>
      refine hi.extIn k t ?_
      cases x with
      | none => exact hk
      | some y => rwa [Map.lookup_insert_of_ne y hne] at hk
  | error y =>
    simp only at h
    have hm := (mem_violations _ _ _ _ _).2 h
    cases hv : Spec.violations sch s.base.ents id e with
    | nil => rw [hv] at hm; cases hm
    | cons a b =>
      simp only [Spec.put, abs, hv]
      refine ⟨by simpa [hv] using hm, fun hp => ?_⟩
      subst hp
      rcases h with ⟨h, _⟩ | ⟨h, _⟩ | ⟨h, _⟩ | ⟨h, _⟩ | ⟨h, _⟩ <;> cases h

theorem updateChild_sim {sch : Schema} {s : State} (hi : Inv sch s) (id : Id) (v : Vals) (tag : Bytes)
    (chk : Option (List Bytes)) :
    Agree (Inv sch) abs (updateChild sch s id v tag chk) (Spec.updateBoth sch (abs s) id v tag chk) := by
  fun_cases Spec.updateBoth sch (abs s) id v tag chk <;> simp only [abs, Spec.hasExt, updateChild] at * <;>
    simp only [hasExt, *, if_true, if_false]
  any_goals exact Agree.refuse nofun
  next hid hx old hold =>
    rw [if_neg (by simpa [hold] using hx)]
    exact put_agrees (x := some _) hi (updateBase_char v chk hi.base hid hold)

theorem stepRaw_sim {sch : Schema} {s : State} (hi : Inv sch s) (op : Op) :
    Agree (Inv sch) abs (stepRaw sch s op) (Spec.step sch (abs s) op) := by
  -- along the case tree of the spec: the engine makes the same tests in the same order, so where the
  -- spec refuses, the engine has failed with that error; what is left are the writes and the delete
  fun_cases Spec.step sch (abs s) op <;> simp only [abs, Spec.hasExt, stepRaw] at * <;>
    simp only [create, createParent, createChild, update, updateParent, delete, hasExt, *, if_true, if_false,
      Bool.false_eq_true, Option.isSome_some, Bool.true_and]
  any_goals exact Agree.refuse nofun
  · next id v _ hid hex =>
    exact put_agrees (x := none) hi
      (afterUpdate_char (persistCreate v) true hi.base hid (.fresh (by simpa using hex)) (Or.inl rfl))
  · next id v tag hid _ =>
    -- a new entity, or the plain parent entity replaced
    cases hold : s.base.ents.lookup id with
    | none =>
      exact put_agrees (x := some tag) hi (afterUpdate_char (persistCreate v) true hi.base hid (.fresh hold) (Or.inl rfl))
    | some old =>
      exact put_agrees (x := some tag) hi
        (afterUpdate_char (persistCreate v) true hi.base hid (.recreate old hold) (Or.inl rfl))
  · exact updateChild_sim hi _ _ _ _
  · exact updateChild_sim hi _ _ _ _
  · next id v _ chk hx hid old hold =>
    rw [if_neg (by simpa [hold] using hx)]
    exact put_agrees (x := none) hi (updateBase_char v chk hi.base hid hold)
  · next via id hid e hold =>
    obtain ⟨b, hd, hg, he, hh⟩ := delete_ok via hi hid hold
    simp only [delete, if_neg hid, hold] at hd
    rw [hd]
    refine Agree.accept ⟨hg, Map.forall_lookup_erase id fun k t hne hk => ?_⟩ (by simp [abs, he, hh])
    rw [he, Map.lookup_erase, if_neg hne]
    exact hi.extIn k t hk

theorem inv_stepRaw {sch : Schema} {s s' : State} {op : Op} (hi : Inv sch s) (h : stepRaw sch s op = .ok s') : Inv sch s' :=
  (stepRaw_sim hi op).inv h

theorem inv_applyOps {sch : Schema} {s s' : State} {ops : List Op} {i : Nat} (hi : Inv sch s)
    (h : applyOps sch s ops i = .ok s') : Inv sch s' := by
  induction ops generalizing s i with
  | nil => simp only [applyOps] at h; cases h; exact hi
  | cons op rest ih =>
    simp only [applyOps] at h
    split at h
    · next s1 h1 => exact ih (inv_stepRaw hi h1) h
    · cases h

theorem inv_txStep {sch : Schema} {s : State} (ops : List Op) (hi : Inv sch s) : Inv sch (txStep sch s ops).1 := by
  unfold txStep
  split
  · next s' h => exact inv_applyOps hi h
  · exact hi

theorem step_of_error {sch : Schema} {s : State} {op : Op} {x : Err} (h : stepRaw sch s op = .error x) :
    step sch s op = (s, .err x) := by
  simp [step, txStep, applyOps, h]

end StorageModel.C03.Layered
