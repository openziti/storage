import StorageModel.C03.Inv
import StorageModel.C03.LayeredSpec
/-
  C03, enlarged model: the invariant under a schema, `ProcessAfterUpdate` over the registered
  constraints in any registration order (`afterUpdate_char`), and the one or two passes of a delete.
-/
namespace StorageModel.C03.Layered
open StorageModel.C03.Layered.Spec (vName vAlias vRoles)

/-- the invariant of the parent store's buckets under a schema: every index mirrors the values it
    sees (nothing, when it is not registered) -/
structure BInv (sch : Schema) (b : C03.State) : Prop where
  uName : UI (vName sch) b.ents b.uName
  uAlias : UI (vAlias sch) b.ents b.uAlias
  sRoles : SI (vRoles sch) b.ents b.sRoles
  noEmptyKeys : NEK b.sRoles
  namesNonEmpty : sch.regName = true → ∀ id e, b.ents.lookup id = some e → e.name ≠ []
  rolesNonEmpty : ∀ id e, b.ents.lookup id = some e → [] ∉ vRoles sch e
  idsNonEmpty : b.ents.lookup [] = none
  entsBucket : ∀ id e, b.ents.lookup id = some e → b.hasEnts = true
  /-- every indexed unique value fits bbolt's key limit -/
  keysFit : ∀ id e, b.ents.lookup id = some e → (vName sch e).length ≤ maxKeySize ∧ (vAlias sch e).length ≤ maxKeySize

/-- … and: child data only inside an existing entity bucket -/
structure Inv (sch : Schema) (s : State) : Prop where
  base : BInv sch s.base
  extIn : ∀ id t, s.ext.lookup id = some t → (s.base.ents.lookup id).isSome = true

theorem inv_empty (sch : Schema) : Inv sch State.empty :=
  ⟨by constructor <;> simp [State.empty, C03.State.empty, UI, SI, NEK], by simp [State.empty]⟩

theorem uniqueAfterK_spec {E : Type} {f : E → Bytes} {ents : Map Id E} {idx : Map Bytes Id} {id : Id} {c n : Bool}
    (new : Bytes) (hui : UI f ents idx) (hfit : ∀ old, ents.lookup id = some old → (f old).length ≤ maxKeySize) :
    match uniqueAfterK c n (((ents.lookup id).map f).getD []) new id idx with
    | .ok idx' => ((∀ e, f e = new → UI f (ents.insert id e) idx') ∧
        (n = false → c = true ∨ (ents.lookup id).isSome = true → (∀ old, ents.lookup id = some old → f old ≠ []) →
          new ≠ []) ∧
        ¬ (new ≠ [] ∧ HeldByOther f ents id new)) ∧
        new.length ≤ maxKeySize
    | .error x => ((x = .nullNotAllowed ∧ n = false ∧ new = []) ∨ (x = .dup ∧ new ≠ [] ∧ HeldByOther f ents id new)) ∨
        (x = .other ∧ new.length > maxKeySize) := by
  have hc := uniqueAfter_spec (c := c) (n := n) (id := id) new hui rfl
  unfold uniqueAfterK
  by_cases hsc : (!c && ((ents.lookup id).map f).getD [] == new) = true
  · rw [if_pos hsc]
    obtain ⟨hc', he⟩ : c = false ∧ ((ents.lookup id).map f).getD [] = new := by simpa using hsc
    subst hc' he
    rw [uniqueAfter_same] at hc
    refine ⟨hc, ?_⟩
    cases hl : ents.lookup id with
    | none => simp
    | some old => simpa [hl] using hfit old hl
  · rw [if_neg hsc]
    cases h : uniqueAfter c n _ new id idx with
    | error x => rw [h] at hc; exact Or.inl hc
    | ok idx' =>
      rw [h] at hc
      dsimp only
      by_cases hl : new.length > maxKeySize
      · rw [if_pos hl]; exact Or.inr ⟨rfl, hl⟩
      · rw [if_neg hl]; exact ⟨hc, Nat.le_of_not_gt hl⟩

/-- the three ways `afterUpdate` is entered: Create of a new entity, Update, and Create through the
    child store over an existing plain parent entity (`createChild`: old values captured, yet
    `IsCreate = true`, so no equal-value shortcut) -/
inductive Entry (b : C03.State) (id : Id) : Bool → Captured → Prop
  | fresh (h : b.ents.lookup id = none) : Entry b id true Captured.none
  | update (old : Ent) (h : b.ents.lookup id = some old) : Entry b id false (capture b id)
  | recreate (old : Ent) (h : b.ents.lookup id = some old) : Entry b id true (capture b id)

/-- the spec's acceptance condition, as a proposition -/
def Acceptable (sch : Schema) (ents : Map Id Ent) (id : Id) (e : Ent) : Prop :=
  (sch.regName = true → e.name ≠ []) ∧
  ¬ (vName sch e ≠ [] ∧ HeldByOther (vName sch) ents id (vName sch e)) ∧
  ¬ (vAlias sch e ≠ [] ∧ HeldByOther (vAlias sch) ents id (vAlias sch e)) ∧
  [] ∉ vRoles sch e ∧
  ((vName sch e).length ≤ maxKeySize ∧ (vAlias sch e).length ≤ maxKeySize)

/-- the errors the spec lists for storing `e` under `id`, as a proposition -/
def Listed (sch : Schema) (ents : Map Id Ent) (id : Id) (e : Ent) (x : Err) : Prop :=
  (x = .nullNotAllowed ∧ sch.regName = true ∧ e.name = []) ∨
  (x = .dup ∧ vName sch e ≠ [] ∧ HeldByOther (vName sch) ents id (vName sch e)) ∨
  (x = .dup ∧ vAlias sch e ≠ [] ∧ HeldByOther (vAlias sch) ents id (vAlias sch e)) ∨
  (x = .other ∧ [] ∈ vRoles sch e) ∨
  (x = .other ∧ ((vName sch e).length > maxKeySize ∨ (vAlias sch e).length > maxKeySize))

theorem Entry.capture_eq {b : C03.State} {id : Id} {c : Bool} {cap : Captured} (hs : Entry b id c cap) :
    cap = capture b id := by
  cases hs with
  | fresh h => exact (capture_fresh h).symm
  | update old h => rfl
  | recreate old h => rfl

theorem Entry.create_or_some {b : C03.State} {id : Id} {c : Bool} {cap : Captured} (hs : Entry b id c cap) :
    c = true ∨ (b.ents.lookup id).isSome = true := by
  cases hs with
  | fresh h => exact Or.inl rfl
  | update old h => exact Or.inr (by rw [h]; rfl)
  | recreate old h => exact Or.inl rfl

/-! A constraint that is not registered is skipped. Its index sees the empty value of every entity
(`vName`, `vAlias`, `vRoles`), and over empty values the step of a nullable index changes nothing: so,
registered or not, each step is the registered one (`uniqueAfterK`, `setAfter`) over the values its
index sees — for `name`, non-nullable exactly when registered — and one characterisation per step
(`uniqueAfterK_spec`, `setAfter_spec`) serves both cases. -/

theorem nameStep_eq (sch : Schema) (c : Bool) (b : C03.State) (id : Id) (e : Ent) (idx : Map Bytes Id) :
    nameStep sch c (capture b id).name e.name id idx =
      uniqueAfterK c (!sch.regName) (((b.ents.lookup id).map (vName sch)).getD []) (vName sch e) id idx := by
  unfold nameStep vName capture
  cases sch.regName <;> cases c <;> cases b.ents.lookup id <;> rfl

theorem aliasStep_eq (sch : Schema) (c : Bool) (b : C03.State) (id : Id) (e : Ent) (idx : Map Bytes Id) :
    aliasStep sch c (capture b id).alias (e.alias.getD []) id idx =
      uniqueAfterK c true (((b.ents.lookup id).map (vAlias sch)).getD []) (vAlias sch e) id idx := by
  unfold aliasStep vAlias capture
  cases sch.regAlias <;> cases c <;> cases b.ents.lookup id <;> rfl

theorem rolesStep_eq (sch : Schema) (b : C03.State) (id : Id) (e : Ent) (idx : Map Bytes (List Id)) :
    rolesStep sch (capture b id).roles e.roles id idx =
      setAfter (((b.ents.lookup id).map (vRoles sch)).getD []) (vRoles sch e) id idx := by
  unfold rolesStep vRoles capture
  cases sch.regRoles <;> cases b.ents.lookup id <;> rfl

theorem vName_reg {sch : Schema} (h : sch.regName = true) (e : Ent) : vName sch e = e.name := by
  simp [vName, h]

theorem nameStep_char {sch : Schema} {b : C03.State} {id : Id} {c : Bool} (e : Ent) (hi : BInv sch b)
    (hcs : c = true ∨ (b.ents.lookup id).isSome = true) :
    match nameStep sch c (capture b id).name e.name id b.uName with
    | .ok un => UI (vName sch) (b.ents.insert id e) un ∧ (sch.regName = true → e.name ≠ []) ∧
        ¬ (vName sch e ≠ [] ∧ HeldByOther (vName sch) b.ents id (vName sch e)) ∧ (vName sch e).length ≤ maxKeySize
    | .error x => Listed sch b.ents id e x := by
  have hc := uniqueAfterK_spec (c := c) (n := !sch.regName) (vName sch e) hi.uName
    (fun old hold => (hi.keysFit id old hold).1)
  rw [nameStep_eq]
  generalize uniqueAfterK c (!sch.regName) _ (vName sch e) id b.uName = q at hc ⊢
  cases q with
  | ok un =>
    refine ⟨hc.1.1 e rfl, fun hreg => ?_, hc.1.2.2, hc.2⟩
    rw [← vName_reg hreg e]
    exact hc.1.2.1 (by rw [hreg]; rfl) hcs fun old hold => by
      rw [vName_reg hreg old]; exact hi.namesNonEmpty hreg id old hold
  | error x =>
    rcases hc with (⟨h1, h2, h3⟩ | h1) | ⟨h1, h2⟩
    · have hreg : sch.regName = true := by simpa using h2
      exact Or.inl ⟨h1, hreg, (vName_reg hreg e).symm.trans h3⟩
    · exact Or.inr (Or.inl h1)
    · exact Or.inr (Or.inr (Or.inr (Or.inr ⟨h1, Or.inl h2⟩)))

theorem aliasStep_char {sch : Schema} {b : C03.State} (id : Id) (c : Bool) (e : Ent) (hi : BInv sch b) :
    match aliasStep sch c (capture b id).alias (e.alias.getD []) id b.uAlias with
    | .ok ua => UI (vAlias sch) (b.ents.insert id e) ua ∧
        ¬ (vAlias sch e ≠ [] ∧ HeldByOther (vAlias sch) b.ents id (vAlias sch e)) ∧ (vAlias sch e).length ≤ maxKeySize
    | .error x => Listed sch b.ents id e x := by
  have hc := uniqueAfterK_spec (c := c) (n := true) (vAlias sch e) hi.uAlias
    (fun old hold => (hi.keysFit id old hold).2)
  rw [aliasStep_eq]
  generalize uniqueAfterK c true _ (vAlias sch e) id b.uAlias = q at hc ⊢
  cases q with
  | ok ua => exact ⟨hc.1.1 e rfl, hc.1.2.2, hc.2⟩
  | error x =>
    rcases hc with (⟨_, h2, _⟩ | h1) | ⟨h1, h2⟩
    · cases h2
    · exact Or.inr (Or.inr (Or.inl h1))
    · exact Or.inr (Or.inr (Or.inr (Or.inr ⟨h1, Or.inr h2⟩)))

theorem rolesStep_char {sch : Schema} {b : C03.State} (id : Id) (e : Ent) (hi : BInv sch b) :
    match rolesStep sch (capture b id).roles e.roles id b.sRoles with
    | .ok sr => SI (vRoles sch) (b.ents.insert id e) sr ∧ NEK sr ∧ [] ∉ vRoles sch e
    | .error x => Listed sch b.ents id e x := by
  have hold : ∀ v, v ∈ ((b.ents.lookup id).map (vRoles sch)).getD [] ↔ ∃ o, b.ents.lookup id = some o ∧ v ∈ vRoles sch o := by
    cases b.ents.lookup id <;> simp
  have hc := setAfter_spec e hi.sRoles hi.noEmptyKeys hold fun h => by
    obtain ⟨o, ho, hm⟩ := (hold []).1 h
    exact hi.rolesNonEmpty id o ho hm
  rw [rolesStep_eq]
  generalize setAfter _ (vRoles sch e) id b.sRoles = q at hc ⊢
  cases q with
  | ok sr => exact hc
  | error x => exact Or.inr (Or.inr (Or.inr (Or.inl hc)))
theorem seq3_cases {A B C : Type} (p : Perm) (rn : Except Err A) (ra : Except Err B) (rr : Except Err C)
    (Q : Err → Prop) (hn : ∀ x, rn = .error x → Q x) (ha : ∀ x, ra = .error x → Q x) (hr : ∀ x, rr = .error x → Q x) :
    match seq3 p rn ra rr with
    | .ok (a, b, c) => rn = .ok a ∧ ra = .ok b ∧ rr = .ok c
    | .error x => Q x := by
  cases rn with
  | ok a =>
    cases ra with
    | ok b =>
      cases rr with
      | ok c => cases p <;> exact ⟨rfl, rfl, rfl⟩
      | error x => cases p <;> exact hr x rfl
    | error x => cases rr <;> cases p <;> first | exact ha x rfl | exact hr _ rfl
  | error x => cases ra <;> cases rr <;> cases p <;> first | exact hn x rfl | exact ha _ rfl | exact hr _ rfl

/-- Each constraint is characterised on its own (`nameStep_char`, `aliasStep_char`, `rolesStep_char`)
    and `seq3_cases` forgets the registration order; hence the error is only known to be one the spec
    lists (`Listed`), where the base model names the first in its fixed order (`FirstFault`). -/
theorem afterUpdate_char {sch : Schema} {b : C03.State} {id : Id} {c : Bool} {cap : Captured} (e : Ent) (hb : Bool)
    (hi : BInv sch b) (hid : id ≠ []) (hs : Entry b id c cap)
    (hhas : hb = true ∨ ((b.ents.lookup id).isSome = true ∧ hb = b.hasEnts)) :
    match afterUpdate sch c cap { b with hasEnts := hb, ents := b.ents.insert id e } id with
    | .ok b' => BInv sch b' ∧ b'.ents = b.ents.insert id e ∧ b'.hasEnts = hb ∧ Acceptable sch b.ents id e
    | .error x => Listed sch b.ents id e x := by
  obtain rfl := hs.capture_eq
  have hn := nameStep_char e hi hs.create_or_some
  have ha := aliasStep_char id c e hi
  have hr := rolesStep_char id e hi
  simp only [afterUpdate, Map.lookup_insert, if_true, evalName, evalAlias, evalRoles]
  generalize nameStep sch c _ e.name id b.uName = rn at hn ⊢
  generalize aliasStep sch c _ _ id b.uAlias = ra at ha ⊢
  generalize rolesStep sch _ e.roles id b.sRoles = rr at hr ⊢
  have hseq := seq3_cases sch.perm rn ra rr (Listed sch b.ents id e)
    (by intro x hx; rw [hx] at hn; exact hn) (by intro x hx; rw [hx] at ha; exact ha) (by intro x hx; rw [hx] at hr; exact hr)
  generalize seq3 sch.perm rn ra rr = q at hseq
  cases q with
  | error x => exact hseq
  | ok t =>
    obtain ⟨un, ua, sr⟩ := t
    simp only at hseq ⊢
    rw [hseq.1] at hn; rw [hseq.2.1] at ha; rw [hseq.2.2] at hr
    simp only at hn ha hr
    exact ⟨⟨hn.1, ha.1, hr.1, hr.2.1, fun hreg => Map.forall_lookup_insert (hn.2.1 hreg) (hi.namesNonEmpty hreg),
      Map.forall_lookup_insert hr.2.2 hi.rolesNonEmpty, (Map.lookup_insert_of_ne e fun h => hid h.symm).trans hi.idsNonEmpty,
      fun _ _ _ => hasEnts_written hhas hi.entsBucket, Map.forall_lookup_insert ⟨hn.2.2.2, ha.2.2⟩ hi.keysFit⟩,
      trivial, trivial, hn.2.1, hn.2.2.1, ha.2.1, hr.2.2, hn.2.2.2, ha.2.2⟩

theorem updateBase_char {sch : Schema} {b : C03.State} {id : Id} {old : Ent} (v : Vals) (chk : Option (List Bytes))
    (hi : BInv sch b) (hid : id ≠ []) (hold : b.ents.lookup id = some old) :
    match updateBase sch b id old v chk with
    | .ok b' => BInv sch b' ∧ b'.ents = b.ents.insert id (persist old v (resolveOpt sch chk)) ∧ b'.hasEnts = b.hasEnts ∧
        Acceptable sch b.ents id (persist old v (resolveOpt sch chk))
    | .error x => Listed sch b.ents id (persist old v (resolveOpt sch chk)) x := by
  exact afterUpdate_char (persist old v (resolveOpt sch chk)) b.hasEnts hi hid (.update old hold)
    (Or.inr ⟨by simp [hold], rfl⟩)

/-- A pass removes from every index the value that index sees of the entity: an index that is not
    registered sees nothing, and the step it skips would remove nothing. -/
theorem passBeforeDelete_eq {sch : Schema} {e : Ent} (hr : [] ∉ vRoles sch e) (s : C03.State) (id : Id) :
    passBeforeDelete sch s e id = .ok { s with
      uName := uniqueBeforeDelete (vName sch e) s.uName, uAlias := uniqueBeforeDelete (vAlias sch e) s.uAlias,
      sRoles := (vRoles sch e).foldl (setIdxDel id) s.sRoles } := by
  have : passBeforeDelete sch s e id =
      match setBeforeDelete (vRoles sch e) id s.sRoles with
      | .ok sr => .ok { s with uName := uniqueBeforeDelete (vName sch e) s.uName,
                               uAlias := uniqueBeforeDelete (vAlias sch e) s.uAlias, sRoles := sr }
      | .error x => .error x := by
    unfold passBeforeDelete vName vAlias vRoles
    cases sch.regName <;> cases sch.regAlias <;> cases sch.regRoles <;> rfl
  rw [this, setBeforeDelete_eq hr]

/-- after the first pass the indexes already describe the table without the entity, which is still in
    its bucket -/
theorem pass_first {sch : Schema} {s b : C03.State} {id : Id} {e : Ent} (hi : BInv sch s) (hold : s.ents.lookup id = some e)
    (h : passBeforeDelete sch s e id = .ok b) :
    BInv sch { b with ents := b.ents.erase id } ∧ b.ents = s.ents ∧ b.hasEnts = s.hasEnts ∧
    (vName sch e ≠ [] → b.uName.lookup (vName sch e) = none) ∧ (vAlias sch e ≠ [] → b.uAlias.lookup (vAlias sch e) = none) := by
  have hr := hi.rolesNonEmpty id e hold
  rw [passBeforeDelete_eq hr] at h
  cases h
  have hS := setBeforeDelete_ok hi.sRoles hi.noEmptyKeys hold (setBeforeDelete_eq hr id s.sRoles)
  exact ⟨⟨uniqueBeforeDelete_ok hi.uName hold, uniqueBeforeDelete_ok hi.uAlias hold, hS.1, hS.2,
    fun hreg => Map.forall_lookup_erase id (fun i y _ => hi.namesNonEmpty hreg i y),
    Map.forall_lookup_erase id (fun i y _ => hi.rolesNonEmpty i y), Map.lookup_erase_none id hi.idsNonEmpty,
    Map.forall_lookup_erase id (fun i y _ => hi.entsBucket i y), Map.forall_lookup_erase id fun i y _ => hi.keysFit i y⟩,
    rfl, rfl, uniqueBeforeDelete_lookup_self _ _, uniqueBeforeDelete_lookup_self _ _⟩

theorem pass_again {sch : Schema} {s b : C03.State} {id : Id} {e : Ent} (hg : BInv sch { s with ents := s.ents.erase id })
    (hr : [] ∉ vRoles sch e) (hn : vName sch e ≠ [] → s.uName.lookup (vName sch e) = none)
    (ha : vAlias sch e ≠ [] → s.uAlias.lookup (vAlias sch e) = none) (h : passBeforeDelete sch s e id = .ok b) :
    BInv sch { b with ents := b.ents.erase id } ∧ b.ents = s.ents ∧ b.hasEnts = s.hasEnts := by
  rw [passBeforeDelete_eq hr] at h
  cases h
  have hS := setBeforeDelete_gone (ents := s.ents.erase id) hg.sRoles hg.noEmptyKeys (by simp) (setBeforeDelete_eq hr id s.sRoles)
  exact ⟨⟨uniqueBeforeDelete_gone hg.uName hn, uniqueBeforeDelete_gone hg.uAlias ha, hS.1, hS.2, hg.namesNonEmpty,
    hg.rolesNonEmpty, hg.idsNonEmpty, hg.entsBucket, hg.keysFit⟩, rfl, rfl⟩

theorem delete_ok {sch : Schema} {s : State} (via : Sel) {id : Id} {e : Ent} (hi : Inv sch s) (hid : id ≠ [])
    (hold : s.base.ents.lookup id = some e) :
    ∃ b : C03.State, delete sch s via id = .ok ⟨{ b with ents := b.ents.erase id }, s.ext.erase id⟩ ∧
      BInv sch { b with ents := b.ents.erase id } ∧ b.ents = s.base.ents ∧ b.hasEnts = s.base.hasEnts := by
  have hr : [] ∉ vRoles sch e := hi.base.rolesNonEmpty id e hold
  have hp := passBeforeDelete_eq hr
  obtain ⟨hg1, he1, hh1, hl1, hl2⟩ := pass_first hi.base hold (hp s.base id)
  unfold delete
  rw [if_neg hid]
  simp only [hold]
  by_cases hx : (s.ext.lookup id).isSome = true
  · obtain ⟨hg2, he2, hh2⟩ := pass_again hg1 hr hl1 hl2 (hp _ id)
    exact ⟨_, by simp only [hx, if_true, hp], hg2, he2.trans he1, hh2.trans hh1⟩
  · exact ⟨_, by simp only [hx, Bool.false_eq_true, if_false, hp], hg1, he1, hh1⟩

end StorageModel.C03.Layered
