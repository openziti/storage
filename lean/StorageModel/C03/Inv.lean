import StorageModel.C03.Model
/-
  C03: the index invariants (`UI`, `SI`, `NEK`; generic in the entity type, C06 builds on the same
  lemmas) and what one constraint step does to them.
-/
namespace StorageModel.C03

def UI {E : Type} (f : E → Bytes) (ents : Map Id E) (idx : Map Bytes Id) : Prop :=
  ∀ v id, idx.lookup v = some id ↔ (v ≠ [] ∧ ∃ e, ents.lookup id = some e ∧ f e = v)

def HeldByOther {E : Type} (f : E → Bytes) (ents : Map Id E) (id : Id) (v : Bytes) : Prop :=
  ∃ i e, i ≠ id ∧ ents.lookup i = some e ∧ f e = v

theorem bind_ok {α β : Type} {x : Except Err α} {f : α → Except Err β} {b : β} (h : x >>= f = .ok b) :
    ∃ a, x = .ok a ∧ f a = .ok b := by
  cases x with
  | error e => cases h
  | ok a => exact ⟨a, rfl, h⟩

/-! `uniqueAfter` either takes the equal-value shortcut or removes the captured value
(`uniqueBeforeDelete`) and then enters the new one. -/

theorem uniqueAfter_same (n : Bool) (v : Bytes) (id : Id) (idx : Map Bytes Id) :
    uniqueAfter false n v v id idx = .ok idx := by
  simp [uniqueAfter]

theorem uniqueAfter_no_shortcut {c : Bool} {old new : Bytes} (h : c = true ∨ old ≠ new) (n : Bool) (id : Id)
    (idx : Map Bytes Id) :
    uniqueAfter c n old new id idx =
      if new ≠ [] then
        match (uniqueBeforeDelete old idx).lookup new with
        | some _ => .error .dup
        | none => .ok ((uniqueBeforeDelete old idx).insert new id)
      else if !n then .error .nullNotAllowed else .ok (uniqueBeforeDelete old idx) := by
  have : (!c && old == new) = false := by
    rcases h with rfl | h
    · rfl
    · simp [h]
  simp only [uniqueAfter, this, uniqueBeforeDelete]
  rfl

theorem uniqueAfter_null {isCreate : Bool} {old : Bytes} {id : Id} {idx : Map Bytes Id}
    (h : isCreate = true ∨ old ≠ []) :
    uniqueAfter isCreate false old [] id idx = .error .nullNotAllowed := by
  rw [uniqueAfter_no_shortcut h]; rfl

theorem uniqueAfter_nonempty {c : Bool} {old new : Bytes} {id : Id} {idx idx' : Map Bytes Id}
    (h : uniqueAfter c false old new id idx = .ok idx') (hc : c = true ∨ old ≠ []) : new ≠ [] := by
  intro hnew
  subst hnew
  rw [uniqueAfter_null hc] at h
  cases h

theorem lookup_uniqueBeforeDelete (cap : Bytes) (idx : Map Bytes Id) (v : Bytes) :
    (uniqueBeforeDelete cap idx).lookup v = if cap ≠ [] ∧ v = cap then none else idx.lookup v := by
  unfold uniqueBeforeDelete
  by_cases hc : cap ≠ []
  · rw [if_pos hc, Map.lookup_erase]; simp [hc]
  · rw [if_neg hc, if_neg fun h => hc h.1]

section
variable {E : Type} {f : E → Bytes} {ents : Map Id E} {idx idx' : Map Bytes Id} {id : Id} {cap : Bytes}

theorem UI_erase (hui : UI f ents idx) (hcap : cap = ((ents.lookup id).map f).getD []) :
    UI f (ents.erase id) (uniqueBeforeDelete cap idx) := by
  have hself : cap ≠ [] → idx.lookup cap = some id := by
    intro hne
    cases hl : ents.lookup id with
    | none => rw [hl] at hcap; exact absurd hcap hne
    | some o => rw [hl] at hcap; exact (hui cap id).2 ⟨hne, o, hl, hcap.symm⟩
  have hid : ∀ v, idx.lookup v = some id → v = cap ∧ cap ≠ [] := by
    intro v h
    obtain ⟨hv, e, he, hf⟩ := (hui v id).1 h
    rw [he] at hcap
    have hc : cap = v := hcap.trans hf
    exact ⟨hc.symm, hc ▸ hv⟩
  intro v i
  rw [lookup_uniqueBeforeDelete, Map.lookup_erase]
  by_cases hi : i = id
  · subst hi
    rw [if_pos rfl]
    constructor
    · intro h
      split at h
      · cases h
      · next hne => exact absurd ⟨(hid v h).2, (hid v h).1⟩ hne
    · rintro ⟨_, _, h, _⟩; cases h
  · rw [if_neg hi, ← hui v i]
    split
    · next hc =>
      rw [hc.2, hself hc.1]
      exact ⟨nofun, fun h => absurd (Option.some.inj h).symm hi⟩
    · rfl

theorem UI_put {e : E} (hui : UI f (ents.erase id) idx) (hfree : f e ≠ [] → idx.lookup (f e) = none) :
    UI f (ents.insert id e) (if f e ≠ [] then idx.insert (f e) id else idx) := by
  have hno : ∀ v, idx.lookup v ≠ some id := by
    intro v h
    obtain ⟨_, _, he, _⟩ := (hui v id).1 h
    rw [Map.lookup_erase, if_pos rfl] at he
    cases he
  have hoth : ∀ v i, i ≠ id → (idx.lookup v = some i ↔ v ≠ [] ∧ ∃ e', ents.lookup i = some e' ∧ f e' = v) := by
    intro v i hi
    have := hui v i
    rwa [Map.lookup_erase, if_neg hi] at this
  intro v i
  rw [Map.lookup_insert (m := ents)]
  by_cases hi : i = id
  · subst hi
    rw [if_pos rfl]
    split
    · next hne =>
      rw [Map.lookup_insert]
      split
      · next hv => subst hv; exact ⟨fun _ => ⟨hne, e, rfl, rfl⟩, fun _ => rfl⟩
      · next hv =>
        constructor
        · intro h; exact absurd h (hno v)
        · rintro ⟨_, e', he, hf⟩; cases he; exact absurd hf.symm hv
    · next hz =>
      constructor
      · intro h; exact absurd h (hno v)
      · rintro ⟨hv, e', he, hf⟩; cases he; exact absurd (fun h => hv (hf.symm.trans h)) hz
  · rw [if_neg hi, ← hoth v i hi]
    split
    · next hne =>
      rw [Map.lookup_insert]
      split
      · next hv =>
        subst hv
        rw [hfree hne]
        constructor
        · intro h; exact absurd (Option.some.inj h).symm hi
        · intro h; cases h
      · rfl
    · rfl

theorem UI_erase_lookup (hui : UI f (ents.erase id) idx) (v : Bytes) :
    (∃ i, idx.lookup v = some i) ↔ v ≠ [] ∧ HeldByOther f ents id v := by
  constructor
  · rintro ⟨i, hi⟩
    obtain ⟨hv, e, he, hf⟩ := (hui v i).1 hi
    rw [Map.lookup_erase] at he
    split at he
    · cases he
    · next hne => exact ⟨hv, i, e, hne, he, hf⟩
  · rintro ⟨hv, i, e, hne, he, hf⟩
    exact ⟨i, (hui v i).2 ⟨hv, e, by rw [Map.lookup_erase, if_neg hne]; exact he, hf⟩⟩

theorem UI_same {e : E} (hui : UI f ents idx) (hcap : f e = ((ents.lookup id).map f).getD []) :
    UI f (ents.insert id e) idx := by
  intro v i
  rw [hui v i, Map.lookup_insert]
  split
  · next h =>
    subst h
    cases hl : ents.lookup i with
    | none =>
      have hz : f e = [] := by simpa [hl] using hcap
      simp only [Option.some.injEq]
      constructor
      · rintro ⟨_, _, h, _⟩; cases h
      · rintro ⟨hv, _, rfl, h⟩; exact absurd (h.symm.trans hz) hv
    | some old =>
      have hz : f e = f old := by simpa [hl] using hcap
      simp [hz]
  · rfl

theorem UI_not_held (hui : UI f ents idx) (hcap : cap = ((ents.lookup id).map f).getD []) :
    ¬ (cap ≠ [] ∧ HeldByOther f ents id cap) := by
  rintro ⟨hv, i, e', hne, he, hf⟩
  cases hl : ents.lookup id with
  | none => simp [hl] at hcap; exact hv hcap
  | some old =>
    have hz : cap = f old := by simpa [hl] using hcap
    have h1 := (hui cap i).2 ⟨hv, e', he, hf⟩
    have h2 := (hui cap id).2 ⟨hv, old, hl, hz.symm⟩
    rw [h1] at h2; cases h2; exact hne rfl

/-- The middle clause of the `.ok` case (a non-nullable index gets a non-empty value) asks that the
    stored value is not empty: the equal-value shortcut returns without looking at the value. -/
theorem uniqueAfter_spec {c n : Bool} (new : Bytes) (hui : UI f ents idx)
    (hcap : cap = ((ents.lookup id).map f).getD []) :
    match uniqueAfter c n cap new id idx with
    | .ok idx' => (∀ e, f e = new → UI f (ents.insert id e) idx') ∧
        (n = false → c = true ∨ (ents.lookup id).isSome = true → (∀ old, ents.lookup id = some old → f old ≠ []) →
          new ≠ []) ∧
        ¬ (new ≠ [] ∧ HeldByOther f ents id new)
    | .error x => (x = .nullNotAllowed ∧ n = false ∧ new = []) ∨
        (x = .dup ∧ new ≠ [] ∧ HeldByOther f ents id new) := by
  by_cases hsc : c = true ∨ cap ≠ new
  · have hb := UI_erase hui hcap
    have hl := UI_erase_lookup hb new
    rw [uniqueAfter_no_shortcut hsc]
    by_cases hnew : new = []
    · rw [if_neg (fun h => h hnew)]
      cases n
      · exact Or.inl ⟨rfl, rfl, hnew⟩
      · refine ⟨fun e he => ?_, nofun, fun h => h.1 hnew⟩
        have := UI_put (e := e) hb (fun h => absurd (he.trans hnew) h)
        rwa [if_neg (fun h => h (he.trans hnew))] at this
    · rw [if_pos hnew]
      cases hlk : (uniqueBeforeDelete cap idx).lookup new with
      | some i => exact Or.inr ⟨rfl, hnew, (hl.1 ⟨i, hlk⟩).2⟩
      | none =>
        refine ⟨fun e he => ?_, fun _ _ _ => hnew, fun h => ?_⟩
        · subst he
          have := UI_put (e := e) hb (fun _ => hlk)
          rwa [if_pos hnew] at this
        · obtain ⟨i, hi⟩ := hl.2 h
          rw [hlk] at hi; cases hi
  · have hc : c = false := Bool.eq_false_iff.2 fun h => hsc (Or.inl h)
    have he : cap = new := Classical.not_not.1 fun h => hsc (Or.inr h)
    subst hc he
    rw [uniqueAfter_same]
    refine ⟨fun e he => UI_same hui (he.trans hcap), fun _ hex hne => ?_, UI_not_held hui hcap⟩
    -- the shortcut was taken over the stored value, which is not empty
    obtain ⟨old, hold⟩ := Option.isSome_iff_exists.1 (hex.resolve_left Bool.noConfusion)
    rw [hcap, hold]
    exact hne old hold

theorem uniqueAfter_ok {e : E} {c n : Bool} (hui : UI f ents idx) (hcap : cap = ((ents.lookup id).map f).getD [])
    (h : uniqueAfter c n cap (f e) id idx = .ok idx') : UI f (ents.insert id e) idx' := by
  have := uniqueAfter_spec (c := c) (n := n) (f e) hui hcap
  rw [h] at this
  exact this.1 e rfl

theorem uniqueBeforeDelete_ok {e : E} (hui : UI f ents idx) (hold : ents.lookup id = some e) :
    UI f (ents.erase id) (uniqueBeforeDelete (f e) idx) :=
  UI_erase (id := id) hui (by simp [hold])

end

def NEK (idx : Map Bytes (List Id)) : Prop := ∀ v ids, idx.lookup v = some ids → ids ≠ []

theorem getD_lookup_setIdxDel (id : Id) (idx : Map Bytes (List Id)) (v' v : Bytes) :
    ((setIdxDel id idx v').lookup v).getD [] =
      if v = v' then setErase id ((idx.lookup v').getD []) else (idx.lookup v).getD [] := by
  unfold setIdxDel
  dsimp only
  split
  · next h =>
    rw [Map.lookup_erase]
    split
    · exact h.symm
    · rfl
  · rw [Map.lookup_insert]
    split <;> rfl

theorem mem_setIdxDel (id : Id) (idx : Map Bytes (List Id)) (v' v : Bytes) (i : Id) :
    i ∈ ((setIdxDel id idx v').lookup v).getD [] ↔ (i ∈ (idx.lookup v).getD [] ∧ ¬ (i = id ∧ v = v')) := by
  rw [getD_lookup_setIdxDel]
  split
  · next hv =>
    subst hv
    rw [mem_setErase]
    exact ⟨fun h => ⟨h.2, fun h' => h.1 h'.1⟩, fun h => ⟨fun hi => h.2 ⟨hi, rfl⟩, h.1⟩⟩
  · next hv => exact ⟨fun h => ⟨h, fun h' => hv h'.2⟩, fun h => h.1⟩

theorem nek_setIdxDel (id : Id) (idx : Map Bytes (List Id)) (v' : Bytes) (h : NEK idx) : NEK (setIdxDel id idx v') := by
  intro v ids
  unfold setIdxDel
  simp only
  split
  · simp only [Map.lookup_erase]; split
    · simp
    · exact h v ids
  · next hne =>
    simp only [Map.lookup_insert]; split
    · intro h2; cases h2; exact hne
    · exact h v ids

theorem mem_setIdxAdd (id : Id) (idx : Map Bytes (List Id)) (v' v : Bytes) (i : Id) :
    i ∈ ((setIdxAdd id idx v').lookup v).getD [] ↔ (i ∈ (idx.lookup v).getD [] ∨ (i = id ∧ v = v')) := by
  unfold setIdxAdd
  rw [Map.lookup_insert]
  split
  · next hv =>
    subst hv
    rw [Option.getD_some, mem_setInsert]
    exact ⟨fun h => h.elim (fun hi => Or.inr ⟨hi, rfl⟩) Or.inl, fun h => h.elim Or.inr fun h' => Or.inl h'.1⟩
  · next hv => exact ⟨Or.inl, fun h => h.elim (fun hm => hm) fun h' => absurd h'.2 hv⟩

theorem nek_setIdxAdd (id : Id) (idx : Map Bytes (List Id)) (v' : Bytes) (h : NEK idx) : NEK (setIdxAdd id idx v') := by
  intro v ids
  unfold setIdxAdd
  simp only [Map.lookup_insert]; split
  · intro h2; cases h2
    intro h3
    have : id ∈ setInsert id ((Map.lookup idx v').getD []) := by simp
    rw [h3] at this; simp at this
  · exact h v ids

theorem mem_foldl_del (id : Id) (vals : List Bytes) (idx : Map Bytes (List Id)) (v : Bytes) (i : Id) :
    i ∈ ((vals.foldl (setIdxDel id) idx).lookup v).getD [] ↔ (i ∈ (idx.lookup v).getD [] ∧ ¬ (i = id ∧ v ∈ vals)) := by
  induction vals generalizing idx with
  | nil => simp
  | cons a t ih =>
    simp only [List.foldl_cons, ih, mem_setIdxDel, List.mem_cons, and_or_left, not_or, and_assoc]

theorem nek_foldl_del (id : Id) (vals : List Bytes) (idx : Map Bytes (List Id)) (h : NEK idx) :
    NEK (vals.foldl (setIdxDel id) idx) := by
  induction vals generalizing idx with
  | nil => exact h
  | cons a t ih => exact ih _ (nek_setIdxDel id idx a h)

theorem mem_foldl_add (id : Id) (vals : List Bytes) (idx : Map Bytes (List Id)) (v : Bytes) (i : Id) :
    i ∈ ((vals.foldl (setIdxAdd id) idx).lookup v).getD [] ↔ (i ∈ (idx.lookup v).getD [] ∨ (i = id ∧ v ∈ vals)) := by
  induction vals generalizing idx with
  | nil => simp
  | cons a t ih =>
    simp only [List.foldl_cons, ih, mem_setIdxAdd, List.mem_cons, and_or_left, or_assoc]

theorem nek_foldl_add (id : Id) (vals : List Bytes) (idx : Map Bytes (List Id)) (h : NEK idx) :
    NEK (vals.foldl (setIdxAdd id) idx) := by
  induction vals generalizing idx with
  | nil => exact h
  | cons a t ih => exact ih _ (nek_setIdxAdd id idx a h)

theorem changedAt_false (a b : List Bytes) (hl : a.length = b.length) : changedAt a b = false ↔ a = b := by
  induction a generalizing b with
  | nil => cases b <;> simp_all [changedAt]
  | cons x t ih =>
    cases b with
    | nil => simp at hl
    | cons y u =>
      simp only [List.length_cons, Nat.add_right_cancel_iff] at hl
      simp only [changedAt, ne_eq, ite_not, List.cons.injEq]
      split
      · next h => subst h; simp [ih u hl]
      · next h => simp [h]

theorem setChanged_false (a b : List Bytes) : setChanged a b = false ↔ a = b := by
  unfold setChanged
  by_cases hl : a.length = b.length
  · simp [hl, changedAt_false a b hl]
  · simp [hl]; intro h; subst h; exact hl rfl

theorem setAfter_cases (old new : List Bytes) (id : Id) (idx : Map Bytes (List Id)) :
    (old = new ∧ setAfter old new id idx = .ok idx) ∨
    ([] ∈ old ∧ setAfter old new id idx = .error .panic) ∨
    ([] ∈ new ∧ setAfter old new id idx = .error .other) ∨
    ([] ∉ new ∧ setAfter old new id idx = .ok (new.foldl (setIdxAdd id) (old.foldl (setIdxDel id) idx))) := by
  by_cases he : old = new
  · exact Or.inl ⟨he, by simp [setAfter, (setChanged_false old new).2 he]⟩
  · have hc : setChanged old new = true := by
      cases h : setChanged old new
      · exact absurd ((setChanged_false old new).1 h) he
      · rfl
    by_cases ho : [] ∈ old
    · exact Or.inr (Or.inl ⟨ho, by simp [setAfter, hc, ho]⟩)
    · by_cases hn : [] ∈ new
      · exact Or.inr (Or.inr (Or.inl ⟨hn, by simp [setAfter, hc, ho, hn]⟩))
      · exact Or.inr (Or.inr (Or.inr ⟨hn, by simp [setAfter, hc, ho, hn]⟩))

def SI {E : Type} (r : E → List Bytes) (ents : Map Id E) (idx : Map Bytes (List Id)) : Prop :=
  ∀ v id, id ∈ (idx.lookup v).getD [] ↔ ∃ e, ents.lookup id = some e ∧ v ∈ r e

section
variable {E : Type} {r : E → List Bytes} {ents : Map Id E} {idx idx' : Map Bytes (List Id)} {id : Id}

theorem SI_replace {old : List Bytes} {e : E} (hsi : SI r ents idx)
    (hold : ∀ v, v ∈ old ↔ ∃ o, ents.lookup id = some o ∧ v ∈ r o)
    (h : ∀ v i, i ∈ (idx'.lookup v).getD [] ↔
      (i ∈ (idx.lookup v).getD [] ∧ ¬ (i = id ∧ v ∈ old)) ∨ (i = id ∧ v ∈ r e)) :
    SI r (ents.insert id e) idx' := by
  intro v i
  rw [h v i, Map.lookup_insert]
  by_cases hi : i = id
  · subst hi
    rw [if_pos rfl]
    constructor
    · rintro (⟨h1, h2⟩ | ⟨_, h⟩)
      · exact absurd ⟨rfl, (hold v).2 ((hsi v i).1 h1)⟩ h2
      · exact ⟨e, rfl, h⟩
    · rintro ⟨e', he, h⟩
      cases he
      exact Or.inr ⟨rfl, h⟩
  · rw [if_neg hi, ← hsi v i]
    constructor
    · rintro (⟨h1, _⟩ | ⟨h, _⟩)
      · exact h1
      · exact absurd h hi
    · exact fun h => Or.inl ⟨h, fun h' => hi h'.1⟩

theorem setAfter_ok {oldRoles : List Bytes} {e : E} (hsi : SI r ents idx) (hnek : NEK idx)
    (hold : ∀ v, v ∈ oldRoles ↔ ∃ o, ents.lookup id = some o ∧ v ∈ r o)
    (h : setAfter oldRoles (r e) id idx = .ok idx') :
    SI r (ents.insert id e) idx' ∧ NEK idx' := by
  rcases setAfter_cases oldRoles (r e) id idx with ⟨heq, h'⟩ | ⟨_, h'⟩ | ⟨_, h'⟩ | ⟨_, h'⟩ <;>
    rw [h'] at h <;> cases h
  · refine ⟨SI_replace hsi hold fun v i => ?_, hnek⟩
    -- nothing changed: what `id` gives up it takes again
    rw [heq]
    constructor
    · intro h
      by_cases hm : i = id ∧ v ∈ r e
      · exact Or.inr hm
      · exact Or.inl ⟨h, hm⟩
    · rintro (⟨h, _⟩ | ⟨hi, hv⟩)
      · exact h
      · exact (hsi v i).2 (hi ▸ (hold v).1 (heq ▸ hv))
  · exact ⟨SI_replace hsi hold fun v i => by rw [mem_foldl_add, mem_foldl_del],
      nek_foldl_add _ _ _ (nek_foldl_del _ _ _ hnek)⟩

theorem setAfter_ok_nonempty {old new : List Bytes}
    (h : setAfter old new id idx = .ok idx') (ho : [] ∉ old) : [] ∉ new := by
  rcases setAfter_cases old new id idx with ⟨heq, _⟩ | ⟨h1, _⟩ | ⟨_, h'⟩ | ⟨hn, _⟩
  · exact heq ▸ ho
  · exact absurd h1 ho
  · rw [h'] at h; cases h
  · exact hn

theorem setAfter_err {old new : List Bytes} {x : Err}
    (h : setAfter old new id idx = .error x) (ho : [] ∉ old) : x = .other ∧ [] ∈ new := by
  rcases setAfter_cases old new id idx with ⟨_, h'⟩ | ⟨h1, _⟩ | ⟨hn, h'⟩ | ⟨_, h'⟩
  · rw [h'] at h; cases h
  · exact absurd h1 ho
  · rw [h'] at h; cases h; exact ⟨rfl, hn⟩
  · rw [h'] at h; cases h

theorem setAfter_spec {old : List Bytes} (e : E) (hsi : SI r ents idx) (hnek : NEK idx)
    (hold : ∀ v, v ∈ old ↔ ∃ o, ents.lookup id = some o ∧ v ∈ r o) (ho : [] ∉ old) :
    match setAfter old (r e) id idx with
    | .ok idx' => SI r (ents.insert id e) idx' ∧ NEK idx' ∧ [] ∉ r e
    | .error x => x = .other ∧ [] ∈ r e := by
  cases h : setAfter old (r e) id idx with
  | ok idx' => exact ⟨(setAfter_ok hsi hnek hold h).1, (setAfter_ok hsi hnek hold h).2, setAfter_ok_nonempty h ho⟩
  | error x => exact setAfter_err h ho

theorem setBeforeDelete_ok {e : E} (hsi : SI r ents idx) (hnek : NEK idx) (hold : ents.lookup id = some e)
    (h : setBeforeDelete (r e) id idx = .ok idx') :
    SI r (ents.erase id) idx' ∧ NEK idx' := by
  unfold setBeforeDelete at h
  split at h
  · cases h
  · cases h
    refine ⟨fun v i => ?_, nek_foldl_del _ _ _ hnek⟩
    rw [mem_foldl_del, Map.lookup_erase]
    by_cases hi : i = id
    · subst hi
      rw [if_pos rfl]
      constructor
      · rintro ⟨h1, h2⟩
        obtain ⟨e', he, hv⟩ := (hsi v i).1 h1
        rw [hold] at he; cases he
        exact absurd ⟨rfl, hv⟩ h2
      · rintro ⟨_, he, _⟩; cases he
    · rw [if_neg hi, ← hsi v i]
      exact ⟨fun h => h.1, fun h => ⟨h, fun h' => hi h'.1⟩⟩

/-! a further pass of `ProcessBeforeDelete` over indexes that already describe the table without
    the entity finds nothing left to remove -/

theorem uniqueBeforeDelete_gone {E : Type} {f : E → Bytes} {ents : Map Id E} {idx : Map Bytes Id} {v : Bytes}
    (hui : UI f ents idx) (hv : v ≠ [] → idx.lookup v = none) : UI f ents (uniqueBeforeDelete v idx) := by
  intro w i
  rw [lookup_uniqueBeforeDelete, ← hui w i]
  split
  · next hc => rw [hc.2, hv hc.1]
  · rfl

theorem uniqueBeforeDelete_lookup_self (v : Bytes) (idx : Map Bytes Id) (hv : v ≠ []) :
    (uniqueBeforeDelete v idx).lookup v = none := by
  rw [lookup_uniqueBeforeDelete, if_pos ⟨hv, rfl⟩]

theorem setBeforeDelete_gone {vals : List Bytes} (hsi : SI r ents idx) (hnek : NEK idx) (hgone : ents.lookup id = none)
    (h : setBeforeDelete vals id idx = .ok idx') : SI r ents idx' ∧ NEK idx' := by
  unfold setBeforeDelete at h
  split at h
  · cases h
  · cases h
    refine ⟨fun v i => ?_, nek_foldl_del _ _ _ hnek⟩
    rw [mem_foldl_del, ← hsi v i]
    refine ⟨fun h => h.1, fun h => ⟨h, fun hi => ?_⟩⟩
    obtain ⟨e, he, _⟩ := (hsi v i).1 h
    rw [hi.1, hgone] at he
    cases he

end

theorem setBeforeDelete_eq {vals : List Bytes} (h : [] ∉ vals) (id : Id) (idx : Map Bytes (List Id)) :
    setBeforeDelete vals id idx = .ok (vals.foldl (setIdxDel id) idx) := by
  simp [setBeforeDelete, h]

/-- the entities-bucket flag a write leaves: set by a create, kept by an update of an entity that is there -/
theorem hasEnts_written {E : Type} {ents : Map Id E} {id : Id} {hb has : Bool}
    (hhas : hb = true ∨ ((ents.lookup id).isSome = true ∧ hb = has)) (hbk : ∀ i e, ents.lookup i = some e → has = true) :
    hb = true := by
  rcases hhas with h | ⟨hsome, rfl⟩
  · exact h
  · obtain ⟨o, ho⟩ := Option.isSome_iff_exists.1 hsome
    exact hbk id o ho

theorem capture_fresh {s : State} {id : Id} (h : s.ents.lookup id = none) : capture s id = Captured.none := by
  simp [capture, h, evalName, evalAlias, evalRoles, Captured.none]

theorem capture_name (s : State) (id : Id) :
    (capture s id).name = ((s.ents.lookup id).map fun e => e.name).getD [] := by
  cases h : s.ents.lookup id <;> simp [capture, h, evalName]

theorem capture_alias (s : State) (id : Id) :
    (capture s id).alias = ((s.ents.lookup id).map fun e => e.alias.getD []).getD [] := by
  cases h : s.ents.lookup id <;> simp [capture, h, evalAlias]

theorem mem_capture_roles (s : State) (id : Id) (v : Bytes) :
    v ∈ (capture s id).roles ↔ ∃ o, s.ents.lookup id = some o ∧ v ∈ o.roles := by
  cases h : s.ents.lookup id <;> simp [capture, h, evalRoles]

end StorageModel.C03
