import StorageModel.C03.LayeredRefine
import StorageModel.C03.RenderSpec
/-
  C03, enlarged model: rejection lemmas (a write whose only fault is a duplicate unique value / an
  empty value for the non-nullable index / a unique value over bbolt's key limit fails with exactly
  that error: all three through `stepRaw_sole_fault`, read off the simulation), the model's
  path function (index bucket paths pairwise distinct), dump = derived dump.
-/
namespace StorageModel.C03.Layered
open StorageModel.C03.Layered.Spec (vName vAlias vRoles)

/-- the entity an operation is about to store, when it passes the id / existence checks of the
    store it is issued through -/
def targetEnt (sch : Schema) (s : State) : Op → Option (Id × Ent)
  | .create .parent id v _ => if id ≠ [] ∧ s.base.ents.lookup id = none then some (id, persistCreate v) else none
  | .create .child id v _ => if id ≠ [] ∧ hasExt s id = false then some (id, persistCreate v) else none
  | .update via id v _ chk =>
    if id = [] ∨ (via = .child ∧ hasExt s id = false) then none
    else (s.base.ents.lookup id).map fun old => (id, persist old v (resolveOpt sch chk))
  | .delete _ _ => none

/-- the value of a registered unique index (`name`, or a non-empty `alias`) in the new entity is
    currently held by another entity — and that is the only thing wrong with the write (when
    several constraints object, the registration order decides which error is reported) -/
def WouldDuplicate (sch : Schema) (s : State) (op : Op) : Prop :=
  ∃ id e, targetEnt sch s op = some (id, e) ∧
    ((vName sch e ≠ [] ∧ HeldByOther (vName sch) s.base.ents id (vName sch e)) ∨
     (vAlias sch e ≠ [] ∧ HeldByOther (vAlias sch) s.base.ents id (vAlias sch e))) ∧
    (sch.regName = true → e.name ≠ []) ∧ [] ∉ vRoles sch e ∧
    (vName sch e).length ≤ maxKeySize ∧ (vAlias sch e).length ≤ maxKeySize

/-- the new entity's name is empty while the non-nullable unique index on it is registered — and
    that is the only thing wrong with the write -/
def WouldBeEmpty (sch : Schema) (s : State) (op : Op) : Prop :=
  ∃ id e, targetEnt sch s op = some (id, e) ∧ sch.regName = true ∧ e.name = [] ∧
    ¬ (vAlias sch e ≠ [] ∧ HeldByOther (vAlias sch) s.base.ents id (vAlias sch e)) ∧ [] ∉ vRoles sch e ∧
    (vAlias sch e).length ≤ maxKeySize

/-- an indexed unique value of the new entity is longer than bbolt's key limit, and neither an empty
    name nor a duplicate competes for the error -/
def WouldOverflow (sch : Schema) (s : State) (op : Op) : Prop :=
  ∃ id e, targetEnt sch s op = some (id, e) ∧
    ((vName sch e).length > maxKeySize ∨ (vAlias sch e).length > maxKeySize) ∧
    (sch.regName = true → e.name ≠ []) ∧
    ¬ (vName sch e ≠ [] ∧ HeldByOther (vName sch) s.base.ents id (vName sch e)) ∧
    ¬ (vAlias sch e ≠ [] ∧ HeldByOther (vAlias sch) s.base.ents id (vAlias sch e))

theorem spec_step_target {sch : Schema} {s : State} {op : Op} {id : Id} {e : Ent}
    (ht : targetEnt sch s op = some (id, e)) :
    ∃ hb x, Spec.step sch (abs s) op = Spec.put sch (abs s) id e hb x := by
  revert ht
  fun_cases targetEnt sch s op <;> intro ht
  any_goals cases ht
  · next tag hc => exact ⟨true, none, by simp [Spec.step, abs, hc.1, hc.2]⟩
  · next tag hc => exact ⟨true, some tag, by simp [Spec.step, hc.1, hc.2]⟩
  · next via i v tag chk hc =>
    obtain ⟨old, hold, h⟩ := Option.map_eq_some_iff.1 ht
    obtain ⟨rfl, rfl⟩ := Prod.mk.inj h
    have hid : i ≠ [] := fun h => hc (Or.inl h)
    have hold' : (abs s).ents.lookup i = some old := hold
    cases via with
    | child =>
      have hx : hasExt s i = true := by
        cases h : hasExt s i with
        | true => rfl
        | false => exact absurd (Or.inr ⟨rfl, h⟩) hc
      exact ⟨_, some _, by simp [Spec.step, Spec.updateBoth, hid, hx, hold']; rfl⟩
    | parent =>
      by_cases hx : hasExt s i = true
      · exact ⟨_, some _, by simp [Spec.step, Spec.updateBoth, hid, hx, hold']; rfl⟩
      · exact ⟨_, none, by simp [Spec.step, hid, hx, hold']; rfl⟩

theorem stepRaw_sole_fault {sch : Schema} {s : State} {op : Op} {id : Id} {e : Ent} {x0 : Err} (hi : Inv sch s)
    (ht : targetEnt sch s op = some (id, e)) (hl : Listed sch s.base.ents id e x0)
    (honly : ∀ x, Listed sch s.base.ents id e x → x = x0) : stepRaw sch s op = .error x0 := by
  obtain ⟨hb, x', hsp⟩ := spec_step_target ht
  have href := stepRaw_sim hi op
  rw [hsp] at href
  have hm := (mem_violations sch s.base.ents id e x0).2 hl
  have hput : Spec.put sch (abs s) id e hb x' = .error (Spec.violations sch s.base.ents id e) := by
    cases hv : Spec.violations sch s.base.ents id e with
    | nil => rw [hv] at hm; cases hm
    | cons a l => simp [Spec.put, abs, hv]
  rw [hput] at href
  cases hr : stepRaw sch s op with
  | ok s' => rw [hr] at href; exact href.elim
  | error y =>
    rw [hr] at href
    rw [honly y ((mem_violations _ _ _ _ _).1 href.1)]

theorem stepRaw_dup {sch : Schema} {s : State} {op : Op} (hi : Inv sch s) (hw : WouldDuplicate sch s op) :
    stepRaw sch s op = .error .dup := by
  obtain ⟨id, e, ht, hd, hne, hr, hf1, hf2⟩ := hw
  refine stepRaw_sole_fault hi ht ?_ ?_
  · rcases hd with hd | hd
    · exact Or.inr (Or.inl ⟨rfl, hd.1, hd.2⟩)
    · exact Or.inr (Or.inr (Or.inl ⟨rfl, hd.1, hd.2⟩))
  · rintro x (⟨_, h1, h2⟩ | ⟨rfl, _⟩ | ⟨rfl, _⟩ | ⟨_, h1⟩ | ⟨_, h1 | h1⟩)
    · exact absurd h2 (hne h1)
    · rfl
    · rfl
    · exact absurd h1 hr
    · exact absurd hf1 (Nat.not_le_of_gt h1)
    · exact absurd hf2 (Nat.not_le_of_gt h1)

theorem stepRaw_empty {sch : Schema} {s : State} {op : Op} (hi : Inv sch s) (hw : WouldBeEmpty sch s op) :
    stepRaw sch s op = .error .nullNotAllowed := by
  obtain ⟨id, e, ht, hreg, hne, ha, hr, hf2⟩ := hw
  refine stepRaw_sole_fault hi ht (Or.inl ⟨rfl, hreg, hne⟩) ?_
  rintro x (⟨rfl, _⟩ | ⟨_, h1, _⟩ | ⟨_, h1, h2⟩ | ⟨_, h1⟩ | ⟨_, h1 | h1⟩)
  · rfl
  · exact absurd (by simp [vName, hreg, hne]) h1
  · exact absurd ⟨h1, h2⟩ ha
  · exact absurd h1 hr
  · simp [vName, hreg, hne] at h1
  · exact absurd hf2 (Nat.not_le_of_gt h1)

theorem stepRaw_overflow {sch : Schema} {s : State} {op : Op} (hi : Inv sch s) (hw : WouldOverflow sch s op) :
    stepRaw sch s op = .error .other := by
  obtain ⟨id, e, ht, hl, hne, hd1, hd2⟩ := hw
  refine stepRaw_sole_fault hi ht (Or.inr (Or.inr (Or.inr (Or.inr ⟨rfl, hl⟩)))) ?_
  rintro x (⟨_, h1, h2⟩ | ⟨_, h1, h2⟩ | ⟨_, h1, h2⟩ | ⟨rfl, _⟩ | ⟨rfl, _⟩)
  · exact absurd h2 (hne h1)
  · exact absurd ⟨h1, h2⟩ hd1
  · exact absurd ⟨h1, h2⟩ hd2
  · rfl
  · rfl

theorem idxPath_injective (sch : Schema) (a b : Bytes) (h : idxPath sch a = idxPath sch b) : a = b := by
  unfold idxPath at h
  have := List.append_cancel_left h
  simpa using this

theorem render_eq_spec_lines {sch : Schema} {s : State} (hi : Inv sch s) (l : Line) :
    l ∈ Render sch s ↔ l ∈ Spec.render sch (abs s) := by
  unfold Render Spec.render abs Spec.nameIndex Spec.aliasIndex Spec.rolesIndex
  simp only [List.mem_append]
  rw [uniqueLines_eq hi.base.uName, uniqueLines_eq hi.base.uAlias, setLines_eq hi.base.sRoles hi.base.noEmptyKeys]

end StorageModel.C03.Layered
