import StorageModel.C03.Refine
import StorageModel.C03.LayeredSpec
/-
  C03: on a consistent state the bucket dump of the model is the dump derived from the entity
  table alone (same set of lines).  The lemmas are about one unique / one set index bucket at any
  path, for both models.
-/
namespace StorageModel.C03.Layered

theorem mem_uniqueLines (path : List Bytes) (idx : Map Bytes Id) (l : Line) :
    l ∈ idx.entries.flatMap (renderUnique path) ↔ ∃ v id, idx.lookup v = some id ∧ l = .kv path v id := by
  simp only [List.mem_flatMap, renderUnique, List.mem_singleton, Prod.exists, Map.mem_entries_iff]

theorem mem_specUnique (f : Ent → Bytes) (path : List Bytes) (ents : Map Id Ent) (l : Line) :
    l ∈ (Spec.uniqueIndexOf f ents).flatMap (renderUnique path) ↔
      ∃ i e, ents.lookup i = some e ∧ f e ≠ [] ∧ l = .kv path (f e) i := by
  simp only [Spec.uniqueIndexOf, List.mem_flatMap, List.mem_filterMap, renderUnique, List.mem_singleton, Prod.exists,
    Map.mem_entries_iff, Option.ite_none_right_eq_some, Option.some.injEq, Prod.mk.injEq]
  constructor
  · rintro ⟨v, id, ⟨i, e, hl, hz, rfl, rfl⟩, rfl⟩; exact ⟨i, e, hl, hz, rfl⟩
  · rintro ⟨i, e, hl, hz, rfl⟩; exact ⟨f e, i, ⟨i, e, hl, hz, rfl, rfl⟩, rfl⟩

theorem uniqueLines_eq {f : Ent → Bytes} {path : List Bytes} {ents : Map Id Ent} {idx : Map Bytes Id}
    (hui : UI f ents idx) (l : Line) :
    l ∈ idx.entries.flatMap (renderUnique path) ↔ l ∈ (Spec.uniqueIndexOf f ents).flatMap (renderUnique path) := by
  rw [mem_uniqueLines, mem_specUnique]
  constructor
  · rintro ⟨v, id, h, rfl⟩
    obtain ⟨hv, e, he, rfl⟩ := (hui v id).1 h
    exact ⟨id, e, he, hv, rfl⟩
  · rintro ⟨i, e, he, hz, rfl⟩
    exact ⟨f e, i, (hui (f e) i).2 ⟨hz, e, he, rfl⟩, rfl⟩

theorem mem_setLines (path : List Bytes) (idx : Map Bytes (List Id)) (l : Line) :
    l ∈ idx.entries.flatMap (renderSetKey path) ↔
      ∃ v ids, idx.lookup v = some ids ∧
        (l = .bucket (path ++ [v]) ∨ ∃ i, i ∈ ids ∧ l = .kv (path ++ [v]) (typed i) []) := by
  simp only [List.mem_flatMap, renderSetKey, List.mem_cons, List.mem_map, Prod.exists, Map.mem_entries_iff,
    eq_comm (a := l)]

theorem mem_setIndexOf (r : Ent → List Bytes) (ents : Map Id Ent) (v : Bytes) (ids : List Id) :
    (v, ids) ∈ Spec.setIndexOf r ents ↔
      (∃ i e, ents.lookup i = some e ∧ v ∈ r e) ∧
      ids = (ents.entries.filter (fun p => decide (v ∈ r p.2))).map (·.1) := by
  simp only [Spec.setIndexOf, List.mem_map, List.mem_flatMap, Prod.exists, Map.mem_entries_iff, Prod.mk.injEq]
  constructor
  · rintro ⟨w, h, rfl, rfl⟩; exact ⟨h, rfl⟩
  · rintro ⟨h, rfl⟩; exact ⟨v, h, rfl, rfl⟩

theorem mem_setIds (r : Ent → List Bytes) (ents : Map Id Ent) (v : Bytes) (i : Id) :
    i ∈ (ents.entries.filter (fun p => decide (v ∈ r p.2))).map (·.1) ↔ ∃ e, ents.lookup i = some e ∧ v ∈ r e := by
  simp only [List.mem_map, List.mem_filter, decide_eq_true_eq, Prod.exists, Map.mem_entries_iff, exists_and_right,
    exists_eq_right]

theorem setLines_eq {r : Ent → List Bytes} {path : List Bytes} {ents : Map Id Ent} {idx : Map Bytes (List Id)}
    (hsi : SI r ents idx) (hnek : NEK idx) (l : Line) :
    l ∈ idx.entries.flatMap (renderSetKey path) ↔ l ∈ (Spec.setIndexOf r ents).flatMap (renderSetKey path) := by
  rw [mem_setLines]
  simp only [List.mem_flatMap, renderSetKey, List.mem_cons, List.mem_map, Prod.exists, mem_setIndexOf]
  constructor
  · rintro ⟨v, ids, hl, hline⟩
    have hne := hnek v ids hl
    obtain ⟨i0, hi0⟩ := List.exists_mem_of_ne_nil ids hne
    have h0 := (hsi v i0).1 (by simp [hl, hi0])
    refine ⟨v, _, ⟨⟨i0, h0⟩, rfl⟩, ?_⟩
    rcases hline with h | ⟨i, hi, rfl⟩
    · exact Or.inl h
    · refine Or.inr ⟨i, ?_, rfl⟩
      exact (mem_setIds r ents v i).2 ((hsi v i).1 (by simp [hl, hi]))
  · rintro ⟨v, ids', ⟨⟨i0, e0, h0, hm0⟩, rfl⟩, hline⟩
    have hmem := (hsi v i0).2 ⟨e0, h0, hm0⟩
    cases hl : idx.lookup v with
    | none => simp [hl] at hmem
    | some ids =>
      refine ⟨v, ids, hl, ?_⟩
      rcases hline with h | ⟨i, hi, rfl⟩
      · exact Or.inl h
      · refine Or.inr ⟨i, ?_, rfl⟩
        have := (hsi v i).2 ((mem_setIds r ents v i).1 hi)
        simpa [hl] using this

end StorageModel.C03.Layered

namespace StorageModel.C03

theorem render_eq_spec_lines {s : State} (hi : Inv s) (l : Line) : l ∈ Render s ↔ l ∈ Spec.render (abs s) := by
  unfold Render Spec.render abs
  simp only [List.mem_append]
  exact or_congr (or_congr (or_congr Iff.rfl (Layered.uniqueLines_eq hi.uName l)) (Layered.uniqueLines_eq hi.uAlias l))
    (Layered.setLines_eq hi.sRoles hi.noEmptyKeys l)

end StorageModel.C03
