import StorageModel.C03.Inv
import StorageModel.C03.Spec
/-
  C03: the invariant of the base store model with what a write (`afterUpdate_spec`) and a delete
  (`delete_ok`) do to it; the engine model refines the specification (entity table only, indexes
  derived) and keeps the invariant: each operation is analysed once (`stepRaw_sim`).
-/
namespace StorageModel.C03

structure Inv (s : State) : Prop where
  uName : UI (·.name) s.ents s.uName
  uAlias : UI (fun e => e.alias.getD []) s.ents s.uAlias
  sRoles : SI (·.roles) s.ents s.sRoles
  noEmptyKeys : NEK s.sRoles
  namesNonEmpty : ∀ id e, s.ents.lookup id = some e → e.name ≠ []
  rolesNonEmpty : ∀ id e, s.ents.lookup id = some e → [] ∉ e.roles
  idsNonEmpty : s.ents.lookup [] = none
  entsBucket : ∀ id e, s.ents.lookup id = some e → s.hasEnts = true

theorem inv_empty : Inv State.empty := by
  constructor <;> simp [State.empty, UI, SI, NEK]

def Acceptable (ents : Map Id Ent) (id : Id) (e : Ent) : Prop :=
  e.name ≠ [] ∧ ¬ HeldByOther (·.name) ents id e.name ∧
  ¬ (e.alias.getD [] ≠ [] ∧ HeldByOther (fun e => e.alias.getD []) ents id (e.alias.getD [])) ∧ [] ∉ e.roles

/-- the error the constraints report for storing `e` under `id`: the first fault in registration
    order (name, alias, roles) -/
def FirstFault (ents : Map Id Ent) (id : Id) (e : Ent) (x : Err) : Prop :=
  (x = .nullNotAllowed ∧ e.name = []) ∨
  (x = .dup ∧ e.name ≠ [] ∧ HeldByOther (·.name) ents id e.name) ∨
  (e.name ≠ [] ∧ ¬ HeldByOther (·.name) ents id e.name ∧
    ((x = .dup ∧ e.alias.getD [] ≠ [] ∧ HeldByOther (fun e => e.alias.getD []) ents id (e.alias.getD [])) ∨
     (x = .other ∧ ¬ (e.alias.getD [] ≠ [] ∧ HeldByOther (fun e => e.alias.getD []) ents id (e.alias.getD [])) ∧
      [] ∈ e.roles)))

/-- Create (`c = true`, nothing to capture) and Update (`c = false`, the entity exists) at once -/
theorem afterUpdate_spec {s : State} {id : Id} {c : Bool} (e : Ent) (hb : Bool) (hi : Inv s) (hid : id ≠ [])
    (hc : c = true ∨ (s.ents.lookup id).isSome = true)
    (hhas : hb = true ∨ ((s.ents.lookup id).isSome = true ∧ hb = s.hasEnts)) :
    match afterUpdate c (capture s id) { s with hasEnts := hb, ents := s.ents.insert id e } id with
    | .ok s' => Inv s' ∧ s'.ents = s.ents.insert id e ∧ s'.hasEnts = hb ∧ Acceptable s.ents id e
    | .error x => FirstFault s.ents id e x := by
  have hn := uniqueAfter_spec (c := c) (n := false) e.name hi.uName (capture_name s id)
  have ha := uniqueAfter_spec (c := c) (n := true) (e.alias.getD []) hi.uAlias (capture_alias s id)
  have hr := setAfter_spec e hi.sRoles hi.noEmptyKeys (mem_capture_roles s id) fun h => by
    obtain ⟨o, ho, hm⟩ := (mem_capture_roles s id []).1 h
    exact hi.rolesNonEmpty id o ho hm
  simp only [afterUpdate, bind, Except.bind, Map.lookup_insert, if_true, evalName, evalAlias, evalRoles, pure,
    Except.pure]
  cases hun : uniqueAfter c false (capture s id).name e.name id s.uName with
  | error x =>
    rw [hun] at hn
    rcases hn with ⟨h1, _, h3⟩ | h1
    · exact Or.inl ⟨h1, h3⟩
    · exact Or.inr (Or.inl h1)
  | ok un =>
    rw [hun] at hn
    have hne : e.name ≠ [] := hn.2.1 rfl hc (hi.namesNonEmpty id)
    have hfree : ¬ HeldByOther (·.name) s.ents id e.name := fun h => hn.2.2 ⟨hne, h⟩
    cases hua : uniqueAfter c true (capture s id).alias (e.alias.getD []) id s.uAlias with
    | error x =>
      rw [hua] at ha
      rcases ha with ⟨_, h2, _⟩ | h1
      · cases h2
      · exact Or.inr (Or.inr ⟨hne, hfree, Or.inl h1⟩)
    | ok ua =>
      rw [hua] at ha
      cases hsr : setAfter (capture s id).roles e.roles id s.sRoles with
      | error x =>
        rw [hsr] at hr
        exact Or.inr (Or.inr ⟨hne, hfree, Or.inr ⟨hr.1, ha.2.2, hr.2⟩⟩)
      | ok sr =>
        rw [hsr] at hr
        refine ⟨⟨hn.1 e rfl, ha.1 e rfl, hr.1, hr.2.1, Map.forall_lookup_insert hne hi.namesNonEmpty,
          Map.forall_lookup_insert hr.2.2 hi.rolesNonEmpty,
          (Map.lookup_insert_of_ne e fun h => hid h.symm).trans hi.idsNonEmpty,
          fun _ _ _ => hasEnts_written hhas hi.entsBucket⟩,
          rfl, rfl, hne, hfree, ha.2.2, hr.2.2⟩

/-- none of the entity's roles is empty, so `ProcessBeforeDelete` meets no nil dereference -/
theorem delete_ok {s : State} {id : Id} {e : Ent} (hi : Inv s) (hid : id ≠ []) (hold : s.ents.lookup id = some e) :
    ∃ s', delete s id = .ok s' ∧ Inv s' ∧ s'.ents = s.ents.erase id ∧ s'.hasEnts = s.hasEnts := by
  have hsr := setBeforeDelete_eq (hi.rolesNonEmpty id e hold) id s.sRoles
  have hS := setBeforeDelete_ok (r := (·.roles)) hi.sRoles hi.noEmptyKeys hold hsr
  refine ⟨{ s with
      ents := s.ents.erase id, uName := uniqueBeforeDelete e.name s.uName,
      uAlias := uniqueBeforeDelete (e.alias.getD []) s.uAlias, sRoles := e.roles.foldl (setIdxDel id) s.sRoles },
    by simp only [delete, if_neg hid, hold, evalRoles, hsr]; rfl, ?_, rfl, rfl⟩
  exact ⟨uniqueBeforeDelete_ok (f := (·.name)) hi.uName hold,
    uniqueBeforeDelete_ok (f := fun e => e.alias.getD []) hi.uAlias hold, hS.1, hS.2,
    Map.forall_lookup_erase id (fun i y _ => hi.namesNonEmpty i y), Map.forall_lookup_erase id (fun i y _ => hi.rolesNonEmpty i y),
    Map.lookup_erase_none id hi.idsNonEmpty, Map.forall_lookup_erase id fun i y _ => hi.entsBucket i y⟩

theorem nameHeldByOther_iff (ents : Map Id Ent) (id : Id) (v : Bytes) :
    Spec.nameHeldByOther ents id v = true ↔ HeldByOther (·.name) ents id v := by
  unfold Spec.nameHeldByOther HeldByOther
  simp only [List.any_eq_true, Bool.and_eq_true, decide_eq_true_eq, Prod.exists, Map.mem_entries_iff]
  constructor
  · rintro ⟨i, e, hl, hne, hf⟩; exact ⟨i, e, hne, hl, hf⟩
  · rintro ⟨i, e, hne, hl, hf⟩; exact ⟨i, e, hl, hne, hf⟩

theorem aliasHeldByOther_iff (ents : Map Id Ent) (id : Id) (v : Bytes) (hv : v ≠ []) :
    Spec.aliasHeldByOther ents id v = true ↔ HeldByOther (fun e => e.alias.getD []) ents id v := by
  unfold Spec.aliasHeldByOther HeldByOther
  simp only [List.any_eq_true, Bool.and_eq_true, decide_eq_true_eq, Prod.exists, Map.mem_entries_iff]
  constructor
  · rintro ⟨i, e, hl, hne, hf⟩; exact ⟨i, e, hne, hl, by simp [hf]⟩
  · rintro ⟨i, e, hne, hl, hf⟩
    refine ⟨i, e, hl, hne, ?_⟩
    cases ha : e.alias with
    | none => simp [ha] at hf; exact absurd hf.symm hv.symm |> False.elim
    | some a => simp [ha] at hf; simp [hf]

theorem mem_ite_singleton {p : Prop} [Decidable p] {a x : Err} : x ∈ (if p then [a] else []) ↔ x = a ∧ p := by
  split <;> simp_all

theorem ite_singleton_eq_nil {p : Prop} [Decidable p] {a : Err} : (if p then [a] else []) = [] ↔ ¬ p := by
  split <;> simp_all

theorem FirstFault.mem_violations {ents : Map Id Ent} {id : Id} {e : Ent} {x : Err} (h : FirstFault ents id e x) :
    x ∈ Spec.violations ents id e := by
  have hA := and_congr_right (aliasHeldByOther_iff ents id (e.alias.getD []))
  unfold Spec.violations
  simp only [List.mem_append, mem_ite_singleton, nameHeldByOther_iff, hA, or_assoc]
  rcases h with h | h | ⟨_, _, h | ⟨h1, _, h2⟩⟩
  · exact Or.inl h
  · exact Or.inr (Or.inl h)
  · exact Or.inr (Or.inr (Or.inl h))
  · exact Or.inr (Or.inr (Or.inr ⟨h1, h2⟩))

theorem violations_nil_iff (ents : Map Id Ent) (id : Id) (e : Ent) :
    Spec.violations ents id e = [] ↔ Acceptable ents id e := by
  have hA := and_congr_right (aliasHeldByOther_iff ents id (e.alias.getD []))
  unfold Spec.violations Acceptable
  simp only [List.append_eq_nil_iff, ite_singleton_eq_nil, nameHeldByOther_iff, hA, not_and, and_assoc]
  exact ⟨fun ⟨h1, h2, h⟩ => ⟨h1, h2 h1, h⟩, fun ⟨h1, h2, h⟩ => ⟨h1, fun _ => h2, h⟩⟩

/-- engine and spec on one operation: both accept (`I` again, same abstract state) or both refuse (a listed error, no panic) -/
def Agree {S T : Type} (I : S → Prop) (abs : S → T) : Except Err S → Except (List Err) T → Prop
  | .ok s', .ok t' => I s' ∧ abs s' = t'
  | .error e, .error es => e ∈ es ∧ e ≠ .panic
  | _, _ => False

section
variable {S T : Type} {I : S → Prop} {abs : S → T} {r : Except Err S} {q : Except (List Err) T}

theorem Agree.accept {s' : S} {t' : T} (hi : I s') (ha : abs s' = t') : Agree I abs (.ok s') (.ok t') := ⟨hi, ha⟩

theorem Agree.refuse {e : Err} (hp : e ≠ .panic) : Agree I abs (.error e) (.error [e]) := ⟨List.Mem.head _, hp⟩

theorem Agree.inv {s' : S} (h : Agree I abs r q) (hr : r = .ok s') : I s' := by
  subst hr
  cases q with
  | ok t' => exact h.1
  | error es => exact h.elim

theorem Agree.ne_panic (h : Agree I abs r q) : r ≠ .error .panic := by
  rintro rfl
  cases q with
  | ok t' => exact h
  | error es => exact h.2 rfl

end

def abs (s : State) : Spec.SState := ⟨s.hasEnts, s.ents⟩

theorem put_agrees {s : State} {id : Id} {e : Ent} {hb : Bool} {r : Except Err State}
    (h : match r with
      | .ok s' => Inv s' ∧ s'.ents = s.ents.insert id e ∧ s'.hasEnts = hb ∧ Acceptable s.ents id e
      | .error y => FirstFault s.ents id e y) :
    Agree Inv abs r (Spec.put (abs s) id e hb) := by
  cases r with
  | ok s' =>
    simp only at h
    have hv := (violations_nil_iff _ _ _).2 h.2.2.2
    simp [Agree, Spec.put, abs, hv, h.1, h.2.1, h.2.2.1]
  | error y =>
    simp only at h
    have hm := h.mem_violations
    cases hv : Spec.violations s.ents id e with
    | nil => rw [hv] at hm; cases hm
    | cons a b =>
      simp only [Spec.put, abs, hv]
      refine ⟨by simpa [hv] using hm, fun hp => ?_⟩
      subst hp
      rcases h with ⟨h, _⟩ | ⟨h, _⟩ | ⟨_, _, ⟨h, _⟩ | ⟨h, _⟩⟩ <;> cases h

theorem stepRaw_sim {s : State} (hi : Inv s) (op : Op) : Agree Inv abs (stepRaw s op) (Spec.step (abs s) op) := by
  -- along the case tree of the spec: the engine makes the same tests in the same order, so where the
  -- spec refuses, the engine has failed with that error; what is left are the two writes and the delete
  fun_cases Spec.step (abs s) op <;> simp only [abs, stepRaw] at * <;>
    simp only [create, update, delete, *, if_true, if_false, Bool.false_eq_true]
  any_goals exact Agree.refuse nofun
  · next id v hid hex =>
    have := afterUpdate_spec (c := true) (persistCreate v) true hi hid (Or.inl rfl) (Or.inl rfl)
    rw [capture_fresh (by simpa using hex)] at this
    exact put_agrees this
  · next id v chk hid old hold =>
    exact put_agrees (afterUpdate_spec (c := false) (persist old v chk) s.hasEnts hi hid (Or.inr (by simp [hold]))
      (Or.inr ⟨by simp [hold], rfl⟩))
  · next id hid e hold =>
    obtain ⟨s', hd, hi', he, hh⟩ := delete_ok hi hid hold
    simp only [delete, if_neg hid, hold] at hd
    rw [hd]
    exact Agree.accept hi' (by rw [abs, he, hh])

theorem inv_stepRaw {s s' : State} {op : Op} (hi : Inv s) (h : stepRaw s op = .ok s') : Inv s' :=
  (stepRaw_sim hi op).inv h

theorem inv_applyOps {s s' : State} {ops : List Op} {i : Nat} (hi : Inv s) (h : applyOps s ops i = .ok s') : Inv s' := by
  induction ops generalizing s i with
  | nil => simp only [applyOps] at h; cases h; exact hi
  | cons op rest ih =>
    simp only [applyOps] at h
    split at h
    · next s1 h1 => exact ih (inv_stepRaw hi h1) h
    · cases h

theorem inv_txStep {s : State} (ops : List Op) (hi : Inv s) : Inv (txStep s ops).1 := by
  unfold txStep
  split
  · next s' h => exact inv_applyOps hi h
  · exact hi

end StorageModel.C03
