import StorageModel.C03.RenderSpec
/-
  C03: rejection lemmas — a write that would duplicate a unique value or put an empty value into
  the non-nullable index fails with exactly that error.
-/
namespace StorageModel.C03

/-- the entity an operation is about to store, when it passes the id / existence checks -/
def targetEnt (s : State) : Op → Option (Id × Ent)
  | .create id v => if id ≠ [] ∧ s.ents.lookup id = none then some (id, persistCreate v) else none
  | .update id v chk => if id = [] then none else (s.ents.lookup id).map fun old => (id, persist old v chk)
  | .delete _ => none

/-- the new entity's name, or its non-empty alias, is currently held by another entity -/
def WouldDuplicate (s : State) (op : Op) : Prop :=
  ∃ id e, targetEnt s op = some (id, e) ∧ e.name ≠ [] ∧
    (HeldByOther (·.name) s.ents id e.name ∨
     (e.alias.getD [] ≠ [] ∧ HeldByOther (fun e => e.alias.getD []) s.ents id (e.alias.getD [])))

/-- the new entity's name (non-nullable unique index) is empty -/
def WouldBeEmpty (s : State) (op : Op) : Prop :=
  ∃ id e, targetEnt s op = some (id, e) ∧ e.name = []

theorem stepRaw_target {s : State} {op : Op} {id : Id} {e : Ent} (ht : targetEnt s op = some (id, e)) :
    ∃ c hb, id ≠ [] ∧ (c = true ∨ (s.ents.lookup id).isSome = true) ∧
      (hb = true ∨ ((s.ents.lookup id).isSome = true ∧ hb = s.hasEnts)) ∧
      stepRaw s op = afterUpdate c (capture s id) { s with hasEnts := hb, ents := s.ents.insert id e } id := by
  cases op with
  | create i v =>
    simp only [targetEnt] at ht
    split at ht
    · next hc =>
      cases ht
      exact ⟨true, true, hc.1, Or.inl rfl, Or.inl rfl, by
        simp only [stepRaw, create, hc.1, if_false, hc.2, Option.isSome_none, Bool.false_eq_true, capture_fresh hc.2]⟩
    · cases ht
  | update i v chk =>
    simp only [targetEnt] at ht
    split at ht
    · cases ht
    · next hid =>
      cases hold : s.ents.lookup i with
      | none => simp [hold] at ht
      | some old =>
        simp only [hold, Option.map_some, Option.some.injEq, Prod.mk.injEq] at ht
        obtain ⟨rfl, rfl⟩ := ht
        exact ⟨false, s.hasEnts, hid, Or.inr (by rw [hold]; rfl), Or.inr ⟨by rw [hold]; rfl, rfl⟩,
          by simp only [stepRaw, update, hid, if_false, hold]⟩
  | delete i => simp [targetEnt] at ht

/-- the name's constraint comes first, the alias' second, so a duplicate is reported before any
    fault of the roles -/
theorem stepRaw_dup {s : State} {op : Op} (hi : Inv s) (hw : WouldDuplicate s op) : stepRaw s op = .error .dup := by
  obtain ⟨id, e, ht, hne, hd⟩ := hw
  obtain ⟨c, hb, hid, hc, hhas, h⟩ := stepRaw_target ht
  have hs := afterUpdate_spec e hb hi hid hc hhas
  rw [h]
  cases hr : afterUpdate c (capture s id) { s with hasEnts := hb, ents := s.ents.insert id e } id with
  | ok s' =>
    rw [hr] at hs
    obtain ⟨_, hfree, hal, _⟩ := hs.2.2.2
    rcases hd with hd | ⟨hane, hd⟩
    · exact absurd hd hfree
    · exact absurd ⟨hane, hd⟩ hal
  | error x =>
    rw [hr] at hs
    rcases hs with ⟨_, hz⟩ | ⟨rfl, _⟩ | ⟨_, hfree, ⟨rfl, _⟩ | ⟨_, hal, _⟩⟩
    · exact absurd hz hne
    · rfl
    · rfl
    · exact absurd (hd.resolve_left hfree) hal

theorem stepRaw_empty {s : State} {op : Op} (hi : Inv s) (hw : WouldBeEmpty s op) :
    stepRaw s op = .error .nullNotAllowed := by
  obtain ⟨id, e, ht, hne⟩ := hw
  obtain ⟨c, hb, hid, hc, hhas, h⟩ := stepRaw_target ht
  have hs := afterUpdate_spec e hb hi hid hc hhas
  rw [h]
  cases hr : afterUpdate c (capture s id) { s with hasEnts := hb, ents := s.ents.insert id e } id with
  | ok s' => rw [hr] at hs; exact absurd hne hs.2.2.2.1
  | error x =>
    rw [hr] at hs
    rcases hs with ⟨rfl, _⟩ | ⟨_, h1, _⟩ | ⟨h1, _⟩
    · rfl
    · exact absurd hne h1
    · exact absurd hne h1

theorem stepRaw_no_panic {s : State} {op : Op} (hi : Inv s) : stepRaw s op ≠ .error .panic :=
  (stepRaw_sim hi op).ne_panic

end StorageModel.C03
