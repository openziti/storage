import StorageModel.C03.Chain
import StorageModel.C03.Inv
/-
  C03, store chains of any depth: the per-level invariant and its preservation, for every chain
  depth, by every operation through every level that is `Safe` for the level looked at;
  rejection lemmas per level.
-/
namespace StorageModel.C03.Chain

/-- the property's wording for the two indexes a level declares -/
structure LevelInv (L : Level) : Prop where
  uniq : UI (·.u) L.data L.uniq
  set : SI (·.s) L.data L.set
  noEmptyKeys : NEK L.set
  uNonEmpty : ∀ id r, L.data.lookup id = some r → r.u ≠ []

theorem levelInv_empty : LevelInv Level.empty := by
  refine ⟨?_, ?_, ?_, ?_⟩
  · intro v id; simp [Level.empty]
  · intro v id; simp [Level.empty]
  · intro v ids h; simp [Level.empty] at h
  · intro id r h; simp [Level.empty] at h

theorem oldU_eq (o : Option Rec) : oldU o = (o.map (·.u)).getD [] := by
  cases o <;> rfl

theorem mem_oldS (o : Option Rec) (v : Bytes) : v ∈ oldS o ↔ ∃ r, o = some r ∧ v ∈ r.s := by
  cases o <;> simp [oldS]

theorem put_inv {L L' : Level} {isCreate : Bool} {old : Option Rec} {id : Id} {new : Rec}
    (hi : LevelInv L) (hold : old = L.data.lookup id) (hc : isCreate = false → old ≠ none)
    (h : L.put isCreate old id new = .ok L') : LevelInv L' := by
  subst hold
  obtain ⟨uq, huq, h⟩ := bind_ok h
  obtain ⟨st, hst, h⟩ := bind_ok h
  cases h
  have hu := uniqueAfter_spec (c := isCreate) (n := false) new.u hi.uniq (oldU_eq (L.data.lookup id))
  rw [huq] at hu
  have hs := setAfter_ok (r := (·.s)) (e := new) hi.set hi.noEmptyKeys (mem_oldS (L.data.lookup id)) hst
  refine ⟨hu.1 new rfl, hs.1, hs.2, Map.forall_lookup_insert (hu.2.1 rfl ?_ (hi.uNonEmpty id)) hi.uNonEmpty⟩
  cases isCreate with
  | true => exact Or.inl rfl
  | false => exact Or.inr (Option.isSome_iff_ne_none.2 (hc rfl))

/-- after a pass the level's indexes already describe its data without the entity, which is still there -/
theorem pass_first {L L' : Level} {id : Id} {r : Rec} (hi : LevelInv L) (hold : L.data.lookup id = some r)
    (h : L.pass id r = .ok L') : LevelInv (L'.eraseData id) ∧ (r.u ≠ [] → L'.uniq.lookup r.u = none) := by
  unfold Level.pass at h
  split at h
  · cases h
  · next st hst =>
    cases h
    have hs := setBeforeDelete_ok (r := (·.s)) hi.set hi.noEmptyKeys hold hst
    exact ⟨⟨uniqueBeforeDelete_ok (f := (·.u)) hi.uniq hold, hs.1, hs.2,
      Map.forall_lookup_erase id fun i r _ => hi.uNonEmpty i r⟩, fun hne => uniqueBeforeDelete_lookup_self _ _ hne⟩

theorem pass_again {L L' : Level} {id : Id} {r : Rec} (hg : LevelInv (L.eraseData id))
    (hl : r.u ≠ [] → L.uniq.lookup r.u = none) (h : L.pass id r = .ok L') : LevelInv (L'.eraseData id) := by
  unfold Level.pass at h
  split at h
  · cases h
  · next st hst =>
    cases h
    have hs := setBeforeDelete_gone (r := (·.s)) (ents := L.data.erase id) hg.set hg.noEmptyKeys (by simp) hst
    exact ⟨uniqueBeforeDelete_gone hg.uniq hl, hs.1, hs.2, hg.uNonEmpty⟩

theorem erase_absent {L : Level} {id : Id} (hi : LevelInv L) (hn : L.data.lookup id = none) : LevelInv (L.eraseData id) := by
  have hl : ∀ k, (L.data.erase id).lookup k = L.data.lookup k := by
    intro k
    rw [Map.lookup_erase]
    split
    · next h => rw [h, hn]
    · rfl
  refine ⟨fun v i => ?_, fun v i => ?_, hi.noEmptyKeys, fun i r hr => ?_⟩
  · simp only [Level.eraseData, hl]; exact hi.uniq v i
  · simp only [Level.eraseData, hl]; exact hi.set v i
  · simp only [Level.eraseData, hl] at hr; exact hi.uNonEmpty i r hr

theorem mapPrefix_get {f : Nat → Level → Rec → Except Err Level} (Ls : List Level) (rs : List Rec) (i : Nat) :
    ∀ (Ls' : List Level), mapPrefix f i Ls rs = .ok Ls' →
      ∀ (j : Nat) L', Ls'[j]? = some L' → ∃ L, Ls[j]? = some L ∧ (L' = L ∨ ∃ k r, f k L r = .ok L') := by
  fun_induction mapPrefix f i Ls rs <;> intro Ls' h j L' hj <;> cases h
  · exact ⟨L', hj, Or.inl rfl⟩
  · next i L Ls r rs L1 h1 Ls1 h2 ih =>
    cases j with
    | zero => cases hj; exact ⟨L, rfl, Or.inr ⟨i, r, h1⟩⟩
    | succ j => exact ih Ls1 h2 j L' hj

theorem mapPrefix_error {f : Nat → Level → Rec → Except Err Level} {e : Err} :
    ∀ (j : Nat) (Ls : List Level) (rs : List Rec) (i : Nat),
      (∀ k, k < j → ∀ L r, Ls[k]? = some L → rs[k]? = some r → ∃ L', f (k + i) L r = .ok L') →
      ∀ L r, Ls[j]? = some L → rs[j]? = some r → f (j + i) L r = .error e → mapPrefix f i Ls rs = .error e := by
  intro j Ls
  induction Ls generalizing j with
  | nil => intro rs i _ L r hL; cases hL
  | cons L0 Ls ih =>
    intro rs i hok L r hL hr hf
    cases rs with
    | nil => cases hr
    | cons r0 rs =>
      cases j with
      | zero =>
        cases hL; cases hr
        simp only [Nat.zero_add] at hf
        simp [mapPrefix, hf]
      | succ j =>
        simp only [List.getElem?_cons_succ] at hL hr
        obtain ⟨L0', h0⟩ := hok 0 (Nat.succ_pos j) L0 r0 rfl rfl
        simp only [Nat.zero_add] at h0
        have hrest := ih j rs (i + 1)
          (fun k hk L r hL hr => by
            have := hok (k + 1) (by omega) L r (by simpa using hL) (by simpa using hr)
            rwa [show k + 1 + i = k + (i + 1) by omega] at this)
          L r hL hr (by rwa [show j + 1 + i = j + (i + 1) by omega] at hf)
        simp [mapPrefix, h0, hrest]

/-- the invariant of the level at position j (vacuous beyond the chain's depth) -/
def LInvAt (s : State) (j : Nat) : Prop := ∀ L, s.levels[j]? = some L → LevelInv L

def Inv (s : State) : Prop := ∀ j, LInvAt s j

def Absent (s : State) (j : Nat) (id : Id) : Prop := ∀ L, s.levels[j]? = some L → L.data.lookup id = none

/-- the parent-exists test of `Create` through level `n - 1` -/
def capOf (s : State) (n : Nat) (id : Id) : Bool := decide (2 ≤ n) && levelHas s.levels (n - 2) id

/-- what level j needs of an operation for the code to keep its invariant:
      * a create captures the old values only when the IMMEDIATE parent level holds the id; otherwise
        level j must not hold the id yet (a create through a grandchild store over an entity the root
        holds but the child does not is NOT covered: `uncovered_create_breaks_root` in Properties/C03.lean);
      * a delete visits the constraints of levels 0 and 1 only: a deeper level must not hold the id
        (`deep_delete_leaves_entries` in Properties/C03.lean) -/
def Safe (s : State) (j : Nat) : Op → Prop
  | .create id recs => capOf s recs.length id = true ∨ Absent s j id
  | .update _ _ _ => True
  | .delete id => j < 2 ∨ Absent s j id

theorem createLevel_old {s : State} {id : Id} {recs : List Rec} {j : Nat} {L : Level}
    (hs : Safe s j (.create id recs)) (hL : s.levels[j]? = some L) :
    (if capOf s recs.length id then L.data.lookup id else none) = L.data.lookup id := by
  rcases hs with hcap | habs
  · simp [hcap]
  · simp [habs L hL]

theorem create_error {s : State} {id : Id} {recs : List Rec} {j : Nat} {L : Level} {r : Rec} {e : Err}
    (hid : id ≠ []) (hfits : ¬ (recs = [] ∨ s.levels.length < recs.length))
    (hfresh : levelHas s.levels (recs.length - 1) id = false)
    (hlow : ∀ k, k < j → ∀ L r, s.levels[k]? = some L → recs[k]? = some r →
      ∃ L', createLevel (capOf s recs.length id) id k L r = .ok L')
    (hL : s.levels[j]? = some L) (hr : recs[j]? = some r)
    (hput : createLevel (capOf s recs.length id) id j L r = .error e) :
    step s (.create id recs) = (s, .err e) := by
  have hm := mapPrefix_error j s.levels recs 0 hlow L r hL hr hput
  have : create s id recs = .error e := by
    unfold create
    simp only [hid, if_false, hfits, hfresh, Bool.false_eq_true]
    simp only [capOf] at hm
    simp [hm]
  simp [step, txStep, applyOps, stepRaw, this]

theorem inv_create_at {s s' : State} {id : Id} {recs : List Rec} {j : Nat}
    (hs : Safe s j (.create id recs)) (hi : LInvAt s j) (h : create s id recs = .ok s') : LInvAt s' j := by
  revert h
  fun_cases create s id recs <;> intro h <;> cases h
  next Ls hLs =>
    intro L' hL'
    obtain ⟨L, hL, rfl | ⟨_, r, hr⟩⟩ := mapPrefix_get _ _ _ _ hLs j L' hL'
    · exact hi _ hL
    · exact put_inv (hi L hL) (createLevel_old hs hL) (by simp) hr

theorem inv_updateAt_at {s s' : State} {id : Id} {recs : List Rec} {chk : Option (List Sel)} {j : Nat}
    (hi : LInvAt s j) (h : updateAt s id recs chk = .ok s') : LInvAt s' j := by
  revert h
  fun_cases updateAt s id recs chk <;> intro h <;> cases h
  next Ls hLs =>
    intro L' hL'
    obtain ⟨L, hL, rfl | ⟨_, r, hr⟩⟩ := mapPrefix_get _ _ _ _ hLs j L' hL'
    · exact hi _ hL
    · unfold updateLevel at hr
      split at hr
      · cases hr
      · next o ho => exact put_inv (hi L hL) ho.symm (by simp) hr

theorem erase_deep {deep : List Level} {id : Id} {k : Nat} {L' : Level}
    (hi : ∀ L, deep[k]? = some L → LevelInv L) (habs : ∀ L, deep[k]? = some L → L.data.lookup id = none)
    (hL' : (deep.map (·.eraseData id))[k]? = some L') : LevelInv L' := by
  simp only [List.getElem?_map, Option.map_eq_some_iff] at hL'
  obtain ⟨L, hL, rfl⟩ := hL'
  exact erase_absent (hi L hL) (habs L hL)

theorem inv_delete_at {s s' : State} {id : Id} {j : Nat}
    (hs : Safe s j (.delete id)) (hi : LInvAt s j) (h : delete s id = .ok s') : LInvAt s' j := by
  revert h
  fun_cases delete s id <;> intro h
  any_goals cases h
  all_goals rename_i hlev; simp only [LInvAt, Safe, Absent, hlev] at hi hs ⊢
  · -- a chain of one level
    next _ L0 r0 hr0 =>
    obtain ⟨a, ha, h⟩ := bind_ok h
    cases h
    intro L' hL'
    cases j with
    | zero => cases hL'; exact (pass_first (hi L0 rfl) hr0 ha).1
    | succ j => cases hL'
  · -- no level-1 data
    next _ L0 r0 hr0 L1 deep hr1 =>
    obtain ⟨a, ha, h⟩ := bind_ok h
    cases h
    intro L' hL'
    match j, hi, hs with
    | 0, hi, _ => cases hL'; exact (pass_first (hi L0 rfl) hr0 ha).1
    | 1, hi, _ => cases hL'; exact hi L1 rfl
    | k + 2, hi, hs => exact erase_deep hi (hs.resolve_left (by omega)) hL'
  · next _ L0 r0 hr0 L1 deep r1 hr1 =>
    obtain ⟨a, ha, h⟩ := bind_ok h
    obtain ⟨b, hb, h⟩ := bind_ok h
    obtain ⟨c, hc, h⟩ := bind_ok h
    cases h
    intro L' hL'
    match j, hi, hs with
    | 0, hi, _ =>
      -- the root is passed twice: through the level-1 store's context, then its own
      cases hL'
      obtain ⟨hg, hl⟩ := pass_first (hi L0 rfl) hr0 ha
      exact pass_again hg hl hc
    | 1, hi, _ => cases hL'; exact (pass_first (hi L1 rfl) hr1 hb).1
    | k + 2, hi, hs => exact erase_deep hi (hs.resolve_left (by omega)) hL'

theorem inv_stepRaw_at {s s' : State} {op : Op} {j : Nat} (hs : Safe s j op) (hi : LInvAt s j)
    (h : stepRaw s op = .ok s') : LInvAt s' j := by
  cases op with
  | create id recs => exact inv_create_at hs hi h
  | update id recs chk => exact inv_updateAt_at hi h
  | delete id => exact inv_delete_at hs hi h

/-- every operation of the transaction is safe for level j in the state it runs in -/
def SafeOps (j : Nat) : State → List Op → Prop
  | _, [] => True
  | s, op :: rest => Safe s j op ∧ match stepRaw s op with
    | .ok s' => SafeOps j s' rest
    | .error _ => True

theorem inv_applyOps_at {j : Nat} : ∀ (ops : List Op) (s s' : State) (i : Nat), SafeOps j s ops → LInvAt s j →
    applyOps s ops i = .ok s' → LInvAt s' j := by
  intro ops
  induction ops with
  | nil => intro s s' i _ hi h; simp only [applyOps, Except.ok.injEq] at h; subst h; exact hi
  | cons op rest ih =>
    intro s s' i hs hi h
    simp only [applyOps] at h
    simp only [SafeOps] at hs
    split at h
    · next s1 h1 =>
      rw [h1] at hs
      exact ih s1 s' (i + 1) hs.2 (inv_stepRaw_at hs.1 hi h1) h
    · cases h

theorem inv_txStep_at {j : Nat} {s : State} (ops : List Op) (hs : SafeOps j s ops) (hi : LInvAt s j) :
    LInvAt (txStep s ops).1 j := by
  unfold txStep
  split
  · next s' h => exact inv_applyOps_at ops s s' 0 hs hi h
  · exact hi

/-- every transaction of the history is safe for level j -/
def SafeTxs (j : Nat) : State → List (List Op) → Prop
  | _, [] => True
  | s, ops :: rest => SafeOps j s ops ∧ SafeTxs j (txStep s ops).1 rest

theorem inv_fold_at {j : Nat} : ∀ (txs : List (List Op)) (s : State), SafeTxs j s txs → LInvAt s j →
    LInvAt (txs.foldl (fun s ops => (txStep s ops).1) s) j := by
  intro txs
  induction txs with
  | nil => intro s _ hi; exact hi
  | cons ops rest ih => intro s hs hi; exact ih _ hs.2 (inv_txStep_at ops hs.1 hi)

theorem inv_empty (depth : Nat) : Inv (State.empty depth) := by
  intro j L hL
  simp only [State.empty] at hL
  have : L ∈ List.replicate depth Level.empty := List.mem_of_getElem? hL
  rw [List.eq_of_mem_replicate this]
  exact levelInv_empty

theorem put_dup {L : Level} {isCreate : Bool} {old : Option Rec} {id other : Id} {new r' : Rec}
    (hi : LevelInv L) (hold : old = L.data.lookup id) (hne : new.u ≠ [])
    (ho : L.data.lookup other = some r') (hoid : other ≠ id) (hu : r'.u = new.u) :
    L.put isCreate old id new = .error .dup := by
  subst hold
  have hs := uniqueAfter_spec (c := isCreate) (n := false) new.u hi.uniq (oldU_eq (L.data.lookup id))
  unfold Level.put
  simp only [bind, Except.bind]
  cases h : uniqueAfter isCreate false (oldU (L.data.lookup id)) new.u id L.uniq with
  | ok uq => rw [h] at hs; exact absurd ⟨hne, other, r', hoid, ho, hu⟩ hs.2.2
  | error x =>
    rw [h] at hs
    rcases hs with ⟨_, _, hz⟩ | ⟨rfl, _⟩
    · exact absurd hz hne
    · rfl

theorem put_empty {L : Level} {isCreate : Bool} {old : Option Rec} {id : Id} {new : Rec}
    (hi : LevelInv L) (hold : old = L.data.lookup id) (hc : isCreate = false → old ≠ none) (hne : new.u = []) :
    L.put isCreate old id new = .error .nullNotAllowed := by
  have hon : isCreate = true ∨ oldU old ≠ [] := by
    cases isCreate with
    | true => exact Or.inl rfl
    | false =>
      cases old with
      | none => exact absurd rfl (hc rfl)
      | some o => exact Or.inr (hi.uNonEmpty id o hold.symm)
  unfold Level.put
  simp only [bind, Except.bind]
  rw [hne, uniqueAfter_null hon]

end StorageModel.C03.Chain
