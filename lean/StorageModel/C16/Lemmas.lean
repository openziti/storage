import StorageModel.C16.Model
/-
  C16 — every branch of `step` is analysed once (`step_both`): how it ends (`StepOk`, `StepRes`) and that the
  specification ends the same way (`Refines`); what each successful operation preserves then holds after every
  body, transaction and history (`runHist_invariant`).  Around it: the lemmas about the association-list maps, the
  batch delete behind cascade / DeleteWhere, the abstraction to the spec, the ghost record of creation flags.
-/
set_option linter.unusedSectionVars false

namespace StorageModel.C16

namespace Map
variable {κ ν : Type} [DecidableEq κ]

theorem get_filter (f : κ → Bool) (m : Map κ ν) (k : κ) :
    get (m.filter fun p => f p.1) k = if f k then get m k else none := by
  induction m with
  | nil => simp only [List.filter_nil, get, ite_self]
  | cons p m ih =>
    obtain ⟨a, v⟩ := p
    by_cases ha : a = k
    · subst ha
      cases hf : f a <;> simp [hf, get, ih]
    · cases hf : f a <;> simp [hf, get, ha, ih]

theorem get_del (m : Map κ ν) (k k' : κ) : get (del m k) k' = if k = k' then none else get m k' := by
  unfold del
  rw [get_filter (fun a => decide (a ≠ k))]
  by_cases h : k = k'
  · subst h; simp
  · simp [h, Ne.symm h]

theorem get_put (m : Map κ ν) (k k' : κ) (v : ν) :
    get (put m k v) k' = if k = k' then some v else get m k' := by
  unfold put
  by_cases h : k = k'
  · simp [get, h]
  · simp [get, h, get_del]

theorem delAll_nil (m : Map κ ν) : delAll m [] = m := by
  simp [delAll]

theorem delAll_cons (m : Map κ ν) (k : κ) (ks : List κ) : delAll m (k :: ks) = delAll (del m k) ks := by
  unfold delAll del
  rw [List.filter_filter]
  congr 1; funext p
  simp [List.mem_cons, not_or, Bool.and_comm]

theorem get_delAll (m : Map κ ν) (ks : List κ) (k : κ) :
    get (delAll m ks) k = if k ∈ ks then none else get m k := by
  unfold delAll
  rw [get_filter (fun a => decide (a ∉ ks))]
  by_cases h : k ∈ ks <;> simp [h]

theorem get_some_mem {m : Map κ ν} {k : κ} {v : ν} (h : get m k = some v) : (k, v) ∈ m := by
  induction m with
  | nil => simp [get] at h
  | cons p m ih =>
    obtain ⟨a, w⟩ := p
    by_cases ha : a = k
    · simp [get, ha] at h; simp [ha, h]
    · simp only [get, ha, if_false] at h
      exact List.mem_cons_of_mem _ (ih h)

theorem mem_del {m : Map κ ν} {k : κ} {p : κ × ν} (h : p ∈ del m k) : p ∈ m := by
  unfold del at h; exact (List.mem_filter.mp h).1

theorem mem_delAll {m : Map κ ν} {ks : List κ} {p : κ × ν} (h : p ∈ delAll m ks) : p ∈ m := by
  unfold delAll at h; exact (List.mem_filter.mp h).1

theorem mem_put {m : Map κ ν} {k : κ} {v : ν} {p : κ × ν} (h : p ∈ put m k v) : p = (k, v) ∨ p ∈ m := by
  unfold put at h
  rcases List.mem_cons.mp h with h | h
  · exact Or.inl h
  · exact Or.inr (mem_del h)

theorem forall_put {P : ν → Prop} {m : Map κ ν} (h : ∀ p ∈ m, P p.2) (k : κ) {v : ν} (hv : P v) :
    ∀ p ∈ put m k v, P p.2 := by
  intro p hp
  rcases mem_put hp with rfl | hp
  · exact hv
  · exact h p hp

/-- the shape of `unlinkAll` and of `absM` -/
theorem get_map {μ : Type} (f : ν → μ) (m : Map κ ν) (k : κ) :
    get (m.map fun p => (p.1, f p.2)) k = (get m k).map f := by
  induction m with
  | nil => rfl
  | cons p m ih =>
    simp only [List.map_cons, get]
    split
    · rfl
    · exact ih

/-- `del` and `delAll` are filters on the key: they commute with a change of the values -/
theorem map_filter_keys {μ : Type} (f : ν → μ) (keep : κ → Bool) (m : Map κ ν) :
    (m.filter fun p => keep p.1).map (fun p => (p.1, f p.2)) =
      (m.map fun p => (p.1, f p.2)).filter fun p => keep p.1 := by
  rw [List.filter_map]; rfl

end Map

theorem mem_insertKey {κ : Type} [KeyOrd κ] (x y : κ) (l : List κ) : y ∈ insertKey x l ↔ y = x ∨ y ∈ l := by
  induction l with
  | nil => simp [insertKey]
  | cons a l ih =>
    unfold insertKey
    split
    · exact List.mem_cons
    · rw [List.mem_cons, ih, List.mem_cons, or_left_comm]

theorem mem_sortKeys {κ : Type} [KeyOrd κ] (y : κ) (l : List κ) : y ∈ sortKeys l ↔ y ∈ l := by
  induction l with
  | nil => simp [sortKeys]
  | cons a l ih => simp [sortKeys, mem_insertKey, ih]

section
variable {K N T : Type} [DecidableEq K]

theorem refused_eq (s : St K N T) (id : K) (sys : Bool) :
    refused s id sys = match s.ents.get id with
      | some e => e.protectedBy s.reg && !sys
      | none => false := rfl

theorem refused_sys (s : St K N T) (id : K) : refused s id true = false := by
  unfold refused; cases s.ents.get id <;> simp

theorem refused_of_get {s : St K N T} {id : K} {e : Ent K N T} (h : s.ents.get id = some e) (sys : Bool) :
    refused s id sys = (e.protectedBy s.reg && !sys) := by
  rw [refused_eq, h]

theorem refused_of_none {s : St K N T} {id : K} (h : s.ents.get id = none) (sys : Bool) :
    refused s id sys = false := by
  rw [refused_eq, h]

@[simp] theorem putEnt_ents (s : St K N T) (id : K) (e : Ent K N T) : (s.putEnt id e).ents = s.ents.put id e := rfl
@[simp] theorem putEnt_owners (s : St K N T) (id : K) (e : Ent K N T) : (s.putEnt id e).owners = s.owners := rfl
@[simp] theorem delEnt_ents (s : St K N T) (id : K) : (s.delEnt id).ents = s.ents.del id := rfl
@[simp] theorem delEnt_owners (s : St K N T) (id : K) : (s.delEnt id).owners = s.owners := rfl
@[simp] theorem putEnt_reg (s : St K N T) (id : K) (e : Ent K N T) : (s.putEnt id e).reg = s.reg := rfl
@[simp] theorem delEnt_reg (s : St K N T) (id : K) : (s.delEnt id).reg = s.reg := rfl

theorem get_putEnt_self (s : St K N T) (id : K) (e : Ent K N T) : (s.putEnt id e).ents.get id = some e := by
  rw [putEnt_ents, Map.get_put, if_pos rfl]

theorem protectedBy_eq (e : Ent K N T) (reg : Reg) : e.protectedBy reg = (guarded reg e && e.isSystem) := rfl

theorem protectedBy_of_not_system {e : Ent K N T} (reg : Reg) (h : e.isSystem = false) : e.protectedBy reg = false := by
  rw [protectedBy_eq, h, Bool.and_false]

theorem protectedBy_of {e : Ent K N T} {reg : Reg} (hg : guarded reg e = true) (hs : e.isSystem = true) :
    e.protectedBy reg = true := by
  rw [protectedBy_eq, hg, hs]; rfl

theorem guarded_onS {reg : Reg} (h : reg.onS = true) (e : Ent K N T) : guarded reg e = true := by
  unfold guarded; rw [h]; rfl

theorem guarded_onC {reg : Reg} (h : reg.onC = true) {e : Ent K N T} (hl : e.level.isSome = true) :
    guarded reg e = true := by
  unfold guarded; rw [h, hl]; simp

theorem updEnt_eq (v : Vals K N T) (sn st so : Bool) (lvl : Option (Bool × N)) (e : Ent K N T) :
    updEnt v sn st so lvl e =
      { e with name := if sn then v.name else e.name, tags := if st then v.tags else e.tags, updated := .now,
               owner := if so then v.owner else e.owner,
               level := match lvl with | some (true, l) => some l | _ => e.level } := by
  rcases lvl with _ | ⟨_ | _, l⟩ <;> cases sn <;> cases so <;> rfl

theorem updEnt_flag (v : Vals K N T) (sn st so : Bool) (lvl : Option (Bool × N)) (e : Ent K N T) :
    (updEnt v sn st so lvl e).flag = e.flag := by
  rw [updEnt_eq]

theorem updEnt_isSystem (v : Vals K N T) (sn st so : Bool) (lvl : Option (Bool × N)) (e : Ent K N T) :
    (updEnt v sn st so lvl e).isSystem = e.isSystem := by
  unfold Ent.isSystem; rw [updEnt_flag]

theorem updEnt_peers (v : Vals K N T) (sn st so : Bool) (lvl : Option (Bool × N)) (e : Ent K N T) :
    (updEnt v sn st so lvl e).peers = e.peers := by
  rw [updEnt_eq]

theorem updEnt_owner (v : Vals K N T) (sn st so : Bool) (lvl : Option (Bool × N)) (e : Ent K N T) :
    (updEnt v sn st so lvl e).owner = if so then v.owner else e.owner := by
  rw [updEnt_eq]

theorem mkEnt_eq (v : Vals K N T) (lvl : Option N) (e : Ent K N T) :
    mkEnt v lvl e =
      { e with flag := if v.flag then some true else e.flag, name := v.name, tags := v.tags,
               created := if v.migrate then .given v.cAt else .now,
               updated := if v.migrate then .given v.uAt else .now, owner := v.owner,
               level := match lvl with | some l => some l | none => e.level } := by
  obtain ⟨flag, migrate, _, _, _, _, _⟩ := v
  cases lvl <;> cases flag <;> cases migrate <;> rfl

theorem mkEnt_flag (v : Vals K N T) (lvl : Option N) (e : Ent K N T) :
    (mkEnt v lvl e).flag = if v.flag then some true else e.flag := by
  rw [mkEnt_eq]

theorem mkEnt_isSystem (v : Vals K N T) (lvl : Option N) (e : Ent K N T) :
    (mkEnt v lvl e).isSystem = (v.flag || e.isSystem) := by
  unfold Ent.isSystem; rw [mkEnt_flag]
  cases v.flag <;> rfl

theorem mkEnt_level (v : Vals K N T) (lvl : Option N) (e : Ent K N T) :
    (mkEnt v lvl e).level = match lvl with | some l => some l | none => e.level := by
  rw [mkEnt_eq]

theorem blankEnt_isSystem (n : N) : (blankEnt n : Ent K N T).isSystem = false := rfl

theorem unlinkEnt_isSystem (o : K) (e : Ent K N T) : (unlinkEnt o e).isSystem = e.isSystem := rfl

theorem guarded_mkEnt_child (reg : Reg) (v : Vals K N T) (l : N) (e : Ent K N T) :
    guarded reg (mkEnt v (some l) e) = (reg.onS || reg.onC) := by
  unfold guarded; rw [mkEnt_level]; simp

theorem guarded_mkEnt_fresh (reg : Reg) (v : Vals K N T) (n : N) :
    guarded reg (mkEnt v none (blankEnt n : Ent K N T)) = reg.onS := by
  unfold guarded; rw [mkEnt_level]; simp [blankEnt]

theorem guarded_some_reg {reg : Reg} {e : Ent K N T} (h : guarded reg e = true) : (reg.onS || reg.onC) = true := by
  unfold guarded at h
  cases hS : reg.onS with
  | true => rfl
  | false => rw [hS, Bool.false_or, Bool.and_eq_true] at h; rw [h.1]; rfl

theorem protectedBy_mkEnt_child {reg : Reg} (hr : (reg.onS || reg.onC) = true) (v : Vals K N T) (l : N) (e : Ent K N T)
    (hs : (v.flag || e.isSystem) = true) : (mkEnt v (some l) e).protectedBy reg = true := by
  rw [protectedBy_eq, guarded_mkEnt_child, mkEnt_isSystem, hr, hs]; rfl

theorem protectedBy_mkEnt_child_of {reg : Reg} {e : Ent K N T} (hp : e.protectedBy reg = true) (v : Vals K N T) (l : N) :
    (mkEnt v (some l) e).protectedBy reg = true := by
  rw [protectedBy_eq, Bool.and_eq_true] at hp
  exact protectedBy_mkEnt_child (guarded_some_reg hp.1) v l e (by rw [hp.2, Bool.or_true])

theorem get_unlinkAll (m : Map K (Ent K N T)) (o k : K) :
    (unlinkAll m o).get k = (m.get k).map (unlinkEnt o) := Map.get_map _ m k

theorem forall_unlinkAll {P : Ent K N T → Prop} {m : Map K (Ent K N T)} (h : ∀ p ∈ m, P p.2) (o : K)
    (hP : ∀ e, P e → P (unlinkEnt o e)) : ∀ p ∈ unlinkAll m o, P p.2 := by
  intro p hp
  obtain ⟨q, hq, rfl⟩ := List.mem_map.mp hp
  exact hP _ (h q hq)

theorem delMany_nil (sys : Bool) (s : St K N T) : delMany sys s [] = (s, none) := rfl

theorem delMany_cons (sys : Bool) (s : St K N T) (id : K) (ids : List K) :
    delMany sys s (id :: ids) =
      if refused s id sys then (s, some .sysDelete) else delMany sys (s.delEnt id) ids := rfl

theorem refused_delEnt {s : St K N T} {id : K} {sys : Bool} (h : refused s id sys = false) (y : K) :
    refused (s.delEnt id) y sys = refused s y sys := by
  rw [refused_eq, refused_eq, delEnt_ents, Map.get_del]
  by_cases hy : id = y
  · subst hy
    rw [refused_eq] at h
    simp only [if_true]
    cases hg : s.ents.get id with
    | none => rfl
    | some e => rw [hg] at h; exact h.symm
  · simp [hy]

/-- closed form of the batch, except for the partial state a refused one leaves: that is `delMany_deleted` -/
theorem delMany_eq (sys : Bool) (s : St K N T) (ids : List K) :
    delMany sys s ids =
      if ids.any (fun y => refused s y sys) then ((delMany sys s ids).1, some .sysDelete)
      else ({ s with ents := s.ents.delAll ids }, none) := by
  induction ids generalizing s with
  | nil => rw [delMany_nil, Map.delAll_nil]; rfl
  | cons id ids ih =>
    rw [delMany_cons, List.any_cons]
    cases h : refused s id sys with
    | true => rfl
    | false =>
      rw [if_neg Bool.false_ne_true, Bool.false_or, ← funext (refused_delEnt h), Map.delAll_cons]
      exact ih _

theorem delMany_deleted (sys : Bool) (s : St K N T) (ids : List K) :
    ∃ del, (∀ y ∈ del, refused s y sys = false) ∧ (delMany sys s ids).1 = { s with ents := s.ents.delAll del } := by
  induction ids generalizing s with
  | nil => exact ⟨[], fun _ h => (List.not_mem_nil h).elim, by rw [Map.delAll_nil]; rfl⟩
  | cons id ids ih =>
    rw [delMany_cons]
    cases h : refused s id sys with
    | true => exact ⟨[], fun _ h => (List.not_mem_nil h).elim, by rw [Map.delAll_nil]; rfl⟩
    | false =>
      obtain ⟨del, hd, he⟩ := ih (s.delEnt id)
      refine ⟨id :: del, fun y hy => ?_, by rw [if_neg Bool.false_ne_true, he, Map.delAll_cons]; rfl⟩
      rcases List.mem_cons.mp hy with rfl | hy
      · exact h
      · rw [← refused_delEnt h]; exact hd y hy

theorem delMany_owners (sys : Bool) (s : St K N T) (ids : List K) : (delMany sys s ids).1.owners = s.owners := by
  obtain ⟨_, _, h⟩ := delMany_deleted sys s ids
  rw [h]

theorem delMany_reg (sys : Bool) (s : St K N T) (ids : List K) : (delMany sys s ids).1.reg = s.reg := by
  obtain ⟨_, _, h⟩ := delMany_deleted sys s ids
  rw [h]

theorem any_refused_sys (s : St K N T) (ids : List K) : ids.any (fun y => refused s y true) = false := by
  rw [List.any_eq_false]
  intro y _
  rw [refused_sys]; exact Bool.false_ne_true

theorem delMany_sys (s : St K N T) (ids : List K) : (delMany true s ids).2 = none := by
  rw [delMany_eq, any_refused_sys]; rfl

theorem delMany_keeps_system (s : St K N T) (ids : List K) {x : K} {e : Ent K N T}
    (hg : s.ents.get x = some e) (hs : e.protectedBy s.reg = true) :
    (delMany false s ids).1.ents.get x = some e := by
  obtain ⟨del, hd, h⟩ := delMany_deleted false s ids
  rw [h]
  show (s.ents.delAll del).get x = some e
  rw [Map.get_delAll, if_neg, hg]
  -- the batch removed only ids the ordinary context is not refused, and it is refused `x`
  intro hx
  have := hd x hx
  rw [refused_of_get hg, hs] at this; cases this

theorem delMany_get (sys : Bool) (s : St K N T) (ids : List K) (x : K) :
    (delMany sys s ids).1.ents.get x = none ∨ (delMany sys s ids).1.ents.get x = s.ents.get x := by
  obtain ⟨del, _, h⟩ := delMany_deleted sys s ids
  rw [h]
  show (s.ents.delAll del).get x = none ∨ (s.ents.delAll del).get x = s.ents.get x
  rw [Map.get_delAll]
  split
  · exact .inl rfl
  · exact .inr rfl

theorem refused_of_not_system {s : St K N T} {id : K} (h : ∀ e, s.ents.get id = some e → e.isSystem = false) (sys : Bool) :
    refused s id sys = false := by
  cases hg : s.ents.get id with
  | none => exact refused_of_none hg sys
  | some e => rw [refused_of_get hg, protectedBy_of_not_system _ (h e hg)]; rfl

theorem delMany_ctx_irrelevant (s : St K N T) (ids : List K) (h : ∀ y ∈ ids, refused s y false = false) (c1 c2 : Bool) :
    delMany c1 s ids = delMany c2 s ids := by
  have hn : ∀ c, ids.any (fun y => refused s y c) = false := fun c =>
    List.any_eq_false.mpr fun y hy => by
      cases c
      · rw [h y hy]; exact Bool.false_ne_true
      · rw [refused_sys]; exact Bool.false_ne_true
  rw [delMany_eq c1, delMany_eq c2, hn c1, hn c2]; rfl

end

section
variable {K N T : Type} [DecidableEq K] [DecidableEq N] [KeyOrd K]

theorem mem_refs {s : St K N T} {id o : K} {e : Ent K N T} (hg : s.ents.get id = some e) (ho : e.owner = some o) :
    id ∈ refs s o := by
  unfold refs
  rw [mem_sortKeys]
  refine List.mem_map.mpr ⟨(id, e), ?_, rfl⟩
  exact List.mem_filter.mpr ⟨Map.get_some_mem hg, by simp [ho]⟩

theorem mem_matching {s : St K N T} {id : K} {e : Ent K N T} {q : Query K N} (hg : s.ents.get id = some e)
    (hq : q.eval e = true) : id ∈ matching s q := by
  unfold matching
  rw [mem_sortKeys]
  refine List.mem_map.mpr ⟨(id, e), ?_, rfl⟩
  exact List.mem_filter.mpr ⟨Map.get_some_mem hg, hq⟩

theorem any_refused_of_mem {s : St K N T} {ids : List K} {id : K} {e : Ent K N T} (hm : id ∈ ids)
    (hg : s.ents.get id = some e) (hp : e.protectedBy s.reg = true) : ids.any (fun y => refused s y false) = true := by
  rw [List.any_eq_true]
  exact ⟨id, hm, by rw [refused_of_get hg, hp]; rfl⟩

theorem runOps_nil (k : Bool) (s : St K N T) : runOps k s [] = (s, false) := rfl

theorem runOps_cons_ok {k : Bool} {s : St K N T} {op : Op K N T} {ops : List (Op K N T)} (h : (step s op).err = none) :
    runOps k s (op :: ops) = runOps k (step s op).st ops := by
  simp only [runOps, h]

theorem runOps_cons_err {k : Bool} {s : St K N T} {op : Op K N T} {ops : List (Op K N T)} {e : Err}
    (h : (step s op).err = some e) :
    runOps k s (op :: ops) =
      if k && e.ignorable then runOps k (step s op).st ops else ((step s op).st, true) := by
  simp only [runOps, h]

theorem commitTx_failed {s : St K N T} {tx : Bool × List (Op K N T)} (h : (runOps tx.1 s tx.2).2 = true) :
    commitTx s tx = s := by
  simp only [commitTx, h, if_true]

theorem commitTx_ok {s : St K N T} {tx : Bool × List (Op K N T)} (h : (runOps tx.1 s tx.2).2 = false) :
    commitTx s tx = (runOps tx.1 s tx.2).1 := by
  simp only [commitTx, h, Bool.false_eq_true, if_false]

theorem createOn_eq (s : St K N T) (sys : Bool) (id : K) (v : Vals K N T) (lvl : Option N) (e0 : Ent K N T) :
    createOn s sys id v lvl e0 =
      if !ownerOk s v.owner then { st := s.putEnt id (mkEnt v lvl e0), err := some .noOwner }
      else if (mkEnt v lvl e0).protectedBy s.reg && !sys then { st := s.putEnt id (mkEnt v lvl e0), err := some .sysCreate }
      else { st := s.putEnt id (mkEnt v lvl e0) } := by
  have hr : refused (s.putEnt id (mkEnt v lvl e0)) id sys = ((mkEnt v lvl e0).protectedBy s.reg && !sys) :=
    refused_of_get (get_putEnt_self ..) sys
  unfold createOn
  simp only [hr]

/-- the fk constraint is registered before the system check: a missing owner is reported first -/
theorem createOn_refused (s : St K N T) (id : K) (v : Vals K N T) (lvl : Option N) (e0 : Ent K N T)
    (hp : (mkEnt v lvl e0).protectedBy s.reg = true) :
    (createOn s false id v lvl e0).err = some .sysCreate ∨ (createOn s false id v lvl e0).err = some .noOwner := by
  rw [createOn_eq, hp]
  cases ownerOk s v.owner
  · exact Or.inr rfl
  · exact Or.inl rfl

namespace Write

theorem run_errored (w : Write K N T) {b : Bkt K N T} (h : b.err.isSome = true) : w.run b = b := by
  cases w <;> simp [Write.run, Bkt.proceedWithSet, Option.isNone_eq_false_iff.mpr h]

theorem run_set_clean (chk : Bool) (w : Ent K N T → Ent K N T) (e : Ent K N T) (wr : Bool) :
    (Write.set chk w).run { ent := e, err := none, wrote := wr } =
      { ent := if chk then w e else e, err := none, wrote := wr || chk } := by
  cases chk <;> cases wr <;> rfl

end Write

theorem runWrites_errored (ws : List (Write K N T)) {b : Bkt K N T} (h : b.err.isSome = true) : runWrites ws b = b := by
  induction ws with
  | nil => rfl
  | cons w ws ih =>
    show runWrites ws (w.run b) = b
    rw [Write.run_errored w h]; exact ih

theorem runWrites_strat (v : Vals K N T) (sn st so : Bool) (lvl : Option (Bool × N)) (e : Ent K N T) :
    runWrites (stratWrites v sn st so lvl) { ent := e, err := none } =
      { ent := updEnt v sn st so lvl e, err := none, wrote := true } := by
  rcases lvl with _ | ⟨sl, l⟩ <;>
    simp only [stratWrites, List.append_nil, List.cons_append, List.nil_append, runWrites, List.foldl_cons,
      List.foldl_nil, Write.run_set_clean]
  · cases st <;> rfl
  · cases st <;> cases sl <;> rfl

theorem updateWith_refused (ws : List (Write K N T)) {s : St K N T} {id : K} {sys : Bool}
    (hr : refused s id sys = true) (e : Ent K N T) :
    updateWith ws s sys id e = { st := s, err := some .sysUpdate } := by
  unfold updateWith
  simp only [hr, if_true, runWrites_errored ws (b := { ent := e, err := some .sysUpdate }) rfl,
    Bool.false_eq_true, if_false]

theorem updateOn_eq {s : St K N T} {id : K} {e : Ent K N T} (hg : s.ents.get id = some e) (sys : Bool)
    (v : Vals K N T) (sn st so : Bool) (lvl : Option (Bool × N)) :
    updateOn s sys id v sn st so lvl e =
      if e.protectedBy s.reg && !sys then { st := s, err := some .sysUpdate }
      else if decide ((updEnt v sn st so lvl e).owner ≠ e.owner) && !ownerOk s (updEnt v sn st so lvl e).owner then
        { st := s.putEnt id (updEnt v sn st so lvl e), err := some .noOwner }
      else { st := s.putEnt id (updEnt v sn st so lvl e) } := by
  cases hr : refused s id sys with
  | true => rw [← refused_of_get hg, hr, if_pos rfl]; exact updateWith_refused _ hr e
  | false =>
    rw [← refused_of_get hg, hr]
    unfold updateOn updateWith
    simp only [hr, Bool.false_eq_true, if_false, runWrites_strat, if_true]

theorem deleteOne_missing {s : St K N T} {id : K} (hg : s.ents.get id = none) (sys : Bool) :
    deleteOne s sys id = { st := s, err := some .notFound } := by
  simp [deleteOne, hg]

theorem deleteOne_found {s : St K N T} {id : K} {e : Ent K N T} (hg : s.ents.get id = some e) (sys : Bool) :
    deleteOne s sys id =
      if e.protectedBy s.reg && !sys then { st := s, err := some .sysDelete } else { st := s.delEnt id } := by
  simp only [deleteOne, hg, refused_of_get hg]

theorem step_create_blank (s : St K N T) (sys : Bool) (id : K) (v : Vals K N T) :
    step s (.create sys id true v) = { st := s, err := some .blank } := by
  simp [step]

theorem step_create_exists {s : St K N T} {id : K} {e : Ent K N T} (hg : s.ents.get id = some e) (sys : Bool)
    (v : Vals K N T) : step s (.create sys id false v) = { st := s, err := some .exists } := by
  simp [step, hg]

theorem step_create_new {s : St K N T} {id : K} (hg : s.ents.get id = none) (sys : Bool) (v : Vals K N T) :
    step s (.create sys id false v) = createOn s sys id v none (blankEnt v.name) := by
  simp [step, hg]

theorem step_ccreate_blank (s : St K N T) (sys : Bool) (id : K) (v : Vals K N T) (lvl : N) :
    step s (.ccreate sys id true v lvl) = { st := s, err := some .blank } := by
  simp [step]

theorem step_ccreate_new {s : St K N T} {id : K} (hg : s.ents.get id = none) (sys : Bool) (v : Vals K N T) (lvl : N) :
    step s (.ccreate sys id false v lvl) = createOn s sys id v (some lvl) (blankEnt v.name) := by
  simp [step, hg]

theorem step_ccreate_found {s : St K N T} {id : K} {e : Ent K N T} (hg : s.ents.get id = some e) (sys : Bool)
    (v : Vals K N T) (lvl : N) :
    step s (.ccreate sys id false v lvl) =
      if e.level.isSome then { st := s, err := some .exists } else createOn s sys id v (some lvl) e := by
  simp [step, hg]

theorem step_update_missing {s : St K N T} {id : K} (hg : s.ents.get id = none) (sys : Bool) (v : Vals K N T)
    (sn st so : Bool) : step s (.update sys id v sn st so) = { st := s, err := some .notFound } := by
  simp [step, hg]

theorem step_update_found {s : St K N T} {id : K} {e : Ent K N T} (hg : s.ents.get id = some e) (sys : Bool)
    (v : Vals K N T) (sn st so : Bool) :
    step s (.update sys id v sn st so) = updateOn s sys id v sn st so none e := by
  simp [step, hg]

theorem step_cupdate_missing {s : St K N T} {id : K} (hg : s.ents.get id = none) (sys : Bool) (v : Vals K N T)
    (sn st so sl : Bool) (lvl : N) : step s (.cupdate sys id v sn st so sl lvl) = { st := s, err := some .notFound } := by
  simp [step, hg]

theorem step_cupdate_found {s : St K N T} {id : K} {e : Ent K N T} (hg : s.ents.get id = some e) (sys : Bool)
    (v : Vals K N T) (sn st so sl : Bool) (lvl : N) :
    step s (.cupdate sys id v sn st so sl lvl) =
      if e.level.isNone then { st := s, err := some .notFound } else updateOn s sys id v sn st so (some (sl, lvl)) e := by
  simp [step, hg]

theorem step_delete (s : St K N T) (sys : Bool) (id : K) : step s (.delete sys id) = deleteOne s sys id := rfl
theorem step_cdelete (s : St K N T) (sys : Bool) (id : K) : step s (.cdelete sys id) = deleteOne s sys id := rfl

theorem step_odelete_missing {s : St K N T} {o : K} (h : o ∉ s.owners) (sys : Bool) :
    step s (.odelete sys o) = { st := s, err := some .notFound } := by
  simp [step, h]

theorem step_odelete_found {s : St K N T} {o : K} (h : o ∈ s.owners) (sys : Bool) :
    step s (.odelete sys o) =
      if (refs s o).any (fun y => refused s y sys) then
        { st := (delMany sys s (refs s o)).1, err := some .viaSysDelete }
      else { st := { s with ents := unlinkAll (s.ents.delAll (refs s o)) o, owners := s.owners.filter (· ≠ o) } } := by
  simp only [step, h, if_true, cascadeCtx]
  rw [delMany_eq]
  cases (refs s o).any (fun y => refused s y sys) <;> rfl

theorem step_deleteWhere (s : St K N T) (sys : Bool) (q : Query K N) :
    step s (.deleteWhere sys q) =
      if (matching s q).any (fun y => refused s y sys) then
        { st := (delMany sys s (matching s q)).1, err := some .viaSysDelete }
      else { st := { s with ents := s.ents.delAll (matching s q) } } := by
  simp only [step]
  rw [delMany_eq]
  cases (matching s q).any (fun y => refused s y sys) <;> rfl

theorem step_link_missing {s : St K N T} {sid : K} (hg : s.ents.get sid = none) (oid : K) :
    step s (.link sid oid) = { st := s, err := some .notFound } := by
  simp [step, hg]

theorem step_link_found {s : St K N T} {sid : K} {e : Ent K N T} (hg : s.ents.get sid = some e) (oid : K) :
    step s (.link sid oid) =
      if oid ∈ s.owners then { st := s.putEnt sid { e with peers := oid :: e.peers.filter (· ≠ oid) } }
      else { st := s.putEnt sid { e with peers := oid :: e.peers.filter (· ≠ oid) }, err := some .noOwner } := by
  simp [step, hg]

theorem step_unlink_missing {s : St K N T} {sid : K} (hg : s.ents.get sid = none) (oid : K) :
    step s (.unlink sid oid) = { st := s, err := some .notFound } := by
  simp [step, hg]

theorem step_unlink_found {s : St K N T} {sid : K} {e : Ent K N T} (hg : s.ents.get sid = some e) (oid : K) :
    step s (.unlink sid oid) = { st := s.putEnt sid (unlinkEnt oid e) } := by
  simp [step, hg]

theorem step_ocreate (s : St K N T) (id : K) (blank : Bool) :
    step s (.ocreate id blank) =
      if blank then { st := s, err := some .blank }
      else if id ∈ s.owners then { st := s, err := some .exists }
      else { st := { s with owners := id :: s.owners } } := rfl

theorem step_read (s : St K N T) (id : K) : step s (.read id) = { st := s } := rfl

/-- `StepOk s op s'`: `op` succeeds on `s` and leaves `s'` — the branches of `step` that return no
    error, each with the bucket it found and the one it wrote or removed, and the system check that let
    it through (`hc`, `ha`).  What else the branch had to find — child data or none, the owners looked
    up — is left out. -/
inductive StepOk (s : St K N T) : Op K N T → St K N T → Prop
  | create {sys id v} (hg : s.ents.get id = none)
      (hc : ((mkEnt v none (blankEnt v.name)).protectedBy s.reg && !sys) = false) :
      StepOk s (.create sys id false v) (s.putEnt id (mkEnt v none (blankEnt v.name)))
  | ccreateNew {sys id v lvl} (hg : s.ents.get id = none)
      (hc : ((mkEnt v (some lvl) (blankEnt v.name)).protectedBy s.reg && !sys) = false) :
      StepOk s (.ccreate sys id false v lvl) (s.putEnt id (mkEnt v (some lvl) (blankEnt v.name)))
  | ccreateOver {sys id v lvl e0} (hg : s.ents.get id = some e0)
      (hc : ((mkEnt v (some lvl) e0).protectedBy s.reg && !sys) = false) :
      StepOk s (.ccreate sys id false v lvl) (s.putEnt id (mkEnt v (some lvl) e0))
  | update {sys id v sn st so e0} (hg : s.ents.get id = some e0) (hc : (e0.protectedBy s.reg && !sys) = false) :
      StepOk s (.update sys id v sn st so) (s.putEnt id (updEnt v sn st so none e0))
  | cupdate {sys id v sn st so sl lvl e0} (hg : s.ents.get id = some e0) (hc : (e0.protectedBy s.reg && !sys) = false) :
      StepOk s (.cupdate sys id v sn st so sl lvl) (s.putEnt id (updEnt v sn st so (some (sl, lvl)) e0))
  | delete {sys id e0} (hg : s.ents.get id = some e0) (hc : (e0.protectedBy s.reg && !sys) = false) :
      StepOk s (.delete sys id) (s.delEnt id)
  | cdelete {sys id e0} (hg : s.ents.get id = some e0) (hc : (e0.protectedBy s.reg && !sys) = false) :
      StepOk s (.cdelete sys id) (s.delEnt id)
  | ocreate {id} : StepOk s (.ocreate id false) { s with owners := id :: s.owners }
  | odelete {sys o} (ha : (refs s o).any (fun y => refused s y sys) = false) :
      StepOk s (.odelete sys o)
        { s with ents := unlinkAll (s.ents.delAll (refs s o)) o, owners := s.owners.filter (· ≠ o) }
  | deleteWhere {sys q} (ha : (matching s q).any (fun y => refused s y sys) = false) :
      StepOk s (.deleteWhere sys q) { s with ents := s.ents.delAll (matching s q) }
  | link {sid oid e0} (hg : s.ents.get sid = some e0) :
      StepOk s (.link sid oid) (s.putEnt sid { e0 with peers := oid :: e0.peers.filter (· ≠ oid) })
  | unlink {sid oid e0} (hg : s.ents.get sid = some e0) : StepOk s (.unlink sid oid) (s.putEnt sid (unlinkEnt oid e0))
  | read {id} : StepOk s (.read id) s

/-- the three kinds of outcome: a failure raised before anything was written (every ignorable error
    is one); a failure that leaves partial writes in the open transaction (never ignorable: the body
    aborts in either mode); a success -/
inductive StepRes (s : St K N T) (op : Op K N T) : Out K N T → Prop
  | same (e : Err) : StepRes s op { st := s, err := some e }
  | dirty {s' : St K N T} {e : Err} (hi : e.ignorable = false) (hr : s'.reg = s.reg) :
      StepRes s op { st := s', err := some e }
  | ok {s' : St K N T} (h : StepOk s op s') : StepRes s op { st := s' }

/-- the entity as the specification sees it: the stored key read the way `LoadBaseValues` reads it, no link set -/
def absEnt (e : Ent K N T) : SEnt K N T :=
  { isSys := e.isSystem, name := e.name, tags := e.tags, created := e.created, updated := e.updated,
    owner := e.owner, level := e.level }

def absM (m : Map K (Ent K N T)) : Map K (SEnt K N T) := m.map fun p => (p.1, absEnt p.2)

def abs (s : St K N T) : SSt K N T := { ents := absM s.ents, owners := s.owners, reg := s.reg }

theorem get_absM (m : Map K (Ent K N T)) (id : K) : (absM m).get id = (m.get id).map absEnt := Map.get_map _ m id

theorem absM_del (m : Map K (Ent K N T)) (id : K) : absM (m.del id) = (absM m).del id :=
  Map.map_filter_keys absEnt (fun a => decide (a ≠ id)) m

theorem absM_put (m : Map K (Ent K N T)) (id : K) (e : Ent K N T) : absM (m.put id e) = (absM m).put id (absEnt e) :=
  congrArg ((id, absEnt e) :: ·) (absM_del m id)

theorem absM_delAll (m : Map K (Ent K N T)) (ids : List K) : absM (m.delAll ids) = (absM m).delAll ids :=
  Map.map_filter_keys absEnt (fun a => decide (a ∉ ids)) m

theorem absM_unlinkAll (m : Map K (Ent K N T)) (o : K) : absM (unlinkAll m o) = absM m := by
  unfold absM unlinkAll
  rw [List.map_map]
  rfl

theorem srefused_abs (s : St K N T) (sys : Bool) : srefused (abs s) sys = fun y => refused s y sys := by
  funext y
  unfold srefused refused abs
  simp only [get_absM]
  cases s.ents.get y <;> rfl

theorem sownerOk_abs (s : St K N T) (o : Option K) : sownerOk (abs s) o = ownerOk s o := by
  cases o <;> rfl

theorem any_sortKeys (l : List K) (f : K → Bool) : (sortKeys l).any f = l.any f := by
  rw [Bool.eq_iff_iff]
  simp only [List.any_eq_true, mem_sortKeys]

theorem delAll_sortKeys {ν : Type} (m : Map K ν) (l : List K) : m.delAll (sortKeys l) = m.delAll l := by
  unfold Map.delAll
  congr 1
  funext p
  simp only [mem_sortKeys]

theorem filter_keys_abs (m : Map K (Ent K N T)) (f : Ent K N T → Bool) (g : SEnt K N T → Bool)
    (h : ∀ p ∈ m, f p.2 = g (absEnt p.2)) :
    ((absM m).filter fun p => g p.2).map (·.1) = (m.filter fun p => f p.2).map (·.1) := by
  unfold absM
  rw [List.filter_map, List.map_map, List.filter_congr h]
  rfl

theorem srefs_abs (s : St K N T) (o : K) : refs s o = sortKeys (srefs (abs s) o) := by
  unfold refs srefs abs
  rw [filter_keys_abs s.ents (fun e => decide (e.owner = some o)) (fun e => decide (e.owner = some o))]
  intro p _; rfl

/-- no bucket holds the key with the value `false` (`CreateBaseValues` only ever writes `true`) -/
def WF (m : Map K (Ent K N T)) : Prop := ∀ p ∈ m, p.2.flag ≠ some false

theorem eval_abs (q : Query K N) (e : Ent K N T) (h : e.flag ≠ some false) : q.eval e = q.seval (absEnt e) := by
  cases q with
  | all => rfl
  | name n => rfl
  | owner o => rfl
  | flag b =>
    simp only [Query.eval, Query.seval, absEnt, Ent.isSystem]
    cases b with
    | true => cases hf : e.flag with
      | none => simp
      | some x => cases x <;> simp
    | false => cases hf : e.flag with
      | none => simp
      | some x => cases x with
        | true => simp
        | false => exact absurd hf h

theorem smatching_abs (s : St K N T) (hw : WF s.ents) (q : Query K N) :
    matching s q = sortKeys (smatching (abs s) q) := by
  unfold matching smatching abs
  rw [filter_keys_abs s.ents (fun e => q.eval e) (fun e => q.seval e)]
  intro p hp; exact eval_abs q p.2 (hw p hp)

theorem sdeleteAll_abs (s : St K N T) (sys : Bool) {ids l : List K} (h : ids = sortKeys l) :
    sdeleteAll (abs s) sys l =
      if ids.any (fun y => refused s y sys) then none else some (abs { s with ents := s.ents.delAll ids }) := by
  subst h
  unfold sdeleteAll
  rw [any_sortKeys, delAll_sortKeys, srefused_abs]
  split
  · rfl
  · simp only [abs, absM_delAll]

theorem wf_of_get {m : Map K (Ent K N T)} (hw : WF m) {id : K} {e : Ent K N T} (hg : m.get id = some e) :
    e.flag ≠ some false := hw (id, e) (Map.get_some_mem hg)

theorem wf_put {m : Map K (Ent K N T)} (hw : WF m) (id : K) {e : Ent K N T} (he : e.flag ≠ some false) :
    WF (m.put id e) := Map.forall_put (P := fun e : Ent K N T => e.flag ≠ some false) hw id he

theorem mkEnt_wf (v : Vals K N T) (lvl : Option N) {e : Ent K N T} (h : e.flag ≠ some false) :
    (mkEnt v lvl e).flag ≠ some false := by
  rw [mkEnt_flag]; split
  · exact fun h => nomatch h
  · exact h

theorem stepOk_wf {s s' : St K N T} {op : Op K N T} (hk : StepOk s op s') (hw : WF s.ents) : WF s'.ents := by
  have hnew : ∀ n : N, (blankEnt n : Ent K N T).flag ≠ some false := fun _ h => nomatch h
  cases hk with
  | create _ _ => exact wf_put hw _ (mkEnt_wf _ _ (hnew _))
  | ccreateNew _ _ => exact wf_put hw _ (mkEnt_wf _ _ (hnew _))
  | ccreateOver hg _ => exact wf_put hw _ (mkEnt_wf _ _ (wf_of_get hw hg))
  | update hg _ => exact wf_put hw _ (by rw [updEnt_flag]; exact wf_of_get hw hg)
  | cupdate hg _ => exact wf_put hw _ (by rw [updEnt_flag]; exact wf_of_get hw hg)
  | delete _ _ => exact fun p hp => hw p (Map.mem_del hp)
  | cdelete _ _ => exact fun p hp => hw p (Map.mem_del hp)
  | ocreate => exact hw
  | odelete _ => exact forall_unlinkAll (P := fun e : Ent K N T => e.flag ≠ some false) (fun p hp => hw p (Map.mem_delAll hp)) _ fun _ h => h
  | deleteWhere _ => exact fun p hp => hw p (Map.mem_delAll hp)
  | link hg => exact wf_put hw _ (wf_of_get hw hg :)
  | unlink hg => exact wf_put hw _ (wf_of_get hw hg :)
  | read => exact hw

theorem absEnt_mkEnt (v : Vals K N T) (lvl : Option N) (e : Ent K N T) :
    absEnt (mkEnt v lvl e) = snew v (e.isSystem || v.flag) (match lvl with | some l => some l | none => e.level) := by
  rw [mkEnt_eq, Bool.or_comm]
  unfold absEnt snew Ent.isSystem
  cases v.flag <;> rfl

theorem absEnt_updEnt (v : Vals K N T) (sn st so : Bool) (lvl : Option (Bool × N)) (e : Ent K N T) :
    absEnt (updEnt v sn st so lvl e) =
      { absEnt e with name := if sn then v.name else e.name, tags := if st then v.tags else e.tags, updated := .now,
                      owner := if so then v.owner else e.owner,
                      level := match lvl.bind fun p => if p.1 then some p.2 else none with
                        | some l => some l
                        | none => e.level } := by
  rw [updEnt_eq]
  rcases lvl with _ | ⟨_ | _, l⟩ <;> rfl

theorem abs_ents (s : St K N T) : (abs s).ents = absM s.ents := rfl
theorem abs_owners (s : St K N T) : (abs s).owners = s.owners := rfl
theorem abs_reg (s : St K N T) : (abs s).reg = s.reg := rfl
theorem abs_putEnt (s : St K N T) (id : K) (e : Ent K N T) :
    abs (s.putEnt id e) = { abs s with ents := (abs s).ents.put id (absEnt e) } := by
  simp only [abs, putEnt_ents, putEnt_owners, putEnt_reg, absM_put]
theorem abs_delEnt (s : St K N T) (id : K) :
    abs (s.delEnt id) = { abs s with ents := (abs s).ents.del id } := by
  simp only [abs, delEnt_ents, delEnt_owners, delEnt_reg, absM_del]

theorem absEnt_protectedBy (e : Ent K N T) (reg : Reg) : (absEnt e).protectedBy reg = e.protectedBy reg := rfl
theorem absEnt_level (e : Ent K N T) : (absEnt e).level = e.level := rfl

/-- the specification does not describe what a failed operation leaves in the open transaction: a failure has to
    be one, with the same verdict on whether a keep-going caller may ignore it -/
def Refines (o : Out K N T) (r : SRes K N T) : Prop :=
  match o.err with
  | none => r = .ok (abs o.st)
  | some e => r = .fail e.ignorable

/-- `createOn`, `updateOn` and `deleteOne` are each the body of several branches of `step`: both halves of
    `step_both` for the body, the calling branch handing in its `StepOk` constructor as `hok` -/
theorem createOn_both {op : Op K N T} {s : St K N T} {sys : Bool} {id : K} {v : Vals K N T} {lvl : Option N}
    {e0 : Ent K N T} {r : SRes K N T}
    (hr : r = if !sownerOk (abs s) v.owner || ((snew v (e0.isSystem || v.flag)
                (match lvl with | some l => some l | none => e0.level)).protectedBy (abs s).reg && !sys) then .fail false
              else .ok { abs s with ents := (abs s).ents.put id (snew v (e0.isSystem || v.flag)
                (match lvl with | some l => some l | none => e0.level)) })
    (hok : ((mkEnt v lvl e0).protectedBy s.reg && !sys) = false → StepOk s op (s.putEnt id (mkEnt v lvl e0))) :
    StepRes s op (createOn s sys id v lvl e0) ∧ Refines (createOn s sys id v lvl e0) r := by
  subst hr
  rw [← absEnt_mkEnt, absEnt_protectedBy, sownerOk_abs, abs_reg, createOn_eq, ← abs_putEnt]
  cases ownerOk s v.owner
  · exact ⟨.dirty rfl rfl, rfl⟩
  · cases hc : ((mkEnt v lvl e0).protectedBy s.reg && !sys)
    · exact ⟨.ok (hok hc), rfl⟩
    · exact ⟨.dirty rfl rfl, rfl⟩

theorem updateOn_both {op : Op K N T} {s : St K N T} {id : K} {e : Ent K N T} (hg : s.ents.get id = some e)
    {sys : Bool} {v : Vals K N T} {sn st so : Bool} (lvl : Option (Bool × N))
    (hok : (e.protectedBy s.reg && !sys) = false → StepOk s op (s.putEnt id (updEnt v sn st so lvl e))) :
    StepRes s op (updateOn s sys id v sn st so lvl e) ∧
      Refines (updateOn s sys id v sn st so lvl e)
        (supdate (abs s) sys id v sn st so (lvl.bind fun p => if p.1 then some p.2 else none) (absEnt e)) := by
  unfold supdate
  simp only [absEnt_protectedBy, abs_reg, sownerOk_abs, show (absEnt e).owner = e.owner from rfl]
  rw [updateOn_eq hg, updEnt_owner]
  cases hc : (e.protectedBy s.reg && !sys)
  · cases (decide ((if so then v.owner else e.owner) ≠ e.owner) && !ownerOk s (if so then v.owner else e.owner))
    · refine ⟨.ok (hok hc), show _ = SRes.ok (abs (s.putEnt id _)) from ?_⟩
      rw [abs_putEnt, absEnt_updEnt]; rfl
    · exact ⟨.dirty rfl rfl, rfl⟩
  · exact ⟨.same _, rfl⟩

theorem deleteOne_both {op : Op K N T} {s : St K N T} {sys : Bool} {id : K}
    (hok : ∀ e0, s.ents.get id = some e0 → (e0.protectedBy s.reg && !sys) = false → StepOk s op (s.delEnt id)) :
    StepRes s op (deleteOne s sys id) ∧ Refines (deleteOne s sys id) (sdelete (abs s) sys id) := by
  unfold sdelete
  rw [abs_ents, get_absM]
  cases hg : s.ents.get id with
  | none => rw [deleteOne_missing hg]; exact ⟨.same _, rfl⟩
  | some e =>
    rw [deleteOne_found hg]
    show _ ∧ Refines _ (if (e.protectedBy s.reg && !sys) = true then _ else _)
    cases hc : (e.protectedBy s.reg && !sys)
    · exact ⟨.ok (hok e hg hc), show _ = SRes.ok (abs (s.delEnt id)) by rw [abs_delEnt]; rfl⟩
    · exact ⟨.same _, rfl⟩

theorem step_both (s : St K N T) (op : Op K N T) :
    StepRes s op (step s op) ∧ (WF s.ents → Refines (step s op) (sstep (abs s) op)) := by
  -- every branch but `deleteWhere` refines without `WF`
  have free : ∀ {o : Out K N T} {r : SRes K N T}, StepRes s op o ∧ Refines o r →
      StepRes s op o ∧ (WF s.ents → Refines o r) := fun h => ⟨h.1, fun _ => h.2⟩
  -- a failure before anything is written
  have fail : ∀ (e : Err) (b : Bool), e.ignorable = b → ∀ {r : SRes K N T}, r = .fail b →
      StepRes s op { st := s, err := some e } ∧ (WF s.ents → Refines { st := s, err := some e } r) :=
    fun e _ hi _ h => free ⟨.same e, by subst hi; exact h⟩
  have hget : ∀ id, (abs s).ents.get id = (s.ents.get id).map absEnt := fun id => get_absM s.ents id
  cases op with
  | create sys id blank v =>
    cases blank with
    | true => rw [step_create_blank]; exact fail _ _ rfl rfl
    | false =>
      cases hg : s.ents.get id with
      | some e => rw [step_create_exists hg]; exact fail _ true rfl (by simp [sstep, hget, hg])
      | none =>
        rw [step_create_new hg]
        exact free (createOn_both (by simp [sstep, hget, hg]; rfl) (.create hg))
  | ccreate sys id blank v lvl =>
    cases blank with
    | true => rw [step_ccreate_blank]; exact fail _ _ rfl rfl
    | false =>
      cases hg : s.ents.get id with
      | some e0 =>
        rw [step_ccreate_found hg]
        cases hlv : e0.level.isSome with
        | true => exact fail _ true rfl (by simp [sstep, hget, hg, absEnt_level, hlv])
        | false =>
          exact free (createOn_both
            (by simp [sstep, hget, hg, absEnt_level, hlv]; rfl) (.ccreateOver hg))
      | none =>
        rw [step_ccreate_new hg]
        exact free (createOn_both (by simp [sstep, hget, hg]; rfl) (.ccreateNew hg))
  | update sys id v sn st so =>
    cases hg : s.ents.get id with
    | none => rw [step_update_missing hg]; exact fail _ true rfl (by simp [sstep, hget, hg])
    | some e =>
      rw [step_update_found hg]
      simp only [sstep, hget, hg, Option.map_some]
      exact free (updateOn_both hg none (.update hg))
  | cupdate sys id v sn st so sl lvl =>
    cases hg : s.ents.get id with
    | none => rw [step_cupdate_missing hg]; exact fail _ true rfl (by simp [sstep, hget, hg])
    | some e =>
      rw [step_cupdate_found hg]
      cases hlv : e.level.isNone with
      | true => exact fail _ true rfl (by simp [sstep, hget, hg, absEnt_level, hlv])
      | false =>
        simp only [sstep, hget, hg, Option.map_some, absEnt_level, hlv, Bool.false_eq_true,
          if_false]
        exact free (updateOn_both hg (some (sl, lvl)) (.cupdate hg))
  | delete sys id => exact free (deleteOne_both fun _ hg hc => .delete hg hc)
  | cdelete sys id => exact free (deleteOne_both fun _ hg hc => .cdelete hg hc)
  | ocreate id blank =>
    rw [step_ocreate]
    cases blank with
    | true => exact fail _ _ rfl rfl
    | false =>
      by_cases ho : id ∈ s.owners
      · rw [if_neg Bool.false_ne_true, if_pos ho]; exact fail _ true rfl (by simp [sstep, abs_owners, ho])
      · rw [if_neg Bool.false_ne_true, if_neg ho]
        exact ⟨.ok .ocreate, fun _ => show sstep (abs s) _ = _ by simp [sstep, ho, abs]⟩
  | odelete sys o =>
    by_cases ho : o ∈ s.owners
    · rw [step_odelete_found ho]
      simp only [sstep, abs_owners, ho, if_true, sdeleteAll_abs s sys (srefs_abs s o)]
      cases ha : (refs s o).any (fun y => refused s y sys) with
      | true => exact ⟨.dirty rfl (delMany_reg ..), fun _ => rfl⟩
      | false =>
        exact ⟨.ok (.odelete ha), fun _ => show _ = SRes.ok _ by simp only [Bool.false_eq_true, if_false, abs, absM_unlinkAll]⟩
    · rw [step_odelete_missing ho]; exact fail _ true rfl (by simp [sstep, abs_owners, ho])
  | deleteWhere sys q =>
    rw [step_deleteWhere]
    refine ⟨?_, fun hw => ?_⟩
    · split
      · exact .dirty rfl (delMany_reg ..)
      · next ha => exact .ok (.deleteWhere (Bool.eq_false_iff.mpr ha))
    · -- `WF` is needed here only: the model compares the stored key, the spec the flag
      simp only [sstep, sdeleteAll_abs s sys (smatching_abs s hw q)]
      cases (matching s q).any (fun y => refused s y sys) <;> rfl
  | link sid oid =>
    cases hg : s.ents.get sid with
    | none => rw [step_link_missing hg]; exact fail _ true rfl (by simp [sstep, hget, hg])
    | some e =>
      rw [step_link_found hg]
      by_cases ho : oid ∈ s.owners
      · rw [if_pos ho]
        exact ⟨.ok (.link hg), fun _ => show sstep (abs s) _ = _ by
          simp only [sstep, hget, hg, Option.map_some, abs_owners, ho, if_true, abs_putEnt]; rfl⟩
      · rw [if_neg ho]
        exact ⟨.dirty rfl rfl, fun _ => show _ = SRes.fail false by simp [sstep, hget, hg, abs_owners, ho]⟩
  | unlink sid oid =>
    cases hg : s.ents.get sid with
    | none => rw [step_unlink_missing hg]; exact fail _ true rfl (by simp [sstep, hget, hg])
    | some e =>
      rw [step_unlink_found hg]
      exact ⟨.ok (.unlink hg), fun _ => show sstep (abs s) _ = _ by
        simp only [sstep, hget, hg, Option.map_some, abs_putEnt]; rfl⟩
  | read id => exact ⟨.ok .read, fun _ => rfl⟩

theorem step_res (s : St K N T) (op : Op K N T) : StepRes s op (step s op) := (step_both s op).1

theorem step_refines (s : St K N T) (hw : WF s.ents) (op : Op K N T) : Refines (step s op) (sstep (abs s) op) :=
  (step_both s op).2 hw

theorem step_err_state {s : St K N T} {op : Op K N T} {e : Err} (h : (step s op).err = some e)
    (hi : e.ignorable = true) : (step s op).st = s := by
  have hr := step_res s op
  revert h; generalize step s op = o at hr ⊢; intro h
  cases hr with
  | same _ => rfl
  | dirty hn _ => cases h; rw [hn] at hi; cases hi
  | ok _ => cases h

theorem step_ok {s : St K N T} {op : Op K N T} (h : (step s op).err = none) : StepOk s op (step s op).st := by
  have hr := step_res s op
  revert h; generalize step s op = o at hr ⊢; intro h
  cases hr with
  | same _ => cases h
  | dirty _ _ => cases h
  | ok hk => exact hk

theorem stepOk_reg {s s' : St K N T} {op : Op K N T} (h : StepOk s op s') : s'.reg = s.reg := by
  cases h <;> rfl

theorem not_refused_of_any {s : St K N T} {ids : List K} {sys : Bool} (ha : ids.any (fun y => refused s y sys) = false)
    {x : K} (hm : x ∈ ids) {e : Ent K N T} (hg : s.ents.get x = some e) : (e.protectedBy s.reg && !sys) = false := by
  rw [← refused_of_get hg]
  exact Bool.eq_false_iff.mpr (List.any_eq_false.mp ha x hm)

/-- only successful operations matter: one whose error the caller ignores has changed nothing (`step_err_state`) -/
theorem runOps_invariant {P : St K N T → Prop} {Q : Op K N T → Prop}
    (hstep : ∀ s op s', Q op → P s → StepOk s op s' → P s') (k : Bool) {s : St K N T} (hs : P s)
    (ops : List (Op K N T)) (hq : ∀ op ∈ ops, Q op) (hok : (runOps k s ops).2 = false) : P (runOps k s ops).1 := by
  induction ops generalizing s with
  | nil => exact hs
  | cons op ops ih =>
    have hq' : ∀ o ∈ ops, Q o := fun o h => hq o (List.mem_cons_of_mem _ h)
    cases he : (step s op).err with
    | none =>
      rw [runOps_cons_ok he] at hok ⊢
      exact ih (hstep _ _ _ (hq op (List.mem_cons_self ..)) hs (step_ok he)) hq' hok
    | some e =>
      rw [runOps_cons_err he] at hok ⊢
      by_cases hk : (k && e.ignorable) = true
      · rw [if_pos hk] at hok ⊢
        simp only [Bool.and_eq_true] at hk
        rw [step_err_state he hk.2] at hok ⊢
        exact ih hs hq' hok
      · rw [if_neg hk] at hok; cases hok

theorem commitTx_invariant {P : St K N T → Prop} {Q : Op K N T → Prop}
    (hstep : ∀ s op s', Q op → P s → StepOk s op s' → P s') {s : St K N T} (hs : P s)
    (tx : Bool × List (Op K N T)) (hq : ∀ op ∈ tx.2, Q op) : P (commitTx s tx) := by
  cases hf : (runOps tx.1 s tx.2).2 with
  | true => rw [commitTx_failed hf]; exact hs
  | false => rw [commitTx_ok hf]; exact runOps_invariant hstep tx.1 hs tx.2 hq hf

theorem runHist_invariant {P : St K N T → Prop} {Q : Op K N T → Prop}
    (hstep : ∀ s op s', Q op → P s → StepOk s op s' → P s') {s : St K N T} (hs : P s)
    (txs : List (Bool × List (Op K N T))) (hq : ∀ tx ∈ txs, ∀ op ∈ tx.2, Q op) : P (runHist s txs) :=
  List.foldlRecOn txs _ hs fun _ h tx htx => commitTx_invariant hstep h tx (hq tx htx)

theorem runHist_reg (s : St K N T) (txs : List (Bool × List (Op K N T))) : (runHist s txs).reg = s.reg :=
  runHist_invariant (P := fun s' => s'.reg = s.reg) (Q := fun _ => True)
    (fun _ _ _ _ h hk => (stepOk_reg hk).trans h) rfl txs fun _ _ _ _ => trivial

/-- the IsSystem flag carried by the `Create` call — through S or through the child store — of
    every entity that currently exists; a child-store `Create` over an existing parent adds its flag
    to the one on record (`CreateBaseValues` re-runs on the parent bucket: it can set the key, never
    clear it) -/
def bornStep (s : St K N T) (g : Map K Bool) (op : Op K N T) : Map K Bool :=
  match (step s op).err with
  | some _ => g
  | none =>
    match op with
    | .create _ id _ v => g.put id v.flag
    | .ccreate _ id _ v _ => g.put id (v.flag || (g.get id).getD false)
    | .delete _ id => g.del id
    | .cdelete _ id => g.del id
    | .odelete _ o => g.delAll (refs s o)
    | .deleteWhere _ q => g.delAll (matching s q)
    | _ => g

/-- `runOps` (then `commitTx`, `runHist`) with the map of `bornStep` carried along: the same states (`runHistG_fst`) -/
def runOpsG (k : Bool) : St K N T × Map K Bool → List (Op K N T) → (St K N T × Map K Bool) × Bool
  | sg, [] => (sg, false)
  | sg, op :: ops =>
    let o := step sg.1 op
    match o.err with
    | none => runOpsG k (o.st, bornStep sg.1 sg.2 op) ops
    | some e => if k && e.ignorable then runOpsG k (o.st, bornStep sg.1 sg.2 op) ops else ((o.st, sg.2), true)

def commitTxG (sg : St K N T × Map K Bool) (tx : Bool × List (Op K N T)) : St K N T × Map K Bool :=
  let r := runOpsG tx.1 sg tx.2
  if r.2 then sg else r.1

def runHistG (sg : St K N T × Map K Bool) (txs : List (Bool × List (Op K N T))) : St K N T × Map K Bool :=
  txs.foldl commitTxG sg

theorem runOpsG_cons_ok {k : Bool} {sg : St K N T × Map K Bool} {op : Op K N T} {ops : List (Op K N T)}
    (h : (step sg.1 op).err = none) :
    runOpsG k sg (op :: ops) = runOpsG k ((step sg.1 op).st, bornStep sg.1 sg.2 op) ops := by
  simp only [runOpsG, h]

theorem runOpsG_cons_err {k : Bool} {sg : St K N T × Map K Bool} {op : Op K N T} {ops : List (Op K N T)} {e : Err}
    (h : (step sg.1 op).err = some e) :
    runOpsG k sg (op :: ops) =
      if k && e.ignorable then runOpsG k ((step sg.1 op).st, bornStep sg.1 sg.2 op) ops
      else (((step sg.1 op).st, sg.2), true) := by
  simp only [runOpsG, h]

theorem runOpsG_fst (k : Bool) (sg : St K N T × Map K Bool) (ops : List (Op K N T)) :
    ((runOpsG k sg ops).1.1, (runOpsG k sg ops).2) = runOps k sg.1 ops := by
  induction ops generalizing sg with
  | nil => rfl
  | cons op ops ih =>
    cases he : (step sg.1 op).err with
    | none => rw [runOpsG_cons_ok he, runOps_cons_ok he]; exact ih _
    | some e =>
      rw [runOpsG_cons_err he, runOps_cons_err he]
      split
      · exact ih _
      · rfl

theorem commitTxG_fst (sg : St K N T × Map K Bool) (tx : Bool × List (Op K N T)) :
    (commitTxG sg tx).1 = commitTx sg.1 tx := by
  simp only [commitTxG, commitTx, ← runOpsG_fst tx.1 sg tx.2]
  cases (runOpsG tx.1 sg tx.2).2 <;> rfl

theorem runHistG_fst (sg : St K N T × Map K Bool) (txs : List (Bool × List (Op K N T))) :
    (runHistG sg txs).1 = runHist sg.1 txs := by
  induction txs generalizing sg with
  | nil => rfl
  | cons tx txs ih => exact (ih (commitTxG sg tx)).trans (congrArg (runHist · txs) (commitTxG_fst sg tx))

def FlagInv (m : Map K (Ent K N T)) (g : Map K Bool) : Prop :=
  ∀ id, (m.get id).map Ent.isSystem = g.get id

theorem flagInv_put {m : Map K (Ent K N T)} {g : Map K Bool} (h : FlagInv m g) (id : K) {e : Ent K N T} {b : Bool}
    (hb : e.isSystem = b) : FlagInv (m.put id e) (g.put id b) := by
  intro x
  rw [Map.get_put, Map.get_put]
  split
  · rw [← hb]; rfl
  · exact h x

theorem flagInv_put_same {m : Map K (Ent K N T)} {g : Map K Bool} (h : FlagInv m g) {id : K} {e0 e : Ent K N T}
    (hg : m.get id = some e0) (hs : e.isSystem = e0.isSystem) : FlagInv (m.put id e) g := by
  intro x
  rw [Map.get_put]
  split
  · next hx => rw [← hx, ← h id, hg]; exact congrArg some hs
  · exact h x

theorem flagInv_filter {m : Map K (Ent K N T)} {g : Map K Bool} (h : FlagInv m g) (keep : K → Bool) :
    FlagInv (m.filter fun p => keep p.1) (g.filter fun p => keep p.1) := by
  intro x
  rw [Map.get_filter, Map.get_filter]
  split
  · exact h x
  · rfl

theorem flagInv_del {m : Map K (Ent K N T)} {g : Map K Bool} (h : FlagInv m g) (id : K) :
    FlagInv (m.del id) (g.del id) := flagInv_filter h fun a => decide (a ≠ id)

theorem flagInv_delAll {m : Map K (Ent K N T)} {g : Map K Bool} (h : FlagInv m g) (ids : List K) :
    FlagInv (m.delAll ids) (g.delAll ids) := flagInv_filter h fun a => decide (a ∉ ids)

theorem flagInv_unlinkAll {m : Map K (Ent K N T)} {g : Map K Bool} (h : FlagInv m g) (o : K) :
    FlagInv (unlinkAll m o) g := by
  intro x
  rw [get_unlinkAll, ← h x]
  cases m.get x <;> rfl

theorem stepOk_flagInv {s s' : St K N T} {g : Map K Bool} {op : Op K N T} (hk : StepOk s op s')
    (he : (step s op).err = none) (h : FlagInv s.ents g) : FlagInv s'.ents (bornStep s g op) := by
  unfold bornStep; rw [he]
  cases hk with
  | create hg _ => exact flagInv_put h _ (by rw [mkEnt_isSystem, blankEnt_isSystem, Bool.or_false])
  | ccreateNew hg _ => exact flagInv_put h _ (by rw [mkEnt_isSystem, blankEnt_isSystem, ← h, hg]; rfl)
  | ccreateOver hg _ => exact flagInv_put h _ (by rw [mkEnt_isSystem, ← h, hg]; rfl)
  | update hg _ => exact flagInv_put_same h hg (updEnt_isSystem ..)
  | cupdate hg _ => exact flagInv_put_same h hg (updEnt_isSystem ..)
  | delete _ _ => exact flagInv_del h _
  | cdelete _ _ => exact flagInv_del h _
  | ocreate => exact h
  | odelete _ => exact flagInv_unlinkAll (flagInv_delAll h _) _
  | deleteWhere _ => exact flagInv_delAll h _
  | link hg => exact flagInv_put_same h hg rfl
  | unlink hg => exact flagInv_put_same h hg rfl
  | read => exact h

theorem runOpsG_flagInv (k : Bool) {sg : St K N T × Map K Bool} (h : FlagInv sg.1.ents sg.2) (ops : List (Op K N T))
    (hok : (runOpsG k sg ops).2 = false) : FlagInv (runOpsG k sg ops).1.1.ents (runOpsG k sg ops).1.2 := by
  induction ops generalizing sg with
  | nil => exact h
  | cons op ops ih =>
    cases he : (step sg.1 op).err with
    | none =>
      rw [runOpsG_cons_ok he] at hok ⊢
      exact ih (stepOk_flagInv (step_ok he) he h) hok
    | some e =>
      rw [runOpsG_cons_err he] at hok ⊢
      by_cases hk : (k && e.ignorable) = true
      · rw [if_pos hk] at hok ⊢
        simp only [Bool.and_eq_true] at hk
        refine ih ?_ hok
        show FlagInv (step sg.1 op).st.ents (bornStep sg.1 sg.2 op)
        unfold bornStep; rw [he, step_err_state he hk.2]; exact h
      · rw [if_neg hk] at hok; cases hok

theorem runHistG_flagInv {sg : St K N T × Map K Bool} (h : FlagInv sg.1.ents sg.2)
    (txs : List (Bool × List (Op K N T))) : FlagInv (runHistG sg txs).1.ents (runHistG sg txs).2 := by
  induction txs generalizing sg with
  | nil => exact h
  | cons tx txs ih =>
    refine ih ?_
    unfold commitTxG
    cases hf : (runOpsG tx.1 sg tx.2).2 with
    | true => simp only [hf, if_true]; exact h
    | false => simp only [hf, Bool.false_eq_true, if_false]; exact runOpsG_flagInv tx.1 h tx.2 hf

end
end StorageModel.C16
