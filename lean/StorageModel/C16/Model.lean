import StorageModel.Base.Bytes
/-
  C16 — executable model of boltz/system_entity_constraint.go, the isSystem handling of
  boltz/base.go (CreateBaseValues writes the flag, UpdateBaseValues never does, LoadBaseValues
  reads it with default false), the system / ordinary MutateContext of boltz/tx_context.go and the
  constraint dispatch of boltz/indexes.go + boltz/store_crud.go (ProcessBeforeUpdate before the
  entity is persisted — on an errored bucket every typed setter is a no-op —, ProcessAfterUpdate
  after it, ProcessBeforeDelete before the bucket is deleted) — **including every path by which an
  operation on another entity or through another store reaches an entity of the constrained store**.

  The universe (harness/c16.go wires exactly this):

    O  "owners"   plain entities (ids)
    S  "foos"     ext-entities with a `name`, an fk `owner` → O (nullable, CascadeDelete: deleting an
                  owner runs `S.DeleteById(ctx.Ctx, …)` for every referring foo, in id order, stopping
                  at the first error — `fkDeleteCascadeConstraint.ProcessBeforeDelete`; which context
                  that nested call gets is `cascadeCtx`), a link set `peers` ↔ O (link collections take
                  a bare transaction: no context at all; deleting an owner unlinks it everywhere) and
                  the system-entity constraint (registered after the fk constraint) — on S, on C, or
                  on both: `Reg`, a field of the state (the schema the database was opened with)
    C  child store of S: a sub-bucket of the parent's entity bucket holding `level`; `PersistEntity`
                  persists the parent part through `ctx.GetParentContext()`, which keeps `IsCreate`:
                  `C.Create` over an existing parent RE-RUNS `CreateBaseValues` on the parent bucket;
                  the indexing context of C has S's as its `Parent`, so S's constraints (fk, system
                  check) run first on every C operation; `C.DeleteById` is `S.DeleteById`
    `S.DeleteWhere(ctx, q)` = `S.DeleteById(ctx, id)` for every match in id order, first error stops.

  An entity bucket is modelled by everything `BaseExtEntity` persists: the stored `isSystem` key
  (`none` = key absent), `createdAt` / `updatedAt` (either the clock or a value carried by the
  entity), the tags, plus name, owner, the child sub-bucket and the link set.  `SetBaseValues` /
  `CreateBaseValues` / `UpdateBaseValues` are followed branch by branch, including the `Migrate`
  field of the in-memory entity, which steers `CreateBaseValues` (and nothing else).  Every
  operation returns the state reached *including partial writes* and the Go error; `commitTx`
  models `Db.Update` (a body that returns an error is rolled back).  A nested
  `Db.Update(ctx.GetSystemContext(), …)` inside a transaction runs its body in the same bbolt
  transaction with that context (`DbImpl.Update`: `ctx.Tx() != nil → fn(ctx)`), i.e. it is the
  per-operation context flag `sys` of the model.
-/
namespace StorageModel.C16

/-! ### association-list maps -/

abbrev Map (κ ν : Type) := List (κ × ν)

namespace Map
variable {κ ν : Type} [DecidableEq κ]

def get : Map κ ν → κ → Option ν
  | [], _ => none
  | (k', v) :: m, k => if k' = k then some v else get m k

def del (m : Map κ ν) (k : κ) : Map κ ν := m.filter (fun p => p.1 ≠ k)

def put (m : Map κ ν) (k : κ) (v : ν) : Map κ ν := (k, v) :: del m k

/-- all the given keys removed -/
def delAll (m : Map κ ν) (ks : List κ) : Map κ ν := m.filter (fun p => decide (p.1 ∉ ks))

end Map

/-! ### the order in which bbolt hands out ids (only the *partial* state after a refused cascade
    depends on it) -/

class KeyOrd (κ : Type) where
  le : κ → κ → Bool

def insertKey {κ : Type} [KeyOrd κ] (x : κ) : List κ → List κ
  | [] => [x]
  | y :: ys => if KeyOrd.le x y then x :: y :: ys else y :: insertKey x ys

def sortKeys {κ : Type} [KeyOrd κ] : List κ → List κ
  | [] => []
  | x :: xs => insertKey x (sortKeys xs)

/-! ### state -/

/-- a persisted timestamp: `time.Now()` (not compared) or a value carried by the entity -/
inductive Stamp (T : Type)
  | now
  | given (t : T)
  deriving DecidableEq, Repr

/-- an entity bucket of S: what `BaseExtEntity` persists, name, owner, the child store's sub-bucket
    and the link set -/
structure Ent (K N T : Type) where
  /-- the stored `isSystem` key: `none` = absent (read back as false) -/
  flag : Option Bool
  name : N
  /-- the tags map, reduced to the value under one key (`none` = no such key) -/
  tags : Option N
  created : Stamp T
  updated : Stamp T
  /-- fk `owner` (`none` = the empty string) -/
  owner : Option K
  /-- the child store's data (`none` = no child sub-bucket) -/
  level : Option N
  /-- link set `peers` -/
  peers : List K
  deriving DecidableEq, Repr

/-- **where the system-entity constraint is registered** — a parameter of the schema: on the parent
    store S, on the child store C (through the `isSystem` symbol S grants it), on both, on neither -/
structure Reg where
  onS : Bool
  onC : Bool
  /-- the SHAPE of the constrained store: does a child store exist (registered on S with
      `RegisterChildStoreStrategy`)?  `false` = S is a plain store — no parent, no child store
      strategies —, the operations through C do not exist (`Op.viaChild`; histories of that shape
      contain none) and no bucket ever has child data.  On buckets without child data `S.Update` and
      `S.DeleteById` take the same path in both shapes (the loops over `childStoreStrategies` find
      nothing to do), so the shape does not enter `step`; it delimits the histories. -/
  childStore : Bool := true
  deriving DecidableEq, Repr

structure St (K N T : Type) where
  ents : Map K (Ent K N T)
  /-- the ids present in store O -/
  owners : List K
  /-- the schema the database was opened with; no operation changes it -/
  reg : Reg
  deriving Repr

def St.empty {K N T : Type} (reg : Reg) : St K N T := { ents := [], owners := [], reg := reg }

/-- `LoadBaseValues`: `bucket.GetBoolWithDefault(FieldIsSystemEntity, false)` -/
def Ent.isSystem {K N T : Type} (e : Ent K N T) : Bool := e.flag.getD false

/-- **which constraint lists an operation on this bucket runs through.**  S's constraints run on
    every operation that touches the entity: operations through S use S's indexing context, and the
    indexing context of C has S's as its `Parent`, processed first.  C's constraints run only when
    the operation goes through C's indexing context: `C.Create` / `C.Update`; `S.Update` of an entity
    WITH child data (`ChildStoreUpdateHandler.HandleUpdate` hands it to `C.Update`); `S.DeleteById` /
    `C.DeleteById` of an entity WITH child data (`DeleteById` walks
    `handler.GetStore().processDeleteConstraints`, which returns `nil, nil` when the child store has
    no data for the id).  An operation through S on an entity without child data never reaches
    C's constraints.  In every one of these cases "C's constraints run" coincides with "the bucket
    has (after a create: now has) a child sub-bucket". -/
def guarded {K N T : Type} (reg : Reg) (e : Ent K N T) : Bool := reg.onS || (reg.onC && e.level.isSome)

/-- a system entity some registered constraint looks at -/
def Ent.protectedBy {K N T : Type} (e : Ent K N T) (reg : Reg) : Bool := guarded reg e && e.isSystem

/-- the in-memory entity handed to `Create` / `Update`: every field of `BaseExtEntity` (besides the
    id), the name and the owner -/
structure Vals (K N T : Type) where
  /-- `IsSystem` -/
  flag : Bool
  /-- `Migrate` -/
  migrate : Bool
  /-- `CreatedAt`, `UpdatedAt` -/
  cAt : T
  uAt : T
  tags : Option N
  name : N
  owner : Option K
  deriving Repr

/-- `BaseExtEntity.CreateBaseValues` -/
def createBaseValues {K N T : Type} (v : Vals K N T) (e : Ent K N T) : Ent K N T :=
  -- if entity.Migrate { SetTimeP(createdAt, &entity.CreatedAt); SetTimeP(updatedAt, &entity.UpdatedAt) } else { now, now }
  let e1 := if v.migrate then { e with created := .given v.cAt, updated := .given v.uAt }
            else { e with created := .now, updated := .now }
  -- PutMap(tags, entity.Tags, nil, false)
  let e2 := { e1 with tags := v.tags }
  -- if entity.IsSystem { SetBool(isSystem, true, nil) }
  if v.flag then { e2 with flag := some true } else e2

/-- `BaseExtEntity.UpdateBaseValues`: `updatedAt := now` (nil checker), tags through the field
    checker; `isSystem`, `createdAt` and the entity's `Migrate` / `IsSystem` / timestamps are not
    looked at -/
def updateBaseValues {K N T : Type} (v : Vals K N T) (setTags : Bool) (e : Ent K N T) : Ent K N T :=
  { e with updated := .now, tags := if setTags then v.tags else e.tags }

/-- `BaseExtEntity.SetBaseValues`: `if ctx.IsCreate { CreateBaseValues } else { UpdateBaseValues }` -/
def setBaseValues {K N T : Type} (isCreate : Bool) (v : Vals K N T) (setTags : Bool) (e : Ent K N T) : Ent K N T :=
  if isCreate then createBaseValues v e else updateBaseValues v setTags e

/-- S's `PersistEntity`: `entity.SetBaseValues(ctx); ctx.SetString("name", …); ctx.SetString("owner", …)` -/
def persist {K N T : Type} (isCreate : Bool) (v : Vals K N T) (setName setTags setOwner : Bool) (e : Ent K N T) :
    Ent K N T :=
  let e1 := setBaseValues isCreate v setTags e
  let e2 := if setName then { e1 with name := v.name } else e1
  if setOwner then { e2 with owner := v.owner } else e2

/-- the freshly created, still empty entity bucket (the name slot is filled by `persist`) -/
def blankEnt {K N T : Type} (n : N) : Ent K N T :=
  { flag := none, name := n, tags := none, created := .now, updated := .now, owner := none, level := none, peers := [] }

inductive Err
  | sysCreate   -- "cannot create system … in a non-system context"
  | sysUpdate   -- errorz.EntityCanNotBeUpdated wrapping "cannot update system …"
  | sysDelete   -- errorz.EntityCanNotBeDeleted wrapping "cannot delete system …"
  | notFound
  | exists
  | blank
  | noOwner     -- fk constraint: the owner does not exist (also: the far end of a link does not exist)
  | viaSysDelete -- "cannot delete system …" coming out of a cascade / DeleteWhere
  deriving DecidableEq, Repr

/-- the failures that are raised before anything was written: a caller who ignores one of these
    and commits has committed nothing of the failed operation.  Every other failure leaves partial
    writes in the open transaction (the entity of a refused create, the referrers deleted before a
    refused one, …). -/
def Err.ignorable : Err → Bool
  | .notFound | .exists | .blank | .sysUpdate | .sysDelete => true
  | _ => false

/-- `S.DeleteWhere` queries used by the harness -/
inductive Query (K N : Type)
  | all
  | name (n : N)
  | owner (o : K)
  /-- `isSystem = b`: compares the STORED key (an absent key matches neither) -/
  | flag (b : Bool)
  deriving Repr

inductive Op (K N T : Type)
  /-- `S.Create(ctx, entity)`; `sys` = the context is a system context -/
  | create (sys : Bool) (id : K) (blank : Bool) (v : Vals K N T)
  /-- `S.Update(ctx, entity, checker)`; `setName` / `setTags` / `setOwner` = the checker is nil or
      lists the field (whether it lists "isSystem", "createdAt", … is irrelevant to the code and
      therefore not a parameter of the model; the harness varies it) -/
  | update (sys : Bool) (id : K) (v : Vals K N T) (setName setTags setOwner : Bool)
  | delete (sys : Bool) (id : K)
  /-- `C.Create`: the parent part may or may not exist already -/
  | ccreate (sys : Bool) (id : K) (blank : Bool) (v : Vals K N T) (lvl : N)
  | cupdate (sys : Bool) (id : K) (v : Vals K N T) (setName setTags setOwner setLevel : Bool) (lvl : N)
  /-- `C.DeleteById` = `store.parent.DeleteById(ctx, id)` -/
  | cdelete (sys : Bool) (id : K)
  | ocreate (id : K) (blank : Bool)
  /-- `O.DeleteById`: cascades to the referring entities of S -/
  | odelete (sys : Bool) (id : K)
  | deleteWhere (sys : Bool) (q : Query K N)
  /-- `peers.AddLinks(tx, foo, owner)` / `RemoveLinks`: no context -/
  | link (sid oid : K)
  | unlink (sid oid : K)
  | read (id : K)
  deriving Repr

/-- the operation goes through the child store (exists only in the shape with a child store) -/
def Op.viaChild {K N T : Type} : Op K N T → Bool
  | .ccreate .. => true
  | .cupdate .. => true
  | .cdelete .. => true
  | _ => false

/-- the operation exists in the schema's shape -/
def Op.fits {K N T : Type} (reg : Reg) (op : Op K N T) : Bool := reg.childStore || !op.viaChild

section
variable {K N T : Type} [DecidableEq K]

def St.putEnt (s : St K N T) (id : K) (e : Ent K N T) : St K N T := { s with ents := s.ents.put id e }
def St.delEnt (s : St K N T) (id : K) : St K N T := { s with ents := s.ents.del id }

/-- `systemEntityConstraint.checkOperation` of whichever registered constraint the operation runs
    through (`guarded`): the STORED flag, and the kind of context -/
def refused (s : St K N T) (id : K) (sys : Bool) : Bool :=
  match s.ents.get id with
  | some e => e.protectedBy s.reg && !sys
  | none => false

structure Out (K N T : Type) where
  st : St K N T
  err : Option Err := none

/-- `fkConstraint.ProcessAfterUpdate`: an empty value is fine (nullable), anything else must exist in O -/
def ownerOk (s : St K N T) : Option K → Bool
  | none => true
  | some o => decide (o ∈ s.owners)

/-- the context `fkDeleteCascadeConstraint.ProcessBeforeDelete` hands to the nested
    `targetStore.DeleteById`: `ctx.Ctx`, the caller's own -/
def cascadeCtx (sys : Bool) : Bool := sys

/-- `S.DeleteById(ctx, id)` for every id of the list (a cursor never yields a missing id: deleting
    one is a no-op); stops at the first refusal, keeping what was deleted so far -/
def delMany (sys : Bool) : St K N T → List K → St K N T × Option Err
  | s, [] => (s, none)
  | s, id :: ids => if refused s id sys then (s, some .sysDelete) else delMany sys (s.delEnt id) ids

/-- what `PersistEntity` with `IsCreate` leaves in bucket `e0` (`lvl`: through the child store, whose
    strategy persists the parent part through `GetParentContext()` — `CreateBaseValues` runs on the
    parent bucket — and then its own `level`) -/
def mkEnt (v : Vals K N T) (lvl : Option N) (e0 : Ent K N T) : Ent K N T :=
  let e1 := persist true v true true true e0
  match lvl with
  | some l => { e1 with level := some l }
  | none => e1

/-- body of `Create` once the id checks have passed, writing into bucket `e0` (a fresh one, or —
    for the child store — the parent's existing bucket): `PersistEntity`, then
    `ProcessAfterUpdate`: S's fk constraint, then the system check **on what is now stored** -/
def createOn (s : St K N T) (sys : Bool) (id : K) (v : Vals K N T) (lvl : Option N) (e0 : Ent K N T) : Out K N T :=
  let s1 := s.putEnt id (mkEnt v lvl e0)
  if !ownerOk s v.owner then { st := s1, err := some .noOwner }
  else if refused s1 id sys then { st := s1, err := some .sysCreate }
  else { st := s1 }

/-- what `PersistEntity` without `IsCreate` makes of the stored bucket `e` (`lvl`: through the child
    store: `(the checker lets "level" through, the value)`) -/
def updEnt (v : Vals K N T) (sn st so : Bool) (lvl : Option (Bool × N)) (e : Ent K N T) : Ent K N T :=
  let e1 := persist false v sn st so e
  match lvl with
  | some (true, l) => { e1 with level := some l }
  | _ => e1

/-! ### the entity bucket with its error holder

  `Update` does not branch on the verdict of `ProcessBeforeUpdate`: the system check puts its error
  into the entity bucket's `ErrorHolderImpl` (`ctx.ErrHolder` of the indexing context IS the bucket;
  `GetParentContext()` shares it between the child store's and the parent's persist context),
  `PersistEntity` runs all the same, `ProcessAfterUpdate` skips the constraints of a holder that has
  an error, and `bucket.Err` is returned.  That a refused update writes nothing therefore rests on
  EVERY setter the strategy calls asking `ProceedWithSet` first.  The model follows that: a
  `PersistEntity` is a list of setter calls (`Write`) run against a bucket `Bkt` that carries the
  error holder. -/

/-- a `TypedBucket` during `Update`: the content of the entity bucket, its error holder, and whether
    anything was `Put` into it -/
structure Bkt (K N T : Type) where
  ent : Ent K N T
  err : Option Err
  wrote : Bool := false

/-- `TypedBucket.ProceedWithSet(name, checker)`:
    `bucket.Err == nil && (checker == nil || checker.IsUpdated(name))`; `chk` = the second conjunct -/
def Bkt.proceedWithSet (b : Bkt K N T) (chk : Bool) : Bool := b.err.isNone && chk

/-- one setter call of a `PersistEntity` -/
inductive Write (K N T : Type)
  /-- `SetString`, `SetStringP`, `GetAndSetString`, `SetBool`, `SetInt32`, `SetInt64`, `SetFloat64`,
      `SetTime`, `SetTimeP`, `PutMap` / `SetMap`, `PutList`, `SetStringList`, `GetAndSetStringList`,
      `SetLinkedIds`: `if ProceedWithSet(field) { write }` (`w` = what the write does to the bucket) -/
  | set (chk : Bool) (w : Ent K N T → Ent K N T)
  /-- `SetRequiredString`: `if ProceedWithSet(field) { if value == "" { SetError(field error); return }; write }` -/
  | require (chk : Bool) (blank : Bool) (er : Err) (w : Ent K N T → Ent K N T)

/-- the shape of a setter's source as the extractor (`/verif/extract/c16setters.go`, from
    boltz/typed_bucket.go and boltz/base.go) classifies it:
    `gated`: `[x := recv.Get…(…)]* ; if recv.ProceedWithSet(field[, checker]) { … } ; [return …]*`;
    `required`: gated, the block starting with `if value == "" { SetError(…); return }`;
    `delegate`: a `PersistContext` method whose body is one call of a gated `TypedBucket` setter on
    `ctx.Bucket` with `ctx.FieldChecker`; `unknown`: anything else -/
inductive SetterShape
  | gated | required | delegate | unknown
  deriving DecidableEq, Repr

/-- what a call of a setter of that shape is in the model (`none`: the model has no meaning for it) -/
def SetterShape.write : SetterShape → (chk blank : Bool) → Err → (Ent K N T → Ent K N T) → Option (Write K N T)
  | .gated, chk, _, _, w => some (.set chk w)
  | .delegate, chk, _, _, w => some (.set chk w)
  | .required, chk, blank, er, w => some (.require chk blank er w)
  | .unknown, _, _, _, _ => none

def SetterShape.modelled : SetterShape → Bool
  | .unknown => false
  | _ => true

def Write.run : Write K N T → Bkt K N T → Bkt K N T
  | .set chk w, b => if b.proceedWithSet chk then { b with ent := w b.ent, wrote := true } else b
  | .require chk blank er w, b =>
    if b.proceedWithSet chk then
      (if blank then { b with err := some er } else { b with ent := w b.ent, wrote := true })
    else b

/-- `PersistEntity`: the strategy's setter calls, in order, against one bucket -/
def runWrites (ws : List (Write K N T)) (b : Bkt K N T) : Bkt K N T := ws.foldl (fun b w => w.run b) b

/-- `PersistEntity` of S with `IsCreate = false`, statement by statement: `UpdateBaseValues`
    (`SetTimeP(updatedAt, &now, nil)`, `PutMap(tags, …, checker)`), the name, the owner; through the
    child store the parent part comes first (`GetParentContext()`: same error holder), then `level`.
    The harness's WIDE strategies (case kinds ending in `W`) persist the name / the level through
    `GetAndSetString` / `SetStringP` and, next to it, copies derived from it through every other
    setter (`SetRequiredString`, `SetInt32`, `SetInt64`, `SetBool`, `SetTime(P)`, `SetFloat64`,
    `SetStringList`, `GetAndSetStringList`, `SetMap`, `PutList`) under the same checker bit: in the
    model that is the one `name` (`level`) write — the view reports a copy that disagrees. -/
def stratWrites (v : Vals K N T) (sn st so : Bool) (lvl : Option (Bool × N)) : List (Write K N T) :=
  [ .set true (fun e => { e with updated := .now }),
    .set st (fun e => { e with tags := v.tags }),
    .set sn (fun e => { e with name := v.name }),
    .set so (fun e => { e with owner := v.owner }) ] ++
  match lvl with
  | some (sl, l) => [ .set sl (fun e => { e with level := some l }) ]
  | none => []

/-- body of `Update` on the stored bucket `e`, for ANY strategy (`ws` = the setter calls of its
    `PersistEntity`): `ProcessBeforeUpdate` (the system check puts its error into the bucket's
    error holder), `PersistEntity`, `ProcessAfterUpdate` (skipped when the holder has an error; fk:
    only a CHANGED owner is looked up), `return bucket.Err` -/
def updateWith (ws : List (Write K N T)) (s : St K N T) (sys : Bool) (id : K) (e : Ent K N T) : Out K N T :=
  let b0 : Bkt K N T := { ent := e, err := if refused s id sys then some .sysUpdate else none }
  let b1 := runWrites ws b0
  let s1 := if b1.wrote then s.putEnt id b1.ent else s
  match b1.err with
  | some er => { st := s1, err := some er }
  | none =>
    if decide (b1.ent.owner ≠ e.owner) && !ownerOk s b1.ent.owner then { st := s1, err := some .noOwner } else { st := s1 }

/-- `Update` of S / C: `updateWith` the strategy of the universe (`updateOn_eq`: a refused update
    returns `sysUpdate` with the state untouched, otherwise the bucket becomes `updEnt …`) -/
def updateOn (s : St K N T) (sys : Bool) (id : K) (v : Vals K N T) (sn st so : Bool) (lvl : Option (Bool × N))
    (e : Ent K N T) : Out K N T :=
  updateWith (stratWrites v sn st so lvl) s sys id e

/-- `S.DeleteById` (also reached through C): not found; `ProcessBeforeDelete` — for an entity with
    child data the child store's constraints run first, and they start with S's (`Parent`) —; else
    the bucket, including the child sub-bucket and the link set, is deleted -/
def deleteOne (s : St K N T) (sys : Bool) (id : K) : Out K N T :=
  match s.ents.get id with
  | none => { st := s, err := some .notFound }
  | some _ => if refused s id sys then { st := s, err := some .sysDelete } else { st := s.delEnt id }

def unlinkEnt (o : K) (e : Ent K N T) : Ent K N T := { e with peers := e.peers.filter (· ≠ o) }

/-- link clean-up when an owner is deleted: it disappears from every link set -/
def unlinkAll (m : Map K (Ent K N T)) (o : K) : Map K (Ent K N T) := m.map fun p => (p.1, unlinkEnt o p.2)

def Query.eval (q : Query K N) [DecidableEq N] (e : Ent K N T) : Bool :=
  match q with
  | .all => true
  | .name n => decide (e.name = n)
  | .owner o => decide (e.owner = some o)
  | .flag b => decide (e.flag = some b)

variable [KeyOrd K]

/-- the entities of S whose `owner` is `o`, in cursor order -/
def refs (s : St K N T) (o : K) : List K :=
  sortKeys ((s.ents.filter fun p => decide (p.2.owner = some o)).map (·.1))

def matching [DecidableEq N] (s : St K N T) (q : Query K N) : List K :=
  sortKeys ((s.ents.filter fun p => q.eval p.2).map (·.1))

variable [DecidableEq N]

def step (s : St K N T) : Op K N T → Out K N T
  | .create sys id blank v =>
    if blank then { st := s, err := some .blank }
    else match s.ents.get id with
    | some _ => { st := s, err := some .exists }
    | none => createOn s sys id v none (blankEnt v.name)
  | .ccreate sys id blank v lvl =>
    if blank then { st := s, err := some .blank }
    else match s.ents.get id with
    | some e =>
      -- `IsEntityPresent` of the child store looks at the child sub-bucket only
      if e.level.isSome then { st := s, err := some .exists } else createOn s sys id v (some lvl) e
    | none => createOn s sys id v (some lvl) (blankEnt v.name)
  | .update sys id v sn st so =>
    -- (an entity with child data is handed to `C.Update` with its stored level: same effect)
    match s.ents.get id with
    | none => { st := s, err := some .notFound }
    | some e => updateOn s sys id v sn st so none e
  | .cupdate sys id v sn st so sl lvl =>
    match s.ents.get id with
    | none => { st := s, err := some .notFound }
    | some e =>
      if e.level.isNone then { st := s, err := some .notFound } else updateOn s sys id v sn st so (some (sl, lvl)) e
  | .delete sys id => deleteOne s sys id
  | .cdelete sys id => deleteOne s sys id
  | .ocreate id blank =>
    if blank then { st := s, err := some .blank }
    else if id ∈ s.owners then { st := s, err := some .exists }
    else { st := { s with owners := id :: s.owners } }
  | .odelete sys id =>
    if id ∈ s.owners then
      -- ProcessBeforeDelete: fkDeleteCascadeConstraint
      let r := delMany (cascadeCtx sys) s (refs s id)
      match r.2 with
      | some _ => { st := r.1, err := some .viaSysDelete }
      | none =>
        -- cleanupLinks, then the bucket goes
        { st := { r.1 with ents := unlinkAll r.1.ents id, owners := r.1.owners.filter (· ≠ id) } }
    else { st := s, err := some .notFound }
  | .deleteWhere sys q =>
    let r := delMany sys s (matching s q)
    match r.2 with
    | some _ => { st := r.1, err := some .viaSysDelete }
    | none => { st := r.1 }
  | .link sid oid =>
    match s.ents.get sid with
    | none => { st := s, err := some .notFound }
    | some e =>
      -- the local entry is written first, then the far side is looked up
      let s1 := s.putEnt sid { e with peers := oid :: e.peers.filter (· ≠ oid) }
      if oid ∈ s.owners then { st := s1 } else { st := s1, err := some .noOwner }
  | .unlink sid oid =>
    match s.ents.get sid with
    | none => { st := s, err := some .notFound }
    | some e => { st := s.putEnt sid (unlinkEnt oid e) }
  | .read _ => { st := s }

/-- the body of one `Db.Update`.  `keepGoing`: the caller ignores the ignorable errors and carries
    on (and finally commits); any other error aborts.
    Returns the state reached and whether the body failed. -/
def runOps (keepGoing : Bool) : St K N T → List (Op K N T) → St K N T × Bool
  | s, [] => (s, false)
  | s, op :: ops =>
    let o := step s op
    match o.err with
    | none => runOps keepGoing o.st ops
    | some e => if keepGoing && e.ignorable then runOps keepGoing o.st ops else (o.st, true)

def commitTx (s : St K N T) (tx : Bool × List (Op K N T)) : St K N T :=
  let r := runOps tx.1 s tx.2
  if r.2 then s else r.1

def runHist (s : St K N T) (txs : List (Bool × List (Op K N T))) : St K N T := txs.foldl commitTx s

/-! ### specification: what the property text says -/

/-- abstract entity: is it a system entity (fixed at creation), and the mutable rest (the link set
    is outside the property: link collections know no context) -/
structure SEnt (K N T : Type) where
  isSys : Bool
  name : N
  tags : Option N
  created : Stamp T
  updated : Stamp T
  owner : Option K
  level : Option N
  deriving DecidableEq, Repr

structure SSt (K N T : Type) where
  ents : Map K (SEnt K N T)
  owners : List K
  reg : Reg
  deriving Repr

def SSt.empty (reg : Reg) : SSt K N T := { ents := [], owners := [], reg := reg }

/-- the entities the property can be claimed for under a registration: system entities, and — when
    the constraint is registered on the child store only — those of them that have child data -/
def SEnt.protectedBy (e : SEnt K N T) (reg : Reg) : Bool := (reg.onS || (reg.onC && e.level.isSome)) && e.isSys

inductive SRes (K N T : Type)
  | ok (s : SSt K N T)
  /-- the operation fails and changes nothing; `ignorable` = a keep-going caller carries on -/
  | fail (ignorable : Bool)

def sownerOk (s : SSt K N T) : Option K → Bool
  | none => true
  | some o => decide (o ∈ s.owners)

/-- an ordinary context may not touch this id -/
def srefused (s : SSt K N T) (sys : Bool) (id : K) : Bool :=
  match s.ents.get id with
  | some e => e.protectedBy s.reg && !sys
  | none => false

def snew (v : Vals K N T) (isSys : Bool) (lvl : Option N) : SEnt K N T :=
  { isSys := isSys, name := v.name, tags := v.tags,
    created := if v.migrate then .given v.cAt else .now,
    updated := if v.migrate then .given v.uAt else .now,
    owner := v.owner, level := lvl }

def supdate (s : SSt K N T) (sys : Bool) (id : K) (v : Vals K N T) (sn st so : Bool) (lvl : Option N)
    (e : SEnt K N T) : SRes K N T :=
  if e.protectedBy s.reg && !sys then .fail true
  else
    let o := if so then v.owner else e.owner
    if decide (o ≠ e.owner) && !sownerOk s o then .fail false
    else .ok { s with ents := s.ents.put id { e with name := if sn then v.name else e.name,
                                                      tags := if st then v.tags else e.tags,
                                                      updated := .now, owner := o,
                                                      level := match lvl with | some l => some l | none => e.level } }

def sdelete (s : SSt K N T) (sys : Bool) (id : K) : SRes K N T :=
  match s.ents.get id with
  | none => .fail true
  | some e => if e.protectedBy s.reg && !sys then .fail true else .ok { s with ents := s.ents.del id }

/-- deleting a set of entities at once (cascade, DeleteWhere): refused as a whole — nothing is
    deleted — when an ordinary context would thereby delete a system entity -/
def sdeleteAll (s : SSt K N T) (sys : Bool) (ids : List K) : Option (SSt K N T) :=
  if ids.any (srefused s sys) then none else some { s with ents := s.ents.delAll ids }

def srefs (s : SSt K N T) (o : K) : List K := (s.ents.filter fun p => decide (p.2.owner = some o)).map (·.1)

def Query.seval (q : Query K N) (e : SEnt K N T) : Bool :=
  match q with
  | .all => true
  | .name n => decide (e.name = n)
  | .owner o => decide (e.owner = some o)
  -- the spec knows system / ordinary, not the storage form: `isSystem = true` finds the system
  -- entities, `isSystem = false` finds nothing the property speaks about (ordinary entities carry no key)
  | .flag b => b && e.isSys

def smatching (s : SSt K N T) (q : Query K N) : List K := (s.ents.filter fun p => q.seval p.2).map (·.1)

def sstep (s : SSt K N T) : Op K N T → SRes K N T
  | .create sys id blank v =>
    if blank || (s.ents.get id).isSome then .fail true
    else if !sownerOk s v.owner || ((snew v v.flag none).protectedBy s.reg && !sys) then .fail false
    else .ok { s with ents := s.ents.put id (snew v v.flag none) }
  | .ccreate sys id blank v lvl =>
    if blank then .fail true
    else match s.ents.get id with
    | some e =>
      if e.level.isSome then .fail true
      -- extending an existing entity re-creates its parent part: a system entity (and a create
      -- carrying the flag) needs a system context
      else if !sownerOk s v.owner || ((snew v (e.isSys || v.flag) (some lvl)).protectedBy s.reg && !sys) then .fail false
      else .ok { s with ents := s.ents.put id (snew v (e.isSys || v.flag) (some lvl)) }
    | none =>
      if !sownerOk s v.owner || ((snew v v.flag (some lvl)).protectedBy s.reg && !sys) then .fail false
      else .ok { s with ents := s.ents.put id (snew v v.flag (some lvl)) }
  | .update sys id v sn st so =>
    match s.ents.get id with
    | none => .fail true
    | some e => supdate s sys id v sn st so none e
  | .cupdate sys id v sn st so sl lvl =>
    match s.ents.get id with
    | none => .fail true
    | some e => if e.level.isNone then .fail true else supdate s sys id v sn st so (if sl then some lvl else none) e
  | .delete sys id => sdelete s sys id
  | .cdelete sys id => sdelete s sys id
  | .ocreate id blank =>
    if blank || decide (id ∈ s.owners) then .fail true else .ok { s with owners := id :: s.owners }
  | .odelete sys id =>
    if id ∈ s.owners then
      match sdeleteAll s sys (srefs s id) with
      | none => .fail false
      | some s' => .ok { s' with owners := s'.owners.filter (· ≠ id) }
    else .fail true
  | .deleteWhere sys q =>
    match sdeleteAll s sys (smatching s q) with
    | none => .fail false
    | some s' => .ok s'
  -- links are outside the property (no context is involved): both ends must exist, and the entity
  -- as the property sees it stays what it is (`put` of the unchanged entity: same map, the state is
  -- an association list)
  | .link sid oid =>
    match s.ents.get sid with
    | none => .fail true
    | some e => if oid ∈ s.owners then .ok { s with ents := s.ents.put sid e } else .fail false
  | .unlink sid _ =>
    match s.ents.get sid with
    | none => .fail true
    | some e => .ok { s with ents := s.ents.put sid e }
  | .read _ => .ok s

end
end StorageModel.C16
