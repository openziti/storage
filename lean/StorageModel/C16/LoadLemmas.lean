import StorageModel.C16.Load
import StorageModel.C16.Lemmas
/- C16 — the layer of unloadable entities (`C16/Load.lean`) only adds failures to Model.lean: its batch delete leaves
   what `delMany` leaves on the ids it got through (`ldelMany_state_eq_delMany`), and an `lstep` that succeeds is a `step` that
   succeeds, with the same state (`lstep_ok`); so what `Lemmas.lean` shows of batches and of successful steps carries over. -/
namespace StorageModel.C16

section
variable {K N T : Type} [DecidableEq K]

theorem unloadable_of_get {σ : Strat N} {s : St K N T} {id : K} {e : Ent K N T} (h : s.ents.get id = some e) :
    unloadable σ s id = σ.fillFails e.name := by simp [unloadable, h]

theorem unloadable_of_none {σ : Strat N} {s : St K N T} {id : K} (h : s.ents.get id = none) :
    unloadable σ s id = false := by simp [unloadable, h]

theorem unloadable_delEnt (σ : Strat N) (s : St K N T) (id y : K) :
    unloadable σ (s.delEnt id) y = if id = y then false else unloadable σ s y := by
  unfold unloadable
  rw [delEnt_ents, Map.get_del]
  by_cases h : id = y <;> simp [h]

theorem ldelMany_nil (σ : Strat N) (sys : Bool) (s : St K N T) : ldelMany σ sys s [] = (s, none) := rfl

theorem ldelMany_cons (σ : Strat N) (sys : Bool) (s : St K N T) (id : K) (ids : List K) :
    ldelMany σ sys s (id :: ids) =
      if unloadable σ s id then (s, some .load)
      else if refused s id sys then (s, some (.base .sysDelete))
      else ldelMany σ sys (s.delEnt id) ids := rfl

theorem ldelMany_eq (σ : Strat N) (sys : Bool) (s : St K N T) (ids : List K)
    (h : ∀ y ∈ ids, unloadable σ s y = false) :
    ldelMany σ sys s ids = ((delMany sys s ids).1, (delMany sys s ids).2.map .base) := by
  induction ids generalizing s with
  | nil => rfl
  | cons id ids ih =>
    rw [ldelMany_cons, delMany_cons, h id (List.mem_cons_self ..)]
    simp only [Bool.false_eq_true, if_false]
    cases hr : refused s id sys with
    | true => simp
    | false =>
      simp only [Bool.false_eq_true, if_false]
      apply ih
      intro y hy
      rw [unloadable_delEnt]
      split
      · rfl
      · exact h y (List.mem_cons_of_mem _ hy)

/-- `pre`: the ids the batch got through before a load error or a refusal stopped it -/
theorem ldelMany_state_eq_delMany (σ : Strat N) (sys : Bool) (s : St K N T) (ids : List K) :
    ∃ pre, (ldelMany σ sys s ids).1 = (delMany sys s pre).1 := by
  induction ids generalizing s with
  | nil => exact ⟨[], rfl⟩
  | cons id ids ih =>
    rw [ldelMany_cons]
    split
    · exact ⟨[], rfl⟩
    · cases h : refused s id sys with
      | true => exact ⟨[], rfl⟩
      | false =>
        obtain ⟨pre, hp⟩ := ih (s.delEnt id)
        exact ⟨id :: pre, by rw [if_neg Bool.false_ne_true, hp, delMany_cons, h, if_neg Bool.false_ne_true]⟩

theorem ldelMany_keeps_system (σ : Strat N) (s : St K N T) (ids : List K) {x : K} {e : Ent K N T}
    (hg : s.ents.get x = some e) (hs : e.protectedBy s.reg = true) :
    (ldelMany σ false s ids).1.ents.get x = some e := by
  obtain ⟨pre, h⟩ := ldelMany_state_eq_delMany σ false s ids
  rw [h]; exact delMany_keeps_system s pre hg hs

theorem ldelMany_get (σ : Strat N) (sys : Bool) (s : St K N T) (ids : List K) (x : K) :
    (ldelMany σ sys s ids).1.ents.get x = none ∨ (ldelMany σ sys s ids).1.ents.get x = s.ents.get x := by
  obtain ⟨pre, h⟩ := ldelMany_state_eq_delMany σ sys s ids
  rw [h]; exact delMany_get sys s pre x

theorem ldelMany_reg (σ : Strat N) (sys : Bool) (s : St K N T) (ids : List K) : (ldelMany σ sys s ids).1.reg = s.reg := by
  obtain ⟨pre, h⟩ := ldelMany_state_eq_delMany σ sys s ids
  rw [h]; exact delMany_reg sys s pre

/-- from ANY context: the batch stops at `x` or before it -/
theorem ldelMany_unloadable_mem (σ : Strat N) (sys : Bool) (s : St K N T) (ids : List K) {x : K}
    (hm : x ∈ ids) (hu : unloadable σ s x = true) :
    (ldelMany σ sys s ids).2.isSome = true ∧ (ldelMany σ sys s ids).1.ents.get x = s.ents.get x := by
  induction ids generalizing s with
  | nil => cases hm
  | cons id ids ih =>
    rw [ldelMany_cons]
    cases hi : unloadable σ s id with
    | true => simp
    | false =>
      simp only [Bool.false_eq_true, if_false]
      cases hr : refused s id sys with
      | true => simp
      | false =>
        simp only [Bool.false_eq_true, if_false]
        have hne : id ≠ x := by intro h; subst h; rw [hu] at hi; cases hi
        have hm' : x ∈ ids := by
          rcases List.mem_cons.mp hm with h | h
          · exact absurd h.symm hne
          · exact h
        have hu' : unloadable σ (s.delEnt id) x = true := by rw [unloadable_delEnt]; simp [hne, hu]
        obtain ⟨h1, h2⟩ := ih (s.delEnt id) hm' hu'
        refine ⟨h1, ?_⟩
        rw [h2, delEnt_ents, Map.get_del]; simp [hne]

theorem ldelMany_sys_err (σ : Strat N) (s : St K N T) (ids : List K) :
    (ldelMany σ true s ids).2 = none ∨ (ldelMany σ true s ids).2 = some .load := by
  induction ids generalizing s with
  | nil => exact Or.inl rfl
  | cons id ids ih =>
    rw [ldelMany_cons, refused_sys]
    split
    · exact Or.inr rfl
    · simp only [Bool.false_eq_true, if_false]; exact ih _

omit [DecidableEq K] in
theorem lift_st (o : Out K N T) : o.lift.st = o.st := rfl
omit [DecidableEq K] in
theorem lift_err (o : Out K N T) : o.lift.err = o.err.map .base := rfl

omit [DecidableEq K] in
theorem lift_err_none {o : Out K N T} : o.lift.err = none ↔ o.err = none := by
  rw [lift_err]; cases o.err <;> simp

theorem afterLoad_st (σ : Strat N) (id : K) (o : Out K N T) : (afterLoad σ id o).st = o.st := by
  unfold afterLoad; split <;> rfl

theorem afterLoad_ok {σ : Strat N} {id : K} {o : Out K N T} (h : (afterLoad σ id o).err = none) : o.err = none := by
  unfold afterLoad at h
  split at h
  · cases h
  · exact lift_err_none.mp h

theorem afterLoad_err_some {σ : Strat N} {id : K} {o : Out K N T} (h : o.err.isSome = true) :
    (afterLoad σ id o).err.isSome = true := by
  unfold afterLoad
  split
  · rfl
  · rw [lift_err]; cases ho : o.err with
    | none => rw [ho] at h; cases h
    | some e => rfl

theorem afterLoad_of_loadable {σ : Strat N} {id : K} {o : Out K N T} (h : unloadable σ o.st id = false) :
    afterLoad σ id o = o.lift := by
  unfold afterLoad; simp [h]

theorem ldelMany_ok {σ : Strat N} {sys : Bool} {s : St K N T} {ids : List K} (h : (ldelMany σ sys s ids).2 = none) :
    delMany sys s ids = ((ldelMany σ sys s ids).1, none) := by
  induction ids generalizing s with
  | nil => rfl
  | cons id ids ih =>
    rw [ldelMany_cons] at h ⊢
    rw [delMany_cons]
    split at h
    · cases h
    · split at h
      · cases h
      · next hu hr => rw [if_neg hu, if_neg hr, if_neg hr]; exact ih h

end

section
variable {K N T : Type} [DecidableEq K] [DecidableEq N] [KeyOrd K]

theorem lstep_ok (σ : Strat N) (s : St K N T) (op : Op K N T) :
    (lstep σ s (.base op)).err = none →
      (step s op).err = none ∧ (lstep σ s (.base op)).st = (step s op).st := by
  have lift : ∀ o : Out K N T, o.lift.err = none → o.err = none ∧ o.lift.st = o.st :=
    fun _ h => ⟨lift_err_none.mp h, rfl⟩
  have after : ∀ (id : K) (o : Out K N T), (afterLoad σ id o).err = none → o.err = none ∧ (afterLoad σ id o).st = o.st :=
    fun _ _ h => ⟨afterLoad_ok h, afterLoad_st ..⟩
  have load : ∀ o : Out K N T, ({ st := s, err := some .load } : LOut K N T).err = none → o.err = none ∧ s = o.st :=
    fun _ h => nomatch h
  cases op with
  | create sys id blank v =>
    simp only [lstep]
    split
    · exact lift _
    · split
      · exact lift _
      · exact after _ _
  | ccreate sys id blank v lvl =>
    simp only [lstep]
    split
    · exact lift _
    · split
      · split
        · exact lift _
        · exact after _ _
      · exact after _ _
  | update sys id v sn st so =>
    simp only [lstep]
    split
    · exact load _
    · exact after _ _
  | cupdate sys id v sn st so sl lvl =>
    simp only [lstep]
    split
    · exact lift _
    · split
      · exact lift _
      · split
        · exact load _
        · exact after _ _
  | delete sys id =>
    simp only [lstep]
    split
    · exact load _
    · exact lift _
  | cdelete sys id =>
    simp only [lstep]
    split
    · exact load _
    · exact lift _
  | odelete sys o =>
    simp only [lstep]
    split
    · next hm =>
      cases hr : (ldelMany σ (cascadeCtx sys) s (refs s o)).2 with
      | some e => exact fun h => nomatch h
      | none => intro _; simp only [step, hm, if_true, ldelMany_ok hr, and_self]
    · exact lift _
  | deleteWhere sys q =>
    simp only [lstep]
    cases hr : (ldelMany σ sys s (matching s q)).2 with
    | some e => exact fun h => nomatch h
    | none => intro _; simp only [step, ldelMany_ok hr, and_self]
  | read id =>
    simp only [lstep]
    split
    · exact load _
    · exact fun _ => ⟨rfl, rfl⟩
  | ocreate id blank => exact lift _
  | link sid oid => exact lift _
  | unlink sid oid => exact lift _

end
end StorageModel.C16
