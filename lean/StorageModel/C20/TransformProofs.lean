import StorageModel.C20.Transform
/-
  C20 — `transform_good`: for every table that passes `tableComplete` and `transformFacts`, the tree the typing
  transformation builds is non-nil, `shaped`, `nilOk`, `namesCovered`, and references exactly the symbols of the untyped
  tree — so the hypotheses `Admissible` / `nilOk` of the traversal theorems are consequences for it.
-/
namespace StorageModel.C20

/-- node-level agreement of a node (its string/enumeration field names `fs`, its child labels `ls`)
    with the table: everything `shaped` asks of the node itself -/
def nodeFits (T : Table) (k : String) (fs ls : List String) : Bool :=
  match T.lookup k with
  | none => false
  | some ki =>
    fs.all (fun f => ki.strFields.contains f || ki.enumFields.contains f) &&
    ki.children.all (fun c => c.many || ls.count c.field == 1) &&
    ls.all (fun g => ki.children.any (fun c => c.field == g))

def typedSymbolKinds : List String :=
  ["StringSymbolNode", "BoolSymbolNode", "Int64SymbolNode", "Float64SymbolNode", "DatetimeSymbolNode", "AnyTypeSymbolNode"]

/-- the node shapes the transformation builds: (kind, string/enumeration fields, child labels) -/
def tfTemplates : List (String × List String × List String) :=
  (typedSymbolKinds.map fun k => (k, ["symbol"], [])) ++
  [("AndExprNode", [], ["left", "right"]), ("OrExprNode", [], ["left", "right"]), ("NotExprNode", [], ["expr"]),
   ("queryNode", [], ["Predicate", "SortBy", "Skip", "Limit"]), ("SortFieldNode", [], ["symbol"]),
   ("CountSetExprNode", [], ["symbol", "query"]), ("IsEmptySetExprNode", [], ["symbol", "query"]),
   ("subQueryNode", [], ["symbol", "query"]), ("SetFunctionNode", ["setFunction"], ["symbol"]),
   ("IsNilExprNode", ["op"], ["symbol"]),
   ("BinaryBoolExprNode", ["op"], ["left", "right"]), ("BinaryDatetimeExprNode", ["op"], ["left", "right"]),
   ("BinaryFloat64ExprNode", ["op"], ["left", "right"]), ("BinaryInt64ExprNode", ["op"], ["left", "right"]),
   ("BinaryStringExprNode", ["op"], ["left", "right"]),
   ("Int64ToFloat64Node", [], ["wrapped"]), ("StringFuncNode", ["label"], ["expr"]),
   ("Float64ConstNode", [], []), ("StringConstNode", ["value"], []),
   ("InDatetimeArrayExprNode", [], ["left", "right"]), ("InInt64ArrayExprNode", [], ["left", "right"]),
   ("InFloat64ArrayExprNode", [], ["left", "right"]), ("InStringArrayExprNode", [], ["left", "right"]),
   ("DatetimeBetweenExprNode", [], ["left", "lower", "upper"]), ("Int64BetweenExprNode", [], ["left", "lower", "upper"]),
   ("Float64BetweenExprNode", [], ["left", "lower", "upper"]),
   ("AllOfSetExprNode", ["name"], ["predicate"]), ("AnyOfSetExprNode", ["name"], ["predicate"])]

/-- kinds that hold no symbol in their own string fields (typed kinds built, untyped kinds consumed) -/
def plainKinds : List String :=
  ["AndExprNode", "OrExprNode", "NotExprNode", "queryNode", "SortByNode", "SortFieldNode", "CountSetExprNode",
   "IsEmptySetExprNode", "subQueryNode", "SetFunctionNode", "IsNilExprNode", "BinaryBoolExprNode", "BinaryDatetimeExprNode",
   "BinaryFloat64ExprNode", "BinaryInt64ExprNode", "BinaryStringExprNode", "Int64ToFloat64Node", "StringFuncNode",
   "Float64ConstNode", "StringConstNode", "InDatetimeArrayExprNode", "InInt64ArrayExprNode", "InFloat64ArrayExprNode",
   "InStringArrayExprNode", "DatetimeBetweenExprNode", "Int64BetweenExprNode", "Float64BetweenExprNode",
   "BinaryExprNode", "BooleanLogicExprNode", "InArrayExprNode", "BetweenExprNode", "UntypedNotExprNode",
   "UntypedSubQueryNode", "untypedQueryNode", "NullConstNode", "Int64ConstNode"]

/-- **Obligation on the regenerated table** for the typing transformation: every node shape it
    builds is one the table describes (fields exist, single-valued children exactly those it
    fills); the kinds it builds and consumes hold no symbol in their own strings, except the symbol
    kinds (which keep it in `symbol` and announce it); SortByNode has only slice children, one of
    them `SortFields`; NullConstNode has no children. -/
def transformFacts (T : Table) : Bool :=
  tfTemplates.all (fun tp => nodeFits T tp.1 tp.2.1 tp.2.2) &&
  plainKinds.all (fun k => match T.lookup k with
    | some ki => ki.symFields.isEmpty
    | none => true) &&
  ("UntypedSymbolNode" :: typedSymbolKinds).all (fun k => match T.lookup k with
    | some ki => ki.symFields == ["symbol"] && ki.steps.contains (.announce "symbol")
    | none => false) &&
  (match T.lookup "SortByNode" with
   | some ki => ki.children.all (·.many) && ki.children.any (fun c => c.field == "SortFields")
   | none => false) &&
  (match T.lookup "NullConstNode" with
   | some ki => ki.children.isEmpty
   | none => false)

def SameSyms (a b : List Bytes) : Prop := ∀ s, s ∈ a ↔ s ∈ b

theorem SameSyms.refl (a : List Bytes) : SameSyms a a := fun _ => Iff.rfl
theorem SameSyms.trans {a b c : List Bytes} (h1 : SameSyms a b) (h2 : SameSyms b c) : SameSyms a c :=
  fun s => (h1 s).trans (h2 s)
theorem SameSyms.symm {a b : List Bytes} (h : SameSyms a b) : SameSyms b a := fun s => (h s).symm
theorem SameSyms.append {a b c d : List Bytes} (h1 : SameSyms a b) (h2 : SameSyms c d) : SameSyms (a ++ c) (b ++ d) := by
  intro s; simp only [List.mem_append, h1 s, h2 s]

/-- what a (sub)tree built by the transformation satisfies, relative to the symbols `src` of its source -/
structure GoodS (T : Table) (src : List Bytes) (t : Tree) : Prop where
  nonnil : t.isNil = false
  shaped : shaped T t = true
  nilok : nilOk t = true
  covered : namesCovered T t = true
  syms : SameSyms (allSymbols T t) src

/-- the same, allowing nil (an absent sort / skip / limit clause, an absent sub-query) -/
structure GoodN (T : Table) (src : List Bytes) (t : Tree) : Prop where
  shaped : shaped T t = true
  nilok : nilOk t = true
  covered : namesCovered T t = true
  syms : SameSyms (allSymbols T t) src

section
variable {T : Table} {e : Env} {rec : SymTab → Tree → Except String Tree} {st : SymTab} {src : List Bytes}

theorem GoodS.toN {t : Tree} (h : GoodS T src t) : GoodN T src t :=
  ⟨h.shaped, h.nilok, h.covered, h.syms⟩

theorem GoodS.mono {a b : List Bytes} {t : Tree} (h : GoodS T a t) (hab : SameSyms a b) : GoodS T b t :=
  ⟨h.nonnil, h.shaped, h.nilok, h.covered, h.syms.trans hab⟩

theorem goodN_nil (T : Table) : GoodN T [] .nil :=
  ⟨by simp [C20.shaped], by simp [nilOk], by simp [namesCovered], by simp [allSymbols, SameSyms]⟩

def labels : Kids → List String
  | .none => []
  | .cons g _ rest => g :: labels rest

theorem countField_eq (f : String) : ∀ kids : Kids, countField f kids = (labels kids).count f
  | .none => by simp [countField, labels]
  | .cons g t rest => by
    simp only [countField, labels, List.count_cons, countField_eq f rest]
    by_cases h : g = f <;> simp [h, Nat.add_comm]

/-- `hk` says that every child is shaped, in the form in which it rewrites `shapedKids` to the label test of `nodeFits`
    (it is the field `GoodKids.shaped`) -/
theorem shaped_of_fits {k : String} {strs : List (String × Bytes)} {kids : Kids}
    (hf : nodeFits T k (strs.map (·.1)) (labels kids) = true)
    (hk : ∀ ki, shapedKids T ki kids = (labels kids).all fun g => ki.children.any fun c => c.field == g) :
    C20.shaped T (.node k strs kids) = true := by
  unfold nodeFits at hf
  rw [C20.shaped]
  cases hl : T.lookup k with
  | none => simp [hl] at hf
  | some ki =>
    simp only [hl, List.all_map] at hf
    simp only [countField_eq, hk ki]
    exact hf

theorem fits_of_template (hF : transformFacts T = true) {k : String} {fs ls : List String}
    (hm : (k, fs, ls) ∈ tfTemplates) : nodeFits T k fs ls = true := by
  simp only [transformFacts, Bool.and_eq_true, List.all_eq_true] at hF
  exact hF.1.1.1.1 _ hm

theorem ownSymbols_nil (T : Table) (k : String) : ownSymbols T k [] = [] := by
  unfold ownSymbols; cases T.lookup k <;> rfl

theorem ownSymbols_plain (hF : transformFacts T = true) {k : String} (hk : k ∈ plainKinds)
    (strs : List (String × Bytes)) : ownSymbols T k strs = [] := by
  simp only [transformFacts, Bool.and_eq_true, List.all_eq_true] at hF
  have := hF.1.1.1.2 k hk
  unfold ownSymbols
  cases hl : T.lookup k with
  | none => rfl
  | some ki =>
    simp only [hl, List.isEmpty_iff] at this
    simp [this]

theorem symFacts (hF : transformFacts T = true) {k : String} (hk : k ∈ "UntypedSymbolNode" :: typedSymbolKinds) :
    ∃ ki, T.lookup k = some ki ∧ ki.symFields = ["symbol"] ∧ Step.announce "symbol" ∈ ki.steps := by
  simp only [transformFacts, Bool.and_eq_true, List.all_eq_true] at hF
  have := hF.1.1.2 k hk
  cases hl : T.lookup k with
  | none => simp [hl] at this
  | some ki =>
    simp only [hl, Bool.and_eq_true, beq_iff_eq, List.contains_iff_mem] at this
    exact ⟨ki, rfl, this.1, this.2⟩

theorem ownSymbols_sym (hF : transformFacts T = true) {k : String}
    (hk : k ∈ "UntypedSymbolNode" :: typedSymbolKinds) (s : Bytes) : ownSymbols T k [("symbol", s)] = [s] := by
  obtain ⟨ki, hl, hs, _⟩ := symFacts hF hk
  simp [ownSymbols, hl, hs]

theorem good_symLeaf (hF : transformFacts T = true) {k : String} (hk : k ∈ typedSymbolKinds) (s : Bytes) :
    GoodS T [s] (symLeaf k s) := by
  have hk' : k ∈ "UntypedSymbolNode" :: typedSymbolKinds := List.mem_cons_of_mem _ hk
  obtain ⟨ki, hl, hs, ha⟩ := symFacts hF hk'
  refine ⟨rfl, ?_, by simp [symLeaf, nilOk, nilOkKids], ?_, ?_⟩
  · apply shaped_of_fits
    · exact fits_of_template hF (k := k) (fs := ["symbol"]) (ls := []) (by
        simp only [tfTemplates, List.mem_append, List.mem_map]
        exact Or.inl ⟨k, hk, rfl⟩)
    · exact fun _ => rfl
  · have : silentSyms ki = [] := by simp [silentSyms, hs, ha]
    simp [symLeaf, namesCovered, namesCoveredKids, hl, this]
  · simp [symLeaf, allSymbols, allSymbolsKids, ownSymbols_sym hF hk', SameSyms]

theorem good_constOk {t : Tree} (h : constOk T t = true) : GoodN T (allSymbols T t) t := by
  simp only [constOk, Bool.and_eq_true] at h
  exact ⟨h.1.1.1, h.1.1.2, h.2, SameSyms.refl _⟩

/-- the same for the children of a node of kind `k` (the kind decides which slots may hold nil) -/
structure GoodKids (T : Table) (k : String) (src : List Bytes) (kids : Kids) : Prop where
  /-- every child is shaped: what `shapedKids` still asks is that the kind lists their labels -/
  shaped : ∀ ki, shapedKids T ki kids = (labels kids).all fun g => ki.children.any fun c => c.field == g
  nilok : nilOkKids k kids = true
  covered : namesCoveredKids T kids = true
  syms : SameSyms (allSymbolsKids T kids) src

theorem GoodKids.none {k : String} : GoodKids T k [] .none :=
  ⟨fun _ => rfl, rfl, rfl, SameSyms.refl _⟩

theorem GoodN.cons {k g : String} {s ss : List Bytes} {t : Tree} {rest : Kids} (h : GoodN T s t)
    (hn : t.isNil = false ∨ (k, g) ∈ optionalSlots) (hr : GoodKids T k ss rest) :
    GoodKids T k (s ++ ss) (.cons g t rest) := by
  refine ⟨?_, ?_, ?_, h.syms.append hr.syms⟩
  · intro ki
    simp only [shapedKids, labels, List.all_cons, h.shaped, hr.shaped ki, Bool.and_true]
  · simpa [nilOkKids, h.nilok, hr.nilok] using hn
  · simp [namesCoveredKids, h.covered, hr.covered]

theorem GoodN.last {k g : String} {s : List Bytes} {t : Tree} (h : GoodN T s t)
    (hn : t.isNil = false ∨ (k, g) ∈ optionalSlots) : GoodKids T k s (.cons g t .none) := by
  have := h.cons hn GoodKids.none
  rwa [List.append_nil] at this

theorem GoodS.cons {k g : String} {s ss : List Bytes} {t : Tree} {rest : Kids} (h : GoodS T s t)
    (hr : GoodKids T k ss rest) : GoodKids T k (s ++ ss) (.cons g t rest) :=
  h.toN.cons (.inl h.nonnil) hr

theorem GoodS.last {k g : String} {s : List Bytes} {t : Tree} (h : GoodS T s t) :
    GoodKids T k s (.cons g t .none) :=
  h.toN.last (.inl h.nonnil)

/-- whatever symbol a node holds in its own strings has to be one of the source and announced below it (the hoisted
    set functions keep the set symbol's name) -/
theorem good_fits {k : String} {strs : List (String × Bytes)} {kids : Kids}
    (hf : nodeFits T k (strs.map (·.1)) (labels kids) = true)
    (hown : ∀ s ∈ ownSymbols T k strs, s ∈ src ∧ s ∈ visitKids T kids) (hk : GoodKids T k src kids) :
    GoodS T src (.node k strs kids) := by
  refine ⟨rfl, shaped_of_fits hf hk.shaped, by rw [nilOk]; exact hk.nilok, ?_, ?_⟩
  · rw [namesCovered, hk.covered, Bool.and_true]
    cases hl : T.lookup k with
    | none => rfl
    | some ki =>
      simp only [List.all_eq_true, List.contains_iff_mem]
      intro f hf v hv
      exact (hown v (mem_ownSymbols.mpr ⟨ki, hl, f, (List.mem_filter.mp hf).1, mem_fieldValues.mp hv⟩)).2
  · intro s
    rw [allSymbols, List.mem_append]
    exact ⟨fun h => h.elim (fun h => (hown s h).1) (hk.syms s).mp, fun h => .inr ((hk.syms s).mpr h)⟩

/-- callers show `ht` (and membership of a kind in `plainKinds`) by `repeat constructor`, which runs down the list -/
theorem good_plain (hF : transformFacts T = true) {k : String} {strs : List (String × Bytes)} {kids : Kids}
    (ht : (k, strs.map (·.1), labels kids) ∈ tfTemplates) (ho : ownSymbols T k strs = [])
    (hk : GoodKids T k src kids) : GoodS T src (.node k strs kids) :=
  good_fits (fits_of_template hF ht) (by simp [ho]) hk

/-- for the nodes the transformation takes apart again: the SetFunctionNode it hoists, the subQueryNode under count / isEmpty -/
theorem GoodS.child {k g : String} {strs : List (String × Bytes)} {kids : Kids} {t : Tree}
    (h : GoodS T src (.node k strs kids)) (hm : (g, t) ∈ kids.toList) (hopt : (k, g) ∉ optionalSlots) :
    GoodS T (allSymbols T t) t := by
  obtain ⟨ki, _, hs⟩ := shaped_node h.shaped
  have hn := h.nilok
  have hc := h.covered
  rw [nilOk] at hn
  rw [namesCovered, Bool.and_eq_true] at hc
  have hn := all_kids (p := fun g t => (!t.isNil || optionalSlots.contains (k, g)) && nilOk t) (fun _ _ _ => rfl) hn hm
  simp only [Bool.and_eq_true, Bool.or_eq_true, Bool.not_eq_true', List.contains_iff_mem, hopt, or_false] at hn
  exact ⟨hn.1, (shapedKids_mem hs hm).2, hn.2, namesCoveredKids_mem hc.2 hm, SameSyms.refl _⟩

/-- `P` holds of what a step of the transformation returns, if it returns without error.  The proofs below follow the
    case tree of the function they are about (one case per path, the tests passed on it as hypotheses): a failing path
    closes by `WhenOk.error`, a path that builds a node by `WhenOk.ok` and the goodness of that node. -/
def WhenOk {α : Type} (P : α → Prop) (r : Except String α) : Prop := ∀ a, r = .ok a → P a

theorem WhenOk.error {α : Type} {P : α → Prop} {m : String} : WhenOk P (.error m) := fun _ h => by cases h

theorem WhenOk.ok {α : Type} {P : α → Prop} {a : α} (ha : P a) : WhenOk P (.ok a) := fun _ h => by cases h; exact ha

theorem good_toFloat64 (hF : transformFacts T = true) {t : Tree} (h : GoodS T src t) :
    GoodS T src (toFloat64 t) := by
  unfold toFloat64
  split
  · -- Int64ConstNode ↦ Float64ConstNode: neither holds a symbol
    have hsrc : SameSyms [] src := by simpa [allSymbols, allSymbolsKids, ownSymbols_nil] using h.syms
    exact (good_plain hF (k := "Float64ConstNode") (strs := []) (by repeat constructor) (ownSymbols_nil _ _)
      GoodKids.none).mono hsrc
  · exact h
  · exact good_plain hF (by repeat constructor) (ownSymbols_nil _ _) h.last

theorem good_toUpper (hF : transformFacts T = true) {t : Tree} (h : GoodS T src t) :
    WhenOk (GoodS T src) (toUpperNode T t) := by
  fun_cases toUpperNode T t
  all_goals try exact .error
  · next v _ =>
    have hp : "StringConstNode" ∈ plainKinds := by repeat constructor
    have hsrc : SameSyms [] src := by simpa [allSymbols, allSymbolsKids, ownSymbols_plain hF hp] using h.syms
    exact .ok ((good_plain hF (strs := [("value", v.map upperByte)]) (by repeat constructor) (ownSymbols_plain hF hp _)
      GoodKids.none).mono hsrc)
  · exact .ok (good_plain hF (by repeat constructor)
      (ownSymbols_plain hF (k := "StringFuncNode") (by repeat constructor) _) h.last)

theorem null_syms (hF : transformFacts T = true) {r : Tree} (hk : kindOf r = "NullConstNode")
    (hs : C20.shaped T r = true) : allSymbols T r = [] := by
  cases r with
  | nil => rfl
  | tnil k => rfl
  | node k strs kids =>
    obtain rfl : k = "NullConstNode" := hk
    have ho := ownSymbols_plain hF (k := "NullConstNode") (by repeat constructor) strs
    simp only [transformFacts, Bool.and_eq_true] at hF
    have hnull := hF.2
    obtain ⟨ki, hl, hs⟩ := shaped_node hs
    simp only [hl, List.isEmpty_iff] at hnull
    cases kids with
    | none => simp [allSymbols, allSymbolsKids, ho]
    | cons g t rest => simp [shapedKids, hnull] at hs

theorem good_cmp (hF : transformFacts T = true) {k : String} {o : Bytes} {a b : Tree} {s1 s2 : List Bytes}
    (ht : (k, ["op"], ["left", "right"]) ∈ tfTemplates) (hp : k ∈ plainKinds) (ha : GoodS T s1 a) (hb : GoodS T s2 b) :
    WhenOk (GoodS T (s1 ++ s2)) (.ok (bin2 k [("op", o)] a b)) :=
  .ok (good_plain hF ht (ownSymbols_plain hF hp _) (ha.cons hb.last))

theorem good_stringOps (hF : transformFacts e.T = true) {o : Bytes} {l r : Tree} {s1 s2 : List Bytes}
    (hl : GoodS e.T s1 l) (hr : GoodS e.T s2 r) : WhenOk (GoodS e.T (s1 ++ s2)) (handleStringOps e o l r) := by
  fun_cases handleStringOps e o l r
  all_goals try exact .error
  · next ul ur _ _ hur hul =>
    exact good_cmp hF (by repeat constructor) (by repeat constructor) (good_toUpper hF hl ul hul) (good_toUpper hF hr ur hur)
  · exact good_cmp hF (by repeat constructor) (by repeat constructor) hl hr

theorem good_binary (hF : transformFacts e.T = true) {o : Bytes} {l r : Tree} {s1 s2 : List Bytes}
    (hl : GoodS e.T s1 l) (hr : GoodS e.T s2 r) : WhenOk (GoodS e.T (s1 ++ s2)) (binaryTypedExpr e o l r) := by
  fun_cases binaryTypedExpr e o l r
  all_goals try exact .error
  · next hnull _ =>
    -- `x = null`: the constant holds no symbol
    have hs2 : SameSyms s2 [] := by
      have := hr.syms
      rw [null_syms hF (by simpa using hnull) hr.shaped] at this
      exact this.symm
    refine .ok ((good_plain hF (k := "IsNilExprNode") (strs := [("op", o)]) (by repeat constructor)
      (ownSymbols_plain hF (by repeat constructor) _) hl.last).mono ?_)
    intro s; simp only [List.mem_append, hs2 s, List.not_mem_nil, or_false]
  · exact good_stringOps hF hl hr
  -- bool; datetime; float64 with float64, with int64; int64 with int64, with float64; string
  · exact good_cmp hF (by repeat constructor) (by repeat constructor) hl hr
  · exact good_cmp hF (by repeat constructor) (by repeat constructor) hl hr
  · exact good_cmp hF (by repeat constructor) (by repeat constructor) hl hr
  · exact good_cmp hF (by repeat constructor) (by repeat constructor) hl (good_toFloat64 hF hr)
  · exact good_cmp hF (by repeat constructor) (by repeat constructor) hl hr
  · exact good_cmp hF (by repeat constructor) (by repeat constructor) (good_toFloat64 hF hl) hr
  · exact good_stringOps hF hl hr

theorem toFloat64_syms (T : Table) (t : Tree) : allSymbols T (toFloat64 t) = allSymbols T t := by
  unfold toFloat64
  split <;> simp [allSymbols, allSymbolsKids, ownSymbols_nil]

theorem kidsToFloat_syms (T : Table) : ∀ kids : Kids, allSymbolsKids T (kidsToFloat kids) = allSymbolsKids T kids
  | .none => rfl
  | .cons g t rest => by rw [kidsToFloat, allSymbolsKids, allSymbolsKids, toFloat64_syms, kidsToFloat_syms T rest]

/-- `keptArray` tests `constOk` itself, which gives everything but the symbols; those are the source array's, by `hv` -/
theorem good_keptArray {rk k : String} {vals vals' : Kids} (hr : GoodS T src (.node rk [] vals))
    (hv : allSymbolsKids T vals' = allSymbolsKids T vals) :
    WhenOk (GoodS T src) (keptArray T (.node k [] vals')) := by
  fun_cases keptArray T (.node k [] vals')
  · next hc =>
    have := good_constOk hc
    have hs := hr.syms
    refine .ok ⟨rfl, this.shaped, this.nilok, this.covered, ?_⟩
    simp only [allSymbols, ownSymbols_nil, List.nil_append, hv] at hs ⊢
    exact hs
  · exact .error

theorem good_inArray (hF : transformFacts T = true) {l r : Tree} {s1 s2 : List Bytes}
    (hl : GoodS T s1 l) (hr : GoodS T s2 r) : WhenOk (GoodS T (s1 ++ s2)) (inArrayTypedExpr T l r) := by
  have bin : ∀ {k a b}, (k, [], ["left", "right"]) ∈ tfTemplates → GoodS T s1 a → GoodS T s2 b →
      WhenOk (GoodS T (s1 ++ s2)) (.ok (bin2 k [] a b)) :=
    fun ht ha hb => .ok (good_plain hF ht (ownSymbols_nil _ _) (ha.cons hb.last))
  fun_cases inArrayTypedExpr T l r
  all_goals try exact .error
  · exact bin (by repeat constructor) hl hr
  · exact bin (by repeat constructor) hl hr
  · exact bin (by repeat constructor) (good_toFloat64 hF hl) hr
  · next harr => exact bin (by repeat constructor) hl (good_keptArray hr (kidsToFloat_syms T _) _ harr)
  · exact bin (by repeat constructor) hl hr
  -- the last test mentions `r` itself and is left standing in the goal: the path's hypotheses decide it
  · next harr h => rw [if_pos h, harr]; exact bin (by repeat constructor) hl (good_keptArray hr rfl _ harr)
  · next herr h => rw [if_pos h, herr]; exact .error
  · next h => rw [if_neg h]; exact .error

theorem good_asFloat64 (hF : transformFacts T = true) {t a : Tree} (ht : GoodS T src t)
    (h : asFloat64 T t = some a) : GoodS T src a := by
  unfold asFloat64 at h
  split at h
  · cases h; exact good_toFloat64 hF ht
  · split at h
    · cases h; exact ht
    · cases h

theorem good_between (hF : transformFacts T = true) {l lo hi : Tree} {s1 s2 s3 : List Bytes}
    (hl : GoodS T s1 l) (hlo : GoodS T s2 lo) (hhi : GoodS T s3 hi) :
    WhenOk (GoodS T (s1 ++ (s2 ++ s3))) (betweenTypedExpr T l lo hi) := by
  have tern : ∀ {k a b c}, (k, [], ["left", "lower", "upper"]) ∈ tfTemplates → GoodS T s1 a → GoodS T s2 b →
      GoodS T s3 c → WhenOk (GoodS T (s1 ++ (s2 ++ s3))) (.ok (bin3 k a b c)) :=
    fun ht ha hb hc => .ok (good_plain hF ht (ownSymbols_nil _ _) (ha.cons (hb.cons hc.last)))
  fun_cases betweenTypedExpr T l lo hi
  all_goals try exact .error
  · exact tern (by repeat constructor) hl hlo hhi
  · exact tern (by repeat constructor) hl hlo hhi
  · next a b c hc hb ha =>
    exact tern (by repeat constructor) (good_asFloat64 hF hl ha) (good_asFloat64 hF hlo hb) (good_asFloat64 hF hhi hc)

theorem symbolOf_mem {sym : Tree} {s : Bytes} (h : symbolOf T sym = some s) : s ∈ allSymbols T sym := by
  unfold symbolOf at h
  split at h
  · next k strs =>
    split at h
    · next s' heq =>
      cases h
      simp [allSymbols, heq]
    · cases h
  · cases h

/-- SetFunctionNode.MoveUpTree: the hoisted node carries the set symbol's name, which the
    comparison below it announces -/
theorem good_moveUp (hT : tableComplete e.T = true) (hF : transformFacts e.T = true) {f : Bytes}
    {sym ex : Tree} (hex : GoodS e.T src ex) (hsym : ∀ s, s ∈ allSymbols e.T sym → s ∈ src) :
    WhenOk (GoodS e.T src) (moveUpTree e f sym ex) := by
  have key : ∀ {s kh}, symbolOf e.T sym = some s → (kh, ["name"], ["predicate"]) ∈ tfTemplates →
      WhenOk (GoodS e.T src) (.ok (.node kh [("name", s)] (.cons "predicate" ex .none))) := by
    intro s kh hs ht
    have hmem : s ∈ src := hsym s (symbolOf_mem hs)
    have hvis : s ∈ visit e.T ex := all_sub_visit hT ex s hex.shaped hex.covered ((hex.syms s).mpr hmem)
    refine .ok (good_fits (fits_of_template hF ht) ?_ hex.last)
    intro x hx
    obtain ⟨_, _, _, _, hm⟩ := mem_ownSymbols.mp hx
    simp only [List.mem_cons, Prod.mk.injEq, List.mem_nil_iff, or_false] at hm
    rw [hm.2]
    exact ⟨hmem, by simp [visitKids, hvis]⟩
  fun_cases moveUpTree e f sym ex
  all_goals try exact .error
  · next hs _ => exact key hs (by repeat constructor)
  · next hs _ _ => exact key hs (by repeat constructor)

theorem good_hoisted (hT : tableComplete e.T = true) (hF : transformFacts e.T = true) {tl : Tree}
    {typed : Tree → Except String Tree} {s1 s2 : List Bytes} (htl : GoodS e.T s1 tl)
    (htyped : ∀ x, GoodS e.T s1 x → WhenOk (GoodS e.T (s1 ++ s2)) (typed x)) :
    WhenOk (GoodS e.T (s1 ++ s2)) (hoisted e tl typed) := by
  fun_cases hoisted e tl typed
  all_goals try exact .error
  · next sym f hsplit ex hex =>
    have hshape : tl = .node "SetFunctionNode" [("setFunction", f)] (.cons "symbol" sym .none) := by
      unfold splitSetFunction at hsplit
      split at hsplit
      · simp only [Prod.mk.injEq, Option.some.injEq] at hsplit
        obtain ⟨rfl, rfl⟩ := hsplit; rfl
      · simp at hsplit
    rw [hshape] at htl
    have hsym : GoodS e.T s1 sym := (htl.child (.head _) (by simp [optionalSlots])).mono (by
      have := htl.syms
      rwa [allSymbols, ownSymbols_plain hF (by repeat constructor), allSymbolsKids, allSymbolsKids, List.nil_append,
        List.append_nil] at this)
    exact good_moveUp hT hF (htyped sym hsym ex hex) fun s hs => List.mem_append_left _ ((hsym.syms s).mp hs)
  · exact htyped tl htl

theorem symKindOf_mem {nt : NT} {k : String} (h : symKindOf nt = some k) : k ∈ typedSymbolKinds := by
  cases nt <;> cases h <;> repeat constructor

theorem good_transformSymbol (hF : transformFacts T = true) {s : Bytes} :
    WhenOk (GoodS T (allSymbols T (.node "UntypedSymbolNode" [("symbol", s)] .none))) (transformSymbol st s) := by
  have hsrc : allSymbols T (.node "UntypedSymbolNode" [("symbol", s)] .none) = [s] := by
    simp [allSymbols, allSymbolsKids, ownSymbols_sym hF (k := "UntypedSymbolNode") (by simp)]
  fun_cases transformSymbol st s
  all_goals try exact .error
  next k hk => rw [hsrc]; exact .ok (good_symLeaf hF (symKindOf_mem hk) s)

theorem good_transformSortFields (hF : transformFacts T = true) (st : SymTab) (fields : Kids) :
    WhenOk (fun fs => GoodKids T "SortByNode" (allSymbolsKids T fields) fs ∧ ∀ g ∈ labels fs, g = "SortFields")
      (transformSortFields st fields) := by
  fun_induction transformSortFields st fields
  all_goals try exact .error
  · exact .ok ⟨GoodKids.none, by simp [labels]⟩
  · next s rest ts more hmore hts ih =>
    have hfield := good_plain hF (k := "SortFieldNode") (strs := []) (by repeat constructor) (ownSymbols_nil _ _)
      (good_transformSymbol (T := T) hF ts hts).last
    obtain ⟨hrest, hlab⟩ := ih more hmore
    have := hfield.cons (g := "SortFields") hrest
    exact .ok ⟨by simpa only [allSymbolsKids, allSymbols, ownSymbols_nil, List.nil_append, List.append_nil] using this,
      by simpa [labels] using hlab⟩

/-- any number of `SortFields` children: every child field of SortByNode is a slice -/
theorem sortBy_fits (hF : transformFacts T = true) {ls : List String} (hls : ∀ g ∈ ls, g = "SortFields") :
    nodeFits T "SortByNode" [] ls = true := by
  simp only [transformFacts, Bool.and_eq_true] at hF
  have hsort := hF.1.2
  unfold nodeFits
  cases hl : T.lookup "SortByNode" with
  | none => simp [hl] at hsort
  | some ki =>
    simp only [hl, Bool.and_eq_true, List.all_eq_true] at hsort ⊢
    exact ⟨⟨by simp, fun c hc => by simp [hsort.1 c hc]⟩, fun g hg => by rw [hls g hg]; exact hsort.2⟩

theorem good_transformSort (hF : transformFacts T = true) {sb : Tree} :
    WhenOk (GoodN T (allSymbols T sb)) (transformSort st sb) := by
  fun_cases transformSort st sb
  all_goals try exact .error
  · exact .ok (goodN_nil T)
  · next fields fs hfs =>
    obtain ⟨hk, hlab⟩ := good_transformSortFields (T := T) hF st fields fs hfs
    rw [allSymbols, ownSymbols_nil, List.nil_append]
    exact .ok (good_fits (strs := []) (sortBy_fits hF hlab) (by simp [ownSymbols_nil]) hk).toN

/-- what the recursive call `transformTypes(s, &child)` is assumed to guarantee -/
def RecGood (T : Table) (rec : SymTab → Tree → Except String Tree) : Prop :=
  ∀ st u, WhenOk (GoodS T (allSymbols T u)) (rec st u)

theorem good_unpack {ts : Tree} (h : GoodS T src ts) :
    ∃ s1 s2, GoodS T s1 (unpackSubQuery ts).1 ∧ GoodN T s2 (unpackSubQuery ts).2 ∧ SameSyms (s1 ++ s2) src := by
  unfold unpackSubQuery
  split
  · next sy q =>
    refine ⟨_, _, h.child (.head _) (by simp [optionalSlots]),
      (h.child (.tail _ (.head _)) (by simp [optionalSlots])).toN, ?_⟩
    have := h.syms
    rwa [allSymbols, ownSymbols_nil, allSymbolsKids, allSymbolsKids, allSymbolsKids, List.nil_append, List.append_nil] at this
  · exact ⟨src, [], h, goodN_nil T, by intro s; simp⟩

theorem good_ttSetFunction (hF : transformFacts e.T = true) (hrec : RecGood e.T rec) {f : Bytes} {s : Tree} :
    WhenOk (GoodS e.T (allSymbols e.T s)) (ttSetFunction e rec st f s) := by
  have symq : ∀ {k ts}, GoodS e.T (allSymbols e.T s) ts → (k, [], ["symbol", "query"]) ∈ tfTemplates →
      (k, "query") ∈ optionalSlots → WhenOk (GoodS e.T (allSymbols e.T s))
        (.ok (.node k [] (.cons "symbol" (unpackSubQuery ts).1 (.cons "query" (unpackSubQuery ts).2 .none)))) := by
    intro k ts hg ht ho
    obtain ⟨s1, s2, h1, h2, h3⟩ := good_unpack hg
    exact .ok ((good_plain hF ht (ownSymbols_nil _ _) (h1.cons (h2.last (.inr ho)))).mono h3)
  fun_cases ttSetFunction e rec st f s
  all_goals try exact .error
  · next ts hts _ _ =>
    exact .ok (good_plain hF (by repeat constructor) (ownSymbols_plain hF (by repeat constructor) _) (hrec st s ts hts).last)
  · next ts hts _ _ _ _ => exact symq (hrec st s ts hts) (by repeat constructor) (by repeat constructor)
  · next ts hts _ _ _ _ _ => exact symq (hrec st s ts hts) (by repeat constructor) (by repeat constructor)

theorem untypedSymbolName_shape {s : Tree} {name : Bytes} (h : untypedSymbolName s = some name) :
    s = .node "UntypedSymbolNode" [("symbol", name)] .none := by
  unfold untypedSymbolName at h
  split at h
  · cases h; rfl
  · cases h

theorem good_ttSubQuery (hF : transformFacts e.T = true) (hrec : RecGood e.T rec) {s q : Tree} :
    WhenOk (GoodS e.T (allSymbols e.T s ++ allSymbols e.T q)) (ttSubQuery e rec st s q) := by
  fun_cases ttSubQuery e rec st s q
  all_goals try exact .error
  next name hname ts sub _ hts tq htq _ _ =>
    have h1 := good_transformSymbol (T := e.T) hF ts hts
    rw [← untypedSymbolName_shape hname] at h1
    exact .ok (good_plain hF (by repeat constructor) (ownSymbols_nil _ _) (h1.cons (hrec sub q tq htq).last))

theorem good_ttLogic (hF : transformFacts e.T = true) (hrec : RecGood e.T rec) {o : Bytes} {l r : Tree} :
    WhenOk (GoodS e.T (allSymbols e.T l ++ allSymbols e.T r)) (ttLogic e rec st o l r) := by
  have node : ∀ {k tl tr}, rec st l = .ok tl → rec st r = .ok tr → (k, [], ["left", "right"]) ∈ tfTemplates →
      WhenOk (GoodS e.T (allSymbols e.T l ++ allSymbols e.T r)) (.ok (bin2 k [] tl tr)) := fun htl htr ht =>
    .ok (good_plain hF ht (ownSymbols_nil _ _) ((hrec st l _ htl).cons (hrec st r _ htr).last))
  fun_cases ttLogic e rec st o l r
  all_goals try exact .error
  · next htr htl _ _ _ => exact node htl htr (by repeat constructor)
  · next htr htl _ _ _ _ => exact node htl htr (by repeat constructor)

theorem good_ttBinary (hT : tableComplete e.T = true) (hF : transformFacts e.T = true) (hrec : RecGood e.T rec)
    {o : Bytes} {l r : Tree} : WhenOk (GoodS e.T (allSymbols e.T l ++ allSymbols e.T r)) (ttBinary e rec st o l r) := by
  fun_cases ttBinary e rec st o l r
  all_goals try exact .error
  next tl tr htr htl =>
    exact good_hoisted hT hF (hrec st l tl htl) fun x hx => good_binary hF hx (hrec st r tr htr)

theorem good_ttInArray (hT : tableComplete e.T = true) (hF : transformFacts e.T = true) (hrec : RecGood e.T rec)
    {l r : Tree} : WhenOk (GoodS e.T (allSymbols e.T l ++ allSymbols e.T r)) (ttInArray e rec st l r) := by
  fun_cases ttInArray e rec st l r
  all_goals try exact .error
  next tl tr htr htl =>
    exact good_hoisted hT hF (hrec st l tl htl) fun x hx => good_inArray hF hx (hrec st r tr htr)

theorem good_ttBetween (hT : tableComplete e.T = true) (hF : transformFacts e.T = true) (hrec : RecGood e.T rec)
    {l lo hi : Tree} :
    WhenOk (GoodS e.T (allSymbols e.T l ++ (allSymbols e.T lo ++ allSymbols e.T hi))) (ttBetween e rec st l lo hi) := by
  fun_cases ttBetween e rec st l lo hi
  all_goals try exact .error
  next tl tlo thi hthi htlo htl =>
    exact good_hoisted hT hF (hrec st l tl htl) fun x hx => good_between hF hx (hrec st lo tlo htlo) (hrec st hi thi hthi)

theorem good_not (hF : transformFacts T = true) {tx : Tree} (h : GoodS T src tx) :
    WhenOk (GoodS T src) (.ok (.node "NotExprNode" [] (.cons "expr" tx .none))) :=
  .ok (good_plain hF (by repeat constructor) (ownSymbols_nil _ _) h.last)

theorem good_ttUntypedNot (hF : transformFacts e.T = true) (hrec : RecGood e.T rec) {x : Tree} :
    WhenOk (GoodS e.T (allSymbols e.T x)) (ttUntypedNot e rec st x) := by
  fun_cases ttUntypedNot e rec st x
  all_goals try exact .error
  next tx htx _ => exact good_not hF (hrec st x tx htx)

theorem good_ttNot (hF : transformFacts e.T = true) (hrec : RecGood e.T rec) {x : Tree} :
    WhenOk (GoodS e.T (allSymbols e.T x)) (ttNot e rec st x) := by
  fun_cases ttNot e rec st x
  all_goals try exact .error
  next tx htx => exact good_not hF (hrec st x tx htx)

theorem good_ttQuery (hF : transformFacts e.T = true) (hrec : RecGood e.T rec) {p sb sk li : Tree} :
    WhenOk (GoodS e.T (allSymbols e.T p ++ (allSymbols e.T sb ++ (allSymbols e.T sk ++ allSymbols e.T li))))
      (ttQuery e rec st p sb sk li) := by
  fun_cases ttQuery e rec st p sb sk li
  all_goals try exact .error
  next tp tsb htsb htp _ hc =>
    simp only [Bool.not_eq_true, Bool.not_eq_false', Bool.and_eq_true] at hc
    exact .ok (good_plain hF (by repeat constructor) (ownSymbols_nil _ _)
      ((hrec st p tp htp).cons ((good_transformSort (T := e.T) hF tsb htsb).cons (.inr (by repeat constructor))
        ((good_constOk hc.1).cons (.inr (by repeat constructor))
          ((good_constOk hc.2).last (.inr (by repeat constructor)))))))

theorem good_ttKeep {u : Tree} : WhenOk (GoodS e.T (allSymbols e.T u)) (ttKeep e u) := by
  fun_cases ttKeep e u
  all_goals try exact .error
  next _ hc =>
    simp only [Bool.and_eq_true, Bool.not_eq_true'] at hc
    have := good_constOk hc.2
    exact .ok ⟨hc.1, this.shaped, this.nilok, this.covered, this.syms⟩

end

/-- **The typing transformation builds a tree that the table describes, with nil children only
    where the parser leaves them, every hoisted set-function name announced below its node, and
    exactly the symbols of the untyped tree** — for every depth bound, symbol-type table and input. -/
theorem transform_good (e : Env) (hT : tableComplete e.T = true) (hF : transformFacts e.T = true) :
    ∀ (n : Nat) (st : SymTab) (u t : Tree), transform e n st u = .ok t → GoodS e.T (allSymbols e.T u) t
  | 0, _, _, _, h => by simp [transform] at h
  | n + 1, st, u, t, h => by
    have hrec : RecGood e.T (transform e n) := fun st u t h => transform_good e hT hF n st u t h
    have src : ∀ {k strs kids}, ownSymbols e.T k strs = [] → allSymbols e.T (.node k strs kids) = allSymbolsKids e.T kids :=
      fun ho => by rw [allSymbols, ho, List.nil_append]
    unfold transform at h
    split at h
    · exact good_transformSymbol hF t h
    · simpa only [src (ownSymbols_plain hF (k := "SetFunctionNode") (by repeat constructor) _), allSymbolsKids,
        List.append_nil] using good_ttSetFunction hF hrec t h
    · simpa only [src (ownSymbols_nil _ _), allSymbolsKids, List.append_nil] using good_ttSubQuery hF hrec t h
    · simpa only [src (ownSymbols_plain hF (k := "BooleanLogicExprNode") (by repeat constructor) _), allSymbolsKids,
        List.append_nil] using good_ttLogic hF hrec t h
    · simpa only [src (ownSymbols_plain hF (k := "BinaryExprNode") (by repeat constructor) _), allSymbolsKids,
        List.append_nil] using good_ttBinary hT hF hrec t h
    · simpa only [src (ownSymbols_nil _ _), allSymbolsKids, List.append_nil] using good_ttInArray hT hF hrec t h
    · simpa only [src (ownSymbols_nil _ _), allSymbolsKids, List.append_nil] using good_ttBetween hT hF hrec t h
    · simpa only [src (ownSymbols_nil _ _), allSymbolsKids, List.append_nil] using good_ttUntypedNot hF hrec t h
    · simpa only [src (ownSymbols_nil _ _), allSymbolsKids, List.append_nil] using good_ttNot hF hrec t h
    · simpa only [src (ownSymbols_nil _ _), allSymbolsKids, List.append_nil] using good_ttQuery hF hrec t h
    · exact good_ttKeep t h

end StorageModel.C20
