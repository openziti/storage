import StorageModel.C20.Run
/-
  C20 — the validator interpreted from regenerated data: `ValidatorShape` (C20/Table.lean) holds the decision structure
  of BaseStore.IsPublicSymbol, publicSymbolValidator.VisitSymbol and ValidateSymbolsArePublic, written by
  /verif/extract/accept.go on every run; `validateS` interprets it (the driver runs it against the real code).
  `GoodShape` is a truth-table check of the programs over the finitely many facts they can observe (exact name listed /
  exact name a map / name dotted / first segment a map / first segment listed; err nil / symbol public), so every program
  that *decides the same way* is good, not just the one in the repository today; `validateS_good`: a good shape validates
  like `validate`.
-/
namespace StorageModel.C20

/-- first segment of `strings.Split(s, ".")` -/
def firstSeg (s : Bytes) : Bytes :=
  match splitDot s with
  | base :: _ => base
  | [] => []

/-- `s[:strings.LastIndex(s, ".")]` (the whole name if there is no dot) -/
def uptoLastDot : Bytes → Bytes
  | [] => []
  | c :: rest => if rest.contains 46 then c :: uptoLastDot rest else if c == 46 then [] else c :: rest

def NameE.eval (c : PubCfg) : NameE → Bytes → Bytes
  | .sym, s => s
  | .firstSeg, s => C20.firstSeg s
  | .uptoLastDot, s => C20.uptoLastDot s
  | .other _, s => s
  | .mapKey n, s => c.mapKey (n.eval c s)
  | .symKey n, s => c.symKey (n.eval c s)

def StoreTbl.keys (c : PubCfg) : StoreTbl → List Bytes
  | .pub => c.pub
  | .maps => c.maps
  | .other _ => []

/-- a condition of IsPublicSymbol; `par` is the parent store's IsPublicSymbol (`none`: no parent).
    `parentPublic` without a parent is a call on a nil interface in Go (a panic); the interpretation answers
    `false` there.  No program that passes `goodPub` is affected: `CondE.abs` gives the atom no value. -/
def CondE.eval (par : Option (Bytes → Bool)) (c : PubCfg) (s : Bytes) : CondE → Bool
  | .const b => b
  | .lookup t n => (t.keys c).contains (n.eval c s)
  | .segsMoreThan n => decide ((splitDot s).length > n)
  | .dotNotFirst => s.contains 46 && s.head? != some 46
  | .lastDotNotFirst => (s.drop 1).contains 46
  | .hasParent => par.isSome
  | .parentPublic n => match par with
    | some f => f (n.eval c s)
    | none => false
  | .not a => !a.eval par c s
  | .and a b => a.eval par c s && b.eval par c s
  | .or a b => a.eval par c s || b.eval par c s
  | .other _ => false

/-- the body of IsPublicSymbol run on one store, given its parent's answer function -/
def DTree.evalWith (par : Option (Bytes → Bool)) (c : PubCfg) (s : Bytes) : DTree → Bool
  | .ret e => e.eval par c s
  | .ite e t f => if e.eval par c s then t.evalWith par c s else f.evalWith par c s
  | .unknown _ => false

/-- `store.parent.IsPublicSymbol`: the same program on the parent's key sets, whose own parent is the next
    store up the chain -/
def DTree.ancestors (d : DTree) : List (List Bytes × List Bytes) → Option (Bytes → Bool)
  | [] => none
  | (m, p) :: rest => some fun s => d.evalWith (d.ancestors rest) { maps := m, pub := p, parents := rest } s

/-- IsPublicSymbol, interpreted (on a store with its parent chain) -/
def DTree.eval (c : PubCfg) (s : Bytes) (d : DTree) : Bool := d.evalWith (d.ancestors c.parents) c s

def VLit.eval (err : Option Bytes) (isPub : Bool) (l : VLit) : Bool :=
  match l.atom with
  | .errNil => err.isNone == l.pos
  | .isPublic => isPub == l.pos
  | .other _ => false

/-- run the statements of VisitSymbol on the validator's state `err`; `returnIf` ends the run -/
def runVisit (isPub : Bool) (s : Bytes) : List VStmt → Option Bytes → Option Bytes
  | [], err => err
  | .setErrIf conds arg :: rest, err =>
    if conds.all (VLit.eval err isPub) then
      runVisit isPub s rest (match arg with | .symbol => some s | .other _ => some [])
    else runVisit isPub s rest err
  | .returnIf conds :: rest, err =>
    if conds.all (VLit.eval err isPub) then err else runVisit isPub s rest err
  | .other _ :: rest, err => runVisit isPub s rest err

/-- publicSymbolValidator.VisitSymbol, interpreted: `err` is the validator's state -/
def visitSymbolS (sh : ValidatorShape) (c : PubCfg) (err : Option Bytes) (s : Bytes) : Option Bytes :=
  runVisit (sh.isPublic.eval c s) s sh.visitSymbol err

def childOf (f : String) : Kids → Option Tree
  | .none => none
  | .cons g t rest => if g == f then some t else childOf f rest

/-- run the statements of ValidateSymbolsArePublic on query `q`; `err` is `visitor.err` -/
def runWalk (T : Table) (vs : Option Bytes → Bytes → Option Bytes) (getters : List (String × String)) (q : Tree) :
    List WStmt → Option Bytes → Outcome (Option Bytes)
  | [], _ => .ok none
  | .newVisitor _ :: rest, _ => runWalk T vs getters q rest none
  | .acceptQuery :: rest, err =>
    if panics T q then .panic else runWalk T vs getters q rest (accept T vs q err)
  | .acceptGetter g :: rest, err =>
    match q, getters.lookup g with
    | .node _ _ kids, some f =>
      (match childOf f kids with
       | some t => if t.isNil || panics T t then .panic else runWalk T vs getters q rest (accept T vs t err)
       | none => .panic)
    | _, _ => .panic
  | .returnErr :: _, err => .ok err
  | .returnNilIf _ :: rest, err => runWalk T vs getters q rest err
  | .other _ :: rest, err => runWalk T vs getters q rest err

/-- ValidateSymbolsArePublic, interpreted from the regenerated shape -/
def validateS (T : Table) (sh : ValidatorShape) (c : PubCfg) (q : Tree) : Outcome (Option Bytes) :=
  runWalk T (visitSymbolS sh c) sh.getters q sh.walk none

/-- what IsPublicSymbol can observe of (store, name), for a program that only looks at the whole
    name and at its first segment -/
structure Atoms where
  exact : Bool        -- the name is listed in publicSymbols
  exactMap : Bool     -- the name is a key of mapSymbols
  dotted : Bool       -- the name contains a dot
  baseMap : Bool      -- its first segment is a key of mapSymbols
  basePub : Bool      -- its first segment is listed in publicSymbols
  deriving DecidableEq, Repr

def atomsOf (c : PubCfg) (s : Bytes) : Atoms :=
  { exact := c.pub.contains s, exactMap := c.maps.contains s, dotted := decide ((splitDot s).length > 1),
    baseMap := c.maps.contains (firstSeg s), basePub := c.pub.contains (firstSeg s) }

/-- an undotted name is its own first segment -/
def Atoms.consistent (a : Atoms) : Bool :=
  a.dotted || (a.exact == a.basePub && a.exactMap == a.baseMap)

def bools : List Bool := [false, true]

def allAtoms : List Atoms :=
  bools.flatMap fun a => bools.flatMap fun b => bools.flatMap fun d => bools.flatMap fun m => bools.map fun p =>
    { exact := a, exactMap := b, dotted := d, baseMap := m, basePub := p }

/-- the value of a condition as a function of the atoms; `none`: it looks at something else -/
def CondE.abs (a : Atoms) : CondE → Option Bool
  | .const b => some b
  | .lookup .pub .sym => some a.exact
  | .lookup .maps .sym => some a.exactMap
  | .lookup .pub .firstSeg => some a.basePub
  | .lookup .maps .firstSeg => some a.baseMap
  | .lookup _ _ => none
  | .segsMoreThan n => if n == 1 then some a.dotted else none
  | .dotNotFirst => none
  | .lastDotNotFirst => none
  | .hasParent => none          -- "public for the store": nothing about the parent store may decide
  | .parentPublic _ => none
  | .not x => (x.abs a).map (!·)
  | .and x y => match x.abs a, y.abs a with
    | some u, some v => some (u && v)
    | _, _ => none
  | .or x y => match x.abs a, y.abs a with
    | some u, some v => some (u || v)
    | _, _ => none
  | .other _ => none

def DTree.abs (a : Atoms) : DTree → Option Bool
  | .ret e => e.abs a
  | .ite e t f => match e.abs a with
    | some true => t.abs a
    | some false => f.abs a
    | none => none
  | .unknown _ => none

/-- the decision the property demands: listed itself, or an element (dotted name) of a listed map -/
def Atoms.reference (a : Atoms) : Bool := a.exact || (a.dotted && a.baseMap && a.basePub)

/-- IsPublicSymbol decides like the reference on every consistent valuation of the atoms -/
def goodPub (d : DTree) : Bool :=
  allAtoms.all fun a => !a.consistent || d.abs a == some a.reference

/-- abstract validator state: nil, non-nil as it was, set to the symbol by this call -/
inductive AErr | nil | orig | set
  deriving DecidableEq, Repr

def VLit.absEval (e : AErr) (isPub : Bool) (l : VLit) : Option Bool :=
  match l.atom with
  | .errNil => some ((e == .nil) == l.pos)
  | .isPublic => some (isPub == l.pos)
  | .other _ => none

def allSome : List (Option Bool) → Option Bool
  | [] => some true
  | none :: _ => none
  | some b :: rest => (allSome rest).map (b && ·)

def absVisit (isPub : Bool) : List VStmt → AErr → Option AErr
  | [], e => some e
  | .setErrIf conds arg :: rest, e =>
    match allSome (conds.map (VLit.absEval e isPub)), arg with
    | some true, .symbol => absVisit isPub rest .set
    | some true, .other _ => none
    | some false, _ => absVisit isPub rest e
    | none, _ => none
  | .returnIf conds :: rest, e =>
    match allSome (conds.map (VLit.absEval e isPub)) with
    | some true => some e
    | some false => absVisit isPub rest e
    | none => none
  | .other _ :: _, _ => none

/-- VisitSymbol keeps the first error: sets it to the symbol iff it was nil and the symbol is not public -/
def goodVisit (p : List VStmt) : Bool :=
  absVisit true p .nil == some .nil && absVisit true p .orig == some .orig &&
  absVisit false p .nil == some .set && absVisit false p .orig == some .orig

/-- a fresh validator, one walk of the whole query through Accept, the validator's error returned -/
def goodWalk : List WStmt → Bool
  | [.newVisitor fs, .acceptQuery, .returnErr] => !fs.contains "err"
  | _ => false

def GoodShape (sh : ValidatorShape) : Bool := goodPub sh.isPublic && goodVisit sh.visitSymbol && goodWalk sh.walk

theorem firstSeg_of_split {s base : Bytes} {r : List Bytes} (h : splitDot s = base :: r) : firstSeg s = base := by
  simp [firstSeg, h]

theorem atomsOf_consistent (c : PubCfg) (s : Bytes) : (atomsOf c s).consistent = true := by
  unfold Atoms.consistent atomsOf
  rcases h : splitDot s with _ | ⟨base, _ | ⟨x, r⟩⟩
  · exact absurd h (splitDot_ne_nil s)
  · have hb : firstSeg s = s := by rw [firstSeg_of_split h]; exact splitDot_single s base h
    simp [hb]
  · simp

theorem mem_bools (b : Bool) : b ∈ bools := by cases b <;> simp [bools]

theorem allAtoms_complete (a : Atoms) : a ∈ allAtoms := by
  simp only [allAtoms, List.mem_flatMap, List.mem_map]
  exact ⟨a.exact, mem_bools _, a.exactMap, mem_bools _, a.dotted, mem_bools _, a.baseMap, mem_bools _,
    a.basePub, mem_bools _, rfl⟩

/-- `P` holds of the value of an abstract interpretation, where it is defined.  The soundness proofs below follow the
    case tree of the abstract interpreter: where it gives up the claim is empty (`WhenSome.none`), where it answers
    (`WhenSome.some`) the concrete interpreter does the same on that path. -/
def WhenSome {α : Type} (P : α → Prop) (o : Option α) : Prop := ∀ a, o = some a → P a

theorem WhenSome.none {α : Type} {P : α → Prop} : WhenSome P none := fun _ h => by cases h

theorem WhenSome.some {α : Type} {P : α → Prop} {a : α} (ha : P a) : WhenSome P (some a) := fun _ h => by cases h; exact ha

theorem CondE.abs_sound (par : Option (Bytes → Bool)) (c : PubCfg) (s : Bytes) (e : CondE) :
    WhenSome (fun b => e.eval par c s = b) (e.abs (atomsOf c s)) := by
  fun_induction CondE.abs (atomsOf c s) e
  all_goals try exact .none
  -- a constant and the four lookups it is defined for are the atom by definition; so is `segsMoreThan 1`
  all_goals try exact .some rfl
  · next n hn => simp only [beq_iff_eq] at hn; subst hn; exact .some rfl
  -- `not`, `and`, `or`: from the operands
  · next x ih =>
    intro b h
    simp only [Option.map_eq_some_iff] at h
    obtain ⟨u, hu, rfl⟩ := h
    simp only [CondE.eval, ih u hu]
  · next x y u v hv hu ihx ihy => exact .some (by simp only [CondE.eval, ihx u hu, ihy v hv])
  · next x y u v hv hu ihx ihy => exact .some (by simp only [CondE.eval, ihx u hu, ihy v hv])

/-- whatever the parent store answers: a tree whose abstract value is defined never asks it -/
theorem DTree.abs_sound (par : Option (Bytes → Bool)) (c : PubCfg) (s : Bytes) (d : DTree) :
    WhenSome (fun b => d.evalWith par c s = b) (d.abs (atomsOf c s)) := by
  fun_induction DTree.abs (atomsOf c s) d
  all_goals try exact .none
  · exact CondE.abs_sound par c s _
  · next e t f he ih => intro b hb; simp [DTree.evalWith, CondE.abs_sound par c s e true he, ih b hb]
  · next e t f he ih => intro b hb; simp [DTree.evalWith, CondE.abs_sound par c s e false he, ih b hb]

theorem reference_eq (c : PubCfg) (s : Bytes) : (atomsOf c s).reference = isPublicSymbol c s := by
  unfold Atoms.reference atomsOf isPublicSymbol
  rcases h : splitDot s with _ | ⟨base, _ | ⟨x, r⟩⟩
  · exact absurd h (splitDot_ne_nil s)
  · cases c.pub.contains s <;> simp
  · simp only [firstSeg_of_split h]
    cases c.pub.contains s <;> cases c.maps.contains base <;> simp

theorem goodPub_sound {d : DTree} (h : goodPub d = true) (c : PubCfg) (s : Bytes) : d.eval c s = isPublicSymbol c s := by
  simp only [goodPub, List.all_eq_true] at h
  have := h (atomsOf c s) (allAtoms_complete _)
  simp only [atomsOf_consistent, Bool.not_true, Bool.false_or, beq_iff_eq] at this
  rw [DTree.eval, DTree.abs_sound _ c s d _ this, reference_eq]

/-- the state an abstract one stands for, in a call on symbol `s` that found the validator's error nil or `some err0` -/
def AErr.conc (err0 s : Bytes) : AErr → Option Bytes
  | .nil => none
  | .orig => some err0
  | .set => some s

theorem conc_isNone (e : AErr) (err0 s : Bytes) : (e.conc err0 s).isNone = (e == AErr.nil) := by
  cases e <;> rfl

theorem absEval_sound {x : VLit} {e : AErr} {err0 s : Bytes} {isPub : Bool} :
    WhenSome (fun v => VLit.eval (e.conc err0 s) isPub x = v) (VLit.absEval e isPub x) := by
  fun_cases VLit.absEval e isPub x
  all_goals try exact .none
  · next ha => exact .some (by simp only [VLit.eval, ha, conc_isNone])
  · next ha => exact .some (by simp only [VLit.eval, ha])

theorem allSome_sound {l : List VLit} {e : AErr} {err0 s : Bytes} {isPub : Bool} :
    ∀ {b : Bool}, allSome (l.map (VLit.absEval e isPub)) = some b → l.all (VLit.eval (e.conc err0 s) isPub) = b := by
  induction l with
  | nil => intro b h; simpa [allSome] using h
  | cons x xs ih =>
    intro b h
    simp only [List.map_cons] at h
    cases hv : VLit.absEval e isPub x with
    | none => simp [hv, allSome] at h
    | some v =>
      simp only [hv, allSome, Option.map_eq_some_iff] at h
      obtain ⟨w, hw, rfl⟩ := h
      simp [List.all_cons, absEval_sound (err0 := err0) (s := s) v hv, ih hw]

theorem absVisit_sound (isPub : Bool) (err0 s : Bytes) (p : List VStmt) (e : AErr) :
    WhenSome (fun e' => runVisit isPub s p (e.conc err0 s) = e'.conc err0 s) (absVisit isPub p e) := by
  fun_induction absVisit isPub p e
  all_goals try exact .none
  · exact .some rfl
  -- `setErrIf` taken, not taken; `returnIf` taken, not taken
  · next hc ih => simp only [runVisit, allSome_sound hc, if_true]; exact ih
  · next hc ih => simp only [runVisit, allSome_sound hc, Bool.false_eq_true, if_false]; exact ih
  · next hc => exact .some (by simp only [runVisit, allSome_sound hc, if_true])
  · next hc ih => simp only [runVisit, allSome_sound hc, Bool.false_eq_true, if_false]; exact ih

theorem goodVisit_sound {p : List VStmt} (h : goodVisit p = true) (isPub : Bool) (err : Option Bytes) (s : Bytes) :
    runVisit isPub s p err = if err.isNone && !isPub then some s else err := by
  simp only [goodVisit, Bool.and_eq_true, beq_iff_eq] at h
  obtain ⟨⟨⟨h1, h2⟩, h3⟩, h4⟩ := h
  cases err with
  | none =>
    cases isPub with
    | true => simpa [AErr.conc] using absVisit_sound true [] s p .nil _ h1
    | false => simpa [AErr.conc] using absVisit_sound false [] s p .nil _ h3
  | some e =>
    cases isPub with
    | true => simpa [AErr.conc] using absVisit_sound true e s p .orig _ h2
    | false => simpa [AErr.conc] using absVisit_sound false e s p .orig _ h4

theorem goodShape_parts {sh : ValidatorShape} (h : GoodShape sh = true) :
    goodPub sh.isPublic = true ∧ goodVisit sh.visitSymbol = true ∧ goodWalk sh.walk = true := by
  simpa only [GoodShape, Bool.and_eq_true, and_assoc] using h

theorem isPublic_good {sh : ValidatorShape} (h : GoodShape sh = true) (c : PubCfg) (s : Bytes) :
    sh.isPublic.eval c s = isPublicSymbol c s :=
  goodPub_sound (goodShape_parts h).1 c s

theorem visitSymbolS_good {sh : ValidatorShape} (h : GoodShape sh = true) (c : PubCfg) :
    visitSymbolS sh c = visitSymbol c := by
  funext err s
  rw [visitSymbolS, goodVisit_sound (goodShape_parts h).2.1, isPublic_good h, visitSymbol]

/-- a validator that makes one walk of the whole query — whatever its VisitSymbol and IsPublicSymbol decide — sees the
    table only through `panics` and `visit` -/
theorem validateS_walk (T : Table) {sh : ValidatorShape} {fs : List String}
    (hw : sh.walk = [.newVisitor fs, .acceptQuery, .returnErr]) (c : PubCfg) (q : Tree) :
    validateS T sh c q = if panics T q then .panic else .ok ((visit T q).foldl (visitSymbolS sh c) none) := by
  rw [validateS, hw]
  simp [runWalk, accept_eq_foldl]

/-- the form the witnesses in Properties/C20 use: `h` is a conjunct of `sample_walks` -/
theorem validateS_of_walk {T : Table} {sh : ValidatorShape} {fs : List String}
    (hw : sh.walk = [.newVisitor fs, .acceptQuery, .returnErr]) {q : Tree} {l : List Bytes}
    (h : panics T q = false ∧ visit T q = l) (c : PubCfg) :
    validateS T sh c q = .ok (l.foldl (visitSymbolS sh c) none) := by
  rw [validateS_walk T hw, h.1, h.2]; rfl

theorem validateS_good (T : Table) {sh : ValidatorShape} (h : GoodShape sh = true) (c : PubCfg) (q : Tree) :
    validateS T sh c q = validate T c q := by
  have hw := (goodShape_parts h).2.2
  unfold goodWalk at hw
  split at hw
  · next fs heq => rw [validateS_walk T heq, visitSymbolS_good h, validate]
  · cases hw

end StorageModel.C20
