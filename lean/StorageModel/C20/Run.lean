import StorageModel.C20.Lemmas
/- C20 — `Accept` with a stateful visitor, literally: the state is threaded through the statements of each Accept body
   in source order (as Go does with `visitor *publicSymbolValidator`); this is the fold of `VisitSymbol` over `visit`. -/
namespace StorageModel.C20

mutual
/-- `t.Accept(visitor)` where `vs` is the visitor's VisitSymbol and `st` its state -/
def accept {σ : Type} (T : Table) (vs : σ → Bytes → σ) : Tree → σ → σ
  | .nil, st => st
  | .tnil _, st => st
  | .node k strs kids, st =>
    match T.lookup k with
    | none => st
    | some ki =>
      ki.steps.foldl (fun st step =>
        match step with
        | .announce f => (fieldValues strs f).foldl vs st
        | .forward f _ => acceptField T vs f kids st
        | .hook _ => st
        | .unknown _ => st) st
def acceptField {σ : Type} (T : Table) (vs : σ → Bytes → σ) (f : String) : Kids → σ → σ
  | .none, st => st
  | .cons g t rest, st => acceptField T vs f rest (if g == f then accept T vs t st else st)
end

/-- ValidateSymbolsArePublic, literally: a fresh validator, `query.Accept(visitor)`, return `visitor.err` -/
def validateRun (T : Table) (c : PubCfg) (q : Tree) : Outcome (Option Bytes) :=
  if panics T q then .panic else .ok (accept T (visitSymbol c) q none)

mutual
theorem accept_eq_foldl {σ : Type} (T : Table) (vs : σ → Bytes → σ) :
    ∀ (t : Tree) (st : σ), accept T vs t st = (visit T t).foldl vs st
  | .nil, st => by simp [accept, visit]
  | .tnil _, st => by simp [accept, visit]
  | .node k strs kids, st => by
    rw [accept, visit]
    cases T.lookup k with
    | none => rfl
    | some ki =>
      simp only
      generalize ki.steps = steps
      induction steps generalizing st with
      | nil => rfl
      | cons step rest ih =>
        simp only [List.foldl_cons, List.flatMap_cons, List.foldl_append]
        rw [ih]
        congr 1
        cases step with
        | announce f => rfl
        | forward f g => exact acceptField_eq_foldl T vs f kids st
        | hook m => rfl
        | unknown w => rfl
theorem acceptField_eq_foldl {σ : Type} (T : Table) (vs : σ → Bytes → σ) (f : String) :
    ∀ (kids : Kids) (st : σ), acceptField T vs f kids st = (visitField T f kids).foldl vs st
  | .none, st => by simp [acceptField, visitField]
  | .cons g t rest, st => by
    rw [acceptField, visitField, List.foldl_append, acceptField_eq_foldl T vs f rest]
    congr 1
    by_cases hg : (g == f) = true
    · simp only [hg, if_true]; exact accept_eq_foldl T vs t st
    · simp [hg]
end

theorem validate_eq_run (T : Table) (c : PubCfg) (q : Tree) : validate T c q = validateRun T c q := by
  simp [validate, validateRun, accept_eq_foldl]

end StorageModel.C20
