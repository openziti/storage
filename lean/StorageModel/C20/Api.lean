import StorageModel.C20.Shape
/-
  C20 — symbols reached through the Query API rather than through Accept: `GetPredicate()`,
  `GetSortFields()[i].Symbol()`, and what `SetPredicate` / `AdoptSortFields` / `SetSkip` / `SetLimit` store.  The
  accessor table (`Generated.queryApi`, `Generated.symbolVia`, regenerated from ast/node_query.go and the `Symbol()`
  methods) is interpreted here; `apiOk` / `symViaOk` are the obligations on it.
-/
namespace StorageModel.C20

def childrenOf (f : String) : Kids → List Tree
  | .none => []
  | .cons g t rest => (if g == f then [t] else []) ++ childrenOf f rest

/-- the nodes at the end of a field path (a slice field contributes every element) -/
def followPath : List String → Tree → List Tree
  | [], t => [t]
  | f :: rest, .node _ _ kids => (childrenOf f kids).flatMap (followPath rest)
  | _ :: _, _ => []

/-- `n.Symbol()`; `none`: the call dereferences nil (nil interface, typed nil pointer) or is not modelled -/
def symbolFn (V : List (String × SymVia)) : Nat → Tree → Option Bytes
  | 0, _ => none
  | n + 1, .node k strs kids =>
    match V.lookup k with
    | some (.field f) => (fieldValues strs f).head?
    | some (.child c) =>
      match childOf c kids with
      | some t => symbolFn V n t
      | none => none
    | _ => none
  | _ + 1, _ => none

def getPath (api : List ApiMethod) (m : String) : Option (List String) :=
  api.findSome? fun
    | .get m' p => if m' == m then some p else none
    | _ => none

/-- `for _, sf := range query.GetSortFields() { sf.Symbol() }` -/
def sortFieldSymbols (V : List (String × SymVia)) (api : List ApiMethod) (n : Nat) (q : Tree) : List (Option Bytes) :=
  match getPath api "GetSortFields" with
  | some p => (followPath p q).map (symbolFn V n)
  | none => []

/-- `query.GetPredicate()` -/
def getPredicate (api : List ApiMethod) (q : Tree) : List Tree :=
  match getPath api "GetPredicate" with
  | some p => followPath p q
  | none => []

/-- every field on the path is a node-valued field of the kind reached so far, forwarded by its Accept -/
def pathOk (T : Table) : Nat → String → List String → Bool
  | _, _, [] => true
  | 0, _, _ => false
  | n + 1, k, f :: rest =>
    match T.lookup k with
    | none => false
    | some ki =>
      match ki.children.find? (fun c => c.field == f) with
      | none => false
      | some c =>
        forwards ki f &&
          (match c.static with
           | .ptr k' => pathOk T n k' rest
           | .val k' => pathOk T n k' rest
           | .iface => rest.isEmpty)

/-- 4 is fuel for `pathOk`: an accessor path has at most two fields (`ApiMethod.get`) -/
def apiOk (T : Table) (api : List ApiMethod) : Bool :=
  api.all fun
    | .get _ p => pathOk T 4 "queryNode" p
    | .set _ f => pathOk T 4 "queryNode" [f]
    | .adopt _ f => pathOk T 4 "queryNode" [f]
    | .build _ f _ => pathOk T 4 "queryNode" [f]
    | .scalar _ f => pathOk T 4 "queryNode" [f]
    | .eval _ f => pathOk T 4 "queryNode" [f]
    | .unknown _ _ => false

/-- a `Symbol()` that returns a string field returns one the table counts as a symbol; one that
    delegates, delegates to a node-valued field -/
def symViaEntryOk (T : Table) (k : String) (v : SymVia) : Bool :=
  match T.lookup k, v with
  | some ki, .field f => ki.symFields.contains f
  | some ki, .child c => ki.children.any (fun ch => ch.field == c)
  | _, _ => false

def symViaOk (T : Table) (V : List (String × SymVia)) : Bool := V.all fun p => symViaEntryOk T p.1 p.2

theorem mem_childrenOf {f : String} {t : Tree} {kids : Kids} (h : t ∈ childrenOf f kids) : (f, t) ∈ kids.toList := by
  obtain ⟨g, t', hm, ht⟩ := (mem_concat (f := fun g t => if g == f then [t] else []) rfl (fun _ _ _ => rfl)).mp h
  by_cases hg : g = f
  · have ht : t = t' := by simpa [hg] using ht
    rwa [ht, ← hg]
  · simp [hg] at ht

theorem childOf_eq_head? (f : String) : ∀ kids : Kids, childOf f kids = (childrenOf f kids).head?
  | .none => rfl
  | .cons g t rest => by
    by_cases hg : (g == f) = true <;> simp [childOf, childrenOf, hg, childOf_eq_head? f rest]

theorem childOf_mem {f : String} {t : Tree} {kids : Kids} (h : childOf f kids = some t) : (f, t) ∈ kids.toList :=
  mem_childrenOf (List.mem_of_mem_head? (childOf_eq_head? f kids ▸ h))

theorem followPath_symbols {T : Table} : ∀ (p : List String) (q t : Tree), t ∈ followPath p q →
    ∀ s, s ∈ allSymbols T t → s ∈ allSymbols T q
  | [], q, t, h, s, hs => by simp only [followPath, List.mem_singleton] at h; subst h; exact hs
  | f :: rest, .nil, t, h, _, _ => by simp [followPath] at h
  | f :: rest, .tnil _, t, h, _, _ => by simp [followPath] at h
  | f :: rest, .node k strs kids, t, h, s, hs => by
    simp only [followPath, List.mem_flatMap] at h
    obtain ⟨c, hc, ht⟩ := h
    rw [allSymbols, List.mem_append]
    exact Or.inr (mem_allSymbolsKids.mpr ⟨f, c, mem_childrenOf hc, followPath_symbols rest c t ht s hs⟩)

theorem symViaOk_lookup {T : Table} {V : List (String × SymVia)} (hV : symViaOk T V = true) {k : String} {v : SymVia}
    (hv : V.lookup k = some v) : symViaEntryOk T k v = true := by
  obtain ⟨l1, l2, heq, _⟩ := List.lookup_eq_some_iff.mp hv
  exact List.all_eq_true.mp hV (k, v) (by rw [heq]; simp)

theorem symbolFn_symbols {T : Table} {V : List (String × SymVia)} (hV : symViaOk T V = true) :
    ∀ (n : Nat) (t : Tree) (s : Bytes), symbolFn V n t = some s → s ∈ allSymbols T t
  | 0, _, _, h => by simp [symbolFn] at h
  | n + 1, .nil, _, h => by simp [symbolFn] at h
  | n + 1, .tnil _, _, h => by simp [symbolFn] at h
  | n + 1, .node k strs kids, s, h => by
    rw [allSymbols, List.mem_append]
    rw [symbolFn] at h
    split at h
    · next f hv =>
      have hok := symViaOk_lookup hV hv
      cases hl : T.lookup k with
      | none => simp [symViaEntryOk, hl] at hok
      | some ki =>
        simp only [symViaEntryOk, hl, List.contains_iff_mem] at hok
        exact Or.inl (mem_ownSymbols.mpr ⟨ki, hl, f, hok, mem_fieldValues.mp (List.mem_of_mem_head? h)⟩)
    · next c hv =>
      split at h
      · next t hc => exact Or.inr (mem_allSymbolsKids.mpr ⟨c, t, childOf_mem hc, symbolFn_symbols hV n t s h⟩)
      · cases h
    · cases h

/-- **Every symbol the Query API hands out is referenced by the query** (and therefore, by
    `visit_sees_all`, announced to the validator): the symbols of the sort fields returned by
    `GetSortFields()` and everything below the node returned by `GetPredicate()`. -/
theorem api_symbols_referenced {T : Table} {V : List (String × SymVia)} (hV : symViaOk T V = true)
    (api : List ApiMethod) (n : Nat) (q : Tree) :
    (∀ s, some s ∈ sortFieldSymbols V api n q → s ∈ allSymbols T q) ∧
    (∀ t ∈ getPredicate api q, ∀ s ∈ allSymbols T t, s ∈ allSymbols T q) := by
  constructor
  · intro s hs
    unfold sortFieldSymbols at hs
    split at hs
    · next p _ =>
      obtain ⟨t, ht, hsym⟩ := List.mem_map.mp hs
      exact followPath_symbols p q t ht s (symbolFn_symbols hV n t s hsym)
    · cases hs
  · intro t ht s hs
    unfold getPredicate at ht
    split at ht
    · exact followPath_symbols _ q t ht s hs
    · cases ht

end StorageModel.C20
