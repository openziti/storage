import StorageModel.C20.Lemmas
/-
  C20 — the type-directed transformation (ast/node_convert.go transformTypes and the
  TypeTransform / TypeTransformBool methods of node_convert.go, node_query.go, node_symbol.go,
  node_expr.go) as a deterministic FUNCTION on the generic `Tree`:

      transform env n Σ u = .ok t      t is the typed query that PostProcess builds from the
                                       untyped tree u the parse listener left on its stack,
                                       for the symbol types Σ (ast.SymbolTypes)

  * Dynamic dispatch follows the regenerated table: a Go type assertion `x.(I)` is
    `impl T x "I"` (`KindInfo.ifaces`, the node interfaces whose method set the kind's method set
    contains), `x.GetType()` is `KindInfo.getType` (the constant the kind's GetType returns);
    operators and set functions are compared with the regenerated constants `env.E`.
  * An unchecked assertion that would panic, and anything the grammar cannot produce, is an
    `.error`; the driver compares `transform` with the real typed tree only for queries the real
    parser accepted.
  * Nodes that are neither TypeTransformable nor BoolTypeTransformable (constants, arrays, the
    skip / limit nodes) are kept as they are, provided they are what the table describes and
    hold no symbol (`constOk`, evaluated by the function itself).

  `n` bounds the nesting depth (the driver passes the length of the line).
-/
namespace StorageModel.C20

mutual
/-- equality of trees, executable (the driver compares the model's typed tree with the real one) -/
def treeEq : Tree → Tree → Bool
  | .nil, .nil => true
  | .tnil k, .tnil k' => k == k'
  | .node k strs kids, .node k' strs' kids' => k == k' && strs == strs' && kidsEq kids kids'
  | _, _ => false
def kidsEq : Kids → Kids → Bool
  | .none, .none => true
  | .cons g t rest, .cons g' t' rest' => g == g' && treeEq t t' && kidsEq rest rest'
  | _, _ => false
end

mutual
theorem treeEq_sound : ∀ (a b : Tree), treeEq a b = true → a = b
  | .nil, .nil, _ => rfl
  | .tnil k, .tnil k', h => by simp only [treeEq, beq_iff_eq] at h; rw [h]
  | .node k strs kids, .node k' strs' kids', h => by
    simp only [treeEq, Bool.and_eq_true, beq_iff_eq] at h
    obtain ⟨⟨rfl, rfl⟩, hk⟩ := h
    rw [kidsEq_sound kids kids' hk]
theorem kidsEq_sound : ∀ (a b : Kids), kidsEq a b = true → a = b
  | .none, .none, _ => rfl
  | .cons g t rest, .cons g' t' rest', h => by
    simp only [kidsEq, Bool.and_eq_true, beq_iff_eq] at h
    obtain ⟨⟨rfl, ht⟩, hr⟩ := h
    rw [treeEq_sound t t' ht, kidsEq_sound rest rest' hr]
end

def okIs (r : Except String Tree) (want : Tree) : Bool :=
  match r with
  | .ok t => treeEq t want
  | .error _ => false

theorem okIs_sound {r : Except String Tree} {want : Tree} (h : okIs r want = true) : r = .ok want := by
  unfold okIs at h
  split at h
  · rw [treeEq_sound _ _ h]
  · cases h

/-- ast.NodeType -/
inductive NT where
  | bool | datetime | float64 | int64 | string | anyType | other
  deriving DecidableEq, Repr

def NT.ofGo : String → NT
  | "NodeTypeBool" => .bool
  | "NodeTypeDatetime" => .datetime
  | "NodeTypeFloat64" => .float64
  | "NodeTypeInt64" => .int64
  | "NodeTypeString" => .string
  | "NodeTypeAnyType" => .anyType
  | _ => .other

/-- `ast.SymbolTypes`: GetSymbolType and GetSetSymbolTypes (IsSet is used by the symbol
    validator only, which runs before the transformation and can only reject) -/
inductive SymTab where
  | mk (getType : Bytes → Option NT) (sub : Bytes → Option SymTab)

def SymTab.getType : SymTab → Bytes → Option NT | .mk g _ => g
def SymTab.sub : SymTab → Bytes → Option SymTab | .mk _ s => s

/-- the regenerated facts the transformation consults -/
structure Env where
  T : Table
  /-- constants of the enumerations BinaryOp, SetFunction, boolBinaryOp: name ↦ value -/
  E : List (String × Nat)

def kindOf : Tree → String
  | .nil => ""
  | .tnil k => k
  | .node k _ _ => k

/-- `x.(I)` (comma-ok) -/
def impl (T : Table) (t : Tree) (i : String) : Bool :=
  match t with
  | .nil => false
  | .tnil k =>      -- the dynamic type of a typed nil pointer is still *K
    match T.lookup k with
    | some ki => ki.ifaces.contains i
    | none => false
  | .node k _ _ =>
    match T.lookup k with
    | some ki => ki.ifaces.contains i
    | none => false

/-- `x.GetType()` -/
def typeOf (T : Table) (t : Tree) : NT :=
  match T.lookup (kindOf t) with
  | some ki => NT.ofGo ki.getType
  | none => .other

/-- value of an enumeration field on the wire: one byte -/
def Env.const (e : Env) (c : String) : Option Bytes := (e.E.lookup c).map fun n => [UInt8.ofNat n]

/-- `<field value> == <constant c>` for an enumeration field -/
def Env.is (e : Env) (v : Bytes) (c : String) : Bool := e.const c == some v

def symKindOf : NT → Option String
  | .string => some "StringSymbolNode"
  | .bool => some "BoolSymbolNode"
  | .int64 => some "Int64SymbolNode"
  | .float64 => some "Float64SymbolNode"
  | .datetime => some "DatetimeSymbolNode"
  | .anyType => some "AnyTypeSymbolNode"
  | .other => none

def symLeaf (k : String) (s : Bytes) : Tree := .node k [("symbol", s)] .none

/-- UntypedSymbolNode.TypeTransform -/
def transformSymbol (st : SymTab) (s : Bytes) : Except String Tree :=
  match st.getType s with
  | none => .error "unknown symbol"
  | some nt =>
    match symKindOf nt with
    | some k => .ok (symLeaf k s)
    | none => .error "unhandled symbol type"

/-- what is kept as it is: described by the table, nil only where the parser leaves it, no symbol -/
def constOk (T : Table) (t : Tree) : Bool :=
  shaped T t && nilOk t && (allSymbols T t).isEmpty && namesCovered T t

/-- `ToFloat64()` of the Int64Node kinds -/
def toFloat64 (t : Tree) : Tree :=
  match t with
  | .node "Int64ConstNode" [] .none => .node "Float64ConstNode" [] .none
  | .node "AnyTypeSymbolNode" strs kids => .node "AnyTypeSymbolNode" strs kids
  | t => .node "Int64ToFloat64Node" [] (.cons "wrapped" t .none)

def upperByte (b : UInt8) : UInt8 := if 97 ≤ b ∧ b ≤ 122 then b - 32 else b

def toUpperLabel : Bytes := [116, 111, 85, 112, 112, 101, 114]

/-- BinaryExprNode.toUpper: a string constant is upper-cased, anything else is wrapped
    (strings.ToUpper is modelled on ASCII; other constants are not modelled) -/
def toUpperNode (T : Table) (t : Tree) : Except String Tree :=
  match t with
  | .node "StringConstNode" [("value", v)] .none =>
    if v.all (· < 128) then .ok (.node "StringConstNode" [("value", v.map upperByte)] .none)
    else .error "unmodelled: strings.ToUpper beyond ASCII"
  | t =>
    if impl T t "SymbolNode" then .ok (.node "StringFuncNode" [("label", toUpperLabel)] (.cons "expr" t .none))
    else .error "unmodelled: toUpper of a constant that is not a string constant"

def bin2 (k : String) (strs : List (String × Bytes)) (l r : Tree) : Tree :=
  .node k strs (.cons "left" l (.cons "right" r .none))

def invalidOps : Except String Tree := .error "operation is not supported with operand types"

/-- BinaryExprNode.handleStringOps / handleCaseInsensitive -/
def handleStringOps (e : Env) (o : Bytes) (l r : Tree) : Except String Tree :=
  if impl e.T l "StringNode" && impl e.T r "StringNode" then
    if e.is o "BinaryOpIContains" || e.is o "BinaryOpNotIContains" then
      match toUpperNode e.T l, toUpperNode e.T r,
            e.const (if e.is o "BinaryOpNotIContains" then "BinaryOpNotContains" else "BinaryOpContains") with
      | .ok ul, .ok ur, some op => .ok (bin2 "BinaryStringExprNode" [("op", op)] ul ur)
      | _, _, _ => .error "unmodelled case-insensitive operand"
    else .ok (bin2 "BinaryStringExprNode" [("op", o)] l r)
  else invalidOps

/-- BinaryExprNode.getTypedExpr -/
def binaryTypedExpr (e : Env) (o : Bytes) (l r : Tree) : Except String Tree :=
  if kindOf r == "NullConstNode" then
    if impl e.T l "SymbolNode" && (e.is o "BinaryOpEQ" || e.is o "BinaryOpNEQ") then
      .ok (.node "IsNilExprNode" [("op", o)] (.cons "symbol" l .none))
    else invalidOps
  else if e.is o "BinaryOpContains" || e.is o "BinaryOpNotContains" then
    handleStringOps e o l r
  else
    match (if typeOf e.T l == .anyType then typeOf e.T r else typeOf e.T l) with
    | .bool =>
      if typeOf e.T r == .bool && (e.is o "BinaryOpEQ" || e.is o "BinaryOpNEQ") then
        if impl e.T l "BoolNode" && impl e.T r "BoolNode" then .ok (bin2 "BinaryBoolExprNode" [("op", o)] l r)
        else .error "panic: interface conversion in handleBoolOps"
      else invalidOps
    | .datetime =>
      if !impl e.T l "DatetimeNode" then .error "panic: interface conversion in handleDatetimeOps"
      else if typeOf e.T r == .datetime then
        if impl e.T r "DatetimeNode" then .ok (bin2 "BinaryDatetimeExprNode" [("op", o)] l r)
        else .error "panic: interface conversion in handleDatetimeOps"
      else invalidOps
    | .float64 =>
      if !impl e.T l "Float64Node" then .error "panic: interface conversion in handleFloat64Ops"
      else if typeOf e.T r == .float64 then
        if impl e.T r "Float64Node" then .ok (bin2 "BinaryFloat64ExprNode" [("op", o)] l r)
        else .error "panic: interface conversion in handleFloat64Ops"
      else if typeOf e.T r == .int64 then
        if impl e.T r "Int64Node" then .ok (bin2 "BinaryFloat64ExprNode" [("op", o)] l (toFloat64 r))
        else .error "panic: interface conversion in handleFloat64Ops"
      else invalidOps
    | .int64 =>
      if !impl e.T l "Int64Node" then .error "panic: interface conversion in handleInt64Ops"
      else if typeOf e.T r == .int64 then
        if impl e.T r "Int64Node" then .ok (bin2 "BinaryInt64ExprNode" [("op", o)] l r)
        else .error "panic: interface conversion in handleInt64Ops"
      else if typeOf e.T r == .float64 then
        if impl e.T r "Float64Node" then .ok (bin2 "BinaryFloat64ExprNode" [("op", o)] (toFloat64 l) r)
        else .error "panic: interface conversion in handleInt64Ops"
      else invalidOps
    | .string => handleStringOps e o l r
    | _ => invalidOps

/-- the elements of an array node, each under `ToFloat64()` -/
def kidsToFloat : Kids → Kids
  | .none => .none
  | .cons g t rest => .cons g (toFloat64 t) (kidsToFloat rest)

/-- a converted constant array: what the table describes, no symbol -/
def keptArray (T : Table) (arr : Tree) : Except String Tree :=
  if constOk T arr then .ok arr else .error "unmodelled array conversion"

/-- InArrayExprNode.getTypedExpr (every assertion there is comma-ok) -/
def inArrayTypedExpr (T : Table) (l r : Tree) : Except String Tree :=
  match r with
  | .node rk [] vals =>
    if impl T l "DatetimeNode" && rk == "DatetimeArrayNode" then .ok (bin2 "InDatetimeArrayExprNode" [] l r)
    else if impl T l "Int64Node" && rk == "Int64ArrayNode" then .ok (bin2 "InInt64ArrayExprNode" [] l r)
    else if impl T l "Int64Node" && rk == "Float64ArrayNode" then .ok (bin2 "InFloat64ArrayExprNode" [] (toFloat64 l) r)
    else if impl T l "Float64Node" && rk == "Int64ArrayNode" then
      -- rightIntArr.ToFloat64ArrayNode()
      match keptArray T (.node "Float64ArrayNode" [] (kidsToFloat vals)) with
      | .ok arr => .ok (bin2 "InFloat64ArrayExprNode" [] l arr)
      | .error m => .error m
    else if impl T l "Float64Node" && rk == "Float64ArrayNode" then .ok (bin2 "InFloat64ArrayExprNode" [] l r)
    else if impl T l "StringNode" && impl T r "AsStringArrayable" then
      -- rightStrArray.AsStringArray(): the same elements in a StringArrayNode
      match keptArray T (.node "StringArrayNode" [] vals) with
      | .ok arr => .ok (bin2 "InStringArrayExprNode" [] l arr)
      | .error m => .error m
    else .error "operation in is not supported with operand types"
  | _ => .error "operation in is not supported with operand types"

/-- `toFloat64Nodes`, one element -/
def asFloat64 (T : Table) (t : Tree) : Option Tree :=
  if impl T t "Int64Node" then some (toFloat64 t)
  else if impl T t "Float64Node" then some t
  else none

def bin3 (k : String) (a lo hi : Tree) : Tree :=
  .node k [] (.cons "left" a (.cons "lower" lo (.cons "upper" hi .none)))

/-- BetweenExprNode.getTypedExpr -/
def betweenTypedExpr (T : Table) (l lo hi : Tree) : Except String Tree :=
  if impl T l "DatetimeNode" && impl T lo "DatetimeNode" && impl T hi "DatetimeNode" then
    .ok (bin3 "DatetimeBetweenExprNode" l lo hi)
  else if impl T l "Int64Node" && impl T lo "Int64Node" && impl T hi "Int64Node" then
    .ok (bin3 "Int64BetweenExprNode" l lo hi)
  else
    match asFloat64 T l, asFloat64 T lo, asFloat64 T hi with
    | some a, some b, some c => .ok (bin3 "Float64BetweenExprNode" a b c)
    | _, _, _ => .error "operation between is not supported with operand types"

/-- `Symbol()` of a symbol node without children: the string field the table lists as holding the symbol -/
def symbolOf (T : Table) : Tree → Option Bytes
  | .node k strs .none =>
    match ownSymbols T k strs with
    | [s] => some s
    | _ => none
  | _ => none

/-- SetFunctionNode.MoveUpTree (specializeSetAnyOf stores the same predicate a second time in
    `seekablePredicate`, which is not a child: see `aliasFields`) -/
def moveUpTree (e : Env) (f : Bytes) (sym : Tree) (pred : Tree) : Except String Tree :=
  match symbolOf e.T sym with
  | some s =>
    if e.is f "SetFunctionAllOf" then
      .ok (.node "AllOfSetExprNode" [("name", s)] (.cons "predicate" pred .none))
    else if e.is f "SetFunctionAnyOf" then
      .ok (.node "AnyOfSetExprNode" [("name", s)] (.cons "predicate" pred .none))
    else .error "unhandled set function"
  | none => .error "unmodelled: set function over something that is not a plain symbol"

/-- the operand a comparison works on, and the set function (if any) that is hoisted above it:
    `node.left = setFunction.symbol` -/
def splitSetFunction (tl : Tree) : Tree × Option Bytes :=
  match tl with
  | .node "SetFunctionNode" [("setFunction", f)] (.cons "symbol" sym .none) => (sym, some f)
  | t => (t, none)

/-- `subQuery, ok := symbol.(*subQueryNode)`: (symbol, query), query nil if it is not one -/
def unpackSubQuery (ts : Tree) : Tree × Tree :=
  match ts with
  | .node "subQueryNode" [] (.cons "symbol" sy (.cons "query" q .none)) => (sy, q)
  | t => (t, .nil)

/-- SortByNode.TypeTransform / SortFieldNode.TypeTransform: every field's symbol, in place -/
def transformSortFields (st : SymTab) : Kids → Except String Kids
  | .none => .ok .none
  | .cons "SortFields" (.node "SortFieldNode" [] (.cons "symbol" (.node "UntypedSymbolNode" [("symbol", s)] .none) .none)) rest =>
    match transformSymbol st s, transformSortFields st rest with
    | .ok ts, .ok more => .ok (.cons "SortFields" (.node "SortFieldNode" [] (.cons "symbol" ts .none)) more)
    | .error m, _ => .error m
    | _, .error m => .error m
  | _ => .error "unmodelled sort field"

def transformSort (st : SymTab) : Tree → Except String Tree
  | .nil => .ok .nil
  | .node "SortByNode" [] fields =>
    match transformSortFields st fields with
    | .ok fs => .ok (.node "SortByNode" [] fs)
    | .error m => .error m
  | _ => .error "unmodelled sort clause"

/-- `Symbol()` of a node in symbol position of the untyped tree -/
def untypedSymbolName : Tree → Option Bytes
  | .node "UntypedSymbolNode" [("symbol", s)] .none => some s
  | _ => none

/- The methods, with the recursive call `transformTypes(s, &child)` as a parameter `rec`. -/

/-- SetFunctionNode.TypeTransform -/
def ttSetFunction (e : Env) (rec : SymTab → Tree → Except String Tree) (st : SymTab) (f : Bytes) (s : Tree) :
    Except String Tree :=
  match rec st s with
  | .error m => .error m
  | .ok ts =>
    if !impl e.T ts "SymbolNode" then .error "identifier symbol was transformed to non-identifier node"
    else if e.is f "SetFunctionAllOf" || e.is f "SetFunctionAnyOf" then
      .ok (.node "SetFunctionNode" [("setFunction", f)] (.cons "symbol" ts .none))
    else
      let sq := unpackSubQuery ts
      if e.is f "SetFunctionCount" then
        .ok (.node "CountSetExprNode" [] (.cons "symbol" sq.1 (.cons "query" sq.2 .none)))
      else if e.is f "SetFunctionIsEmpty" then
        .ok (.node "IsEmptySetExprNode" [] (.cons "symbol" sq.1 (.cons "query" sq.2 .none)))
      else .error "unhandled set function"

/-- UntypedSubQueryNode.TypeTransform -/
def ttSubQuery (e : Env) (rec : SymTab → Tree → Except String Tree) (st : SymTab) (s q : Tree) : Except String Tree :=
  match untypedSymbolName s with
  | none => .error "unmodelled: from symbol is not a plain symbol"
  | some name =>
    match transformSymbol st name, st.sub name with
    | .error m, _ => .error m
    | .ok _, none => .error "symbol for sub-query is not an entity type"
    | .ok ts, some sub =>
      match rec sub q with
      | .error m => .error m
      | .ok tq =>
        if !impl e.T ts "SymbolNode" then .error "from symbol must be an expr"
        else if !impl e.T tq "Query" then .error "from query must be a query instance"
        else .ok (.node "subQueryNode" [] (.cons "symbol" ts (.cons "query" tq .none)))

/-- BooleanLogicExprNode.TypeTransformBool -/
def ttLogic (e : Env) (rec : SymTab → Tree → Except String Tree) (st : SymTab) (o : Bytes) (l r : Tree) : Except String Tree :=
  match rec st l, rec st r with
  | .error m, _ => .error m
  | _, .error m => .error m
  | .ok tl, .ok tr =>
    if !impl e.T tl "BoolNode" then .error "boolean logic expression LHS is not bool"
    else if !impl e.T tr "BoolNode" then .error "boolean logic expression RHS is not bool"
    else if e.is o "AndOp" then .ok (bin2 "AndExprNode" [] tl tr)
    else if e.is o "OrOp" then .ok (bin2 "OrExprNode" [] tl tr)
    else .error "unsupported boolean logic expression operation"

/-- `node.left = setFunction.symbol`, getTypedExpr, `setFunction.MoveUpTree(typedExpr)` -/
def hoisted (e : Env) (tl : Tree) (typed : Tree → Except String Tree) : Except String Tree :=
  match splitSetFunction tl with
  | (sym, some f) =>
    match typed sym with
    | .ok ex => moveUpTree e f sym ex
    | .error m => .error m
  | (_, none) => typed tl

/-- BinaryExprNode.TypeTransformBool -/
def ttBinary (e : Env) (rec : SymTab → Tree → Except String Tree) (st : SymTab) (o : Bytes) (l r : Tree) : Except String Tree :=
  match rec st l, rec st r with
  | .error m, _ => .error m
  | _, .error m => .error m
  | .ok tl, .ok tr => hoisted e tl (fun x => binaryTypedExpr e o x tr)

/-- InArrayExprNode.TypeTransformBool -/
def ttInArray (e : Env) (rec : SymTab → Tree → Except String Tree) (st : SymTab) (l r : Tree) : Except String Tree :=
  match rec st l, rec st r with
  | .error m, _ => .error m
  | _, .error m => .error m
  | .ok tl, .ok tr => hoisted e tl (fun x => inArrayTypedExpr e.T x tr)

/-- BetweenExprNode.TypeTransformBool -/
def ttBetween (e : Env) (rec : SymTab → Tree → Except String Tree) (st : SymTab) (l lo hi : Tree) : Except String Tree :=
  match rec st l, rec st lo, rec st hi with
  | .error m, _, _ => .error m
  | _, .error m, _ => .error m
  | _, _, .error m => .error m
  | .ok tl, .ok tlo, .ok thi => hoisted e tl (fun x => betweenTypedExpr e.T x tlo thi)

/-- UntypedNotExprNode.TypeTransformBool -/
def ttUntypedNot (e : Env) (rec : SymTab → Tree → Except String Tree) (st : SymTab) (x : Tree) : Except String Tree :=
  match rec st x with
  | .error m => .error m
  | .ok tx =>
    if !impl e.T tx "BoolNode" then .error "not expr must wrap bool expr"
    else .ok (.node "NotExprNode" [] (.cons "expr" tx .none))

/-- NotExprNode.TypeTransformBool (the listener wraps `not in` / `not between` in it): transformBools on expr -/
def ttNot (e : Env) (rec : SymTab → Tree → Except String Tree) (st : SymTab) (x : Tree) : Except String Tree :=
  if impl e.T x "BoolTypeTransformable" && !impl e.T x "TypeTransformable" then
    match rec st x with
    | .error m => .error m
    | .ok tx => .ok (.node "NotExprNode" [] (.cons "expr" tx .none))
  else .error "unmodelled: NotExprNode over a node that is not BoolTypeTransformable"

/-- untypedQueryNode.TypeTransformBool -/
def ttQuery (e : Env) (rec : SymTab → Tree → Except String Tree) (st : SymTab) (p sb sk li : Tree) : Except String Tree :=
  match rec st p, transformSort st sb with
  | .error m, _ => .error m
  | _, .error m => .error m
  | .ok tp, .ok tsb =>
    if !impl e.T tp "BoolNode" then .error "query expr predicate must be a boolean expr"
    else if !(constOk e.T sk && constOk e.T li) then .error "unmodelled skip / limit node"
    else .ok (.node "queryNode" [] (.cons "Predicate" tp (.cons "SortBy" tsb (.cons "Skip" sk (.cons "Limit" li .none)))))

/-- neither TypeTransformable nor BoolTypeTransformable: kept -/
def ttKeep (e : Env) (u : Tree) : Except String Tree :=
  if impl e.T u "TypeTransformable" || impl e.T u "BoolTypeTransformable" then .error "unmodelled transformable node"
  else if !u.isNil && constOk e.T u then .ok u
  else .error "unmodelled constant"

/-- `transformTypes(s, &node)` for one node: TypeTransform, then TypeTransformBool -/
def transform (e : Env) : Nat → SymTab → Tree → Except String Tree
  | 0, _, _ => .error "depth bound"
  | n + 1, st, u =>
    match u with
    | .node "UntypedSymbolNode" [("symbol", s)] .none => transformSymbol st s
    | .node "SetFunctionNode" [("setFunction", f)] (.cons "symbol" s .none) => ttSetFunction e (transform e n) st f s
    | .node "UntypedSubQueryNode" [] (.cons "symbol" s (.cons "query" q .none)) => ttSubQuery e (transform e n) st s q
    | .node "BooleanLogicExprNode" [("op", o)] (.cons "left" l (.cons "right" r .none)) => ttLogic e (transform e n) st o l r
    | .node "BinaryExprNode" [("op", o)] (.cons "left" l (.cons "right" r .none)) => ttBinary e (transform e n) st o l r
    | .node "InArrayExprNode" [] (.cons "left" l (.cons "right" r .none)) => ttInArray e (transform e n) st l r
    | .node "BetweenExprNode" [] (.cons "left" l (.cons "lower" lo (.cons "upper" hi .none))) =>
      ttBetween e (transform e n) st l lo hi
    | .node "UntypedNotExprNode" [] (.cons "expr" x .none) => ttUntypedNot e (transform e n) st x
    | .node "NotExprNode" [] (.cons "expr" x .none) => ttNot e (transform e n) st x
    | .node "untypedQueryNode" [] (.cons "predicate" p (.cons "sortBy" sb (.cons "skip" sk (.cons "limit" li .none)))) =>
      ttQuery e (transform e n) st p sb sk li
    | u => ttKeep e u

end StorageModel.C20
