import StorageModel.C20.Spec
/- C20 — the traversal announces exactly the referenced symbols (structural induction over the children), the
   validator's fold is `find?`, the code's `isPublicSymbol` is `specIsPublic` on every `pubWF` configuration, and a tree
   with nil only where the parser leaves it does not panic. -/
namespace StorageModel.C20

theorem lookup_mem {T : Table} {k : String} {ki : KindInfo} (h : T.lookup k = some ki) : ki ∈ T :=
  List.mem_of_find?_eq_some h

theorem mem_fieldValues {strs : List (String × Bytes)} {f : String} {v : Bytes} :
    v ∈ fieldValues strs f ↔ (f, v) ∈ strs := by
  simp only [fieldValues, List.mem_map, List.mem_filter, beq_iff_eq]
  constructor
  · rintro ⟨⟨a, b⟩, ⟨hm, rfl⟩, rfl⟩; exact hm
  · intro h; exact ⟨(f, v), ⟨h, rfl⟩, rfl⟩

theorem mem_ownSymbols {T : Table} {k : String} {strs : List (String × Bytes)} {v : Bytes} :
    v ∈ ownSymbols T k strs ↔ ∃ ki, T.lookup k = some ki ∧ ∃ f, f ∈ ki.symFields ∧ (f, v) ∈ strs := by
  unfold ownSymbols
  cases h : T.lookup k with
  | none => simp
  | some ki =>
    simp only [List.mem_map, List.mem_filter, List.contains_iff_mem, Option.some.injEq, exists_eq_left']
    constructor
    · rintro ⟨⟨a, b⟩, ⟨hm, hs⟩, rfl⟩; exact ⟨a, hs, hm⟩
    · rintro ⟨f, hf, hm⟩; exact ⟨(f, v), ⟨hm, hf⟩, rfl⟩

def Kids.toList : Kids → List (String × Tree)
  | .none => []
  | .cons g t rest => (g, t) :: Kids.toList rest

theorem concat_eq_flatMap {α : Type} {f : String → Tree → List α} {F : Kids → List α} (hn : F .none = [])
    (hc : ∀ g t rest, F (.cons g t rest) = f g t ++ F rest) :
    ∀ kids : Kids, F kids = kids.toList.flatMap (fun p => f p.1 p.2)
  | .none => by rw [hn]; rfl
  | .cons g t rest => by rw [hc, concat_eq_flatMap hn hc rest]; rfl

theorem mem_concat {α : Type} {f : String → Tree → List α} {F : Kids → List α} (hn : F .none = [])
    (hc : ∀ g t rest, F (.cons g t rest) = f g t ++ F rest) {s : α} {kids : Kids} :
    s ∈ F kids ↔ ∃ g t, (g, t) ∈ kids.toList ∧ s ∈ f g t := by
  simp only [concat_eq_flatMap hn hc kids, List.mem_flatMap, Prod.exists]

theorem mem_visitKids {T : Table} {s : Bytes} {kids : Kids} :
    s ∈ visitKids T kids ↔ ∃ g t, (g, t) ∈ kids.toList ∧ s ∈ visit T t :=
  mem_concat rfl (fun _ _ _ => rfl)

theorem mem_allSymbolsKids {T : Table} {s : Bytes} {kids : Kids} :
    s ∈ allSymbolsKids T kids ↔ ∃ g t, (g, t) ∈ kids.toList ∧ s ∈ allSymbols T t :=
  mem_concat rfl (fun _ _ _ => rfl)

theorem mem_visitField {T : Table} {f : String} {s : Bytes} {kids : Kids} :
    s ∈ visitField T f kids ↔ ∃ t, (f, t) ∈ kids.toList ∧ s ∈ visit T t := by
  rw [mem_concat (f := fun g t => if g == f then visit T t else []) rfl (fun _ _ _ => rfl)]
  constructor
  · rintro ⟨g, t, hm, hs⟩
    by_cases hg : g = f
    · exact ⟨t, hg ▸ hm, by simpa [hg] using hs⟩
    · simp [hg] at hs
  · rintro ⟨t, hm, hs⟩; exact ⟨f, t, hm, by simpa using hs⟩

theorem all_kids {p : String → Tree → Bool} {P : Kids → Bool} (hc : ∀ g t rest, P (.cons g t rest) = (p g t && P rest))
    {g : String} {t : Tree} : ∀ {kids : Kids}, P kids = true → (g, t) ∈ kids.toList → p g t = true
  | .none, _, hm => by simp [Kids.toList] at hm
  | .cons g' t' rest, h, hm => by
    rw [hc, Bool.and_eq_true] at h
    simp only [Kids.toList, List.mem_cons, Prod.mk.injEq] at hm
    rcases hm with ⟨rfl, rfl⟩ | hm
    · exact h.1
    · exact all_kids hc h.2 hm

theorem shapedKids_mem {T : Table} {ki : KindInfo} {g : String} {t : Tree} {kids : Kids}
    (h : shapedKids T ki kids = true) (hm : (g, t) ∈ kids.toList) :
    (∃ c ∈ ki.children, c.field = g) ∧ shaped T t = true := by
  simpa using all_kids (p := fun g t => ki.children.any (fun c => c.field == g) && shaped T t)
    (fun _ _ _ => rfl) h hm

theorem shaped_node {T : Table} {k : String} {strs : List (String × Bytes)} {kids : Kids}
    (h : shaped T (.node k strs kids) = true) : ∃ ki, T.lookup k = some ki ∧ shapedKids T ki kids = true := by
  rw [shaped] at h
  split at h
  · cases h
  · next ki hk => exact ⟨ki, hk, (Bool.and_eq_true_iff.mp h).2⟩

theorem namesCoveredKids_mem {T : Table} {g : String} {t : Tree} {kids : Kids}
    (h : namesCoveredKids T kids = true) (hm : (g, t) ∈ kids.toList) : namesCovered T t = true :=
  all_kids (p := fun _ t => namesCovered T t) (fun _ _ _ => rfl) h hm

theorem mem_visit_node {T : Table} {k : String} {strs : List (String × Bytes)} {kids : Kids} {s : Bytes} :
    s ∈ visit T (.node k strs kids) ↔
      ∃ ki, T.lookup k = some ki ∧
        ((∃ f, Step.announce f ∈ ki.steps ∧ (f, s) ∈ strs) ∨
         (∃ f g, Step.forward f g ∈ ki.steps ∧ ∃ t, (f, t) ∈ kids.toList ∧ s ∈ visit T t)) := by
  rw [visit]
  cases h : T.lookup k with
  | none => simp
  | some ki =>
    simp only [List.mem_flatMap, Option.some.injEq, exists_eq_left']
    constructor
    · rintro ⟨st, hst, hs⟩
      cases st with
      | announce f => exact Or.inl ⟨f, hst, mem_fieldValues.mp hs⟩
      | forward f g => exact Or.inr ⟨f, g, hst, mem_visitField.mp hs⟩
      | hook m => simp [stepEvents] at hs
      | unknown w => simp [stepEvents] at hs
    · rintro (⟨f, hst, hm⟩ | ⟨f, g, hst, hm⟩)
      · exact ⟨_, hst, mem_fieldValues.mpr hm⟩
      · exact ⟨_, hst, mem_visitField.mpr hm⟩

theorem forwards_iff {ki : KindInfo} {f : String} : forwards ki f = true ↔ ∃ g, Step.forward f g ∈ ki.steps := by
  simp only [forwards, List.any_eq_true]
  constructor
  · rintro ⟨st, hst, h⟩
    cases st with
    | forward f' g => exact ⟨g, by rw [← beq_iff_eq.mp h]; exact hst⟩
    | announce _ => simp at h
    | hook _ => simp at h
    | unknown _ => simp at h
  · rintro ⟨g, hst⟩; exact ⟨_, hst, by simp⟩

theorem tableComplete_spelled {T : Table} (hT : tableComplete T = true) {ki : KindInfo} (h : ki ∈ T) :
    (∀ c ∈ ki.children, ∃ g, Step.forward c.field g ∈ ki.steps) ∧
    (∀ f ∈ ki.symFields, Step.announce f ∈ ki.steps ∨ (ki.name, f) ∈ hoistedNames) ∧
    (∀ st ∈ ki.steps, stepOk ki st = true) ∧
    (∀ f ∈ ki.opaqueFields, (ki.name, f) ∈ aliasFields) := by
  have hk := List.all_eq_true.mp hT ki h
  simp only [kindComplete, Bool.and_eq_true, List.all_eq_true, Bool.or_eq_true, List.contains_iff_mem] at hk
  exact ⟨fun c hc => forwards_iff.mp (hk.1.1.1 c hc), hk.1.1.2, hk.1.2, hk.2⟩

mutual
theorem visit_sub_all {T : Table} (hT : tableComplete T = true) :
    ∀ (t : Tree) (s : Bytes), s ∈ visit T t → s ∈ allSymbols T t
  | .nil, s, h => by simp [visit] at h
  | .tnil _, s, h => by simp [visit] at h
  | .node k strs kids, s, h => by
    rw [allSymbols, List.mem_append]
    obtain ⟨ki, hk, h⟩ := mem_visit_node.mp h
    rcases h with ⟨f, hst, hm⟩ | ⟨f, g, _, t, hm, hs⟩
    · have hf := (tableComplete_spelled hT (lookup_mem hk)).2.2.1 _ hst
      exact Or.inl (mem_ownSymbols.mpr ⟨ki, hk, f, List.contains_iff_mem.mp hf, hm⟩)
    · exact Or.inr (visitKids_sub_all hT kids s (mem_visitKids.mpr ⟨f, t, hm, hs⟩))
theorem visitKids_sub_all {T : Table} (hT : tableComplete T = true) :
    ∀ (kids : Kids) (s : Bytes), s ∈ visitKids T kids → s ∈ allSymbolsKids T kids
  | .none, _, h => by simp [visitKids] at h
  | .cons g t rest, s, h => by
    rw [visitKids, List.mem_append] at h
    rw [allSymbolsKids, List.mem_append]
    exact h.imp (visit_sub_all hT t s) (visitKids_sub_all hT rest s)
end

theorem kids_visited {T : Table} (hT : tableComplete T = true) {k : String} {strs : List (String × Bytes)}
    {kids : Kids} {ki : KindInfo} (hk : T.lookup k = some ki) (hsh : shapedKids T ki kids = true)
    {s : Bytes} (hs : s ∈ visitKids T kids) : s ∈ visit T (.node k strs kids) := by
  obtain ⟨g, t, hm, hs⟩ := mem_visitKids.mp hs
  obtain ⟨⟨c, hc, rfl⟩, _⟩ := shapedKids_mem hsh hm
  obtain ⟨gd, hst⟩ := (tableComplete_spelled hT (lookup_mem hk)).1 c hc
  exact mem_visit_node.mpr ⟨ki, hk, Or.inr ⟨_, gd, hst, t, hm, hs⟩⟩

mutual
theorem all_sub_visit {T : Table} (hT : tableComplete T = true) :
    ∀ (t : Tree) (s : Bytes), shaped T t = true → namesCovered T t = true → s ∈ allSymbols T t → s ∈ visit T t
  | .nil, s, _, _, h => by simp [allSymbols] at h
  | .tnil _, s, _, _, h => by simp [allSymbols] at h
  | .node k strs kids, s, hsh, hnc, h => by
    rw [allSymbols, List.mem_append] at h
    obtain ⟨ki, hk, hsh⟩ := shaped_node hsh
    simp only [namesCovered, hk, Bool.and_eq_true] at hnc
    rcases h with h | h
    · obtain ⟨ki', hk', f, hf, hm⟩ := mem_ownSymbols.mp h
      rw [hk] at hk'; cases hk'
      by_cases ha : Step.announce f ∈ ki.steps
      · exact mem_visit_node.mpr ⟨ki, hk, Or.inl ⟨f, ha, hm⟩⟩
      · -- held only as a string: some node below announces it
        have hsil : f ∈ silentSyms ki := List.mem_filter.mpr ⟨hf, by simpa using ha⟩
        have hcov := hnc.1
        simp only [List.all_eq_true, List.contains_iff_mem] at hcov
        exact kids_visited hT hk hsh (hcov f hsil s (mem_fieldValues.mpr hm))
    · exact kids_visited hT hk hsh (allKids_sub_visit hT kids ki s hsh hnc.2 h)
theorem allKids_sub_visit {T : Table} (hT : tableComplete T = true) :
    ∀ (kids : Kids) (ki : KindInfo) (s : Bytes), shapedKids T ki kids = true → namesCoveredKids T kids = true →
      s ∈ allSymbolsKids T kids → s ∈ visitKids T kids
  | .none, _, _, _, _, h => by simp [allSymbolsKids] at h
  | .cons g t rest, ki, s, hsh, hnc, h => by
    simp only [shapedKids, namesCoveredKids, Bool.and_eq_true] at hsh hnc
    rw [allSymbolsKids, List.mem_append] at h
    rw [visitKids, List.mem_append]
    exact h.imp (all_sub_visit hT t s hsh.1.2 hnc.1) (allKids_sub_visit hT rest ki s hsh.2 hnc.2)
end

theorem all_sub_visit_kids {T : Table} (hT : tableComplete T = true) :
    ∀ (kids : Kids) (g : String) (t : Tree) (s : Bytes), (g, t) ∈ kids.toList → shaped T t = true →
      namesCovered T t = true → s ∈ allSymbols T t → s ∈ visit T t :=
  fun _ _ t s _ => all_sub_visit hT t s

theorem foldl_visitSymbol_some (c : PubCfg) (e : Bytes) (l : List Bytes) :
    l.foldl (visitSymbol c) (some e) = some e := by
  induction l with
  | nil => rfl
  | cons x xs ih => simpa [List.foldl, visitSymbol] using ih

theorem foldl_visitSymbol (c : PubCfg) (l : List Bytes) :
    l.foldl (visitSymbol c) none = l.find? (fun s => !isPublicSymbol c s) := by
  induction l with
  | nil => rfl
  | cons x xs ih =>
    by_cases hx : isPublicSymbol c x = true
    · simp [List.foldl, visitSymbol, hx, ih]
    · simp only [Bool.not_eq_true] at hx
      simp [List.foldl, visitSymbol, hx, foldl_visitSymbol_some]

theorem isPublicSymbol_eq_spec {c : PubCfg} (hc : pubWF c = true) (s : Bytes) :
    isPublicSymbol c s = specIsPublic c s := by
  unfold isPublicSymbol specIsPublic
  rcases h : splitDot s with _ | ⟨base, _ | ⟨x, r⟩⟩
  · cases c.pub.contains s <;> rfl
  · cases c.pub.contains s <;> rfl
  · dsimp only
    cases hm : c.maps.contains base
    · cases c.pub.contains s <;> rfl
    · cases hs : c.pub.contains s
      · rfl
      · -- listed itself although an element of a map: `pubWF` says the map is listed too
        have := List.all_eq_true.mp hc s (List.contains_iff_mem.mp hs)
        simp only [h, hm] at this
        exact this.symm

theorem optionalTolerated_use {T : Table} (hO : optionalTolerated T = true) {k g : String} {ki : KindInfo}
    (hk : T.lookup k = some ki) (hopt : optionalSlots.contains (k, g) = true) {gd : Bool}
    (hst : Step.forward g gd ∈ ki.steps) : tolerant T ki g gd = true := by
  simp only [optionalTolerated, List.all_eq_true] at hO
  have h1 := hO (k, g) (List.contains_iff_mem.mp hopt)
  simp only [hk, List.all_eq_true] at h1
  have h2 := h1 _ hst
  simpa using h2

mutual
theorem nilOk_no_panic {T : Table} (hO : optionalTolerated T = true) :
    ∀ (t : Tree), nilOk t = true → panics T t = false
  | .nil, _ => by simp [panics]
  | .node k strs kids, h => by
    rw [panics]
    cases hk : T.lookup k with
    | none => rfl
    | some ki =>
      simp only [List.any_eq_false, Bool.not_eq_true]
      intro st hst
      cases st with
      | forward f gd =>
        simp only
        rw [nilOk] at h
        exact nilOkKids_no_panic hO k ki hk f gd hst kids h
      | announce _ => simp
      | hook _ => simp
      | unknown _ => simp
theorem nilOkKids_no_panic {T : Table} (hO : optionalTolerated T = true) (k : String) (ki : KindInfo)
    (hk : T.lookup k = some ki) (f : String) (gd : Bool) (hst : Step.forward f gd ∈ ki.steps) :
    ∀ (kids : Kids), nilOkKids k kids = true → panicsField T (tolerant T ki f gd) f kids = false
  | .none, _ => by simp [panicsField]
  | .cons g t rest, h => by
    simp only [nilOkKids, Bool.and_eq_true, Bool.or_eq_true, Bool.not_eq_true'] at h
    simp only [panicsField, Bool.or_eq_false_iff, Bool.and_eq_false_iff]
    refine ⟨?_, nilOkKids_no_panic hO k ki hk f gd hst rest h.2⟩
    by_cases hg : (g == f) = true
    · right
      have hgf : g = f := beq_iff_eq.mp hg
      subst hgf
      refine ⟨?_, nilOk_no_panic hO t h.1.2⟩
      rcases h.1.1 with hn | hopt
      · left; exact hn
      · right; simp [optionalTolerated_use hO hk hopt hst]
    · left; simpa using hg
end

theorem splitDot_ne_nil (s : Bytes) : splitDot s ≠ [] := by
  induction s with
  | nil => simp [splitDot]
  | cons c rest ih =>
    unfold splitDot
    split
    · simp
    · split <;> simp

theorem splitDot_single : ∀ (s base : Bytes), splitDot s = [base] → base = s
  | [], base, h => by cases h; rfl
  | ch :: rest, base, h => by
    unfold splitDot at h
    split at h
    · simp only [List.cons.injEq] at h
      exact absurd h.2 (splitDot_ne_nil rest)
    · split at h
      · next hnil => exact absurd hnil (splitDot_ne_nil rest)
      · next hd tl heq =>
        simp only [List.cons.injEq] at h
        obtain ⟨rfl, rfl⟩ := h
        rw [splitDot_single rest hd heq]

theorem splitDot_elem (base rest : Bytes) (hb : (46 : UInt8) ∉ base) :
    ∃ x r, splitDot (base ++ 46 :: rest) = base :: x :: r := by
  induction base with
  | nil =>
    cases h : splitDot rest with
    | nil => exact absurd h (splitDot_ne_nil rest)
    | cons x r => exact ⟨x, r, by simp [splitDot, h]⟩
  | cons c cs ih =>
    have hc : (c == 46) = false := by
      simp only [List.mem_cons, not_or] at hb
      simpa using fun h => hb.1 h.symm
    obtain ⟨x, r, h⟩ := ih (fun h => hb (List.mem_cons_of_mem _ h))
    exact ⟨x, r, by simp [splitDot, hc, h]⟩

end StorageModel.C20
