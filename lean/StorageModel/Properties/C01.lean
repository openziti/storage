import StorageModel.Filter.DbProofs
import StorageModel.Filter.Cursors
import StorageModel.Filter.CursorsAlloc
import StorageModel.Filter.CursorsCode
/-
  C01 — Filter evaluation returns exactly the entities satisfying the predicate.

  "For every stored dataset and every well-typed filter, a query returns exactly the ids of the
  entities that satisfy the filter under the documented semantics: typed comparisons (=, !=, <, <=,
  >, >=, in, between with inclusive lower and exclusive upper bound, contains, icontains and their
  negations) with int-to-float and number-to-string coercion, null operands making every comparison
  false except != and the negated forms, boolean connectives, and anyOf/allOf/count/isEmpty over
  direct sets, dotted (linked) symbols, map fields and sub-queries. No matching entity is omitted and
  no non-matching entity is returned, and the answer never depends on which internal shortcut (for
  example an index seek instead of a scan) the engine happens to take."

  Model: `Filter/Syntax`, `Transform`, `Eval`, `Basic`, `Db` (executable, follow the Go code branch by branch);
  specification: `Filter/Spec` (`sat`, `wellTyped`).
-/
namespace StorageModel.Properties.C01
open StorageModel StorageModel.Filter

variable {C F T : Type}

/-- **Every well-typed filter is accepted**: symbol validation passes and the type transformation
    produces a BoolNode — no error, no panic. -/
theorem transform_total (sg : Sigma T) (fo : FloatOps F) (t : T) (f : U F)
    (h : wellTyped sg fo t f = true) : ∃ p, typeCheck sg fo t f = .ok p := by
  let w : World Empty F := { val := fun c _ => c.elim, elems := fun c _ => c.elim,
                              seekable := fun c _ => c.elim, subRows := fun c _ => c.elim,
                              nilRow := fun c => c.elim }
  obtain ⟨p, hp, hb, _⟩ := refine_main w (fun c => c.elim) (wellTyped_iff.1 h)
  exact ⟨p, by rw [typeCheck_wellTyped h, hp, asBool, if_pos hb]⟩

/-- **Refinement (the headline theorem)**: for every well-typed filter, on every row, the typed tree
    the engine builds evaluates to exactly what the specification says — provided every seekable
    cursor ranges over a sorted string bucket (`SeekOK`, true of every bbolt bucket of strings). -/
theorem eval_refines_sat (sg : Sigma T) (w : World C F) (fo : FloatOps F) (hw : SeekOK w)
    (t : T) (f : U F) (h : wellTyped sg fo t f = true)
    (p : TNode F) (hp : typeCheck sg fo t f = .ok p) (c : C) :
    evalRow w fo c p = sat sg w fo t c f := by
  obtain ⟨p', hp', hbool, he⟩ := refine_main w hw (wellTyped_iff.1 h)
  rw [typeCheck_wellTyped h, hp', asBool, if_pos hbool] at hp
  cases hp
  exact he c

/-- **The seek shortcut never changes an answer**: positioning a cursor at the first key ≥ the
    compared string and testing only that element equals scanning the whole (sorted, duplicate free,
    string) bucket for an equal element. -/
theorem seek_eq_scan (fo : FloatOps F) (es : List (SVal F)) (v : Bytes) (h : SortedStrs es) :
    (match seekTo es v with
     | some e => e.toStr fo == some v
     | none => false) = es.any (fun e => e.toStr fo == some v) := by
  obtain ⟨ss, rfl, hss⟩ := h
  exact seek_any v (fun e => e.toStr fo == some v) (by intro s; simp [SVal.toStr]) ss hss

/-- **On any bucket the shortcut is sound**: if the element the seek lands on satisfies the
    predicate, a scan finds a satisfying element too — the shortcut can only omit matches. -/
theorem seek_sound (es : List (SVal F)) (v : Bytes) (g : SVal F → Bool)
    (h : (match seekTo es v with | some e => g e | none => false) = true) : es.any g = true :=
  Filter.seek_sound es v g h

/-- **Buckets of mixed types**: in a bucket whose keys are in bbolt order (type byte first: bools,
    ints, floats before the strings, datetimes and nils after) the shortcut agrees with the scan as
    long as no element that is not a string renders to the compared string; what it computes in
    general is membership among the string elements (`seek_typed`). -/
theorem seek_eq_scan_typed (fo : FloatOps F) (v : Bytes) (lo : List (SVal F)) (ss : List Bytes) (hi : List (SVal F))
    (hss : ss.Pairwise (fun a b => bytesLt a b = true))
    (hlo : ∀ e ∈ lo, ∀ v, keyGe v e = false)
    (hv : ∀ e ∈ lo ++ hi, e.toStr fo ≠ some v) :
    (match seekTo (lo ++ ss.map SVal.str ++ hi) v with
     | some e => e.toStr fo == some v
     | none => false) = (lo ++ ss.map SVal.str ++ hi).any (fun e => e.toStr fo == some v) :=
  Filter.seek_eq_scan_typed fo v lo ss hi hss hlo hv

/-- non-vacuity of `SortedStrs` -/
example : SortedStrs (F := Float) [.str [97], .str [97, 98], .str [98]] :=
  ⟨[[97], [97, 98], [98]], rfl, by decide⟩

def noSeek (w : World C F) : World C F := { w with seekable := fun _ _ => false }

theorem isEmpty_of_length_eq {α β : Type} (l₁ : List α) (l₂ : List β) (h : l₁.length = l₂.length) :
    l₁.isEmpty = l₂.isEmpty := by
  cases l₁ <;> cases l₂ <;> simp_all

/-- the specification reads a world through `val`, `elems` and the live rows of its set symbols only:
    never `seekable`, and `rowLe` only under `paged … .length` / `.isEmpty`, which sorting does not change -/
theorem sat_world_congr (sg : Sigma T) (w w' : World C F) (fo : FloatOps F) (hv : w.val = w'.val)
    (he : w.elems = w'.elems) (hl : ∀ c n, liveRows w c n = liveRows w' c n) :
    ∀ (f : U F) (t : T) (c : C), sat sg w fo t c f = sat sg w' fo t c f ∧
      lhsDen sg w fo t c f = lhsDen sg w' fo t c f := by
  intro f
  induction f with
  | sym n => intro t c; simp only [sat, lhsDen, hv, and_self]
  | setFn fn n => intro t c; cases fn <;> simp only [sat, lhsDen, he, and_self]
  | setFnSub fn n q so sk li ih =>
    intro t c
    have hlen : ∀ t', (paged sk li (sortBy (w.rowLe so) ((liveRows w c n).filter fun c' => sat sg w fo t' c' q))).length =
        (paged sk li (sortBy (w'.rowLe so) ((liveRows w' c n).filter fun c' => sat sg w' fo t' c' q))).length := by
      intro t'
      rw [hl, funext fun c' => (ih t' c').1]
      exact paged_length_congr sk li _ _ (by rw [sortBy_length, sortBy_length])
    cases fn <;> cases hst : sg.setTypes t n <;> simp only [sat, lhsDen, hst, hlen, and_self]
    exact ⟨isEmpty_of_length_eq _ _ (hlen _), trivial⟩
  | boolC b => intro t c; simp only [sat, lhsDen, and_self]
  | cmp _ _ _ ih | inArr _ _ ih | between _ _ _ ih => intro t c; simp only [sat, lhsDen, (ih t c).2, and_self]
  | notE _ ih | unot _ ih => intro t c; simp only [sat, lhsDen, (ih t c).1, and_self]
  | logic o l r ihl ihr => intro t c; simp only [sat, lhsDen, (ihl t c).1, (ihr t c).1, and_self]

/-- **The answer does not depend on the shortcut**: evaluating with seekable cursors and with plain
    cursors gives the same value, for every well-typed filter on every row. -/
theorem query_shortcut_free (sg : Sigma T) (w : World C F) (fo : FloatOps F) (hw : SeekOK w)
    (t : T) (f : U F) (h : wellTyped sg fo t f = true)
    (p : TNode F) (hp : typeCheck sg fo t f = .ok p) (c : C) :
    evalRow w fo c p = evalRow (noSeek w) fo c p := by
  rw [eval_refines_sat sg w fo hw t f h p hp c,
      eval_refines_sat sg (noSeek w) fo (fun c n hs => by simp [noSeek] at hs) t f h p hp c,
      (sat_world_congr sg (noSeek w) w fo rfl rfl (fun _ _ => rfl) f t c).1]

/-- **Sub-query counts are exact**: the paging scanner behind `count(from s where q skip k limit m)`
    yields exactly as many rows as "drop the null links, filter, drop k, take m" keeps. -/
theorem subquery_count_exact (m nil : C → Bool) (skip limit : Option Int) (rows : List C) :
    scanCount m nil (pagingOffset skip) (pagingLimit limit) rows 0 0 =
      (paged skip limit ((rows.filter fun r => !nil r).filter m)).length :=
  scanCount_paged m nil skip limit rows

/-- … and a `sort by` clause inside the sub-query changes nothing: whatever order `le` it denotes, the
    scanner (which never reads the sort fields) yields as many rows as "filter, sort, drop k, take m". -/
theorem subquery_sort_irrelevant (m nil : C → Bool) (le : C → C → Bool) (skip limit : Option Int) (rows : List C) :
    scanCount m nil (pagingOffset skip) (pagingLimit limit) rows 0 0 =
      (paged skip limit (sortBy le ((rows.filter fun r => !nil r).filter m))).length :=
  scanCount_sorted m nil le skip limit rows

/-- `sortBy` only rearranges the rows -/
theorem sort_is_permutation {α : Type} (le : α → α → Bool) (l : List α) : (sortBy le l).Perm l := sortBy_perm le l

def withOrder (w : World C F) (le : List (String × Bool) → C → C → Bool) : World C F := { w with rowLe := le }

/-- **The answer does not depend on the order a sub-query's `sort by` denotes**: the specification
    sorts the rows of a sub-query before skip / limit; for every two orders the verdict is the same
    (so `eval_refines_sat`, stated for the world's own `rowLe`, holds for the documented comparator
    order as for any other). -/
theorem sort_order_irrelevant (sg : Sigma T) (w : World C F) (fo : FloatOps F)
    (le : List (String × Bool) → C → C → Bool) :
    ∀ (f : U F) (t : T) (c : C), sat sg (withOrder w le) fo t c f = sat sg w fo t c f ∧
      lhsDen sg (withOrder w le) fo t c f = lhsDen sg w fo t c f :=
  sat_world_congr sg (withOrder w le) w fo rfl rfl (fun _ _ => rfl)

theorem withNull_none_some {α} (op : Op) (b : α) (f : α → α → Bool) :
    withNull op none (some b) f = decide (op = .ne ∨ op = .ncontains ∨ op = .nicontains) := by
  cases op <;> rfl

/-- **Null rules of the specification** (and hence, by `eval_refines_sat`, of the engine): with a
    null left operand and a non-null literal, a well-typed comparison — bool comparisons included —
    is true exactly for `!=`, `not contains` and `not icontains`. -/
theorem null_rules (fo : FloatOps F) (τ : NodeType) (op : Op) (r : Lit F) (hr : r ≠ .null)
    (h : okCmp τ true op r = true) :
    satCmp fo τ op .nil r = decide (op = .ne ∨ op = .ncontains ∨ op = .nicontains) := by
  obtain ⟨cty, hc⟩ : ∃ cty, cmpType τ op r = some cty := by
    cases r <;> first | exact absurd rfl hr | exact Option.isSome_iff_exists.mp h
  -- a nil value has no reading at any type; the literal has one at the type the comparison is made at
  have hf : readFloat fo τ (.nil : SVal F) = none := by cases τ <;> rfl
  have hs : readStr fo τ (.nil : SVal F) = none := by cases τ <;> rfl
  cases cmpType_join hc with
  | str _ _ hl | sub _ _ hl => cases r <;> cases hl <;> simp only [satCmp, hc, hs] <;> exact withNull_none_some ..
  | _ => simp only [satCmp, hc, hf, hs] <;> exact withNull_none_some ..

/-- the same null rules for the engine itself: a well-typed comparison of a symbol whose stored value
    is nil (`flag = false`, `n < 3`, `name contains "x"`, ...) evaluates to true exactly for `!=`,
    `not contains` and `not icontains` -/
theorem engine_null_rules (sg : Sigma T) (w : World C F) (fo : FloatOps F) (hw : SeekOK w)
    (t : T) (n : String) (op : Op) (r : Lit F) (hr : r ≠ .null)
    (h : wellTyped sg fo t (.cmp op (.sym n) r) = true)
    (p : TNode F) (hp : typeCheck sg fo t (.cmp op (.sym n) r) = .ok p) (c : C) (hnil : w.val c n = .nil) :
    evalRow w fo c p = decide (op = .ne ∨ op = .ncontains ∨ op = .nicontains) := by
  rw [eval_refines_sat sg w fo hw t _ h p hp c]
  simp only [sat, lhsDen, LhsDen.holds, hnil]
  have hok : okCmp (symType sg t n) true op r = true := by
    cases wellTyped_iff.1 h with
    | cmp hl hok => cases hl with | sym hs _ => simpa only [symType, hs] using hok
  rw [null_rules fo _ op r hr hok]

/-- `= null` holds exactly for nil values and `!= null` exactly for the others. -/
theorem null_literal_rule (fo : FloatOps F) (τ : NodeType) (sv : SVal F) :
    satCmp fo τ .eq sv .null = sv.isNil ∧ satCmp fo τ .ne sv .null = !sv.isNil := by
  simp [satCmp]

/-- `not in`, `not between` and `not` are the negations of the positive forms. -/
theorem not_forms_negate (sg : Sigma T) (w : World C F) (fo : FloatOps F) (t : T) (c : C) (e : U F) :
    sat sg w fo t c (.notE e) = !sat sg w fo t c e ∧ sat sg w fo t c (.unot e) = !sat sg w fo t c e := by
  simp [sat]

def witFo : FloatOps Float where
  eq a b := a == b
  lt a b := decide (a < b)
  le a b := decide (a ≤ b)
  ofInt := Float.ofInt
  fmt _ := []

/-- non-vacuity of the hypotheses of `eval_refines_sat`: a well-typed filter over a world with a
    seekable sorted string set, a bool field that is null, and a null string field -/
def exSigma : Sigma Unit where
  sym _ n :=
    if n = "flag" then some (.bool, false) else if n = "name" then some (.str, false)
    else if n = "roles" then some (.str, true) else none
  setTypes _ _ := none

def exWorld : World Unit Float where
  val _ _ := .nil
  elems _ n := if n = "roles" then [.str [97], .str [98]] else []
  seekable _ n := n = "roles"
  subRows _ _ := []
  nilRow _ := false

def exFilter : U Float :=
  .logic false (.cmp .ne (.sym "flag") (.bool true))
    (.logic true (.cmp .eq (.setFn .anyOf "roles") (.str [98])) (.cmp .ne (.sym "name") (.str [120])))

example : wellTyped exSigma witFo () exFilter = true := by decide +kernel
example : SeekOK exWorld := by
  intro c n h
  have : n = "roles" := by simpa [exWorld] using h
  subst this
  exact ⟨[[97], [98]], rfl, by decide⟩
/-- `flag != true` holds on a row whose flag is null; `flag = false` does not (df0c801) -/
example : sat exSigma exWorld witFo () () exFilter = true := by decide +kernel
example : sat exSigma exWorld witFo () () (.cmp .eq (.sym "flag") (.bool false)) = false := by decide +kernel

/-- the hypothesis `hv` of `seek_eq_scan_typed` is needed: the int 7 renders to "7" (number-to-string
    coercion), the seek to "7" lands on "a", the scan finds the 7 -/
theorem seek_mixed_differs :
    (match seekTo (F := Float) [.int64 7, .str [97]] [55] with
     | some e => e.toStr witFo == some [55]
     | none => false) = false ∧
    ([SVal.int64 7, .str [97]] : List (SVal Float)).any (fun e => e.toStr witFo == some [55]) = true := by decide +kernel

/-- **why df4edc3 was needed** (seek over a set that holds a number): `anyOf(mixed) = "7"` over the
    any-typed set {7, "a"}.  Before df4edc3 `IsSeekable()` looked only at the operator and at one side
    being constant, so the typed tree was the seekable `AnyOfSetExprNode` and the seek (which looks
    among the string keys only, `seek_mixed_differs`) answered false.  After df4edc3 only a string-typed
    symbol qualifies: the tree is the plain `AnyOfSetExprNode`, and the engine answers what the
    specification says, with a seekable cursor as with a plain one. -/
def mixSigma : Sigma Unit where
  sym _ n := if n = "mixed" then some (.any, true) else none
  setTypes _ _ := none

def mixWorld : World Unit Float where
  val _ _ := .nil
  elems _ n := if n = "mixed" then [.int64 7, .str [97]] else []
  seekable _ n := n = "mixed"
  subRows _ _ := []
  nilRow _ := false

def mixFilter : U Float := .cmp .eq (.setFn .anyOf "mixed") (.str [55])

example : isSeekableOpPreDf4edc3 .eq (.anySym "mixed" : TNode Float) (.strC [55]) = true ∧
    isSeekableOp .eq (.anySym "mixed" : TNode Float) (.strC [55]) = false ∧
    isSeekableOp .eq (.strSym "roles" : TNode Float) (.strC [55]) = true := by decide +kernel
example : wellTyped mixSigma witFo () mixFilter = true ∧
    (typeCheck mixSigma witFo () mixFilter).bind (fun p => .ok (p.shape, evalRow mixWorld witFo () p, evalRow (noSeek mixWorld) witFo () p)) =
      .ok ("AnyOf:mixed(BinStr(AnySym:mixed;StrC;))", true, true) ∧
    sat mixSigma mixWorld witFo () () mixFilter = true := by decide +kernel
/-- the tree built before df4edc3, on the same world: the shortcut answers false -/
example : evalRow mixWorld witFo () (.anyOfS "mixed" .eq (.anySym "mixed") (.strC [55])) = false := by decide +kernel

/-- only `=` between a constant and a string-typed symbol is ever evaluated through the seek -/
theorem seekable_needs_string_symbol (op : Op) (l r : TNode F) (h : isSeekableOp op l r = true) :
    op = .eq ∧ ((∃ n, l = .strSym n) ∨ (∃ n, r = .strSym n)) := by
  simp only [isSeekableOp, TNode.seekableStr, Bool.and_eq_true, Bool.or_eq_true, decide_eq_true_eq] at h
  exact ⟨h.1, h.2.imp (fun h => l.eq_strSym_of_isStrSym h.2) (fun h => r.eq_strSym_of_isStrSym h.2)⟩

/-- **The stacked cursor of a composite set symbol enumerates exactly the path semantics**:
    follow every link of the dotted name, collect the values, with multiplicity and in order. -/
theorem stacked_eq_flatMap (db : Db F) (chain : List Atom) (key : Option Bytes) :
    stackedElems db chain key = pathElems db chain key :=
  Filter.stacked_eq_flatMap db chain key

/-- **Dotted names mean what their path means**: for every name, the symbol `GetSymbol` builds denotes
    exactly the chain of links the specification reads off the name (no hypothesis: since 5f6f9bb
    a non-iterable tail survives composition). -/
theorem resolve_refines_path (defs : List StoreDef) (st : Nat) (parts : List String) :
    specPath defs st parts = (resolve defs st parts).map RSym.atoms :=
  (resolve_path defs parts st).1

/-- On a name that uses external functions directly (`nameOK`), read on an entity, the world the code
    computes (`modelWorld`, code's symbol tables) and the path semantics (`specWorld`, `dbSpecSigma`)
    agree: type and set-ness, value, set elements; for the symbol of a sub-query (plain cursor) also the
    linked entity type and the rows visited. -/
theorem world_refines_spec (db : Db F) (c : Ctx) (hc : c.2.isSome = true) (n : String) (sub : Bool)
    (h : nameOK db.defs sub c.1 n = true) :
    (dbSigma db.defs).sym c.1 n = (dbSpecSigma db.defs).sym c.1 n ∧
    (((dbSigma db.defs).sym c.1 n).map (·.2) = some false → (modelWorld db).val c n = (specWorld db).val c n) ∧
    (((dbSigma db.defs).sym c.1 n).map (·.2) = some true → (modelWorld db).elems c n = (specWorld db).elems c n) ∧
    (sub = true → ((dbSigma db.defs).sym c.1 n).map (·.2) = some true →
      (dbSigma db.defs).setTypes c.1 n = (dbSpecSigma db.defs).setTypes c.1 n ∧
      liveRows (modelWorld db) c n = liveRows (specWorld db) c n) :=
  have hn := extNameOK_of_nameOK db.defs sub c.1 n h
  have := world_name_eq db c hc n hn.1
  ⟨sym_eq db.defs c.1 n, fun _ => this.1, fun _ => this.2.1, fun hsub => this.2.2 (hn.2 hsub)⟩

theorem rootOf_self (defs : List StoreDef) (st : Nat) (h : isChild defs st = false) (fuel : Nat) :
    rootOf defs fuel st = st := by
  cases fuel with
  | zero => rfl
  | succ k =>
    simp only [rootOf]
    simp only [isChild] at h
    cases hp : (defs[st]?).bind (·.parent) with
    | none => rfl
    | some p => simp [hp] at h

/-- **The rows a scan of a store evaluates are the store's entities**: `GetEntitiesBucket` of a child
    store is its parent's bucket, and the scanners' rule (`IsChildStore ∧ ¬IsEntityPresent ∧ ¬IsExtended`
    ⇒ skip) leaves exactly the entities that have child data — every parent entity for a store
    declared extended. -/
theorem child_store_rows (db : Db F) (hch : ChildRowsNested db) (st : Nat) :
    (scanIds db st).filter (fun id => !skipped db st id) = entitiesOf db st := by
  simp only [entitiesOf, skipped]
  cases hc : isChild db.defs st with
  | false =>
    simp only [Bool.false_and, Bool.not_false, filter_const_true, Bool.false_eq_true, if_false, scanIds,
      rootOf_self db.defs st hc]
  | true =>
    cases he : isExtended db.defs st with
    | true => simp [filter_const_true]
    | false => simp [hch st hc]

/-- **`Store.QueryIds` returns exactly the satisfying ids** — for every database whose set buckets are
    sorted string buckets and whose child data is nested in the parents' buckets, every store (root,
    plain child, extended child) and every well-typed filter (any depth, dotted names of any length,
    nested map elements, external and mapped symbols, sub-queries with sort / skip / limit, also over
    child stores), with ONE proviso: `extNamesOK` — an external function (`AddEntitySymbol`) is used
    by its own name, not at the end of a dotted name (there the code evaluates it on the empty id when
    the link in front of it is null: the open finding ext-behind-null-link, `ext_null_link_violates`).
    On schemas without custom symbols the proviso holds for every filter: `query_exact`. -/
theorem query_exact_partial (db : Db F) (fo : FloatOps F) (st : Nat) (f : U F)
    (hwf : WellFormedDb db) (hch : ChildRowsNested db) (hext : extNamesOK db.defs st f = true)
    (hwt : wellTyped (dbSpecSigma db.defs) fo st f = true) :
    query db fo st f = .ok (specQuery db fo st f) := by
  have hwt' := wellTyped_iff.2 (spec_typed db.defs fo (wellTyped_iff.1 hwt))
  obtain ⟨p, hpp⟩ := transform_total (dbSigma db.defs) fo st f hwt'
  unfold query specQuery
  rw [hpp, ← child_store_rows db hch st]
  simp only
  congr 1
  rw [List.filter_filter]
  apply List.filter_congr
  intro id _
  rw [Bool.and_comm]
  congr 1
  rw [eval_refines_sat (dbSigma db.defs) (modelWorld db) fo (modelWorld_seekOK db hwf) st f hwt' p hpp (st, some id)]
  exact spec_refines db fo (wellTyped_iff.1 hwt) hext (st, some id) rfl rfl

/-- **`Store.QueryIds` returns exactly the satisfying ids** — the full statement of the property on
    every schema built from `AddIdSymbol` / `AddSymbol` / `AddFkSymbol` / `AddSetSymbol` /
    `AddFkSetSymbol` / `AddMapSymbol` / `GrantSymbols` (no `AddEntitySymbol`, no `MapSymbol`): every
    database, store (root, plain or extended child) and well-typed filter, no hypothesis on names. -/
theorem query_exact (db : Db F) (fo : FloatOps F) (st : Nat) (f : U F)
    (hwf : WellFormedDb db) (hch : ChildRowsNested db) (hpl : PlainDefs db.defs)
    (hwt : wellTyped (dbSpecSigma db.defs) fo st f = true) :
    query db fo st f = .ok (specQuery db fo st f) :=
  query_exact_partial db fo st f hwf hch (extNamesOK_all db.defs hpl f st) hwt

/-- the statement without the proviso: false on the code as it is (`ext_null_link_violates` below) -/
def query_exact_fullStatement : Prop :=
  ∀ (db : Db Float) (fo : FloatOps Float) (st : Nat) (f : U Float), WellFormedDb db → ChildRowsNested db →
    wellTyped (dbSpecSigma db.defs) fo st f = true → query db fo st f = .ok (specQuery db fo st f)

/-- **Map elements of any depth**: the `entitySymbol` that `createElementSymbol` builds for
    `m.x₁.….xₙ` (prefix = the map's prefix ++ its key ++ the middle segments, key = the last segment)
    names exactly the node the specification reads off the name — the bucket path `prefix/key` of the
    map symbol followed by `x₁ … xₙ`. -/
theorem map_element_names_node (st : Nat) (md : MapDef) (q : String) (rest : List String) :
    mapElemPath st md (q :: rest) = elementSymbol st md q rest :=
  elementSymbol_eq_path st md q rest

/-- … and evaluating it (`GetPath(prefix...)`, then `getTyped(key)`) yields the value stored at that
    node, null when the node is missing at some level, or is itself a map or a list. -/
theorem map_element_reads_node (db : Db F) (st : Nat) (bp : List String) (k : String) (ty : NodeType)
    (key : Option Bytes) :
    evalAtom db (.mapElem st bp k ty) key =
      (match key.bind (findEntity db st) with
       | some e => leafVal (nodeAt e.maps (bp ++ [k]))
       | none => .nil) :=
  (specAtomVal_eq db (.mapElem st bp k ty) key (.inl rfl)).symm

/-- the symbol tables `Store` answers `ast.Parse` with are those of the path semantics -/
theorem symbol_tables_exact (defs : List StoreDef) (hpl : PlainDefs defs) : dbSigma defs = dbSpecSigma defs :=
  dbSigma_eq_spec defs hpl

/-! ### a null link inside the dotted set symbol of a sub-query is no row (38978b1)

  `count(from members.owner where true)`: the stacked cursor yields one element per member, a nil key
  for a member without owner; the scanner skips it and counts the remaining owners. -/

def nilDb : Db Float where
  defs := [{ syms := [("id", .id), ("owner", .field .str (some 1))], maps := [] },
           { syms := [("id", .id), ("members", .set .str (some 0))], maps := [] }]
  rows := [[{ id := [97, 49], fields := [], sets := [], maps := [] },
            { id := [97, 50], fields := [("owner", .str [98, 49])], sets := [], maps := [] }],
           [{ id := [98, 49], fields := [], sets := [("members", [.str [97, 49], .str [97, 50]])], maps := [] }]]

/-- `count(from members.owner where true) = 1`, asked of the owners -/
def nilFilter : U Float := .cmp .eq (.setFnSub .count "members.owner" (.boolC true) [] none none) (.int 1)

example : (modelWorld nilDb).subRows (1, some [98, 49]) "members.owner" = [(1, none), (1, some [98, 49])] := by decide +kernel
example : specQuery nilDb witFo 1 nilFilter = [[98, 49]] := by decide +kernel
example : query nilDb witFo 1 nilFilter = .ok [[98, 49]] := by decide +kernel

/-! ### why 0441eb9 was needed: composite set symbols with a non-iterable tail

  Before 0441eb9 `createCompositeEntitySymbol` (`composePre0441eb9`) kept a non-set chain behind a set as
  a non-iterable tail: for `groups.boss.boss` the iterable chain was `groups` alone, so a sub-query over
  it scanned the groups (and was typed against their entity type), and prefixing such a symbol with a
  further link (`boss.groups.boss.label`) dropped the tail (`getChain()`).  The same queries on the
  current model are answered as the specification says. -/

def tailDb : Db Float where
  defs := [{ syms := [("id", .id), ("groups", .set .str (some 1))], maps := [] },
           { syms := [("id", .id), ("boss", .field .str (some 1)), ("label", .field .str none)], maps := [] }]
  rows := [[{ id := [97, 49], fields := [], sets := [("groups", [.str [98, 49]])], maps := [] }],
           [{ id := [98, 49], fields := [("boss", .str [98, 50])], sets := [], maps := [] },
            { id := [98, 50], fields := [("boss", .str [98, 51])], sets := [], maps := [] },
            { id := [98, 51], fields := [("label", .str [120])], sets := [], maps := [] }]]

/-- `count(from groups.boss.boss where label = "x") = 1` -/
def tailFilter : U Float :=
  .cmp .eq (.setFnSub .count "groups.boss.boss" (.cmp .eq (.sym "label") (.str [120])) [] none none) (.int 1)

/-- the string payloads of a key list (SVal over Float has no decidable equality) -/
def strKeys {F : Type} (l : List (SVal F)) : List (Option Bytes) :=
  l.map fun v => match v with | .str s => some s | _ => none

/-- old code: the cursor of `groups.boss.boss` ranged over the groups (b1), the path leads to b3 -/
example : (resolvePre0441eb9 tailDb.defs 0 ["groups", "boss", "boss"]).map
    (fun r => (r.hasTail, strKeys (cursorKeys tailDb r (some [97, 49])))) = some (true, [some [98, 49]]) := by decide +kernel
example : (specPath tailDb.defs 0 ["groups", "boss", "boss"]).map (fun p => strKeys (pathElems tailDb p (some [97, 49]))) =
    some [some [98, 51]] := by decide +kernel
/-- current code -/
example : (resolve tailDb.defs 0 ["groups", "boss", "boss"]).map
    (fun r => (r.hasTail, strKeys (cursorKeys tailDb r (some [97, 49])))) = some (false, [some [98, 51]]) := by decide +kernel
example : query tailDb witFo 0 tailFilter = .ok [[97, 49]] := by decide +kernel
example : specQuery tailDb witFo 0 tailFilter = [[97, 49]] := by decide +kernel

def dropDb : Db Float where
  defs := [{ syms := [("id", .id), ("boss", .field .str (some 0)), ("groups", .set .str (some 1))], maps := [] },
           { syms := [("id", .id), ("boss", .field .str (some 1)), ("label", .field .str none)], maps := [] }]
  rows := [[{ id := [97, 49], fields := [("boss", .str [97, 50])], sets := [], maps := [] },
            { id := [97, 50], fields := [], sets := [("groups", [.str [98, 49]])], maps := [] }],
           [{ id := [98, 49], fields := [("boss", .str [98, 50])], sets := [], maps := [] },
            { id := [98, 50], fields := [("label", .str [120])], sets := [], maps := [] }]]

/-- `anyOf(boss.groups.boss.label) = "x"` -/
def dropFilter : U Float := .cmp .eq (.setFn .anyOf "boss.groups.boss.label") (.str [120])

/-- old code: the resolved symbol of `boss.groups.boss.label` had lost `boss.label` -/
example : (resolvePre0441eb9 dropDb.defs 0 ["boss", "groups", "boss", "label"]).map (fun r => r.atoms.length) = some 2 := by decide +kernel
example : (specPath dropDb.defs 0 ["boss", "groups", "boss", "label"]).map List.length = some 4 := by decide +kernel
example : (resolve dropDb.defs 0 ["boss", "groups", "boss", "label"]).map (fun r => r.atoms.length) = some 4 := by decide +kernel
example : query dropDb witFo 0 dropFilter = .ok [[97, 49]] := by decide +kernel
example : specQuery dropDb witFo 0 dropFilter = [[97, 49]] := by decide +kernel

theorem mem_of_lookup {α β : Type} [BEq α] [LawfulBEq α] {l : List (α × β)} {k : α} {v : β} (h : l.lookup k = some v) :
    (k, v) ∈ l := by
  obtain ⟨l1, l2, rfl, _⟩ := List.lookup_eq_some_iff.mp h
  simp

/-- a checkable form of `SortedStrs`: string elements, each below all that follow -/
def sortedStrsB {F : Type} : List (SVal F) → Bool
  | [] => true
  | .str s :: es => (es.all fun e => match e with | .str t => bytesLt s t | _ => false) && sortedStrsB es
  | _ :: _ => false

theorem sortedStrs_of_check {F : Type} : ∀ es : List (SVal F), sortedStrsB es = true → SortedStrs es
  | [], _ => ⟨[], rfl, .nil⟩
  | e :: es, h => by
    cases e <;> simp only [sortedStrsB, Bool.and_eq_true, List.all_eq_true, Bool.false_eq_true] at h
    obtain ⟨ss, rfl, hss⟩ := sortedStrs_of_check es h.2
    exact ⟨_ :: ss, rfl, List.pairwise_cons.mpr ⟨fun t ht => h.1 (.str t) (List.mem_map_of_mem ht), hss⟩⟩

theorem wellFormed_of_check {F : Type} (db : Db F)
    (h : (db.rows.all fun rows => rows.all fun e => e.sets.all fun p => sortedStrsB p.2) = true) : WellFormedDb db := by
  intro st id e he k es hl
  simp only [findEntity] at he
  cases hr : db.rows[st]? with
  | none => simp [hr] at he
  | some rows =>
    simp only [hr] at he
    have h1 := List.all_eq_true.mp h rows (List.mem_of_getElem? hr)
    have h2 := List.all_eq_true.mp h1 e (List.mem_of_find?_eq_some he)
    exact sortedStrs_of_check es (List.all_eq_true.mp h2 (k, es) (mem_of_lookup hl))

/-- non-vacuity of the hypotheses of `query_exact`: two linked stores, three rows, a filter that
    uses a dotted set symbol, a direct (seekable) set, a bool comparison on a null flag and a sub-query -/
def exDb : Db Float where
  defs := [{ syms := [("id", .id), ("name", .field .str none), ("flag", .field .bool none), ("roles", .set .str none),
                      ("owner", .field .str (some 1)), ("groups", .set .str (some 1))], maps := [("tags", { ty := .any, key := "tags", pfx := [] }), ("meta", { ty := .any, key := "m", pfx := ["ext", "edge"] })] },
           { syms := [("id", .id), ("label", .field .str none), ("boss", .field .str (some 1)),
                      ("members", .set .str (some 0))], maps := [] }]
  rows := [[{ id := [97, 49], fields := [("name", .str [110]), ("owner", .str [98, 49])],
              sets := [("roles", [.str [120], .str [121]]), ("groups", [.str [98, 49]])], maps := [("tags", .bucket [("k", .val (.int64 5)), ("site", .bucket [("name", .val (.str [122])), ("lst", .bucket [])])]),
                       ("ext", .bucket [("edge", .bucket [("m", .bucket [("a", .bucket [("b", .val (.bool true))])])])])] },
            { id := [97, 50], fields := [], sets := [], maps := [] }],
           [{ id := [98, 49], fields := [("label", .str [76]), ("boss", .str [98, 50])],
              sets := [("members", [.str [97, 49], .str [97, 50]])], maps := [] },
            { id := [98, 50], fields := [("label", .str [77])], sets := [], maps := [] }]]

def exDbFilter : U Float :=
  .logic false (.cmp .eq (.setFn .anyOf "groups.boss.label") (.str [77]))
    (.logic true (.cmp .eq (.setFn .anyOf "roles") (.str [121]))
      (.logic false (.cmp .ne (.sym "flag") (.bool true))
        (.cmp .ge (.setFnSub .count "groups" (.cmp .ne (.sym "label") (.str [])) [("label", false)] none (some 1)) (.int 1))))

example : wellTyped (dbSigma exDb.defs) witFo 0 exDbFilter = true := by decide +kernel
theorem exDb_wellFormed : WellFormedDb exDb := wellFormed_of_check _ (by decide)

example : WellFormedDb exDb := exDb_wellFormed

theorem childRowsNested_of_roots {F : Type} (db : Db F) (h : (db.defs.all fun d => d.parent.isNone) = true) :
    ChildRowsNested db := by
  intro st hc
  simp only [isChild] at hc
  cases hd : db.defs[st]? with
  | none => simp [hd] at hc
  | some d =>
    have := List.all_eq_true.mp h d (List.mem_of_getElem? hd)
    simp [hd, Option.isNone_iff_eq_none.mp this] at hc

theorem exDb_nested : ChildRowsNested exDb := childRowsNested_of_roots _ rfl

/-! ### custom symbols: external functions (`AddEntitySymbol`) and mapped symbols (`MapSymbol`)

  `owners` registers `vip` (a bool function of the id), `nick` (a string function) and `mlabel`
  (`label` through a mapper that prefixes "M").  a1 → boss a2, owner b1; a2 → groups {b1, b2}, owner b2;
  a3 has no owner.  vip(b2) = true; nick(b1) = nil. -/

def customDefs : List StoreDef :=
  [{ syms := [("id", .id), ("boss", .field .str (some 0)), ("owner", .field .str (some 1)), ("groups", .set .str (some 1))],
     maps := [] },
   { syms := [("id", .id), ("label", .field .str none), ("vip", .custom none .bool none .ext),
              ("nick", .custom none .str none .ext), ("mlabel", .custom none .str none (.mapped "label" 0))], maps := [] }]

def customRows : List (List (Entity Float)) :=
  [[{ id := [97, 49], fields := [("boss", .str [97, 50]), ("owner", .str [98, 49])], sets := [], maps := [] },
    { id := [97, 50], fields := [("owner", .str [98, 50])], sets := [("groups", [.str [98, 49], .str [98, 50]])], maps := [] },
    { id := [97, 51], fields := [], sets := [], maps := [] }],
   [{ id := [98, 49], fields := [("label", .str [120])], sets := [], maps := [] },
    { id := [98, 50], fields := [("label", .str [121])], sets := [], maps := [] }]]

def customMappers : Nat → SVal Float → SVal Float := fun _ v => match v with | .str s => .str (77 :: s) | v => v

def customDb : Db Float where
  defs := customDefs
  rows := customRows
  ext := fun _ n =>
    if n = "vip" then .boolFn (fun id => id == [98, 50])
    else if n = "nick" then .strFn (fun id => if id == [98, 49] then none else some id)
    else .fn fun _ => .nil
  mappers := customMappers

theorem customDb_wellFormed : WellFormedDb customDb := wellFormed_of_check _ (by decide)

theorem customDb_nested : ChildRowsNested customDb := childRowsNested_of_roots _ rfl

/-- direct use of the external functions, mapped symbols through a link and through a set:
    `vip = true` on owners; `owner.mlabel = "Mx" or anyOf(groups.mlabel) = "My"` on things -/
def customFilter : U Float :=
  .logic true (.cmp .eq (.sym "owner.mlabel") (.str [77, 120])) (.cmp .eq (.setFn .anyOf "groups.mlabel") (.str [77, 121]))

example : extNamesOK customDefs 0 customFilter = true := by decide +kernel
example : wellTyped (dbSpecSigma customDefs) witFo 0 customFilter = true := by decide +kernel
example : query customDb witFo 0 customFilter = .ok [[97, 49], [97, 50]] := by decide +kernel
example : specQuery customDb witFo 0 customFilter = [[97, 49], [97, 50]] := by decide +kernel
example : query customDb witFo 1 (.cmp .eq (.sym "vip") (.bool true)) = .ok [[98, 50]] := by decide +kernel
example : query customDb witFo 1 (.cmp .eq (.sym "nick") (.str [98, 50])) = .ok [[98, 50]] := by decide +kernel
example : extNamesOK customDefs 1 (.cmp .eq (.sym "nick") (.str [98, 49]) : U Float) = true := by decide +kernel

/-- **why 5f6f9bb was needed** (tail dropped): `anyOf(boss.groups.vip) = true` — a1's boss a2 is in group
    b2, which is vip.  Before 5f6f9bb composing `boss` onto `groups.vip` lost `vip` (`getChain()` returned
    the iterable part only) and the group ids were compared with `true`; since 5f6f9bb the chain is
    complete and the query answers what the path semantics says. -/
def tailFilterExt : U Float := .cmp .eq (.setFn .anyOf "boss.groups.vip") (.bool true)
example : (resolvePre5f6f9bb customDefs 0 ["boss", "groups", "vip"]).map (fun r => r.atoms.length) = some 2 := by decide +kernel
example : (resolve customDefs 0 ["boss", "groups", "vip"]).map (fun r => (r.atoms.length, r.hasTail)) = some (3, true) := by decide +kernel
example : (specPath customDefs 0 ["boss", "groups", "vip"]).map List.length = some 3 := by decide +kernel
example : wellTyped (dbSpecSigma customDefs) witFo 0 tailFilterExt = true := by decide +kernel
example : query customDb witFo 0 tailFilterExt = .ok [[97, 49]] ∧ specQuery customDb witFo 0 tailFilterExt = [[97, 49]] := by decide +kernel
/-- the same with the mapped symbol: the elements of `boss.groups.mlabel` are the mapped labels -/
example : query customDb witFo 0 (.cmp .eq (.setFn .anyOf "boss.groups.mlabel") (.str [77, 120])) = .ok [[97, 49]] ∧
    specQuery customDb witFo 0 (.cmp .eq (.setFn .anyOf "boss.groups.mlabel") (.str [77, 120])) = [[97, 49]] := by decide +kernel

/-- **why fce0761 was needed** (nil string function): nick(b1) is nil; `Eval` used to encode that as
    `(TypeString, nil)`, the empty string, so `nick = null` missed b1 and `nick = ""` returned it -/
example : (ExtSrc.strFn (F := Float) fun _ => none).codeValPreFce0761 [98, 49] = .str [] := rfl
example : (ExtSrc.strFn (F := Float) fun _ => none).codeVal [98, 49] = .nil := rfl
example : query customDb witFo 1 (.cmp .eq (.sym "nick") .null) = .ok [[98, 49]] ∧
    specQuery customDb witFo 1 (.cmp .eq (.sym "nick") .null) = [[98, 49]] ∧
    query customDb witFo 1 (.cmp .eq (.sym "nick") (.str [])) = .ok [] := by decide +kernel

/-- **open finding (external function behind a null link)**: `owner.vip = false` — a3 has no owner, the
    comparison has a null operand; the code evaluates vip("") = false and returns a3 -/
def extLinkFilter : U Float := .cmp .eq (.sym "owner.vip") (.bool false)
example : extNamesOK customDefs 0 extLinkFilter = false := by decide +kernel
theorem ext_null_link_violates :
    query customDb witFo 0 extLinkFilter = .ok [[97, 49], [97, 51]] ∧
    specQuery customDb witFo 0 extLinkFilter = [[97, 49]] := by decide +kernel

theorem query_exact_full_fails : ¬ query_exact_fullStatement := by
  intro h
  have := h customDb witFo 0 extLinkFilter customDb_wellFormed customDb_nested (by decide +kernel)
  rw [ext_null_link_violates.1, ext_null_link_violates.2] at this
  cases this

/-! ### child stores (the presence rule of the scanners)

  `items` (store 0) with a plain child store (1: own field `level`, the parent's symbols granted) and
  an extended child store (2: own field `note`).  a1 has plain-child data, a2 has extension data;
  `kids` links into the plain child store. -/

def childDefs : List StoreDef :=
  let root : StoreDef := { syms := [("id", .id), ("name", .field .str none), ("kids", .set .str (some 1))],
                           maps := [("meta", { ty := .any, key := "m", pfx := [] })] }
  [root,
   grantSymbols 0 root { syms := [("level", .field .int none)], maps := [], parent := some 0 },
   grantSymbols 0 root { syms := [("note", .field .str none)], maps := [], parent := some 0, extended := true }]

def childDb : Db Float where
  defs := childDefs
  rows := [[{ id := [97, 49], fields := [("name", .str [110])], sets := [("kids", [.str [97, 49], .str [97, 50]])], maps := [] },
            { id := [97, 50], fields := [("name", .str [109])], sets := [], maps := [] }],
           [{ id := [97, 49], fields := [("level", .int64 5)], sets := [], maps := [] }],
           [{ id := [97, 50], fields := [("note", .str [120])], sets := [], maps := [] }]]

theorem childDb_nested : ChildRowsNested childDb := by
  intro st hc
  match st with
  | 0 => simp [isChild, childDb, childDefs] at hc
  | 1 => decide
  | 2 => decide
  | n + 3 => simp [isChild, childDb, childDefs] at hc

/-- the plain child store shows only a1; a granted symbol (`name`) reads the parent's data -/
example : query childDb witFo 1 (.boolC true) = .ok [[97, 49]] := by decide +kernel
example : specQuery childDb witFo 1 (.boolC true) = [[97, 49]] := by decide +kernel
example : query childDb witFo 1 (.logic false (.cmp .eq (.sym "name") (.str [110])) (.cmp .eq (.sym "level") (.int 5))) = .ok [[97, 49]] := by decide +kernel
/-- the extended child store shows every parent entity; a1 has no extension data: `note = null` -/
example : query childDb witFo 2 (.cmp .eq (.sym "note") .null) = .ok [[97, 49]] := by decide +kernel
example : specQuery childDb witFo 2 (.cmp .eq (.sym "note") .null) = [[97, 49]] := by decide +kernel
/-- a sub-query whose linked store is the plain child store: a2 is linked but has no child data -/
example : query childDb witFo 0 (.cmp .eq (.setFnSub .count "kids" (.boolC true) [] none none) (.int 1)) = .ok [[97, 49]] := by decide +kernel
example : specQuery childDb witFo 0 (.cmp .eq (.setFnSub .count "kids" (.boolC true) [] none none) (.int 1)) = [[97, 49]] := by decide +kernel
example : query childDb witFo 0 (.cmp .eq (.setFn .count "kids") (.int 2)) = .ok [[97, 49]] := by decide +kernel
/-- `inheritMapSymbol` files the parent's map symbol under its key: on the child stores `m.x`
    resolves (and reads the parent's bucket), `meta.x` does not -/
example : ((dbSigma childDefs).sym 1 "m.x", (dbSigma childDefs).sym 1 "meta.x") = (some (.any, false), none) := by decide +kernel

/-- nested tag maps and a map symbol registered with a two-bucket prefix:
    `tags.site.name = "z"`, `meta.a.b = true`, `tags.site = null` (a map), `tags.site.lst = null` (a list),
    `tags.k.x = null` (`k` holds a value), `tags.nope.x = null` (missing level) -/
def exMapFilter : U Float :=
  .logic false (.cmp .eq (.sym "tags.site.name") (.str [122]))
    (.logic false (.cmp .eq (.sym "meta.a.b") (.bool true))
      (.logic false (.cmp .eq (.sym "tags.site") .null)
        (.logic false (.cmp .eq (.sym "tags.site.lst") .null)
          (.logic false (.cmp .eq (.sym "tags.k.x") .null) (.cmp .eq (.sym "tags.nope.x") .null)))))

example : wellTyped (dbSpecSigma exDb.defs) witFo 0 exMapFilter = true := by decide +kernel
example : query exDb witFo 0 exMapFilter = .ok [[97, 49]] := by decide +kernel
example : specQuery exDb witFo 0 exMapFilter = [[97, 49]] := by decide +kernel
example : query exDb witFo 0 (.cmp .eq (.sym "tags.site.name") .null) = .ok [[97, 50]] := by decide +kernel
/-- through a link: `owner.tags.…` resolves on the linked store (no map symbol there: rejected) -/
example : (dbSpecSigma exDb.defs).sym 0 "owner.tags.k" = none := by decide +kernel
example : (dbSpecSigma exDb.defs).sym 1 "members.tags.site.name" = some (.any, true) := by decide +kernel
example : query exDb witFo 0 exDbFilter = .ok [[97, 49]] := by decide +kernel
example : specQuery exDb witFo 0 exDbFilter = [[97, 49]] := by decide +kernel

/-! ### per-scan cursor state: sub-queries over the entity type being scanned (`Filter/Cursors.lean`)

  The set symbols of the code are stateful objects (`entitySetSymbolRuntime{cursor, value}`,
  `compositeEntitySetSymbol{cursor}`) kept in the `symbolCache` of a row cursor; a sub-query scanner gets a row
  cursor of its own (`newCursorScanner` → `newRowCursor`).  `Sk.run` evaluates a filter over a heap of such objects,
  keyed by (row cursor, symbol name). -/

/-- **Cursor state is per scan**: for every allocation of row cursors that gives a sub-query scan a row cursor no
    enclosing scan uses, every filter skeleton, row cursor, row and heap, the evaluation over the runtime objects
    computes the list semantics (`Sk.eval`, which is `evalBool`: `skOf_eval`) and leaves the objects of the
    enclosing scans untouched — no proviso that the sub-query ranges over another entity type or avoids the set
    symbol it iterates. -/
theorem cursor_state_per_scan (w : World C F) (alloc : Nat → C → String → Nat) (hfresh : ∀ rc c n, rc < alloc rc c n)
    (sk : Sk C F) (rc : Nat) (c : C) (h : Heap C F) :
    (sk.run w alloc rc c h).1 = sk.eval w c ∧ ∀ k' : ObjKey, k'.1 < rc → (sk.run w alloc rc c h).2 k' = h k' :=
  run_fresh_eq_eval w alloc hfresh sk rc c h

/-- the typed filter's skeleton has the typed filter's `EvalBool` as its list semantics -/
theorem skeleton_is_evalBool (w : World C F) (fo : FloatOps F) (t : TNode F) (c : C) :
    (skOf w fo t).eval w c = evalRow w fo c t := skOf_eval w fo t c

/-- **The same with the allocation inside the model** (`Filter/CursorsAlloc.lean`): the state counts the row cursors
    handed out; `OpenSetCursorForQuery` → `newCursorScanner` → `newRowCursor` is the policy `newRowCursorPolicy`.  For
    every policy that gives the scanner a row cursor nobody holds yet, every skeleton, every allocated row cursor, row
    and state: list semantics, the counter never decreases, the objects of all other existing row cursors untouched. -/
theorem cursor_state_allocating (w : World C F) (pol : RowCursorPolicy C) (hp : FreshPolicy pol) (sk : Sk C F)
    (rc : Nat) (c : C) (h : Heap C F) (x : Nat) (hx : rc < x) :
    (sk.exec w pol rc c (h, x)).1 = sk.eval w c ∧ x ≤ (sk.exec w pol rc c (h, x)).2.2 ∧
      ∀ k' : ObjKey, k'.1 < x → k'.1 ≠ rc → (sk.exec w pol rc c (h, x)).2.1 k' = h k' :=
  exec_eq_eval w pol hp sk rc c h x hx

/-- `Store.QueryIds` with every row evaluated over the heap of runtime set-symbol objects by the scan's row cursor
    (`ScanCursor`: `scanner.rowCursor = newRowCursor(store, tx)`, row cursor 0), sub-query scanners getting their row
    cursor from `pol` -/
def queryS (db : Db F) (fo : FloatOps F) (pol : RowCursorPolicy Ctx) (st : Nat) (f : U F) : Outcome (List Bytes) :=
  match typeCheck (dbSigma db.defs) fo st f with
  | .ok p => .ok ((scanIds db st).filter fun id =>
      !skipped db st id && (evalRowA (modelWorld db) fo pol (st, some id) p Heap.init).1)
  | .err => .err
  | .panic => .panic

/-- the policy the source denotes (`Filter/CursorsCode.lean`: `newRowCursorPolicy` iff the go/ast extractor
    `extract/c01cursors.go` recognises `newRowCursor`, `getSymbol`, `OpenSetCursorForQuery`, `newCursorScanner` and the
    runtime-copy branch of `BaseStore.GetSymbol` in the shapes the model reads) is fresh -/
theorem code_policy_fresh : FreshPolicy (codePolicy (C := C)) := codePolicy_fresh

theorem queryS_eq_query (db : Db F) (fo : FloatOps F) (st : Nat) (f : U F) :
    queryS db fo codePolicy st f = query db fo st f := by
  unfold queryS query
  cases typeCheck (dbSigma db.defs) fo st f with
  | ok p =>
    simp only
    congr 1
    apply List.filter_congr
    intro id _
    rw [evalRowA_fresh _ _ _ codePolicy_fresh]
  | err => rfl
  | panic => rfl

/-- **Sub-queries over the scanned entity type are exact.**  On every database and schema of `query_exact` — in
    particular with self-referential link sets (`AddFkSetSymbol(name, sameStore)`) — and every well-typed filter,
    however often and however deep it re-uses the set symbol a sub-query iterates, the query evaluated over the
    stateful runtime objects, with the row cursors allocated as the code allocates them, returns exactly the entities
    the specification's nested semantics selects. -/
theorem self_subquery_exact (db : Db F) (fo : FloatOps F) (st : Nat) (f : U F)
    (hwf : WellFormedDb db) (hch : ChildRowsNested db) (hpl : PlainDefs db.defs)
    (hwt : wellTyped (dbSpecSigma db.defs) fo st f = true) :
    queryS db fo codePolicy st f = .ok (specQuery db fo st f) := by
  rw [queryS_eq_query db fo st f]
  exact query_exact db fo st f hwf hch hpl hwt

/-- staff with `dr` (direct reports) → staff:  b → {m1, m2, m3}, m1 → {}, m2 → {w1}, m3 → {w1, w2} -/
def selfDb : Db Float where
  defs := [{ syms := [("id", .id), ("name", .field .str none), ("dr", .set .str (some 0))], maps := [] }]
  rows := [[{ id := [98], fields := [], sets := [("dr", [.str [109, 49], .str [109, 50], .str [109, 51]])], maps := [] },
            { id := [109, 49], fields := [], sets := [], maps := [] },
            { id := [109, 50], fields := [], sets := [("dr", [.str [119, 49]])], maps := [] },
            { id := [109, 51], fields := [], sets := [("dr", [.str [119, 49], .str [119, 50]])], maps := [] },
            { id := [119, 49], fields := [], sets := [], maps := [] },
            { id := [119, 50], fields := [], sets := [], maps := [] }]]

/-- `count(from dr where not isEmpty(dr)) = 2`: who has exactly two reports that have reports -/
def selfFilter : U Float := .cmp .eq (.setFnSub .count "dr" (.unot (.setFn .isEmpty "dr")) [] none none) (.int 2)
/-- nested two deep, the set symbol used at three levels:
    `count(from dr where count(from dr where isEmpty(dr)) = 1 and anyOf(dr) = "w1") = 1` -/
def selfFilter2 : U Float :=
  .cmp .eq (.setFnSub .count "dr"
    (.logic false (.cmp .eq (.setFnSub .count "dr" (.setFn .isEmpty "dr") [] none none) (.int 1))
                  (.cmp .eq (.setFn .anyOf "dr") (.str [119, 49]))) [] none none) (.int 1)

/-- every sub-query scan with a row cursor of its own (`newCursorScanner` → `newRowCursor`) -/
def perScan : RowCursorPolicy Ctx := codePolicy
/-- the symbol cache of the scanning row cursor handed to the sub-query scan (same entity type) -/
def sharedCache : RowCursorPolicy Ctx := sharedCachePolicy

example : FreshPolicy perScan := codePolicy_fresh
example : (codePolicy : RowCursorPolicy Ctx) = newRowCursorPolicy := by
  unfold codePolicy; exact if_pos (by decide)
example : ∀ rc c n, rc < (freshAlloc : Nat → Ctx → String → Nat) rc c n := fun rc _ _ => Nat.lt_succ_self rc
example : wellTyped (dbSpecSigma selfDb.defs) witFo 0 selfFilter = true := by decide +kernel
example : wellTyped (dbSpecSigma selfDb.defs) witFo 0 selfFilter2 = true := by decide +kernel
example : specQuery selfDb witFo 0 selfFilter = [[98]] := by decide +kernel
example : query selfDb witFo 0 selfFilter = .ok [[98]] := by decide +kernel
example : queryS selfDb witFo perScan 0 selfFilter = .ok [[98]] := by decide +kernel
example : specQuery selfDb witFo 0 selfFilter2 = [[98]] := by decide +kernel
example : queryS selfDb witFo perScan 0 selfFilter2 = .ok [[98]] := by decide +kernel

/-- non-vacuity of the hypotheses of `cursor_state_per_scan` / `cursor_state_allocating`: with the objects shared, evaluating
    `isEmpty(dr)` on the sub-query row m1 re-positions the walk over b's reports onto m1's (empty) set — the walk ends
    after m1 and b is counted as having no reports with reports -/
theorem shared_cache_differs : queryS selfDb witFo sharedCache 0 selfFilter = .ok [] := by decide +kernel

theorem plainDefs_of_check (defs : List StoreDef)
    (h : (defs.all fun d => d.syms.all fun e => match e.2 with | .custom .. => false | _ => true) = true) :
    PlainDefs defs := by
  intro st d hd n o ty l k hl
  have h1 := List.all_eq_true.mp h d (List.mem_of_getElem? hd)
  have h2 := List.all_eq_true.mp h1 _ (mem_of_lookup hl)
  simp at h2

theorem selfDb_plain : PlainDefs selfDb.defs := plainDefs_of_check _ (by decide)

theorem selfDb_nested : ChildRowsNested selfDb := childRowsNested_of_roots _ rfl

theorem selfDb_wellFormed : WellFormedDb selfDb := wellFormed_of_check _ (by decide)

/-- non-vacuity of `self_subquery_exact`: its hypotheses hold on the self-referential staff database, for the filter
    that uses the iterated set symbol at three nesting levels -/
example : queryS selfDb witFo perScan 0 selfFilter2 = .ok (specQuery selfDb witFo 0 selfFilter2) :=
  self_subquery_exact selfDb witFo 0 selfFilter2
    selfDb_wellFormed selfDb_nested selfDb_plain (by decide)

end StorageModel.Properties.C01

#print axioms StorageModel.Properties.C01.cursor_state_per_scan
#print axioms StorageModel.Properties.C01.cursor_state_allocating
#print axioms StorageModel.Properties.C01.code_policy_fresh
#print axioms StorageModel.Properties.C01.skeleton_is_evalBool
#print axioms StorageModel.Properties.C01.self_subquery_exact
#print axioms StorageModel.Properties.C01.shared_cache_differs
#print axioms StorageModel.Properties.C01.transform_total
#print axioms StorageModel.Properties.C01.eval_refines_sat
#print axioms StorageModel.Properties.C01.seek_eq_scan
#print axioms StorageModel.Properties.C01.query_shortcut_free
#print axioms StorageModel.Properties.C01.subquery_count_exact
#print axioms StorageModel.Properties.C01.null_rules
#print axioms StorageModel.Properties.C01.engine_null_rules
#print axioms StorageModel.Properties.C01.null_literal_rule
#print axioms StorageModel.Properties.C01.not_forms_negate
#print axioms StorageModel.Properties.C01.stacked_eq_flatMap
#print axioms StorageModel.Properties.C01.world_refines_spec
#print axioms StorageModel.Properties.C01.query_exact
#print axioms StorageModel.Properties.C01.query_exact_partial
#print axioms StorageModel.Properties.C01.query_exact_full_fails
#print axioms StorageModel.Properties.C01.seek_sound
#print axioms StorageModel.Properties.C01.seek_eq_scan_typed
#print axioms StorageModel.Properties.C01.seekable_needs_string_symbol
#print axioms StorageModel.Properties.C01.resolve_refines_path
#print axioms StorageModel.Properties.C01.symbol_tables_exact
#print axioms StorageModel.Properties.C01.map_element_names_node
#print axioms StorageModel.Properties.C01.map_element_reads_node
#print axioms StorageModel.Properties.C01.child_store_rows
#print axioms StorageModel.Properties.C01.subquery_sort_irrelevant
#print axioms StorageModel.Properties.C01.sort_is_permutation
#print axioms StorageModel.Properties.C01.sort_order_irrelevant
