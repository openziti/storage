import StorageModel.C18.MvccProofs
import StorageModel.C18.Store
import StorageModel.C18.Globals
import StorageModel.C18.ParserPool
import StorageModel.C18.SortFieldsProofs
import StorageModel.Generated.Globals
/-
  C18 — Concurrent use: snapshot-isolated reads and no data races.

  "Read transactions may run queries and lookups concurrently with each other and with a writer:
  every read transaction observes the database exactly as of one committed state (all of a
  transaction's effects on entities, indexes and links, or none of them), and its query results
  equal what a serial execution on that state returns. Parsing, store symbol resolution and the
  error-classification helpers can be called from many goroutines without data races."
  — for all interleavings of N reader goroutines with a writer committing multi-operation
  transactions, and all concurrent uses of the package-level helpers.

  PARTIAL.  Proved here: the MVCC model (StorageModel/C18/Mvcc.lean), for ALL interleavings, and
  an obligation decided over the regenerated table of package-level variables.  NOT provable
  here, and not claimed: that bbolt implements the MVCC model (it is assumed; the correspondence
  harness compares every reader log of the real code with the model on the tagged version), and
  absence of data races in the Go code — that is a property of the Go memory model and the
  scheduler.  The table obligation and the race-detector runs bound it, they do not settle it; the
  table is exactly as good as /verif/extract/globals.go (writes through an alias created
  elsewhere, or inside library types, are not seen).
-/
namespace StorageModel.Properties.C18
open StorageModel.C18

section
variable {V Op Q A : Type} (apply : V → Op → V) (eval : Q → V → A)

/-- **Every observation equals the serial result on the pinned version** — for every interleaving
    (any list of writer / reader events, any number of readers): an observation tagged `k` is the
    answer `eval q` gives on the state produced by executing, serially, the first `k` committed
    write transactions. -/
theorem read_sees_one_version (v0 : V) (evs : List (Ev Op Q)) :
    let s := run apply eval (St.init v0 : St V Op Q A) evs
    ∀ o ∈ s.log, o.tag ≤ s.txs.length ∧ o.a = eval o.q (versionAt apply v0 s.txs o.tag) := by
  intro s o ho
  have hinv := Inv_run apply eval _ evs (Inv_init apply eval v0)
  have hv0 : s.v0 = v0 := run_v0 apply eval _ evs
  exact ⟨(hinv.bound _ _ (Sees.obs ho)).1, by rw [← hv0]; exact hinv.log o ho⟩

/-- … and all observations of one read transaction carry the same tag, i.e. come from ONE version. -/
theorem one_version_per_read_tx (v0 : V) (evs : List (Ev Op Q)) :
    let s := run apply eval (St.init v0 : St V Op Q A) evs
    ∀ o ∈ s.log, ∀ o' ∈ s.log, o.rtx = o'.rtx → o.tag = o'.tag := by
  intro s o ho o' ho' he
  exact (Inv_run apply eval _ evs (Inv_init apply eval v0)).one _ _ _ (Sees.obs ho) (he ▸ Sees.obs ho')

/-- **All or nothing.**  What a reader sees is always the result of a whole number of committed
    transactions: never a prefix of a transaction's operations, never an open or aborted one. -/
theorem all_or_nothing_visibility (v0 : V) (evs : List (Ev Op Q)) :
    let s := run apply eval (St.init v0 : St V Op Q A) evs
    ∀ o ∈ s.log, ∃ k, k ≤ s.txs.length ∧ o.a = eval o.q ((s.txs.take k).foldl (applyTx apply) v0) :=
  fun o ho => ⟨o.tag, read_sees_one_version apply eval v0 evs o ho⟩

/-- an aborted write transaction leaves the committed state and the list of committed
    transactions untouched, whatever it did -/
theorem abort_invisible (s : St V Op Q A) (ops : List Op) (hw : s.wcopy = none) :
    let s' := run apply eval s ([.wbegin] ++ ops.map .wop ++ [.wabort])
    s'.cur = s.cur ∧ s'.txs = s.txs ∧ s'.log = s.log ∧ s'.wcopy = none := by
  -- with a write transaction open, operations and the abort change nothing but the private copy, which is dropped
  have key : ∀ (ops : List Op) (t : St V Op Q A) (w : V) (done : List Op), t.wcopy = some (w, done) →
      run apply eval t (ops.map .wop ++ [.wabort]) = { t with wcopy := none } := by
    intro ops
    induction ops with
    | nil => intro t w done h; rfl
    | cons o os ih =>
      intro t w done h
      simp only [List.map_cons, List.cons_append, run, step, h]
      exact ih _ (apply w o) (done ++ [o]) rfl
  simp only [List.cons_append, List.nil_append, run, step, hw]
  rw [key ops _ s.cur [] rfl]
  exact ⟨rfl, rfl, rfl, rfl⟩

/-- **A read repeated inside one read transaction gives the same answer** — for every interleaving: whatever the writer
    committed and whatever other read transactions (pinned to other versions) read in between.  This is the statement the
    "walk a cursor, let others scan, Seek, walk again" readers exercise. -/
theorem repeated_read_in_one_read_tx_is_stable (v0 : V) (evs : List (Ev Op Q)) :
    let s := run apply eval (St.init v0 : St V Op Q A) evs
    ∀ o ∈ s.log, ∀ o' ∈ s.log, o.rtx = o'.rtx → o.q = o'.q → o.a = o'.a := by
  intro s o ho o' ho' hr hq
  obtain ⟨_, h1⟩ := read_sees_one_version apply eval v0 evs o ho
  obtain ⟨_, h2⟩ := read_sees_one_version apply eval v0 evs o' ho'
  have ht := one_version_per_read_tx apply eval v0 evs o ho o' ho' hr
  rw [h1, h2, hq, ht]

end

/-- the check the driver applies to the implementation's reader logs accepts every log the MVCC
    model can produce over the harness' universe (store model C18/Store.lean) -/
theorem model_logs_pass_check (evs : List (Ev WOp Qry)) :
    let s := run applyOp evalQ (St.init [] : St Ver WOp Qry (List Nat)) evs
    ∀ o ∈ s.log, o.tag ≤ s.txs.length ∧ (evalQ o.q (versionAt applyOp [] s.txs o.tag) == o.a) = true := by
  intro s o ho
  obtain ⟨h1, h2⟩ := read_sees_one_version applyOp evalQ [] evs o ho
  refine ⟨h1, ?_⟩
  show (evalQ o.q (versionAt applyOp [] (run applyOp evalQ (St.init []) evs).txs o.tag) == o.a) = true
  rw [h2]; simp

/-- **No unsynchronised global writes** (a proof about the table, as good as the extractor): every
    package-level variable of zitiql / ast / boltz / objectz is a sync.Pool, an atomic, a mutex, a
    struct guarded by its own sync.Once, or is never assigned / element-written / address-taken
    outside `init()` except under a mutex. -/
theorem no_unsynchronised_global_writes : noUnsyncWrites Generated.globals = true := by decide

/-- the table is not empty by accident: the anchors named in the property are in it, with the
    expected classification -/
theorem global_table_anchors :
    (hasVar Generated.globals "zitiql" "lexerPool" .syncPool && hasVar Generated.globals "zitiql" "parserPool" .syncPool &&
     hasVar Generated.globals "ast" "EnableQueryDebug" .atomic) = true := by decide +kernel

/-- **No shared mutable object is handed out** (a proof about the table, as good as the extractor).
    (a) No plain package-level variable whose value is mutable — a slice, a map, a (pointer to a) type with pointer-receiver
    methods that write the receiver, a struct holding one — is returned by a function, embedded in what a function returns,
    or stored into another object: otherwise every caller of that function holds THE SAME object (two `ast.Parse(s, "")`
    calls returning one query node, whose `SetLimit` / `setPaging` then act on everybody's query).
    (b) No function literal that outlives the call that created it (the `impl` closure of `NewBoolFuncSymbol` …) writes a
    variable captured from the enclosing function outside a lock: such a variable exists once per constructor call and is
    shared by every evaluation in every read transaction. -/
theorem no_shared_mutable_escape : noSharedMutableEscape Generated.globals Generated.closures = true := by decide

theorem shared_escape_meaning (gs : List GlobalVar) (cs : List Closure) (h : noSharedMutableEscape gs cs = true) :
    (∀ g ∈ gs, g.kind = .plain → g.mutable = true → g.escapes = []) ∧
    (∀ c ∈ cs, ∀ w ∈ c.writes, w.underLock = true) := by
  simp only [noSharedMutableEscape, Bool.and_eq_true, List.all_eq_true] at h
  refine ⟨fun g hg hk hm => ?_, fun c hc w hw => ?_⟩
  · have := h.1 g hg
    simp only [GlobalVar.noSharedEscape, hk, hm, bne_self_eq_false, Bool.not_true, Bool.false_or,
      List.isEmpty_iff] at this
    exact this
  · have := h.2 c hc
    simp only [Closure.ok, List.all_eq_true] at this
    exact this w hw

/-- the escape analysis is not blind on this tree: it sees `ast.Parse` embedding the (immutable) `BoolNodeTrue` in the query
    node it returns, it classifies the maps as mutable, and the closure table contains the external symbol constructors -/
theorem escape_table_anchors :
    (hasEscape Generated.globals "ast" "BoolNodeTrue" "Parse" false &&
     Generated.globals.any (fun g => g.name == "nodeTypeNames" && g.mutable && g.escapes.isEmpty) &&
     hasClosure Generated.closures "boltz" "NewBoolFuncSymbol" && hasClosure Generated.closures "boltz" "NewStringFuncSymbol") = true := by
  decide +kernel

/-- the shape of the row checks below: a row passes because its kind is not the guarded one, or a reviewed entry
    names it; so a row of the guarded kind is named by an entry -/
theorem excused {α : Type} [BEq α] [LawfulBEq α] {x k : α} {y : Bool} (h : (x != k || y) = true) (hx : x = k) :
    y = true := by
  subst hx; simpa using h

theorem named_by_entry {l : List (String × String × String × String)} {a b c : String}
    (h : l.any (fun e => e.1 == a && e.2.1 == b && e.2.2.1 == c) = true) :
    ∃ e ∈ l, e.1 = a ∧ e.2.1 = b ∧ e.2.2.1 = c := by
  obtain ⟨e, he, h⟩ := List.any_eq_true.mp h
  simp only [Bool.and_eq_true, beq_iff_eq] at h
  exact ⟨e, he, h.1.1, h.1.2, h.2⟩

/-- **No append onto a shared slice** (a proof about the table, as good as the extractor): every `append` in the four
    packages whose first argument is a slice kept in a struct field or package-level variable — or a local that may alias one —
    assigns the result back to that same field (the object grows), or the stored slice is only spread into a fresh one
    (the per-call copy idiom of `createElementSymbol`, `getIndexPath`, `NewBaseStore`'s entity path); the one other row is the
    reviewed exception listed with its reason in `reviewedAppends`.  Otherwise slices handed to different callers (the bucket
    paths of two element symbols of one map symbol) would share a backing array. -/
theorem no_append_onto_shared_slice : noAppendOntoShared Generated.appends = true := by decide +kernel

theorem append_table_meaning (rs : List AppendRow) (h : noAppendOntoShared rs = true) :
    ∀ r ∈ rs, r.how = .ontoShared →
      ∃ e ∈ reviewedAppends, e.1 = r.pkg ∧ e.2.1 = r.func ∧ e.2.2.1 = r.operand :=
  fun r hr hh => named_by_entry (excused (List.all_eq_true.mp h r hr) hh)

/-- the append table is not blind on this tree: it lists the per-call copy in `createElementSymbol` and in `getIndexPath`,
    the grow-in-place registrations, and the reviewed row is really there (the exception list has no dead entry) -/
theorem append_table_anchors :
    (hasAppend Generated.appends "boltz" "entityMapSymbol.createElementSymbol" "self.prefix" .copyOut &&
     hasAppend Generated.appends "boltz" "Indexer.getIndexPath" "indexer.basePath" .copyOut &&
     hasAppend Generated.appends "boltz" "Indexer.AddConstraint" "indexer.constraints" .assignedBack &&
     hasAppend Generated.appends "boltz" "NewBaseStore" "definition.BasePath" .ontoShared) = true := by decide +kernel

/-- **Evaluation does not write node state** (a proof about the table, as good as the extractor): no method of an ast node
    type other than the build/adjust methods (TypeTransform…, Set…, Adopt…) assigns a field or element of its receiver.  A
    compiled query whose skip and limit are explicit (so that `scanner.setPaging`, which calls SetSkip / SetLimit when they
    are absent, stores nothing) is therefore read-only while it is evaluated, and may be run by any number of read
    transactions at once. -/
theorem eval_does_not_write_nodes : evalDoesNotWriteNodes Generated.nodeWrites = true := by decide

theorem node_write_table_meaning (ws : List NodeWrite) (h : evalDoesNotWriteNodes ws = true) :
    ∀ w ∈ ws, w.phase = .eval →
      ∃ e ∈ reviewedNodeWrites, e.1 = w.typ ∧ e.2.1 = w.method ∧ e.2.2.1 = w.field :=
  fun w hw hp => named_by_entry (excused (List.all_eq_true.mp h w hw) hp)

/-- the node-write table is not blind: it lists the paging setters that `setPaging` calls and a transform-time write -/
theorem node_write_table_anchors :
    (hasNodeWrite Generated.nodeWrites "queryNode" "SetSkip" "Skip" .setup &&
     hasNodeWrite Generated.nodeWrites "queryNode" "SetLimit" "Limit" .setup &&
     hasNodeWrite Generated.nodeWrites "SetFunctionNode" "TypeTransform" "symbol" .setup) = true := by decide +kernel

/-- **No process-wide configuration from request paths**: outside `init()` the four packages never call a function of
    another module that sets process-wide state (antlr.ConfigureRuntime, log / logrus / pfxlog setters, os.Setenv,
    rand.Seed, runtime / debug setters …: the deny-list of the extractor) and never assign a package-level variable of
    another module. -/
theorem no_process_wide_config_calls : noProcessWideConfig Generated.configCalls = true := by decide

theorem config_call_table_meaning (cs : List ConfigCall) (h : noProcessWideConfig cs = true) :
    ∀ c ∈ cs, c.inInit = true := by
  intro c hc
  simp only [noProcessWideConfig, List.all_eq_true] at h
  exact h c hc

/-- **Read APIs do not write their arguments** (a proof about the table, as good as the extractor): no function of the four
    packages whose name marks it as a read path (Find…, Iterator…, Query…, Read…, Eval…, Is…, Get…, …) writes through a slice / map /
    pointer parameter — by element assignment, sort.* / slices.Sort*, copy into it, delete / clear, append into param[:k] — or hands it
    to a function of its package that does.  The values slice of an index lookup stays the caller's: several read transactions may
    pass the same slice. -/
theorem read_apis_do_not_write_arguments : readApisDoNotWriteArguments Generated.paramWrites = true := by decide

theorem param_write_table_meaning (ws : List ParamWrite) (h : readApisDoNotWriteArguments ws = true) :
    ∀ w ∈ ws, w.api = .read →
      ∃ e ∈ reviewedParamWrites, e.1 = w.pkg ∧ e.2.1 = w.func ∧ e.2.2.1 = w.param :=
  fun w hw ha => named_by_entry (excused (List.all_eq_true.mp h w hw) ha)

/-- the table is not blind: it sees SetLinks sorting its `keys` and SetLinkedIds handing its `value` on to it (write apis) -/
theorem param_write_table_anchors :
    (hasParamWrite Generated.paramWrites "boltz" "linkCollectionImpl.SetLinks" "keys" .sort .write &&
     hasParamWrite Generated.paramWrites "boltz" "PersistContext.SetLinkedIds" "value" .via .write) = true := by decide +kernel

open ParserPool in
/-- a discipline that removes all listeners before it adds its own delivers every error only to the collector of the parse
    that produced it — for every sequence of uses of a pooled recogniser, debug parses included, whatever it carried -/
theorem remove_before_delivers_only_to_own (d : Discipline) (hd : d.removeBeforeAlways = true) (carried : List Nat)
    (us : List ParserPool.Use) : onlyOwn (deliveries d carried us) = true := by
  induction us generalizing carried with
  | nil => rfl
  | cons u rest ih =>
    simp only [deliveries, onlyOwn, List.all_append, Bool.and_eq_true]
    refine ⟨?_, by simpa [onlyOwn] using ih _⟩
    split
    · rfl
    · cases h : d.addsCollector <;> simp [during, hd, h]

/-- **The listener discipline of `zitiql.parse` is the repaired one** (a table obligation, regenerated from the source on every
    run): the pooled parser has its listeners removed before the function adds its own AND, deferred so that it runs before
    `parserPool.Put`, after the parse; the pooled lexer has them removed before; both get the caller's collector. -/
theorem listener_discipline_pinned :
    Generated.parserListeners = { removeBeforeAlways := true, removeBeforePlain := false, removeAfterDeferred := true, addsCollector := true } ∧
    Generated.lexerListeners.removeBeforeAlways = true ∧ Generated.lexerListeners.addsCollector = true := by decide

open ParserPool in
/-- **Every parse delivers only to its own collector** — the code as it is, all sequences of plain and debug parses on one
    pooled parser / lexer, whatever the recogniser carried when it came out of the pool -/
theorem every_parse_delivers_only_to_own (carried : List Nat) (us : List ParserPool.Use) :
    onlyOwn (deliveries Generated.parserListeners carried us) = true ∧
    onlyOwn (deliveries Generated.lexerListeners carried us) = true :=
  ⟨remove_before_delivers_only_to_own _ (by decide) carried us, remove_before_delivers_only_to_own _ (by decide) carried us⟩

open ParserPool in
/-- … and the pooled parser never holds anybody's collector while it sits in the pool -/
theorem pooled_parser_carries_no_collector (carried : List Nat) (u : ParserPool.Use) :
    after Generated.parserListeners carried u = [] := by
  simp [after, Generated.parserListeners]

open ParserPool in
/-- the discipline before 956c2a8 (remove only on the plain branch, nothing after): a plain parse by caller 1 (no errors), then
    a debug parse by caller 2 of an input with one syntax error on the same pooled parser — caller 1's collector received
    caller 2's error -/
example :
    deliveries preFix [] [⟨false, 1, 0⟩, ⟨true, 2, 1⟩] = [(1, 2), (2, 2)] ∧
    onlyOwn (deliveries preFix [] [⟨false, 1, 0⟩, ⟨true, 2, 1⟩]) = false := by decide

/-- in the store model a reader's paging lives in the reader's own query: a paged empty filter is a page of the unpaged
    answer on the same version, whatever other queries were evaluated before -/
theorem paged_query_is_page_of_all (sk l : Nat) (v : Ver) :
    evalQ (.qPage sk l) v = page sk l (evalQ .qAll v) ∧ evalQ (.qPage 0 0) v = evalQ .qAll v ∧
    (0 < l → (evalQ (.qPage sk l) v).length ≤ l) := by
  refine ⟨rfl, ?_, fun hl => ?_⟩
  · show page 0 0 (evalQ .qAll v) = evalQ .qAll v
    simp [page]
  · show (page sk l (evalQ .qAll v)).length ≤ l
    have : (l == 0) = false := by simp; omega
    simp only [page, this, Bool.false_eq_true, if_false, List.length_take]
    exact Nat.min_le_left _ _

/-- no function appends onto a slice that a getter handed out from an object's own storage (decide over the two tables
    regenerated from the source; one reviewed exception, store construction) -/
theorem no_append_onto_handed_out_slice :
    noAppendOntoHandedOutSlice Generated.sliceGetters Generated.resultAppends = true := by decide +kernel

theorem result_append_table_meaning (gs : List SliceGetter) (rs : List ResultAppend)
    (h : noAppendOntoHandedOutSlice gs rs = true) :
    ∀ r ∈ rs, (∀ g ∈ gs, g.name ≠ r.getter) ∨
      reviewedResultAppends.any (fun e => e.1 == r.pkg && e.2.1 == r.func && e.2.2.1 == r.getter) = true := by
  intro r hr
  have := List.all_eq_true.1 h r hr
  simp only [ResultAppend.ok, Bool.or_eq_true, Bool.not_eq_true', List.any_eq_false] at this
  rcases this with h1 | h2
  · left; intro g hg; have := h1 g hg; simpa using this
  · right; exact h2

/-- the analysis sees the scanners appending (through `newRowComparator`'s parameter) onto what `GetSortFields` returns,
    in boltz and in objectz, and `GetSortFields` / `getSortFields` are NOT getters of a stored slice in this tree (the
    model `SortFields.getFresh` is the code's shape); it also sees a real stored-slice getter (`GetRootPath`) -/
theorem result_append_table_anchors :
    hasResultAppend Generated.resultAppends "boltz" "sortingScanner.ScanCursor" "GetSortFields" = true ∧
    hasResultAppend Generated.resultAppends "objectz" "memSortingScanner.Scan" "GetSortFields" = true ∧
    Generated.sliceGetters.any (fun g => g.name == "GetSortFields" || g.name == "getSortFields") = false ∧
    Generated.sliceGetters.any (fun g => g.name == "GetRootPath") = true := by decide +kernel

/-- **Every scan keeps its own sort fields.**  For every list of sort fields (any length, also those where the slice
    `getSortFields` builds has spare capacity) and any number of scans of the one parsed query, each taking
    `GetSortFields()` and appending its own terminal field: at the end every scan still sees the query's fields followed
    by ITS element (Go's append on a heap of backing arrays, `getSortFields` building a new slice per call) -/
theorem sorted_scans_keep_their_sort_fields (fields xs : List Nat) :
    SortFields.scansSee fields xs = xs.map (fun x => fields ++ [x]) :=
  SortFields.scans_see_their_own fields xs

/-- one scan leaves every array that existed before untouched (the heap only grows) and holds a slice in a new array -/
theorem sorted_scan_touches_no_earlier_array (h0 : SortFields.Heap) (fields : List Nat) (x : Nat) :
    (∃ extra, (SortFields.scan h0 fields x).1 = h0 ++ extra) ∧ h0.length ≤ (SortFields.scan h0 fields x).2.arr ∧
      SortFields.view (SortFields.scan h0 fields x).1 (SortFields.scan h0 fields x).2 = fields ++ [x] := by
  have := SortFields.scan_spec h0 fields x
  exact ⟨this.1, this.2.1, this.2.2.2⟩

/-- the observation `O<k>` of the harness has one answer for every k: both callers hold k+1 fields ending in their own -/
theorem sort_fields_observation (k : Nat) (v : Ver) : evalQ (.sortFieldsTwice k) v = [k + 1, 1, k + 1, 1] := by
  simp [evalQ, SortFields.two_callers_keep_their_own]

/-- the other shape — the `[]SortField` view built ONCE while parsing and handed to every caller: with 3 sort fields
    (append growth 1, 2, 4: one spare slot) the element caller 1 appended is replaced by caller 2's; with 4 fields
    (no spare slot) nothing is shared.  Not the code's shape (`result_append_table_anchors`). -/
example :
    let p := SortFields.getFresh [] [0, 1, 2]
    let a := SortFields.scanStored p.1 p.2 100
    let b := SortFields.scanStored a.1 p.2 200
    (SortFields.view b.1 a.2, SortFields.view b.1 b.2) = ([0, 1, 2, 200], [0, 1, 2, 200]) := by decide +kernel
example :
    let p := SortFields.getFresh [] [0, 1, 2, 3]
    let a := SortFields.scanStored p.1 p.2 100
    let b := SortFields.scanStored a.1 p.2 200
    (SortFields.view b.1 a.2, SortFields.view b.1 b.2) = ([0, 1, 2, 3, 100], [0, 1, 2, 3, 200]) := by decide +kernel

theorem insertBy_perm (keys : List (Nat × Bool)) (e : Ent) (l : List Ent) : (insertBy keys e l).Perm (e :: l) := by
  induction l with
  | nil => simp [insertBy]
  | cons x r ih =>
    unfold insertBy
    split
    · exact List.Perm.refl _
    · exact (List.Perm.cons x ih).trans (List.Perm.swap e x r)

theorem foldl_insertBy_perm (keys : List (Nat × Bool)) (l : List Ent) :
    ∀ acc, (l.foldl (fun acc e => insertBy keys e acc) acc).Perm (l ++ acc) := by
  induction l with
  | nil => intro acc; simp
  | cons e r ih =>
    intro acc
    simp only [List.foldl_cons]
    refine (ih _).trans ?_
    refine (List.Perm.append_left r (insertBy_perm keys e acc)).trans ?_
    simp

/-- the sorting scanner's rows, before paging, are exactly the rows that satisfy the filter — none dropped, none doubled —
    for every list of sort keys and every version; the answer of a sorted shared text is a page of such a rearrangement -/
theorem sorted_shared_answer_is_page_of_the_filtered_rows (j : Nat) (v : Ver) :
    ∃ s : List Ent, s.Perm (v.filter (fun e => (sharedSort j).2.1 ≤ e.rank)) ∧
      evalSharedSort j v = ((s.drop (sharedSort j).2.2.1).take (sharedSort j).2.2.2).map (·.id) := by
  refine ⟨(v.filter (fun e => (sharedSort j).2.1 ≤ e.rank)).foldl (fun acc e => insertBy (sharedSort j).1 e acc) [], ?_, ?_⟩
  · simpa using foldl_insertBy_perm (sharedSort j).1 (v.filter (fun e => (sharedSort j).2.1 ≤ e.rank)) []
  · simp only [evalSharedSort]

/-- on one version, the second walk of a cursor after `Seek("a<x>")` is the first walk from `x` on -/
theorem seek_rewalk_is_suffix_of_walk (k a x : Nat) (v : Ver) :
    evalQ (.cSeek k a x) v = (evalQ (.cWalk k a) v).filter (x ≤ ·) := rfl

/-- **The re-walk of a cursor stays in its own snapshot** — store universe, every interleaving of any number of readers
    with the writer: if a read transaction walked cursor (k, a) and later — after any commits and any scans of other read
    transactions — repositions it with Seek and walks again, the second walk is the first walk from the seek position on. -/
theorem rewalk_after_other_scans_sees_own_version (evs : List (Ev WOp Qry)) (k a x : Nat) :
    let s := run applyOp evalQ (St.init [] : St Ver WOp Qry (List Nat)) evs
    ∀ o ∈ s.log, ∀ o' ∈ s.log, o.rtx = o'.rtx → o.q = .cWalk k a → o'.q = .cSeek k a x →
      o'.a = o.a.filter (x ≤ ·) := by
  intro s o ho o' ho' hr hq hq'
  obtain ⟨_, h1⟩ := read_sees_one_version applyOp evalQ [] evs o ho
  obtain ⟨_, h2⟩ := read_sees_one_version applyOp evalQ [] evs o' ho'
  have ht := one_version_per_read_tx applyOp evalQ [] evs o ho o' ho' hr
  rw [h1, h2, hq, hq', ht]
  rfl

/-- the schedule of the reader scenario as an instance: reader 1 walks `name = "n10"` to its end on version 1; the writer
    renames the row in one transaction; reader 2 (version 2) scans; reader 1 seeks back and walks again — and still gets
    its row; reader 2 does not -/
example :
    let evs : List (Ev WOp Qry) :=
      [.wbegin, .wop (.put 1 10 3 [0]), .wop (.put 2 20 1 []), .wcommit,
       .rbegin 1, .rread 1 (.cWalk 5 10),
       .wbegin, .wop (.put 1 11 3 [0]), .wcommit,
       .rbegin 2, .rread 2 (.cWalk 5 11), .rread 2 (.cWalk 5 10),
       .rread 1 (.cSeek 5 10 0), .rread 1 (.cSeek 5 10 2)]
    ((run applyOp evalQ (St.init [] : St Ver WOp Qry (List Nat)) evs).log.map fun o => (o.reader, o.tag, o.a)) =
      [(1, 1, []), (1, 1, [1]), (2, 2, []), (2, 2, [1]), (1, 1, [1])] := by decide +kernel

/-- **No pooled object outlives its release** (a proof about the table, as good as extract/globals_fields.go): every
    `Put` into a sync.Pool of the four packages gives back a local that the same function took from the pool, that is neither
    returned, stored, captured nor sent, at the end of the function (deferred) or without touching it afterwards; and there is
    no hand-made free list (package-level slice-of-pointers / channel variable written outside init).  A Put of a receiver, a
    field or a parameter — an object somebody else still points at, like a row cursor released by the scanner that was handed
    out as a cursor — is rejected. -/
theorem no_pooled_object_outlives_release :
    noPooledObjectOutlivesRelease Generated.poolPuts Generated.freeLists = true := by decide

theorem pool_table_meaning (puts : List PoolPut) (frees : List FreeList) (h : noPooledObjectOutlivesRelease puts frees = true) :
    frees = [] ∧ ∀ p ∈ puts, p.argKind = .localFromGet ∧ p.escapes = "" ∧ (p.deferred = true ∨ p.usedAfter = false) := by
  simp only [noPooledObjectOutlivesRelease, Bool.and_eq_true, List.all_eq_true, List.isEmpty_iff] at h
  refine ⟨h.2, fun p hp => ?_⟩
  have := h.1 p hp
  simp only [PoolPut.ok, Bool.and_eq_true, beq_iff_eq, Bool.or_eq_true, Bool.not_eq_true'] at this
  exact ⟨this.1.1, this.1.2, this.2⟩

/-- the table is not blind: it sees the two pools of zitiql and their deferred Puts in `parse` -/
theorem pool_table_anchors :
    (hasPool Generated.pools "zitiql" "lexerPool" && hasPool Generated.pools "zitiql" "parserPool" &&
     hasPoolPut Generated.poolPuts "zitiql" "lexerPool" "parse" && hasPoolPut Generated.poolPuts "zitiql" "parserPool" "parse") = true := by
  decide +kernel

/-- **Read APIs do not write the state of shared objects** (a proof about the table): no method that is a read API by name
    (Is… Get… Find… Query… Iterate… Eval… Validate is reached through VisitSymbol / IsPublicSymbol …) or reachable from one
    writes — assignment, map store, element write, append, delete, ++ — a field of its receiver when the receiver type is a
    shared long-lived one (BaseStore, Indexer, the symbol, index, constraint and link-collection types, objectz.ObjectStore and
    its symbols), except under a lock. -/
theorem read_apis_do_not_write_receiver_state : readApisDoNotWriteReceiverState Generated.fieldWrites = true := by decide +kernel

theorem receiver_write_table_meaning (ws : List FieldWrite) (h : readApisDoNotWriteReceiverState ws = true) :
    ∀ w ∈ ws, w.api = .read → w.shared = true → w.underLock = false →
      ∃ e ∈ reviewedFieldWrites, e.1 = w.pkg ∧ e.2.1 = w.typ ∧ e.2.2.1 = w.method ∧ e.2.2.2.1 = w.field := by
  intro w hw ha hs hl
  simp only [readApisDoNotWriteReceiverState, List.all_eq_true] at h
  have := h w hw
  simp only [FieldWrite.ok, ha, hs, hl, bne_self_eq_false, Bool.not_true, Bool.false_or, List.any_eq_true, Bool.and_eq_true,
    beq_iff_eq] at this
  obtain ⟨e, he, h1⟩ := this
  exact ⟨e, he, h1.1.1.1, h1.1.1.2, h1.1.2, h1.2⟩

/-- the table is not blind: it sees the registration-time writers of the maps the read APIs consult (write APIs, shared
    types), and per-scan state written on the read path (the row cursor's symbol cache: read, not shared) -/
theorem receiver_write_table_anchors :
    (hasFieldWrite Generated.fieldWrites "boltz" "BaseStore" "addSymbol" "publicSymbols[]" .elem .write true &&
     hasFieldWrite Generated.fieldWrites "boltz" "BaseStore" "MakeSymbolPublic" "publicSymbols[]" .elem .write true &&
     hasFieldWrite Generated.fieldWrites "boltz" "BaseStore" "AddMapSymbol" "mapSymbols[]" .elem .write true &&
     hasFieldWrite Generated.fieldWrites "objectz" "ObjectStore" "AddStringSymbol" "symbols[]" .elem .write true &&
     hasFieldWrite Generated.fieldWrites "boltz" "rowCursorImpl" "getSymbol" "symbolCache[]" .elem .read false) = true := by decide +kernel

/-- the table shape of "IsPublicSymbol memoises accepted element names in a map of the store" is rejected -/
example : readApisDoNotWriteReceiverState
    [{ pkg := "boltz", typ := "BaseStore", method := "IsPublicSymbol", field := "publicElements[]", how := FieldWriteHow.elem,
       api := ApiKind.read, shared := true, underLock := false }] = false := by decide
/-- … the same write under the store's lock, or in a per-scan object, is accepted -/
example : readApisDoNotWriteReceiverState
    [{ pkg := "boltz", typ := "BaseStore", method := "IsPublicSymbol", field := "publicElements[]", how := FieldWriteHow.elem,
       api := ApiKind.read, shared := true, underLock := true },
     { pkg := "boltz", typ := "rowCursorImpl", method := "getSymbol", field := "symbolCache[]", how := FieldWriteHow.elem,
       api := ApiKind.read, shared := false, underLock := false }] = true := by decide

/-- the table shape of "the row cursor releases itself into a pool; the scanner handed out as a cursor calls it" is rejected -/
example : noPooledObjectOutlivesRelease
    [{ pkg := "boltz", pool := "rowCursorPool", func := "rowCursorImpl.release", arg := "rs", argKind := PoolArgKind.receiver,
       deferred := false, usedAfter := false, escapes := "" }] [] = false := by decide
example : noPooledObjectOutlivesRelease
    [{ pkg := "zitiql", pool := "parserPool", func := "parse", arg := "p", argKind := PoolArgKind.localFromGet,
       deferred := false, usedAfter := true, escapes := "" }] [] = false := by decide

/-- an interleaving in which a reader that began before a commit keeps answering from the old
    version while a later reader sees the new one, and an aborted transaction is seen by nobody -/
example :
    let evs : List (Ev WOp Qry) :=
      [.wbegin, .wop (.put 1 10 3 [0]), .wcommit,
       .rbegin 0, .rread 0 (.qRankGe 0),
       .wbegin, .wop (.put 2 20 5 [1]), .wop (.del 1), .rread 0 (.load 1), .wcommit,
       .rbegin 1, .rread 1 (.qRankGe 0), .rread 0 (.qRankGe 0),
       .wbegin, .wop (.put 3 30 1 []), .wabort, .rbegin 2, .rread 2 (.qRankGe 0)]
    ((run applyOp evalQ (St.init [] : St Ver WOp Qry (List Nat)) evs).log.map fun o => (o.reader, o.tag, o.a)) =
      [(2, 2, [2]), (0, 1, [1]), (1, 2, [2]), (0, 1, [1, 10, 3, 0]), (0, 1, [1])] := by decide +kernel

/-- the obligation is not vacuous: the table shape that `errors.As(err, &pkgVar)` produces is rejected -/
def tableWithErrorsAsTarget : List GlobalVar :=
  [{ pkg := "boltz", name := "testErrorReferenceExists", kind := VarKind.plain,
     writes := [{ func := "IsReferenceExistsError", how := WriteHow.addr, inInit := false, underLock := false }] }]
example : noUnsyncWrites tableWithErrorsAsTarget = false := by decide

/-- … and so is a package-level cache map written in GetSymbol without a lock -/
def tableWithUnlockedCache : List GlobalVar :=
  [{ pkg := "boltz", name := "symbolCache", kind := VarKind.plain,
     writes := [{ func := "BaseStore.GetSymbol", how := WriteHow.elem, inInit := false, underLock := false }] }]
example : noUnsyncWrites tableWithUnlockedCache = false := by decide

/-- the table shape of "ast.Parse returns one package-level query node for the empty filter" is rejected -/
def tableWithSharedEmptyQuery : List GlobalVar :=
  [{ pkg := "ast", name := "emptyQuery", kind := VarKind.plain, writes := [], typ := "*queryNode", mutable := true,
     escapes := [{ func := "Parse", how := EscapeHow.returned }] }]
example : noSharedMutableEscape tableWithSharedEmptyQuery [] = false := by decide
/-- … while an immutable value handed out (BoolNodeTrue) and a mutable one that never leaves (the name maps) are accepted -/
example : noSharedMutableEscape
    [{ pkg := "ast", name := "BoolNodeTrue", kind := VarKind.plain, writes := [], mutable := false,
       escapes := [{ func := "Parse", how := EscapeHow.returned }] },
     { pkg := "ast", name := "nodeTypeNames", kind := VarKind.plain, writes := [], mutable := true, escapes := [] }] [] = true := by decide

/-- the table shape of "one result buffer per symbol, hoisted out of the Eval closure" is rejected -/
def closuresWithHoistedBuffer : List Closure :=
  [{ pkg := "boltz", func := "NewBoolFuncSymbol", escape := EscapeHow.returned,
     writes := [{ name := "buf", how := WriteHow.elem, decl := DeclKind.loc, underLock := false }] }]
example : noSharedMutableEscape [] closuresWithHoistedBuffer = false := by decide

/-- the table shape of "element symbols append their nested keys onto the map symbol's stored path" is rejected -/
def appendsWithSharedMapPath : List AppendRow :=
  [{ pkg := "boltz", func := "entityMapSymbol.createElementSymbol", operand := "self.path", via := "prefix", how := AppendHow.ontoShared }]
example : noAppendOntoShared appendsWithSharedMapPath = false := by decide +kernel

/-- the table shape of "the `in [...]` node builds a lookup map on its first EvalBool" is rejected -/
def nodeWritesWithLazyLookup : List NodeWrite :=
  [{ typ := "InStringArrayExprNode", method := "EvalBool", field := "lookup", how := WriteHow.field, phase := NodePhase.eval },
   { typ := "InStringArrayExprNode", method := "EvalBool", field := "lookup[]", how := WriteHow.elem, phase := NodePhase.eval }]
example : evalDoesNotWriteNodes nodeWritesWithLazyLookup = false := by decide

/-- … and so is a parse entry point that flips a runtime-wide ANTLR option -/
def configCallsWithAntlrTrace : List ConfigCall :=
  [{ pkg := "zitiql", func := "parse", callee := "github.com/antlr4-go/antlr/v4.ConfigureRuntime", inInit := false }]
example : noProcessWideConfig configCallsWithAntlrTrace = false := by decide

/-- the table shape of "IteratorMatchingAllOf sorts the caller's values" is rejected -/
def paramWritesWithSortedValues : List ParamWrite :=
  [{ pkg := "boltz", func := "BaseStore.IteratorMatchingAllOf", param := "values", how := ParamWriteHow.sort, api := ApiKind.read }]
example : readApisDoNotWriteArguments paramWritesWithSortedValues = false := by decide

/-- the table shape of "getSortFields returns the stored view, the scanner appends its id field" is rejected -/
example : noAppendOntoHandedOutSlice
    [{ pkg := "ast", func := "SortByNode.getSortFields", name := "getSortFields", returns := "node.fields" },
     { pkg := "ast", func := "queryNode.GetSortFields", name := "GetSortFields", returns := "via getSortFields()" }]
    [{ pkg := "boltz", func := "sortingScanner.ScanCursor", getter := "GetSortFields", via := "parameter of newRowComparator" }] = false := by
  decide +kernel

/-- a sorted shared text on one version: text 16 (`rank >= 1 sort by even, rank desc, name desc skip 1 limit 20`) -/
example :
    let v : Ver := [⟨10, 100, 1, [], []⟩, ⟨11, 110, 2, [], []⟩, ⟨12, 120, 3, [], []⟩, ⟨13, 130, 0, [], []⟩, ⟨14, 140, 3, [], []⟩, ⟨15, 150, 2, [], []⟩]
    evalQ (.qShared 16) v = [11, 14, 12, 10] := by decide +kernel

/-- the second reader's unpaged list is not cut by the first reader's limit (the model's answers on one version) -/
example :
    let v : Ver := [⟨0, 0, 1, [], []⟩, ⟨1, 10, 2, [], []⟩, ⟨2, 20, 3, [], []⟩, ⟨3, 30, 0, [], []⟩, ⟨4, 40, 5, [], []⟩]
    (evalQ (.qPage 0 2) v, evalQ .qAll v, evalQ (.qEven 1) v, evalQ (.qEven 0) v, evalQ (.vEven 0 1) v) =
      ([0, 1], [0, 1, 2, 3, 4], [0, 2, 4], [1, 3], [1, 0]) := by decide +kernel

end StorageModel.Properties.C18
