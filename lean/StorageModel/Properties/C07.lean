import StorageModel.Tx.Failures
import StorageModel.Tx.GroupLemmas
import StorageModel.Generated.CrudReturns
/-
  C07 — Transactions are all-or-nothing and every failure reaches the caller.

  "If anything fails inside a Db.Update or Db.Batch transaction - the caller's function returns an
  error, a store operation is rejected (validation, index, foreign key, constraint veto, storage
  error) or a pre-commit action fails - the caller receives a non-nil error, the database is left
  exactly as it was before the transaction, and no commit action or listener runs. Conversely no
  create, update or delete reports success when one of its steps was rejected: a veto or storage
  error raised at any stage is always returned to the caller."

  Model: StorageModel/Tx/{Types,Store,Db}.lean follow boltz/store_crud.go, store.go, db.go,
  tx_context.go stage by stage; at every `if err != nil` site the model does what the table
  `Generated.crudReturns` — regenerated from the source by /verif/extract/returns.go on every run —
  says the Go code does there.  Spec: StorageModel/Tx/Spec.lean.

  The failures covered include vetoes that custom boltz.Constraint implementations (AddConstraint on the
  parent or on a child store) raise through the IndexingContext's error holder in ProcessBeforeUpdate /
  ProcessAfterUpdate / ProcessBeforeDelete — how that holder travels is `ixStage` in Tx/Store.lean —
  and child data created over an existing plain parent entity.

  The theorems are about `Generated.crudReturns`, i.e. about the return paths the code has NOW.
  bbolt's rollback itself is modelled, not verified (`rollback` in Tx/Db.lean restores the database
  and drops the OnCommit queue; the harness compares the real bucket tree before and after).
-/
namespace StorageModel.Properties.C07
open StorageModel.Tx StorageModel.Tx.Spec

/-- Obligation on regenerated data: the return paths of the four operations and their helpers are the
    ones under which every raised error is handed on. -/
theorem table_is_expected : Generated.crudReturns = expectedReturns := by decide

def expectedAdapter (name : String) : String :=
  name ++ " = created: go state.FinalState | call state.FinalState; updated: go state.FinalState | call state.FinalState; deleted: go state.InitialState | call state.InitialState"

/-- Obligation on regenerated data: post-commit work starts only through tx.OnCommit, and the three
    listener adapters have the modelled shape. -/
theorem delivery_is_expected :
    Generated.deliveryFlags.all (·.2) = true ∧ Generated.deliveryFlags.length = 16 ∧
    Generated.adapterShapes = ["entityListenerAdapter", "entityFunctionListenerAdapter", "untypedEventListenerWrapper"].map expectedAdapter := by
  refine ⟨by decide, by decide, ?_⟩
  -- the three `name ++ …` are folded to literals, which are then those of the generated list
  simp only [expectedAdapter, List.map_cons, List.map_nil, String.reduceAppend, Generated.adapterShapes]

/-- Obligation on regenerated data: how the error holder travels (boltz/indexes.go, base.go,
    typed_bucket.go, store_crud.go) has the modelled shape — newIndexingContext chains the parent store's
    context with the same holder; the three Process* functions run the parent context first and their own
    constraints only while the holder is empty; ProceedWithSet refuses to write once the holder has an
    error; stage order in Create / Update / processDeleteConstraints.  (That GetParentContext lets the
    parent bucket record into the child bucket's holder is the table field `persistSharesHolder`.) -/
theorem holder_plumbing_is_expected :
    Generated.holderFlags.all (·.2) = true ∧ Generated.holderFlags.length = 16 := by
  decide

/-- environments whose return table is the one regenerated from the code (registrations and the
    number of tx-complete listeners are arbitrary) -/
def FromCode (env : Env) : Prop := env.t = Generated.crudReturns

theorem FromCode.expected {env : Env} (h : FromCode env) : env.t = expectedReturns := h.trans table_is_expected

example : FromCode { regsP := [.constraint true [(.deleted, "a")]], regsC := [], txListeners := 1, t := Generated.crudReturns
                     ixP := [[(.beforeUpdate, "a")]], ixC := [[(.beforeDelete, "b"), (.afterUpdate, "a")]] } := rfl

/-- Errors are only ever added to the record of raised errors. -/
theorem raised_only_grows (env : Env) (h : FromCode env) (fault : Fault) (o : Op) (st : TxSt) :
    ∃ more, (runOp env fault o st).1.raised = st.raised ++ more :=
  (runOp_refines env h.expected fault o st).grows.raised

/-- **C07, error propagation (all operations, all states, all registrations, every injected storage
    fault, every stage).**  If anything was raised while the operation ran — by a validation, by the
    storage layer (unusable key, injected FillEntity / PersistEntity error), by an index (duplicate,
    null, missing fk target, referenced entity), by a vetoing entity constraint in the parent or the
    child flow, by a custom index-stage constraint of the parent or the child store through the error
    holder (before the update, after the write, before the delete), by the query parser — the
    operation does not report success. -/
theorem op_error_surfaces (env : Env) (h : FromCode env) (fault : Fault) (o : Op) (st : TxSt)
    (hr : (runOp env fault o st).1.raised ≠ st.raised) : (runOp env fault o st).2 ≠ .ok :=
  fun hok => hr ((runOp_refines env h.expected fault o st).passes hok).raised

/-- **C07, error propagation by failure kind** (with or without an injected storage fault): blank or existing id,
    missing entity, unusable key, duplicate / null name, empty role, missing fk target, referenced
    entity, veto on create / update / delete in the parent or in the child flow, unparsable query —
    the operation's result is an error, for every operation, state and set of registrations. -/
theorem op_failure_kind_surfaces (env : Env) (h : FromCode env) (fault : Fault) (o : Op) (st : TxSt)
    (hf : OpFails env st.db o) : (runOp env fault o st).2 ≠ .ok := by
  intro hok
  have := (runOp_refines env h.expected fault o st).iff.mp hok
  rw [opFails_rejected env fault st.db o hf] at this
  cases this

-- non-vacuity: a vetoing constraint on the child store and a delete through the parent store
example : OpFails { regsP := [], regsC := [.constraint false [(.deleted, "c1")]], txListeners := 0, t := Generated.crudReturns }
    [("c1", { f := ⟨"n", [], none, [], []⟩, child := some "k" })] (.delete .P "c1") :=
  .deleteVetoChildFlow .P .C "c1" (by decide) (by decide) (by decide)

-- non-vacuity: an entity with data in both child stores; a constraint of the SECOND child store vetoes the delete
example : OpFails { regsP := [], regsC := [], regsD := [.constraint true [(.deleted, "c1")]], txListeners := 0, t := Generated.crudReturns }
    [("c1", { f := ⟨"n", [], none, [], []⟩, child := some "k", child2 := some "g" })] (.delete .C "c1") :=
  .deleteVetoChildFlow .C .D "c1" (by decide) (by decide) (by decide)

-- non-vacuity: a custom constraint registered on the CHILD store vetoes the delete of an entity with
-- child data (delete through the parent store); one on the parent store vetoes an update before the write
example : OpFails { regsP := [], regsC := [], txListeners := 0, t := Generated.crudReturns, ixC := [[(.beforeDelete, "c1")]] }
    [("c1", { f := ⟨"n", [], none, [], []⟩, child := some "k" })] (.delete .P "c1") :=
  .deleteIxVetoChild .P .C "c1" (by decide) (by decide) (by decide)
example : OpFails { regsP := [], regsC := [], txListeners := 0, t := Generated.crudReturns, ixP := [[], [(.beforeUpdate, "c1")]] }
    [("c1", { f := ⟨"n", [], none, [], []⟩, child := some "k" })] (.update .C "c1" ⟨"m", [], none, [], []⟩ "k") :=
  .updateIxVetoParent .C "c1" _ _ .beforeUpdate (by decide) (by decide)

/-- **C07, no false success.**  An operation that reports success was accepted by the spec (none of
    its steps was rejected), has had its whole effect and raised nothing. -/
theorem no_false_success (env : Env) (h : FromCode env) (fault : Fault) (o : Op) (st : TxSt)
    (hok : (runOp env fault o st).2 = .ok) :
    (specOp env fault o st.db).accepted = true ∧
    (runOp env fault o st).1.db = (specOp env fault o st.db).db ∧
    (runOp env fault o st).1.raised = st.raised ∧
    ¬ OpFails env st.db o := by
  obtain ⟨_, hiff, hrest⟩ := runOp_refines env h.expected fault o st
  refine ⟨hiff.mp hok, (hrest hok).core.db, (hrest hok).raised, ?_⟩
  intro hf
  exact op_failure_kind_surfaces env h fault o st hf hok

/-- the ghost form on its own: success means nothing was raised -/
theorem no_false_success_any_fault (env : Env) (h : FromCode env) (fault : Fault) (o : Op) (st : TxSt)
    (hok : (runOp env fault o st).2 = .ok) : (runOp env fault o st).1.raised = st.raised :=
  ((runOp_refines env h.expected fault o st).passes hok).raised

/-- **C07, atomicity** (every table, every body, Update and Batch, fresh or reused context): a
    transaction that does not succeed leaves the database as it was and runs nothing — no listener,
    no constraint post-commit, no commit action, no tx-complete listener.  (bbolt's rollback is what
    `rollback` models; that nothing is delivered except through the OnCommit queue is
    `delivery_is_expected`.) -/
theorem tx_atomic (env : Env) (db : Db) (prevCtx : Ctx) (tx : TxSpec)
    (hne : (runTx env db prevCtx tx).res ≠ .ok) :
    (runTx env db prevCtx tx).db = db ∧ (runTx env db prevCtx tx).fired = [] := by
  -- every path through a mode ends in `commit`, whose result is ok, or in `rollback`, which restores `db` and runs nothing
  revert hne
  simp only [runTx]
  cases tx.mode with
  | update =>
    fun_cases dbUpdate env db _ tx.body with
    | case1 => exact fun hne => absurd rfl hne
    | case2 => exact fun _ => ⟨rfl, rfl⟩
  | batch =>
    fun_cases dbBatch env db _ tx.body with
    | case1 | case2 => exact fun hne => absurd rfl hne
    | case3 => exact fun _ => ⟨rfl, rfl⟩
  | raw =>
    fun_cases dbRaw env db tx.body with
    | case1 => exact fun hne => absurd rfl hne
    | case2 => exact fun _ => ⟨rfl, rfl⟩

/-- **C07, every failure inside a transaction reaches the caller** (bodies that hand operation
    errors on, Update and Batch): whenever the spec says the transaction must not succeed — a step of
    the body is rejected, the caller returns an error, a pre-commit action of the context fails — the
    model of Db.Update / Db.Batch returns an error. -/
theorem tx_error_surfaces (env : Env) (h : FromCode env) (db : Db) (prevCtx : Ctx) (tx : TxSpec)
    (hw : tx.wellBehaved) (hs : (specTx env db prevCtx tx).ok = false) :
    (runTx env db prevCtx tx).res ≠ .ok := by
  intro hok
  have := (runTx_agree env h.expected db prevCtx tx hw).res.mp hok
  rw [hs] at this
  cases this

/-- a body fails at any step the spec's one-step reading rejects on the database the steps before it leave -/
theorem rejected_step_surfaces (env : Env) (h : FromCode env) (db : Db) (ctx : Ctx)
    (pre post : List Step) (s : Step) (hp : Propagating (pre ++ s :: post))
    (hrej : specStep env s (specBody env db ctx pre) = none) :
    (dbUpdate env db ctx (pre ++ s :: post)).res ≠ .ok := by
  intro hok
  have ha := ((dbUpdate_ok_iff env h.expected db ctx _ hp).mp hok).1
  rw [specBody, specSteps_append_accepted, specSteps_cons, ← specBody, hrej, Bool.and_false] at ha
  cases ha

/-- **the caller's function returns an error** -> Db.Update returns an error -/
theorem caller_error_surfaces (env : Env) (h : FromCode env) (db : Db) (ctx : Ctx) (body : List Step)
    (hp : Propagating body) (tag : Nat) (hm : Step.fail tag ∈ body) :
    (dbUpdate env db ctx body).res ≠ .ok := by
  obtain ⟨pre, post, rfl⟩ := List.append_of_mem hm
  exact rejected_step_surfaces env h db ctx pre post _ hp rfl

/-- an error the caller returns only the first time its function is executed fails a Db.Update (which
    executes it once); a Db.Batch runs the function again and may then commit — that run is covered by
    `tx_error_surfaces` / `history_refines_spec` through the spec of the re-run (`Env.later`, `laterBody`) -/
theorem first_run_error_surfaces (env : Env) (h : FromCode env) (db : Db) (ctx : Ctx) (body : List Step)
    (hp : Propagating body) (tag : Nat) (hm : Step.fail1 tag ∈ body) :
    (dbUpdate env db ctx body).res ≠ .ok := by
  obtain ⟨pre, post, rfl⟩ := List.append_of_mem hm
  exact rejected_step_surfaces env h db ctx pre post _ hp rfl

/-- **a pre-commit action fails** (registered on the context before or during the body) -> error -/
theorem pre_commit_error_surfaces (env : Env) (h : FromCode env) (db : Db) (ctx : Ctx) (body : List Step)
    (hp : Propagating body) (tag : Nat) (hm : (tag, true) ∈ ctx.preActions) :
    (dbUpdate env db ctx body).res ≠ .ok := by
  intro hok
  have hpre := ((dbUpdate_ok_iff env h.expected db ctx body hp).mp hok).2
  have := List.all_eq_true.mp hpre _ ((specSteps_frame env body _).2 _ hm)
  cases this

/-- **a store operation is rejected** at any position of the body -> error: the operations before it
    were accepted (so the body reaches it), it is rejected on the database they produced -/
theorem rejected_operation_surfaces (env : Env) (h : FromCode env) (db : Db) (ctx : Ctx)
    (pre post : List Step) (o : Op) (fault : Fault)
    (hp : Propagating (pre ++ .op o fault false :: post))
    (hrej : OpFails env (specBody env db ctx pre).db o) :
    (dbUpdate env db ctx (pre ++ .op o fault false :: post)).res ≠ .ok :=
  rejected_step_surfaces env h db ctx pre post _ hp (by simp [specStep, opFails_rejected env fault _ o hrej])

/-- **a link operation of the caller is rejected** (AddLinks / SetLinks with a target that does not exist,
    any link operation on an entity that does not exist) at any position of the body -> error -/
theorem rejected_link_step_surfaces (env : Env) (h : FromCode env) (db : Db) (ctx : Ctx)
    (pre post : List Step) (op : LinkOp) (id : String) (ts : List String)
    (hp : Propagating (pre ++ .link op id ts :: post))
    (hrej : (linkStep op id ts (specBody env db ctx pre).db).1.isSome = true) :
    (dbUpdate env db ctx (pre ++ .link op id ts :: post)).res ≠ .ok := by
  refine rejected_step_surfaces env h db ctx pre post _ hp ?_
  obtain ⟨e, he⟩ := Option.isSome_iff_exists.mp hrej
  simp [specStep, he]

-- non-vacuity: AddLinks with a target the linked store does not have
example : (linkStep .add "p1" ["q1", "zz"] [("p1", { f := ⟨"n", [], none, [], []⟩, child := none })]).1 = some .linkMissing := by
  decide

/-- **ghost form, any injected storage fault:** if anything at all was raised while a Db.Update
    transaction ran (body that hands errors on), Db.Update returns an error. -/
theorem tx_raised_surfaces (env : Env) (h : FromCode env) (db : Db) (ctx : Ctx) (body : List Step)
    (hp : Propagating body) (hr : (dbUpdate env db ctx body).raised ≠ []) :
    (dbUpdate env db ctx body).res ≠ .ok := by
  intro hok
  apply hr
  simp only [dbUpdate] at hok ⊢
  cases ha : (attempt env true db ctx body).res with
  | err e =>
    rw [ha] at hok
    cases hok
  | ok => exact ((attempt_refines env h.expected true db ctx body hp).2.2.2 ha).2.2.1

/-- **C07, no false success of a transaction:** a transaction that reports success was accepted by
    the spec and the database is the one the spec computes (every operation had its whole effect). -/
theorem tx_no_false_success (env : Env) (h : FromCode env) (db : Db) (prevCtx : Ctx) (tx : TxSpec)
    (hw : tx.wellBehaved) (hok : (runTx env db prevCtx tx).res = .ok) :
    (specTx env db prevCtx tx).ok = true ∧ (runTx env db prevCtx tx).db = (specTx env db prevCtx tx).db := by
  have ha := runTx_agree env h.expected db prevCtx tx hw
  exact ⟨ha.res.mp hok, ha.db⟩

/-- **all histories:** over any sequence of transactions (each handing errors on), the model of the
    code agrees with the spec transaction by transaction: same outcome, same database, same context,
    and what runs at commit is exactly the commit list of the accepted changes. -/
theorem history_refines_spec (env : Env) (h : FromCode env) (txs : List TxSpec)
    (hw : ∀ tx ∈ txs, tx.wellBehaved) (db : Db) (ctx : Ctx) :
    CaseAgree env (runCase env txs db ctx) (specCase env txs db ctx) :=
  runCase_agree env h.expected txs hw db ctx

-- non-vacuity of the transaction hypotheses
def sampleBody : List Step := [.addCommit 1, .op (.create .C "c1" ⟨"n", ["r"], none, [], []⟩ "k") (.load .P 1) false, .fail 3]
example : TxSpec.wellBehaved { mode := .batch, reuseCtx := true, body := sampleBody } := by
  intro s hs
  simp [sampleBody] at hs
  rcases hs with rfl | rfl | rfl <;> rfl

/-- What the reverted fix 9b55bb4 looks like in the table: DeleteById returning nil when fireEvents
    fails. -/
def tableWithout9b55bb4 : CrudReturns := { expectedReturns with deleteFireEvents := .returnNil }

/-- Under that table the error of a vetoing constraint is dropped — the property fails on this
    concrete input (the veto is raised, the delete reports success). -/
example :
    (runOp { regsP := [], regsC := [.constraint true [(.deleted, "c1")]], txListeners := 0, t := tableWithout9b55bb4 }
      .none (.delete .C "c1") (beginTx [("c1", { f := ⟨"n2", [], none, [], []⟩, child := some "k1" })] Ctx.empty)).2 = .ok ∧
    (runOp { regsP := [], regsC := [.constraint true [(.deleted, "c1")]], txListeners := 0, t := tableWithout9b55bb4 }
      .none (.delete .C "c1") (beginTx [("c1", { f := ⟨"n2", [], none, [], []⟩, child := some "k1" })] Ctx.empty)).1.raised
        = [.veto .C 0] := by
  decide

/-- DeleteById not testing the error that comes with the child store's change flow (the reading of
    `changeFlow, err := …processDeleteConstraints(…); if changeFlow != nil {…} else if err != nil {return err}`). -/
def tableChildConstraintErrorUntested : CrudReturns := { expectedReturns with deleteChildConstraints := .ignore }

def c1Db : Db := [("c1", { f := ⟨"n2", [], none, [], []⟩, child := some "k1" })]

/-- Under that table a delete veto raised by a custom constraint registered ON THE CHILD STORE is
    dropped (one registered on the parent store is raised again by the parent store's own pass): the
    veto is raised, the delete reports success, the entity is gone. -/
example :
    (runOp { regsP := [], regsC := [], txListeners := 0, t := tableChildConstraintErrorUntested, ixC := [[(.beforeDelete, "c1")]] }
      .none (.delete .P "c1") (beginTx c1Db Ctx.empty)).2 = .ok ∧
    (runOp { regsP := [], regsC := [], txListeners := 0, t := tableChildConstraintErrorUntested, ixC := [[(.beforeDelete, "c1")]] }
      .none (.delete .P "c1") (beginTx c1Db Ctx.empty)).1.raised = [.ixVeto .C 0] ∧
    (runOp { regsP := [], regsC := [], txListeners := 0, t := tableChildConstraintErrorUntested, ixC := [[(.beforeDelete, "c1")]] }
      .none (.delete .P "c1") (beginTx c1Db Ctx.empty)).1.db = [] ∧
    (runOp { regsP := [], regsC := [], txListeners := 0, t := tableChildConstraintErrorUntested, ixP := [[(.beforeDelete, "c1")]] }
      .none (.delete .P "c1") (beginTx c1Db Ctx.empty)).2 = .err (.ixVeto .P 0) := by
  decide

/-- PersistContext.GetParentContext assigning the holder the other way round: the child bucket adopts
    the parent bucket's fresh holder. -/
def tableHolderNotShared : CrudReturns := { expectedReturns with persistSharesHolder := false }

/-- Under that table a veto recorded before persisting (ProcessBeforeUpdate, the stage of the
    system-entity constraint) is lost when an entity with child data is updated — through either store:
    the veto is raised, the update reports success and is applied.  A plain parent entity is not affected. -/
example :
    (runOp { regsP := [], regsC := [], txListeners := 0, t := tableHolderNotShared, ixP := [[(.beforeUpdate, "c1")]] }
      .none (.update .P "c1" ⟨"n9", [], none, [], []⟩ "") (beginTx c1Db Ctx.empty)).2 = .ok ∧
    (runOp { regsP := [], regsC := [], txListeners := 0, t := tableHolderNotShared, ixP := [[(.beforeUpdate, "c1")]] }
      .none (.update .P "c1" ⟨"n9", [], none, [], []⟩ "") (beginTx c1Db Ctx.empty)).1.raised = [.ixVeto .P 0] ∧
    (runOp { regsP := [], regsC := [], txListeners := 0, t := tableHolderNotShared, ixP := [[(.beforeUpdate, "c1")]] }
      .none (.update .P "c1" ⟨"n9", [], none, [], []⟩ "") (beginTx c1Db Ctx.empty)).1.db =
        [("c1", { f := ⟨"n9", [], none, [], []⟩, child := some "k1" })] ∧
    (runOp { regsP := [], regsC := [], txListeners := 0, t := tableHolderNotShared, ixP := [[(.beforeUpdate, "p1")]] }
      .none (.update .P "p1" ⟨"n9", [], none, [], []⟩ "") (beginTx [("p1", { f := ⟨"n1", [], none, [], []⟩, child := none })] Ctx.empty)).2
        = .err (.ixVeto .P 0) := by
  decide +kernel

/-- Witness for Db.Batch re-runs that succeed: the function creates an entity and then fails the first
    time only; bbolt runs it again, the second run commits — the result is ok, the body ran twice, the
    entity is there, and what the first run queued is gone with its transaction (one delivery, not two). -/
example :
    (runTx { regsP := [.listener .untyped [⟨.created, false⟩]], regsC := [], txListeners := 1, t := Generated.crudReturns }
      [] Ctx.empty
      { mode := .batch, reuseCtx := false, body := [.addCommit 1, .op (.create .P "p1" ⟨"n", [], none, [], []⟩ "") .none false, .fail1 7] }).res = .ok ∧
    (runTx { regsP := [.listener .untyped [⟨.created, false⟩]], regsC := [], txListeners := 1, t := Generated.crudReturns }
      [] Ctx.empty
      { mode := .batch, reuseCtx := false, body := [.addCommit 1, .op (.create .P "p1" ⟨"n", [], none, [], []⟩ "") .none false, .fail1 7] }).runs = 2 ∧
    (runTx { regsP := [.listener .untyped [⟨.created, false⟩]], regsC := [], txListeners := 1, t := Generated.crudReturns }
      [] Ctx.empty
      { mode := .batch, reuseCtx := false, body := [.addCommit 1, .op (.create .P "p1" ⟨"n", [], none, [], []⟩ "") .none false, .fail1 7] }).fired
      = [.commitActions [1, 1], .listener .P 0 0 false .created (some (.parent "p1" ⟨"n", [], none, [], []⟩)), .txComplete 0] := by
  decide +kernel

/-! ## batch groups: several Db.Batch calls coalesced by bbolt into one batch (Tx/Group.lean)

  bbolt runs the queued calls, in arrival order, inside ONE transaction; when a member's function returns an error
  the shared transaction is rolled back, that member is re-run alone (its result goes to its caller) and the others
  are re-run together.  The theorems hold for every schedule of the solo re-runs relative to the rounds of the batch,
  any number of members, any bodies that hand operation errors on, any fault positions (see also Properties/C08.lean
  for what the committed transactions deliver). -/

/-- **all-or-nothing for batch groups**: a transaction of the group that does not commit — the shared transaction
    in which some member failed, a failed solo re-run — leaves the database as it was and delivers nothing; the
    transactions of the group follow one another on the database (so the database after the group is the result of the
    committed ones alone); and a call that returned an error is part of no committed transaction. -/
theorem batch_group_atomic (env : Env) (specs : Nat → Member) (db : Db) (ctxs : Nat → Ctx)
    (arrival : List Nat) (hn : arrival.Nodup) (sched : List Sched) :
    (∀ t ∈ (runGroup (modelRunner env) specs db ctxs arrival sched).txs, t.committed = false →
      t.dbAfter = t.dbBefore ∧ t.fired = []) ∧
    Linked db (runGroup (modelRunner env) specs db ctxs arrival sched).txs
      (runGroup (modelRunner env) specs db ctxs arrival sched).db ∧
    (∀ k e, (runGroup (modelRunner env) specs db ctxs arrival sched).result k = some (.err e) →
      committedWith k (runGroup (modelRunner env) specs db ctxs arrival sched).txs = 0) := by
  have hi := runGroup_inv (modelRunner env) specs db ctxs arrival hn sched
  refine ⟨?_, hi.linked, ?_⟩
  · intro t ht hc
    exact ⟨(hi.wf t ht).rolled hc, by simp [GTx.fired, hc]⟩
  · intro k e hr
    rw [hi.count k, hr]
    simp

/-- **no false success in a batch group**: a Db.Batch call that returns nil was invoked in a committed transaction,
    and that invocation is one the spec accepts — no step of the body rejected (validation, index, foreign key,
    constraint veto, injected storage error), no error returned by the caller's function, no failing pre-commit action —
    on the database as it was inside that transaction.  Contrapositive: a member all of whose invocations are rejected
    never reports success. -/
theorem batch_group_no_false_success (env : Env) (h : FromCode env) (specs : Nat → Member)
    (hw : ∀ k, Propagating (specs k).body) (db : Db) (ctxs : Nat → Ctx) (arrival : List Nat) (hn : arrival.Nodup)
    (sched : List Sched) (k : Nat)
    (hok : (runGroup (modelRunner env) specs db ctxs arrival sched).result k = some .ok) :
    ∃ t ∈ (runGroup (modelRunner env) specs db ctxs arrival sched).txs, t.committed = true ∧
      ∃ p ∈ t.parts, p.member = k ∧ p.accepted env = true ∧ p.body = (specs k).bodyAt p.inv := by
  have hi := runGroup_inv (modelRunner env) specs db ctxs arrival hn sched
  obtain ⟨t, ht, hcm, hk⟩ := committedWith_pos k _ (by rw [hi.count k, hok, if_pos rfl]; exact Nat.one_ne_zero)
  obtain ⟨p, hp, hpm⟩ := List.mem_map.mp hk
  exact ⟨t, ht, hcm, p, hp, hpm, ((hi.wf t ht).committed_part h.expected hw hcm p hp).1,
    hpm ▸ ((hi.wf t ht).parts p hp).2⟩

end StorageModel.Properties.C07
