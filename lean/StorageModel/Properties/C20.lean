import StorageModel.C20.TransformProofs
import StorageModel.C20.Shape
import StorageModel.C20.Api
import StorageModel.Generated.AcceptTable
/-
  C20 — Public-symbol validation sees every symbol a query references.

  "Public-symbol validation accepts a query if and only if every symbol it references -
  anywhere in the predicate at any nesting depth, inside set functions, as the subject of
  in/between/contains/icontains and null tests, and in sort fields - is public for the store,
  where an element of a map symbol is public exactly when the map is. A single non-public
  symbol anywhere causes rejection naming that symbol."
  (for all typed queries built from every AST node kind x all assignments of
  public/non-public to the store's symbols)

  The theorems are about `Generated.acceptTable`: what the Accept methods in /repo/ast/*.go
  say *now* (regenerated by /verif/extract/accept.go on every run).  `Tree` is generic over
  node kinds, so "every AST node kind", "any nesting depth", sub-queries, set functions, the
  subject of in/between/contains/null tests and sort fields are all instances of the one
  quantifier `∀ q : Tree`.

  Hypotheses (each checked by the driver on every tree the harness takes from the real code):
  * `Admissible T q` — the tree is one the table describes (`shaped`: kinds known, child
    labels are fields of the kind, single-valued fields occur once) and every symbol a node
    holds *only as a string* is announced below it (`namesCovered`; concerns exactly
    AllOfSetExprNode.name / AnyOfSetExprNode.name, see `table_complete_spelled`: the set
    symbol stays the left operand of the hoisted comparison, which is what SetFunctionNode.
    MoveUpTree builds.  The specification side `allSymbols` does count these names, so a
    transformation that lost the operand would be reported with a failing query).
  * `nilOk q` — nil children only where the parser leaves them (no sort/skip/limit clause,
    count/isEmpty without sub-query).
  * `pubWF c` — the public set is an assignment to the store's symbols: no map element is
    marked public on its own while its map is not.
-/
namespace StorageModel.Properties.C20
open StorageModel StorageModel.C20 StorageModel.Generated

/-- The obligations on the regenerated table and accessor data, in one evaluation: most of the kernel's work is
    decoding the kind and field names of the table, which it does once per declaration. -/
theorem table_obligations :
    tableComplete acceptTable = true ∧ optionalTolerated acceptTable = true ∧ transformFacts acceptTable = true ∧
      apiOk acceptTable queryApi = true ∧ symViaOk acceptTable symbolVia = true := by decide +kernel

/-- **Obligation on regenerated data.** Every Accept method forwards the visitor to every
    node-valued field, announces every symbol it holds (the two hoisted set-function names
    excepted), contains no statement the extractor does not understand, and no kind has a
    field that could hide a node. -/
theorem table_complete : tableComplete acceptTable = true := table_obligations.1

/-- **Obligation on regenerated data.** The nil children the parser produces are tolerated
    (`if node.query != nil`, nil-safe receivers of SortByNode / SkipExprNode / LimitExprNode). -/
theorem table_nil_tolerant : optionalTolerated acceptTable = true := table_obligations.2.1

/-- **Obligation on regenerated data.** The validator overrides VisitSymbol only and inherits
    empty callbacks for everything else, so the `hook` steps are invisible to it. -/
theorem validator_shape :
    validatorOverrides = ["VisitSymbol"] ∧ validatorEmbedsDefault = true ∧ defaultVisitorNonEmpty = [] ∧
      validatorFields = ["ast.DefaultVisitor", "store", "err"] := by
  decide +kernel

/-- **Obligation on regenerated data.** The decision structure of `BaseStore.IsPublicSymbol`,
    `publicSymbolValidator.VisitSymbol` and `ValidateSymbolsArePublic`, as read from the source
    (`Generated.validatorShape`), is a good shape: IsPublicSymbol answers, on every valuation of
    what it can observe, "listed itself, or a dotted name whose FIRST segment is a listed MAP
    symbol"; VisitSymbol sets the error to the symbol exactly when none is set yet and the symbol
    is not public; ValidateSymbolsArePublic creates a fresh validator, walks the whole query
    through `query.Accept` (predicate, sort fields, skip, limit) and returns the validator's error. -/
theorem validator_good : GoodShape validatorShape = true := by decide +kernel

/-- `table_complete`, spelled out. -/
theorem table_complete_spelled : ∀ ki ∈ acceptTable,
    (∀ c ∈ ki.children, ∃ g, Step.forward c.field g ∈ ki.steps) ∧
    (∀ f ∈ ki.symFields, Step.announce f ∈ ki.steps ∨ (ki.name, f) ∈ hoistedNames) ∧
    (∀ w, Step.unknown w ∉ ki.steps) ∧
    (∀ f ∈ ki.opaqueFields, (ki.name, f) ∈ aliasFields) := by
  intro ki hki
  obtain ⟨hfwd, hsym, hsteps, hopaque⟩ := tableComplete_spelled table_complete hki
  exact ⟨hfwd, hsym, fun w hw => by simpa [stepOk] using hsteps _ hw, hopaque⟩

structure Admissible (T : Table) (q : Tree) : Prop where
  shaped : shaped T q = true
  names : namesCovered T q = true

theorem admissible_of_check {T : Table} {q : Tree} (h : (C20.shaped T q && namesCovered T q) = true) : Admissible T q :=
  have h := Bool.and_eq_true_iff.mp h
  ⟨h.1, h.2⟩

/-- **Traversal completeness**, for any table that passes the obligation and every tree of
    any depth over any kinds: the symbols announced to a visitor are exactly the symbols the
    query references. -/
theorem visit_sees_all (T : Table) (hT : tableComplete T = true) (q : Tree) (hq : Admissible T q) :
    ∀ s, s ∈ visit T q ↔ s ∈ allSymbols T q :=
  fun s => ⟨visit_sub_all hT q s, all_sub_visit hT q s hq.shaped hq.names⟩

theorem visit_sees_all_repo (q : Tree) (hq : Admissible acceptTable q) :
    ∀ s, s ∈ visit acceptTable q ↔ s ∈ allSymbols acceptTable q :=
  visit_sees_all acceptTable table_complete q hq

theorem no_panic {q : Tree} (hnil : nilOk q = true) : panics acceptTable q = false :=
  nilOk_no_panic table_nil_tolerant q hnil

theorem validate_total_ref (T : Table) (c : PubCfg) (q : Tree) (hp : panics T q = false) :
    validate T c q = .ok ((visit T q).find? (fun s => !isPublicSymbol c s)) := by
  simp [validate, hp, foldl_visitSymbol]

theorem validate_iff_ref (T : Table) (hT : tableComplete T = true) (c : PubCfg) (q : Tree) (hq : Admissible T q)
    (hp : panics T q = false) (hc : pubWF c = true) :
    validate T c q = .ok none ↔ ∀ s ∈ allSymbols T q, specIsPublic c s = true := by
  rw [validate_total_ref T c q hp]
  simp [visit_sees_all T hT q hq, isPublicSymbol_eq_spec hc]

theorem validate_names_ref (T : Table) (hT : tableComplete T = true) (c : PubCfg) (q : Tree) (hq : Admissible T q)
    (hp : panics T q = false) (hc : pubWF c = true) (s : Bytes) (h : validate T c q = .ok (some s)) :
    s ∈ allSymbols T q ∧ specIsPublic c s = false ∧
      ∃ pre post, visit T q = pre ++ s :: post ∧ ∀ x ∈ pre, specIsPublic c x = true := by
  rw [validate_total_ref T c q hp, Outcome.ok.injEq, List.find?_eq_some_iff_append] at h
  obtain ⟨hnp, pre, post, heq, hpre⟩ := h
  simp only [← isPublicSymbol_eq_spec hc]
  exact ⟨(visit_sees_all T hT q hq s).mp (by simp [heq]), by simpa using hnp, pre, post, heq,
    fun x hx => by simpa using hpre x hx⟩

/-- The event-list formulation used above *is* ValidateSymbolsArePublic as written: a fresh
    validator whose state (`err`) is threaded through the statements of every Accept body in
    source order (`accept`, C20/Run.lean), result `visitor.err`. -/
theorem validate_is_stateful_run (c : PubCfg) (q : Tree) :
    validate acceptTable c q = validateRun acceptTable c q := validate_eq_run acceptTable c q

theorem validate_accepts_or_names_ref (T : Table) (c : PubCfg) (q : Tree) (hp : panics T q = false) :
    validate T c q = .ok none ∨ ∃ s, validate T c q = .ok (some s) := by
  rw [validate_total_ref T c q hp]
  cases (visit T q).find? (fun s => !isPublicSymbol c s) with
  | none => exact Or.inl rfl
  | some s => exact Or.inr ⟨s, rfl⟩

/- ----------------------------------------------------------------------------------------------
   The same statements for the validator *as regenerated*: `validateS acceptTable sh` interprets
   the decision structure `sh` of IsPublicSymbol / VisitSymbol / ValidateSymbolsArePublic that
   the extractor reads from boltz/store_query.go and boltz/validate.go.  They hold for EVERY good
   shape (`GoodShape sh`, decidable), and `validator_good` says the shape in the repository is one.
   ---------------------------------------------------------------------------------------------- -/

/-- Validation never dereferences nil on a tree whose nil children are where the parser
    leaves them; the result is the first non-public symbol in visit order. -/
theorem validate_total (sh : ValidatorShape) (hsh : GoodShape sh = true) (c : PubCfg) (q : Tree) (hnil : nilOk q = true) :
    validateS acceptTable sh c q = .ok ((visit acceptTable q).find? (fun s => !isPublicSymbol c s)) := by
  rw [validateS_good acceptTable hsh]; exact validate_total_ref _ c q (no_panic hnil)

/-- **C20, accept iff — for every good validator shape.** ValidateSymbolsArePublic returns nil
    exactly when every referenced symbol is public (map elements public iff the map is). -/
theorem validate_iff (sh : ValidatorShape) (hsh : GoodShape sh = true) (c : PubCfg) (q : Tree)
    (hq : Admissible acceptTable q) (hnil : nilOk q = true) (hc : pubWF c = true) :
    validateS acceptTable sh c q = .ok none ↔ ∀ s ∈ allSymbols acceptTable q, specIsPublic c s = true := by
  rw [validateS_good acceptTable hsh]; exact validate_iff_ref _ table_complete c q hq (no_panic hnil) hc

/-- **C20, the named symbol — for every good validator shape.** A rejection names a referenced,
    non-public symbol: the first one in visit order (everything announced before it is public). -/
theorem validate_names (sh : ValidatorShape) (hsh : GoodShape sh = true) (c : PubCfg) (q : Tree)
    (hq : Admissible acceptTable q) (hnil : nilOk q = true) (hc : pubWF c = true) (s : Bytes)
    (h : validateS acceptTable sh c q = .ok (some s)) :
    s ∈ allSymbols acceptTable q ∧ specIsPublic c s = false ∧
      ∃ pre post, visit acceptTable q = pre ++ s :: post ∧ ∀ x ∈ pre, specIsPublic c x = true := by
  rw [validateS_good acceptTable hsh] at h; exact validate_names_ref _ table_complete c q hq (no_panic hnil) hc s h

/-- Every validation ends in accept or in a rejection (no third outcome on parser-shaped trees). -/
theorem validate_accepts_or_names (sh : ValidatorShape) (hsh : GoodShape sh = true) (c : PubCfg) (q : Tree)
    (hnil : nilOk q = true) :
    validateS acceptTable sh c q = .ok none ∨ ∃ s, validateS acceptTable sh c q = .ok (some s) := by
  rw [validateS_good acceptTable hsh]; exact validate_accepts_or_names_ref _ c q (no_panic hnil)

/-- **Beyond parser-shaped trees** (typed nil pointers stored in interface fields, nil slice
    elements, nil children anywhere — whatever a caller of the exported API can assemble):
    validation panics exactly when the traversal dereferences nil (`panics`: a nil interface that
    is not guarded, or a nil receiver whose Accept reads one of its fields) … -/
theorem validate_panics_iff (sh : ValidatorShape) (hsh : GoodShape sh = true) (c : PubCfg) (q : Tree) :
    validateS acceptTable sh c q = .panic ↔ panics acceptTable q = true := by
  rw [validateS_good acceptTable hsh, validate]
  cases panics acceptTable q <;> simp

/-- … and whenever it does not panic, it still accepts iff every referenced symbol is public and
    names a referenced non-public symbol otherwise (a typed nil pointer references no symbol). -/
theorem validate_iff_nopanic (sh : ValidatorShape) (hsh : GoodShape sh = true) (c : PubCfg) (q : Tree)
    (hq : Admissible acceptTable q) (hp : panics acceptTable q = false) (hc : pubWF c = true) :
    (validateS acceptTable sh c q = .ok none ↔ ∀ s ∈ allSymbols acceptTable q, specIsPublic c s = true) ∧
    ∀ s, validateS acceptTable sh c q = .ok (some s) → s ∈ allSymbols acceptTable q ∧ specIsPublic c s = false := by
  rw [validateS_good acceptTable hsh]
  exact ⟨validate_iff_ref _ table_complete c q hq hp hc,
    fun s h => let ⟨hm, hn, _⟩ := validate_names_ref _ table_complete c q hq hp hc s h; ⟨hm, hn⟩⟩

theorem rejected_of_nonpublic (sh : ValidatorShape) (hsh : GoodShape sh = true) (c : PubCfg) (q : Tree)
    (hq : Admissible acceptTable q) (hnil : nilOk q = true) (hc : pubWF c = true) (s : Bytes)
    (hs : s ∈ allSymbols acceptTable q) (hnp : specIsPublic c s = false) :
    ∃ x, validateS acceptTable sh c q = .ok (some x) ∧ x ∈ allSymbols acceptTable q ∧ specIsPublic c x = false := by
  rcases validate_accepts_or_names sh hsh c q hnil with h | ⟨x, h⟩
  · have := (validate_iff sh hsh c q hq hnil hc).mp h s hs
    rw [hnp] at this; cases this
  · obtain ⟨hm, hn, _⟩ := validate_names sh hsh c q hq hnil hc x h
    exact ⟨x, h, hm, hn⟩

/-- ValidateSymbolsArePublic as it is in the repository now: the regenerated shape, interpreted
    (this is what the model driver runs against the real code). -/
def validateRepo (c : PubCfg) (q : Tree) : Outcome (Option Bytes) := validateS acceptTable validatorShape c q

theorem validateRepo_eq (c : PubCfg) (q : Tree) : validateRepo c q = validate acceptTable c q :=
  validateS_good acceptTable validator_good c q

/-- … instantiated at the regenerated shape. -/
theorem validate_iff_repo (c : PubCfg) (q : Tree) (hq : Admissible acceptTable q) (hnil : nilOk q = true)
    (hc : pubWF c = true) :
    validateRepo c q = .ok none ↔ ∀ s ∈ allSymbols acceptTable q, specIsPublic c s = true :=
  validate_iff validatorShape validator_good c q hq hnil hc

theorem validate_names_repo (c : PubCfg) (q : Tree) (hq : Admissible acceptTable q) (hnil : nilOk q = true)
    (hc : pubWF c = true) (s : Bytes) (h : validateRepo c q = .ok (some s)) :
    s ∈ allSymbols acceptTable q ∧ specIsPublic c s = false ∧
      ∃ pre post, visit acceptTable q = pre ++ s :: post ∧ ∀ x ∈ pre, specIsPublic c x = true :=
  validate_names validatorShape validator_good c q hq hnil hc s h

/-- a good IsPublicSymbol agrees with the specification on every assignment to the store's symbols -/
theorem isPublic_good_eq_spec (sh : ValidatorShape) (hsh : GoodShape sh = true) (c : PubCfg) (hc : pubWF c = true)
    (s : Bytes) : sh.isPublic.eval c s = specIsPublic c s := by
  rw [isPublic_good hsh, isPublicSymbol_eq_spec hc]

/-- **C20, a single non-public symbol anywhere** — at any depth, under any node kind, in a
    sub-query, a set function, a sort field — causes rejection naming exactly that symbol. -/
theorem single_nonpublic_named (c : PubCfg) (q : Tree) (hq : Admissible acceptTable q)
    (hnil : nilOk q = true) (hc : pubWF c = true) (s : Bytes)
    (hs : s ∈ allSymbols acceptTable q) (hnp : specIsPublic c s = false)
    (hothers : ∀ x ∈ allSymbols acceptTable q, x ≠ s → specIsPublic c x = true) :
    validateRepo c q = .ok (some s) := by
  obtain ⟨x, h, hm, hn⟩ := rejected_of_nonpublic validatorShape validator_good c q hq hnil hc s hs hnp
  by_cases he : x = s
  · rw [← he]; exact h
  · have := hothers x hm he
    rw [hn] at this; cases this

/-- A typing transformation (ast/node_convert.go: untyped listener tree ↦ typed query) that
    neither drops nor invents a symbol. -/
def SymbolPreserving (tr : Tree → Option Tree) : Prop :=
  ∀ u t, tr u = some t → ∀ s, s ∈ allSymbols acceptTable t ↔ s ∈ allSymbols acceptTable u

/-- **C20 at the level of the query text.** For any symbol-preserving typing transformation,
    validation of the typed query accepts iff every symbol of the *untyped* tree (one
    UntypedSymbolNode per identifier of the text, sort fields and sub-queries included) is
    public.  For the modelled transformation `transform` the hypothesis is a theorem
    (`typed_tree_symbols`, and `validate_iff_transform` is this statement for it); for the real
    one it is checked on every parsed query of every run (the `tt` flag of the specification
    line) and a query whose typed tree lost a symbol of its text is reported as a violation —
    e.g. `count(from s where x = 1)` before the sub-query was kept. -/
theorem validate_iff_source (tr : Tree → Option Tree) (htr : SymbolPreserving tr) (c : PubCfg) (u t : Tree)
    (ht : tr u = some t) (hq : Admissible acceptTable t) (hnil : nilOk t = true) (hc : pubWF c = true) :
    validateRepo c t = .ok none ↔ ∀ s ∈ allSymbols acceptTable u, specIsPublic c s = true := by
  rw [validateRepo_eq, validate_iff_ref _ table_complete c t hq (no_panic hnil) hc]
  simp only [htr u t ht]

/-- **Obligation on regenerated data**: every method of queryNode that belongs to the exported
    interface ast.Query is one of the recognised accessor shapes (getter of a field or of the
    elements of a slice field, setter, adoption from another query, construction from scalars,
    scalar getter, evaluation), and every field it reads or writes is a node-valued field that
    the owning kind's Accept forwards; every `Symbol()` method returns a string field the table
    counts as a symbol, or delegates to a node-valued field. -/
theorem query_api_covered : apiOk acceptTable queryApi = true ∧ symViaOk acceptTable symbolVia = true :=
  table_obligations.2.2.2

/-- **Obligation on regenerated data**: an alias field (AnyOfSetExprNode.seekablePredicate, the
    seek-optimised form of `anyOf(set) = "const"`) is written only by composite literals that set
    the aliased child field to the very same node, so nothing is reachable through the alias that
    Accept does not reach through the child. -/
theorem alias_sites_ok : aliasSites.all (fun s => s.2.2.2) = true := by decide +kernel

/-- **Every symbol the Query API hands out has been announced to the validator**: the symbols of
    `GetSortFields()` and everything below `GetPredicate()` — also after `SetPredicate`,
    `AdoptSortFields`, … , which only store into fields that Accept forwards. -/
theorem api_symbols_seen (q : Tree) (hq : Admissible acceptTable q) (n : Nat) :
    (∀ s, some s ∈ sortFieldSymbols symbolVia queryApi n q → s ∈ visit acceptTable q) ∧
    (∀ t ∈ getPredicate queryApi q, ∀ s ∈ allSymbols acceptTable t, s ∈ visit acceptTable q) := by
  obtain ⟨h1, h2⟩ := api_symbols_referenced (T := acceptTable) query_api_covered.2 queryApi n q
  exact ⟨fun s hs => (visit_sees_all_repo q hq s).mpr (h1 s hs),
    fun t ht s hs => (visit_sees_all_repo q hq s).mpr (h2 t ht s hs)⟩

/-- the regenerated facts the typing transformation consults: the table and the constants of
    BinaryOp / SetFunction / boolBinaryOp -/
def repoEnv : Env := { T := acceptTable, E := enumConsts }

/-- **Obligation on regenerated data** for the typing transformation: every node shape it builds
    is one the table describes; the kinds it builds and consumes hold no symbol in their own
    strings except the symbol kinds, which keep it in `symbol` and announce it; SortByNode has only
    slice children; NullConstNode has none. -/
theorem transform_facts : transformFacts acceptTable = true := table_obligations.2.2.1

/-- **The typed tree references exactly the symbols of the query text** — for the tree the
    modelled transformation `transform` (C20/Transform.lean: transformTypes and every
    TypeTransform / TypeTransformBool method, a deterministic function directed by the symbol
    types Σ, the regenerated interface table and GetType constants) builds, any depth, any Σ:
    neither drops nor invents a symbol; set functions hoisted above their comparison, the subject
    of `anyOf` kept inside the predicate, sub-queries and their sort fields included. -/
theorem typed_tree_symbols (n : Nat) (st : SymTab) (u t : Tree) (h : transform repoEnv n st u = .ok t) :
    ∀ s, s ∈ allSymbols acceptTable t ↔ s ∈ allSymbols acceptTable u :=
  (transform_good repoEnv table_complete transform_facts n st u t h).syms

/-- **`Admissible` and `nilOk` are consequences**, not hypotheses, for the tree the
    transformation builds: it is a tree the table describes, every hoisted set-function name is
    announced below its node, nil children are only where the parser leaves them. -/
theorem typed_tree_admissible (n : Nat) (st : SymTab) (u t : Tree) (h : transform repoEnv n st u = .ok t) :
    Admissible acceptTable t ∧ nilOk t = true ∧ t.isNil = false :=
  have g := transform_good repoEnv table_complete transform_facts n st u t h
  ⟨⟨g.shaped, g.covered⟩, g.nilok, g.nonnil⟩

/-- **C20 at the level of the query text, for every good validator shape.**  If `t` is the typed
    query the transformation builds from the untyped listener tree `u` (one UntypedSymbolNode per
    identifier of the text, sort fields and sub-queries included), validation of `t` accepts iff
    every identifier of the text is public.  The only hypothesis besides `transform … = .ok t` is
    that the public set is an assignment to the store's symbols (`pubWF`). -/
theorem validate_iff_transform (sh : ValidatorShape) (hsh : GoodShape sh = true) (c : PubCfg) (n : Nat) (st : SymTab)
    (u t : Tree) (h : transform repoEnv n st u = .ok t) (hc : pubWF c = true) :
    validateS acceptTable sh c t = .ok none ↔ ∀ s ∈ allSymbols acceptTable u, specIsPublic c s = true := by
  obtain ⟨hq, hnil, _⟩ := typed_tree_admissible n st u t h
  rw [validate_iff sh hsh c t hq hnil hc]
  simp only [typed_tree_symbols n st u t h]

/-- … and a rejection names a non-public identifier of the text; validation never panics on it. -/
theorem validate_names_transform (sh : ValidatorShape) (hsh : GoodShape sh = true) (c : PubCfg) (n : Nat) (st : SymTab)
    (u t : Tree) (h : transform repoEnv n st u = .ok t) (hc : pubWF c = true) :
    (validateS acceptTable sh c t = .ok none ∨ ∃ s, validateS acceptTable sh c t = .ok (some s)) ∧
    ∀ s, validateS acceptTable sh c t = .ok (some s) → s ∈ allSymbols acceptTable u ∧ specIsPublic c s = false := by
  obtain ⟨hq, hnil, _⟩ := typed_tree_admissible n st u t h
  refine ⟨validate_accepts_or_names sh hsh c t hnil, ?_⟩
  intro s hs
  obtain ⟨hm, hn, _⟩ := validate_names sh hsh c t hq hnil hc s hs
  exact ⟨(typed_tree_symbols n st u t h s).mp hm, hn⟩

/-- … instantiated at the regenerated validator. -/
theorem validate_iff_transform_repo (c : PubCfg) (n : Nat) (st : SymTab) (u t : Tree)
    (h : transform repoEnv n st u = .ok t) (hc : pubWF c = true) :
    validateRepo c t = .ok none ↔ ∀ s ∈ allSymbols acceptTable u, specIsPublic c s = true :=
  validate_iff_transform validatorShape validator_good c n st u t h hc

/-- **C20, map elements.** A name `m.rest` whose first segment `m` is a map symbol is public
    exactly when `m` is. -/
theorem map_element_public_iff (c : PubCfg) (m rest : Bytes) (hm : c.maps.contains m = true)
    (hdot : (46 : UInt8) ∉ m) :
    specIsPublic c (m ++ 46 :: rest) = c.pub.contains m := by
  obtain ⟨x, r, h⟩ := splitDot_elem m rest hdot
  simp only [specIsPublic, h, hm, if_true]

/-- … and the code agrees, for every assignment to the store's symbols. -/
theorem map_element_public_iff_code (c : PubCfg) (hc : pubWF c = true) (m rest : Bytes)
    (hm : c.maps.contains m = true) (hdot : (46 : UInt8) ∉ m) :
    validatorShape.isPublic.eval c (m ++ 46 :: rest) = c.pub.contains m := by
  rw [isPublic_good_eq_spec _ validator_good c hc, map_element_public_iff c m rest hm hdot]

/-- A dotted name whose first segment is *not* a map symbol (`kids.label`, `boss.name`) is
    public only if listed itself — never because its first segment is. -/
theorem composite_not_inherited (c : PubCfg) (s : Bytes) (base x : Bytes) (r : List Bytes)
    (h : splitDot s = base :: x :: r) (hm : c.maps.contains base = false) :
    validatorShape.isPublic.eval c s = c.pub.contains s := by
  rw [isPublic_good validator_good, isPublicSymbol]
  simp only [h, hm]
  cases c.pub.contains s <;> rfl

private def b (s : String) : Bytes := s.toUTF8.toList

/-- `name = "x" and anyOf(roles) = "a" sort by n` as the parser builds it -/
def sampleQuery : Tree :=
  .node "queryNode" []
    (.cons "Predicate"
      (.node "AndExprNode" []
        (.cons "left" (.node "BinaryStringExprNode" [("op", [0])]
          (.cons "left" (.node "StringSymbolNode" [("symbol", [110, 97, 109, 101])] .none)
          (.cons "right" (.node "StringConstNode" [("value", [120])] .none) .none)))
        (.cons "right" (.node "AnyOfSetExprNode" [("name", [114, 111, 108, 101, 115])]
          (.cons "predicate" (.node "BinaryStringExprNode" [("op", [0])]
            (.cons "left" (.node "StringSymbolNode" [("symbol", [114, 111, 108, 101, 115])] .none)
            (.cons "right" (.node "StringConstNode" [("value", [97])] .none) .none))) .none)) .none)))
    (.cons "SortBy" (.node "SortByNode" []
      (.cons "SortFields" (.node "SortFieldNode" [] (.cons "symbol" (.node "Int64SymbolNode" [("symbol", [110])] .none) .none)) .none))
    (.cons "Skip" .nil (.cons "Limit" .nil .none))))

def sampleCfg : PubCfg := { maps := [[116, 97, 103, 115]], pub := [[110, 97, 109, 101], [114, 111, 108, 101, 115], [116, 97, 103, 115]] }

/-- the bool symbol `<s>` alone as the predicate -/
def oneBool (s : Bytes) : Tree :=
  .node "queryNode" []
    (.cons "Predicate" (.node "BoolSymbolNode" [("symbol", s)] .none) (.cons "SortBy" .nil (.cons "Skip" .nil (.cons "Limit" .nil .none))))

/-- `<s> = "x"` as the parser builds it for a string-typed symbol -/
def oneSymQuery (s : Bytes) : Tree :=
  .node "queryNode" []
    (.cons "Predicate" (.node "BinaryStringExprNode" [("op", [0])]
      (.cons "left" (.node "StringSymbolNode" [("symbol", s)] .none)
      (.cons "right" (.node "StringConstNode" [("value", [120])] .none) .none)))
    (.cons "SortBy" .nil (.cons "Skip" .nil (.cons "Limit" .nil .none))))

def nLabels : Bytes := [108, 97, 98, 101, 108, 115]
def nInternal : Bytes := [105, 110, 116, 101, 114, 110, 97, 108]
def nTags : Bytes := [116, 97, 103, 115]
def nNotes : Bytes := [110, 111, 116, 101, 115]
def nLabelsEnv : Bytes := nLabels ++ 46 :: [101, 110, 118]
def nInternalOwner : Bytes := nInternal ++ 46 :: [111, 119, 110, 101, 114]

example : pubWF sampleCfg = true := by decide +kernel
/-- an Accept that dereferences a nil mandatory child panics in the model as in Go -/
example : validateRepo sampleCfg
    (.node "AndExprNode" [] (.cons "left" .nil (.cons "right" .nil .none))) = .panic := by decide +kernel

/-- typed nil pointers: `(*BoolConstNode)(nil)` (Accept only passes the receiver on) is harmless,
    `(*AndExprNode)(nil)` (Accept reads `left`) and `(*NullConstNode)(nil)` (value receiver) panic;
    a nil *LimitExprNode in an Int64Node-typed field is tolerated (`if node != nil`) -/
example : panics acceptTable (.node "NotExprNode" [] (.cons "expr" (.tnil "BoolConstNode") .none)) = false := by decide +kernel
example : panics acceptTable (.node "NotExprNode" [] (.cons "expr" (.tnil "AndExprNode") .none)) = true := by decide +kernel
example : panics acceptTable (.node "BinaryExprNode" [("op", [0])]
    (.cons "left" (.tnil "LimitExprNode") (.cons "right" (.tnil "NullConstNode") .none))) = true := by decide +kernel
example : panics acceptTable (.node "Int64BetweenExprNode" []
    (.cons "left" (.tnil "LimitExprNode") (.cons "lower" (.tnil "SkipExprNode") (.cons "upper" (.tnil "LimitExprNode") .none)))) = false := by decide +kernel
/-- a nil element of SortByNode.SortFields is dereferenced by SortFieldNode.Accept -/
example : panics acceptTable (.node "SortByNode" [] (.cons "SortFields" .nil .none)) = true := by decide +kernel

/-- the untyped tree of the same text, as the listener builds it -/
def sampleUntyped : Tree :=
  .node "untypedQueryNode" []
    (.cons "predicate"
      (.node "BooleanLogicExprNode" [("op", [0])]
        (.cons "left" (.node "BinaryExprNode" [("op", [0])]
          (.cons "left" (.node "UntypedSymbolNode" [("symbol", [110, 97, 109, 101])] .none)
          (.cons "right" (.node "StringConstNode" [("value", [120])] .none) .none)))
        (.cons "right" (.node "BinaryExprNode" [("op", [0])]
          (.cons "left" (.node "SetFunctionNode" [("setFunction", [1])]
            (.cons "symbol" (.node "UntypedSymbolNode" [("symbol", [114, 111, 108, 101, 115])] .none) .none))
          (.cons "right" (.node "StringConstNode" [("value", [97])] .none) .none))) .none)))
    (.cons "sortBy" (.node "SortByNode" []
      (.cons "SortFields" (.node "SortFieldNode" [] (.cons "symbol" (.node "UntypedSymbolNode" [("symbol", [110])] .none) .none)) .none))
    (.cons "skip" .nil (.cons "limit" .nil .none))))

/-- `name`, `roles` strings, `n` an int64 -/
def sampleTypes : SymTab :=
  .mk (fun s => if s = [110] then some .int64 else if s = [110, 97, 109, 101] ∨ s = [114, 111, 108, 101, 115] then some .string else none)
      (fun _ => none)

/-- the transformation turns the untyped tree of the text into exactly the typed query above -/
theorem sample_transform : transform repoEnv 10 sampleTypes sampleUntyped = .ok sampleQuery := okIs_sound (by decide +kernel)

example : transform repoEnv 10 sampleTypes sampleUntyped = .ok sampleQuery := sample_transform
/-- … which is therefore a tree the table describes, with nil only where the parser leaves it (`typed_tree_admissible`) -/
example : Admissible acceptTable sampleQuery := (typed_tree_admissible _ _ _ _ sample_transform).1
example : nilOk sampleQuery = true := (typed_tree_admissible _ _ _ _ sample_transform).2.1

/- good and bad validator shapes (the obligation `validator_good` is not vacuous, and `GoodShape`
   is a family: it accepts every program that decides the same way) -/

/-- a differently written validator: IsPublicSymbol looks the first segment up in mapSymbols
    first and has no `len(parts) > 1` test; VisitSymbol returns early once an error is set -/
def altShape : ValidatorShape :=
  { isPublic := .ite (.lookup .maps .firstSeg) (.ret (.or (.lookup .pub .sym) (.lookup .pub .firstSeg))) (.ret (.lookup .pub .sym)),
    visitSymbol := [.returnIf [⟨.errNil, false⟩], .returnIf [⟨.isPublic, true⟩], .setErrIf [] .symbol],
    walk := [.newVisitor ["store"], .acceptQuery, .returnErr], getters := [] }

example : GoodShape altShape = true := by decide +kernel

/-- IsPublicSymbol without the map test: `boss.name` inherits from the public non-map `boss` -/
def shapeNoMapTest : ValidatorShape :=
  { validatorShape with isPublic := .ite (.lookup .pub .sym) (.ret (.const true)) (.ite .dotNotFirst (.ret (.lookup .pub .firstSeg)) (.ret (.const false))) }
/-- IsPublicSymbol cutting at the LAST dot: `tags.a.b` is looked up as an element of `tags.a` -/
def shapeLastDot : ValidatorShape :=
  { validatorShape with isPublic := .ite (.lookup .pub .sym) (.ret (.const true)) (.ite .lastDotNotFirst (.ite (.lookup .maps .uptoLastDot) (.ret (.lookup .pub .uptoLastDot)) (.ret (.const false))) (.ret (.const false))) }
/-- VisitSymbol that keeps the LAST offending symbol; a walk over the predicate only; a fast path -/
def shapeKeepsLast : ValidatorShape := { validatorShape with visitSymbol := [.setErrIf [⟨.isPublic, false⟩] .symbol] }
def shapePredicateOnly : ValidatorShape := { validatorShape with walk := [.newVisitor ["store"], .acceptGetter "GetPredicate", .returnErr] }
def shapeFastPath : ValidatorShape := { validatorShape with walk := .returnNilIf "predicate.IsConst()" :: validatorShape.walk }

/-- The walks of the sample queries over the regenerated table: no nil dereference, the symbols announced in order (`roles`
    by the comparison below `anyOf`); for the one shape that does not walk the whole query, its verdict.  In one
    evaluation, since the kernel decodes the table's names once per declaration; the verdicts below are
    `validateS_of_walk` on these walks and a run of the shape's VisitSymbol, which does not consult the table. -/
theorem sample_walks :
    (panics acceptTable sampleQuery = false ∧
      visit acceptTable sampleQuery = [[110, 97, 109, 101], [114, 111, 108, 101, 115], [110]]) ∧
    (∀ s ∈ [[98, 111, 115, 115, 46, 110, 97, 109, 101], [116, 97, 103, 115, 46, 97, 46, 98]],
      panics acceptTable (oneBool s) = false ∧ visit acceptTable (oneBool s) = [s]) ∧
    (∀ s ∈ [nLabelsEnv, nInternalOwner, nNotes],
      panics acceptTable (oneSymQuery s) = false ∧ visit acceptTable (oneSymQuery s) = [s]) ∧
    validateS acceptTable shapePredicateOnly sampleCfg sampleQuery = .ok none := by decide +kernel

/-- the sort field `n` is the one non-public symbol: rejected, naming `n` -/
example : validateRepo sampleCfg sampleQuery = .ok (some [110]) := by
  rw [validateRepo, validateS_of_walk rfl sample_walks.1]; decide
example : validateRepo { sampleCfg with pub := [110] :: sampleCfg.pub } sampleQuery = .ok none := by
  rw [validateRepo, validateS_of_walk rfl sample_walks.1]; decide
example : validateS acceptTable altShape sampleCfg sampleQuery = .ok (some [110]) := by
  rw [validateS_of_walk rfl sample_walks.1]; decide

/-- **The shape obligation is not vacuous**: each of these is rejected by `GoodShape`, and the
    first three mis-validate a concrete query. -/
theorem bad_shapes_witness :
    let c : PubCfg := { maps := [[116, 97, 103, 115]], pub := [[116, 97, 103, 115], [98, 111, 115, 115]] }
    let one (s : Bytes) : Tree := .node "queryNode" []
      (.cons "Predicate" (.node "BoolSymbolNode" [("symbol", s)] .none) (.cons "SortBy" .nil (.cons "Skip" .nil (.cons "Limit" .nil .none))))
    GoodShape shapeNoMapTest = false ∧ GoodShape shapeLastDot = false ∧ GoodShape shapeKeepsLast = false ∧
    GoodShape shapePredicateOnly = false ∧ GoodShape shapeFastPath = false ∧
    specIsPublic c [98, 111, 115, 115, 46, 110, 97, 109, 101] = false ∧ validateS acceptTable shapeNoMapTest c (one [98, 111, 115, 115, 46, 110, 97, 109, 101]) = .ok none ∧
    specIsPublic c [116, 97, 103, 115, 46, 97, 46, 98] = true ∧ validateS acceptTable shapeLastDot c (one [116, 97, 103, 115, 46, 97, 46, 98]) = .ok (some [116, 97, 103, 115, 46, 97, 46, 98]) ∧
    validateRepo c (one [98, 111, 115, 115, 46, 110, 97, 109, 101]) = .ok (some [98, 111, 115, 115, 46, 110, 97, 109, 101]) ∧ validateRepo c (one [116, 97, 103, 115, 46, 97, 46, 98]) = .ok none ∧
    validateS acceptTable shapePredicateOnly sampleCfg sampleQuery = .ok none ∧
    validateRepo sampleCfg sampleQuery = .ok (some [110]) := by
  intro c one
  obtain ⟨ws, w1, -, wp⟩ := sample_walks
  have wb : panics acceptTable (one _) = false ∧ visit acceptTable (one _) = _ := w1 _ (.head _)
  have wt : panics acceptTable (one _) = false ∧ visit acceptTable (one _) = _ := w1 _ (.tail _ (.head _))
  -- `boss.name` resp. `tags.a.b` is all a validator hears of `one …`; the shapes differ in what IsPublicSymbol answers
  simp only [validateRepo, validateS_of_walk (sh := shapeNoMapTest) rfl wb, validateS_of_walk (sh := shapeLastDot) rfl wt,
    validateS_of_walk (sh := validatorShape) rfl wb, validateS_of_walk (sh := validatorShape) rfl wt,
    validateS_of_walk (sh := validatorShape) rfl ws, wp]
  decide +kernel

/-- remove the `forward field` steps from one kind of a table (an Accept that stops forwarding a child) -/
def dropForward (T : Table) (kind field : String) : Table :=
  T.map fun ki => if ki.name == kind then
    { ki with steps := ki.steps.filter fun st => match st with
        | .forward f _ => f != field
        | _ => true } else ki

/-- remove the `announce` steps from one kind (an Accept that no longer calls VisitSymbol) -/
def dropAnnounce (T : Table) (kind : String) : Table :=
  T.map fun ki => if ki.name == kind then
    { ki with steps := ki.steps.filter fun st => match st with
        | .announce _ => false
        | _ => true } else ki

/-- `n between 1 and <symbol at>` under a query node: `at` is referenced as the upper bound -/
def betweenUpper : Tree :=
  .node "queryNode" []
    (.cons "Predicate" (.node "Int64BetweenExprNode" []
      (.cons "left" (.node "Int64SymbolNode" [("symbol", [110])] .none)
      (.cons "lower" (.node "Int64ConstNode" [] .none)
      (.cons "upper" (.node "AnyTypeSymbolNode" [("symbol", [97, 116])] .none) .none))))
    (.cons "SortBy" .nil (.cons "Skip" .nil (.cons "Limit" .nil .none))))

/-- **The table obligation is not vacuous.** On a table whose Int64BetweenExprNode no longer
    forwards `upper`, or whose AnyTypeSymbolNode no longer announces, the obligation fails and
    validation accepts a query that references the non-public symbol `at` — while the real
    table rejects it, naming `at`. -/
theorem incomplete_table_witness :
    let c : PubCfg := { maps := [], pub := [[110]] }
    tableComplete (dropForward acceptTable "Int64BetweenExprNode" "upper") = false ∧
    validateS (dropForward acceptTable "Int64BetweenExprNode" "upper") validatorShape c betweenUpper = .ok none ∧
    tableComplete (dropAnnounce acceptTable "AnyTypeSymbolNode") = false ∧
    validateS (dropAnnounce acceptTable "AnyTypeSymbolNode") validatorShape c betweenUpper = .ok none ∧
    [97, 116] ∈ allSymbols acceptTable betweenUpper ∧ specIsPublic c [97, 116] = false ∧
    validateRepo c betweenUpper = .ok (some [97, 116]) := by decide +kernel

/-- The assignments excluded by `pubWF`: `MakeSymbolPublic("tags.k")` with `tags` non-public
    makes the element public although its map is not (the code follows the explicit marking). -/
theorem explicit_element_marking :
    let c : PubCfg := { maps := [[116, 97, 103, 115]], pub := [[116, 97, 103, 115, 46, 107]] }
    pubWF c = false ∧ validatorShape.isPublic.eval c [116, 97, 103, 115, 46, 107] = true ∧
      specIsPublic c [116, 97, 103, 115, 46, 107] = false := by decide +kernel

/- ------------------------------------------------------------------------------------------------
   Child stores.  A store built with `StoreDefinition.Parent` has its own `publicSymbols` / `mapSymbols`
   (filled once by the parent's `GrantSymbols`, then changed independently by `MakeSymbolPublic` on either
   store).  `PubCfg.parents` carries the key sets of the stores up the parent chain, and the interpreted
   IsPublicSymbol may consult them (`CondE.hasParent`, `CondE.parentPublic`: the same program run by the
   parent).  "Public for the store" is the validating store's own assignment: `specIsPublic`, `pubWF`,
   `isPublicSymbol` never look at `parents`, and every good shape ignores them.
   ---------------------------------------------------------------------------------------------- -/

/-- **the validating store's own assignment decides — for every good shape, every parent chain**:
    validation against a child store is validation against its own two key sets -/
theorem validate_own_assignment (sh : ValidatorShape) (hsh : GoodShape sh = true) (c : PubCfg)
    (ps : List (List Bytes × List Bytes)) (q : Tree) :
    validateS acceptTable sh { c with parents := ps } q = validateS acceptTable sh { c with parents := [] } q := by
  rw [validateS_good acceptTable hsh, validateS_good acceptTable hsh]; rfl

/-- a good IsPublicSymbol on a child store answers by the child's own assignment, whatever its ancestors expose -/
theorem isPublic_own_assignment (sh : ValidatorShape) (hsh : GoodShape sh = true) (c : PubCfg) (hc : pubWF c = true)
    (ps : List (List Bytes × List Bytes)) (s : Bytes) :
    sh.isPublic.eval { c with parents := ps } s = specIsPublic c s :=
  isPublic_good_eq_spec sh hsh { c with parents := ps } hc s

/-- **a symbol that is non-public on the validating (child) store is rejected even if every ancestor exposes
    it**; the parents are universally quantified and appear in no hypothesis -/
theorem child_nonpublic_rejected (sh : ValidatorShape) (hsh : GoodShape sh = true) (c : PubCfg)
    (ps : List (List Bytes × List Bytes)) (q : Tree)
    (hq : Admissible acceptTable q) (hnil : nilOk q = true) (hc : pubWF c = true) (s : Bytes)
    (hs : s ∈ allSymbols acceptTable q) (hnp : specIsPublic c s = false) :
    ∃ x, validateS acceptTable sh { c with parents := ps } q = .ok (some x) ∧ x ∈ allSymbols acceptTable q ∧
      specIsPublic c x = false :=
  rejected_of_nonpublic sh hsh { c with parents := ps } q hq hnil hc s hs hnp

/-- IsPublicSymbol that falls back to the parent store ("symbols the parent exposes are exposed by the child") -/
def parentFallback : DTree := .ite .hasParent (.ret (.parentPublic .sym)) (.ret (.const false))
def shapeParentFallback : ValidatorShape :=
  { validatorShape with isPublic := (.ite (.lookup .pub .sym) (.ret (.const true))
      (.ite (.segsMoreThan 1) (.ite (.lookup .maps .firstSeg) (.ret (.lookup .pub .firstSeg)) parentFallback) parentFallback)) }

/-- **The own-assignment obligation is not vacuous**: the parent-fallback shape is rejected by `GoodShape`;
    on a child store where `n` is non-public while the parent (or only the grandparent) exposes it, it
    accepts `sampleQuery` (sort field `n`), the repository's shape rejects it naming `n`; without a parent
    the two agree. -/
theorem parent_fallback_witness :
    let child : PubCfg := { sampleCfg with parents := [(sampleCfg.maps, [110] :: sampleCfg.pub)] }
    let grandchild : PubCfg := { sampleCfg with parents := [(sampleCfg.maps, sampleCfg.pub), (sampleCfg.maps, [110] :: sampleCfg.pub)] }
    GoodShape shapeParentFallback = false ∧
    specIsPublic child [110] = false ∧ pubWF child = true ∧
    validateS acceptTable shapeParentFallback child sampleQuery = .ok none ∧
    validateS acceptTable shapeParentFallback grandchild sampleQuery = .ok none ∧
    validateRepo child sampleQuery = .ok (some [110]) ∧ validateRepo grandchild sampleQuery = .ok (some [110]) ∧
    validateS acceptTable shapeParentFallback sampleCfg sampleQuery = .ok (some [110]) := by
  -- both shapes hear `name`, `roles`, `n`; they differ in what IsPublicSymbol answers for `n` on a store with ancestors
  simp only [validateRepo, validateS_of_walk (sh := shapeParentFallback) rfl sample_walks.1,
    validateS_of_walk (sh := validatorShape) rfl sample_walks.1]
  decide +kernel

/- ------------------------------------------------------------------------------------------------
   Naming.  A symbol is addressed by its NAME and stored under a KEY (`AddMapSymbol(name, type, key)`,
   `AddSymbolWithKey`, `AddFkSymbolWithKey`); `PubCfg.mapKeys` / `PubCfg.symKeys` carry the (name, key) pairs of
   `store.mapSymbols` / `store.symbols` — arbitrary lists, so a key may be the name of any other symbol — and the
   interpreted IsPublicSymbol can read them (`NameE.mapKey n` = `store.mapSymbols[n].key`, `NameE.symKey n`).
   "Public" is a statement about names: `specIsPublic`, `pubWF`, `isPublicSymbol` never look at a key, every theorem
   above quantifies over configurations with arbitrary keys, and a good shape's verdict does not depend on them.
   ---------------------------------------------------------------------------------------------- -/

/-- **the verdict does not depend on any symbol's key — for every good shape, every configuration** -/
theorem keys_irrelevant (sh : ValidatorShape) (hsh : GoodShape sh = true) (c : PubCfg)
    (mk sk : List (Bytes × Bytes)) (q : Tree) :
    validateS acceptTable sh { c with mapKeys := mk, symKeys := sk } q =
      validateS acceptTable sh { c with mapKeys := [], symKeys := [] } q := by
  rw [validateS_good acceptTable hsh, validateS_good acceptTable hsh]; rfl

/-- a good IsPublicSymbol answers by names: the specification of the configuration, whatever the keys are -/
theorem isPublic_keys_irrelevant (sh : ValidatorShape) (hsh : GoodShape sh = true) (c : PubCfg) (hc : pubWF c = true)
    (mk sk : List (Bytes × Bytes)) (s : Bytes) :
    sh.isPublic.eval { c with mapKeys := mk, symKeys := sk } s = specIsPublic c s :=
  isPublic_good_eq_spec sh hsh { c with mapKeys := mk, symKeys := sk } hc s

/-- **both directions, keys and parent chain arbitrary and in no hypothesis**: a query all of whose referenced names
    are public is accepted (an element of a public map addressed by the map's NAME included), and a query that
    references a name that is not public is rejected naming such a name (an element of a non-public map whose KEY
    is the name of a public symbol included) -/
theorem keyed_validate_iff (sh : ValidatorShape) (hsh : GoodShape sh = true) (c : PubCfg)
    (mk sk : List (Bytes × Bytes)) (ps : List (List Bytes × List Bytes)) (q : Tree)
    (hq : Admissible acceptTable q) (hnil : nilOk q = true) (hc : pubWF c = true) :
    ((∀ s ∈ allSymbols acceptTable q, specIsPublic c s = true) →
        validateS acceptTable sh { c with mapKeys := mk, symKeys := sk, parents := ps } q = .ok none) ∧
    (∀ s ∈ allSymbols acceptTable q, specIsPublic c s = false →
        ∃ x, validateS acceptTable sh { c with mapKeys := mk, symKeys := sk, parents := ps } q = .ok (some x) ∧
          x ∈ allSymbols acceptTable q ∧ specIsPublic c x = false) :=
  ⟨(validate_iff sh hsh { c with mapKeys := mk, symKeys := sk, parents := ps } q hq hnil hc).mpr,
    rejected_of_nonpublic sh hsh { c with mapKeys := mk, symKeys := sk, parents := ps } q hq hnil hc⟩

/-- public map `labels` stored under key `tags`; non-public map `internal` stored under key `notes`; a public
    plain symbol `notes` stored under key `n`, which is not listed -/
def keyedCfg : PubCfg :=
  { maps := [nLabels, nInternal], pub := [[110, 97, 109, 101], nNotes, nLabels],
    mapKeys := [(nLabels, nTags), (nInternal, nNotes)], symKeys := [(nNotes, [110])] }

/-- IsPublicSymbol that looks the map's visibility up under the map symbol's KEY
    (`_, isPublic := store.publicSymbols[mapSymbol.key]`) -/
def shapeMapKey : ValidatorShape :=
  { validatorShape with isPublic := (.ite (.lookup .pub .sym) (.ret (.const true))
      (.ite (.segsMoreThan 1) (.ite (.lookup .maps .firstSeg) (.ret (.lookup .pub (.mapKey .firstSeg))) (.ret (.const false)))
        (.ret (.const false)))) }

/-- IsPublicSymbol that looks a plain symbol up under its KEY (`store.publicSymbols[sym.key]`) -/
def shapeSymKey : ValidatorShape :=
  { validatorShape with isPublic := (.ite (.lookup .pub (.symKey .sym)) (.ret (.const true))
      (.ite (.segsMoreThan 1) (.ite (.lookup .maps .firstSeg) (.ret (.lookup .pub .firstSeg)) (.ret (.const false)))
        (.ret (.const false)))) }

example : Admissible acceptTable (oneSymQuery nLabelsEnv) := admissible_of_check (by decide +kernel)
example : nilOk (oneSymQuery nInternalOwner) = true := by decide +kernel

/-- **The naming obligation is not vacuous**: both key-based lookups are rejected by `GoodShape`.  On `keyedCfg` the
    map-key shape rejects `labels.env = "x"` (element of the public map `labels`, every referenced name public) and
    accepts `internal.owner = "x"` (element of the non-public map `internal`, whose key `notes` is the name of a
    public symbol); the symbol-key shape rejects `notes = "x"` (public, stored under `n`, which is not listed).  The
    repository's shape accepts / rejects naming `internal.owner` / accepts.  With every key equal to its name the
    shapes cannot be told apart. -/
theorem key_lookup_witness :
    GoodShape shapeMapKey = false ∧ GoodShape shapeSymKey = false ∧ pubWF keyedCfg = true ∧
    specIsPublic keyedCfg nLabelsEnv = true ∧ specIsPublic keyedCfg nInternalOwner = false ∧
    specIsPublic keyedCfg nNotes = true ∧
    validateS acceptTable shapeMapKey keyedCfg (oneSymQuery nLabelsEnv) = .ok (some nLabelsEnv) ∧
    validateS acceptTable shapeMapKey keyedCfg (oneSymQuery nInternalOwner) = .ok none ∧
    validateS acceptTable shapeSymKey keyedCfg (oneSymQuery nNotes) = .ok (some nNotes) ∧
    validateRepo keyedCfg (oneSymQuery nLabelsEnv) = .ok none ∧
    validateRepo keyedCfg (oneSymQuery nInternalOwner) = .ok (some nInternalOwner) ∧
    validateRepo keyedCfg (oneSymQuery nNotes) = .ok none ∧
    validateS acceptTable shapeMapKey { keyedCfg with mapKeys := [], symKeys := [] } (oneSymQuery nLabelsEnv) = .ok none ∧
    validateS acceptTable shapeMapKey { keyedCfg with mapKeys := [], symKeys := [] } (oneSymQuery nInternalOwner) =
      .ok (some nInternalOwner) ∧
    validateS acceptTable shapeSymKey { keyedCfg with mapKeys := [], symKeys := [] } (oneSymQuery nNotes) = .ok none := by
  obtain ⟨-, -, w, -⟩ := sample_walks
  have wl := w nLabelsEnv (.head _)
  have wi := w nInternalOwner (.tail _ (.head _))
  have wn := w nNotes (.tail _ (.tail _ (.head _)))
  -- each query announces its one name; the shapes differ in the string under which IsPublicSymbol looks it up
  simp only [validateRepo, validateS_of_walk (sh := shapeMapKey) rfl wl, validateS_of_walk (sh := shapeMapKey) rfl wi,
    validateS_of_walk (sh := shapeSymKey) rfl wn, validateS_of_walk (sh := validatorShape) rfl wl,
    validateS_of_walk (sh := validatorShape) rfl wi, validateS_of_walk (sh := validatorShape) rfl wn]
  decide +kernel

end StorageModel.Properties.C20

#print axioms StorageModel.Properties.C20.table_complete
#print axioms StorageModel.Properties.C20.visit_sees_all
#print axioms StorageModel.Properties.C20.validate_iff
#print axioms StorageModel.Properties.C20.validator_good
#print axioms StorageModel.Properties.C20.validate_names
#print axioms StorageModel.Properties.C20.single_nonpublic_named
#print axioms StorageModel.Properties.C20.map_element_public_iff
#print axioms StorageModel.Properties.C20.validate_iff_source
#print axioms StorageModel.Properties.C20.validate_iff_transform
#print axioms StorageModel.Properties.C20.api_symbols_seen
#print axioms StorageModel.Properties.C20.validate_iff_nopanic
#print axioms StorageModel.Properties.C20.validate_panics_iff
#print axioms StorageModel.Properties.C20.typed_tree_symbols
#print axioms StorageModel.Properties.C20.typed_tree_admissible
#print axioms StorageModel.Properties.C20.validate_is_stateful_run
#print axioms StorageModel.Properties.C20.incomplete_table_witness
#print axioms StorageModel.Properties.C20.validate_names_transform
#print axioms StorageModel.Properties.C20.validate_own_assignment
#print axioms StorageModel.Properties.C20.child_nonpublic_rejected
#print axioms StorageModel.Properties.C20.parent_fallback_witness
#print axioms StorageModel.Properties.C20.keys_irrelevant
#print axioms StorageModel.Properties.C20.keyed_validate_iff
#print axioms StorageModel.Properties.C20.key_lookup_witness
