import StorageModel.C09.Idem
import StorageModel.C09.WfPres
import StorageModel.C09.Errors
import StorageModel.C09.Universe
import StorageModel.Generated.C09Quirks
import StorageModel.C09.NamingDriver
import StorageModel.C09.NamingIrrelevant
/-
  C09 — Integrity check: sound, complete, read-only in check mode, convergent in fix.

  "On a database whose indexes, foreign keys and links are consistent the integrity check reports
  nothing. On a database with any combination of missing, stale, dangling or one-sided index,
  back-reference or link entries it reports every inconsistency; in check-only mode it leaves the
  database unchanged; and in fix mode a single run repairs every repairable inconsistency so that
  an immediate re-check is clean and the indexes again mirror the entities, leaving only genuine
  data conflicts (duplicate unique values, null in a non-nullable field) reported as unfixable."

  `checkAll S fix` (C09/Model.lean) is the model of `BaseStore.CheckIntegrity` run over every
  store of a schema `S`, following uniqueIndex / setIndex / fkIndex / fkConstraint /
  linkCollectionImpl `.CheckIntegrity` branch by branch — the code as repaired by 6e61536 (an
  empty value in a unique index is skipped like nil), 946f949 (`IterateLinks` is a read-only
  lookup) and 0fc3c29 (dangling links are removed after the link-cursor loop) — over a state whose
  index buckets, back-reference lists and link lists are ARBITRARY.  `inconsistencies S s`
  (C09/Spec.lean) is the symmetric difference between every index / back-reference list / link
  list and the image of the entity table, computed directly.  All theorems hold for every schema
  and every state; the only hypotheses are

  * `s.WF`        what bbolt guarantees of any database: the keys of a bucket are distinct (and
                  non-empty), the elements of a list bucket are distinct;
  * `SchemaOk S`  (fix-mode theorems) constraints are declared on pairwise different locations (a
                  link collection and its inverse excepted) and the two sides of a link collection
                  differ — decided for the harness schema by `universe_schema_ok`.

  `checkAllE` (C09/ModelE.lean) is the same run WITH the `return err` exits of the code that depend on the state;
  `run_never_fails` proves, without any hypothesis, that none is reachable, so every theorem about `checkAll` is a
  theorem about the run the code performs.
-/
namespace StorageModel.Properties.C09
open StorageModel StorageModel.C09

/-- obligation on regenerated data (extract/c09quirks.go reads the source on every run): the three
    code sites — and the dangling-reference repair of fkIndex / fkConstraint, which clears the value at the symbol's
    path (C09-nested-fk-repair) — have the repaired shape this model follows -/
theorem code_shape_is_repaired :
    Generated.c09QuirksRecognised = true ∧ Generated.c09IterateLinksCreates = false ∧
    Generated.c09EmptyUniqueIsNil = true ∧ Generated.c09LinkRemoveDeferred = true ∧
    Generated.c09FkRepairAtPath = true := by decide

/-- **read-only.** A check-only run returns the state it was given — entities, unique-index
    buckets, set-index buckets and every nested list are untouched — and creates no nested
    bucket (`bucketsEnsured`: the only creating calls, `AddLink` and the fk back-reference
    repair, belong to reports with `fixed = true`, which a check-only run never emits).
    For every schema and every state, link collections included. -/
theorem check_readonly (S : Schema) (s : St) :
    (checkAll S false s).1 = s ∧ bucketsEnsured S (checkAll S false s).2 = [] := by
  refine ⟨by rw [checkAll_false], ?_⟩
  apply List.eq_nil_iff_forall_not_mem.2
  intro b hb
  unfold bucketsEnsured at hb
  obtain ⟨r, hr, hb⟩ := List.mem_flatMap.1 hb
  have hfix : r.fixed = false := Bool.eq_false_iff.2 fun h => nomatch checkAll_fixed S false s r hr h
  unfold reportEnsures at hb
  simp [hfix] at hb

/-- no report of a check-only run claims a repair -/
theorem check_reports_unfixed (S : Schema) (s : St) : ∀ r ∈ (checkAll S false s).2, r.fixed = false :=
  fun r hr => Bool.eq_false_iff.2 fun h => nomatch checkAll_fixed S false s r hr h

/-- **complete.** Every inconsistency of a (well-formed, otherwise arbitrary) state is the subject
    of a report of the check-only run. -/
theorem check_complete (S : Schema) (s : St) (hwf : s.WF) :
    ∀ d ∈ inconsistencies S s, ∃ r ∈ (checkAll S false s).2, r.about = d := by
  rw [checkAll_false]; exact fun d => (checkReports_about hwf S d).2

/-- **sound, report by report.** Every report of a check-only run is about a real inconsistency. -/
theorem check_sound_reports (S : Schema) (s : St) (hwf : s.WF) :
    ∀ r ∈ (checkAll S false s).2, r.about ∈ inconsistencies S s := by
  rw [checkAll_false]; exact fun r hr => (checkReports_about hwf S _).1 ⟨r, hr, rfl⟩

/-- **sound.** On a consistent state the check reports nothing. -/
theorem check_sound (S : Schema) (s : St) (hwf : s.WF) (hinv : Inv S s) : (checkAll S false s).2 = [] := by
  apply List.eq_nil_iff_forall_not_mem.2
  intro r hr
  have := check_sound_reports S s hwf r hr
  rw [hinv] at this
  cases this

/-- sound and complete together: the check is clean exactly on the consistent states -/
theorem check_clean_iff (S : Schema) (s : St) (hwf : s.WF) : (checkAll S false s).2 = [] ↔ Inv S s := by
  constructor
  · intro h
    apply List.eq_nil_iff_forall_not_mem.2
    intro d hd
    obtain ⟨r, hr, _⟩ := check_complete S s hwf d hd
    rw [h] at hr; cases hr
  · exact check_sound S s hwf

/-! ## fix mode

  `checkAll S true` runs every store's `CheckIntegrity(fix = true)` one after the other on the
  evolving state — i.e. several stores in ONE transaction.  No loop of the link check deletes
  under its own cursor (0fc3c29), so for link buckets the model's "a cursor iterates the list as
  it was when it was opened" does not rest on bbolt's behaviour after a delete in a bucket already
  modified by an earlier store's check. -/

/-- **convergent.** After ONE fix run over an arbitrarily corrupted state, an immediate re-check
    reports nothing but genuine data conflicts: duplicate unique value, nil (or empty) in a
    non-nullable field, dangling reference in a non-nullable foreign key. -/
theorem fix_converges (S : Schema) (hS : SchemaOk S) (s : St) (hwf : s.WF) :
    ∀ r ∈ (checkAll S false (checkAll S true s).1).2, Unfixable S r :=
  checkAll_fix_converges S hS s hwf.setx

/-- **idempotent.** A second fix run changes nothing. -/
theorem fix_idempotent (S : Schema) (hS : SchemaOk S) (s : St) (hwf : s.WF) :
    (checkAll S true (checkAll S true s).1).1 = (checkAll S true s).1 :=
  checkAll_fix_idempotent S hS s hwf.setx

/-- on a consistent state a fix run changes nothing either -/
theorem fix_noop_on_consistent (S : Schema) (s : St) (hwf : s.WF) (hinv : Inv S s) : (checkAll S true s).1 = s := by
  refine checkAll_fix_noop S s ?_
  rw [← check_sound S s hwf hinv, checkAll_false]

/-- a fix run keeps the state well-formed, so every theorem above applies to the repaired state -/
theorem fix_preserves_wf (S : Schema) (hS : SchemaOk S) (s : St) (hwf : s.WF) : (checkAll S true s).1.WF :=
  checkAll_wf S true s hwf

/-- the kinds of discrepancy that are data conflicts rather than index damage -/
def ConflictKind (S : Schema) : Disc → Prop
  | .uqMissing .. => True
  | .null .. => True
  | .fkDangling st f _ _ => S.nonNullFk st f = true
  | .lkNoInverse .. => True
  | _ => False

/-- **the indexes mirror the entities again, modulo genuine conflicts.** After one fix run, every
    remaining difference between an index and the image of the entity table is a data conflict —
    no extra, stale, dangling, junk or empty index entry, no missing or extra back-reference, no
    dangling or one-sided link is left — and each one is reported, as unfixable, by the re-check.
    (A remaining `uqMissing v id` is reported as `uqDup`: another entity owns the value.) -/
theorem fix_mirrors (S : Schema) (hS : SchemaOk S) (s : St) (hwf : s.WF) :
    ∀ d ∈ inconsistencies S (checkAll S true s).1,
      ConflictKind S d ∧
      ∃ r ∈ (checkAll S false (checkAll S true s).1).2, r.about = d ∧ Unfixable S r := by
  intro d hd
  obtain ⟨r, hr, hab⟩ := check_complete S _ (fix_preserves_wf S hS s hwf) d hd
  have hu := fix_converges S hS s hwf r hr
  refine ⟨?_, r, hr, hab, hu⟩
  subst hab
  unfold Unfixable at hu
  unfold Report.about ConflictKind
  cases hm : r.msg <;> simp_all

/-! ## no run aborts

  An error return of `CheckIntegrity` makes the caller roll the transaction back: every repair of the
  run is lost and the reports already handed to the sink claim repairs that did not happen.  The
  failure exits are therefore part of the model (`checkAllE`), and unreachable. -/

/-- **a run never aborts.** For every schema, both modes and every state (no hypothesis: any
    combination of corruptions, on shared targets or not) the run with the code's failure exits
    completes, with the state and the reports of `checkAll`. -/
theorem run_never_fails (S : Schema) (fix : Bool) (s : St) :
    checkAllE S fix s = .ok (checkAll S fix s).1 (checkAll S fix s).2 := checkAllE_ok S fix s

/-- the same for one store's `BaseStore.CheckIntegrity` in a transaction of its own -/
theorem store_run_never_fails (S : Schema) (fix : Bool) (sd : StoreDef) (s : St) :
    sd.checkE S fix s = .ok (sd.check S fix s).1 (sd.check S fix s).2 := storeE_ok S fix sd s

/-- **a single fix run repairs everything repairable**, stated about the run with failure exits: it
    completes (nothing is rolled back), the committed state is well-formed, an immediate re-check
    reports only genuine conflicts, and every remaining discrepancy is of a conflict kind. -/
theorem fix_run_repairs (S : Schema) (hS : SchemaOk S) (s : St) (hwf : s.WF) :
    ∃ s' rs, checkAllE S true s = .ok s' rs ∧ (checkAllE S true s).commit s = s' ∧ s'.WF ∧
      (∀ r ∈ (checkAll S false s').2, Unfixable S r) ∧ (∀ d ∈ inconsistencies S s', ConflictKind S d) := by
  refine ⟨(checkAll S true s).1, (checkAll S true s).2, run_never_fails S true s, ?_, fix_preserves_wf S hS s hwf,
    fix_converges S hS s hwf, fun d hd => (fix_mirrors S hS s hwf d hd).1⟩
  rw [run_never_fails]; rfl

theorem universe_schema_ok : SchemaOk uniSchema := by decide +kernel

/-! ## non-vacuity: a non-trivial consistent state satisfying every hypothesis -/

def a1 : Bytes := [97, 49]
def a2 : Bytes := [97, 50]
def b1 : Bytes := [98, 49]
def b2 : Bytes := [98, 50]
def n1 : Bytes := [110, 49]
def n2 : Bytes := [110, 50]
def x1 : Bytes := [120, 49]
def l1 : Bytes := [108, 49]
def r1 : Bytes := [114, 49]
def r2 : Bytes := [114, 50]

/-- two things, two owners, every kind of index populated -/
def good : StD :=
  { ents :=
      [ (things,
          [ ⟨a1, [("name", .str n1), ("alias", .str x1), ("owner", .str b1), ("home", .str b1), ("dep", .str b2),
                  ("req", .str b1)],
                 [("roles", [r1, r2]), ("groups", [b1]), ("minions", [a2])]⟩,
            ⟨a2, [("name", .str n2), ("owner", .str b1), ("home", .str b2), ("req", .str b2), ("boss", .str a1)],
                 [("roles", [r2])]⟩ ]),
        (owners,
          [ ⟨b1, [("label", .str l1)], [("things", [a1, a2]), ("residents", [a1]), ("members", [a1])]⟩,
            ⟨b2, [], [("residents", [a2])]⟩ ]) ]
    uniq := [ ((things, "name"), [(n1, a1), (n2, a2)]), ((things, "alias"), [(x1, a1)]), ((owners, "label"), [(l1, b1)]) ]
    setx := [ ((things, "roles"), [(r1, .ids [a1]), (r2, .ids [a1, a2])]) ] }

example : good.toSt.WF := good.wf (by decide +kernel)
example : Inv uniSchema good.toSt := by decide +kernel
example : (checkAll uniSchema false good.toSt).2 = [] := by decide +kernel

/-- a corrupted variant: a stale unique entry, a missing set-index entry, a plain junk key, a
    dangling nullable reference, a one-sided link -/
def bad : StD :=
  { good with
    ents :=
      [ (things,
          [ ⟨a1, [("name", .str n1), ("alias", .str x1), ("owner", .str [98, 57]), ("home", .str b1), ("dep", .str b2),
                  ("req", .str b1)],
                 [("roles", [r1, r2]), ("groups", [b1, b2]), ("minions", [a2])]⟩,
            ⟨a2, [("name", .str n2), ("owner", .str b1), ("home", .str b2), ("req", .str b2), ("boss", .str a1)],
                 [("roles", [r2])]⟩ ]),
        (owners,
          [ ⟨b1, [("label", .str l1)], [("things", [a1, a2]), ("residents", [a1]), ("members", [a1])]⟩,
            ⟨b2, [], [("residents", [a2])]⟩ ]) ]
    uniq := [ ((things, "name"), [(n1, a2), (n2, a2)]), ((things, "alias"), [(x1, a1)]), ((owners, "label"), [(l1, b1)]) ]
    setx := [ ((things, "roles"), [(r1, .ids [a1]), ([114, 49, 49], .junk), (r2, .ids [a1])]) ] }

example : bad.toSt.WF := bad.wf (by decide +kernel)
example : (inconsistencies uniSchema bad.toSt).length = 7 := by decide +kernel
example : (checkAll uniSchema false bad.toSt).2.map (·.msg) =
    [.lkOneSided a1 b2, .uqStale n1 a2 n2, .uqDup n1 a2 a1, .sxJunk [114, 49, 49], .sxMissing r2 a2,
     .fkBackStale b1 a1 [98, 57], .fkDangling a1 [98, 57]] := by decide +kernel
example : (checkAll uniSchema false (checkAll uniSchema true bad.toSt).1).2 = [] := by decide +kernel

/-! ## the repaired defects 6e61536 and 0fc3c29: the former counterexamples as positive instances -/

/-- an entity with the EMPTY STRING in the nullable unique index `things.alias`: reachable through
    `Create` (the index accepts "" and stores no entry) -/
def emptyAlias : StD :=
  { ents :=
      [ (things, [ ⟨a1, [("name", .str n1), ("alias", .str []), ("home", .str b1), ("req", .str b1)], [("roles", [])]⟩ ]),
        (owners, [ ⟨b1, [], [("residents", [a1])]⟩ ]) ]
    uniq := [ ((things, "name"), [(n1, a1)]) ]
    setx := [] }

/-- the state is well-formed and consistent, the check reports nothing on it (before 6e61536:
    `unique index things.alias missing value  for id a1`, claimed fixed, reported again for ever),
    and a fix run leaves it alone -/
theorem empty_alias_clean :
    emptyAlias.toSt.WF ∧ Inv uniSchema emptyAlias.toSt ∧ (checkAll uniSchema false emptyAlias.toSt).2 = [] ∧
    (checkAll uniSchema true emptyAlias.toSt).2 = [] :=
  ⟨emptyAlias.wf (by decide +kernel), by decide +kernel⟩

/-- the same value in a NON-nullable unique index is a conflict, reported as such and left alone -/
example : (uniqueCheck things "alias" false true emptyAlias.toSt).2 = [⟨things, "alias", .uqNull a1, false⟩] := by
  decide +kernel

/-- two dangling links next to each other and a one-sided link from the other store, both stores
    fixed one after the other (owners first): before 0fc3c29 the second dangling link survived the
    run inside one transaction; in the model — and in the code as repaired — one run repairs everything -/
def twoDangling : StD :=
  { ents :=
      [ (things, [ ⟨a1, [("name", .str n1), ("home", .str b1), ("req", .str b1)],
                        [("roles", []), ("groups", [[98, 56], [98, 57]])]⟩ ]),
        (owners, [ ⟨b1, [], [("residents", [a1]), ("members", [a1])]⟩ ]) ]
    uniq := [ ((things, "name"), [(n1, a1)]) ]
    setx := [] }

theorem one_transaction_fix_converges :
    ((checkAll uniSchema.reverse true twoDangling.toSt).2.map (·.msg) =
      [.lkOneSided b1 a1, .lkDangling a1 [98, 56], .lkDangling a1 [98, 57]]) ∧
    (checkAll uniSchema.reverse false (checkAll uniSchema.reverse true twoDangling.toSt).1).2 = [] := by decide +kernel

/-! ## interacting corruptions: several corruptions aimed at one target, as instances -/

/-- a1 and a2 both hold the name n1 (a genuine duplicate; a2's old entry n2 is stale) AND the index
    entry for n1 is missing -/
def dupMissing : StD :=
  { ents :=
      [ (things, [ ⟨a1, [("name", .str n1), ("home", .str b1), ("req", .str b1)], [("roles", [])]⟩,
                   ⟨a2, [("name", .str n1), ("home", .str b1), ("req", .str b1)], [("roles", [])]⟩ ]),
        (owners, [ ⟨b1, [], [("residents", [a1, a2])]⟩ ]) ]
    uniq := [ ((things, "name"), [(n2, a2)]) ]
    setx := [] }

/-- one fix run re-creates the entry for the first holder, reports the second holder as an
    unfixable duplicate, and completes; the re-check shows the duplicate only.  (With the puts
    deferred to after the entity scan both holders are classified "missing" and the second put
    fails with UniqueIndexDuplicateError: see the next example.) -/
theorem dup_and_missing_entry_converges :
    dupMissing.toSt.WF ∧
    (checkAllE uniSchema true dupMissing.toSt).failed = false ∧
    (checkAll uniSchema true dupMissing.toSt).2.map (fun r => (r.msg, r.fixed)) =
      [(.uqStale n2 a2 n1, true), (.uqMissing n1 a1, true), (.uqDup n1 a1 a2, false)] ∧
    (checkAll uniSchema false (checkAll uniSchema true dupMissing.toSt).1).2.map (·.msg) = [.uqDup n1 a1 a2] :=
  ⟨dupMissing.wf (by decide +kernel), by rw [run_never_fails]; rfl, by decide +kernel⟩

/-- the failure exit of `processIntegrityFix` is live: called for the second holder in the state the
    first holder's repair produced, it returns the duplicate error -/
example :
    (match uqFixE things "name" false (uqRepair dupMissing.toSt things "name" n1 a1) a2 with
      | .error .dupValue => true
      | _ => false) = true := by decide +kernel

/-- a plain (junk) key r1 sits exactly where the value bucket of the role a1 holds is missing -/
def junkAtMissing : StD :=
  { ents :=
      [ (things, [ ⟨a1, [("name", .str n1), ("home", .str b1), ("req", .str b1)], [("roles", [r1])]⟩ ]),
        (owners, [ ⟨b1, [], [("residents", [a1])]⟩ ]) ]
    uniq := [ ((things, "name"), [(n1, a1)]) ]
    setx := [ ((things, "roles"), [(r1, .junk)]) ] }

theorem junk_at_missing_value_converges :
    junkAtMissing.toSt.WF ∧
    (checkAllE uniSchema true junkAtMissing.toSt).failed = false ∧
    (checkAll uniSchema true junkAtMissing.toSt).2.map (fun r => (r.msg, r.fixed)) =
      [(.sxJunk r1, true), (.sxMissing r1 a1, true)] ∧
    (checkAll uniSchema false (checkAll uniSchema true junkAtMissing.toSt).1).2 = [] :=
  ⟨junkAtMissing.wf (by decide +kernel), by rw [run_never_fails]; rfl, by decide +kernel⟩

/-- and the failure exit of the second pass is live: asked for the value bucket while the plain key
    is still there, it fails -/
example : (sxStep2ValE things "roles" true a1 junkAtMissing.toSt r1).failed = true := by decide +kernel

/-- the things store is EMPTY at check time while its indexes still hold entries, and an owner still
    lists a thing as referrer and as member -/
def emptiedStore : StD :=
  { ents := [ (things, []), (owners, [ ⟨b1, [], [("things", [a1]), ("residents", [a1]), ("members", [a1])]⟩ ]) ]
    uniq := [ ((things, "name"), [(n1, a1)]) ]
    setx := [ ((things, "roles"), [(r1, .ids [a1]), (r2, .junk)]) ] }

theorem emptied_store_converges :
    emptiedStore.toSt.WF ∧
    (checkAll uniSchema false emptiedStore.toSt).2.map (·.msg) =
      [.uqDangling n1 a1, .sxDangling r1 a1, .sxJunk r2, .fkBackDangling b1 a1, .fkBackDangling b1 a1,
       .lkDangling b1 a1] ∧
    (checkAllE uniSchema true emptiedStore.toSt).failed = false ∧
    (checkAll uniSchema false (checkAll uniSchema true emptiedStore.toSt).1).2 = [] :=
  have h : _ ∧ (checkAll uniSchema false (checkAll uniSchema true emptiedStore.toSt).1).2 = [] := by decide +kernel
  ⟨emptiedStore.wf (by decide +kernel), h.1, by rw [run_never_fails]; rfl, h.2⟩

/-! ## layered stores: a parent store with plain and extended child stores

  The theorems above hold for EVERY schema — also for one whose store names are child stores: the
  model reaches the entities of a store only through `ids` / `present` / `evalT` / `setOf` of that
  store.  What has to be shown for a layered database is that the code's access paths (the shared
  entities bucket, the scan rule of the filtered cursor, the `ValidIdsCursors` wrapper of an extended
  store with its initial positioning, `GetEntityBucket` through the child's data path) expose exactly
  the flat state `p.view L` (C09/Layered.lean); `checkAllL L S fix p = checkAll S fix (p.view L)`. -/

/-- **which ids each store's CheckIntegrity scans**: a loop over `store.IterateValidIds(tx, true)` visits the
    ids of the view's table, in bucket order — root store, plain child store (parent-only ids dropped
    by the filtered cursor) and extended child store (dropped by `ValidIdsCursors`: by its initial
    positioning when the smallest id is parent-only, by `Next` afterwards), for every population -/
theorem layered_scan_is_view (L : Layering) (p : PSt) (hwf : p.WF) (st : Name) :
    p.validIds L st = (p.view L).ids st := validIds_eq_view L p hwf.ents st

/-- the store's own presence test, `Eval` and the list cursor read the view as well -/
theorem layered_access_is_view (L : Layering) (p : PSt) (hwf : p.WF) (st : Name) (id : Id) (f : Name) :
    p.isEntityPresent L st id = (p.view L).present st id ∧ p.evalT L st id f = (p.view L).evalT st id f ∧
    p.setOf L st id f = (p.view L).setOf st id f :=
  ⟨isEntityPresent_eq_view L p hwf st id, evalT_eq_view L p hwf st id f, setOf_eq_view L p hwf st id f⟩

/-- **sound, layered.** A layered database whose indexes mirror its stores — the child stores' indexes
    mirroring the entities that HAVE child data — yields no report, for every layering and schema:
    a parent-only entity is not a member of the child store, so no "nil in a non-nullable field". -/
theorem layered_check_sound (L : Layering) (S : Schema) (p : PSt) (hwf : p.WF) (hinv : Inv S (p.view L)) :
    (checkAllL L S false p).2 = [] := check_sound S _ (view_wf L p hwf) hinv

theorem layered_check_sound_reports (L : Layering) (S : Schema) (p : PSt) (hwf : p.WF) :
    ∀ r ∈ (checkAllL L S false p).2, r.about ∈ inconsistencies S (p.view L) :=
  check_sound_reports S _ (view_wf L p hwf)

/-- **complete, layered** -/
theorem layered_check_complete (L : Layering) (S : Schema) (p : PSt) (hwf : p.WF) :
    ∀ d ∈ inconsistencies S (p.view L), ∃ r ∈ (checkAllL L S false p).2, r.about = d :=
  check_complete S _ (view_wf L p hwf)

/-- **read-only, layered**: the state the access paths expose is unchanged -/
theorem layered_check_readonly (L : Layering) (S : Schema) (p : PSt) : (checkAllL L S false p).1 = p.view L :=
  (check_readonly S _).1

/-- **convergent, layered**: one fix run completes and a re-check reports only genuine conflicts -/
theorem layered_fix_converges (L : Layering) (S : Schema) (hS : SchemaOk S) (p : PSt) (hwf : p.WF) :
    (checkAllE S true (p.view L)).failed = false ∧
    ∀ r ∈ (checkAll S false (checkAllL L S true p).1).2, Unfixable S r := by
  refine ⟨?_, fix_converges S hS _ (view_wf L p hwf)⟩
  rw [run_never_fails]; rfl

/-- things a0 (parent-only, SMALLEST id), a1 (extension data: badge n1, sponsor b1), a2 (plain-child data:
    code n2) — a healthy database -/
def layeredGood : StD :=
  { ents :=
      [ (things,
          [ ⟨[97, 48], [("name", .str [110, 48]), ("home", .str b1), ("req", .str b1)], [("roles", [])]⟩,
            ⟨a1, [("name", .str n1), ("home", .str b1), ("req", .str b1)], [("roles", [])]⟩,
            ⟨a2, [("name", .str n2), ("home", .str b1), ("req", .str b1)], [("roles", [])]⟩ ]),
        (thingsX, [ ⟨a1, [("badge", .str n1), ("sponsor", .str b1)], [("caps", [r1])]⟩ ]),
        (thingsP, [ ⟨a2, [("code", .str n2)], [("marks", [])]⟩ ]),
        (owners, [ ⟨b1, [], [("residents", [[97, 48], a1, a2])]⟩ ]) ]
    uniq := [ ((things, "name"), [([110, 48], [97, 48]), (n1, a1), (n2, a2)]), ((thingsX, "badge"), [(n1, a1)]),
              ((thingsP, "code"), [(n2, a2)]) ]
    setx := [ ((thingsX, "caps"), [(r1, .ids [a1])]) ] }

/-- the extended store's scan starts at a1 (the parent-only a0 is skipped by the initial positioning),
    the plain store's at a2; the check is clean; without the initial positioning the scan would visit
    a0 and report "nil in the non-nullable badge" on this healthy database -/
theorem layered_healthy_clean :
    (layeredGood.toPSt uniLayering).validIds uniLayering thingsX = [a1] ∧
    (layeredGood.toPSt uniLayering).validIds uniLayering thingsP = [a2] ∧
    (layeredGood.toPSt uniLayering).validIds uniLayering things = [[97, 48], a1, a2] ∧
    Inv uniSchema ((layeredGood.toPSt uniLayering).view uniLayering) ∧
    (checkAllL uniLayering uniSchema false (layeredGood.toPSt uniLayering)).2 = [] ∧
    (checkAllL uniLayering uniSchema true (layeredGood.toPSt uniLayering)).2 = [] := by decide +kernel

/-- the initial positioning is load-bearing: the wrapper returned unpositioned visits a0 -/
example :
    drain (validNext ((layeredGood.toPSt uniLayering).isEntityPresent uniLayering thingsX)) 4
      ((layeredGood.toPSt uniLayering).iterateIds uniLayering thingsX) = [[97, 48], a1] := by decide +kernel

/-- a corrupted layered database: the badge entry of a1 is missing, an entry points at the parent-only
    a0 (dangling for the child store), a2's code entry is stale — all reported, all repaired in one run -/
def layeredBad : StD :=
  { layeredGood with
    uniq := [ ((things, "name"), [([110, 48], [97, 48]), (n1, a1), (n2, a2)]), ((thingsX, "badge"), [(n2, [97, 48])]),
              ((thingsP, "code"), [(n1, a2)]) ] }

example :
    (checkAllL uniLayering uniSchema false (layeredBad.toPSt uniLayering)).2.map (·.msg) =
      [.uqDangling n2 [97, 48], .uqMissing n1 a1, .uqStale n1 a2 n2, .uqMissing n2 a2] ∧
    (checkAll uniSchema false (checkAllL uniLayering uniSchema true (layeredBad.toPSt uniLayering)).1).2 = [] := by
  decide +kernel

/-! ## the empty string is "no value"

  `GetTypeAndValue` returns a nil value both for a missing / nil field and for the one-byte encoding of the
  EMPTY STRING (`TypeString` followed by nothing), which create and update accept in every nullable field as
  "no value / no reference" (`len(newValue) > 0` is false: no index entry, no back-reference, no target
  test).  The checker's entity scans must use the same test: `key == nil` in fkIndex / fkConstraint,
  `fieldType == TypeNil || len(fieldVal) == 0` in uniqueIndex (fix 6e61536) — NOT `fieldType == TypeNil`
  alone, under which "" is looked up as the id "" and classified as a dangling reference.  In the model
  `St.evalB` is that value (`[]` for nil and for ""), `St.evalT` keeps the type; the specification
  (`scalarImage`, `nullOrEmptyIds`) treats "" like nil, so `check_sound` — for ALL consistent states —
  covers databases holding "" in indexed / referencing fields of root and child stores. -/

/-- `GetTypeAndValue` of a stored field: (`fieldType == TypeNil`, value) -/
def goTypeAndValue : FVal → Bool × Option Bytes
  | .nil => (true, none)
  | .str v => (false, if v = [] then none else some v)

/-- the code's `key == nil` / `len(value) == 0` is the model's `evalB = []` … -/
theorem key_nil_iff (s : St) (st : Name) (id : Id) (f : Name) :
    (goTypeAndValue (s.evalT st id f)).2 = none ↔ s.evalB st id f = [] := by
  unfold St.evalB
  cases s.evalT st id f with
  | nil => simp [goTypeAndValue, FVal.bytes]
  | str v => by_cases h : v = [] <;> simp [goTypeAndValue, FVal.bytes, h]

/-- … which is weaker than `fieldType == TypeNil`: the empty string has a nil key and a non-nil type -/
theorem empty_string_key_nil_type_not : (goTypeAndValue (.str [])).2 = none ∧ (goTypeAndValue (.str [])).1 = false := by
  decide

/-- **fk index: "" is no reference.** Whenever the key is nil — nil OR the empty string — the entity scan of
    `fkIndex.CheckIntegrity` leaves the state alone and reports nothing for a nullable field (the
    non-nullable report otherwise): no lookup of the id "", no dangling reference, no rewrite to nil. -/
theorem fk_index_empty_is_no_reference (st f : Name) (n : Bool) (fkSt fkF : Name) (fix : Bool) (s : St) (id : Id)
    (h : s.evalB st id f = []) :
    fkStep2 st f n fkSt fkF fix s id = (s, if n then [] else [⟨st, f, .fkNull id, false⟩]) := by
  unfold fkStep2; rw [if_pos h]

/-- the same for `fkConstraint.CheckIntegrity` -/
theorem fk_constraint_empty_is_no_reference (st f : Name) (n : Bool) (linked : Name) (fix : Bool) (s : St) (id : Id)
    (h : s.evalB st id f = []) :
    fcStep st f n linked fix s id = (s, if n then [] else [⟨st, f, .fkNull id, false⟩]) := by
  unfold fcStep; rw [if_pos h]

/-- a healthy database with the EMPTY STRING in every nullable indexed / referencing field — alias, owner
    (fk index), dep (fk constraint), boss (self fk index) of a thing, tag of its extension data, label of an
    owner — as create / update leave it: no index entry, no back-reference -/
def emptyRefs : StD :=
  { ents :=
      [ (things,
          [ ⟨a1, [("name", .str n1), ("alias", .str []), ("owner", .str []), ("home", .str b1), ("dep", .str []),
                  ("req", .str b1), ("boss", .str [])], [("roles", [])]⟩ ]),
        (thingsX, [ ⟨a1, [("badge", .str n1), ("tag", .str []), ("sponsor", .str b1)], [("caps", [])]⟩ ]),
        (owners, [ ⟨b1, [("label", .str [])], [("residents", [a1])]⟩ ]) ]
    uniq := [ ((things, "name"), [(n1, a1)]), ((thingsX, "badge"), [(n1, a1)]) ]
    setx := [] }

/-- it is consistent, the check reports nothing, a fix run reports nothing and changes nothing -/
theorem empty_string_refs_clean :
    emptyRefs.toSt.WF ∧ Inv uniSchema emptyRefs.toSt ∧ (checkAll uniSchema false emptyRefs.toSt).2 = [] ∧
    (checkAll uniSchema true emptyRefs.toSt).2 = [] ∧ (checkAll uniSchema true emptyRefs.toSt).1 = emptyRefs.toSt :=
  have hwf := emptyRefs.wf (by decide +kernel)
  have h : Inv uniSchema emptyRefs.toSt ∧ _ ∧ _ := by decide +kernel
  ⟨hwf, h.1, h.2.1, h.2.2, fix_noop_on_consistent uniSchema _ hwf h.1⟩

/-- a back-reference that claims a1 although a1's owner is "" is stale — reported and removed -/
example :
    (fkIndexCheck things "owner" true owners "things" true
      ({ emptyRefs with ents :=
          [ (things, [ ⟨a1, [("name", .str n1), ("owner", .str []), ("home", .str b1), ("req", .str b1)], [("roles", [])]⟩ ]),
            (owners, [ ⟨b1, [], [("things", [a1]), ("residents", [a1])]⟩ ]) ] } : StD).toSt).2.map (fun r => (r.msg, r.fixed))
      = [(.fkBackStale b1 a1 [], true)] := by decide +kernel

/-! ## schemas with names, keys / paths and declaring stores

  `checkAllN G L fix` (C09/Naming.lean) follows the five procedures with a schema `G` that carries, per symbol,
  (store, name, path) and, per store, what it DECLARES, over the PHYSICAL database `NSt`: layered entity buckets
  addressed by path, index buckets addressed by (store, name).

  `named_run_is_flat_run` (C09/NamingSim.lean, a simulation proved loop by loop): for EVERY schema `G` with
  `G.Ok` (per store a name denotes one symbol and different symbols live at different paths; the inverse test
  by entity types agrees with the one by stores), every layering and every physical database with distinct ids per bucket, this run IS the run
  of `checkAll G.flat fix` over the flat view `nview G L n` that reads every declared symbol at its path.  So
  every theorem above holds for the family (`named_*`), with `inconsistenciesN` — the symmetric difference
  computed with values read at PATHS and indexes found under NAMES — as the specification.  Two statements
  are about the physical database itself and are proved on it: a check-only run returns it unchanged
  (`named_check_readonly`), and a fix run writes entity buckets only at declared paths
  (`named_fix_writes_declared_paths`) — what sits under a key no symbol is stored at, e.g. under a symbol's
  NAME when name ≠ key, is what it was.  Symbols stored under a prefix (`len(path) > 1`) are covered like any
  other: see `nested_nullable_fk_is_repaired` and, for the code before the repair, `old_nested_nullable_fk_not_repaired`. -/

/-- **the run over names, keys / paths and declaring stores is the flat run over the view** -/
theorem named_run_is_flat_run (G : NSchema) (L : Layering) (hG : G.Ok) (fix : Bool) (n : NSt)
    (hk : n.KeysOk) :
    nview G L (checkAllN G L fix n).1 = (checkAll G.flat fix (nview G L n)).1 ∧
    (checkAllN G L fix n).2 = (checkAll G.flat fix (nview G L n)).2 :=
  (sim_checkAll hG fix n hk).2

/-- the same for any selection / order of the schema's stores (one store in a transaction of its own, the
    reverse order inside one transaction) -/
theorem named_stores_run_is_flat_run (G : NSchema) (L : Layering) (hG : G.Ok) (fix : Bool)
    (sds : List NStoreDef) (hs : ∀ sd ∈ sds, sd ∈ G.stores) (n : NSt) (hk : n.KeysOk) :
    nview G L (checkStoresN G L fix sds n).1 =
      (seqAll ((sds.map NStoreDef.flat).map (StoreDef.check G.flat fix)) (nview G L n)).1 ∧
    (checkStoresN G L fix sds n).2 =
      (seqAll ((sds.map NStoreDef.flat).map (StoreDef.check G.flat fix)) (nview G L n)).2 :=
  (sim_stores hG fix sds hs n hk).2

/-- **read-only, physically.** A check-only run returns the physical database it was given — every key of
    every bucket, also those no symbol of the schema names.  Every schema, every layering, every database;
    no hypothesis. -/
theorem named_check_readonly (G : NSchema) (L : Layering) (n : NSt) : (checkAllN G L false n).1 = n :=
  checkAllN_false G L n

theorem named_check_reports_unfixed (G : NSchema) (L : Layering) (hG : G.Ok) (n : NSt) (hk : n.KeysOk) :
    ∀ r ∈ (checkAllN G L false n).2, r.fixed = false := by
  rw [(named_run_is_flat_run G L hG false n hk).2]
  exact check_reports_unfixed _ _

/-- **complete**, for every schema of the family -/
theorem named_check_complete (G : NSchema) (L : Layering) (hG : G.Ok) (n : NSt) (hwf : n.WF) :
    ∀ d ∈ inconsistenciesN G L n, ∃ r ∈ (checkAllN G L false n).2, r.about = d := by
  rw [(named_run_is_flat_run G L hG false n hwf.keysOk).2]
  exact check_complete _ _ (nview_wf G L hwf)

/-- **sound, report by report** -/
theorem named_check_sound_reports (G : NSchema) (L : Layering) (hG : G.Ok) (n : NSt) (hwf : n.WF) :
    ∀ r ∈ (checkAllN G L false n).2, r.about ∈ inconsistenciesN G L n := by
  rw [(named_run_is_flat_run G L hG false n hwf.keysOk).2]
  exact check_sound_reports _ _ (nview_wf G L hwf)

/-- **sound**: a database whose indexes (found under the symbols' NAMES) mirror the values stored at the symbols'
    PATHS in the buckets of the symbols' STORES yields no report -/
theorem named_check_sound (G : NSchema) (L : Layering) (hG : G.Ok) (n : NSt) (hwf : n.WF)
    (hinv : InvN G L n) : (checkAllN G L false n).2 = [] := by
  rw [(named_run_is_flat_run G L hG false n hwf.keysOk).2]
  exact check_sound _ _ (nview_wf G L hwf) hinv

theorem named_check_clean_iff (G : NSchema) (L : Layering) (hG : G.Ok) (n : NSt) (hwf : n.WF) :
    (checkAllN G L false n).2 = [] ↔ InvN G L n := by
  rw [(named_run_is_flat_run G L hG false n hwf.keysOk).2]
  exact check_clean_iff _ _ (nview_wf G L hwf)

/-- **convergent**: after ONE fix run an immediate re-check reports nothing but genuine data conflicts -/
theorem named_fix_converges (G : NSchema) (L : Layering) (hG : G.Ok) (hS : SchemaOk G.flat) (n : NSt)
    (hwf : n.WF) : ∀ r ∈ (checkAllN G L false (checkAllN G L true n).1).2, Unfixable G.flat r := by
  have h1 := sim_checkAll (L := L) hG true n hwf.keysOk
  rw [(named_run_is_flat_run G L hG false _ h1.1).2, h1.2.1]
  exact fix_converges _ hS _ (nview_wf G L hwf)

/-- **the indexes mirror the entities again, modulo genuine conflicts** -/
theorem named_fix_mirrors (G : NSchema) (L : Layering) (hG : G.Ok) (hS : SchemaOk G.flat) (n : NSt)
    (hwf : n.WF) : ∀ d ∈ inconsistenciesN G L (checkAllN G L true n).1, ConflictKind G.flat d := by
  have h1 := sim_checkAll (L := L) hG true n hwf.keysOk
  unfold inconsistenciesN
  rw [h1.2.1]
  exact fun d hd => (fix_mirrors _ hS _ (nview_wf G L hwf) d hd).1

/-- **idempotent** on everything the schema's symbols and indexes read -/
theorem named_fix_idempotent (G : NSchema) (L : Layering) (hG : G.Ok) (hS : SchemaOk G.flat) (n : NSt)
    (hwf : n.WF) : nview G L (checkAllN G L true (checkAllN G L true n).1).1 = nview G L (checkAllN G L true n).1 := by
  have h1 := sim_checkAll (L := L) hG true n hwf.keysOk
  rw [(named_run_is_flat_run G L hG true _ h1.1).1, h1.2.1]
  exact fix_idempotent _ hS _ (nview_wf G L hwf)

/-- a fix run on a consistent database reports nothing and leaves every declared symbol and index alone -/
theorem named_fix_noop_on_consistent (G : NSchema) (L : Layering) (hG : G.Ok) (n : NSt) (hwf : n.WF)
    (hinv : InvN G L n) : nview G L (checkAllN G L true n).1 = nview G L n := by
  rw [(named_run_is_flat_run G L hG true n hwf.keysOk).1]
  exact fix_noop_on_consistent _ _ (nview_wf G L hwf) hinv

/-- **a run writes entity buckets only at the PATHS of declared symbols** (both modes; every schema and
    layering, no hypothesis on the schema): the ids of every entities bucket, the membership of the child
    stores, and every value / list under a path that is not the path of a declared symbol of the store the
    bucket belongs to are what they were.  In particular nothing is written under a symbol's NAME when the
    name is not a key. -/
theorem named_fix_writes_declared_paths (G : NSchema) (L : Layering) (fix : Bool) (n : NSt) (hk : n.KeysOk) :
    FrameN G n (checkAllN G L fix n).1 := checkAllN_frame fix n

/-- **a single fix run repairs everything repairable**, for every schema of the family: what the symbols and
    indexes read after the run is well-formed, an immediate re-check reports only genuine conflicts, every
    remaining discrepancy is of a conflict kind, and the rest of the physical database is untouched -/
theorem named_fix_run_repairs (G : NSchema) (L : Layering) (hG : G.Ok) (hS : SchemaOk G.flat) (n : NSt)
    (hwf : n.WF) :
    (nview G L (checkAllN G L true n).1).WF ∧
    (∀ r ∈ (checkAllN G L false (checkAllN G L true n).1).2, Unfixable G.flat r) ∧
    (∀ d ∈ inconsistenciesN G L (checkAllN G L true n).1, ConflictKind G.flat d) ∧
    FrameN G n (checkAllN G L true n).1 := by
  refine ⟨?_, named_fix_converges G L hG hS n hwf, named_fix_mirrors G L hG hS n hwf,
    named_fix_writes_declared_paths G L true n hwf.keysOk⟩
  rw [(named_run_is_flat_run G L hG true n hwf.keysOk).1]
  exact fix_preserves_wf _ hS _ (nview_wf G L hwf)

/-! ### non-vacuity: a schema with name ≠ key, name of one symbol = key of another, child-declared fks and links -/

def symName : NSym := ⟨things, "name", ["alias"]⟩        -- stored under the key that is the NAME of the next symbol
def symAlias : NSym := ⟨things, "alias", ["name"]⟩       -- … and vice versa
def symBoss : NSym := ⟨thingsX, "boss", ["bossId"]⟩      -- name ≠ key; owned and declared by the EXTENDED CHILD store
def symStaff : NSym := ⟨owners, "staff", ["staff"]⟩
def symDep : NSym := ⟨thingsP, "dep", ["sub", "depK"]⟩   -- NON-nullable fk constraint of the PLAIN CHILD, under a prefix
def symGroups : NSym := ⟨thingsP, "groups", ["groups"]⟩  -- link collection declared by the plain child
def symMembers : NSym := ⟨owners, "members", ["members"]⟩

def demoG : NSchema :=
  { stores :=
      [ { name := things, links := [], constraints := [.unique symName false, .unique symAlias true] },
        { name := thingsX, links := [], constraints := [.fkIndex symBoss true symStaff] },
        { name := thingsP, links := [⟨symGroups, symMembers⟩], constraints := [.fkCons symDep false owners] },
        { name := owners, links := [⟨symMembers, symGroups⟩], constraints := [] } ]
    etype := ND.etypeOf }

example : demoG.Ok := by decide +kernel
example : SchemaOk demoG.flat := by decide +kernel

def x9 : Bytes := [120, 57]
def b9 : Bytes := [98, 57]

/-- a1: parent-only; a2: extension data (boss b1, stored under "bossId") and plain-child data (dep b1 under
    sub/depK, linked to b1).  Besides, a2's extension bucket holds a key "boss" — the symbol's NAME, which no
    symbol is stored at. -/
def demoGood : ND.NStD :=
  { ents :=
      [ (things, [ ⟨a1, [(["alias"], .str n1), (["name"], .str x1)], []⟩,
                   ⟨a2, [(["alias"], .str n2)], []⟩ ]),
        (thingsX, [ ⟨a2, [(["bossId"], .str b1), (["boss"], .str x9)], []⟩ ]),
        (thingsP, [ ⟨a2, [(["sub", "depK"], .str b1)], [(["groups"], [b1])]⟩ ]),
        (owners, [ ⟨b1, [], [(["staff"], [a2]), (["members"], [a2])]⟩ ]) ]
    uniq := [ ((things, "name"), [(n1, a1), (n2, a2)]), ((things, "alias"), [(x1, a1)]) ]
    setx := [] }

example : InvN demoG uniLayering (demoGood.toNSt uniLayering) := by decide +kernel
example : (checkAllN demoG uniLayering false (demoGood.toNSt uniLayering)).2 = [] := by decide +kernel

/-- a2's boss now names an owner that does not exist, and the index entry of a2's name is filed under the
    symbol alias' bucket instead -/
def demoBad : ND.NStD :=
  { demoGood with
    ents :=
      [ (things, [ ⟨a1, [(["alias"], .str n1), (["name"], .str x1)], []⟩,
                   ⟨a2, [(["alias"], .str n2)], []⟩ ]),
        (thingsX, [ ⟨a2, [(["bossId"], .str b9), (["boss"], .str x9)], []⟩ ]),
        (thingsP, [ ⟨a2, [(["sub", "depK"], .str b1)], [(["groups"], [b1])]⟩ ]),
        (owners, [ ⟨b1, [], [(["staff"], [a2]), (["members"], [a2])]⟩ ]) ]
    uniq := [ ((things, "name"), [(n1, a1)]), ((things, "alias"), [(x1, a1), (n2, a2)]) ] }

/-- the reports name the symbols by NAME; the repair nulls the reference under its KEY "bossId" in the extension
    bucket, leaves the key "boss" alone, and the re-check is clean -/
example :
    (checkAllN demoG uniLayering true (demoBad.toNSt uniLayering)).2.map (fun r => (r.store, r.field, r.msg, r.fixed)) =
      [ (things, "name", .uqMissing n2 a2, true), (things, "alias", .uqStale n2 a2 [], true),
        (thingsX, "boss", .fkBackStale b1 a2 b9, true), (thingsX, "boss", .fkDangling a2 b9, true) ] ∧
    ((checkAllN demoG uniLayering true (demoBad.toNSt uniLayering)).1.entityBucket uniLayering thingsX a2).map
        (fun e => (e.fields ["bossId"], e.fields ["boss"])) = some (.nil, .str x9) ∧
    (checkAllN demoG uniLayering false (checkAllN demoG uniLayering true (demoBad.toNSt uniLayering)).1).2 = [] := by
  decide +kernel

/-- the defect class of the seeded change C09-17 — the repair addressed by the symbol's NAME: nulling the key
    "boss" leaves the reference where it is, the symbol still evaluates to the missing owner -/
example :
    ((demoBad.toNSt uniLayering).modEnt uniLayering thingsX a2 fun e => e.setField ["boss"] .nil).evalT uniLayering symBoss a2
      = .str b9 := by decide +kernel

/-! ### the names are irrelevant

  Rename every symbol by an injective `ρ` (`G.ren ρ`: stores, paths, nullability, declaring stores untouched)
  and file every index bucket under the new name (`RenRel ρ n n'`: the same entities buckets,
  `n'.uniq st (ρ f) = n.uniq st f`, likewise the set indexes).  Both runs then make the same decisions: the
  reports are the same up to the label, the entities buckets are EQUAL afterwards (the same keys were read and
  written), and the index buckets are equal under the new names.  The names enter the checker only through
  `getIndexPath` and the report texts; everything else is addressed by store and path
  (C09/NamingIrrelevant.lean, a second simulation, loop by loop).  No hypothesis on the schema or the database. -/
theorem naming_irrelevant (ρ : Name → Name) (hρ : Function.Injective ρ) (G : NSchema) (L : Layering) (fix : Bool)
    (n n' : NSt) (h : RenRel ρ n n') :
    RenRel ρ (checkAllN G L fix n).1 (checkAllN (G.ren ρ) L fix n').1 ∧
    (checkAllN (G.ren ρ) L fix n').2 = (checkAllN G L fix n).2.map (Report.ren ρ) :=
  simr_checkAll hρ G fix n n' h

/-- rename the symbol `boss` to `chief` (and back): an injective renaming -/
def swapBoss (s : Name) : Name := if s = "boss" then "chief" else if s = "chief" then "boss" else s

theorem swapBoss_invol (s : Name) : swapBoss (swapBoss s) = s := by
  unfold swapBoss
  by_cases h1 : s = "boss"
  · subst h1; decide
  · by_cases h2 : s = "chief"
    · subst h2; decide
    · simp [h1, h2]

example : Function.Injective swapBoss := by
  intro a b h
  have := congrArg swapBoss h
  rwa [swapBoss_invol, swapBoss_invol] at this

/-- on the corrupted database above: the renamed schema reports the same four findings, the fk ones under the
    label `chief`, and leaves the same extension bucket -/
example :
    (checkAllN (demoG.ren swapBoss) uniLayering true (demoBad.toNSt uniLayering)).2.map (fun r => (r.store, r.field, r.msg, r.fixed)) =
      [ (things, "name", .uqMissing n2 a2, true), (things, "alias", .uqStale n2 a2 [], true),
        (thingsX, "chief", .fkBackStale b1 a2 b9, true), (thingsX, "chief", .fkDangling a2 b9, true) ] ∧
    ((checkAllN (demoG.ren swapBoss) uniLayering true (demoBad.toNSt uniLayering)).1.entityBucket uniLayering thingsX a2).map
        (fun e => (e.fields ["bossId"], e.fields ["boss"])) = some (.nil, .str x9) := by decide +kernel

/-! ### a dangling reference in a NULLABLE foreign key stored under a prefix (repair C09-nested-fk-repair)

  Until the repair C09-nested-fk-repair the code had `tryFix := index.nullable && fix && len(index.symbol.GetPath()) == 1`
  and `entityBucket.Put([]byte(index.symbol.GetPath()[0]), nil)`: for a symbol declared with a prefix
  (`AddFkSymbolWithKey(name, key, store, "sub")`, path `["sub", key]`) the repair was not attempted, every run reported
  the reference `fixed = false` and the re-check was never clean, although nothing conflicts.  The repaired code clears the value
  where it is stored (`fkDanglingStepN`); the extractor `c09quirks` records which variant the source has
  (`Generated.c09FkRepairAtPath`, obligation `code_shape_is_repaired`), and the `named_*` theorems above need no
  condition on the paths. -/

def symBossNested : NSym := ⟨thingsX, "boss", ["sub", "bossId"]⟩

def nestedG : NSchema :=
  { stores :=
      [ { name := things, links := [], constraints := [] },
        { name := thingsX, links := [], constraints := [.fkIndex symBossNested true symStaff] },
        { name := owners, links := [], constraints := [] } ]
    etype := ND.etypeOf }

def nestedBad : ND.NStD :=
  { ents :=
      [ (things, [ ⟨a2, [], []⟩ ]),
        (thingsX, [ ⟨a2, [(["sub", "bossId"], .str b9)], []⟩ ]),
        (owners, [ ⟨b1, [], []⟩ ]) ]
    uniq := []
    setx := [] }

/-- the former counterexample as a positive instance: one fix run reports the dangling reference as fixed, clears
    the value under sub/bossId, and the re-check is clean -/
theorem nested_nullable_fk_is_repaired :
    nestedG.Ok ∧ SchemaOk nestedG.flat ∧
    (checkAllN nestedG uniLayering true (nestedBad.toNSt uniLayering)).2 = [⟨thingsX, "boss", .fkDangling a2 b9, true⟩] ∧
    ((checkAllN nestedG uniLayering true (nestedBad.toNSt uniLayering)).1.entityBucket uniLayering thingsX a2).map
        (fun e => e.fields ["sub", "bossId"]) = some .nil ∧
    (checkAllN nestedG uniLayering false (checkAllN nestedG uniLayering true (nestedBad.toNSt uniLayering)).1).2 = [] := by
  decide +kernel

/-- the code BEFORE the repair (`fkDanglingStepNOld`): on the same database the step reports the reference as NOT
    fixed and leaves it where it is — and the report is not an unfixable conflict, so the spec's convergence clause fails -/
theorem old_nested_nullable_fk_not_repaired :
    (fkDanglingStepNOld uniLayering symBossNested true true (nestedBad.toNSt uniLayering) a2 b9).2 =
      [⟨thingsX, "boss", .fkDangling a2 b9, false⟩] ∧
    (fkDanglingStepNOld uniLayering symBossNested true true (nestedBad.toNSt uniLayering) a2 b9).1.evalT uniLayering symBossNested a2
      = .str b9 ∧
    ¬ Unfixable nestedG.flat ⟨thingsX, "boss", .fkDangling a2 b9, false⟩ := by decide +kernel

end StorageModel.Properties.C09
