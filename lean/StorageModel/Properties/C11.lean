import StorageModel.Zql.Unescape
import StorageModel.Zql.UnescapeProofs
import StorageModel.Zql.LitFilterProofs
import StorageModel.Zql.LitSetProofs
import StorageModel.Generated.UnescapeTable
/-
  C11 — String literals denote exactly the intended string.

  "For every string value s there is a quoted filter literal - s with backslash and double
  quote backslash-escaped, and optionally \n \t \r \f for the corresponding control
  characters - that denotes exactly s [...] An escaped backslash followed by a letter is
  never re-read as a control-character escape, and two different strings never denote the
  same value."

  The theorems are about `Generated.unescapeTable`, i.e. about what `ParseZqlString`'s body
  says in /repo *now* (regenerated by /verif/extract on every run).
-/
namespace StorageModel.Properties.C11
open StorageModel StorageModel.Zql

/-- Obligation on regenerated data: the replacement table extracted from `ParseZqlString`
    is well formed — a single left-to-right pass, outer quotes trimmed, every `old` a backslash
    plus one byte, and the six required escapes map to the right bytes (`GoodTable` is a
    decidable predicate; pair order and additional escapes do not matter). -/
theorem table_is_good : GoodTable Generated.unescapeTable = true := by decide +kernel

/-- the predicate is not vacuous: the table of the repaired code satisfies it, the table of the
    pinned tree (successive global passes) does not -/
example : GoodTable expectedTable = true := by decide +kernel
example : GoodTable pinnedTable = false := by decide +kernel

/-- **C11, existence/denotation.** Every literal that escapes `s` in the way the property
    describes denotes exactly `s` — for every byte string `s`. -/
theorem literal_denotes {s l : Bytes} (h : Escaping s l) :
    unescape Generated.unescapeTable (quote l) = s :=
  unescape_escaping_good table_is_good h

/-- Every string has such a literal (both the minimal and the full escaping qualify). -/
theorem escapeMin_escaping (s : Bytes) : Escaping s (escapeMin s) := by
  induction s with
  | nil => exact .nil
  | cons c t ih =>
    unfold escapeMin
    split
    · next h => subst h; exact .bs ih
    · split
      · next h => subst h; exact .dq ih
      · next h1 h2 => exact .raw c h1 h2 ih

theorem escapeAll_escaping (s : Bytes) : Escaping s (escapeAll s) := by
  induction s with
  | nil => exact .nil
  | cons c t ih =>
    unfold escapeAll
    split
    · next h => subst h; exact .bs ih
    · split
      · next h => subst h; exact .dq ih
      · next h1 h2 =>
        split
        · next e he => exact .ctl c e (mem_of_lookup he) ih
        · exact .raw c h1 h2 ih

/-- The fully escaped literal of an expressible string is a STRING token of the grammar. -/
theorem literal_lexes (s : Bytes) (h : Expressible s) : isStringBody (escapeAll s) = true := by
  induction s with
  | nil => rfl
  | cons c t ih =>
    have iht := ih fun x hx => h x (List.mem_cons_of_mem _ hx)
    unfold escapeAll
    split
    · exact isStringBody_esc _ _ (by decide) iht
    · split
      · exact isStringBody_esc _ _ (by decide) iht
      · next h1 h2 =>
        split
        · next e he => exact isStringBody_esc _ _ (ctl_letters _ (mem_of_lookup he)) iht
        · next hn =>
          refine isStringBody_raw c _ h1 h2 ?_ iht
          rcases h c (List.mem_cons_self ..) with hc | rfl | rfl | rfl | rfl
          · exact hc
          all_goals exact absurd hn (by decide)

theorem every_string_has_literal (s : Bytes) :
    ∃ l, Escaping s l ∧ unescape Generated.unescapeTable (quote l) = s :=
  ⟨escapeMin s, escapeMin_escaping s, literal_denotes (escapeMin_escaping s)⟩

/-- **C11, injectivity.** Two different strings never denote the same value: literals
    written for `s` and `s'` that denote the same value force `s = s'`. -/
theorem distinct_strings {s s' l l' : Bytes} (h : Escaping s l) (h' : Escaping s' l')
    (heq : unescape Generated.unescapeTable (quote l) = unescape Generated.unescapeTable (quote l')) :
    s = s' := by
  rw [literal_denotes h, literal_denotes h'] at heq; exact heq

/-- **C11, comparison.** In every operand position a comparison with the literal behaves
    exactly like the comparison with the intended string `s`; in particular `f = lit` matches
    exactly the entities whose field equals `s`. -/
theorem compare_matches {s l : Bytes} (h : Escaping s l) (op : LitOp) (field : Bytes) :
    evalLitOp op (unescape Generated.unescapeTable (quote l)) field = evalLitOp op s field := by
  rw [literal_denotes h]

theorem eq_matches_exactly {s l : Bytes} (h : Escaping s l) (field : Bytes) :
    evalLitOp .eq (unescape Generated.unescapeTable (quote l)) field = true ↔ field = s := by
  rw [literal_denotes h]; simp [evalLitOp]

/-! ### whole filters: every occurrence of a literal keeps its denotation

  The property is about a comparison *in a filter*: other comparisons of the same filter — with the
  same literal text or another, under the same operator or another (in particular under
  `icontains`, whose operand is upper-cased when the filter is compiled) — must not change what a
  literal denotes.  `Zql/LitFilter` models the constants of a filter as the heap objects they are in
  `ast` (listener: one object per STRING token; `toUpper`: a new object), and the theorem below
  quantifies over all filters built from comparisons, in-lists, `and`, `or`, `not`. -/

/-- `l` is a quoted literal written for `s` in the way the property describes -/
def LitFor (s l : Bytes) : Prop := ∃ b, Escaping s b ∧ l = quote b

inductive LitsFor : List Bytes → List Bytes → Prop
  | nil : LitsFor [] []
  | cons {s l ss ls} : LitFor s l → LitsFor ss ls → LitsFor (s :: ss) (l :: ls)

/-- `Writes fs fl`: `fl` is the filter `fs` with every string replaced by a literal written for it
    (independently per occurrence: two occurrences of one string may be escaped differently) -/
inductive Writes : Filter → Filter → Prop
  | cmp {s l} (op : LitOp) : LitFor s l → Writes (.cmp op s) (.cmp op l)
  | inl {ss ls} (neg : Bool) : LitsFor ss ls → Writes (.inl neg ss) (.inl neg ls)
  | and {a b a' b'} : Writes a a' → Writes b b' → Writes (.and a b) (.and a' b')
  | or {a b a' b'} : Writes a a' → Writes b b' → Writes (.or a b) (.or a' b')
  | not {a a'} : Writes a a' → Writes (.not a) (.not a')

theorem litFor_denotes {s l : Bytes} (h : LitFor s l) : unescape Generated.unescapeTable l = s := by
  obtain ⟨b, hb, rfl⟩ := h; exact literal_denotes hb

theorem litsFor_map {ss ls : List Bytes} (h : LitsFor ss ls) :
    ls.map (unescape Generated.unescapeTable) = ss := by
  induction h with
  | nil => rfl
  | cons h _ ih => rw [List.map_cons, litFor_denotes h, ih]

theorem writes_map {fs fl : Filter} (h : Writes fs fl) : fl.map (unescape Generated.unescapeTable) = fs := by
  induction h with
  | cmp op h => simp only [Filter.map, litFor_denotes h]
  | inl neg h => simp only [Filter.map, litsFor_map h]
  | and _ _ iha ihb => simp only [Filter.map, iha, ihb]
  | or _ _ iha ihb => simp only [Filter.map, iha, ihb]
  | not _ iha => simp only [Filter.map, iha]

/-- **C11 in a whole filter.** For every filter over comparisons with string literals (any
    operators, any nesting of `and` / `or` / `not`, the same literal text repeated or not), compiled
    by the listener and `TypeTransformBool` and evaluated on any field value: the result is the
    documented semantics over the intended strings.  (The heap model makes this a statement about
    alias freedom: no stage overwrites a cell another comparison reads.) -/
theorem filter_matches {fs fl : Filter} (h : Writes fs fl) (field : Bytes) :
    runFilter Generated.unescapeTable fl field = specEval field fs := by
  rw [runFilter_compositional, writes_map h]

theorem litsFor_escapeAll (ss : List Bytes) : LitsFor ss (ss.map fun s => quote (escapeAll s)) := by
  induction ss with
  | nil => exact .nil
  | cons s ss ih => exact .cons ⟨_, escapeAll_escaping s, rfl⟩ ih

/-- every filter over strings can be written (full escaping of every string) -/
def writeAll (fs : Filter) : Filter := fs.map fun s => quote (escapeAll s)

theorem writeAll_writes (fs : Filter) : Writes fs (writeAll fs) := by
  induction fs with
  | cmp op s => exact .cmp op ⟨_, escapeAll_escaping s, rfl⟩
  | inl neg ss => exact .inl neg (litsFor_escapeAll ss)
  | and a b iha ihb => exact .and iha ihb
  | or a b iha ihb => exact .or iha ihb
  | not a iha => exact .not iha

theorem filter_matches_written (fs : Filter) (field : Bytes) :
    runFilter Generated.unescapeTable (writeAll fs) field = specEval field fs :=
  filter_matches (writeAll_writes fs) field

/-- the statement is not true by construction: with one shared cell per distinct token text and an
    in-place `toUpper` (each harmless alone), `f icontains "ab" and f = "ab"` on the field `ab`
    evaluates to false — the `=` reads `AB` — while the documented semantics (and the model of the
    code as it is) give true -/
example : runShared Generated.unescapeTable
    (writeAll (.and (.cmp .icontains [97, 98]) (.cmp .eq [97, 98]))) [97, 98] = false := by decide +kernel
example : runFilter Generated.unescapeTable
    (writeAll (.and (.cmp .icontains [97, 98]) (.cmp .eq [97, 98]))) [97, 98] = true := by decide +kernel
example : specEval [97, 98] (.and (.cmp .icontains [97, 98]) (.cmp .eq [97, 98])) = true := by decide +kernel

/-! ### filters over SET symbols: every comparison is decided by its own literal

  `anyOf(t) <op> lit` / `allOf(t) <op> lit` / `… in [lit, …]`: all comparisons of a filter that name the set symbol `t`
  work on ONE per-query runtime object (`entitySetSymbolRuntime`, cached by `rowCursorImpl`), which holds the cursor
  over the current row's elements; `anyOf(t) = lit` takes the seek shortcut (`SeekToString`).  `Zql/LitSet` models that
  object and threads it through the evaluation of the whole filter, row after row.  The theorems quantify over all
  filters, all literals, all rows (elements in key order) and ALL states of the runtime objects. -/

inductive SetWrites : SetFilter → SetFilter → Prop
  | cmp {s l} (q : Quant) (i : Nat) (op : SetOp) : LitFor s l → SetWrites (.cmp q i op s) (.cmp q i op l)
  | inl {ss ls} (q : Quant) (i : Nat) : LitsFor ss ls → SetWrites (.inl q i ss) (.inl q i ls)
  | and {a b a' b'} : SetWrites a a' → SetWrites b b' → SetWrites (.and a b) (.and a' b')
  | or {a b a' b'} : SetWrites a a' → SetWrites b b' → SetWrites (.or a b) (.or a' b')
  | not {a a'} : SetWrites a a' → SetWrites (.not a) (.not a')

theorem setWrites_map {fs fl : SetFilter} (h : SetWrites fs fl) :
    fl.map (unescape Generated.unescapeTable) = fs := by
  induction h with
  | cmp q i op h => simp only [SetFilter.map, litFor_denotes h]
  | inl q i h => simp only [SetFilter.map, litsFor_map h]
  | and _ _ iha ihb => simp only [SetFilter.map, iha, ihb]
  | or _ _ iha ihb => simp only [SetFilter.map, iha, ihb]
  | not _ iha => simp only [SetFilter.map, iha]

/-- **C11 under anyOf / allOf, several comparisons on the same set symbol.**  For every filter over set symbols (any
    nesting of and / or / not; `=`, `!=`, `contains`, `icontains` and their negations, in-lists; the same set symbol
    named by any number of comparisons, with equal or different literals), every row whose sets are served in key
    order and EVERY state `st` of the shared runtime objects (whatever earlier comparisons or earlier rows left on
    them): the verdict is the boolean combination of the stand-alone verdicts over the intended strings — each
    comparison is decided by its own literal alone. -/
theorem set_atoms_independent {fs fl : SetFilter} (h : SetWrites fs fl) (row : SetRow) (hrow : row.sorted) (st : Rt) :
    runSetFilter Generated.unescapeTable fl row st = specSet row fs := by
  unfold runSetFilter
  rw [setWrites_map h, evalRt_fst row hrow]

/-- a whole query: the rows one after the other on the same runtime objects -/
theorem set_query_matches {fs fl : SetFilter} (h : SetWrites fs fl) (rows : List SetRow)
    (hrows : ∀ r ∈ rows, r.sorted) (st : Rt) :
    runRows false (fl.map (unescape Generated.unescapeTable)) rows st = rows.map (fun r => specSet r fs) := by
  rw [setWrites_map h, runRows_spec _ rows hrows]

/-- **the seek shortcut seeks to the literal's own key**: `anyOf(t) = lit` (decided by one `Seek` on the element
    bucket) holds exactly when the intended string is an element -/
theorem seek_finds_own_literal {s l : Bytes} (h : LitFor s l) (row : SetRow) (hrow : row.sorted) (i : Nat) (st : Rt) :
    runSetFilter Generated.unescapeTable (.cmp .any i .eq l) row st = (row.elems i).any (fun e => e == s) := by
  rw [set_atoms_independent (.cmp .any i .eq h) row hrow st]
  simp [specSet, atomSpec, quant, SetOp.toLit, evalLitOp]

/-- the hypothesis is what a bucket provides: rows whose sets went through `sortElems` are in key order -/
theorem sorted_rows (r : List (List Bytes)) : SetRow.sorted (r.map sortElems) := by
  intro i
  unfold SetRow.elems
  rw [List.getElem?_map]
  cases r[i]? with
  | none => trivial
  | some l => exact sortElems_sorted l

def writeAllSet (fs : SetFilter) : SetFilter := fs.map fun s => quote (escapeAll s)

theorem writeAllSet_writes (fs : SetFilter) : SetWrites fs (writeAllSet fs) := by
  induction fs with
  | cmp q i op s => exact .cmp q i op ⟨_, escapeAll_escaping s, rfl⟩
  | inl q i ss => exact .inl q i (litsFor_escapeAll ss)
  | and a b iha ihb => exact .and iha ihb
  | or a b iha ihb => exact .or iha ihb
  | not a iha => exact .not iha

/-- not true by construction: if `SeekToString` keeps the seek key it built first on the runtime symbol ("the constant
    does not change from row to row"), `anyOf(t) = "a" or anyOf(t) = "b"` misses the row {ab, b} — the second
    comparison seeks with the key of `a`, lands on `ab` and fails; the model of the code as it is and the spec give
    true -/
example : runSetFilterCached Generated.unescapeTable
    (writeAllSet (.or (.cmp .any 0 .eq [97]) (.cmp .any 0 .eq [98]))) [[[97, 98], [98]]] Rt.init = false := by decide +kernel
example : runSetFilter Generated.unescapeTable
    (writeAllSet (.or (.cmp .any 0 .eq [97]) (.cmp .any 0 .eq [98]))) [[[97, 98], [98]]] Rt.init = true := by decide +kernel
example : specSet [[[97, 98], [98]]] (.or (.cmp .any 0 .eq [97]) (.cmp .any 0 .eq [98])) = true := by decide +kernel
example : SetRow.sorted ([[[98], [97, 98]]].map sortElems) := sorted_rows _

/-- **C11, no re-reading.** An escaped backslash followed by a letter stays backslash +
    letter, in any context (prefix `p` and suffix `q` arbitrary strings). -/
theorem no_reread (p q : Bytes) (x : UInt8) (hx : x ≠ BS) (hq : x ≠ DQ) :
    unescape Generated.unescapeTable (quote (escapeMin (p ++ BS :: x :: q))) = p ++ BS :: x :: q :=
  literal_denotes (escapeMin_escaping _)

/-- Concrete instances, all four letters (`"\\n"` denotes backslash,n — two bytes). -/
example : unescape Generated.unescapeTable (quote [BS, BS, ch_n]) = [BS, ch_n] := by decide +kernel
example : unescape Generated.unescapeTable (quote [BS, BS, ch_t]) = [BS, ch_t] := by decide +kernel
example : unescape Generated.unescapeTable (quote [BS, BS, ch_r]) = [BS, ch_r] := by decide +kernel
example : unescape Generated.unescapeTable (quote [BS, BS, ch_f]) = [BS, ch_f] := by decide +kernel

/-- Non-vacuity of `Escaping`: a non-trivial string with every kind of character. -/
example : Escaping [97, BS, DQ, LF, 98] [97, BS, BS, BS, DQ, BS, ch_n, 98] :=
  .raw 97 (by decide) (by decide) (.bs (.dq (.ctl LF ch_n (by decide) (.raw 98 (by decide) (by decide) .nil))))

/-- Why the pinned tree (successive global passes, `\\`→`\` first) violated C11:
    the literal `"\\n"` (escaped backslash, then n) denoted a newline. -/
theorem pinned_table_violates :
    Escaping [BS, ch_n] [BS, BS, ch_n] ∧ unescape pinnedTable (quote [BS, BS, ch_n]) = [LF] := by
  refine ⟨.bs (.raw ch_n (by decide) (by decide) .nil), by decide +kernel⟩

end StorageModel.Properties.C11

open StorageModel.Properties.C11 in
#print axioms literal_denotes
#print axioms StorageModel.Properties.C11.every_string_has_literal
#print axioms StorageModel.Properties.C11.distinct_strings
#print axioms StorageModel.Properties.C11.no_reread
#print axioms StorageModel.Properties.C11.literal_lexes
#print axioms StorageModel.Properties.C11.compare_matches
#print axioms StorageModel.Properties.C11.eq_matches_exactly
#print axioms StorageModel.Properties.C11.filter_matches
#print axioms StorageModel.Properties.C11.filter_matches_written
#print axioms StorageModel.Properties.C11.set_atoms_independent
#print axioms StorageModel.Properties.C11.set_query_matches
#print axioms StorageModel.Properties.C11.seek_finds_own_literal
#print axioms StorageModel.Properties.C11.sorted_rows
#print axioms StorageModel.Properties.C11.table_is_good
#print axioms StorageModel.Properties.C11.pinned_table_violates
