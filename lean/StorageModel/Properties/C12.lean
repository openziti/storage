import StorageModel.C12.Clauses
import StorageModel.C12.Parens
import StorageModel.C12.Exact
import StorageModel.C12.Reader
import StorageModel.C12.Fix
import StorageModel.C12.LexProofs
import StorageModel.C12.Typed
import StorageModel.C12.Classes
import StorageModel.Generated.Grammar
/-
  C12 — Boolean connectives group as written: parentheses, precedence, case, spacing.

  "Parentheses group sub-expressions, chains of a single connective are associative, `not (P)`
  is the negation of P, and `and` binds tighter than `or` wherever the two are mixed without
  parentheses, independent of the order in which they appear.  Keywords and word operators are
  case-insensitive, and adding whitespace where whitespace is allowed or wrapping a
  sub-expression in redundant parentheses never changes a query's result."

  Quantifier: all boolean skeletons (all and/or/not/parenthesis arrangements) × all truth
  assignments; all case / whitespace / parenthesis re-spellings.

  Objects (StorageModel/C12/*.lean):
    `W α`       a skeleton as written; `W.render` is a bijection onto the well-formed token lists
                (`parse_render`, `parse_sound`, `readTokens_render`), so "∀ w : W α" is "for every
                boolean skeleton", with any number of atoms and any nesting;
    `code ts`   = `untypedL L G ts`: model of zitiql.Parse + ToBoltListener on a token list,
                instantiated with what /verif/extract reads from the source on every run:
                `G = Generated.boolExprParser` (the Precpred / boolExpr(k) numbers of the generated
                `boolExpr(_p int)`), `L = Generated.boolListener` (how ExitAndExpr / ExitOrExpr /
                ExitNotExpr / ExitGroup are written); `query L G` adds TypeTransformBool;
                `T.eval` is EvalBool;
    `W.readS`   the intended reading: `and` over `or`, parentheses are units, `not` loosest
                (`spec_is_dnf`: true iff some `or`-piece has all its `and`-units true).

  Every clause is proved for every skeleton (`and_over_or` is `code (render w) = some (readS w)`).
  The generated parser still hands each operator the whole rest of its level (`W.readM`); it is
  the listener of fix c2dd0be that restores the grouping.  The section at the end keeps the
  listener of the pinned tree and shows what was wrong with it (`pinned_listener_violates`,
  `pinned_listener_exact`, `pinned_listener_fails_exactly`).
-/
namespace StorageModel.Properties.C12
open StorageModel.C12 StorageModel.Generated

abbrev G : ParserNums := Generated.boolExprParser
abbrev L : ListenerShape := Generated.boolListener
abbrev TS : TransformShape := Generated.boolTransform

variable {α : Type}

/-- the model of zitiql.Parse + listener for the code that exists now -/
abbrev code (ts : List (Tok α)) : Option (U α) := untypedL L G ts

/-- The numbers found in `boolExpr(_p int)` of zitiql_parser.go are the ones ANTLR derives from
    the alternatives of `boolExpr` in ZitiQl.g4 (so the .g4 file still describes the parser). -/
theorem parser_numbers_match_grammar : antlrNumbers Generated.boolExprAlts = some Generated.boolExprParser := by
  decide +kernel

/-- With these numbers no precedence predicate can ever fail: `boolExpr` is only entered at
    levels ≤ both operator precedences (each operator gets the rest of its level). -/
theorem parser_is_greedy : Greedy Generated.boolExprParser := by decide

/-- `ExitAndExpr` re-associates, `ExitGroup` marks, `ExitOrExpr` / `ExitNotExpr` are plain, and
    `.grouped` is mentioned exactly twice in package ast — the listener the model interprets. -/
theorem listener_is_repaired : Generated.boolListener = repairedShape := by decide

/-- AND OR NOT TRUE FALSE are spelled with the case-insensitive letter fragments; WS and the
    parentheses are the expected characters. -/
theorem keywords_are_expected :
    Generated.keywords = expectedKeywords ∧ Generated.wsChars = [' ', '\n', '\t', '\r'] ∧
      Generated.lparenChars = ['('] ∧ Generated.rparenChars = [')'] := by decide +kernel

/-- `BooleanLogicExprNode.TypeTransformBool`, `UntypedNotExprNode.TypeTransformBool`, `EvalBool` of
    `AndExprNode` / `OrExprNode` / `NotExprNode` and the `transformTypes` glue are written the way
    `transform` / `T.eval` follow them: one typed node per untyped node, no rewrite of the tree. -/
theorem transform_is_plain : Generated.boolTransform = plainTransform := by decide

theorem code_eq (ts : List (Tok α)) : code ts = untypedFixed G ts := by
  simp [code, untypedL, listener_is_repaired]

theorem code_eq_read (ts : List (Tok α)) : code ts = (readTokens ts).map W.readS :=
  (code_eq ts).trans (untypedFixed_eq_read G parser_is_greedy ts)

/-- **Every skeleton is accepted and read as intended** (this is `and_over_or` in tree form). -/
theorem parse_render (w : W α) : code w.render = some w.readS := by
  rw [code_eq_read, readTokens_render]; rfl

/-- Nothing else is accepted: an accepted token list is a skeleton, and its tree is the
    intended one. -/
theorem parse_sound (ts : List (Tok α)) (u : U α) (h : code ts = some u) :
    ∃ w : W α, ts = w.render ∧ u = w.readS := by
  rw [code_eq_read, Option.map_eq_some_iff] at h
  obtain ⟨w, hw, rfl⟩ := h
  exact ⟨w, readTokens_sound ts w hw, rfl⟩

/-- The listener's stack discipline fits the generated parser: after the walk of any accepted
    input the stack holds exactly one node (no operand is dropped, no underflow), although
    `AndExpr`/`OrExpr` contexts could syntactically have more than two operands. -/
theorem stack_discipline (ts : List (Tok α)) (evs : List (Ev α)) (h : parseTokens G ts = some evs) :
    ∃ u, runFixed evs [] = some [u] := by
  rw [parseTokens_eq_read G parser_is_greedy, Option.map_eq_some_iff] at h
  obtain ⟨w, _, rfl⟩ := h
  obtain ⟨x, hx, _⟩ := runFixed_evM w []
  exact ⟨x, hx⟩

theorem query_render (isBool : α → Bool) (w : W α) :
    query L G isBool w.render = if w.allBool isBool then .ok w.readS.toT else .typeError := by
  simp only [query, show untypedL L G w.render = some w.readS from parse_render w, transform_eq, allBool_readS]
  cases w.allBool isBool <;> rfl

theorem query_eq_spec (isBool : α → Bool) (ts : List (Tok α)) : query L G isBool ts = specQuery isBool ts := by
  simp only [query, specQuery, show untypedL L G ts = _ from code_eq_read ts]
  cases readTokens ts <;> rfl

/-- The whole of `ast.Parse` on a skeleton is the spec: a type error iff some symbol is not
    boolean, otherwise a typed tree that evaluates like the intended reading. -/
theorem pipeline_reads (isBool : α → Bool) (w : W α) :
    query L G isBool w.render = specQuery isBool w.render ∧
    (w.allBool isBool = false → query L G isBool w.render = .typeError) ∧
    (w.allBool isBool = true → ∃ t, query L G isBool w.render = .ok t ∧ ∀ env, t.eval env = w.readS.eval env) :=
  ⟨query_eq_spec isBool _, fun h => by rw [query_render, h]; rfl,
    fun h => ⟨_, by rw [query_render, h]; rfl, fun env => toT_eval env _⟩⟩

/-- the model of the whole of `ast.Parse`, with the typing code found in the source -/
abbrev typed (isBool : α → Bool) (ts : List (Tok α)) : Option (Res α) := queryT TS L G isBool ts

theorem typed_eq (isBool : α → Bool) (ts : List (Tok α)) : typed isBool ts = some (query L G isBool ts) := by
  simp [typed, queryT, transform_is_plain]

/-- `ast.Parse` on a skeleton, with the typing code as it is: the spec's answer. -/
theorem typed_pipeline_reads (isBool : α → Bool) (w : W α) :
    typed isBool w.render = some (specQuery isBool w.render) := by
  rw [typed_eq, query_eq_spec]

theorem query_ok_iff (isBool : α → Bool) (w : W α) (t : T α) :
    query L G isBool w.render = .ok t ↔ w.allBool isBool = true ∧ t = w.readS.toT := by
  rw [query_render]
  cases w.allBool isBool <;> simp [eq_comm]

/-- **The typed tree is a bracketing of the written text**: read in order (left operand,
    connective, right operand; `not` before its operand) it is the written token list without the
    parentheses.  However large the skeleton and however its parts are related (equal operands,
    the same atoms grouped differently, mirrored operands): no atom, connective or `not` is
    dropped, duplicated, replaced or moved by the listener or by typing — only grouped, and
    (`pipeline_reads`) grouped as intended. -/
theorem typed_tree_is_a_bracketing (isBool : α → Bool) (w : W α) (t : T α)
    (h : typed isBool w.render = some (.ok t)) :
    t.inorder = w.render.filter (fun x => !x.isParen) := by
  rw [typed_eq] at h
  obtain ⟨_, rfl⟩ := (query_ok_iff isBool w t).1 (Option.some.inj h)
  rw [toT_inorder, readS_inorder, flat_eq_filter]

/-- non-vacuity: `(p and (q or r)) or ((p and q) or r)` is accepted and typed -/
example : ∃ t, typed (fun (_ : Nat) => true)
    (W.grpOp (.atomOp (.sym 0) .and (.grp (.atomOp (.sym 1) .or (.atom (.sym 2))))) .or
      (.grp (.grpOp (.atomOp (.sym 0) .and (.atom (.sym 1))) .or (.atom (.sym 2))))).render = some (.ok t) :=
  ⟨_, by rw [typed_eq, (pipeline_reads _ _).1]; rfl⟩

/-- **Both operands of a connective are kept, whatever they look like**: the typed tree of
    `(g) op (w)` is `op (typed g) (typed w)`, of `not ((g) op (w))` its negation, and its value is
    Go's `&&` / `||` of the two values — in particular when `g` and `w` are the same atoms and
    connectives grouped differently (their `String()` is then equal, `show_forgets_grouping`),
    or are equal. -/
theorem regrouped_operands_both_kept (isBool : α → Bool) (g w : W α) (o : Op) (tg tw : T α)
    (hg : query L G isBool g.render = .ok tg) (hw : query L G isBool w.render = .ok tw) :
    query L G isBool (W.grpOp g o (.grp w)).render = .ok (T.bin o tg tw) ∧
    query L G isBool (W.not (.grp (.grpOp g o (.grp w)))).render = .ok (.not (T.bin o tg tw)) ∧
    ∀ env, (T.bin o tg tw).eval env = o.apply (tg.eval env) (tw.eval env) := by
  obtain ⟨hbg, rfl⟩ := (query_ok_iff isBool g tg).1 hg
  obtain ⟨hbw, rfl⟩ := (query_ok_iff isBool w tw).1 hw
  have hb : (W.grpOp g o (.grp w)).allBool isBool = true := by rw [W.allBool, hbg]; exact hbw
  have hr : (W.grpOp g o (.grp w)).readS = .bin o g.readS w.readS := cons_readS (.grp g) o (.grp w) fun _ => rfl
  exact ⟨(query_ok_iff ..).2 ⟨hb, by rw [hr]; rfl⟩,
    (query_ok_iff ..).2 ⟨hb, by rw [readS_not, readS_grp, hr]; rfl⟩, fun env => T.bin_eval ..⟩

/-- non-vacuity, and the input a String()-based "X or X is X" simplification gets wrong: the
    operands `p and (q or r)` and `(p and q) or r` are the same text up to parentheses, the query
    `(p and (q or r)) or ((p and q) or r)` is true for p = false, r = true; its left operand alone is
    false. -/
example :
    (W.atomOp (Atom.sym 0) .and (.grp (.atomOp (.sym 1) .or (.atom (.sym 2))))).flat =
      (W.grpOp (.atomOp (Atom.sym 0) .and (.atom (.sym 1))) .or (.atom (.sym 2))).flat ∧
    (W.grpOp (.atomOp (Atom.sym 0) .and (.grp (.atomOp (.sym 1) .or (.atom (.sym 2))))) .or
      (.grp (.grpOp (.atomOp (.sym 0) .and (.atom (.sym 1))) .or (.atom (.sym 2))))).readS.eval (fun i => i == 2) = true ∧
    (W.atomOp (Atom.sym 0) .and (.grp (.atomOp (.sym 1) .or (.atom (.sym 2))))).readS.eval (fun i => i == 2) = false := by
  decide +kernel

/-- `not` of a typed operand is one `NotExprNode` around it (two `not`s stay two), written with or
    without parentheses, and it negates WHATEVER the operand evaluates to: `env` is an arbitrary
    valuation — one Bool per atom, i.e. per atom per row.  Atoms are opaque here (a boolean symbol, a
    comparison, in / between / contains, a set function); a row on which an atom's field is NULL or
    its set is empty is just another valuation (the atom is then false, or true for `!=` / `not
    contains`), so the statement covers those rows: no assumption that an atom and some
    "complementary" atom have opposite values is made or needed. -/
theorem typed_not_negates (isBool : α → Bool) (w : W α) (t : T α)
    (h : query L G isBool w.render = .ok t) :
    query L G isBool (W.not w).render = .ok (.not t) ∧
    query L G isBool (W.not (.grp w)).render = .ok (.not t) ∧
    query L G isBool (W.not (.grp (.not (.grp w)))).render = .ok (.not (.not t)) ∧
    (∀ env, (T.not t).eval env = !(t.eval env)) ∧
    ∀ env, (T.not (.not t)).eval env = t.eval env := by
  obtain ⟨hb, rfl⟩ := (query_ok_iff isBool w t).1 h
  exact ⟨(query_ok_iff ..).2 ⟨hb, rfl⟩, (query_ok_iff ..).2 ⟨hb, rfl⟩, (query_ok_iff ..).2 ⟨hb, rfl⟩,
    fun env => rfl, fun env => Bool.not_not _⟩

/-- non-vacuity: a single atom under `not`, with a valuation that makes the atom false (the
    situation of a comparison over a NULL field): the negation is true. -/
example : query L G (fun _ => true) (W.not (.grp (.atom (Atom.sym 0)))).render = .ok (.not (.atom (.sym 0))) ∧
    (T.not (.atom (Atom.sym 0))).eval (fun _ => false) = true := by
  constructor
  · exact ((typed_not_negates (fun _ => true) (.atom (Atom.sym 0)) (.atom (.sym 0))
      (by rw [query_ok_iff]; exact ⟨rfl, rfl⟩)).2.1)
  · rfl

/-! ## the typed class of the operand where `not` / `and` / `or` meet it
  (model: StorageModel/C12/Classes.lean; the class table is regenerated from ast/*.go) -/

abbrev CT : ClassTable := Generated.C10.classTable

/-- the model of `ast.Parse` on a skeleton whose atoms are typed as `cls` says -/
abbrev typedC (cls : α → String) (ts : List (Tok α)) : Res α := queryC .byInterface CT L G cls ts

/-- the structs a typed operand of `not` / `and` / `or` can be: what typing makes of a primary
    alternative of `boolExpr` (a bool symbol, BOOL, a comparison typed by its operands — bool, datetime,
    float64 incl. int-against-decimal-literal, int64, string —, `= null`, between, in, the set functions,
    isEmpty) and of `not` / `and` / `or` themselves (`x not in …` / `x not between …` are `NotExprNode`s) -/
def boolOperandClasses : List String := [
  "BoolSymbolNode", "AnyTypeSymbolNode", "BoolConstNode",
  "BinaryBoolExprNode", "BinaryDatetimeExprNode", "BinaryFloat64ExprNode", "BinaryInt64ExprNode",
  "BinaryStringExprNode", "IsNilExprNode",
  "Int64BetweenExprNode", "Float64BetweenExprNode", "DatetimeBetweenExprNode",
  "InStringArrayExprNode", "InInt64ArrayExprNode", "InFloat64ArrayExprNode", "InDatetimeArrayExprNode",
  "AllOfSetExprNode", "AnyOfSetExprNode", "IsEmptySetExprNode",
  "NotExprNode", "AndExprNode", "OrExprNode"]

/-- `BoolNode` structs that never survive typing (each `TypeTransformBool` replaces itself) or are the query itself -/
def transitoryBoolClasses : List String :=
  ["BetweenExprNode", "BinaryExprNode", "BooleanLogicExprNode", "InArrayExprNode", "UntypedNotExprNode",
   "queryNode", "untypedQueryNode"]

/-- (regenerated data) every listed operand struct implements `BoolNode` in the code as it is … -/
theorem operand_classes_are_bool_nodes : ∀ c ∈ boolOperandClasses, CT.isBoolNode c = true := by decide +kernel

/-- … and the list is complete: every struct of package ast that implements `BoolNode` is listed (or transitory). -/
theorem operand_classes_complete :
    ∀ row ∈ CT, row.2.1.contains "BoolNode" = true → row.1 ∈ boolOperandClasses ∨ row.1 ∈ transitoryBoolClasses := by
  decide +kernel

theorem connective_classes_are_bool_nodes : ConnectivesAreBoolNodes CT := by
  unfold ConnectivesAreBoolNodes; decide +kernel

/-- (regenerated data) the declared type is a different fact from `BoolNode` membership: the typed float
    comparison is a `BoolNode` whose `GetType()` reports `NodeTypeFloat64`; every other operand struct
    reports bool / any. -/
theorem declared_type_is_not_the_criterion :
    CT.isBoolNode "BinaryFloat64ExprNode" = true ∧ CT.getType "BinaryFloat64ExprNode" = "NodeTypeFloat64" ∧
    ∀ c ∈ boolOperandClasses, c ≠ "BinaryFloat64ExprNode" →
      CT.getType c = "NodeTypeBool" ∨ CT.getType c = "NodeTypeAnyType" := by decide +kernel

theorem typedC_eq (cls : α → String) (ts : List (Tok α)) :
    typedC cls ts = query L G (fun a => CT.isBoolNode (cls a)) ts :=
  queryC_eq_query CT L G cls connective_classes_are_bool_nodes ts

theorem query_reads_of_classes (cls : α → String) (hc : ∀ a, cls a ∈ boolOperandClasses) (w : W α) :
    ∃ t, query L G (fun a => CT.isBoolNode (cls a)) w.render = .ok t ∧ ∀ env, t.eval env = w.readS.eval env := by
  rw [show (fun a => CT.isBoolNode (cls a)) = fun _ => true from
    funext fun a => operand_classes_are_bool_nodes _ (hc a)]
  exact (pipeline_reads (fun _ => true) w).2.2 (allBool_true w)

/-- one node, ANY struct of the table (boolean or not): an operand is accepted under `not`, and two
    operands under `and` / `or`, iff their structs implement `BoolNode` — `GetType()` is not consulted. -/
theorem operand_accepted_iff_bool_node (cls : α → String) (a b : α) (o : Op) :
    transformC .byInterface CT cls (.not (.atom (.sym a))) =
      (if CT.isBoolNode (cls a) then some (.not (.atom (.sym a))) else none) ∧
    transformC .byInterface CT cls (.bin o (.atom (.sym a)) (.atom (.sym b))) =
      (if CT.isBoolNode (cls a) && CT.isBoolNode (cls b) then some (T.bin o (.atom (.sym a)) (.atom (.sym b)))
       else none) :=
  ⟨not_operand_accepted_iff_bool_node CT cls a, bin_operands_accepted_iff_bool_nodes CT cls o a b⟩

/-- **`not (P)` negates P for every typed class of P**: let the atoms of a skeleton `w` be typed as ANY
    of the boolean operand structs (`cls` arbitrary — float comparisons, promoted int-vs-float
    comparisons, datetime / string / bool comparisons, in / between, set functions, isEmpty, a bool
    symbol …; `w` itself may be an atom, a parenthesised and / or, a `not`).  Then `w` is accepted, `not w`,
    `not (w)` are accepted and typed as ONE `NotExprNode` around the typed `w`, `not (not (w))` as two, and
    they evaluate to the negation (resp. the value) of the intended reading of `w` under an arbitrary
    valuation (one Bool per atom per row, so NULL rows are covered). -/
theorem typed_not_negates_any_operand_class (cls : α → String) (hc : ∀ a, cls a ∈ boolOperandClasses)
    (w : W α) :
    ∃ t, typedC cls w.render = .ok t ∧
      typedC cls (W.not w).render = .ok (.not t) ∧
      typedC cls (W.not (.grp w)).render = .ok (.not t) ∧
      typedC cls (W.not (.grp (.not (.grp w)))).render = .ok (.not (.not t)) ∧
      (∀ env, t.eval env = w.readS.eval env) ∧
      (∀ env, (T.not t).eval env = !(w.readS.eval env)) ∧
      ∀ env, (T.not (.not t)).eval env = w.readS.eval env := by
  obtain ⟨t, ht, hv⟩ := query_reads_of_classes cls hc w
  obtain ⟨h1, h2, h3, h4, h5⟩ := typed_not_negates _ w t ht
  exact ⟨t, (typedC_eq ..).trans ht, (typedC_eq ..).trans h1, (typedC_eq ..).trans h2, (typedC_eq ..).trans h3, hv,
    fun env => by rw [h4, hv], fun env => by rw [h5, hv]⟩

/-- non-vacuity: every atom a typed float comparison -/
example : ∃ t, typedC (fun (_ : Nat) => "BinaryFloat64ExprNode") (W.not (.grp (.atom (Atom.sym 0)))).render = .ok (.not t) := by
  obtain ⟨t, _, _, h, _⟩ := typed_not_negates_any_operand_class (fun (_ : Nat) => "BinaryFloat64ExprNode")
    (fun _ => by decide +kernel) (.atom (Atom.sym 0))
  exact ⟨t, h⟩

/-- **`and` / `or` accept every boolean operand struct**: `(g) op (w)` is typed as `op (typed g) (typed w)`
    and evaluates to the conjunction / disjunction of the intended readings, `not ((g) op (w))` to one
    `NotExprNode` around it — for all skeletons `g`, `w` over atoms of arbitrary boolean operand structs. -/
theorem connectives_accept_every_bool_operand_class (cls : α → String)
    (hc : ∀ a, cls a ∈ boolOperandClasses) (g w : W α) (o : Op) :
    ∃ tg tw, typedC cls g.render = .ok tg ∧ typedC cls w.render = .ok tw ∧
      typedC cls (W.grpOp g o (.grp w)).render = .ok (T.bin o tg tw) ∧
      typedC cls (W.not (.grp (.grpOp g o (.grp w)))).render = .ok (.not (T.bin o tg tw)) ∧
      ∀ env, (T.bin o tg tw).eval env = o.apply (g.readS.eval env) (w.readS.eval env) := by
  obtain ⟨tg, hg, hvg⟩ := query_reads_of_classes cls hc g
  obtain ⟨tw, hw, hvw⟩ := query_reads_of_classes cls hc w
  obtain ⟨h1, h2, h3⟩ := regrouped_operands_both_kept _ g w o tg tw hg hw
  exact ⟨tg, tw, (typedC_eq ..).trans hg, (typedC_eq ..).trans hw, (typedC_eq ..).trans h1, (typedC_eq ..).trans h2,
    fun env => by rw [h3, hvg, hvw]⟩

/-- What a check of the DECLARED type in front of the interface assertion does (the other way "operand
    must be boolean" can be written in `UntypedNotExprNode.TypeTransformBool`; not the code): an operand
    typed as a float comparison is still accepted on its own and under `and` / `or`, but `not (P)` is a
    type error — the property's clause "`not (P)` is the negation of P" fails for exactly this struct
    (`declared_type_is_not_the_criterion`). -/
theorem declared_type_check_rejects_a_bool_node (cls : α → String) (a b : α)
    (ha : cls a = "BinaryFloat64ExprNode") (hb : CT.isBoolNode (cls b) = true) :
    typeQuery .byDeclaredType CT cls (.atom (.sym a)) = some (.atom (.sym a)) ∧
    typeQuery .byDeclaredType CT cls (.bin .and (.atom (.sym a)) (.atom (.sym b))) =
      some (.and (.atom (.sym a)) (.atom (.sym b))) ∧
    typeQuery .byDeclaredType CT cls (.not (.atom (.sym a))) = none ∧
    typeQuery .byInterface CT cls (.not (.atom (.sym a))) = some (.not (.atom (.sym a))) := by
  obtain ⟨h1, h2, _⟩ := declared_type_is_not_the_criterion
  obtain ⟨_, hn, hand, _⟩ := connective_classes_are_bool_nodes
  refine ⟨?_, ?_, ?_, ?_⟩ <;>
    simp [typeQuery, transformC, T.cls, T.bin, OperandCheck.accepts, ha, hb, h1, h2, hn, hand]

/-! ## clause 4 (headline): `and` binds tighter than `or`, independent of the order -/

/-- For every skeleton and every truth assignment the code's answer is the intended one:
    `or` splits the level, `and` joins inside the pieces, wherever they occur. -/
theorem and_over_or (w : W α) (env : α → Bool) :
    (code w.render).map (U.eval env) = some (w.readS.eval env) ∧
    (code w.render).map (U.eval env) = some (w.pieces.any (fun p => p.all (Unit'.val env))) := by
  rw [parse_render]
  exact ⟨rfl, by rw [Option.map_some, readS_eval_pieces]⟩

/-- Both orders, spelled out for arbitrary units `p q r` (atoms or parenthesised skeletons):
    `p and q or r` and `r or p and q` are `(p ∧ q) ∨ r`. -/
theorem and_over_or_both_orders (p q r : UnitW α) (env : α → Bool) :
    (code (p.cons .and (q.cons .or r.toW)).render).map (U.eval env) =
      some ((p.valS env && q.valS env) || r.valS env) ∧
    (code (r.cons .or (p.cons .and q.toW)).render).map (U.eval env) =
      some (r.valS env || (p.valS env && q.valS env)) := by
  rw [parse_render, parse_render]
  constructor
  · rw [W.readS, cons_readGo_and, cons_readGo_or]; rfl
  · rw [cons_readS_or, cons_readS_and _ _ (toW_noTopOr q)]; rfl

/-! ## clause 1: parentheses group sub-expressions -/

/-- A parenthesised sub-expression is read on its own and used as ONE operand: as the whole
    query; as right operand of any operator; as left operand of `or`; as left operand of `and`
    (it joins the first `and`-group of what follows — with a pure `and`-chain: the whole). -/
theorem paren_groups (g w : W α) (a : Atom α) (o : Op) :
    code (.lp :: (g.render ++ [.rp])) = code g.render ∧
    code (.atom a :: .op o :: .lp :: (w.render ++ [.rp])) = (code w.render).map (U.bin o (.atom a)) ∧
    code (.lp :: (g.render ++ .rp :: .op .or :: w.render)) =
      (code g.render).bind (fun l => (code w.render).map (U.bin .or l)) ∧
    (w.hasTopOr = false → code (.lp :: (g.render ++ .rp :: .op .and :: w.render)) =
      (code g.render).bind (fun l => (code w.render).map (U.bin .and l))) := by
  refine ⟨?_, ?_, ?_, ?_⟩
  · exact (parse_render (.grp g)).trans (parse_render g).symm
  · rw [parse_render w]
    exact (parse_render ((UnitW.atom a).cons o (.grp w))).trans (congrArg some (cons_readS _ o _ fun _ => rfl))
  · rw [parse_render g, parse_render w]; exact parse_render (.grpOp g .or w)
  · intro h
    rw [parse_render g, parse_render w]
    exact (parse_render ((UnitW.grp g).cons .and w)).trans (congrArg some (cons_readS_and _ w h))

/-- … and in general its content only matters through its value. -/
theorem paren_content_only_by_value (g g' w : W α) (o : Op) (env : α → Bool)
    (h : g.readS.eval env = g'.readS.eval env) :
    (code (W.grpOp g o w).render).map (U.eval env) = (code (W.grpOp g' o w).render).map (U.eval env) := by
  rw [parse_render, parse_render]
  have hv : val env g = val env g' := h
  show some (val env (.grpOp g o w)) = some (val env (.grpOp g' o w))
  rw [val_eq, val_eq]
  cases o <;> simp only [sem_grpOp_and, sem_grpOp_or, hv]

/-! ## clause 2: chains of a single connective are associative -/

/-- Every bracketing of `u₁ op u₂ op … op uₙ` (units: atoms or arbitrary parenthesised
    skeletons) evaluates like the flat chain: to the conjunction / disjunction of the units. -/
theorem chain_assoc (o : Op) (t : BT α) (u : UnitW α) (us : List (UnitW α)) (h : t.leaves = u :: us)
    (env : α → Bool) :
    (code (t.toW o).render).map (U.eval env) = some (foldOp o ((u :: us).map (UnitW.valS env))) ∧
    (code (chain o u us).render).map (U.eval env) = some (foldOp o ((u :: us).map (UnitW.valS env))) := by
  rw [parse_render, parse_render]
  exact ⟨congrArg some ((bracket_evalS env o t).trans (by rw [h])), congrArg some (chain_evalS env o u us)⟩

/-! ## clause 3: `not (P)` is the negation of P -/

theorem not_paren_negates (w : W α) (env : α → Bool) :
    code (.not :: .lp :: (w.render ++ [.rp])) = (code w.render).map U.not ∧
    (code (.not :: .lp :: (w.render ++ [.rp]))).map (U.eval env) =
      (code w.render).map (fun u => !(u.eval env)) := by
  have h1 : code (.not :: .lp :: (w.render ++ [.rp])) = some (.not w.readS) :=
    parse_render (.not (.grp w))
  rw [h1, parse_render w]
  exact ⟨rfl, rfl⟩

/-! ## clause 5: redundant parentheses -/

/-- One more pair of parentheses around ANY sub-expression of the intended reading — the whole
    query, a parenthesised level, the operand of `not`, an operand of `or`, a unit, a run of units
    inside an `and`-group, a run of whole `and`-groups; at any depth (`Paren`, complete list in
    StorageModel/C12/Parens.lean) — never changes the result. -/
theorem redundant_parens {b : Bool} {w w' : W α} (h : Paren b w w') (env : α → Bool) :
    (code w'.render).map (U.eval env) = (code w.render).map (U.eval env) := by
  rw [parse_render, parse_render]
  exact congrArg some (h.sem_eq env).1.symm

/-- For the pairs that do not regroup a chain the tree itself is unchanged. -/
theorem redundant_parens_same_tree {b : Bool} {w w' : W α} (h : RP b w w') :
    code w'.render = code w.render := by
  rw [parse_render, parse_render, h.readGo_eq.1]

/-- non-vacuity: `a and b or c` ↦ `(a and b) or c`;  `a or b and c` ↦ `a or (b and c)`;
    `x and a and b or c` ↦ `x and (a and b) or c` -/
example : Paren true (W.atomOp (.sym 0) .and (.atomOp (.sym 1) .or (.atom (.sym 2))))
    (W.grpOp (.atomOp (.sym 0) .and (.atom (.sym 1))) .or (.atom (.sym 2))) :=
  .runOr (.atomOp (.sym 0) .and (.atom (.sym 1))) (.atom (.sym 2)) rfl
example : Paren true (W.atomOp (.sym 0) .or (.atomOp (.sym 1) .and (.atom (.sym 2))))
    (W.atomOp (.sym 0) .or (.grp (.atomOp (.sym 1) .and (.atom (.sym 2))))) :=
  .atomOrTail _ _ _ _ (.whole _)
example : Paren true (W.atomOp (.sym 9) .and (.atomOp (.sym 0) .and (.atomOp (.sym 1) .or (.atom (.sym 2)))))
    (W.atomOp (.sym 9) .and (.grpOp (.atomOp (.sym 0) .and (.atom (.sym 1))) .or (.atom (.sym 2)))) :=
  .atomAndTail _ _ _ _ (.runOrIn false (.atomOp (.sym 0) .and (.atom (.sym 1))) (.atom (.sym 2)) rfl rfl)

/-! ## clause 6: keyword case and whitespace (lexer level) -/

/-- However the keywords are cased (any mask of upper-case letters) and however much whitespace
    (blank, tab, CR, LF) is put wherever the grammar allows it — at least one where it demands
    `WS+` — the lexer + whitespace rules yield the same token skeleton.  `Generated.keywords`
    is the table regenerated from ZitiQl.g4. -/
theorem respell_invariant (ts : List (Tok (List Char) × Spell)) (trail : List Char)
    (h : SpellOk none ts trail) :
    lexSkeleton Generated.keywords (renderChars ts trail) = some (ts.map (·.1)) := by
  rw [keywords_are_expected.1]
  exact lexSkeleton_render ts trail h

/-- Hence two spellings of the same skeleton are the same query. -/
theorem respelled_query_same_result (ts ts' : List (Tok (List Char) × Spell)) (trail trail' : List Char)
    (h : SpellOk none ts trail) (h' : SpellOk none ts' trail') (hsame : ts.map (·.1) = ts'.map (·.1))
    (isBool : List Char → Bool) :
    (lexSkeleton Generated.keywords (renderChars ts trail)).map (query L G isBool) =
      (lexSkeleton Generated.keywords (renderChars ts' trail')).map (query L G isBool) := by
  rw [respell_invariant ts trail h, respell_invariant ts' trail' h', hsame]

/-- non-vacuity: `( pa AnD\tNOT  pb )\n` is an admitted spelling of `( pa and not pb )` -/
example : SpellOk none
    [(.lp, ⟨[], []⟩), (.atom (.sym ['p', 'a']), ⟨[' '], []⟩), (.op .and, ⟨[' '], [true, false, true]⟩),
     (.not, ⟨['\t'], [true, true, true]⟩), (.atom (.sym ['p', 'b']), ⟨[' ', ' '], []⟩), (.rp, ⟨[' '], []⟩)]
    ['\n'] := by
  simp only [SpellOk, TokOk, AtomWord]
  decide +kernel

/-- The intended reading without trees: a skeleton is true iff one of its `or`-separated pieces
    has all of its `and`-joined units true (units: atoms, parenthesised skeletons, a trailing
    `not <rest>`). -/
theorem spec_is_dnf (w : W α) (env : α → Bool) :
    w.readS.eval env = w.pieces.any (fun p => p.all (Unit'.val env)) :=
  readS_eval_pieces env w

/-- the reader used by the driver's spec mode inverts `render` … -/
theorem readTokens_render (w : W α) : readTokens w.render = some w := StorageModel.C12.readTokens_render w

/-- … and the code accepts exactly the token lists that are skeletons. -/
theorem accept_agree (ts : List (Tok α)) : (code ts).isSome = (readTokens ts).isSome := by
  rw [code_eq_read, Option.isSome_map]

/-! ## what the numbers mean (illustrations on the model, not property theorems) -/

/-- the numbers ANTLR would generate for the ordinary binary form `boolExpr WS+ AND WS+ boolExpr` -/
def binaryFormNums : ParserNums :=
  { andPrec := 6, andRight := 7, andLoop := false, orPrec := 5, orRight := 6, orLoop := false,
    notLevel := 1, groupLevel := 0, startLevel := 0 }

/-- with them already the plain listener groups `a and b or c` as intended (chains nest left) -/
example : untyped binaryFormNums [.atom (.sym 0), .op .and, .atom (.sym 1), .op .or, .atom (.sym 2)] =
    some (.bin .or (.bin .and (.atom (.sym 0)) (.atom (.sym 1))) (.atom (.sym 2))) := by decide +kernel
example : untyped binaryFormNums [.atom (.sym 0), .op .or, .atom (.sym 1), .op .and, .atom (.sym 2)] =
    some (.bin .or (.atom (.sym 0)) (.bin .and (.atom (.sym 1)) (.atom (.sym 2)))) := by decide +kernel

/-- Keeping the suffix-loop form and only raising the operand levels would NOT do: an `AndExpr`
    context would then have three operands for `a and b and c`, `ExitAndExpr` pops two, and the
    first operand is silently lost (the stack discipline theorem depends on `parser_is_greedy`). -/
example : untyped { binaryFormNums with andLoop := true, orLoop := true }
    [.atom (.sym 0), .op .and, .atom (.sym 1), .op .and, .atom (.sym 2)] =
    some (.bin .and (.atom (.sym 1)) (.atom (.sym 2))) := by decide +kernel

/-! ## the listener of the pinned tree (before fix c2dd0be) — why the fix was needed -/

/-- the model with the old listener -/
abbrev pinned (ts : List (Tok α)) : Option (U α) := untypedL pinnedShape G ts

theorem pinned_eq (ts : List (Tok α)) : pinned ts = untyped G ts := by
  simp [pinned, untypedL, pinnedShape, repairedShape]

/-- `P and Q or R` with P false and R true: the pinned tree answered false, the intended answer
    (and the answer of the current code) is true. -/
theorem pinned_listener_violates :
    (pinned [Tok.atom (Atom.sym 0), .op .and, .atom (.sym 1), .op .or, .atom (.sym 2)]).map
        (U.eval (fun i => i == 2)) = some false ∧
    (code [Tok.atom (Atom.sym 0), .op .and, .atom (.sym 1), .op .or, .atom (.sym 2)]).map
        (U.eval (fun i => i == 2)) = some true := by
  constructor
  · rw [pinned_eq]; decide +kernel
  · rw [code_eq]; decide +kernel

/-- Exactly which skeletons were affected: the pinned listener built the tree `readM` (each
    operator takes the rest of its level), which is the intended tree iff no `and` had an
    unparenthesised `or` to its right on the same level (`W.ordered`) … -/
theorem pinned_listener_exact (w : W α) :
    (pinned w.render = some w.readM) ∧ (pinned w.render = some w.readS ↔ w.ordered = true) := by
  rw [pinned_eq, untyped_eq_read G parser_is_greedy, readTokens_render, Option.map_some]
  exact ⟨rfl, Option.some_inj.trans (readM_eq_readS_iff_ordered w)⟩

/-- … and over pairwise distinct symbols: some truth assignment got a wrong answer iff the
    skeleton is not `ordered`. -/
theorem pinned_listener_fails_exactly [DecidableEq α] (w : W α) (hd : w.Distinct) :
    (∃ env : α → Bool, (pinned w.render).map (U.eval env) ≠ some (w.readS.eval env)) ↔
      w.ordered = false := by
  rw [(pinned_listener_exact w).1]
  constructor
  · rintro ⟨env, h⟩
    cases ho : w.ordered with
    | false => rfl
    | true =>
      rw [(readM_eq_readS_iff_ordered w).2 ho] at h
      exact absurd rfl h
  · intro hn
    obtain ⟨env, h⟩ := not_ordered_differs w hd hn
    exact ⟨env, by simpa [val] using h⟩

end StorageModel.Properties.C12

#print axioms StorageModel.Properties.C12.parse_render
#print axioms StorageModel.Properties.C12.and_over_or
#print axioms StorageModel.Properties.C12.redundant_parens
#print axioms StorageModel.Properties.C12.respell_invariant
