import StorageModel.C10.LexProofs
import StorageModel.C10.TreeCursorProofs
import StorageModel.C10.ListenerProofs
import StorageModel.C10.ListenTreeProofs3
import StorageModel.C10.ParseProofs
import StorageModel.C10.G4Proofs
import StorageModel.C10.G4Complete
import StorageModel.C10.ParseComplete
import StorageModel.C10.BoltSortProofs
import StorageModel.C10.Objectz
import StorageModel.C10.TransformProofs
import StorageModel.C10.ValidateProofs
import StorageModel.C10.Pipeline
import StorageModel.C10.Session
import StorageModel.C10.BoltSymbols
import StorageModel.C10.BoltScan
import StorageModel.C10.Config
import StorageModel.C10.Expected
import StorageModel.Generated.C10Sites
import StorageModel.Generated.C10Atn
import StorageModel.C10.LexRules
/-
  C10 — Parsing and evaluation are total: no panics, invalid input is rejected.

  "For every input string, parsing terminates without panicking and yields either a typed query
  or an error, and text that is not a sentence of the filter grammar - including text containing
  characters the lexer does not recognise - is rejected rather than silently altered into a
  different query. Every query that parses successfully can be evaluated against any dataset,
  including null fields, empty sets and empty stores, without panicking."
-/
namespace StorageModel.Properties.C10
open StorageModel StorageModel.C10

/-! ## the reference lexer neither skips nor alters anything

  The four lexer theorems are proved for EVERY rule table (`lexWith rules`; the last one for
  every table satisfying the decidable predicate `GoodTable`) and then instantiated at `rules`,
  the table compiled from the regenerated grammar file (`Generated.C10.g4Rules`, i.e.
  zitiql/ZitiQl.g4 as it is now), for which `GoodTable` is established by `decide`. -/

/-- the grammar file was read completely and its lexer part compiles: every reference resolves
    (no recursion), every token has a name the model knows, and the resulting table has exactly one
    rule per token type in ANTLR's numbering, no rule matching the empty string, and outside
    STRING only characters of the recognised alphabet -/
theorem lexer_table_is_good :
    Generated.C10.g4Note = "" ∧ (G4.compileLexer Generated.C10.g4Rules).isSome = true ∧ GoodTable rules = true := by
  decide +kernel

/-- every token is non-empty and its text is matched by the grammar rule of its kind; in a good
    table that rule is unique -/
theorem lex_tokens_match_rules_any (tbl : List (TK × Pat)) (s : List Char) (ts : List Token)
    (h : lexWith tbl s = .ok ts) : Tokenises tbl s ts :=
  lexAuxWith_tokenises tbl _ _ _ _ h

theorem lex_tokens_match_rules (s : List Char) (ts : List Token) (h : lex s = .ok ts) :
    Tokenises rules s ts ∧ (∀ k p q, (k, p) ∈ rules → (k, q) ∈ rules → p = q) ∧ ∀ k, ∃ p, (k, p) ∈ rules :=
  ⟨lex_tokens_match_rules_any rules s ts h,
   fun _ _ _ hp hq => GoodTable.rule_unique lexer_table_is_good.2.2 hp hq,
   GoodTable.rule_exists lexer_table_is_good.2.2⟩

/-- **lossless lexing**, any rule table: the token texts, concatenated, are the input. -/
theorem lex_lossless_any (tbl : List (TK × Pat)) (s : List Char) (ts : List Token) (h : lexWith tbl s = .ok ts) :
    (ts.map (·.text)).flatten = s :=
  (lex_tokens_match_rules_any tbl s ts h).flatten

theorem lex_lossless (s : List Char) (ts : List Token) (h : lex s = .ok ts) :
    (ts.map (·.text)).flatten = s := lex_lossless_any rules s ts h

/-- a lexer error is reported at a position of the input where no rule matches a non-empty
    prefix (it is never an artefact of the fuel) -/
theorem lex_error_is_real_any (tbl : List (TK × Pat)) (s : List Char) (e : Nat) (h : lexWith tbl s = .error e) :
    ∃ pre rest, s = pre ++ rest ∧ rest ≠ [] ∧ e = pre.length ∧ ∀ kp ∈ tbl, longest kp.2 rest = none := by
  obtain ⟨pre, rest, h1, h2, h3, h4⟩ := lexAuxWith_error tbl (s.length + 1) s 0 e (by omega) h
  exact ⟨pre, rest, h1, h2, by omega, pickFrom_none rest tbl h4⟩

theorem lex_error_is_real (s : List Char) (e : Nat) (h : lex s = .error e) :
    ∃ pre rest, s = pre ++ rest ∧ rest ≠ [] ∧ e = pre.length ∧ pick rest = none ∧
      ∀ kp ∈ rules, longest kp.2 rest = none := by
  obtain ⟨pre, rest, h1, h2, h3, h4⟩ := lexAuxWith_error rules (s.length + 1) s 0 e (by omega) h
  exact ⟨pre, rest, h1, h2, by omega, h4, pickFrom_none rest rules h4⟩

/-- **unrecognised characters are rejected**, any good table: in an accepted input, a character
    outside the token alphabet (`@ # $ % ^ & * ; ~ { } | ?`, a back-quote, control characters,
    non-ASCII, …) can only occur inside a string literal; anywhere else it makes the lexer fail. -/
theorem lex_rejects_unrecognised_any (tbl : List (TK × Pat)) (hg : GoodTable tbl = true) (s : List Char)
    (ts : List Token) (h : lexWith tbl s = .ok ts) :
    ∀ t ∈ ts, t.kind ≠ .STRING → ∀ c ∈ t.text, recognised c = true :=
  (lex_tokens_match_rules_any tbl s ts h).recognised hg

theorem lex_rejects_unrecognised (s : List Char) (ts : List Token) (h : lex s = .ok ts) :
    ∀ t ∈ ts, t.kind ≠ .STRING → ∀ c ∈ t.text, recognised c = true :=
  lex_rejects_unrecognised_any rules lexer_table_is_good.2.2 s ts h

example : (match lex "a = 1 @".toList with | .error e => e == 6 | .ok _ => false) = true := by
  rw [lex_samples.1]; rfl
example : recognised '@' = false ∧ recognised '#' = false ∧ recognised ';' = false ∧ recognised '`' = false := by decide
/-- a table that is not good: a rule is missing / the token order is wrong.  A good table lists
    the token kinds in ANTLR's order (`GoodTable.kinds`), which neither of these does. -/
example : GoodTable (rules.drop 1) = false :=
  Bool.eq_false_iff.mpr fun h => by
    have hlen := congrArg List.length (GoodTable.kinds h)
    rw [List.length_map, List.length_drop, ← List.length_map (·.1), GoodTable.kinds lexer_table_is_good.2.2] at hlen
    exact absurd hlen (by decide)
example : GoodTable ((TK.STRING, Pat.eps) :: rules.drop 1) = false :=
  Bool.eq_false_iff.mpr fun h => by simpa [TK.all] using GoodTable.kinds h

/-- the `serializedATN` of zitiql_lexer.go, decoded by the extractor, has — rule by rule — exactly
    the transition labels the grammar file's lexer rules give (after ANTLR's set merging), the rule
    names (fragments included) in file order, the token numbering and the literal / symbolic name
    tables of the grammar file -/
theorem lexer_atn_matches_grammar : G4.lexerAtnOk Generated.C10.g4Rules Generated.C10.lexerAtn = true := by decide +kernel

/-- the same for zitiql_parser.go: rule names in file order, `boolExpr` the only precedence
    (left-recursive) rule with predicates `6 >= _p` (and) / `5 >= _p` (or) and the `not` operand
    called at precedence 1, per rule the token / rule-call labels of the grammar file's parser rules -/
theorem parser_atn_matches_grammar : G4.parserAtnOk Generated.C10.g4Rules Generated.C10.parserAtn = true := by decide +kernel

/-- the generated files are the pinned ones (SHA-256 of zitiql_lexer.go / zitiql_parser.go, SHA-256
    over the serializedATN integers, their number, number of states and decisions): a regenerated or
    hand-edited lexer or parser breaks this obligation -/
theorem generated_code_is_pinned :
    atnPins Generated.C10.lexerAtn Generated.C10.parserAtn = expectedAtnPins := rfl

/-- interfaces implemented by every node class of package ast, and their constant GetType():
    every type assertion of the model is a lookup in this table -/
theorem class_table_is_expected : Generated.C10.classTable = expectedClassTable := rfl

/-- the inventory of unchecked type assertions, pointer dereferences (with: is the pointer
    compared with nil in the function), constant indexes and slice expressions -/
theorem sites_are_expected : Generated.C10.partialSites = expectedSites := rfl

/-- zitiql.parse attaches the collecting error listener to BOTH lexer and parser -/
theorem wiring_is_expected : Generated.C10.wiring = expectedWiring := rfl

/-- the pooled parser's error listeners are removed before use on every path (debug or not) and
    again, deferred, after use -/
theorem pool_wiring_is_expected : Generated.C10.wiringPool = expectedWiringPool := rfl

/-- the callbacks ToBoltListener defines are the cases of the model's `step` -/
theorem callbacks_are_expected : Generated.C10.listenerCallbacks = expectedCallbacks := rfl

/-- **no panic on any callback sequence of an ANTLR walk** — complete derivations and
    error-recovered trees alike: array contexts contain only element terminals (`clean`). -/
theorem listener_no_panic (evs : List Ev) (h : clean false evs = true) : (listen evs).isPanic = false :=
  listen_no_panic_of_run evs (run_no_panic_of_clean evs false .init h (by intro h; cases h))

/-- the hypothesis is not vacuous, and without it the Go code does panic: a marker value inside
    an array group reaches `node.GetType()` with `node == nil` -/
example : clean false [.term .IDENTIFIER ['a'], .term .IN ['i', 'n'], .eSA, .term .STRING ['"', 'x', '"'], .xSA, .xIn, .xQ] = true := by decide
example : (listen [.eSA, .term .EQ ['='], .xSA]).isPanic = true := by decide

/-- **on every complete derivation** the walk yields exactly the query the derivation denotes, or
    latches an error (a literal is refused: number out of range, impossible date, non-integer
    skip/limit, a sub-query without predicate) -/
theorem listener_builds_query (t : StartTree) (h : t.wf = true) :
    listen t.events = (match t.build with
      | some u => .ok u
      | none => .err "listener error") ∧
    ∀ u, t.build = some u → shQuery u = true := by
  refine ⟨listen_tree t h, ?_⟩
  intro u hu
  simp only [StartTree.wf, Bool.and_eq_true] at h
  exact query_shaped t.q h.1.2 u hu

theorem listener_no_panic_on_trees (t : StartTree) (h : t.wf = true) : (listen t.events).isPanic = false := by
  rw [(listener_builds_query t h).1]; cases t.build <;> rfl

/-- an accepted token list is the yield of a well-formed derivation of `start` -/
theorem parse_sound (ts : List Token) (t : StartTree) (h : parseStart ts = some t) :
    t.yield = ts ∧ t.wf = true := parseStart_sound ts t h

/-- **accepted strings are sentences**: the string splits, without loss, into tokens matched by
    the lexer rules, and these tokens are the frontier of a derivation of the grammar.  So text
    that is not a sentence — in particular text with a character no token admits — is rejected. -/
theorem accepts_sound (s : List Char) (h : accepts s = true) :
    ∃ (ts : List Token) (t : StartTree), Tokenises rules s ts ∧ (ts.map (·.text)).flatten = s ∧ t.yield = ts ∧ t.wf = true := by
  obtain ⟨ts, hl, hp⟩ := (accepts_iff_lex s).mp h
  obtain ⟨t, hy, hwf⟩ := (parseStart_isSome_iff ts).mp hp
  have ht := lex_tokens_match_rules_any rules s ts hl
  exact ⟨ts, t, ht, ht.flatten, hy, hwf⟩

/-- the parser rules of the regenerated grammar file are the ones the derivation trees, `wf` and
    the recogniser were written against -/
theorem parser_rules_are_expected : G4.parserRules Generated.C10.g4Rules = expectedParserRules := by decide +kernel

/-- **the reference recogniser accepts exactly the sentences of zitiql/ZitiQl.g4 as it is now**: a
    string is accepted iff it lexes (with the rule table compiled from the grammar file) to tokens
    whose kinds are derived from `start` in the parser rules read from the grammar file.  Both
    directions, all strings: the recogniser accepts exactly the yields of well-formed derivation
    trees (`parseStart_isSome_iff`), and these are exactly the sentences (`tree_iff_sentence`; its
    `←` turns a derivation in the grammar's rules into a tree, `sentence_has_tree`: every rule of the
    file, read as a statement about token lists, yields the tree of its nonterminal). -/
theorem accepts_iff_g4 (s : List Char) :
    accepts s = true ↔
      ∃ ts : List Token, lex s = .ok ts ∧ G4.Sentence (G4.parserRules Generated.C10.g4Rules) (ts.map (·.kind)) := by
  simp only [accepts_iff_lex, parseStart_isSome_iff, tree_iff_sentence, parser_rules_are_expected, kinds]

/-- **accepted strings are sentences of zitiql/ZitiQl.g4 as it is now**: the token kinds of an
    accepted string are derived from `start` in the parser rules read from the grammar file
    (relation `G4.Derives`: sequences, alternatives, `?` `*` `+`, rule and token references taken
    literally from the file), and the tokens themselves are matched by the lexer rules compiled from
    the same file (`lex_tokens_match_rules`). -/
theorem accepted_is_g4_sentence (s : List Char) (h : accepts s = true) :
    ∃ ts : List Token, lex s = .ok ts ∧ Tokenises rules s ts ∧
      G4.Sentence (G4.parserRules Generated.C10.g4Rules) (ts.map (·.kind)) := by
  obtain ⟨ts, hl, hs⟩ := (accepts_iff_g4 s).mp h
  exact ⟨ts, hl, lex_tokens_match_rules_any rules s ts hl, hs⟩

/-- non-vacuity: a derivation exists, and the relation is not trivially true -/
example : G4.Sentence expectedParserRules [.IDENTIFIER, .WS, .EQ, .WS, .NUMBER] :=
  d_start ⟨[], .pred (.binary (.ident ⟨.IDENTIFIER, ['a']⟩) [⟨.WS, [' ']⟩] ⟨.EQ, ['=']⟩ [⟨.WS, [' ']⟩] ⟨.NUMBER, ['1']⟩) ⟨none, none, none⟩, []⟩
    (by decide)

/-- **every sentence is accepted** (completeness of the deterministic, greedy descent, and adequacy
    of its fuel `2·|tokens| + 4`): the yield of every well-formed derivation of `start` — whatever
    its shape: left- or right-nested `and`/`or` chains, `not` in the middle of a chain — is accepted
    (the tree found is in general a different derivation of the same token list). -/
theorem parse_complete (t : StartTree) (h : t.wf = true) : (parseStart t.yield).isSome = true :=
  parseStart_complete t h

def accepts_iff_fullStatement : Prop :=
  ∀ s : List Char, accepts s = true ↔
    ∃ (ts : List Token) (t : StartTree), lex s = .ok ts ∧ t.yield = ts ∧ t.wf = true

/-- **the reference recogniser accepts exactly the sentences**: both directions, all strings -/
theorem accepts_iff : accepts_iff_fullStatement := by
  intro s
  simp only [accepts_iff_lex, parseStart_isSome_iff, exists_and_left]

/-- non-vacuity of the completeness direction: a left-nested chain with a `not` in the middle, which
    the recogniser re-associates -/
example : (parseStart (StartTree.mk [] (.pred (.and (.not ⟨.NOT, ['n','o','t']⟩ [⟨.WS, [' ']⟩] (.symbol ⟨.IDENTIFIER, ['a']⟩))
    [⟨.WS, [' ']⟩] ⟨.AND, ['a','n','d']⟩ [⟨.WS, [' ']⟩] (.symbol ⟨.IDENTIFIER, ['b']⟩)) ⟨none, none, none⟩) []).yield).isSome = true := by
  decide

example : accepts "a = 1 @".toList = false := by rw [accepts, lex_samples.1]
example : accepts "a = 1".toList = true := by rw [accepts, lex_samples.2.1]; decide

/-- **typing never panics**: for every symbol table and every untyped query the grammar admits
    (any operand mix), PostProcess returns a typed query or an error, and a returned query is
    well typed -/
theorem transform_no_panic (st : SymTab) (u : U) (h : shQuery u = true) :
    (postProcess st u).isPanic = false ∧ ∀ t, postProcess st u = .ok t → okBool t = true := by
  have hv := (validate_ok u).1 ((sh_vShape u).2.2.2.2 h) ⟨false, st, false, [], none⟩ (Or.inr rfl)
  obtain ⟨v', hv', _⟩ := hv
  have hcls : impl u.cls .BoolTypeTransformable = true := by rw [shQuery_cls u h]; rfl
  have ht := (transform_good u).2.2.2.2 h st
  unfold postProcess
  rw [hv']
  simp only [Outcome.bind_ok, hcls, if_true]
  exact tres_ite (fun _ => tres_err _) <|
    tres_bind ht fun t hok => tres_ite (fun _ => tres_ok hok.1) (tres_err _)

/-- **evaluation never panics**: a query that parsed can be evaluated against any row — null
    fields, empty sets, no linked rows — in any state of the Symbols' set cursors, with seekable or
    plain cursors -/
theorem eval_no_panic (st : SymTab) (u : U) (h : shQuery u = true) (t : T) (ht : postProcess st u = .ok t)
    (seekable : Bool) (env : Env) : (evalBool seekable env t).isPanic = false :=
  (eval_np t).1 ((transform_no_panic st u h).2 t ht) seekable env

/-- **ast.Parse is total and what it returns can always be evaluated**: for every string, every
    symbol table and every dataset -/
theorem pipeline_total (st : SymTab) (s : List Char) :
    (parseModel st s).isPanic = false ∧
    ∀ t, parseModel st s = .ok t → ∀ (seekable : Bool) (env : Env), (evalBool seekable env t).isPanic = false := by
  unfold parseModel
  split
  · refine ⟨rfl, ?_⟩
    intro t ht sk env; cases ht
    exact (eval_np _).1 rfl sk env
  · cases hl : lex s with
    | error e => exact ⟨rfl, by intro t h; cases h⟩
    | ok ts =>
      simp only
      cases hp : parseStart ts with
      | none => exact ⟨rfl, by intro t h; cases h⟩
      | some tree =>
        simp only
        obtain ⟨_, hwf⟩ := parseStart_sound ts tree hp
        obtain ⟨hlisten, hshape⟩ := listener_builds_query tree hwf
        rw [hlisten]
        cases hb : tree.build with
        | none => exact ⟨rfl, by intro t h; cases h⟩
        | some u =>
          simp only
          have hu := hshape u hb
          exact ⟨(transform_no_panic st u hu).1, fun t ht sk env => eval_no_panic st u hu t ht sk env⟩

/-! ## the bolt-backed Symbols (boltz/query_cursor.go) -/

/-- reading any symbol through `rowCursorImpl.IsNil` (and likewise `Eval*`) never panics: plain
    fields, set symbols with or without an open cursor, unknown symbols, and — since fix 4e2e9ce —
    dotted set symbols that are read before a set function has opened a cursor on them
    (`count(kids.ss) = null`, `count(from kids where kids.ss = "x") > 0`) -/
theorem bolt_symbols_no_panic (s : Option BoltSym) : (rowIsNil s).isPanic = false := by
  cases s with
  | none => rfl
  | some b =>
    cases b with
    | field v => rfl
    | setRuntime v => rfl
    | composite c => cases c <;> rfl

/-- the input of fix 4e2e9ce: a dotted set symbol with no open cursor is reported as nil -/
example : rowIsNil (some (.composite none)) = .ok true := rfl

/-! ## sorting and paging in the store (boltz/store_query.go, query_scanners.go, query_sort.go) -/

/-- **a sort clause and skip / limit never make the store panic**: for every list of sort fields
    (unknown names, map elements, set symbols, symbols of a type no comparator exists for, more
    than `SortMax` fields, duplicates, `id` anywhere), every optional skip / limit (negative, huge),
    and every pair of rows whose values were written through the TypedBucket setters — null, of the
    symbol's type or of any other type —: choosing the scanner, building the row comparator (or
    refusing the sort field with an error), computing the paging window and comparing the two rows
    all end without panic. -/
theorem bolt_sort_no_panic (fields : List (SortSym × Bool)) (idView : List (Bool × Bool)) (skip limit : Option Int) :
    (newScanner idView).isPanic = false ∧ (setPaging skip limit).isPanic = false ∧
    (newRowComparator fields).isPanic = false ∧
    ∀ (l : List (CmpKind × Bool × Stored × Stored × Bool × Bool)),
      (∀ x ∈ l, x.2.2.1.wellFormed = true ∧ x.2.2.2.1.wellFormed = true) → (rowCompare l).isPanic = false :=
  ⟨newScanner_np idView, setPaging_np skip limit, newRowComparator_np fields, rowCompare_np⟩

/-- the hypothesis on stored values is needed, and only for string symbols: `FieldToString`
    dereferences the result of `FieldToBool` / `FieldToInt64` / `FieldToFloat64` unchecked, which is
    nil for a payload of the wrong length (no setter writes one) -/
example : (rowCompare [(.string, true, ⟨.bool, 0, true⟩, ⟨.string, 1, true⟩, false, false)]).isPanic = true := by decide
example : (rowCompare [(.string, true, ⟨.int64, 8, true⟩, ⟨.nil, 0, true⟩, false, false),
    (.bool, false, ⟨.string, 3, true⟩, ⟨.bool, 1, true⟩, true, false)]).isPanic = false := by decide
example : compareNillable none (some ()) false false true = .ok (-1) ∧ compareNillable (some ()) none false false true = .ok 1 ∧
    compareNillable none none false false false = .ok 0 ∧ compareNillable (some ()) (some ()) false true false = .ok (-1) :=
  ⟨rfl, rfl, rfl, rfl⟩

/-! ## objectz: the in-memory object store (objectz/object_store.go, object_cursor.go, object_store_sort.go) -/

/-- the full statement for objectz: a scan never panics, whatever the store's iterator function
    returns — nil ("nothing to iterate") included.  `nilTestFirst` is the order of the nil test and
    the first use of the iterator in `memSortingScanner.Scan`; the code's order is regenerated as
    `Generated.C10.objScanNilTestFirst`. -/
def objectz_scan_fullStatement (nilTestFirst : Bool) : Prop :=
  ∀ (skip limit : Option Int) (fields : List (Option ObjSymClass × Bool)) (cursor : Option Unit),
    (objScanPrologue nilTestFirst skip limit fields cursor).isPanic = false

/-- the order the code has (since fix bbcb51c): the iterator is compared with nil before its first use -/
theorem objectz_scan_order_is_repaired : Generated.C10.objScanNilTestFirst = true := by decide

/-- **objectz never panics while setting up and ordering a scan — the full statement, for the code as
    it is**: for every skip / limit, every list of sort fields (registered symbols of the five
    classes or unknown names, any number, duplicates) and EVERY iterator the store's iterator
    function may return — nil, empty or not —, `memSortingScanner.Scan` reaches its loop (or returns
    "nothing") without panic, an unknown sort field being an error; comparing two objects on a field
    never panics whichever of the two values is a nil pointer; `ObjectCursor.eval` does not panic on
    a registered name (the only names a query typed against the same store contains). -/
theorem objectz_scan_no_panic :
    objectz_scan_fullStatement Generated.C10.objScanNilTestFirst ∧
    (∀ (s1 s2 : Option Unit) (lt gt forward : Bool), (compareNillable s1 s2 lt gt forward).isPanic = false) ∧
    (objEval true).isPanic = false := by
  refine ⟨?_, compareNillable_np, rfl⟩
  rw [objectz_scan_order_is_repaired]
  exact fun skip limit fields cursor => objScanPrologue_np true skip limit fields cursor (.inl rfl)

/-- the model follows the code in either order: the full statement holds exactly for "nil test first" -/
theorem objectz_scan_follows_code :
    (Generated.C10.objScanNilTestFirst = true → objectz_scan_fullStatement Generated.C10.objScanNilTestFirst) ∧
    (Generated.C10.objScanNilTestFirst = false → ¬ objectz_scan_fullStatement Generated.C10.objScanNilTestFirst) := by
  constructor
  · intro h; rw [h]
    exact fun skip limit fields cursor => objScanPrologue_np true skip limit fields cursor (.inl rfl)
  · intro h; rw [h]
    intro hf
    have := hf none none [] none
    revert this
    decide

/-- the defect repaired by bbcb51c (replay `O noiter true`): with `cursor.Current()` BEFORE the nil
    test a nil iterator panics, whatever the query -/
example : (objScanPrologue false none none [] none).isPanic = true := by decide
example : (objScanPrologue true none none [] none).isPanic = false := by decide

/-- and an unregistered name reaching `ObjectCursor.eval` (a query typed against another symbol
    table) is a call on a nil interface -/
example : (objEval false).isPanic = true := rfl
example : (objScanPrologue false (some (-5)) (some 9223372036854775807) [(some .string, true), (none, false)] (some ())).isPanic = false := by decide

/-! ## histories of ast.Parse calls: a result depends on its own text only (C10/Session.lean) -/

/-- what the property demands of a process that parses one filter after another: whatever listener
    state the earlier calls left behind (`found`), whatever symbol table each call uses, and whatever
    callback sequences ANTLR's walks of the error-recovered trees of the rejected texts consisted of,
    every call answers exactly as it would have answered alone -/
def parse_history_fullStatement (perCall : Bool) : Prop :=
  ∀ (found : LState) (h : List Call), parseHistory perCall found h = standalone h

/-- ast.Parse as it is: the listener is constructed inside the call (`listener := NewListener()`,
    fresh stacks, no error) and reaches zitiql.Parse from nowhere else -/
theorem parse_listener_is_per_call : Generated.C10.astParseListenerPerCall = true := by decide

/-- **no call of ast.Parse is altered by the calls before it — the full statement, for the code as
    it is**: for every history of calls (sentences, non-sentences whose recovered trees were walked by
    the listener, listener errors, typing errors, the empty filter), over any symbol tables, the
    i-th result is `parseModel` of the i-th text; in particular (with `pipeline_total`) no call
    panics and what a call returns can be evaluated. -/
theorem parse_history_independent : parse_history_fullStatement Generated.C10.astParseListenerPerCall := by
  rw [parse_listener_is_per_call]
  exact parseHistory_perCall

/-- the model follows the code either way: the full statement holds exactly when the listener is
    constructed per call.  With a listener that outlives its call (pooled, package-level, …) and is
    reused as it was left, the history `true )` (rejected: ANTLR drops the `)`, the recovered tree is
    walked — BOOL, ExitQueryStmt —, its query node stays on the operand stack because getQuery, which
    would pop it, is not reached when there are syntax errors), then `limit 5`, is answered with a query
    whose predicate is that stale node instead of match-all (`Session.leak_history`). -/
theorem parse_history_follows_code :
    (Generated.C10.astParseListenerPerCall = true → parse_history_fullStatement Generated.C10.astParseListenerPerCall) ∧
    (Generated.C10.astParseListenerPerCall = false → ¬ parse_history_fullStatement Generated.C10.astParseListenerPerCall) := by
  constructor
  · intro h; rw [h]; exact parseHistory_perCall
  · intro h; rw [h]
    exact fun hf => leak_history (hf .init leakHistory)

/-- the leak, call by call: what the rejected text leaves behind, and what `limit 5` then becomes -/
example : (parseCall false .init noSymbols "true )".toList [.term .BOOL "true".toList, .xQ]).2 = staleState := leak_leftover
example : (parseCall false staleState noSymbols "limit 5".toList []).1
    = .ok (.query (.query (.boolC true) none none none) none none (some 5)) := leak_second_call
example : parseModel noSymbols "limit 5".toList = .ok (.query (.boolC true) none none (some 5)) := alone_second_call
/-- a stale latch leaks too: every later sentence fails -/
example : traces (parseHistory false ⟨[], [], true⟩ [⟨noSymbols, "true".toList, []⟩]) = [["err", "listener"]] := by
  simp only [parseHistory]
  rw [parseCall_fst _ _ _ _ _ (by decide), untypedFrom, lex_samples.2.2.1]
  decide
/-- and the listener state a call finds is irrelevant when the listener is constructed per call -/
example : (parseCall true ⟨[], [], true⟩ noSymbols "true".toList []).1 = parseModel noSymbols "true".toList :=
  parseCall_perCall _ _ _ _

/-! ## the tree-set cursor (ast/cursors.go, shared with C14) -/

/-- **any tree, also the empty one, any number of extra Next calls**: the cursor script yields
    exactly the in-order elements and then stays invalid. -/
theorem tree_cursor_enumerates (t : LTree) (extra : Nat) :
    tcScript t extra = .ok (t.inorder, List.replicate extra false) := by
  obtain ⟨c, hnew, hrem⟩ := tcNew_spec t
  obtain ⟨c', hdrain, hv⟩ := tcDrain_spec (t.size + 1) c (by rw [hrem, inorder_length]; omega)
  simp only [tcScript, hnew, hdrain, tcExtra_spec extra c' hv, hrem]

theorem tree_cursor_no_panic (t : LTree) (extra : Nat) : (tcScript t extra).isPanic = false := by
  rw [tree_cursor_enumerates]; rfl

/-- the empty tree (the input of fix 9437023) -/
example : tcScript .nil 2 = .ok ([], [false, false]) := rfl

/-- table obligation: in the regenerated inventory of members selected on possibly-nil buckets (read path of boltz)
    every site is guarded by a nil test, and the nil-safe getters are the ones the model relies on -/
theorem bucket_sites_are_guarded : codeGuards = Guards.all := by decide +kernel

/-- ∀ read API (QueryIdsC, QueryWithCursorC with a nil / empty / non-empty provider cursor, IterateIds,
    IterateValidIds, FindById, GetRelatedEntitiesIdList / Cursor, unique and set index Read), ∀ combinations of
    existing / never-created structural buckets, ∀ queries (any sort fields, skip, limit), root / child / extended
    child store: no panic; and when the bucket the API starts from does not exist the answer has no rows -/
theorem scan_no_panic_missing_buckets (api : Api) (b : Buckets) (q : Q) :
    (readApi codeGuards api b q).isPanic = false ∧
    (api.missing b = true → (readApi codeGuards api b q).rows = false) := by
  rw [bucket_sites_are_guarded]
  exact ⟨readApi_np api b q, readApi_missing_is_empty api b q⟩

/-- the model follows the code either way: all sites guarded → the full statement; a `Scan` that selects
    `OpenCursor` on the entities bucket without a nil test → every query panics on a never-written store -/
theorem scan_follows_code :
    (∀ api b q, (readApi Guards.all api b q).isPanic = false) ∧
    (∀ g : Guards, g.scanUnique = false → ∀ (b : Buckets) (q : Q), b.entities = false → q.sort = [] →
      (readApi g .queryIdsC b q).isPanic = true) :=
  ⟨readApi_np, fun g hg b q hb hq => unguarded_scan_panics g b q hg hb hq⟩

example : (readApi ⟨false, true, true, true, true, true, true⟩ .queryIdsC ⟨false, false, false, false, false⟩
    ⟨[], [], none, none, false, false⟩).isPanic = true := by decide +kernel

/-- table obligation: the debug branch of ast.Parse reads only the parameters of Parse -/
theorem debug_branch_reads_only_input : Generated.C10.astParseDebugReadsOnlyInput = true := by decide

/-- ∀ configurations, symbol tables, strings: the verdict of ast.Parse (typed query / which error / no panic) does
    not depend on `EnableQueryDebug`; hence `pipeline_total` holds under every configuration -/
theorem parse_config_independent (cfg : Config) (st : SymTab) (s : List Char) :
    parseModelCfg Generated.C10.astParseDebugReadsOnlyInput cfg st s = parseModel st s := by
  rw [debug_branch_reads_only_input]; exact parseModelCfg_independent cfg st s

/-- the model follows the code either way: a debug branch that reads the result panics, under the debug
    configuration only, on every filter refused after the syntax check -/
theorem parse_config_follows_code :
    (∀ cfg st s, parseModelCfg true cfg st s = parseModel st s) ∧
    (∀ st s e, parseModel st s = .err e → (e == "syntax") = false →
      (parseModelCfg false ⟨true⟩ st s).isPanic = true ∧ parseModelCfg false ⟨false⟩ st s = .err e) :=
  ⟨parseModelCfg_independent, parseModelCfg_leaks⟩

end StorageModel.Properties.C10

#print axioms StorageModel.Properties.C10.class_table_is_expected
#print axioms StorageModel.Properties.C10.sites_are_expected
#print axioms StorageModel.Properties.C10.wiring_is_expected
#print axioms StorageModel.Properties.C10.callbacks_are_expected
#print axioms StorageModel.Properties.C10.pool_wiring_is_expected
#print axioms StorageModel.Properties.C10.listener_no_panic
#print axioms StorageModel.Properties.C10.listener_builds_query
#print axioms StorageModel.Properties.C10.listener_no_panic_on_trees
#print axioms StorageModel.Properties.C10.parse_sound
#print axioms StorageModel.Properties.C10.accepts_sound
#print axioms StorageModel.Properties.C10.parse_complete
#print axioms StorageModel.Properties.C10.accepts_iff
#print axioms StorageModel.Properties.C10.transform_no_panic
#print axioms StorageModel.Properties.C10.eval_no_panic
#print axioms StorageModel.Properties.C10.pipeline_total
#print axioms StorageModel.Properties.C10.bolt_symbols_no_panic
#print axioms StorageModel.Properties.C10.bolt_sort_no_panic
#print axioms StorageModel.Properties.C10.objectz_scan_order_is_repaired
#print axioms StorageModel.Properties.C10.objectz_scan_no_panic
#print axioms StorageModel.Properties.C10.objectz_scan_follows_code
#print axioms StorageModel.Properties.C10.tree_cursor_enumerates
#print axioms StorageModel.Properties.C10.tree_cursor_no_panic
#print axioms StorageModel.Properties.C10.lexer_table_is_good
#print axioms StorageModel.Properties.C10.lexer_atn_matches_grammar
#print axioms StorageModel.Properties.C10.parser_atn_matches_grammar
#print axioms StorageModel.Properties.C10.generated_code_is_pinned
#print axioms StorageModel.Properties.C10.parser_rules_are_expected
#print axioms StorageModel.Properties.C10.accepted_is_g4_sentence
#print axioms StorageModel.Properties.C10.accepts_iff_g4
#print axioms StorageModel.Properties.C10.lex_lossless_any
#print axioms StorageModel.Properties.C10.lex_tokens_match_rules_any
#print axioms StorageModel.Properties.C10.lex_error_is_real_any
#print axioms StorageModel.Properties.C10.lex_rejects_unrecognised_any
#print axioms StorageModel.Properties.C10.lex_lossless
#print axioms StorageModel.Properties.C10.lex_tokens_match_rules
#print axioms StorageModel.Properties.C10.lex_error_is_real
#print axioms StorageModel.Properties.C10.lex_rejects_unrecognised
#print axioms StorageModel.Properties.C10.parse_listener_is_per_call
#print axioms StorageModel.Properties.C10.parse_history_independent
#print axioms StorageModel.Properties.C10.parse_history_follows_code
#print axioms StorageModel.Properties.C10.bucket_sites_are_guarded
#print axioms StorageModel.Properties.C10.scan_no_panic_missing_buckets
#print axioms StorageModel.Properties.C10.scan_follows_code
#print axioms StorageModel.Properties.C10.debug_branch_reads_only_input
#print axioms StorageModel.Properties.C10.parse_config_independent
#print axioms StorageModel.Properties.C10.parse_config_follows_code
