import StorageModel.Properties.C07
import StorageModel.Tx.Events
import StorageModel.Tx.GroupLemmas
/-
  C08 — Entity events: exactly once per committed change, none for undone work.

  "For every committed create, update or delete, each listener registered for that change type on
  the entity's store is invoked exactly once, after the commit, with the entity's final state
  (create, update) or last state (delete); a change to a child-store entity additionally produces
  exactly one event on the parent store, while plain parent entities produce none on the child
  store. Work that is rolled back or rejected produces no events, and commit actions and
  transaction-complete listeners run once per committed transaction."

  Model: the same as C07's (Tx/Store.lean: EntityChangeState, fireEvents = every constraint's
  ProcessPreCommit, then processPostCommit queued with tx.OnCommit; fireParentEvent / initFromChild;
  DeleteById's flow list with MarkParentEvent; Tx/Db.lean: the three listener adapters (`deliver`),
  processPostCommit, handleCommit, tx-complete listeners, in OnCommit order).  All theorems are about
  the return table regenerated from the code (`FromCode`).

  Two child stores (C, D) are registered on the parent store; an entity may have data in both.  A
  delete announces one flow per store that holds the entity (`Spec.deleteFlows`); an update is
  performed — and announced — by the first child store that holds the entity.

  The model also covers child data created over an existing plain parent entity (legal since fix
  8269ce9: a child store only looks at its own data for "already exists"): such a create is a change
  through the child store like any other — `child_change_parent_event` applies to it — and custom
  index-stage constraints (boltz.Constraint registered with AddConstraint) that reject operations
  through the error holder (see Properties/C07.lean); a rejected operation announces nothing.

  Order: deliveries are compared per listener registration (in order); nothing is claimed about the
  interleaving of asynchronous deliveries.  Commit actions belong to the MutateContext: a context
  used for a second transaction runs the actions registered during the first one again
  (`commit_actions_once` is stated per context-and-transaction).
-/
namespace StorageModel.Properties.C08
open StorageModel.Tx StorageModel.Tx.Spec StorageModel.Properties.C07

theorem table_is_expected : Generated.crudReturns = expectedReturns := C07.table_is_expected
theorem delivery_is_expected :
    Generated.deliveryFlags.all (·.2) = true ∧ Generated.deliveryFlags.length = 16 ∧
    Generated.adapterShapes = ["entityListenerAdapter", "entityFunctionListenerAdapter", "untypedEventListenerWrapper"].map expectedAdapter :=
  C07.delivery_is_expected

/-- **C08, exactly once** (all transactions that hand errors on, Update and Batch, all registrations,
    every registration style — the style only changes how the callback renders the entity): when the
    transaction commits, the listener registered at position `reg` on store σ receives, through the
    `slot`-th change type `t` it was registered with, exactly the committed changes of kind `t.kind`
    on σ — each once, in order, synchronously or asynchronously as `t` says, each with the entity's
    final (create, update) or last (delete) state.  The changes on the parent store include the
    parent events derived from child-store changes. -/
theorem events_exactly_once (env : Env) (h : FromCode env) (db : Db) (prevCtx : Ctx) (tx : TxSpec)
    (hw : tx.wellBehaved) (hok : (runTx env db prevCtx tx).res = .ok)
    (σ : StoreId) (reg slot : Nat) (style : Style) (types : List EvType) (t : EvType)
    (hreg : (env.regs σ)[reg]? = some (.listener style types)) (hslot : types[slot]? = some t) :
    deliveriesTo σ reg slot (runTx env db prevCtx tx).fired =
      ((txFlows env db prevCtx tx).filter (fun fl => fl.store = σ ∧ fl.kind = t.kind)).map
        (fun fl => (t.async, fl.kind, payload fl)) := by
  rw [(runTx_agree env h.expected db prevCtx tx hw).fired_ok hok]
  exact deliveries_of_commitList env _ _ true σ reg slot style types t hreg hslot

/-- the number of deliveries = the number of changes (the counting form of "exactly once") -/
theorem events_count (env : Env) (h : FromCode env) (db : Db) (prevCtx : Ctx) (tx : TxSpec)
    (hw : tx.wellBehaved) (hok : (runTx env db prevCtx tx).res = .ok)
    (σ : StoreId) (reg slot : Nat) (style : Style) (types : List EvType) (t : EvType)
    (hreg : (env.regs σ)[reg]? = some (.listener style types)) (hslot : types[slot]? = some t) :
    (deliveriesTo σ reg slot (runTx env db prevCtx tx).fired).length =
      ((txFlows env db prevCtx tx).filter (fun fl => fl.store = σ ∧ fl.kind = t.kind)).length := by
  rw [events_exactly_once env h db prevCtx tx hw hok σ reg slot style types t hreg hslot, List.length_map]

/-- **C08, constraints** (AddEntityConstraint / AddUntypedEntityConstraint): ProcessPostCommit of the
    constraint at position `reg` on store σ runs exactly once for every committed change on σ. -/
theorem constraint_posts_exactly_once (env : Env) (h : FromCode env) (db : Db) (prevCtx : Ctx) (tx : TxSpec)
    (hw : tx.wellBehaved) (hok : (runTx env db prevCtx tx).res = .ok)
    (σ : StoreId) (reg : Nat) (typed : Bool) (vetoes : List (Kind × String))
    (hreg : (env.regs σ)[reg]? = some (.constraint typed vetoes)) :
    postsTo σ reg (runTx env db prevCtx tx).fired = (txFlows env db prevCtx tx).filter (fun fl => fl.store = σ) := by
  rw [(runTx_agree env h.expected db prevCtx tx hw).fired_ok hok]
  exact posts_of_commitList env _ _ true σ reg typed vetoes hreg

/-- the flows of a single accepted operation, as the spec lists them -/
theorem op_flows (env : Env) (h : FromCode env) (fault : Fault) (o : Op) (st : TxSt)
    (hok : (runOp env fault o st).2 = .ok) :
    (runOp env fault o st).1.queue = st.queue ++ (specOp env fault o st.db).flows.map .post ∧
    (runOp env fault o st).1.db = (specOp env fault o st.db).db := by
  obtain ⟨_, _, hrest⟩ := runOp_refines env h.expected fault o st
  exact ⟨(hrest hok).queue, (hrest hok).core.db⟩

/-- **C08, final state** (create): every flow queued by an accepted create carries, as final state,
    the entity as FindById returns it right after the operation (on the flow's own store: the parent
    view for the parent event), and that is what listeners are handed. -/
theorem events_final_state_create (env : Env) (h : FromCode env) (fault : Fault) (σ : StoreId) (id : String) (f : PFields)
    (rank : String) (st : TxSt) (hok : (runOp env fault (.create σ id f rank) st).2 = .ok) :
    ∀ fl ∈ (specOp env fault (.create σ id f rank) st.db).flows,
      fl.id = id ∧ fl.kind = .created ∧
      payload fl = view fl.store (runOp env fault (.create σ id f rank) st).1.db id ∧ (payload fl).isSome = true := by
  obtain ⟨_, hiff, hrest⟩ := runOp_refines env h.expected fault (.create σ id f rank) st
  rw [show (runOp env fault _ st).1.db = _ from (hrest hok).core.db]
  obtain ⟨e1, e2⟩ := specCreate_accepted env fault σ id f rank st.db (hiff.mp hok)
  simp only [specOp, e1, e2]
  intro fl hfl
  obtain ⟨hs, hk, hi, _, hf⟩ := writeFlows_mem σ .created _ _ id fl hfl
  have hp : payload fl = view fl.store (st.db.put id (writtenEnt σ st.db id f rank)) id := by
    rw [payload, hk]
    exact hf
  refine ⟨hi, hk, hp, ?_⟩
  rw [hp]
  rcases hs with hs | hs <;> rw [hs]
  · simp [view_put_same]
  · exact view_created_some σ st.db id f rank

/-- **C08, final state** (update): the same for an accepted update; the flow also carries the state
    before the update. -/
theorem events_final_state_update (env : Env) (h : FromCode env) (fault : Fault) (σ : StoreId) (id : String) (f : PFields)
    (rank : String) (st : TxSt) (hok : (runOp env fault (.update σ id f rank) st).2 = .ok) :
    ∀ fl ∈ (specOp env fault (.update σ id f rank) st.db).flows,
      fl.id = id ∧ fl.kind = .updated ∧
      payload fl = view fl.store (runOp env fault (.update σ id f rank) st).1.db id ∧
      fl.initial = view fl.store st.db id := by
  obtain ⟨_, hiff, hrest⟩ := runOp_refines env h.expected fault (.update σ id f rank) st
  rw [show (runOp env fault _ st).1.db = _ from (hrest hok).core.db]
  obtain ⟨e1, e2⟩ := specUpdate_accepted env fault σ id f rank st.db (hiff.mp hok)
  simp only [specOp, e1, e2]
  intro fl hfl
  obtain ⟨_, hk, hi, h0, hf⟩ := writeFlows_mem _ .updated _ _ id fl hfl
  refine ⟨hi, hk, ?_, h0⟩
  rw [payload, hk]
  exact hf

theorem deleteFlows_shape (db : Db) (id : String) (e : Ent) (hg : db.get id = some e) :
    deleteFlows db id =
      (⟨.P, .deleted, id, some (.parent id e.f), none, e.child.isSome || e.child2.isSome⟩ : Flow) ::
      ((e.child.map fun r => (⟨.C, .deleted, id, some (.child id e.f r), none, false⟩ : Flow)).toList ++
       (e.child2.map fun g => (⟨.D, .deleted, id, some (.child2 id e.f g), none, false⟩ : Flow)).toList) := by
  unfold deleteFlows view
  simp only [hg]
  cases e.child <;> cases e.child2 <;> simp

/-- **C08, last state** (delete): every flow queued by an accepted delete carries the entity as it was
    before the delete, and the entity is gone afterwards. -/
theorem events_last_state_delete (env : Env) (h : FromCode env) (fault : Fault) (σ : StoreId) (id : String) (st : TxSt)
    (hok : (runOp env fault (.delete σ id) st).2 = .ok) :
    (∀ fl ∈ (specOp env fault (.delete σ id) st.db).flows,
      fl.id = id ∧ fl.kind = .deleted ∧ payload fl = view fl.store st.db id ∧ (payload fl).isSome = true) ∧
    (runOp env fault (.delete σ id) st).1.db.get id = none := by
  obtain ⟨_, hiff, hrest⟩ := runOp_refines env h.expected fault (.delete σ id) st
  have hacc := hiff.mp hok
  rw [show (runOp env fault _ st).1.db = _ from (hrest hok).core.db]
  obtain ⟨⟨e, hg⟩, e1, e2⟩ := specDelete_accepted env fault id st.db hacc
  simp only [specOp, e1, e2]
  refine ⟨?_, Db.get_del_same _ _⟩
  intro fl hfl
  rw [deleteFlows_shape st.db id e hg] at hfl
  simp only [List.mem_cons, List.mem_append, Option.mem_toList, Option.map_eq_some_iff] at hfl
  rcases hfl with rfl | ⟨r, hr, rfl⟩ | ⟨g, hr, rfl⟩
  · exact ⟨rfl, rfl, by simp [payload, view, hg], rfl⟩
  · exact ⟨rfl, rfl, by simp [payload, view, hg, hr], rfl⟩
  · exact ⟨rfl, rfl, by simp [payload, view, hg, hr], rfl⟩

/-- the child stores an operation's change concerns: the store a create goes through, the store that
    performs an update, every child store that holds a deleted entity (in registration order) -/
def childStoresOf (o : Op) (db : Db) : List StoreId :=
  match o with
  | .create σ _ _ _ => if σ = .P then [] else [σ]
  | .update σ id _ _ => if updateStore σ db id = .P then [] else [updateStore σ db id]
  | .delete _ id => (if hasChild db id then [.C] else []) ++ (if hasChild2 db id then [.D] else [])
  | .deleteWhere _ _ => []

/-- what an operation on one entity announces: a flow on the parent store, marked as parent event iff child stores are
    concerned, then one flow per child store concerned -/
def FlowsFor (cs : List StoreId) (flows : List Flow) : Prop :=
  ∃ pf cfs, flows = pf :: cfs ∧ pf.store = .P ∧ pf.parentEvent = !cs.isEmpty ∧ cfs.map (·.store) = cs ∧
    ∀ cf ∈ cfs, cf.store ≠ .P ∧ cf.parentEvent = false ∧ cf.kind = pf.kind ∧ cf.id = pf.id

theorem writeFlows_for (σe : StoreId) (k : Kind) (db db' : Db) (id : String) :
    FlowsFor (if σe = .P then [] else [σe]) (writeFlows σe k db db' id) := by
  cases σe
  · exact ⟨_, [], rfl, rfl, rfl, rfl, fun _ hcf => nomatch hcf⟩
  · exact ⟨_, [_], rfl, rfl, rfl, rfl, fun cf hcf => List.mem_singleton.mp hcf ▸ ⟨nofun, rfl, rfl, rfl⟩⟩
  · exact ⟨_, [_], rfl, rfl, rfl, rfl, fun cf hcf => List.mem_singleton.mp hcf ▸ ⟨nofun, rfl, rfl, rfl⟩⟩

theorem deleteFlows_for (σ : StoreId) (db : Db) (id : String) (e : Ent) (hg : db.get id = some e) :
    FlowsFor (childStoresOf (.delete σ id) db) (deleteFlows db id) := by
  rw [deleteFlows_shape db id e hg]
  unfold childStoresOf hasChild hasChild2
  simp only [hg, Option.bind_some]
  cases e.child <;> cases e.child2 <;> exact ⟨_, _, rfl, rfl, rfl, rfl, by simp⟩

theorem specOp_flows_for (env : Env) (fault : Fault) (o : Op) (db : Db) (hacc : (specOp env fault o db).accepted = true)
    (hnw : ∀ σ q, o ≠ .deleteWhere σ q) :
    FlowsFor (childStoresOf o db) (specOp env fault o db).flows := by
  cases o with
  | create σ id f rank =>
    rw [specOp, (specCreate_accepted env fault σ id f rank db hacc).2]
    exact writeFlows_for σ _ _ _ id
  | update σ id f rank =>
    rw [specOp, (specUpdate_accepted env fault σ id f rank db hacc).2]
    exact writeFlows_for _ _ _ _ id
  | delete σ id =>
    obtain ⟨⟨e, hg⟩, _, e2⟩ := specDelete_accepted env fault id db hacc
    rw [specOp, e2]
    exact deleteFlows_for σ db id e hg
  | deleteWhere σ q => exact absurd rfl (hnw σ q)

/-- **C08, a change to a child-store entity produces exactly one event on the parent store, marked as
    parent event, and exactly one on every child store concerned** — for a create through a child store
    (from scratch or over an existing parent entity, which may already have data in the other child
    store), an update (through any store) of an entity with child data — performed by the first child
    store that holds it —, a delete (through any store) of an entity with data in one or in both child
    stores: one flow per child store that holds it, in registration order. -/
theorem child_change_parent_event (env : Env) (h : FromCode env) (fault : Fault) (o : Op) (st : TxSt)
    (hok : (runOp env fault o st).2 = .ok)
    (hchild : childStoresOf o st.db ≠ []) :
    ∃ pf cfs, (specOp env fault o st.db).flows = pf :: cfs ∧
      pf.store = .P ∧ pf.parentEvent = true ∧
      cfs.map (·.store) = childStoresOf o st.db ∧
      (∀ cf ∈ cfs, cf.store ≠ .P ∧ cf.parentEvent = false ∧ cf.kind = pf.kind ∧ cf.id = pf.id) ∧
      (runOp env fault o st).1.queue = st.queue ++ (pf :: cfs).map .post := by
  obtain ⟨_, hiff, hrest⟩ := runOp_refines env h.expected fault o st
  obtain ⟨pf, cfs, e, hs, hp, hm, hc⟩ := (specOp_flows_for env fault o st.db (hiff.mp hok)
    (fun σ q e => hchild (e ▸ rfl)))
  refine ⟨pf, cfs, e, hs, ?_, hm, hc, by rw [(hrest hok).queue, e]⟩
  rw [hp]
  cases hcs : childStoresOf o st.db with
  | nil => exact absurd hcs hchild
  | cons _ _ => rfl

/-- **C08, plain parent entities produce no event on a child store**: a create through the parent
    store, an update or delete of an entity without data in any child store queue exactly one flow, on
    the parent store, not marked as parent event. -/
theorem plain_parent_no_child_event (env : Env) (h : FromCode env) (fault : Fault) (o : Op) (st : TxSt)
    (hok : (runOp env fault o st).2 = .ok)
    (hplain : childStoresOf o st.db = [] ∧ (match o with | .deleteWhere _ _ => False | _ => True)) :
    ∃ pf, (specOp env fault o st.db).flows = [pf] ∧ pf.store = .P ∧ pf.parentEvent = false ∧
      (runOp env fault o st).1.queue = st.queue ++ [.post pf] := by
  obtain ⟨_, hiff, hrest⟩ := runOp_refines env h.expected fault o st
  obtain ⟨pf, cfs, e, hs, hp, hm, _⟩ := (specOp_flows_for env fault o st.db (hiff.mp hok)
    (fun σ q e => by subst e; exact hplain.2))
  rw [hplain.1] at hp hm
  obtain rfl : cfs = [] := List.map_eq_nil_iff.mp hm
  exact ⟨pf, e, hs, hp, by rw [(hrest hok).queue, e]; rfl⟩

/-- **C08, work that is rolled back produces no events** (any body, any table): no listener, no
    constraint post-commit, no commit action, no tx-complete listener. -/
theorem rolled_back_no_events (env : Env) (db : Db) (prevCtx : Ctx) (tx : TxSpec)
    (hne : (runTx env db prevCtx tx).res ≠ .ok) : (runTx env db prevCtx tx).fired = [] :=
  (tx_atomic env db prevCtx tx hne).2

/-- a rejected operation queues nothing that could be delivered later: the transaction it is in fails
    (`C07.tx_error_surfaces`), and within the operation nothing is queued after the veto -/
theorem rejected_op_tx_fails (env : Env) (h : FromCode env) (db : Db) (ctx : Ctx) (pre post : List Step) (o : Op)
    (fault : Fault) (hp : Propagating (pre ++ .op o fault false :: post))
    (hrej : OpFails env (specBody env db ctx pre).db o) :
    (dbUpdate env db ctx (pre ++ .op o fault false :: post)).fired = [] :=
  (tx_atomic env db ctx { mode := .update, reuseCtx := true, body := pre ++ .op o fault false :: post }
    (rejected_operation_surfaces env h db ctx pre post o fault hp hrej)).2

/-- **C08, commit actions and transaction-complete listeners run once per committed transaction** —
    the full statement: one goroutine runs the commit actions of the transaction's context (each as
    often as it is registered on the context, in order), and every tx-complete listener runs exactly
    once, whether the transaction was run by Db.Update or by Db.Batch.  (A Db.Batch that registers no
    tx-complete listeners — the code before fix cb70ebf — falsifies this; `batch_runs_tx_complete` below is
    the Db.Batch witness.) -/
theorem commit_actions_once (env : Env) (h : FromCode env) (db : Db) (prevCtx : Ctx) (tx : TxSpec)
    (hw : tx.wellBehaved) (hok : (runTx env db prevCtx tx).res = .ok) :
    commitActionRuns (runTx env db prevCtx tx).fired = [(runTx env db prevCtx tx).ctx.commitActions] ∧
    txCompleteRuns (runTx env db prevCtx tx).fired = List.range env.txListeners := by
  have ha := runTx_agree env h.expected db prevCtx tx hw
  rw [ha.fired_ok hok, ha.ctx]
  exact actions_of_commitList env _ _

/-- witness for `commit_actions_once` under Db.Batch: one tx-complete listener, a Batch transaction that
    registers a commit action and deletes an entity — it commits, the commit action runs once, and so does
    the listener -/
def batchWitnessEnv : Env := { regsP := [], regsC := [], txListeners := 1, t := Generated.crudReturns }
def batchWitnessDb : Db := [("p1", { f := ⟨"n1", [], none, [], []⟩, child := none })]
def batchWitnessTx : TxSpec := { mode := .batch, reuseCtx := false, body := [.addCommit 1, .op (.delete .P "p1") .none false] }

theorem batch_runs_tx_complete :
    (runTx batchWitnessEnv batchWitnessDb Ctx.empty batchWitnessTx).res = .ok ∧
    commitActionRuns (runTx batchWitnessEnv batchWitnessDb Ctx.empty batchWitnessTx).fired = [[1]] ∧
    txCompleteRuns (runTx batchWitnessEnv batchWitnessDb Ctx.empty batchWitnessTx).fired = [0] := by
  decide

-- non-vacuity: a committed transaction deleting an entity with child data (a parent and a child flow),
-- a listener registered for [deleted, deletedAsync] on the parent store
example :
    (runTx { regsP := [.listener .untyped [⟨.deleted, false⟩, ⟨.deleted, true⟩]], regsC := [], txListeners := 1, t := Generated.crudReturns }
      [("c1", { f := ⟨"n", [], none, [], []⟩, child := some "k" })] Ctx.empty
      { mode := .update, reuseCtx := false, body := [.op (.delete .C "c1") .none false] }).res = .ok := by
  decide

-- non-vacuity / witness: child data created over an existing plain parent entity announces exactly one
-- parent event (marked) and one child event; a listener registered for creates on the parent store is
-- called once, with the parent view of the entity as it is after the create
example :
    (runTx { regsP := [.listener .untyped [⟨.created, false⟩]], regsC := [], txListeners := 0, t := Generated.crudReturns }
      [("p4", { f := ⟨"n0", ["t"], none, [], []⟩, child := none })] Ctx.empty
      { mode := .update, reuseCtx := false, body := [.op (.create .C "p4" ⟨"n0", ["t"], none, [], []⟩ "k5") .none false] }).res = .ok ∧
    deliveriesTo .P 0 0
      (runTx { regsP := [.listener .untyped [⟨.created, false⟩]], regsC := [], txListeners := 0, t := Generated.crudReturns }
        [("p4", { f := ⟨"n0", ["t"], none, [], []⟩, child := none })] Ctx.empty
        { mode := .update, reuseCtx := false, body := [.op (.create .C "p4" ⟨"n0", ["t"], none, [], []⟩ "k5") .none false] }).fired
      = [(false, .created, some (.parent "p4" ⟨"n0", ["t"], none, [], []⟩))] := by
  decide +kernel

-- witness: an entity with data in BOTH child stores is deleted through the first one — the delete listener
-- of the second child store is called exactly once, with the entity's last state in that store
example :
    deliveriesTo .D 0 0
      (runTx { regsP := [], regsC := [], regsD := [.listener .func [⟨.deleted, false⟩]], txListeners := 0, t := Generated.crudReturns }
        [("c1", { f := ⟨"n", [], none, [], []⟩, child := some "k", child2 := some "g" })] Ctx.empty
        { mode := .update, reuseCtx := false, body := [.op (.delete .C "c1") .none false] }).fired
      = [(false, .deleted, some (.child2 "c1" ⟨"n", [], none, [], []⟩ "g"))] := by
  decide +kernel

/-- **a context built with NewTxMutateContext** around the transaction of an enclosing Db.Update (mode raw):
    the commit actions registered on that context run exactly once when the transaction commits, the
    tx-complete listeners once (`commit_actions_once` holds for this mode as for the others — this is
    its instance), and never for a failed one (`rolled_back_no_events`).  Its pre-commit actions are never
    run: a failing one does not fail the transaction (witness below). -/
theorem commit_actions_once_tx_context (env : Env) (h : FromCode env) (db : Db) (prevCtx : Ctx) (body : List Step)
    (hw : Propagating body)
    (hok : (runTx env db prevCtx { mode := .raw, reuseCtx := false, body := body }).res = .ok) :
    commitActionRuns (runTx env db prevCtx { mode := .raw, reuseCtx := false, body := body }).fired =
      [(runTx env db prevCtx { mode := .raw, reuseCtx := false, body := body }).ctx.commitActions] ∧
    txCompleteRuns (runTx env db prevCtx { mode := .raw, reuseCtx := false, body := body }).fired = List.range env.txListeners :=
  commit_actions_once env h db prevCtx { mode := .raw, reuseCtx := false, body := body } hw hok

example :
    (runTx { regsP := [.listener .untyped [⟨.created, false⟩]], regsC := [], txListeners := 1, t := Generated.crudReturns }
      [] Ctx.empty
      { mode := .raw, reuseCtx := false, body := [.addCommit 4, .addPre 2 true, .op (.create .P "p1" ⟨"n", [], none, [], []⟩ "") .none false] }).fired
      = [.commitActions [4], .listener .P 0 0 false .created (some (.parent "p1" ⟨"n", [], none, [], []⟩)), .txComplete 0] := by
  decide +kernel

/-! ## batch groups: several Db.Batch calls coalesced by bbolt into one batch (Tx/Group.lean)

  Setting as in the section of the same name in Properties/C07.lean.  The theorems hold for EVERY schedule (when the solo
  re-runs happen relative to the rounds of the batch), any number of members, any bodies (handing operation errors on),
  any fault positions, any database, any contexts.

  What the code does / what the property demands.  The closure of DbImpl.Batch registers, per invocation, on the bbolt
  transaction it is invoked in: the member's handleCommit (setTx), the post-commit work of the member's changes
  (fireEvents), the tx-complete listeners (called with the member's MutateContext).  A shared transaction that commits
  with m members therefore runs every tx-complete listener m times, once per member context, and m commit-action
  goroutines, one per member context.  The property's "once per committed transaction" is read per committed Db.Batch
  CALL (the caller's transaction; the listener is handed that call's context): `batch_group_committed_once` shows that a
  call returns nil iff exactly one committed bbolt transaction invoked its function, `batch_group_tx_complete_once`
  that this transaction runs the call's commit actions and the tx-complete listeners exactly once for it, and
  `batch_group_rolled_back_no_events` that nothing else does. -/

abbrev groupRun (env : Env) (specs : Nat → Member) (db : Db) (ctxs : Nat → Ctx) (arrival : List Nat) (sched : List Sched) :=
  runGroup (modelRunner env) specs db ctxs arrival sched

/-- **every member whose call returns nil was committed in exactly one transaction** — and a call that returned an
    error, or has not returned, is part of no committed transaction (any runner, any schedule). -/
theorem batch_group_committed_once (env : Env) (specs : Nat → Member) (db : Db) (ctxs : Nat → Ctx)
    (arrival : List Nat) (hn : arrival.Nodup) (sched : List Sched) (k : Nat) :
    committedWith k (groupRun env specs db ctxs arrival sched).txs =
      if (groupRun env specs db ctxs arrival sched).result k = some .ok then 1 else 0 :=
  (runGroup_inv (modelRunner env) specs db ctxs arrival hn sched).count k

/-- when the schedule has run to its end (no call left in the batch, nobody left to try solo) every call has returned -/
theorem batch_group_all_return (env : Env) (specs : Nat → Member) (db : Db) (ctxs : Nat → Ctx)
    (arrival : List Nat) (hn : arrival.Nodup) (sched : List Sched)
    (hc : (groupRun env specs db ctxs arrival sched).complete = true) (k : Nat) (hk : k ∈ arrival) :
    ((groupRun env specs db ctxs arrival sched).result k).isSome = true := by
  have hi := runGroup_inv (modelRunner env) specs db ctxs arrival hn sched
  simp only [GState.complete, Bool.and_eq_true, List.isEmpty_iff] at hc
  rcases hi.covered k hk with h1 | h1 | h1
  · rw [hc.1] at h1
    cases h1
  · rw [hc.2] at h1
    cases h1
  · exact h1

/-- **C08 for batch groups, exactly once**: for each COMMITTED transaction of the group (a round of the batch that
    went through, or a solo re-run that succeeded) the listener registered at position `reg` on store σ receives,
    through the `slot`-th change type it was registered with, exactly the accepted changes of that kind on σ of the
    members of that transaction — member after member, each change once, in order, with its final / last state.
    (`events_exactly_once` is the case of a single caller.) -/
theorem batch_group_events_exactly_once (env : Env) (h : FromCode env) (specs : Nat → Member)
    (hw : ∀ k, Propagating (specs k).body) (db : Db) (ctxs : Nat → Ctx) (arrival : List Nat) (hn : arrival.Nodup)
    (sched : List Sched) (t : GTx) (ht : t ∈ (groupRun env specs db ctxs arrival sched).txs) (hc : t.committed = true)
    (σ : StoreId) (reg slot : Nat) (style : Style) (types : List EvType) (ty : EvType)
    (hreg : (env.regs σ)[reg]? = some (.listener style types)) (hslot : types[slot]? = some ty) :
    deliveriesTo σ reg slot t.fired =
      ((t.flows env).filter (fun fl => fl.store = σ ∧ fl.kind = ty.kind)).map (fun fl => (ty.async, fl.kind, payload fl)) := by
  rw [((runGroup_inv (modelRunner env) specs db ctxs arrival hn sched).wf t ht).fired_committed h.expected hw hc,
    deliveriesTo_flatMap, GTx.flows, List.filter_flatMap, List.map_flatMap]
  simp only [deliveries_of_commitList env _ _ true σ reg slot style types ty hreg hslot]

/-- the same for constraint registrations: ProcessPostCommit runs exactly once for every accepted change on σ of the
    committed transaction's members -/
theorem batch_group_constraint_posts_once (env : Env) (h : FromCode env) (specs : Nat → Member)
    (hw : ∀ k, Propagating (specs k).body) (db : Db) (ctxs : Nat → Ctx) (arrival : List Nat) (hn : arrival.Nodup)
    (sched : List Sched) (t : GTx) (ht : t ∈ (groupRun env specs db ctxs arrival sched).txs) (hc : t.committed = true)
    (σ : StoreId) (reg : Nat) (typed : Bool) (vetoes : List (Kind × String))
    (hreg : (env.regs σ)[reg]? = some (.constraint typed vetoes)) :
    postsTo σ reg t.fired = (t.flows env).filter (fun fl => fl.store = σ) := by
  rw [((runGroup_inv (modelRunner env) specs db ctxs arrival hn sched).wf t ht).fired_committed h.expected hw hc,
    postsTo_flatMap, GTx.flows, List.filter_flatMap]
  simp only [posts_of_commitList env _ _ true σ reg typed vetoes hreg]

/-- **commit actions and tx-complete listeners, per member closure**: in a committed transaction of the group every
    member that took part contributes exactly one segment to the OnCommit list, and that segment runs one goroutine
    with the commit actions of the member's context and every tx-complete listener exactly once (with that member's
    context); the members of a transaction are pairwise different.  Together with `batch_group_committed_once`: for
    every Db.Batch call that returns nil the commit actions of its context and the tx-complete listeners run exactly
    once — in the one committed transaction it took part in. -/
theorem batch_group_tx_complete_once (env : Env) (h : FromCode env) (specs : Nat → Member)
    (hw : ∀ k, Propagating (specs k).body) (db : Db) (ctxs : Nat → Ctx) (arrival : List Nat) (hn : arrival.Nodup)
    (sched : List Sched) (t : GTx) (ht : t ∈ (groupRun env specs db ctxs arrival sched).txs) (hc : t.committed = true) :
    t.invoked.Nodup ∧
    ∀ p ∈ t.parts, commitActionRuns p.out.fired = [p.out.ctx.commitActions] ∧
      txCompleteRuns p.out.fired = List.range env.txListeners := by
  have hwf := (runGroup_inv (modelRunner env) specs db ctxs arrival hn sched).wf t ht
  refine ⟨hwf.nodup, ?_⟩
  intro p hp
  obtain ⟨_, e1, e2⟩ := hwf.committed_part h.expected hw hc p hp
  rw [e2, e1]
  exact actions_of_commitList env _ _

/-- the whole transaction: as many commit-action goroutines and as many rounds of tx-complete listener calls as it
    has members (what the code does: registration per member closure) -/
theorem batch_group_tx_complete_per_member (env : Env) (h : FromCode env) (specs : Nat → Member)
    (hw : ∀ k, Propagating (specs k).body) (db : Db) (ctxs : Nat → Ctx) (arrival : List Nat) (hn : arrival.Nodup)
    (sched : List Sched) (t : GTx) (ht : t ∈ (groupRun env specs db ctxs arrival sched).txs) (hc : t.committed = true) :
    commitActionRuns t.fired = t.parts.map (·.out.ctx.commitActions) ∧
    txCompleteRuns t.fired = t.parts.flatMap (fun _ => List.range env.txListeners) := by
  have hparts := (batch_group_tx_complete_once env h specs hw db ctxs arrival hn sched t ht hc).2
  rw [GTx.fired, if_pos hc, commitActionRuns_flatMap, txCompleteRuns_flatMap,
    flatMap_congr_mem fun p hp => (hparts p hp).1, flatMap_congr_mem fun p hp => (hparts p hp).2]
  exact ⟨List.map_eq_flatMap.symm, rfl⟩

/-- **nothing is delivered for the rolled-back shared transaction or for a failed solo run** (bbolt discards the
    OnCommit list of a transaction that does not commit; that nothing reaches a listener except through that list is
    `delivery_is_expected`), the database is as before it — and a call that returned an error is part of no committed
    transaction at all. -/
theorem batch_group_rolled_back_no_events (env : Env) (specs : Nat → Member) (db : Db) (ctxs : Nat → Ctx)
    (arrival : List Nat) (hn : arrival.Nodup) (sched : List Sched) :
    (∀ t ∈ (groupRun env specs db ctxs arrival sched).txs, t.committed = false → t.fired = [] ∧ t.dbAfter = t.dbBefore) ∧
    (∀ k e, (groupRun env specs db ctxs arrival sched).result k = some (.err e) →
      committedWith k (groupRun env specs db ctxs arrival sched).txs = 0) := by
  obtain ⟨h1, _, h3⟩ := batch_group_atomic env specs db ctxs arrival hn sched
  exact ⟨fun t ht hc => (h1 t ht hc).symm, h3⟩

/-- a committed transaction of the group as the spec reads it: every member's invocation accepted (no step rejected,
    no pre-commit action failing), each on the database the member before it produced; and the transactions of the
    group follow one another on the database -/
theorem batch_group_committed_is_accepted (env : Env) (h : FromCode env) (specs : Nat → Member)
    (hw : ∀ k, Propagating (specs k).body) (db : Db) (ctxs : Nat → Ctx) (arrival : List Nat) (hn : arrival.Nodup)
    (sched : List Sched) :
    (∀ t ∈ (groupRun env specs db ctxs arrival sched).txs, t.committed = true → specChain env t.dbBefore t.parts t.dbAfter) ∧
    Linked db (groupRun env specs db ctxs arrival sched).txs (groupRun env specs db ctxs arrival sched).db := by
  have hi := runGroup_inv (modelRunner env) specs db ctxs arrival hn sched
  refine ⟨?_, hi.linked⟩
  intro t ht hc
  exact chainOk_specChain env h.expected specs hw _ _ _ (hi.wf t ht).parts ((hi.wf t ht).chain hc)

/-- **a group of one is Db.Batch with a single caller** (`dbBatch`, about which the theorems above this section
    speak): one round, then — if it failed — the solo re-run. -/
theorem batch_group_single_is_batch (env : Env) (db : Db) (ctx : Ctx) (body : List Step) :
    let s := groupRun env (fun _ => { body := body }) db (fun _ => ctx) [0] [.round, .solo 0]
    s.result 0 = some (dbBatch env db ctx body).res ∧ s.db = (dbBatch env db ctx body).db ∧
    s.ctxOf 0 = (dbBatch env db ctx body).ctx ∧ s.txs.flatMap GTx.fired = (dbBatch env db ctx body).fired ∧
    s.invs 0 = (dbBatch env db ctx body).runs := by
  have hg := runGroup_single (modelRunner env) { body := body } db ctx
  simp only [modelRunner, envAt, Member.bodyAt, Invocation.ok, Nat.le_refl, if_true, ne_eq, not_true_eq_false,
    false_and, if_false, show ¬ (2 ≤ 1) by omega] at hg
  intro s
  unfold dbBatch
  cases hr : (attempt env true db ctx body).res with
  | ok => simpa [hr, Res.isOk, commit] using hg
  | err e =>
    simp only [hr, Res.isOk, Bool.false_eq_true, if_false] at hg
    cases hr2 : (attempt env.later true db (attempt env true db ctx body).st.ctx (laterBody body)).res with
    | ok => simpa [hr, hr2, Res.isOk, commit] using hg
    | err e2 => simpa [hr, hr2, Res.isOk, rollback] using hg

/-! ### non-vacuity / witnesses (the scenario of a sibling failing after an earlier member already ran) -/

def grpEnv : Env := { regsP := [.listener .untyped [⟨.created, false⟩]], regsC := [], txListeners := 1, t := Generated.crudReturns }

/-- member 0 registers a commit action and creates p1; member 1 creates p2, registers a commit action and fails on
    its first invocation after the create -/
def grpSpecs : Nat → Member := fun k =>
  if k = 0 then { body := [.addCommit 1, .op (.create .P "p1" ⟨"n1", [], none, [], []⟩ "") .none false] }
  else { body := [.op (.create .P "p2" ⟨"n2", [], none, [], []⟩ "") .none false, .addCommit 2],
         faultInv := 1, faultPos := 1, faultTag := 911 }

example : ∀ k, Propagating (grpSpecs k).body := by
  intro k
  unfold grpSpecs Propagating
  split <;> decide

-- the shared transaction (members 0, 1) is rolled back; member 0 is re-run in a round of its own, which commits;
-- member 1 re-runs solo and commits: both calls return nil, each was committed in exactly one transaction, nothing
-- was delivered for the rolled-back shared transaction, and EACH committed transaction runs the tx-complete listener
-- once, one commit-action goroutine and announces exactly its own create
example :
    (groupRun grpEnv grpSpecs [] (fun _ => Ctx.empty) [0, 1] [.round, .round, .solo 1]).result 0 = some .ok ∧
    (groupRun grpEnv grpSpecs [] (fun _ => Ctx.empty) [0, 1] [.round, .round, .solo 1]).result 1 = some .ok ∧
    (groupRun grpEnv grpSpecs [] (fun _ => Ctx.empty) [0, 1] [.round, .round, .solo 1]).complete = true ∧
    (groupRun grpEnv grpSpecs [] (fun _ => Ctx.empty) [0, 1] [.round, .round, .solo 1]).txs.map (fun t => (t.invoked, t.committed))
      = [([0, 1], false), ([0], true), ([1], true)] ∧
    (groupRun grpEnv grpSpecs [] (fun _ => Ctx.empty) [0, 1] [.round, .round, .solo 1]).txs.map (fun t => txCompleteRuns t.fired)
      = [[], [0], [0]] ∧
    (groupRun grpEnv grpSpecs [] (fun _ => Ctx.empty) [0, 1] [.round, .round, .solo 1]).txs.map (fun t => commitActionRuns t.fired)
      = [[], [[1, 1]], [[2]]] ∧
    (groupRun grpEnv grpSpecs [] (fun _ => Ctx.empty) [0, 1] [.round, .round, .solo 1]).txs.map (fun t => deliveriesTo .P 0 0 t.fired)
      = [[], [(false, .created, some (.parent "p1" ⟨"n1", [], none, [], []⟩))],
             [(false, .created, some (.parent "p2" ⟨"n2", [], none, [], []⟩))]] := by
  decide +kernel

-- the other order of the same group (the solo re-run gets the writer lock before the next round): same verdicts
example :
    (groupRun grpEnv grpSpecs [] (fun _ => Ctx.empty) [0, 1] [.round, .solo 1, .round]).txs.map (fun t => (t.invoked, t.committed, txCompleteRuns t.fired))
      = [([0, 1], false, []), ([1], true, [0]), ([0], true, [0])] := by
  decide +kernel

-- nobody fails: ONE committed transaction with two members — the tx-complete listener runs once per member closure
-- (twice in that bbolt transaction, once for each call's context), two commit-action goroutines
example :
    (groupRun grpEnv (fun k => { (grpSpecs k) with faultInv := 0 }) [] (fun _ => Ctx.empty) [0, 1] [.round]).txs.map
        (fun t => (t.invoked, t.committed, txCompleteRuns t.fired, commitActionRuns t.fired))
      = [([0, 1], true, [0, 0], [[1], [2]])] := by
  decide +kernel

-- a member that always fails (its solo re-run fails too): its call returns the error, no committed transaction
-- contains it, nothing is delivered for it; the other member commits alone
example :
    (groupRun grpEnv (fun k => if k = 0 then grpSpecs 0 else { body := [.addCommit 2, .fail 7] }) [] (fun _ => Ctx.empty) [0, 1]
        [.round, .solo 1, .round]).result 1 = some (.err (.caller 7)) ∧
    (groupRun grpEnv (fun k => if k = 0 then grpSpecs 0 else { body := [.addCommit 2, .fail 7] }) [] (fun _ => Ctx.empty) [0, 1]
        [.round, .solo 1, .round]).txs.map (fun t => (t.invoked, t.committed, t.fired.length))
      = [([0, 1], false, 0), ([1], false, 0), ([0], true, 3)] := by
  decide +kernel

end StorageModel.Properties.C08
