import StorageModel.C15.General
import StorageModel.C15.Config
import StorageModel.C15.Cursor
import StorageModel.C15.Paging
import StorageModel.C15.Order
import StorageModel.C15.Extended
import StorageModel.C15.Layout
import StorageModel.C15.DepthProofs
/-
  C15 — Parent and child (extension) stores stay consistent.

  "For a child store layered on a parent store, an entity created through the child exists in
  both; the child store's queries and lookups return only entities that have child data (all
  parent entities for a store declared extended); updating through either store updates the
  shared fields and the parent's indexes; and deleting through either store removes both
  parts. Parent-store indexes and constraints apply identically to child entities."
  — for all histories of create/update/patch/delete issued through either store over mixed
  populations of plain-parent and child entities, for plain and extended child stores.

  The theorems are about the engine model `StorageModel.C15` (parent store A, plain child A1,
  extended child A2; `stepOpX`, `runX` — create / update / patch (with the parent entity strategy's
  validation of the shared fields) / DeleteById / DeleteWhere through each store —, `findById`,
  `queryIds`, …), which follows boltz/store.go,
  store_crud.go, store_query.go, query_scanners.go, base.go and the index protocol of
  indexes.go, and is compared with the real stores on every run of the check.

  `Config.current` — whether `BaseStore.Create` remembers the indexed values of an already
  existing parent entity before it persists — is regenerated from the source on every run.
  `create_captures_old_parent_values` is the obligation on that datum; with it every theorem
  below holds for ALL histories (including Create through a child store over an existing
  plain-parent id).  `pinned_create_violates` shows what happened without it.
-/
namespace StorageModel.Properties.C15
open StorageModel.C15

/-- Obligation on regenerated data: `BaseStore.Create` has one of the two shapes the model
    has an interpreter for. -/
theorem config_is_known : Config.known = true := by decide +kernel

/-- Obligation on regenerated data: `BaseStore.Create` runs the parent's `ProcessBeforeUpdate`
    when the parent entity already exists (the repair of 8269ce9). -/
theorem create_captures_old_parent_values : Config.current.childCreateCapturesOld = true := by decide +kernel

/-- a state reached by any history of transactions (create, update, patch, DeleteById,
    DeleteWhere; valid and invalid shared-field values) issued through A, A1 and A2 -/
def Reached (st : St) : Prop := ∃ hist : List (List OpX), st = runX Config.current St.init hist

theorem reached_inv {st : St} (h : Reached st) : Inv st := by
  obtain ⟨hist, rfl⟩ := h
  exact (runX_refines Config.current create_captures_old_parent_values hist St.init inv_init).2

/-- every history over create / update / DeleteById (`run`, `stepOp` of Model.lean) is admissible
    for the regenerated variant: the statements of C15/General.lean apply to it without exception -/
theorem admissible (hist : List (List Op)) : General.Admissible Config.current hist :=
  Or.inl create_captures_old_parent_values

/-- **Parent-store indexes and constraints apply identically to child entities.**  After every
    history issued through A, A1 and A2 the parent's unique index on `name` and set index on
    `roles` (and A1's own unique index) are exactly the image of the entity table — whatever
    store an entity was created, extended or updated through — and no entity has an empty name. -/
theorem parent_constraints_apply_to_child_entities (hist : List (List OpX)) :
    Inv (runX Config.current St.init hist) :=
  reached_inv ⟨hist, rfl⟩

/-- The engine model refines the table specification on every history: same entity table,
    and every further operation gives the same result — success with the same table (and the
    invariant again), or the same error. -/
theorem model_refines_spec (hist : List (List OpX)) :
    (runX Config.current St.init hist).ents = specRunX [] hist ∧
    ∀ op, match specOpX (specRunX [] hist) op with
      | .error e => stepOpX Config.current (runX Config.current St.init hist) op = .error e
      | .ok ents' => ∃ st', stepOpX Config.current (runX Config.current St.init hist) op = .ok st' ∧
          st'.ents = ents' ∧ Inv st' := by
  obtain ⟨h1, h2⟩ := runX_refines Config.current create_captures_old_parent_values hist St.init inv_init
  refine ⟨h1, fun op => ?_⟩
  have := stepOpX_refines Config.current create_captures_old_parent_values _ h2 op
  rw [h1] at this
  exact this

/-- The specification's indexes (`derive`: the image of the table, what the spec side of the
    check prints) answer every index read exactly like the engine model's incrementally
    maintained ones, after every history. -/
theorem derived_indexes_agree (hist : List (List OpX)) :
    let st := runX Config.current St.init hist
    let d := derive (specRunX [] hist)
    d.ents = st.ents ∧ (∀ v, mget d.nameIdx v = mget st.nameIdx v) ∧
    (∀ r j, (r, j) ∈ d.rolesIdx ↔ (r, j) ∈ st.rolesIdx) ∧ (∀ c, mget d.codeIdx c = mget st.codeIdx c) := by
  obtain ⟨h1, h2⟩ := runX_refines Config.current create_captures_old_parent_values hist St.init inv_init
  exact derive_agrees h1 h2

/-- **An entity created through the child exists in both**: after a successful `Create`
    through a child store (plain or extended; over a new id or over an existing entity that
    lacks that child's data) the entity is found through the parent store and through the child
    store with the shared fields and the child field given, both stores' queries return it, and
    the parent's indexes hold it — at any point of any history. -/
theorem create_through_child_exists_in_both (st : St) (hr : Reached st)
    (s : Sel) (hs : s = .A1 ∨ s = .A2) (id : Id) (p : Payload) (st' : St)
    (h : createV Config.current st s id p = .ok st') :
    findById st' .A id = some (p.name, canon p.roles, none) ∧
    findById st' s id = some (p.name, canon p.roles, p.child) ∧
    id ∈ queryIds st' .A .tt ∧ id ∈ queryIds st' s .tt ∧ id ∈ iterateValidIds st' s .tt ∧
    mget st'.nameIdx p.name = some id ∧ (∀ r, r ∈ p.roles → (r, id) ∈ st'.rolesIdx) :=
  General.create_through_child_exists_in_both _ st (reached_inv hr) s hs id p st'
    (Or.inl create_captures_old_parent_values) (createV_ok _ st s id p st' h)

/-- **The plain child store's queries return only entities that have child data** (and all of
    those that satisfy the filter) — for every state, every filter, unsorted and sorted scanner
    and the id iterators alike. -/
theorem child_query_only_child_rows (st : St) (f : Filter) (id : Id) :
    (id ∈ queryIds st .A1 f ↔ ∃ e, mget st.ents id = some e ∧ e.c1.isSome = true ∧ f.eval e = true) ∧
    (id ∈ querySorted st .A1 f ↔ id ∈ queryIds st .A1 f) ∧
    (id ∈ iterateValidIds st .A1 f ↔ id ∈ queryIds st .A1 f) :=
  General.child_query_only_child_rows st f id

/-- **The extended child store's queries return all parent entities**: the very same answer as
    the parent store's, in the same order; only `IterateValidIds` restricts to the entities
    that have extension data. -/
theorem extended_query_all_parent_rows (st : St) (f : Filter) :
    queryIds st .A2 f = queryIds st .A f ∧ querySorted st .A2 f = querySorted st .A f ∧
    (∀ id, id ∈ queryIds st .A2 f ↔ ∃ e, mget st.ents id = some e ∧ f.eval e = true) ∧
    (∀ id, id ∈ iterateValidIds st .A2 f ↔
      ∃ e, mget st.ents id = some e ∧ e.c2.isSome = true ∧ f.eval e = true) :=
  General.extended_query_all_parent_rows st f

/-- lookups through the plain child store find exactly the entities with child data, and
    show the parent's shared fields -/
theorem child_lookup_only_child_rows (st : St) (id : Id) :
    ((findById st .A1 id).isSome = true ↔ ∃ e, mget st.ents id = some e ∧ e.c1.isSome = true) ∧
    (∀ n r c, findById st .A1 id = some (n, r, c) → findById st .A id = some (n, r, none)) := by
  unfold findById bucketForLoad
  cases hm : mget st.ents id with
  | none => simp
  | some e =>
    obtain ⟨n, r, c1, c2⟩ := e
    cases c1 <;> simp [Ent.hasChild, Sel.isExtended, Ent.childField]

/-- lookups through the extended child store find every parent entity (child field nil when
    there is no extension data), with the parent's shared fields -/
theorem extended_lookup_all_parent_rows (st : St) (id : Id) :
    ((findById st .A2 id).isSome = (findById st .A id).isSome) ∧
    (∀ n r c, findById st .A2 id = some (n, r, c) → findById st .A id = some (n, r, none)) ∧
    (∀ e, mget st.ents id = some e → e.c2 = none → findById st .A2 id = some (e.name, e.roles, none)) := by
  unfold findById bucketForLoad
  cases hm : mget st.ents id with
  | none => simp
  | some e =>
    obtain ⟨n, r, c1, c2⟩ := e
    cases c2 <;> simp [Ent.hasChild, Sel.isExtended, Ent.childField]

/-- **Updating through the parent store or through the child store is the same operation**:
    for an entity with child data the parent store's `Update` *is* the child store's `Update`
    of the stored child entity with the caller's shared fields (same resulting state, same
    indexes, same error); and a patch through the child store that does not name the child
    field does the same as the patch through the parent store, whatever child value it carries. -/
theorem update_either_route_same_state (st : St) (id : Id) (e : Ent) (hm : mget st.ents id = some e)
    (p : Payload) (chk : Option Checker) :
    (e.hasChild .A1 = true →
      updateM st .A id p chk = updateM st .A1 id { p with child := e.childField .A1 } chk) ∧
    (e.hasChild .A1 = false → e.hasChild .A2 = true →
      updateM st .A id p chk = updateM st .A2 id { p with child := e.childField .A2 } chk) ∧
    (∀ c : Checker, chk = some c → c.child = false → e.hasChild .A1 = true →
      updateM st .A1 id p chk = updateM st .A id p chk) ∧
    (∀ c : Checker, chk = some c → c.child = false → e.hasChild .A1 = false → e.hasChild .A2 = true →
      updateM st .A2 id p chk = updateM st .A id p chk) :=
  General.update_either_route_same_state st id e hm p chk

/-- … and raises the same entity events (the parent's, then the child's), so listeners of the
    child store see an update of a child entity whichever store it was issued through; creating
    through a child raises the created event on both stores, deleting through any store raises
    the deleted event on the parent and on every child store that finds the entity -/
theorem update_either_route_same_events (st : St) (id : Id) (e : Ent) (hm : mget st.ents id = some e)
    (p p' : Payload) (chk chk' : Option Checker) :
    (e.hasChild .A1 = true → eventsOf st (.update .A id p chk) = eventsOf st (.update .A1 id p' chk')) ∧
    (e.hasChild .A1 = false → e.hasChild .A2 = true →
      eventsOf st (.update .A id p chk) = eventsOf st (.update .A2 id p' chk')) ∧
    (∀ s, s = .A1 ∨ s = .A2 → eventsOf st (.create s id p) = [⟨.A, .created, id⟩, ⟨s, .created, id⟩]) ∧
    (∀ s s', eventsOf st (.delete s id) = eventsOf st (.delete s' id)) ∧
    (∀ s, ⟨.A, .deleted, id⟩ ∈ eventsOf st (.delete s id) ∧ ⟨.A2, .deleted, id⟩ ∈ eventsOf st (.delete s id) ∧
      (e.hasChild .A1 = true → ⟨.A1, .deleted, id⟩ ∈ eventsOf st (.delete s id))) := by
  refine ⟨?_, ?_, ?_, fun _ _ => rfl, ?_⟩
  · intro h1; simp [eventsOf, isEntityPresent, hm, h1]
  · intro h1 h2; simp [eventsOf, isEntityPresent, hm, h1, h2]
  · rintro s (rfl | rfl) <;> rfl
  · intro s
    by_cases h1 : e.hasChild .A1 = true <;> simp [eventsOf, bucketForLoad, hm, h1, Sel.isExtended]

/-- **Updating through either store updates the shared fields and the parent's indexes**: a
    successful `Update`/patch through any store leaves the entity with the shared fields the
    checker names replaced (visible through the parent store), every other entity untouched,
    and the parent's indexes again the exact image of the table (so the new name and roles are
    indexed and the old ones are not) — at any point of any history. -/
theorem update_updates_shared_fields_and_indexes (st : St) (hr : Reached st)
    (s : Sel) (id : Id) (p : Payload) (chk : Option Checker) (st' : St)
    (h : updateV st s id p chk = .ok st') :
    Inv st' ∧
    ∃ e, mget st.ents id = some e ∧
      findById st' .A id = some ((persistShared e p chk).name, (persistShared e p chk).roles, none) ∧
      mget st'.nameIdx (persistShared e p chk).name = some id ∧
      (e.name ≠ (persistShared e p chk).name → mget st'.nameIdx e.name = none) ∧
      (∀ r, (r, id) ∈ st'.rolesIdx ↔ r ∈ (persistShared e p chk).roles) ∧
      (∀ j, j ≠ id → mget st'.ents j = mget st.ents j) :=
  General.update_updates_shared_fields_and_indexes Config.current st (reached_inv hr) s id p chk st'
    (updateV_ok st s id p chk st' h)

/-- **Deleting through either store removes both parts**: `DeleteById` through the plain child,
    the extended child or the parent is the same operation, and after it the entity is found
    through no store, returned by no store's queries, and has no child data left. -/
theorem delete_either_route_removes_both (st : St) (s : Sel) (id : Id) :
    deleteM st s id = deleteM st .A id ∧
    ∀ st', deleteM st s id = .ok st' →
      ∀ s', findById st' s' id = none ∧ isEntityPresent st' s' id = false ∧
        (∀ f, id ∉ queryIds st' s' f) ∧ (∀ f, id ∉ querySorted st' s' f) ∧ (∀ f, id ∉ iterateValidIds st' s' f) :=
  General.delete_either_route_removes_both st s id

/-- … and leaves no trace of the id: no index entry of the parent store or of the child store
    refers to it any more, every other entity is untouched, and the invariant still holds. -/
theorem delete_leaves_no_trace (st : St) (hr : Reached st) (s : Sel) (id : Id) (st' : St)
    (h : deleteM st s id = .ok st') :
    Inv st' ∧ mget st'.ents id = none ∧
    (∀ v, mget st'.nameIdx v ≠ some id) ∧ (∀ r, (r, id) ∉ st'.rolesIdx) ∧ (∀ c, mget st'.codeIdx c ≠ some id) ∧
    (∀ j, j ≠ id → mget st'.ents j = mget st.ents j) :=
  General.delete_leaves_no_trace Config.current st (reached_inv hr) s id st' h

/-- which entities have child data changes only by `Create` through that child store and by
    `DeleteById` (through any store) — for every state and every successful operation -/
theorem child_data_changes_only_by_create_delete (st st' : St) (op : Op)
    (h : stepOpX Config.current st (.ofOp op) = .ok st') (s : Sel) (hs : s = .A1 ∨ s = .A2) (j : Id) :
    isEntityPresent st' s j = General.childDataAfter op s j (isEntityPresent st s j) :=
  General.child_data_changes_only_by_create_delete _ st st' op (stepOpX_ofOp_ok _ st st' op h) s hs j

/-- `childDataAfter` spelled out: create through `s` of `j` sets it, delete of `j` clears it,
    everything else leaves it -/
example (s s' : Sel) (id j : Id) (p : Payload) (chk : Option Checker) (b : Bool) :
    General.childDataAfter (.create s' id p) s j b = ((s' == s && id == j) || b) ∧
    General.childDataAfter (.update s' id p chk) s j b = b ∧
    General.childDataAfter (.delete s' id) s j b = (id != j && b) := ⟨rfl, rfl, rfl⟩

/-- a `Create` through a child store with a name that another entity — plain-parent or child —
    already holds is refused as a duplicate, exactly as through the parent store; so is an
    `Update`/patch through a child store that changes the name to a taken one -/
theorem uniqueness_enforced_through_child (st : St) (hr : Reached st)
    (s : Sel) (id other : Id) (eo : Ent) (p : Payload)
    (hne : other ≠ id) (ho : mget st.ents other = some eo) (hname : eo.name = p.name) :
    (id ≠ 0 → isEntityPresent st s id = false → validateShared p none = none →
      createV Config.current st s id p = .error .dupName) ∧
    (∀ e chk, id ≠ 0 → mget st.ents id = some e → e.hasChild s = true → proceed chk (·.name) = true →
      e.name ≠ p.name → validateShared p chk = none → updateV st s id p chk = .error .dupName) := by
  obtain ⟨h1, h2⟩ := General.uniqueness_enforced_through_child _ st (reached_inv hr) s id other eo p hne ho hname
  refine ⟨fun a b hv => ?_, fun e chk a hm hc hpn hn hv => ?_⟩
  · rw [createV_of_valid _ st s id p hv]
    exact h1 a b (Or.inl create_captures_old_parent_values)
  · rw [updateV_of_valid st s id p chk (updatePre_eq_none.2 ⟨a, e, hm, hc⟩) hv]
    exact h2 e chk a hm hc hpn hn

/-! ### the id cursors a store hands out (`IdCur`, C15/Cursor.lean), under any script of `Next` / `Seek` calls

  `ListCur` is the specification: a position in `ownedIds` — the ids of the entities the
  store owns (plain child: the ones with child data; extended child: every parent entity, for
  `IterateValidIds` the ones with extension data) that satisfy the filter, in key order — where
  `Next` drops the head and `Seek v` goes to the first owned id ≥ v. -/

/-- **`IterateIds` through any store, any population, any script**: what the caller sees after
    opening the cursor and after every `Next` / `Seek` is what a list cursor over the owned ids
    shows (rows without child data are skipped by a plain child store at the first element,
    on `Next` and on `Seek`; a seek past the last owned id invalidates; a seek before the first
    owned id rests on it). -/
theorem iterate_ids_cursor_is_list_cursor (st : St) (s : Sel) (f : Filter) (script : List Step) :
    IdCur.trace st s f (.plain (iterateIdsCur st s f)) script =
      (ListCur.start (ownedIds st.ents s false f)).trace script := by
  rw [plain_trace st s f script _ (iterateIdsCur_spec st s f).1, (iterateIdsCur_spec st s f).2]; rfl

/-- **`IterateValidIds` through any store, any population, any script** — for the extended store
    this is `ValidIdsCursors`: the first-element skip of `IterateValidIds`, the skip loop after
    `wrapped.Next()` and the skip loop after `wrapped.Seek()` leave runs of plain-parent ids of
    any length, wherever they lie in the key space. -/
theorem iterate_valid_ids_cursor_is_list_cursor (st : St) (s : Sel) (f : Filter) (script : List Step) :
    IdCur.trace st s f (iterateValidIdsCur st s f) script =
      (ListCur.start (ownedIds st.ents s true f)).trace script := by
  cases hs : s.isExtended with
  | true =>
    obtain ⟨c, hc, g, a⟩ := iterateValidIdsCur_extended st s f hs
    rw [hc, valid_trace st s f script c g, a]; rfl
  | false =>
    have : iterateValidIdsCur st s f = .plain (iterateIdsCur st s f) := by
      simp [iterateValidIdsCur, hs]
    rw [this, iterate_ids_cursor_is_list_cursor, ownedIds_validOnly_irrelevant _ _ _ hs]

/-- … hence no script makes a cursor rest on an id the store does not own: through the plain
    child store only entities with child data, through the extended store's `IterateValidIds`
    only entities with extension data — and always entities that exist and satisfy the filter. -/
theorem cursor_rests_only_on_owned_ids (st : St) (s : Sel) (f : Filter) (script : List Step) (id : Id) :
    (some id ∈ IdCur.trace st s f (.plain (iterateIdsCur st s f)) script →
      ∃ e, mget st.ents id = some e ∧ ownsEnt s false e = true ∧ f.eval e = true) ∧
    (some id ∈ IdCur.trace st s f (iterateValidIdsCur st s f) script →
      ∃ e, mget st.ents id = some e ∧ e.hasChild s = true ∧ f.eval e = true) := by
  constructor
  · intro h
    rw [iterate_ids_cursor_is_list_cursor] at h
    exact (mem_ownedIds _ _ _ _ _).1 (ListCur.trace_mem _ script (fun a ha => ha) id h)
  · intro h
    rw [iterate_valid_ids_cursor_is_list_cursor] at h
    obtain ⟨e, he, ho, hf⟩ := (mem_ownedIds _ _ _ _ _).1 (ListCur.trace_mem _ script (fun a ha => ha) id h)
    exact ⟨e, he, ownsEnt_true s e ▸ ho, hf⟩

/-- `ownsEnt` spelled out, and the list specification spelled out: `Seek v` rests on the first
    owned id ≥ v (none: invalid), wherever the cursor was -/
example (e : Ent) : ownsEnt .A false e = true ∧ ownsEnt .A1 false e = e.c1.isSome ∧ ownsEnt .A1 true e = e.c1.isSome ∧
    ownsEnt .A2 false e = true ∧ ownsEnt .A2 true e = e.c2.isSome := ⟨rfl, rfl, rfl, rfl, rfl⟩
example (lc : ListCur) (v : Id) : (lc.step (.seek v)).current = lc.all.find? (fun a => v ≤ a) := by
  simp only [ListCur.step, ListCur.current]
  induction lc.all with
  | nil => rfl
  | cons x t ih =>
    by_cases h : x < v
    · have h' : ¬ v ≤ x := Nat.not_le.2 h
      simp [h, h', ih]
    · have h' : v ≤ x := Nat.le_of_not_lt h
      simp [h, h']

/-- the list functions the other theorems speak about are these lists: a cursor walked to its
    end with `Next` delivers `queryIds` / `iterateValidIds`, in this order -/
theorem query_lists_are_owned_ids (st : St) (s : Sel) (f : Filter) :
    queryIds st s f = ownedIds st.ents s false f ∧ iterateValidIds st s f = ownedIds st.ents s true f :=
  ⟨queryIds_eq_owned st s f, iterateValidIds_eq_owned st s f⟩

/-- **`QueryWithCursorC`** (the scanners' `ScanCursor` over the ids a caller's cursor provider
    enumerates): exactly the provided ids the store owns that satisfy the filter, in the
    provider's order (unsorted scanner) / as a set (sorting scanner) — a plain child store never
    returns a provided id without child data. -/
theorem query_with_cursor_only_owned_rows (st : St) (s : Sel) (f : Filter) (provided : List Id) :
    queryWithCursor st s f provided = provided.filter (ownedPred st.ents s false f) ∧
    (∀ id, id ∈ queryWithCursorSorted st s f provided ↔
      id ∈ provided ∧ ownedPred st.ents s false f id = true) := by
  refine ⟨scanLoop_eq_filter st s f provided, fun id => ?_⟩
  rw [queryWithCursorSorted, mem_foldl_insRow, scanLoop_eq_filter, List.mem_filter]
  simp

/-- after every history the cursor over a key of the parent's `roles` index (a typical provider)
    enumerates exactly the entities — plain-parent and child alike — that hold the role -/
theorem roles_index_cursor_enumerates_holders (st : St) (hr : Reached st) (r : Val) (id : Id) :
    id ∈ rolesIndexIds st r ↔ ∃ e, mget st.ents id = some e ∧ r ∈ e.roles := by
  unfold rolesIndexIds
  rw [mem_canon, ← (reached_inv hr).roles r id]
  simp

/-- non-vacuity (the population of seeded change C15-4: extension data on 1 and 5 only): the
    extended store's `IterateValidIds` cursor, sought to 2, leaves the run 2,3,4 and rests on 5;
    with a single `if` in place of the loop of `ValidIdsCursors.Seek` it would rest on 3 -/
def sampleMixed : St :=
  run Config.current St.init [[.create .A2 1 ⟨1, [], none⟩, .create .A 2 ⟨2, [], none⟩, .create .A 3 ⟨3, [1], none⟩,
    .create .A1 4 ⟨4, [1], some 1⟩, .create .A2 5 ⟨5, [], some 2⟩, .create .A 6 ⟨6, [], none⟩]]

example : IdCur.trace sampleMixed .A2 .tt (iterateValidIdsCur sampleMixed .A2 .tt) [.seek 2, .next, .seek 0, .next, .seek 6] =
    [some 1, some 5, none, some 1, some 5, none] := by decide +kernel
example : IdCur.trace sampleMixed .A1 .tt (iterateValidIdsCur sampleMixed .A1 .tt) [.seek 2, .next, .seek 5] =
    [some 4, some 4, none, none] := by decide +kernel
example : ownedIds sampleMixed.ents .A2 true .tt = [1, 5] ∧ ownedIds sampleMixed.ents .A2 false .tt = [1, 2, 3, 4, 5, 6] ∧
    ownedIds sampleMixed.ents .A1 false .tt = [4] := by decide +kernel
example : (ScanCur.next sampleMixed .A2 .tt (ScanCur.seek sampleMixed .A2 .tt (iterateIdsCur sampleMixed .A2 .tt) 2)).current
    = some 3 := by decide +kernel
example : queryWithCursor sampleMixed .A1 .tt (rolesIndexIds sampleMixed 1) = [4] ∧
    queryWithCursor sampleMixed .A2 .tt (rolesIndexIds sampleMixed 1) = [3, 4] := by decide +kernel

/-! ### paged walks: a compiled query with `skip` / `limit` handed to `IterateIds` / `IterateValidIds` / `QueryIds`

The scanner with its offset / collected accounting is `PScanCur` (C15/Paging.lean).  The specification
is the budgeted list cursor `PListCur` over the ids the store OWNS: `skip` is used up by owned rows
only (rows without child data never count, through the plain child store), `limit` counts the rows
handed out, both budgets survive a `Seek`. -/

/-- **paged `IterateIds` through any store, any population, any page, any script of `Next` / `Seek`**:
    what the caller sees is what the budgeted list cursor over the owned ids shows.  (`IterateValidIds`
    of a store that is not extended returns the same scanner.) -/
theorem paged_iterate_ids_cursor_is_paged_list_cursor (st : St) (s : Sel) (f : Filter) (pg : Page)
    (script : List Step) :
    (iterateIdsPaged st s f pg).trace st s f pg script =
      (PListCur.start pg (ownedIds st.ents s false f)).trace pg script :=
  iterateIdsPaged_trace st s f pg script

/-- **a paged walk (Next only) enumerates the page of the owned ids, and so does `QueryIds`**: the
    rows `skip` leaves out are rows the store owns, the walk through a plain child store delivers
    `(owned.drop skip).take limit` — the list `QueryIds` returns for the same query, whose count is the
    number of all owned matching rows. -/
theorem paged_walk_is_page_of_owned_ids (st : St) (s : Sel) (f : Filter) (pg : Page) (n : Nat) :
    (iterateIdsPaged st s f pg).trace st s f pg (List.replicate n .next) =
      (ListCur.start (pg.of (ownedIds st.ents s false f))).trace (List.replicate n .next) ∧
    queryIdsPaged st s f pg = (pg.of (ownedIds st.ents s false f), (ownedIds st.ents s false f).length) := by
  refine ⟨?_, queryIdsPaged_spec st s f pg⟩
  rw [iterateIdsPaged_trace]
  exact PListCur.trace_nexts pg _ n

/-- … and no page, no script makes a paged cursor rest on an id the store does not own -/
theorem paged_cursor_rests_only_on_owned_ids (st : St) (s : Sel) (f : Filter) (pg : Page)
    (script : List Step) (id : Id)
    (h : some id ∈ (iterateIdsPaged st s f pg).trace st s f pg script) :
    ∃ e, mget st.ents id = some e ∧ ownsEnt s false e = true ∧ f.eval e = true :=
  (ownedPred_iff ..).1 (PScanCur.trace_owned st s f pg script _ id h)

example (l : List Id) (k n : Nat) : (Page.mk k (some n)).of l = (l.drop k).take n ∧ (Page.mk k none).of l = l.drop k :=
  ⟨rfl, rfl⟩

/-- non-vacuity (`sampleMixed` extended by A1 data on 2 and 6: plain parents 3 and — for A1 — 1, 5 lie before and
    between the A1 entities 2, 4, 6): `skip 1 limit 10` through A1 starts at the second A1 entity; if the rows
    used up by `skip` were not restricted to A1's entities (seeded C15-17) it would start at 2 -/
def samplePaged : St :=
  run Config.current St.init [[.create .A2 1 ⟨1, [], none⟩, .create .A1 2 ⟨2, [], some 2⟩, .create .A 3 ⟨3, [1], none⟩,
    .create .A1 4 ⟨4, [1], some 1⟩, .create .A2 5 ⟨5, [], some 2⟩, .create .A1 6 ⟨6, [], some 3⟩]]

example : (iterateIdsPaged samplePaged .A1 .tt ⟨1, some 10⟩).trace samplePaged .A1 .tt ⟨1, some 10⟩ [.next, .next] =
    [some 4, some 6, none] ∧
    queryIdsPaged samplePaged .A1 .tt ⟨1, some 10⟩ = ([4, 6], 3) ∧
    (iterateIdsPaged samplePaged .A2 .tt ⟨2, some 2⟩).trace samplePaged .A2 .tt ⟨2, some 2⟩ [.next, .next] =
    [some 3, some 4, none] ∧
    (iterateIdsPaged samplePaged .A1 .tt ⟨1, some 2⟩).trace samplePaged .A1 .tt ⟨1, some 2⟩ [.seek 1, .seek 1, .seek 1] =
    [some 4, some 2, none, none] := by decide +kernel

/-- **`DeleteWhere` through a store removes exactly the entities that store's own `QueryIds`
    returns for the filter** — the ids the store owns (plain child: entities with child data;
    extended child and parent: every entity) that satisfy it —, each through the usual delete
    fan-out: it never fails, the removed entities are gone from every store, no index entry of
    the parent or of a child store refers to them, every other entity (a plain-parent entity
    matching a filter issued through the plain child store, say) is untouched, and the
    invariant holds again — at any point of any history. -/
theorem delete_where_exact (st : St) (hr : Reached st) (s : Sel) (f : Filter) :
    ∃ st', deleteWhereM st s f = .ok st' ∧ Inv st' ∧
      queryIds st s f = ownedIds st.ents s false f ∧
      (∀ j, mget st'.ents j = if j ∈ queryIds st s f then none else mget st.ents j) ∧
      (∀ j, j ∈ queryIds st s f →
        (∀ s', findById st' s' j = none) ∧ (∀ v, mget st'.nameIdx v ≠ some j) ∧
        (∀ r, (r, j) ∉ st'.rolesIdx) ∧ (∀ c, mget st'.codeIdx c ≠ some j)) := by
  obtain ⟨st', h1, h2, h3⟩ := deleteWhere_refines st (reached_inv hr) s f
  have hq := queryIds_eq_owned st s f
  have hget : ∀ j, mget st'.ents j = if j ∈ queryIds st s f then none else mget st.ents j := by
    intro j; rw [h2, hq]; exact mget_foldl_mdel _ _ j
  refine ⟨st', h1, h3, hq, hget, ?_⟩
  intro j hj
  have hgone : mget st'.ents j = none := by rw [hget j, if_pos hj]
  exact ⟨fun s' => by simp [findById, bucketForLoad, hgone], h3.no_trace hgone⟩

/-- … spelled out for the plain child store: an entity without A1 data survives whatever the filter -/
theorem delete_where_through_child_spares_plain_parents (st : St) (hr : Reached st) (f : Filter)
    (j : Id) (e : Ent) (hj : mget st.ents j = some e) (hplain : e.c1 = none) :
    ∃ st', deleteWhereM st .A1 f = .ok st' ∧ mget st'.ents j = some e := by
  obtain ⟨st', h1, _, hq, hget, _⟩ := delete_where_exact st hr .A1 f
  refine ⟨st', h1, ?_⟩
  rw [hget j, hq, if_neg, hj]
  intro hmem
  obtain ⟨e', he', ho, _⟩ := (mem_ownedIds _ _ _ _ _).1 hmem
  rw [hj] at he'; cases he'
  simp [ownsEnt, Sel.isExtended, Ent.hasChild, hplain] at ho

/-- **Every write the parent store refuses is refused through the child stores too, with the same
    error, and leaves the state as it was.**  (1) Whether `Create` is refused by the parent
    strategy's validation depends on the shared fields only: past the pre-checks, through every
    store and with any child value the verdict of `validateShared` is the result.  (2) For an
    entity with child data, `Update`/patch through the parent store *is* the update through
    the child store (same state or same error — validation errors, duplicates, …), also with the
    strategy's validation in place.  (3) A refused operation rolls its transaction back. -/
theorem reject_either_route_same (st : St) (id : Id) (p : Payload) (chk : Option Checker) :
    (∀ s c e, validateShared p none = some e → createPre st.ents s id = none →
      createV Config.current st s id { p with child := c } = .error e) ∧
    (∀ s c e, validateShared p chk = some e → updatePre st.ents s id = none →
      updateV st s id { p with child := c } chk = .error e) ∧
    (∀ e, mget st.ents id = some e → e.hasChild .A1 = true →
      updateV st .A id p chk = updateV st .A1 id { p with child := e.childField .A1 } chk) ∧
    (∀ e, mget st.ents id = some e → e.hasChild .A1 = false → e.hasChild .A2 = true →
      updateV st .A id p chk = updateV st .A2 id { p with child := e.childField .A2 } chk) ∧
    (∀ op rest e, stepOpX Config.current st op = .error e → stepTxX Config.current st (op :: rest) = st) := by
  refine ⟨?_, ?_, ?_, ?_, ?_⟩
  · intro s c e hv hp
    simp only [createV, hp, validateShared_child_irrelevant, hv]
  · intro s c e hv hp
    simp only [updateV, updateVWith, hp, validateShared_child_irrelevant, hv]
  · intro e hm h1
    have hpre : updatePre st.ents .A id = updatePre st.ents .A1 id := by
      have h1' : e.c1.isSome = true := h1
      simp [updatePre, hm, h1', Ent.hasChild]
    simp only [updateV, updateVWith, hpre, validateShared_child_irrelevant]
    rw [(update_either_route_same_state st id e hm p chk).1 h1]
  · intro e hm h1 h2
    have hpre : updatePre st.ents .A id = updatePre st.ents .A2 id := by
      have h2' : e.c2.isSome = true := h2
      simp [updatePre, hm, h2', Ent.hasChild]
    simp only [updateV, updateVWith, hpre, validateShared_child_irrelevant]
    rw [(update_either_route_same_state st id e hm p chk).2.1 h1 h2]
  · intro op rest e h
    exact stepTxX_of_error _ st op rest e h

/-- `validateShared` spelled out; non-vacuity: a reserved name / a fourth role is refused through
    the parent and through both child stores, on create and on update, and a patch that does not
    name the field is not -/
example (p : Payload) : validateShared p none =
    (if p.name == 9 then some Err.invalidName else if decide (p.roles.length > 3) then some Err.invalidRoles else none) := rfl
example : ∀ s ∈ [Sel.A, Sel.A1, Sel.A2],
    createV Config.current St.init s 1 ⟨9, [1], some 1⟩ = .error .invalidName ∧
    createV Config.current St.init s 1 ⟨1, [1, 2, 3, 1], some 1⟩ = .error .invalidRoles := by decide +kernel
example :
    let st := run Config.current St.init [[.create .A1 1 ⟨1, [1], some 1⟩]]
    updateV st .A 1 ⟨2, [1, 1, 1, 1], none⟩ none = .error .invalidRoles ∧
    updateV st .A1 1 ⟨2, [1, 1, 1, 1], some 1⟩ none = .error .invalidRoles ∧
    (updateV st .A1 1 ⟨2, [1, 1, 1, 1], some 1⟩ (some ⟨true, false, false⟩)).toOption.isSome = true := by decide +kernel
/-- non-vacuity for `DeleteWhere`: population of `sampleMixed` (A1 data on 4 only): `DeleteWhere(true)`
    through A1 removes 4 alone (under `hasRole 1` too, sparing the plain parent 3 that holds the
    role), through A2 everything -/
example : (deleteWhereM sampleMixed .A1 .tt).toOption.map (fun st => idsInOrder st) = some [1, 2, 3, 5, 6] ∧
    (deleteWhereM sampleMixed .A2 .tt).toOption.map (fun st => idsInOrder st) = some [] ∧
    (deleteWhereM sampleMixed .A1 (.hasRole 1)).toOption.map (fun st => (idsInOrder st, rolesIndexIds st 1)) = some ([1, 2, 3, 5, 6], [3]) := by
  decide +kernel

/-- **`FindById`, `LoadById`, `LoadEntity`, `IsEntityPresent` and `GetEntityBucket != nil` are
    functions of the one predicate "the store owns the entity" and the stored fields**: through a
    plain child store the three lookups find exactly the entities with child data, through an
    extended child store (and the parent) every parent entity — all three alike, with the same
    shared fields and child field —, and the two presence tests say whether the store has data of
    its own for the id.  For every state, store and id. -/
theorem lookup_apis_agree (st : St) (s : Sel) (id : Id) :
    findById st s id = ownedLookup st.ents s id ∧
    loadEntity st s id = ownedLookup st.ents s id ∧
    loadById st s id = (match ownedLookup st.ents s id with
      | some x => .ok x
      | none => .error .notfound) ∧
    isEntityPresent st s id = ownsData st.ents s id ∧
    entityBucketNonNil st s id = ownsData st.ents s id := by
  have h := findById_eq_owned st s id
  have h2 : loadEntity st s id = findById st s id := by
    unfold loadEntity findById; cases bucketForLoad st s id <;> rfl
  have h3 : loadById st s id = (match findById st s id with | some x => .ok x | none => .error .notfound) := by
    unfold loadById findById; cases bucketForLoad st s id <;> rfl
  have h4 : isEntityPresent st s id = ownsData st.ents s id := by
    unfold isEntityPresent ownsData
    cases mget st.ents id with
    | none => rfl
    | some e => exact (ownsEnt_true s e).symm
  refine ⟨h, by rw [h2, h], by rw [h3, h]; cases ownedLookup st.ents s id <;> rfl, h4, ?_⟩
  rw [← h4]
  unfold entityBucketNonNil isEntityPresent
  cases mget st.ents id <;> rfl

/-- non-vacuity (`sampleMixed`: extension data on 1 and 5, A1 data on 4, plain 2, 3, 6): the extended
    store's lookups find the plain-parent entity 2 (child field nil) though it has no data for it;
    the plain child store's do not -/
example : loadEntity sampleMixed .A2 2 = some (2, [], none) ∧ loadById sampleMixed .A2 2 = .ok (2, [], none) ∧
    isEntityPresent sampleMixed .A2 2 = false ∧ loadEntity sampleMixed .A1 2 = none ∧
    loadById sampleMixed .A1 2 = .error .notfound ∧ loadEntity sampleMixed .A1 4 = some (4, [1], some 1) := by decide +kernel

/-! ### the shape of the layering: child data paths of any length

  `Schema` = the `BasePath`s of the two child stores (the sub-path of the child's data bucket inside
  the parent's entity bucket; one or more segments; shared prefixes such as ext/a, ext/b allowed;
  well-formed = non-empty and neither a prefix of the other).  `StC`, `stepC`, `runC`
  (C15/Layout.lean) are the stores over real bucket trees; `absSt` is what the stores read back
  through these paths. -/

/-- a state of the stores over real bucket trees reached by any history, for a schema -/
def ReachedC (sch : Schema) (stc : StC) : Prop :=
  ∃ hist : List (List OpX), stc = runC Config.current sch StC.init hist

/-- **Every path shape behaves alike**: for every well-formed schema and every history, what the
    stores read back from the real buckets is the state of the model all other theorems speak
    about — so each of them holds for child paths of every length. -/
theorem layering_shape_irrelevant (sch : Schema) (hw : sch.wellFormed = true) (hist : List (List OpX)) :
    absSt sch (runC Config.current sch StC.init hist) = runX Config.current St.init hist ∧
    (runC Config.current sch StC.init hist).OK := by
  have := runC_simulates Config.current sch hw hist StC.init StC.init_ok
  rwa [absSt_init] at this

theorem reachedC_reached {sch : Schema} (hw : sch.wellFormed = true) {stc : StC} (h : ReachedC sch stc) :
    Reached (absSt sch stc) ∧ stc.OK := by
  obtain ⟨hist, rfl⟩ := h
  obtain ⟨h1, h2⟩ := layering_shape_irrelevant sch hw hist
  exact ⟨⟨hist, h1⟩, h2⟩

/-- the invariant (parent indexes = exact image of what is read through the paths; no empty name),
    for every path shape and every history -/
theorem invariant_for_every_path (sch : Schema) (hw : sch.wellFormed = true) (hist : List (List OpX)) :
    Inv (absSt sch (runC Config.current sch StC.init hist)) := by
  rw [(layering_shape_irrelevant sch hw hist).1]
  exact parent_constraints_apply_to_child_entities hist

/-- **An entity created through the child exists in both — for every path shape**: after a
    successful `Create` through a child store whose data path is `sch.childPath s`, the shared
    fields are in the parent's entity bucket itself, the child's data bucket exists at its path with
    the child's field in it, and (reading back through the paths) everything
    `create_through_child_exists_in_both` says holds. -/
theorem create_through_child_exists_in_both_for_every_path (sch : Schema) (hw : sch.wellFormed = true)
    (stc : StC) (hr : ReachedC sch stc) (s : Sel) (hs : s = .A1 ∨ s = .A2) (id : Id) (p : Payload) (stc' : StC)
    (h : createC Config.current sch stc s id p = .ok stc') :
    (∃ t, mget stc'.trees id = some t ∧
      t.get [] "name" = some (.str (some p.name)) ∧ t.get [] "roles" = some (.list (canon p.roles)) ∧
      t.getPath (sch.childPath s) = true ∧ t.get (sch.childPath s) (childKey s) = some (.str p.child)) ∧
    findById (absSt sch stc') .A id = some (p.name, canon p.roles, none) ∧
    findById (absSt sch stc') s id = some (p.name, canon p.roles, p.child) ∧
    id ∈ queryIds (absSt sch stc') .A .tt ∧ id ∈ queryIds (absSt sch stc') s .tt ∧
    id ∈ iterateValidIds (absSt sch stc') s .tt ∧
    mget stc'.nameIdx p.name = some id ∧ (∀ r, r ∈ p.roles → (r, id) ∈ stc'.rolesIdx) := by
  obtain ⟨hreach, hok⟩ := reachedC_reached hw hr
  have hsim := createC_simulates Config.current sch hw stc hok s id p
  rw [h] at hsim
  have habs := create_through_child_exists_in_both (absSt sch stc) hreach s hs id p (absSt sch stc') hsim.1
  refine ⟨?_, habs⟩
  unfold createC at h
  cases hc : createV Config.current (absSt sch stc) s id p with
  | error e => simp [hc] at h
  | ok st' =>
    simp only [hc] at h
    cases h
    refine ⟨persistC sch (createBucketC sch (entTree stc id) s) s p none, by simp [StC.withIdx], ?_⟩
    have hpres := createBucketC_present sch (entTree stc id) s
    rcases hs with rfl | rfl
    · simp only [Schema.childPath] at hpres
      simp [persistC, persistCAt, writeShared, proceed, Schema.childPath, childKey, Tree.get_set, hpres]
    · simp only [Schema.childPath] at hpres
      simp [persistC, persistCAt, writeShared, proceed, Schema.childPath, childKey, Tree.get_set, hpres]

/-- **Updating through either store is the same operation — for every path shape**: for an entity
    with child data the parent store's `Update` over the real buckets is literally the child
    store's (same trees, same indexes, same error). -/
theorem update_either_route_same_state_for_every_path (sch : Schema) (stc : StC) (id : Id) (t : Tree)
    (hm : mget stc.trees id = some t) (p : Payload) (chk : Option Checker) :
    (t.getPath sch.p1 = true →
      updateC sch stc .A id p chk = updateC sch stc .A1 id { p with child := cellStr (t.get sch.p1 "code") } chk) ∧
    (t.getPath sch.p1 = false → t.getPath sch.p2 = true →
      updateC sch stc .A id p chk = updateC sch stc .A2 id { p with child := cellStr (t.get sch.p2 "colour") } chk) := by
  have hget : mget (absSt sch stc).ents id = some (viewC sch t) := by rw [absSt_get, hm]; rfl
  constructor
  · intro h1
    have hc1 : (viewC sch t).hasChild .A1 = true := by simp [viewC, Ent.hasChild, h1]
    have hf : (viewC sch t).childField .A1 = cellStr (t.get sch.p1 "code") := by simp [viewC, Ent.childField, h1]
    have hv := (reject_either_route_same (absSt sch stc) id p chk).2.2.1 _ hget hc1
    have hp1 : isEntityPresent (absSt sch stc) .A1 id = true := by simp [isEntityPresent, hget, hc1]
    unfold updateC
    rw [hv, hf]
    simp [updTarget, updPayload, hp1, hget, hc1, hf]
  · intro h1 h2
    have hc1 : (viewC sch t).hasChild .A1 = false := by simp [viewC, Ent.hasChild, h1]
    have hc2 : (viewC sch t).hasChild .A2 = true := by simp [viewC, Ent.hasChild, h2]
    have hf : (viewC sch t).childField .A2 = cellStr (t.get sch.p2 "colour") := by simp [viewC, Ent.childField, h2]
    have hv := (reject_either_route_same (absSt sch stc) id p chk).2.2.2.1 _ hget hc1 hc2
    have hp1 : isEntityPresent (absSt sch stc) .A1 id = false := by simp [isEntityPresent, hget, hc1]
    have hp2 : isEntityPresent (absSt sch stc) .A2 id = true := by simp [isEntityPresent, hget, hc2]
    unfold updateC
    rw [hv, hf]
    simp [updTarget, updPayload, hp1, hp2, hget, hc1, hc2, hf]

/-- **The parent part and the child parts of an entity live in buckets that do not contain each
    other's fields**: the parent's fields are in the entity bucket, each child's field in its own
    data bucket, which is neither the entity bucket nor inside (or around) the other child's data
    bucket; hence what the parent strategy persists leaves both children's presence and fields
    as they were, what a child persists leaves the shared fields and the other child's part as they
    were, and creating one child's data bucket does not make the other child's appear. -/
theorem parent_and_child_parts_disjoint (sch : Schema) (hw : sch.wellFormed = true) :
    (sch.p1 ≠ [] ∧ sch.p2 ≠ [] ∧ sch.p1.isPrefixOf sch.p2 = false ∧ sch.p2.isPrefixOf sch.p1 = false) ∧
    (∀ t p chk, (viewC sch (writeShared t [] p chk)).c1 = (viewC sch t).c1 ∧
      (viewC sch (writeShared t [] p chk)).c2 = (viewC sch t).c2) ∧
    (∀ t c, (viewC sch (t.set sch.p1 "code" c)).name = (viewC sch t).name ∧
      (viewC sch (t.set sch.p1 "code" c)).roles = (viewC sch t).roles ∧
      (viewC sch (t.set sch.p1 "code" c)).c2 = (viewC sch t).c2) ∧
    (∀ t c, (viewC sch (t.set sch.p2 "colour" c)).name = (viewC sch t).name ∧
      (viewC sch (t.set sch.p2 "colour" c)).roles = (viewC sch t).roles ∧
      (viewC sch (t.set sch.p2 "colour" c)).c1 = (viewC sch t).c1) ∧
    (∀ t, (createBucketC sch t .A1).getPath sch.p2 = t.getPath sch.p2 ∧
      (createBucketC sch t .A2).getPath sch.p1 = t.getPath sch.p1) := by
  have f := sch.facts hw
  have a1 : ¬ (sch.p1 = ([] : Path)) := f.ne1
  have a2 : ¬ (sch.p2 = ([] : Path)) := f.ne2
  have a3 : ¬ (sch.p2 = sch.p1) := fun e => f.ne12 e.symm
  refine ⟨⟨f.ne1, f.ne2, f.n12, f.n21⟩, ?_, ?_, ?_, ?_⟩
  · intro t p chk
    rw [viewC_writeShared sch hw]
    exact ⟨rfl, rfl⟩
  · intro t c
    simp [viewC, Tree.get_set, a1, f.ne12]
  · intro t c
    simp [viewC, Tree.get_set, a2, a3]
  · intro t
    simp [createBucketC, Schema.childPath, Tree.getPath_getOrCreatePath, f.n12, f.n21]

/-- why `GetParentContext` must look the parent's entity bucket up through the parent store: taking
    "the bucket one level above the child's data bucket" is the entity bucket only for one-segment
    child paths — with the path ext/mgr the shared fields land in `<entity>/ext` and the parent
    reads nothing (seeded change C15-9) -/
example :
    let sch : Schema := ⟨["ext", "mgr"], ["ext", "tl"]⟩
    let t := createBucketC sch Tree.empty .A1
    sch.wellFormed = true ∧
    (viewC sch (persistC sch t .A1 ⟨1, [2], some 3⟩ none)) = ⟨1, [2], some (some 3), none⟩ ∧
    (viewC sch (persistCAt sch.p1.dropLast sch t .A1 ⟨1, [2], some 3⟩ none)) = ⟨0, [], some (some 3), none⟩ := by
  decide +kernel

/-- non-vacuity: three-segment and shared-prefix paths; an A1 create, an A2 create over it, an
    update through the parent and a DeleteWhere through A1 -/
example :
    let sch : Schema := ⟨["x", "y", "a"], ["x", "b"]⟩
    let stc := runC Config.current sch StC.init
      [[.create .A1 1 ⟨1, [1], some 1⟩, .create .A2 1 ⟨1, [1], some 2⟩, .create .A 2 ⟨2, [], none⟩],
       [.update .A 1 ⟨3, [2], none⟩ none]]
    sch.wellFormed = true ∧
    findById (absSt sch stc) .A1 1 = some (3, [2], some 1) ∧ findById (absSt sch stc) .A2 1 = some (3, [2], some 2) ∧
    queryIds (absSt sch stc) .A1 .tt = [1] ∧
    (stepTxC Config.current sch stc [.deleteWhere .A1 .tt]).trees.map (·.1) = [2] := by
  decide +kernel

/-- **Every child store of the parent takes part in `Update` and `DeleteById` whichever was
    registered first**: with the child stores registered A2 (extended — its `FindById` reports
    every parent entity), A1 instead of A1, A2 every operation on every state gives the same
    state or the same error (so every theorem above holds for either wiring: the delete fan-out
    still runs A1's delete constraints after A2 reported the entity, and an entity carrying data
    of both child stores is updated alike through either), and a delete raises the same events. -/
theorem child_store_registration_order_irrelevant (a2First : Bool) (st : St) (op : OpX) :
    stepOpXOrd a2First Config.current st op = stepOpX Config.current st op ∧
    (∀ s id ev, ev ∈ eventsOfOrd a2First st (.delete s id) ↔ ev ∈ eventsOf st (.delete s id)) ∧
    (∀ op', eventsOfOrd false st op' = eventsOf st op') :=
  ⟨stepOpXOrd_order_irrelevant a2First _ st op, delete_events_order a2First st, eventsOfOrd_false st⟩

/-- … in particular after a delete through any store, in either wiring, no index entry of the
    parent or of a child store refers to the id -/
theorem delete_fans_out_to_every_child_store (a2First : Bool) (st : St) (hr : Reached st) (s : Sel) (id : Id)
    (st' : St) (h : deleteMOrd a2First st s id = .ok st') :
    Inv st' ∧ mget st'.ents id = none ∧
    (∀ v, mget st'.nameIdx v ≠ some id) ∧ (∀ r, (r, id) ∉ st'.rolesIdx) ∧ (∀ c, mget st'.codeIdx c ≠ some id) := by
  rw [deleteMOrd_order_irrelevant] at h
  obtain ⟨a, b, c, d, e, _⟩ := delete_leaves_no_trace st hr s id st' h
  exact ⟨a, b, c, d, e⟩

/-- non-vacuity: an A1 entity deleted through the parent with A2 registered first — A2 reports it
    first, A1's `code` entry is removed all the same, all three stores' listeners hear of it -/
example :
    let st := run Config.current St.init [[.create .A1 1 ⟨1, [1], some 2⟩]]
    mget st.codeIdx 2 = some 1 ∧
    (deleteMOrd true st .A 1).toOption.map (fun st' => mget st'.codeIdx 2) = some none ∧
    eventsOfOrd true st (.delete .A 1) = [⟨.A, .deleted, 1⟩, ⟨.A2, .deleted, 1⟩, ⟨.A1, .deleted, 1⟩] := by decide +kernel

/-- a mixed population reached through all three stores, with a child create over an existing
    plain-parent entity, updates and a delete through the "other" store -/
def sampleHist : List (List OpX) :=
  [[.create .A 2 ⟨3, [1], none⟩], [.create .A1 1 ⟨1, [1, 2], some 1⟩], [.create .A2 3 ⟨2, [2], some 2⟩],
   [.update .A 1 ⟨1, [3], none⟩ none], [.update .A2 3 ⟨2, [], none⟩ (some ⟨false, true, false⟩)],
   [.create .A1 4 ⟨3, [], none⟩],      -- refused: the name is held by the plain-parent entity 2
   [.create .A1 2 ⟨4, [2, 3], some 2⟩], -- extends the plain-parent entity 2, renaming it
   [.delete .A2 1]]

example : Reached (runX Config.current St.init sampleHist) := ⟨sampleHist, rfl⟩
example : queryIds (runX Config.current St.init sampleHist) .A .tt = [2, 3] := by decide +kernel
example : queryIds (runX Config.current St.init sampleHist) .A1 .tt = [2] := by decide +kernel
example : queryIds (runX Config.current St.init (sampleHist.take 6)) .A1 .tt = [1] := by decide +kernel
example : queryIds (runX Config.current St.init sampleHist) .A2 .tt = [2, 3] := by decide +kernel
example : iterateValidIds (runX Config.current St.init sampleHist) .A2 .tt = [3] := by decide +kernel
example : mget (runX Config.current St.init sampleHist).nameIdx 3 = none ∧
    mget (runX Config.current St.init sampleHist).nameIdx 4 = some 2 := by decide +kernel
example : createV Config.current (runX Config.current St.init (sampleHist.take 5)) .A1 4 ⟨3, [], none⟩
    = .error .dupName := by decide +kernel

/-- **No old values captured on Create**: `A.Create(1, name 1, roles [1,2]); A1.Create(1, name 2,
    roles [3], code 1)` succeeded, and afterwards the parent's unique index still mapped the old
    name to the entity and the set index still listed it under the old roles: the indexes were
    not the image of the table. -/
theorem pinned_create_violates :
    let st := run ⟨false⟩ St.init [[.create .A 1 ⟨1, [1, 2], none⟩], [.create .A1 1 ⟨2, [3], some 1⟩]]
    findById st .A 1 = some (2, [3], none) ∧ mget st.nameIdx 1 = some 1 ∧ (1, 1) ∈ st.rolesIdx ∧ ¬ Inv st := by
  refine ⟨by decide +kernel, by decide +kernel, by decide +kernel, ?_⟩
  intro h
  obtain ⟨_, e, he, hk⟩ := (h.name 1 1).1 (by decide +kernel)
  have : e = ⟨2, [3], some (some 1), none⟩ := by
    have h2 : mget (run ⟨false⟩ St.init [[.create .A 1 ⟨1, [1, 2], none⟩], [.create .A1 1 ⟨2, [3], some 1⟩]]).ents 1
        = some ⟨2, [3], some (some 1), none⟩ := by decide +kernel
    rw [h2] at he; exact (Option.some.inj he).symm
  subst this
  exact absurd hk (by decide)

/-- … and with an unchanged name the create was refused as a duplicate of the entity itself,
    where the specification (and the repaired code) accepts it -/
example : createM ⟨false⟩ (run ⟨false⟩ St.init [[.create .A 1 ⟨1, [], none⟩]]) .A2 1 ⟨1, [], none⟩
    = .error .dupName := by decide +kernel
example : (specCreate (specRun [] [[.create .A 1 ⟨1, [], none⟩]]) .A2 1 ⟨1, [], none⟩).toOption.isSome = true := by
  decide +kernel
example : (createM ⟨true⟩ (run ⟨true⟩ St.init [[.create .A 1 ⟨1, [], none⟩]]) .A2 1 ⟨1, [], none⟩).toOption.isSome = true := by
  decide +kernel

/-- the same history on the repaired variant replaces the index entries -/
example :
    let st := run ⟨true⟩ St.init [[.create .A 1 ⟨1, [1, 2], none⟩], [.create .A1 1 ⟨2, [3], some 1⟩]]
    mget st.nameIdx 1 = none ∧ mget st.nameIdx 2 = some 1 ∧ st.rolesIdx = [(3, 1)] := by decide +kernel

end StorageModel.Properties.C15

#print axioms StorageModel.Properties.C15.config_is_known
#print axioms StorageModel.Properties.C15.create_captures_old_parent_values
#print axioms StorageModel.Properties.C15.parent_constraints_apply_to_child_entities
#print axioms StorageModel.Properties.C15.model_refines_spec
#print axioms StorageModel.Properties.C15.derived_indexes_agree
#print axioms StorageModel.Properties.C15.create_through_child_exists_in_both
#print axioms StorageModel.Properties.C15.child_query_only_child_rows
#print axioms StorageModel.Properties.C15.extended_query_all_parent_rows
#print axioms StorageModel.Properties.C15.child_lookup_only_child_rows
#print axioms StorageModel.Properties.C15.extended_lookup_all_parent_rows
#print axioms StorageModel.Properties.C15.update_either_route_same_state
#print axioms StorageModel.Properties.C15.update_either_route_same_events
#print axioms StorageModel.Properties.C15.update_updates_shared_fields_and_indexes
#print axioms StorageModel.Properties.C15.delete_either_route_removes_both
#print axioms StorageModel.Properties.C15.delete_leaves_no_trace
#print axioms StorageModel.Properties.C15.child_data_changes_only_by_create_delete
#print axioms StorageModel.Properties.C15.uniqueness_enforced_through_child
#print axioms StorageModel.Properties.C15.iterate_ids_cursor_is_list_cursor
#print axioms StorageModel.Properties.C15.iterate_valid_ids_cursor_is_list_cursor
#print axioms StorageModel.Properties.C15.cursor_rests_only_on_owned_ids
#print axioms StorageModel.Properties.C15.query_lists_are_owned_ids
#print axioms StorageModel.Properties.C15.paged_iterate_ids_cursor_is_paged_list_cursor
#print axioms StorageModel.Properties.C15.paged_walk_is_page_of_owned_ids
#print axioms StorageModel.Properties.C15.paged_cursor_rests_only_on_owned_ids
#print axioms StorageModel.Properties.C15.query_with_cursor_only_owned_rows
#print axioms StorageModel.Properties.C15.roles_index_cursor_enumerates_holders
#print axioms StorageModel.Properties.C15.child_store_registration_order_irrelevant
#print axioms StorageModel.Properties.C15.delete_fans_out_to_every_child_store
#print axioms StorageModel.Properties.C15.delete_where_exact
#print axioms StorageModel.Properties.C15.delete_where_through_child_spares_plain_parents
#print axioms StorageModel.Properties.C15.reject_either_route_same
#print axioms StorageModel.Properties.C15.layering_shape_irrelevant
#print axioms StorageModel.Properties.C15.invariant_for_every_path
#print axioms StorageModel.Properties.C15.create_through_child_exists_in_both_for_every_path
#print axioms StorageModel.Properties.C15.update_either_route_same_state_for_every_path
#print axioms StorageModel.Properties.C15.parent_and_child_parts_disjoint
#print axioms StorageModel.Properties.C15.lookup_apis_agree
#print axioms StorageModel.Properties.C15.pinned_create_violates

/-! ## Layering depth: chains of stores root → child → grandchild → … (C15/Depth.lean)

  `lv : Chain` describes the stores below the root (plain / extended, own index or not), store `k+1`
  is a child store of store `k` and registered with it.  All statements are for every chain, every
  state, every store of the chain. -/
namespace StorageModel.Properties.C15
open StorageModel.C15
section depth
open StorageModel.C15.Depth

/-- an entity created through store k exists in store k and in every store above it: `IsEntityPresent`
    and `FindById` through every level j ≤ k (any depth) -/
theorem create_through_child_exists_in_all_ancestors (lv : Chain) (st st' : DSt) (k : Nat) (id : Id)
    (p : DPayload) (h : createD lv st k id p = .ok st') :
    ∀ j, j ≤ k → isPresent st' j id = true ∧ (Depth.findById lv st' j id).isSome = true := by
  intro j hj
  have he := createD_entity lv st st' k id p h
  have hp := persistD_present ((mget st.ents id).getD DEnt.empty) k p none k j hj
  constructor
  · simp [isPresent, he, hp]
  · simp [Depth.findById, Depth.bucketForLoad, he, hp]

/-- queries of store k (QueryIds / IterateIds, any filter) return exactly the entities with data of
    store k — every entity for the root, every row for a store declared extended — that satisfy the filter -/
theorem level_query_returns_exactly_kept_rows (lv : Chain) (st : DSt) (k : Nat) (f : Filter) (x : Id) :
    x ∈ queryIdsD lv st k f ↔
      ∃ e, mget st.ents x = some e ∧ (k = 0 ∨ e.present k = true ∨ isExt lv k = true) ∧ fevalD f e = true :=
  mem_queryIdsD lv st k f x

/-- DeleteById through any store of the chain is the same operation, and afterwards no store of the chain
    finds the entity, reports it present or returns it from a query -/
theorem chain_delete_removes_entity_at_every_level (lv : Chain) (st st' : DSt) (k : Nat) (id : Id)
    (h : deleteD lv st k id = .ok st') :
    (∀ k', deleteD lv st k' id = deleteD lv st k id) ∧
    ∀ j, Depth.findById lv st' j id = none ∧ isPresent st' j id = false ∧ ∀ f, id ∉ queryIdsD lv st' j f := by
  have he := deleteD_ents lv st st' k id h
  refine ⟨fun _ => rfl, fun j => ⟨?_, ?_, ?_⟩⟩
  · simp [Depth.findById, Depth.bucketForLoad, he]
  · simp [isPresent, he]
  · intro f hm
    obtain ⟨e, hget, _⟩ := (mem_queryIdsD lv st' j f id).1 hm
    simp [he] at hget

/-- the EXACT effect of DeleteById on the own indexes of the stores at depth ≥ 2 (grandchild and below):
    none — the root only walks the stores registered with it -/
theorem chain_delete_leaves_deep_indexes_untouched (lv : Chain) (st st' : DSt) (k : Nat) (id : Id)
    (h : deleteD lv st k id = .ok st') (j : Nat) (hj : 1 ≤ j) :
    st'.lidx.getD j [] = st.lidx.getD j [] :=
  deleteD_deep_indexes_untouched lv st st' k id h j hj

/-- the delete clause for the deep indexes as the property demands it: no entry of any own index of a
    store at depth ≥ 2 refers to the deleted id.  FALSE for the code on chains whose grandchild store
    declares an index (`grandchild_delete_leaves_index_entry`). -/
def chain_delete_leaves_no_trace_fullStatement : Prop :=
  ∀ (lv : Chain) (st st' : DSt) (k : Nat) (id : Id), deleteD lv st k id = .ok st' →
    ∀ j v, 1 ≤ j → mget (st'.lidx.getD j []) v ≠ some id

/-- … proved under the hypothesis that names the gap: no store below the first child level holds index
    entries (it declares no index: its bucket is never written) -/
theorem chain_delete_leaves_no_trace_partial (lv : Chain) (st st' : DSt) (k : Nat) (id : Id)
    (hNoDeep : ∀ j, 1 ≤ j → st.lidx.getD j [] = [])
    (h : deleteD lv st k id = .ok st') :
    ∀ j v, 1 ≤ j → mget (st'.lidx.getD j []) v ≠ some id := by
  intro j v hj
  rw [deleteD_deep_indexes_untouched lv st st' k id h j hj, hNoDeep j hj]
  simp

def plain3 : Chain := [⟨false, true⟩, ⟨false, true⟩]

/-- the witness: A → C → G, all plain, G with an own index.  `G.Create(e1, name v1, roles r1 r2, code v3,
    tag v2)` then `DeleteById(e1)` through any of the three stores: the entity is gone, G's index still maps
    v2 to e1 — "deleting through either store removes both parts" fails at depth 3 -/
theorem grandchild_delete_leaves_index_entry :
    ∀ k ∈ [0, 1, 2],
      let st := runD plain3 (DSt.init plain3) [[.create 2 1 ⟨1, [1, 2], [some 3, some 2]⟩], [.delete k 1]]
      st.ents = [] ∧ mget (st.lidx.getD 1 []) 2 = some 1 ∧ st.nameIdx = [] ∧ st.lidx.getD 0 [] = [] := by
  decide +kernel

theorem chain_delete_fullStatement_fails : ¬ chain_delete_leaves_no_trace_fullStatement := by
  intro hfull
  have := hfull plain3 (runD plain3 (DSt.init plain3) [[.create 2 1 ⟨1, [1, 2], [some 3, some 2]⟩]])
    (runD plain3 (DSt.init plain3) [[.create 2 1 ⟨1, [1, 2], [some 3, some 2]⟩], [.delete 0 1]]) 0 1 (by decide +kernel) 1 2 (by decide)
  exact this (by decide +kernel)

/-- the create clause as the property demands it ("parent-store indexes … apply identically"): whatever the
    entity already has, its old indexed values are captured before the create persists (so the root's old
    entries are replaced).  FALSE for the code at depth ≥ 2 (`grandchild_create_over_root_only_leaves_stale_entries`). -/
def chain_create_captures_old_fullStatement : Prop :=
  ∀ (lv : Chain) (st : DSt) (k : Nat) (id : Id) (p : DPayload), id ≠ 0 → isPresent st k id = false →
    createD lv st k id p =
      indexAfterD lv k true st id ((mget st.ents id).getD DEnt.empty)
        (persistD ((mget st.ents id).getD DEnt.empty) k p none k)

/-- … proved under the hypothesis that names the gap: the store ONE level up has its data bucket for the id
    (what `parentExists` tests), or the entity does not exist at all -/
theorem chain_create_captures_old_partial (lv : Chain) (st : DSt) (k : Nat) (id : Id) (p : DPayload)
    (hid : id ≠ 0) (hnew : isPresent st k id = false)
    (hgap : (k ≠ 0 ∧ isPresent st (k - 1) id = true) ∨ mget st.ents id = none) :
    createD lv st k id p =
      indexAfterD lv k true st id ((mget st.ents id).getD DEnt.empty)
        (persistD ((mget st.ents id).getD DEnt.empty) k p none k) := by
  unfold createD
  simp only [hid, if_false, hnew, Bool.false_eq_true]
  rcases hgap with ⟨hk, hp⟩ | hnone
  · simp [hk, hp]
  · have : isPresent st (k - 1) id = false := by simp [isPresent, hnone]
    simp [this, hnone]

/-- witness: `A.Create(e1, v1, [r1])`, then `G.Create(e1, v2, [r3], code v3, tag v2)`: C has no data for e1, so
    nothing is captured — the name index maps v1 AND v2 to e1, role r1 still lists e1 -/
theorem grandchild_create_over_root_only_leaves_stale_entries :
    let st := runD plain3 (DSt.init plain3)
      [[.create 0 1 ⟨1, [1], []⟩], [.create 2 1 ⟨2, [3], [some 3, some 2]⟩]]
    mget st.nameIdx 1 = some 1 ∧ mget st.nameIdx 2 = some 1 ∧ (1, 1) ∈ st.rolesIdx ∧
      (mget st.ents 1).map (·.name) = some 2 := by decide +kernel

/-- … and with an unchanged name the create is refused as a duplicate of the entity's own entry -/
theorem grandchild_create_over_root_only_refused_as_own_duplicate :
    createD plain3 (runD plain3 (DSt.init plain3) [[.create 0 1 ⟨1, [1], []⟩]]) 2 1 ⟨1, [1], [some 3, some 2]⟩
      = .error .dupName := by decide +kernel

theorem chain_create_fullStatement_fails : ¬ chain_create_captures_old_fullStatement := by
  intro hfull
  have h := hfull plain3 (runD plain3 (DSt.init plain3) [[.create 0 1 ⟨1, [1], []⟩]]) 2 1
    ⟨1, [1], [some 3, some 2]⟩ (by decide) (by decide)
  revert h
  decide +kernel

/-- the query / lookup clause: a store's queries (filter `true`) return exactly the ids its FindById finds.
    FALSE for the code for an extended store at depth ≥ 2 (`extended_grandchild_query_lookup_mismatch`). -/
def level_query_agrees_with_lookup_fullStatement : Prop :=
  ∀ (lv : Chain) (st : DSt) (k : Nat) (x : Id),
    x ∈ queryIdsD lv st k .tt ↔ (Depth.findById lv st k x).isSome = true

/-- … proved under the hypothesis that names the gap: the store is not extended, or it sits at depth ≤ 1 -/
theorem level_query_agrees_with_lookup_partial (lv : Chain) (st : DSt) (k : Nat) (x : Id)
    (hgap : isExt lv k = false ∨ k ≤ 1) :
    x ∈ queryIdsD lv st k .tt ↔ (Depth.findById lv st k x).isSome = true := by
  rw [mem_queryIdsD]
  unfold scanKeeps Depth.findById Depth.bucketForLoad
  cases hm : mget st.ents x with
  | none => simp
  | some e =>
    by_cases hp : e.present k = true
    · simp [hp, fevalD]
    · have hp' : e.present k = false := by simpa using hp
      have hk : k ≠ 0 := by
        intro h0; subst h0; simp [DEnt.present] at hp
      rcases hgap with hx | hle
      · simp [hp', hx, hk, fevalD]
      · have h1 : k = 1 := by omega
        subst h1
        by_cases hx : isExt lv 1 = true
        · simp [hx, fevalD, DEnt.present]
        · have hx' : isExt lv 1 = false := by simpa using hx
          simp [hp', hx', fevalD]

/-- witness: plain C, extended G, one root-only entity e1: `G.QueryIds(true)` = [e1], `G.FindById(e1)` finds
    nothing, `C.QueryIds(true)` = [] -/
theorem extended_grandchild_query_lookup_mismatch :
    let lv : Chain := [⟨false, true⟩, ⟨true, true⟩]
    let st := runD lv (DSt.init lv) [[.create 0 1 ⟨1, [1], []⟩]]
    queryIdsD lv st 2 .tt = [1] ∧ Depth.findById lv st 2 1 = none ∧ queryIdsD lv st 1 .tt = [] := by decide +kernel

theorem level_query_lookup_fullStatement_fails : ¬ level_query_agrees_with_lookup_fullStatement := by
  intro hfull
  have h := (hfull [⟨false, true⟩, ⟨true, true⟩]
    (runD [⟨false, true⟩, ⟨true, true⟩] (DSt.init [⟨false, true⟩, ⟨true, true⟩]) [[.create 0 1 ⟨1, [1], []⟩]]) 2 1).1 (by decide +kernel)
  revert h
  decide +kernel

/-- non-vacuity: update through the root of an entity with grandchild data is routed down two levels and
    replaces the root's index entries -/
example :
    let st := runD plain3 (DSt.init plain3)
      [[.create 2 1 ⟨1, [1], [some 3, some 2]⟩], [.update 0 1 ⟨2, [3], []⟩ none]]
    mget st.nameIdx 2 = some 1 ∧ mget st.nameIdx 1 = none ∧ st.rolesIdx = [(3, 1)] ∧
      Depth.findById plain3 st 2 1 = some (2, [3], [some 3, some 2]) := by decide +kernel

end depth
end StorageModel.Properties.C15

#print axioms StorageModel.Properties.C15.create_through_child_exists_in_all_ancestors
#print axioms StorageModel.Properties.C15.level_query_returns_exactly_kept_rows
#print axioms StorageModel.Properties.C15.chain_delete_removes_entity_at_every_level
#print axioms StorageModel.Properties.C15.chain_delete_leaves_deep_indexes_untouched
#print axioms StorageModel.Properties.C15.chain_delete_leaves_no_trace_partial
#print axioms StorageModel.Properties.C15.grandchild_delete_leaves_index_entry
#print axioms StorageModel.Properties.C15.chain_delete_fullStatement_fails
#print axioms StorageModel.Properties.C15.chain_create_captures_old_partial
#print axioms StorageModel.Properties.C15.grandchild_create_over_root_only_leaves_stale_entries
#print axioms StorageModel.Properties.C15.grandchild_create_over_root_only_refused_as_own_duplicate
#print axioms StorageModel.Properties.C15.chain_create_fullStatement_fails
#print axioms StorageModel.Properties.C15.level_query_agrees_with_lookup_partial
#print axioms StorageModel.Properties.C15.extended_grandchild_query_lookup_mismatch
#print axioms StorageModel.Properties.C15.level_query_lookup_fullStatement_fails
