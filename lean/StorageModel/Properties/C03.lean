import StorageModel.C03.LayeredReject
import StorageModel.C03.ChainInv
/-
  C03 — Unique and set indexes mirror entity state; uniqueness is enforced.

  "After any sequence of committed creates, full updates, field-restricted updates and deletes, a
  unique index maps each non-empty indexed value to exactly the one entity currently holding it,
  and a set index maps each value to exactly the set of entities whose set field currently
  contains it, with no entries for deleted entities or stale values and no empty index keys left
  behind.  A create or update that would give two entities the same unique value, or an empty
  value in a non-nullable unique index, fails with the corresponding error and changes nothing."

  Model: StorageModel/C03/Layered.lean (the indexed store of StorageModel/C03/Model.lean with a plain
  CHILD store on top and a SCHEMA: base path, symbol / key / checker names of every field, which of
  the three indexes are registered and in which order).
  Spec:  StorageModel/C03/LayeredSpec.lean (entity table only, indexes derived).
  All theorems quantify over every schema / state / operation / finite history of transactions.
-/
namespace StorageModel.Properties.C03
open StorageModel StorageModel.C03.Layered
open StorageModel.C03 (Map Id Ent Vals Err Line bAlias bRoles)

/-- the invariant holds for the freshly initialised database -/
theorem inv_init (sch : Schema) : Inv sch State.empty := inv_empty sch

/-- every operation kind through either store, accepted or rejected, run in its own transaction,
    preserves it -/
theorem inv_step (sch : Schema) {s : State} (op : Op) (h : Inv sch s) : Inv sch (step sch s op).1 := inv_txStep [op] h

/-- so does every transaction of several operations (committed, or rolled back at the first error) -/
theorem inv_tx (sch : Schema) {s : State} (ops : List Op) (h : Inv sch s) : Inv sch (txStep sch s ops).1 := inv_txStep ops h

/-- **all finite histories**: the invariant holds after any sequence of transactions -/
theorem inv_reachable (sch : Schema) (txs : List (List Op)) : Inv sch (run sch txs) :=
  List.foldlRecOn txs _ (inv_init sch) fun _ h ops _ => inv_tx sch ops h

/-- unique index = image of the entity table, in every reachable state (non-nullable `name`; an
    index that is not registered sees no value and stays empty: `Spec.vName`) -/
theorem unique_index_exact (sch : Schema) (txs : List (List Op)) (v : Bytes) (id : Id) :
    (run sch txs).base.uName.lookup v = some id ↔
      (v ≠ [] ∧ ∃ e, (run sch txs).base.ents.lookup id = some e ∧ Spec.vName sch e = v) :=
  (inv_reachable sch txs).base.uName v id

/-- the same for the nullable index on `alias` (nil and empty are not indexed) -/
theorem nullable_unique_index_exact (sch : Schema) (txs : List (List Op)) (v : Bytes) (id : Id) :
    (run sch txs).base.uAlias.lookup v = some id ↔
      (v ≠ [] ∧ ∃ e, (run sch txs).base.ents.lookup id = some e ∧ Spec.vAlias sch e = v) :=
  (inv_reachable sch txs).base.uAlias v id

/-- set index = exactly the entities whose set field contains the value, in every reachable state -/
theorem set_index_exact (sch : Schema) (txs : List (List Op)) (v : Bytes) (id : Id) :
    id ∈ ((run sch txs).base.sRoles.lookup v).getD [] ↔
      ∃ e, (run sch txs).base.ents.lookup id = some e ∧ v ∈ Spec.vRoles sch e :=
  (inv_reachable sch txs).base.sRoles v id

/-- … in the registered case these are the fields themselves -/
theorem registered_values (sch : Schema) (e : Ent) :
    (sch.regName = true → Spec.vName sch e = e.name) ∧ (sch.regAlias = true → Spec.vAlias sch e = e.alias.getD []) ∧
    (sch.regRoles = true → Spec.vRoles sch e = e.roles) := by
  refine ⟨?_, ?_, ?_⟩ <;> intro h <;> simp [Spec.vName, Spec.vAlias, Spec.vRoles, h]

/-- **the path function**: distinct symbols have distinct index buckets, for every base path -/
theorem index_paths_distinct (sch : Schema) (a b : Bytes) (h : a ≠ b) : idxPath sch a ≠ idxPath sch b :=
  fun he => h (idxPath_injective sch a b he)

/-- so the three index buckets of a schema with pairwise distinct symbol names are pairwise distinct … -/
theorem schema_index_paths_distinct (sch : Schema) (h1 : sch.name.sym ≠ sch.alias.sym) (h2 : sch.name.sym ≠ sch.roles.sym)
    (h3 : sch.alias.sym ≠ sch.roles.sym) :
    idxPath sch sch.name.sym ≠ idxPath sch sch.alias.sym ∧ idxPath sch sch.name.sym ≠ idxPath sch sch.roles.sym ∧
    idxPath sch sch.alias.sym ≠ idxPath sch sch.roles.sym :=
  ⟨index_paths_distinct sch _ _ h1, index_paths_distinct sch _ _ h2, index_paths_distinct sch _ _ h3⟩

/-- … and nothing at or below an index bucket is at or below an entity bucket -/
theorem index_paths_off_entities (sch : Schema) (sym : Bytes) (p : List Bytes) (id : Id) (q : List Bytes) :
    idxPath sch sym ++ p ≠ entPath sch id ++ q := by
  unfold idxPath entPath
  simp only [List.append_assoc, List.cons_append, List.nil_append]
  -- below the base path the two sides part at once: `bIndexes` against `bThings`
  intro h
  have := List.append_cancel_left h
  simp [C03.bIndexes, C03.bThings] at this

/-- no empty index keys are left behind -/
theorem no_empty_keys (sch : Schema) (txs : List (List Op)) (v : Bytes) (ids : List Id)
    (h : (run sch txs).base.sRoles.lookup v = some ids) : ids ≠ [] :=
  (inv_reachable sch txs).base.noEmptyKeys v ids h

/-- child data exists only inside an existing entity bucket -/
theorem child_data_inside_entity (sch : Schema) (txs : List (List Op)) (id : Id) (t : Bytes)
    (h : (run sch txs).ext.lookup id = some t) : ((run sch txs).base.ents.lookup id).isSome = true :=
  (inv_reachable sch txs).extIn id t h

/-- "exactly the one entity": an entity is found under one value only … -/
theorem uniq_injective {sch : Schema} {s : State} (hi : Inv sch s) {v v' : Bytes} {a : Id}
    (h : s.base.uName.lookup v = some a) (h' : s.base.uName.lookup v' = some a) : v = v' := by
  obtain ⟨_, e, he, rfl⟩ := (hi.base.uName v a).1 h
  obtain ⟨_, e', he', rfl⟩ := (hi.base.uName v' a).1 h'
  rw [he] at he'; cases he'; rfl

/-- … and (the unique index on `name` registered) two entities never hold the same unique value -/
theorem unique_holder {sch : Schema} {s : State} (hi : Inv sch s) (hreg : sch.regName = true) {a b : Id} {e e' : Ent}
    (ha : s.base.ents.lookup a = some e) (hb : s.base.ents.lookup b = some e') (h : e.name = e'.name) : a = b := by
  have hne := hi.base.namesNonEmpty hreg a e ha
  have h1 := (hi.base.uName e.name a).2 ⟨hne, e, ha, vName_reg hreg e⟩
  have h2 := (hi.base.uName e.name b).2 ⟨hne, e', hb, (vName_reg hreg e').trans h.symm⟩
  rw [h1] at h2; cases h2; rfl

/-- a write — through either store — whose one fault is to give two entities the same unique value
    fails with the duplicate error and changes nothing -/
theorem dup_rejected {sch : Schema} {s : State} {op : Op} (hi : Inv sch s) (hw : WouldDuplicate sch s op) :
    step sch s op = (s, .err .dup) :=
  step_of_error (stepRaw_dup hi hw)

/-- a write whose one fault is an empty value for the (registered) non-nullable unique index fails
    with the null-not-allowed error and changes nothing -/
theorem empty_rejected {sch : Schema} {s : State} {op : Op} (hi : Inv sch s) (hw : WouldBeEmpty sch s op) :
    step sch s op = (s, .err .nullNotAllowed) :=
  step_of_error (stepRaw_empty hi hw)

/-- a transaction that ends in an error leaves the state unchanged (this is the modelled bbolt
    rollback: true by construction of `txStep`, listed so that the assumption is visible) -/
theorem error_changes_nothing (sch : Schema) (s : State) (ops : List Op) (h : (txStep sch s ops).2 ≠ .ok) :
    (txStep sch s ops).1 = s := by
  unfold txStep at h ⊢
  split
  · next s' hs => rw [hs] at h; exact absurd rfl h
  · rfl

/-- **key-size boundary**: in every reachable state every indexed unique value fits bbolt's key
    limit (a longer one is refused — `step_refines_spec` — and nothing changes) -/
theorem indexed_values_fit (sch : Schema) (txs : List (List Op)) (id : Id) (e : Ent)
    (h : (run sch txs).base.ents.lookup id = some e) :
    (Spec.vName sch e).length ≤ maxKeySize ∧ (Spec.vAlias sch e).length ≤ maxKeySize :=
  (inv_reachable sch txs).base.keysFit id e h

/-- a write through either store whose one fault is an indexed unique value longer than bbolt's key
    limit fails with bbolt's error (enum `other`) and changes nothing -/
theorem oversize_rejected {sch : Schema} {s : State} {op : Op} (hi : Inv sch s) (hw : WouldOverflow sch s op) :
    step sch s op = (s, .err .other) :=
  step_of_error (stepRaw_overflow hi hw)

/-- **refinement**: on a consistent state the engine model and the spec (entity table and child
    data only; refuse exactly the writes that would break a constraint of a registered index against
    the other entities) agree on every operation through either store, whatever the registration
    order — both succeed with the same entity table, or both fail and the engine's error is among
    those the spec allows (so with several faults ANY registration order reports one of them) -/
theorem step_refines_spec {sch : Schema} {s : State} (hi : Inv sch s) (op : Op) :
    match stepRaw sch s op, Spec.step sch (abs s) op with
    | .ok s', .ok t' => abs s' = t'
    | .error e, .error es => e ∈ es
    | _, _ => False := by
  have h := stepRaw_sim hi op
  cases h1 : stepRaw sch s op <;> cases h2 : Spec.step sch (abs s) op <;> rw [h1, h2] at h
  · exact h.1
  · exact h
  · exact h
  · exact h.2

/-- the bucket dump of a consistent state is the dump derived from the entity table alone -/
theorem render_eq_spec {sch : Schema} {s : State} (hi : Inv sch s) (l : Line) :
    l ∈ Render sch s ↔ l ∈ Spec.render sch (abs s) :=
  render_eq_spec_lines hi l

/-- the nil dereference in `setIndex.ProcessAfterUpdate/ProcessBeforeDelete` (an empty old value)
    is unreachable from consistent states -/
theorem no_panic {sch : Schema} {s : State} (hi : Inv sch s) (op : Op) : stepRaw sch s op ≠ .error .panic :=
  (stepRaw_sim hi op).ne_panic

/-! non-vacuity: a schema (`exSch`), a reachable state under it (`exState`: one entity with child data,
    one plain) and operations on it that satisfy the hypotheses of the theorems above -/

def exA : Vals := ⟨[120], some [121], [[114], [115]]⟩
def exB : Vals := ⟨[121], none, [[114]]⟩
/-- a schema with a three-element base path, in which symbol name, stored key and caller-side name of
    `name` all differ, all three indexes registered in the order roles, alias, name -/
def exSch : Schema :=
  ⟨[[112], [113], [114]], ⟨[110], [107], [100]⟩, ⟨bAlias, bAlias, [113]⟩, ⟨bRoles, bRoles, [97, 116]⟩, bTag, bTag, true, true, true, .ran⟩
/-- the same without the index on `alias` -/
def exSch2 : Schema := { exSch with regAlias := false }
/-- a reachable state: a (with child data) and b (plain) share role r -/
def exState : State := run exSch [[.create .child [97] exA [116], .create .parent [98] exB []]]

example : exState.base.uName.lookup [120] = some [97] ∧ exState.base.uName.lookup [121] = some [98] ∧
    exState.base.sRoles.lookup [114] = some [[97], [98]] ∧ exState.ext.lookup [97] = some [116] := by decide +kernel
example : Inv exSch exState := inv_reachable _ _
/-- `WouldDuplicate` is satisfiable: b takes a's name, the patch naming the field by its caller-side name -/
example : WouldDuplicate exSch exState (.update .parent [98] ⟨[120], none, []⟩ [] (some [[100]])) :=
  ⟨[98], ⟨[120], none, [[114]]⟩, by decide +kernel,
    Or.inl ⟨by decide +kernel, [97], ⟨[120], some [121], [[114], [115]]⟩, by decide +kernel, by decide +kernel, by decide +kernel⟩, by decide +kernel, by decide +kernel,
    by decide +kernel, by decide +kernel⟩
example : (step exSch exState (.update .parent [98] ⟨[120], none, []⟩ [] (some [[100]]))).2 = .err .dup := by decide +kernel
/-- … whereas the symbol name or the stored key in the checker selects nothing -/
example : (step exSch exState (.update .parent [98] ⟨[120], none, []⟩ [] (some [[110], [107]]))).1.base.ents.lookup [98]
    = some ⟨[121], none, [[114]]⟩ := by decide +kernel
/-- `WouldBeEmpty` is satisfiable, also for a child-store create over the existing plain parent b -/
example : WouldBeEmpty exSch exState (.create .child [98] ⟨[], none, []⟩ [116]) :=
  ⟨[98], ⟨[], none, []⟩, by decide +kernel, rfl, rfl, fun h => h.1 (by decide +kernel), by decide +kernel, by decide +kernel⟩
example : (step exSch exState (.create .child [98] ⟨[], none, []⟩ [116])).2 = .err .nullNotAllowed := by decide +kernel
/-- two faults at once: the registration order decides (roles before name: `other`; the plain order: `null`) -/
example : (step exSch exState (.create .parent [99] ⟨[], none, [[]]⟩ [])).2 = .err .other ∧
    (step { exSch with perm := .nar } exState (.create .parent [99] ⟨[], none, [[]]⟩ [])).2 = .err .nullNotAllowed := by decide +kernel
/-- hand-over inside one transaction: a releases x (update through the parent store, delegated to
    the child store), b takes it -/
example : ((txStep exSch exState [.update .parent [97] ⟨[122], none, []⟩ [] (some [[100]]),
                                  .update .parent [98] ⟨[120], none, []⟩ [] (some [[100]])]).1.base.uName.lookup [120]) = some [98] := by decide +kernel
/-- the last holder of a role leaves: the index key disappears -/
example : (step exSch exState (.update .child [97] ⟨[120], none, [[114]]⟩ [116] (some [[97, 116]]))).1.base.sRoles.lookup [115] = none := by decide +kernel
/-- deleting a (child data: two passes of the parent's `ProcessBeforeDelete`) leaves b's entry under the shared role -/
example : (step exSch exState (.delete .child [97])).1.base.sRoles.lookup [114] = some [[98]] ∧
    (step exSch exState (.delete .child [97])).1.ext.lookup [97] = none := by decide +kernel
/-- a child-store create over the plain parent b replaces b's index entries -/
example : (step exSch exState (.create .child [98] ⟨[122], none, [[115]]⟩ [116])).1.base.uName.lookup [121] = none ∧
    (step exSch exState (.create .child [98] ⟨[122], none, [[115]]⟩ [116])).1.base.sRoles.lookup [114] = some [[97]] := by decide +kernel
/-- without the index on `alias` two entities may share an alias, and its bucket stays empty -/
example : (run exSch2 [[.create .parent [97] exA [], .create .parent [98] ⟨[122], some [121], []⟩ []]]).base.uAlias = [] ∧
    ((run exSch2 [[.create .parent [97] exA [], .create .parent [98] ⟨[122], some [121], []⟩ []]]).base.ents.lookup [98]).isSome = true := by decide +kernel
/-- the index buckets of `exSch` sit below its three-element base path -/
example : idxPath exSch exSch.name.sym = [[112], [113], [114], StorageModel.C03.bIndexes, StorageModel.C03.bThings, [110]] := by decide +kernel

end StorageModel.Properties.C03

/-! ## Store chains of any depth (root → child → grandchild → …; StorageModel/C03/Chain.lean)

  All theorems: every depth, every level j, every history.  A delete visits the constraints of levels
  0 and 1 only (the root fans out to the stores registered with it), hence `Safe`. -/
namespace StorageModel.Properties.C03
open StorageModel StorageModel.C03.Chain
open StorageModel.C03 (Map Id Err Res UI SI NEK)

/-- every level of the freshly initialised chain, whatever its depth -/
theorem chain_inv_init (depth : Nat) : C03.Chain.Inv (C03.Chain.State.empty depth) := C03.Chain.inv_empty depth

/-- one operation (own transaction) through any level keeps level j's invariant, provided it is `Safe`
    for level j: updates and patches always are; a create is when the immediate parent level holds
    the id (then every level below is captured) or level j does not hold the id yet; a delete is for
    j < 2, and for deeper levels when they do not hold the id -/
theorem chain_inv_step {s : C03.Chain.State} {j : Nat} (op : C03.Chain.Op) (hs : Safe s j op) (h : LInvAt s j) :
    LInvAt (C03.Chain.step s op).1 j :=
  inv_txStep_at [op] ⟨hs, by cases C03.Chain.stepRaw s op <;> trivial⟩ h

theorem chain_inv_tx {s : C03.Chain.State} {j : Nat} (ops : List C03.Chain.Op) (hs : SafeOps j s ops) (h : LInvAt s j) :
    LInvAt (C03.Chain.txStep s ops).1 j := inv_txStep_at ops hs h

/-- **all chain depths, all finite histories**: level j's invariant after any history whose operations
    are safe for level j -/
theorem chain_inv_reachable (depth : Nat) (txs : List (List C03.Chain.Op)) (j : Nat)
    (hs : SafeTxs j (C03.Chain.State.empty depth) txs) : LInvAt (C03.Chain.run depth txs) j :=
  inv_fold_at txs _ hs (C03.Chain.inv_empty depth j)

/-- the delete clause for the levels the code cleans: EVERY delete keeps the root's and the child
    level's invariant (both passes of the root's constraints included) -/
theorem chain_delete_cleans_root_and_child {s : C03.Chain.State} {j : Nat} (id : Id) (hj : j < 2) (h : LInvAt s j) :
    LInvAt (C03.Chain.step s (.delete id)).1 j := chain_inv_step _ (Or.inl hj) h

/-- the full delete clause (every level) is what the property asks; it does NOT hold (witness below) -/
def chain_delete_fullStatement : Prop :=
  ∀ (s : C03.Chain.State) (j : Nat) (id : Id), LInvAt s j → LInvAt (C03.Chain.step s (.delete id)).1 j

/-- proved part: the levels the code visits, and every level that does not hold the id -/
theorem chain_delete_partial {s : C03.Chain.State} {j : Nat} (id : Id) (hj : j < 2 ∨ Absent s j id) (h : LInvAt s j) :
    LInvAt (C03.Chain.step s (.delete id)).1 j := chain_inv_step _ hj h

/-- the property's wording at level j of a reachable state -/
theorem chain_unique_index_exact (depth : Nat) (txs : List (List C03.Chain.Op)) (j : Nat)
    (hs : SafeTxs j (C03.Chain.State.empty depth) txs) (L : Level) (hL : (C03.Chain.run depth txs).levels[j]? = some L)
    (v : Bytes) (id : Id) : L.uniq.lookup v = some id ↔ (v ≠ [] ∧ ∃ r, L.data.lookup id = some r ∧ r.u = v) :=
  (chain_inv_reachable depth txs j hs L hL).uniq v id

theorem chain_set_index_exact (depth : Nat) (txs : List (List C03.Chain.Op)) (j : Nat)
    (hs : SafeTxs j (C03.Chain.State.empty depth) txs) (L : Level) (hL : (C03.Chain.run depth txs).levels[j]? = some L)
    (v : Bytes) (id : Id) : id ∈ (L.set.lookup v).getD [] ↔ ∃ r, L.data.lookup id = some r ∧ v ∈ r.s :=
  (chain_inv_reachable depth txs j hs L hL).set v id

theorem chain_no_empty_keys (depth : Nat) (txs : List (List C03.Chain.Op)) (j : Nat)
    (hs : SafeTxs j (C03.Chain.State.empty depth) txs) (L : Level) (hL : (C03.Chain.run depth txs).levels[j]? = some L)
    (v : Bytes) (ids : List Id) (h : L.set.lookup v = some ids) : ids ≠ [] :=
  (chain_inv_reachable depth txs j hs L hL).noEmptyKeys v ids h

/-- a create through level `recs.length - 1` whose first fault in level order is a unique value of
    level j (any level of the chain — the ROOT's included, offered through the deepest store) held by
    another entity -/
structure CreateDupAt (s : C03.Chain.State) (id : Id) (recs : List Rec) (j : Nat) : Prop where
  idNonBlank : id ≠ []
  fits : ¬ (recs = [] ∨ s.levels.length < recs.length)
  fresh : levelHas s.levels (recs.length - 1) id = false
  safe : Safe s j (.create id recs)
  lowerOk : ∀ k, k < j → ∀ L r, s.levels[k]? = some L → recs[k]? = some r →
    ∃ L', createLevel (capOf s recs.length id) id k L r = .ok L'
  held : ∃ L r other r', s.levels[j]? = some L ∧ recs[j]? = some r ∧ r.u ≠ [] ∧ other ≠ id ∧
    L.data.lookup other = some r' ∧ r'.u = r.u

/-- … fails with the duplicate error and changes nothing -/
theorem chain_dup_rejected {s : C03.Chain.State} {id : Id} {recs : List Rec} {j : Nat} (hi : LInvAt s j)
    (hw : CreateDupAt s id recs j) : C03.Chain.step s (.create id recs) = (s, .err .dup) := by
  obtain ⟨L, r, other, r', hL, hr, hne, hoid, hlo, hu⟩ := hw.held
  exact create_error hw.idNonBlank hw.fits hw.fresh hw.lowerOk hL hr
    (put_dup (hi L hL) (createLevel_old hw.safe hL) hne hlo hoid hu)

/-- the same with an empty value for level j's (non-nullable) unique index -/
structure CreateEmptyAt (s : C03.Chain.State) (id : Id) (recs : List Rec) (j : Nat) : Prop where
  idNonBlank : id ≠ []
  fits : ¬ (recs = [] ∨ s.levels.length < recs.length)
  fresh : levelHas s.levels (recs.length - 1) id = false
  safe : Safe s j (.create id recs)
  lowerOk : ∀ k, k < j → ∀ L r, s.levels[k]? = some L → recs[k]? = some r →
    ∃ L', createLevel (capOf s recs.length id) id k L r = .ok L'
  empty : ∃ L r, s.levels[j]? = some L ∧ recs[j]? = some r ∧ r.u = []

theorem chain_empty_rejected {s : C03.Chain.State} {id : Id} {recs : List Rec} {j : Nat} (hi : LInvAt s j)
    (hw : CreateEmptyAt s id recs j) : C03.Chain.step s (.create id recs) = (s, .err .nullNotAllowed) := by
  obtain ⟨L, r, hL, hr, he⟩ := hw.empty
  exact create_error hw.idNonBlank hw.fits hw.fresh hw.lowerOk hL hr
    (put_empty (hi L hL) (createLevel_old hw.safe hL) (by simp) he)

/-- an update / patch ending at level `recs.length - 1` (after the hand-over to the deepest store
    holding the id) whose first fault in level order is level j's new unique value held by another entity -/
structure UpdateDupAt (s : C03.Chain.State) (id : Id) (recs : List Rec) (chk : Option (List Sel)) (j : Nat) : Prop where
  idNonBlank : id ≠ []
  fits : ¬ (recs = [] ∨ s.levels.length < recs.length)
  found : levelHas s.levels (recs.length - 1) id = true
  lowerOk : ∀ k, k < j → ∀ L r, s.levels[k]? = some L → recs[k]? = some r → ∃ L', updateLevel chk id k L r = .ok L'
  held : ∃ L r o other r', s.levels[j]? = some L ∧ recs[j]? = some r ∧ L.data.lookup id = some o ∧
    (persist o r (selAt chk j)).u ≠ [] ∧ other ≠ id ∧ L.data.lookup other = some r' ∧ r'.u = (persist o r (selAt chk j)).u

theorem chain_update_dup_rejected {s : C03.Chain.State} {id : Id} {recs : List Rec} {chk : Option (List Sel)} {j : Nat}
    (hi : LInvAt s j) (hw : UpdateDupAt s id recs chk j) : C03.Chain.updateAt s id recs chk = .error .dup := by
  obtain ⟨L, r, o, other, r', hL, hr, ho, hne, hoid, hlo, hu⟩ := hw.held
  have hput : updateLevel chk id j L r = .error .dup := by
    unfold updateLevel
    rw [ho]
    exact put_dup (hi L hL) ho.symm hne hlo hoid hu
  have hm := mapPrefix_error j s.levels recs 0 hw.lowerOk L r hL hr hput
  unfold C03.Chain.updateAt
  simp only [hw.idNonBlank, if_false, hw.fits, hw.found, Bool.not_true, Bool.false_eq_true]
  simp [hm]

/-- a transaction that ends in an error leaves the chain unchanged (modelled rollback) -/
theorem chain_error_changes_nothing (s : C03.Chain.State) (ops : List C03.Chain.Op) (h : (C03.Chain.txStep s ops).2 ≠ .ok) :
    (C03.Chain.txStep s ops).1 = s := by
  unfold C03.Chain.txStep at h ⊢
  split
  · next h' => simp [h'] at h
  · rfl

/-! non-vacuity on a three-level chain: a (through the grandchild store), b (root only) -/
def cA : List Rec := [⟨[120], [[114]]⟩, ⟨[121], [[115]]⟩, ⟨[122], [[116]]⟩]
def cState : C03.Chain.State := C03.Chain.run 3 [[.create [97] cA], [.create [98] [⟨[119], [[114]]⟩]]]

example : (cState.levels.map (·.uniq)) = [[([119], [98]), ([120], [97])], [([121], [97])], [([122], [97])]] := by decide +kernel
/-- a duplicate of the ROOT's unique value offered through the grandchild store is refused, nothing changes -/
example : C03.Chain.step cState (.create [99] [⟨[120], []⟩, ⟨[112], []⟩, ⟨[113], []⟩]) = (cState, .err .dup) := by decide +kernel
example : CreateDupAt cState [99] [⟨[120], []⟩, ⟨[112], []⟩, ⟨[113], []⟩] 0 :=
  ⟨by decide +kernel, by decide +kernel, by decide +kernel, Or.inr (by
    intro L hL
    have h0 : (cState.levels[0]?).map (fun L => L.data.lookup [99]) = some none := by decide +kernel
    rw [hL] at h0; simpa using h0), fun k hk => by omega,
   ⟨_, ⟨[120], []⟩, [97], ⟨[120], [[114]]⟩, rfl, rfl, by decide +kernel, by decide +kernel, by decide +kernel, rfl⟩⟩
/-- a duplicate of the GRANDCHILD level's value (root and child values fine) -/
example : C03.Chain.step cState (.create [99] [⟨[112], []⟩, ⟨[113], []⟩, ⟨[122], []⟩]) = (cState, .err .dup) := by decide +kernel
/-- an empty value for the child level's unique index, through the grandchild store -/
example : C03.Chain.step cState (.create [99] [⟨[112], []⟩, ⟨[], []⟩, ⟨[113], []⟩]) = (cState, .err .nullNotAllowed) := by decide +kernel
/-- a patch through the ROOT store of an entity held down to the grandchild level: handed over twice, all
    three levels re-indexed -/
example : ((C03.Chain.step cState (.update [97] [⟨[110], [[114]]⟩] none)).1.levels.map (·.uniq)) =
    [[([110], [97]), ([119], [98])], [([121], [97])], [([122], [97])]] := by decide +kernel
/-- grandchild create over root + child data: every level below is captured, entries replaced -/
example : ((C03.Chain.run 3 [[.create [97] [⟨[120], []⟩, ⟨[121], []⟩]], [.create [97] [⟨[110], []⟩, ⟨[111], []⟩, ⟨[112], []⟩]]]).levels.map (·.uniq)) =
    [[([110], [97])], [([111], [97])], [([112], [97])]] := by decide +kernel
/-- `SafeTxs` is satisfiable: a create through the grandchild store on the empty chain, any level -/
example (j : Nat) : SafeTxs j (C03.Chain.State.empty 3) [[.create [97] cA]] := by
  refine ⟨⟨Or.inr ?_, by split <;> trivial⟩, trivial⟩
  intro L hL
  have : L ∈ List.replicate 3 Level.empty := List.mem_of_getElem? hL
  rw [List.eq_of_mem_replicate this]; rfl

/-- **witness (the code as it is)**: a committed delete leaves the grandchild level's index entries of the
    deleted entity behind — `chain_delete_fullStatement` is false -/
theorem deep_delete_leaves_entries :
    let s := C03.Chain.run 3 [[.create [97] cA], [.delete [97]]]
    s.levels.map (·.data) = [[], [], []] ∧ s.levels.map (·.uniq) = [[], [], [([122], [97])]] ∧
    s.levels.map (·.set) = [[], [], [([116], [[97]])]] := by decide +kernel

/-- **witness**: a create through the grandchild store over an entity the root holds and the child does
    not captures nothing (only the immediate parent is asked): the root's old entry stays -/
theorem uncovered_create_breaks_root :
    ((C03.Chain.run 3 [[.create [97] [⟨[120], []⟩]], [.create [97] [⟨[110], []⟩, ⟨[111], []⟩, ⟨[112], []⟩]]]).levels.map (·.uniq)) =
    [[([110], [97]), ([120], [97])], [([111], [97])], [([112], [97])]] := by decide +kernel

end StorageModel.Properties.C03

#print axioms StorageModel.Properties.C03.chain_inv_reachable
#print axioms StorageModel.Properties.C03.chain_dup_rejected

#print axioms StorageModel.Properties.C03.inv_reachable
#print axioms StorageModel.Properties.C03.step_refines_spec
#print axioms StorageModel.Properties.C03.render_eq_spec
#print axioms StorageModel.Properties.C03.dup_rejected
#print axioms StorageModel.Properties.C03.index_paths_distinct
