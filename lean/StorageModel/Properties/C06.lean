import StorageModel.C06.Recreate
import StorageModel.C06.Fuel
import StorageModel.C06.Depth
/-
  C06 — A committed delete leaves no trace of the entity's id.

  "After an entity is deleted and the transaction commits, its id no longer occurs anywhere in
  the database: not as an entity, not as child-store data, and not in any unique, set or
  foreign-key index, link set or back-reference list of any other entity.  The id can afterwards
  be created again and behaves as if it had never existed."

  Model: `C06/Model.lean` (the universe is described at its head); `Render` is the bucket dump that is
  diffed against `boltz.Traverse` after every transaction.
-/
namespace StorageModel.Properties.C06
open StorageModel StorageModel.C06
open StorageModel.C03 (Map Id Err setOf Line bind_ok)

theorem inv_init : C06.Inv State.empty := inv_empty

/-- every operation kind (accepted or rejected, in its own transaction) preserves the invariant:
    creates through A, A1 and A2 (also over an existing parent), updates and patches through A and A2,
    deletes of A and B entities with their cascades, ref-count increments / decrements / sets, link
    writes on `peers` / `mentors` -/
theorem inv_step {s : State} (op : Op) (h : C06.Inv s) : C06.Inv (step s op).1 := inv_txStep [op] h

theorem inv_tx {s : State} (ops : List Op) (h : C06.Inv s) : C06.Inv (txStep s ops).1 := inv_txStep ops h

/-- all finite histories of transactions -/
theorem inv_reachable (txs : List (List Op)) : C06.Inv (run txs) := inv_foldTxs txs inv_init

/-- **No trace.**  In every consistent state — in particular after any committed transaction — an
    id that is an entity of neither store is mentioned by no line of the bucket dump: not as a path
    element, key or value, plain or typed.  This covers ids deleted directly, through the child
    store, and by a cascade. -/
theorem absent_no_trace {nm : Names} {s : State} {id : Id} (hi : C06.Inv s) (hc : NoClash nm id s)
    (ha : s.a.lookup id = none) (hb : s.b.lookup id = none) :
    ∀ line, line ∈ Render nm s → ¬ Mentions id line :=
  no_trace_of_absent hi hc ha hb

theorem stepRaw_of_step_ok {s s' : State} {op : Op} (h : step s op = (s', .ok)) : stepRaw s op = .ok s' := by
  simp only [step, txStep, applyOps] at h
  cases hd : stepRaw s op with
  | error e => simp [hd] at h
  | ok t => simp only [hd] at h; cases h; rfl

/-- **No trace, store A** (also when the delete goes through the child store) -/
theorem delete_no_trace {nm : Names} {s s' : State} {id : Id} (hi : C06.Inv s) (h : step s (.deleteA id) = (s', .ok))
    (hc : NoClash nm id s') (hb : s'.b.lookup id = none) :
    ∀ line, line ∈ Render nm s' → ¬ Mentions id line := by
  have hraw : deleteATop s id = .ok s' := stepRaw_of_step_ok h
  exact no_trace_of_absent (inv_deleteA hi hraw) hc (deleteA_absent hi hraw).1 hb

/-- **No trace, store B** -/
theorem delete_no_trace_owner {nm : Names} {s s' : State} {id : Id} (hi : C06.Inv s) (h : step s (.deleteB id) = (s', .ok))
    (hc : NoClash nm id s') (ha : s'.a.lookup id = none) :
    ∀ line, line ∈ Render nm s' → ¬ Mentions id line := by
  have hraw : deleteB s id = .ok s' := stepRaw_of_step_ok h
  exact no_trace_of_absent (inv_deleteB hi hraw) hc ha (deleteB_absent hraw)

/-- **No trace, cascade.**  The dependants of a deleted owner (entities whose `dep` names it) are
    gone after the delete, and nothing mentions them either. -/
theorem cascade_no_trace {nm : Names} {s s' : State} {id j : Id} {e : EntA} (hi : C06.Inv s)
    (h : step s (.deleteB id) = (s', .ok)) (hj : s.a.lookup j = some e) (hd : e.dep.getD [] = id)
    (hc : NoClash nm j s') (hb : s'.b.lookup j = none) :
    s'.a.lookup j = none ∧ ∀ line, line ∈ Render nm s' → ¬ Mentions j line := by
  have hraw : deleteB s id = .ok s' := stepRaw_of_step_ok h
  obtain ⟨_, eb, s1, _, _, hcas, rfl⟩ := deleteB_ok hraw
  obtain ⟨_, cgone⟩ := deleteAll_spec hi hcas
  have hgone : s1.a.lookup j = none := cgone j ((mem_dependants s id j).2 ⟨e, hj, hd⟩)
  exact ⟨hgone, no_trace_of_absent (inv_deleteB hi hraw) hc hgone hb⟩

/-- **No trace, self-reference cascade.**  Every transitive referrer of the deleted entity through
    `boss` (`Reports`: one or more steps, cycles included) is removed by the delete, and no line of
    the dump mentions it afterwards. -/
theorem boss_cascade_no_trace {nm : Names} {s s' : State} {id j : Id} (hi : C06.Inv s) (h : step s (.deleteA id) = (s', .ok))
    (hr : Reports s id j) (hc : NoClash nm j s') (hb : s'.b.lookup j = none) :
    s'.a.lookup j = none ∧ ∀ line, line ∈ Render nm s' → ¬ Mentions j line := by
  have hraw : deleteATop s id = .ok s' := stepRaw_of_step_ok h
  have hgone := boss_cascade_removes hi hraw hr
  exact ⟨hgone, no_trace_of_absent (inv_deleteA hi hraw) hc hgone hb⟩

/-- **Restrict.**  While some `chief` field names an entity — its own included — `A.DeleteById` of
    it is refused with a reference error (the check of `fkDeleteCascadeConstraint` with `CascadeNone`
    looks at ALL referrers, the entity itself is one of them). -/
theorem restrict_refuses {s : State} {id j : Id} {e0 e : EntA} (hi : C06.Inv s) (h0 : s.a.lookup id = some e0)
    (hj : s.a.lookup j = some e) (hc : e.chief.getD [] = id) : stepRaw s (.deleteA id) = .error .refExists := by
  have hid : id ≠ [] := by rintro rfl; rw [hi.idA] at h0; cases h0
  exact deleteA_refused hid h0 ((chiefCheck_cases s id).elim (·.1) fun ⟨_, hno⟩ => absurd hc (hno j e hj))

/-- **No foreign-key field names an absent id** — in particular not after a committed delete: not
    `owner` / `dep` (→ B), not the cascading self reference `boss`, not the restricting one `chief`. -/
theorem no_fk_names_absent {s : State} {id : Id} (hi : C06.Inv s) (hid : id ≠ []) (ha : s.a.lookup id = none)
    (hb : s.b.lookup id = none) {j : Id} {e : EntA} (hj : s.a.lookup j = some e) :
    e.owner.getD [] ≠ id ∧ e.dep.getD [] ≠ id ∧ e.boss.getD [] ≠ id ∧ e.chief.getD [] ≠ id := by
  refine ⟨?_, ?_, ?_, ?_⟩
  · intro h; have := hi.ownerExists j e hj (by rw [h]; exact hid); simp [State.bEx, h, hb] at this
  · intro h; have := hi.depExists j e hj (by rw [h]; exact hid); simp [State.bEx, h, hb] at this
  · intro h; have := hi.boss.boss j e hj (by rw [h]; exact hid) (by simp); simp [State.aEx, h, ha] at this
  · intro h; have := hi.boss.chief j e hj (by rw [h]; exact hid); simp [State.aEx, h, ha] at this

/-- **The cascade terminates.**  The model bounds the recursion of the cascading delete by a fuel of
    (number of A entities + 1) and answers `panic` when it runs out (the stack overflow of the code
    before fix bda5470).  In every consistent state a delete never does — on chains, self references
    and reference cycles alike: every nested delete marks one more existing entity as in progress. -/
theorem delete_terminates {s : State} (id : Id) (hi : C06.Inv s) : stepRaw s (.deleteA id) ≠ .error .panic :=
  deleteATop_noPanic id hi.toInvCore hi.boss

/-- **Whatever a committed transaction removed** — by a direct delete, through a child store, or by
    any cascade, anywhere in the transaction — is mentioned by no line of the dump afterwards. -/
theorem tx_removed_no_trace {nm : Names} {s : State} (ops : List Op) {j : Id} (hi : C06.Inv s)
    (ha : (txStep s ops).1.a.lookup j = none) (hb : (txStep s ops).1.b.lookup j = none)
    (hc : NoClash nm j (txStep s ops).1) :
    ∀ line, line ∈ Render nm (txStep s ops).1 → ¬ Mentions j line :=
  no_trace_of_absent (inv_txStep ops hi) hc ha hb

/-- after the delete the id is gone from every index, back-reference, link and ref-count map -/
theorem delete_forgets {s s' : State} {id : Id} (hi : C06.Inv s) (h : stepRaw s (.deleteA id) = .ok s')
    (hb : s.b.lookup id = none) :
    (∀ v, s'.uName.lookup v ≠ some id) ∧ (∀ v, s'.uAlias.lookup v ≠ some id) ∧ (∀ v, s'.uCode.lookup v ≠ some id) ∧
    (∀ v, s'.uLabel.lookup v ≠ some id) ∧ (∀ v, id ∉ (s'.sRoles.lookup v).getD []) ∧
    (∀ b, id ∉ (s'.thg.lookup b).getD []) ∧
    (∀ b, id ∉ (s'.g.bwd.lookup b).getD []) ∧ (∀ j, id ∉ (s'.g.fwd.lookup j).getD []) ∧
    (∀ b, id ∉ (s'.p.bwd.lookup b).getD []) ∧ (∀ j, id ∉ (s'.p.fwd.lookup j).getD []) ∧
    (∀ b, cnt s'.rc.bwd b id = none) ∧ (∀ j, cnt s'.rc.fwd j id = none) ∧
    s'.g.fwd.lookup id = none ∧ s'.g.bwd.lookup id = none ∧ s'.p.fwd.lookup id = none ∧ s'.p.bwd.lookup id = none ∧
    s'.rc.fwd.lookup id = none ∧ s'.rc.bwd.lookup id = none ∧ s'.thg.lookup id = none ∧
    (∀ v, s'.uColour.lookup v ≠ some id) ∧
    s'.pe.lookup id = none ∧ (∀ j, id ∉ (s'.pe.lookup j).getD []) ∧
    s'.mt.fwd.lookup id = none ∧ s'.mt.bwd.lookup id = none ∧
    (∀ j, id ∉ (s'.mt.fwd.lookup j).getD []) ∧ (∀ j, id ∉ (s'.mt.bwd.lookup j).getD []) := by
  have h' : deleteATop s id = .ok s' := h
  obtain ⟨h1, h2⟩ := deleteA_absent hi h'
  exact absent_everywhere (inv_deleteA hi h') h1 (by rw [h2]; exact hb)

/-- **Re-creation, resulting state.**  Creating the id again after the delete yields a consistent
    state in which the entity is exactly what was written and every index / back-reference entry
    for the id is determined by the *new* values alone; no ref-count or child-store data survives. -/
theorem recreate_fresh {s s' s'' : State} {id : Id} {v : ValsA} (hi : C06.Inv s) (hb : s.b.lookup id = none)
    (hd : stepRaw s (.deleteA id) = .ok s') (hc : stepRaw s' (.createA id v) = .ok s'') :
    C06.Inv s'' ∧
    s''.a.lookup id = some ⟨v.name, v.alias, setOf v.roles, v.owner, v.dep, v.boss, v.chief, none, none⟩ ∧
    (∀ w, s''.uName.lookup w = some id ↔ w = v.name) ∧
    (∀ w, s''.uAlias.lookup w = some id ↔ (w ≠ [] ∧ w = v.alias.getD [])) ∧
    (∀ w, s''.uCode.lookup w ≠ some id) ∧
    (∀ w, id ∈ (s''.sRoles.lookup w).getD [] ↔ w ∈ setOf v.roles) ∧
    (∀ b, id ∈ (s''.thg.lookup b).getD [] ↔ (b ≠ [] ∧ v.owner.getD [] = b)) ∧
    (∀ b, cnt s''.rc.bwd b id = none) ∧ s''.p.fwd.lookup id = none ∧ (∀ w, s''.uColour.lookup w ≠ some id) ∧
    s''.pe.lookup id = none ∧ s''.mt.fwd.lookup id = none ∧ s''.mt.bwd.lookup id = none := by
  have hd' : deleteATop s id = .ok s' := hd
  exact createA_over_absent (inv_deleteA hi hd') (deleteA_absent hi hd').1 hc

/-- **Re-creation, acceptance.**  Whether the re-creation is accepted is decided by the other
    entities alone (`AcceptableA`: name non-empty and not held by another entity, alias likewise,
    no empty role, groups / owner / dep exist) … -/
theorem recreate_accepted_iff {s s' : State} {id : Id} (v : ValsA) (hi : C06.Inv s)
    (hd : stepRaw s (.deleteA id) = .ok s') :
    (∃ s'', stepRaw s' (.createA id v) = .ok s'') ↔ AcceptableA s' id v := by
  have hd' : deleteATop s id = .ok s' := hd
  exact createA_accepts_iff (inv_deleteA hi hd') (deleteATop_id_ne hd') (deleteA_absent hi hd').1

/-- … hence exactly as in *any* consistent state with the same entity tables in which the id is
    absent — for instance one reached by a history that never used the id: "as if it had never
    existed". -/
theorem recreate_as_if_never_existed {s s' t : State} {id : Id} (v : ValsA) (hi : C06.Inv s)
    (hd : stepRaw s (.deleteA id) = .ok s') (ht : C06.Inv t)
    (ha : ∀ j, t.a.lookup j = s'.a.lookup j) (hb : ∀ j, t.b.lookup j = s'.b.lookup j) :
    (∃ s'', stepRaw s' (.createA id v) = .ok s'') ↔ (∃ t'', stepRaw t (.createA id v) = .ok t'') := by
  have hd' : deleteATop s id = .ok s' := hd
  have hid := deleteATop_id_ne hd'
  have hna := (deleteA_absent hi hd').1
  rw [recreate_accepted_iff v hi hd]
  have : (∃ t'', createA t id v = .ok t'') ↔ AcceptableA t id v :=
    createA_accepts_iff ht hid (by rw [ha]; exact hna)
  exact ((acceptableA_congr ha hb).symm.trans this.symm)

/-- **Re-creation of anything that is gone** (deleted directly, through a child store, or as the
    victim of a cascade): in every consistent state the create of an absent id is accepted iff
    `AcceptableA` — a condition on the other entities — holds; nothing of the id's past matters. -/
theorem recreate_absent_accepted_iff {s : State} {id : Id} (v : ValsA) (hi : C06.Inv s) (hid : id ≠ [])
    (hna : s.a.lookup id = none) : (∃ s', stepRaw s (.createA id v) = .ok s') ↔ AcceptableA s id v :=
  createA_accepts_iff hi hid hna

/-- the non-nullable unique index of the *parent* store refuses an empty value also when the
    create comes through the child store (the parent's indexing context is a create context) -/
theorem child_create_empty_name_rejected {s : State} {id : Id} {v : ValsA} {code : Bytes} {pals : List Id}
    (hv : v.name = []) : ∀ s', createA1 s id v code pals ≠ .ok s' := by
  intro s' h
  unfold createA1 at h
  obtain ⟨_, h⟩ := guard_ok h
  obtain ⟨_, h⟩ := guard_ok h
  obtain ⟨s2, hsl, h⟩ := bind_ok h
  obtain ⟨g', _, rfl⟩ := setGroups_ok hsl
  obtain ⟨s2', hsp, h⟩ := bind_ok h
  obtain ⟨p', _, rfl⟩ := setPals_ok hsp
  obtain ⟨s3, hs3, _⟩ := bind_ok h
  obtain ⟨un, ua, sr, hun, _⟩ := afterUpdateA_ok hs3
  simp only [Map.lookup_insert, if_true, evName] at hun
  exact C03.uniqueAfter_nonempty hun (Or.inl rfl) hv

/-! ### witnesses (all by evaluation of the model)

  ids: a = [97], b = [98]; owners p = [112], q = [113]; values x y z m n. -/

def vA : ValsA := ⟨[120], none, [[109]], some [112], none, [[112]], none, none⟩

/-- DESIGN §7 #17 (fix 8269ce9): child-store create over an existing plain parent re-indexes the
    parent; after the delete nothing mentions the id -/
def exOver : State := run [[.createB [112] none], [.createA [97] vA],
  [.createA1 [97] ⟨[121], none, [[110]], none, none, [], none, none⟩ [122] [[112]]]]

theorem child_create_over_parent_reindexes :
    exOver.uName.lookup [120] = none ∧ exOver.uName.lookup [121] = some [97] ∧ exOver.sRoles.lookup [109] = none ∧
    exOver.sRoles.lookup [110] = some [[97]] ∧ exOver.thg.lookup [112] = some [] ∧ exOver.uCode.lookup [122] = some [97] ∧
    exOver.p.bwd.lookup [112] = some [[97]] := by
  decide +kernel

theorem child_create_over_parent_no_trace :
    (step exOver (.deleteA [97])).2 = .ok ∧
    (Render Names.std (step exOver (.deleteA [97])).1).filter (fun l => decide (Mentions [97] l)) = [] := by
  decide +kernel

/-- a ref-counted link with count 3 and a link owned by the child store: both are gone after the delete -/
def exRc : State := run [[.createB [112] none], [.createA1 [97] vA [122] [[112]]],
  [.rcInc [97] [112], .rcInc [97] [112], .rcInc [97] [112]]]

theorem rc_and_child_links_no_trace :
    cnt exRc.rc.bwd [112] [97] = some 3 ∧ exRc.p.bwd.lookup [112] = some [[97]] ∧
    (Render Names.std exRc).any (fun l => decide (Mentions [97] l)) = true ∧
    (Render Names.std (step exRc (.deleteA [97])).1).filter (fun l => decide (Mentions [97] l)) = [] := by
  decide +kernel

/-- a cascading delete: deleting owner q removes its dependant b, and neither id is mentioned afterwards -/
def exCascade : State := run [[.createB [112] none, .createB [113] none],
  [.createA [98] ⟨[121], none, [], some [112], some [113], [[113]], none, none⟩], [.rcSet [98] [113] 2]]

theorem cascade_witness :
    (step exCascade (.deleteB [113])).2 = .ok ∧ (step exCascade (.deleteB [113])).1.a.lookup [98] = none ∧
    (Render Names.std (step exCascade (.deleteB [113])).1).filter (fun l => decide (Mentions [98] l) || decide (Mentions [113] l)) = [] := by
  decide +kernel

/-- a reference cycle a → b → a with a further referrer c → a and a self reference d → d: deleting a
    removes a, b and c (the cascade terminates), d stays; nothing mentions the removed ids -/
def exCycle : State := run [[.createA [97] ⟨[120], none, [], none, none, [], none, none⟩],
  [.createA [98] ⟨[121], none, [], none, none, [], some [97], none⟩, .createA [99] ⟨[122], none, [[109]], none, none, [], some [97], none⟩],
  [.updateA [97] ⟨[120], none, [], none, none, [], some [98], none⟩ none],
  [.createA [100] ⟨[119], none, [], none, none, [], some [100], none⟩]]

theorem cycle_witness :
    (exCycle.a.lookup [97]).map (·.boss) = some (some [98]) ∧ (exCycle.a.lookup [98]).map (·.boss) = some (some [97]) ∧
    (step exCycle (.deleteA [97])).2 = .ok ∧
    Map.keys (step exCycle (.deleteA [97])).1.a = [[100]] ∧
    (Render Names.std (step exCycle (.deleteA [97])).1).filter
      (fun l => decide (Mentions [97] l) || decide (Mentions [98] l) || decide (Mentions [99] l)) = [] ∧
    (step (step exCycle (.deleteA [97])).1 (.deleteA [100])).2 = .ok ∧
    (step (step exCycle (.deleteA [97])).1 (.deleteA [100])).1.a = [] := by
  decide +kernel

/-- the hypotheses of `boss_cascade_no_trace` are satisfiable: c reports to a directly, a to itself through the cycle a → b → a -/
example : Reports exCycle [97] [99] := .direct (e := ⟨[122], none, [[109]], none, none, some [97], none, none, none⟩) (by decide +kernel) rfl
example : Reports exCycle [97] [97] :=
  .step (k := [98]) (e := ⟨[120], none, [], none, none, some [98], none, none, none⟩) (by decide +kernel) rfl
    (.direct (e := ⟨[121], none, [], none, none, some [97], none, none, none⟩) (by decide +kernel) rfl)
example : NoClash Names.std [99] (step exCycle (.deleteA [97])).1 := noClash_of_check (by decide +kernel)

/-- the extended child store: created through A2 over an existing parent that has A1 data, colour
    and name changed through A2 (old index entries replaced), deleted through A2: nothing is left -/
def exExt : State := run [[.createB [112] none], [.createA1 [97] vA [122] [[112]]],
  [.createA2 [97] ⟨[121], none, [[110]], none, none, [[112]], none, none⟩ [119]],
  [.updateA2 [97] ⟨[120], none, [], some [112], none, [], none, none⟩ [118] (some ⟨true, false, false, true, false, false, false, false⟩) true]]

theorem extended_child_witness :
    exExt.uColour.lookup [119] = none ∧ exExt.uColour.lookup [118] = some [97] ∧ exExt.uName.lookup [121] = none ∧
    exExt.uName.lookup [120] = some [97] ∧ exExt.uCode.lookup [122] = some [97] ∧ exExt.thg.lookup [112] = some [[97]] ∧
    (exExt.a.lookup [97]).map (·.colour) = some (some [118]) ∧
    (step exExt (.deleteA [97])).2 = .ok ∧
    (Render Names.std (step exExt (.deleteA [97])).1).filter (fun l => decide (Mentions [97] l)) = [] ∧
    (step exExt (.updateA2 [98] vA [118] none true)).2 = .err .notFound := by
  decide +kernel

/-- store A linked with itself: a is linked to itself and to b and c through `peers` (one symbol) and
    through `mentors` (two symbols); in ONE transaction a's peers bucket is written and a is deleted:
    b and c forget a in all three bucket families, nothing mentions a -/
def exSelf : State := run [[.createA [97] ⟨[120], none, [], none, none, [], none, none⟩,
  .createA [98] ⟨[121], none, [], none, none, [], none, none⟩, .createA [99] ⟨[122], none, [], none, none, [], none, none⟩],
  [.addPeers [97] [[97], [98], [99]], .setMentors [97] [[99], [97]], .setMentors [98] [[97]]]]

theorem self_link_witness :
    exSelf.pe.lookup [97] = some [[97], [98], [99]] ∧ exSelf.pe.lookup [99] = some [[97]] ∧
    exSelf.mt.bwd.lookup [97] = some [[97], [98]] ∧
    (txStep exSelf [.removePeers [97] [[98]], .deleteA [97]]).2 = .ok ∧
    (txStep exSelf [.removePeers [97] [[98]], .deleteA [97]]).1.pe = [([99], []), ([98], [])] ∧
    (Render Names.std (txStep exSelf [.removePeers [97] [[98]], .deleteA [97]]).1).filter (fun l => decide (Mentions [97] l)) = [] := by
  decide +kernel

/-- the same under the other naming variant of the schema (symbol ≠ stored key for `name` and `alias`):
    the dump names the index buckets after the symbols and the fields after their keys; nothing mentions
    the deleted id either -/
theorem naming_variant_witness :
    Line.bucket [C03.bU, C03.bIndexes, C03.bThings, [110, 105, 99, 107]] ∈ Render Names.alt exExt ∧
    Line.kv [C03.bU, C03.bThings, [97]] [110, 109] (C03.typed [120]) ∈ Render Names.alt exExt ∧
    (Render Names.alt (step exExt (.deleteA [97])).1).filter (fun l => decide (Mentions [97] l)) = [] := by
  decide +kernel

example : NoClash Names.alt [97] (step exExt (.deleteA [97])).1 := noClash_of_check (by decide +kernel)

/-- the restricting self reference: a names itself as chief and so does c (sorting after a); b names
    nobody.  Deleting a is refused — also when a is its own only referrer; after the chief fields are
    cleared it goes, and nothing mentions it -/
def exChief : State := run [[.createA [97] ⟨[120], none, [], none, none, [], none, some [97]⟩,
  .createA [98] ⟨[121], none, [], none, none, [], none, none⟩, .createA [99] ⟨[122], none, [], none, none, [], none, some [97]⟩]]

theorem chief_witness :
    (step exChief (.deleteA [97])).2 = .err .refExists ∧
    (step (step exChief (.deleteA [99])).1 (.deleteA [97])).2 = .err .refExists ∧
    (step exChief (.deleteA [98])).2 = .ok ∧
    (txStep exChief [.updateA [97] ⟨[120], none, [], none, none, [], none, none⟩ none,
                     .updateA [99] ⟨[122], none, [], none, none, [], none, none⟩ (some ⟨false, false, false, false, false, false, false, true⟩),
                     .deleteA [97]]).2 = .ok ∧
    (Render Names.std (txStep exChief [.updateA [97] ⟨[120], none, [], none, none, [], none, none⟩ none,
                     .updateA [99] ⟨[122], none, [], none, none, [], none, none⟩ (some ⟨false, false, false, false, false, false, false, true⟩),
                     .deleteA [97]]).1).filter (fun l => decide (Mentions [97] l)) = [] := by
  decide +kernel

/-- `NoClash` holds in the harness universe: the hypotheses of the no-trace theorems are satisfiable -/
example : NoClash Names.std [97] (step exRc (.deleteA [97])).1 := noClash_of_check (by decide +kernel)
example : (step exRc (.deleteA [97])).1.b.lookup [97] = none := by decide +kernel
example : NoClash Names.std [98] (step exCascade (.deleteB [113])).1 := noClash_of_check (by decide +kernel)

/-- for any optional field `g` of store A that carries a unique index (`alias`, `code`, `colour`) -/
theorem index_key_is_stored_bytes {nm : Names} {s : State} {g : EntA → Option Bytes} {idx : Map Bytes Id} {k i : Bytes}
    (hui : C03.UI (fun e => (g e).getD []) s.a idx) (h : idx.lookup k = some i) {l : Line}
    (hl : ∀ e, g e = some k → l ∈ renderA nm s (i, e)) :
    ∃ e, s.a.lookup i = some e ∧ g e = some k ∧ l ∈ Render nm s := by
  obtain ⟨e, he, hg⟩ := UI_some hui h
  exact ⟨e, he, hg, mem_Render.2 (Or.inl (Or.inl (Or.inl (Or.inl (Or.inl (Or.inl (Or.inl (Or.inr
    ⟨i, e, he, hl e hg⟩))))))))⟩

/-- **Index keys are the stored bytes, whatever the symbol's type.**  In every consistent state and for
    every schema variant (every choice of `FieldType` bytes for `alias`, `code`, `colour`, `label`): an
    entry `k ↦ i` of the unique index over `alias` sits next to the entity line
    `u/things/i/<aliasKey> = <type byte> k` of the dump — the index is keyed by the raw stored bytes of the
    field (for an int64 symbol the 8-byte encoding, never its decimal rendering), so the key the delete
    has to remove is the one `symbol.Eval` returns. -/
theorem alias_index_key_is_stored_bytes {nm : Names} {s : State} (hi : C06.Inv s) {k i : Bytes}
    (h : s.uAlias.lookup k = some i) :
    ∃ e, s.a.lookup i = some e ∧ e.alias = some k ∧
      Line.kv (pathA i) nm.aliasKey (tagged nm.aliasTy k) ∈ Render nm s ∧
      Line.kv (idxPathA nm.aliasSym) k i ∈ Render nm s := by
  obtain ⟨e, he, ha, hl⟩ := index_key_is_stored_bytes (nm := nm) (g := EntA.alias)
    (l := .kv (pathA i) nm.aliasKey (tagged nm.aliasTy k)) hi.uAlias h fun e ha => by simp [renderA, optFieldT, ha]
  exact ⟨e, he, ha, hl,
    mem_Render.2 (Or.inl (Or.inl (Or.inl (Or.inl (Or.inr ⟨k, i, h, by simp [renderUnique]⟩)))))⟩

/-- the same for the child stores' indexes (`code` of A1, `colour` of the extended A2) and B's `label` -/
theorem code_index_key_is_stored_bytes {nm : Names} {s : State} (hi : C06.Inv s) {k i : Bytes}
    (h : s.uCode.lookup k = some i) :
    ∃ e, s.a.lookup i = some e ∧ e.code = some k ∧
      Line.kv (pathA i ++ [bExt1]) bCode (tagged nm.codeTy k) ∈ Render nm s :=
  index_key_is_stored_bytes (nm := nm) (g := EntA.code) hi.uCode h fun e ha => by simp [renderA, ha]

/-- the typed variant of the schema (`Names.typedV`: alias int64, code int32, colour float64, label
    int32; values in their fixed-width little-endian form).  b `p` has label 120; a is created through A1
    with alias 121 and code 122, gets colour 119 through A2, then its alias is patched to 120. -/
def exTyped : State := run [[.createB [112] (some (padTo 4 [120]))],
  [.createA1 [97] ⟨[120], some (padTo 8 [121]), [[109]], some [112], none, [[112]], none, none⟩ (padTo 4 [122]) [[112]]],
  [.createA2 [97] ⟨[120], some (padTo 8 [121]), [[109]], some [112], none, [[112]], none, none⟩ (padTo 8 [119])],
  [.updateA [97] ⟨[120], some (padTo 8 [120]), [], none, none, [], none, none⟩ (some ⟨false, true, false, false, false, false, false, false⟩)]]

/-- unique indexes over non-string symbols: the entries are keyed by the 8- / 4-byte encodings, the
    fields carry their own type bytes (3 int64, 2 int32, 4 float64); the patch moved the alias entry; the
    delete of a (and then of p) removes every entry and nothing mentions the ids; the value the deleted
    entity held is free for another entity -/
theorem typed_variant_witness :
    exTyped.uAlias.lookup [120, 0, 0, 0, 0, 0, 0, 0] = some [97] ∧ exTyped.uAlias.lookup [121, 0, 0, 0, 0, 0, 0, 0] = none ∧
    exTyped.uAlias.lookup [49, 50, 48] = none ∧
    exTyped.uCode.lookup [122, 0, 0, 0] = some [97] ∧ exTyped.uColour.lookup [119, 0, 0, 0, 0, 0, 0, 0] = some [97] ∧
    exTyped.uLabel.lookup [120, 0, 0, 0] = some [112] ∧
    Line.kv [C03.bU, C03.bThings, [97]] C03.bAlias [3, 120, 0, 0, 0, 0, 0, 0, 0] ∈ Render Names.typedV exTyped ∧
    Line.kv [C03.bU, C03.bThings, [97], bExt1] bCode [2, 122, 0, 0, 0] ∈ Render Names.typedV exTyped ∧
    Line.kv [C03.bU, C03.bThings, [97], bExt2] bColour [4, 119, 0, 0, 0, 0, 0, 0, 0] ∈ Render Names.typedV exTyped ∧
    Line.kv [C03.bU, bOwners, [112]] bLabel [2, 120, 0, 0, 0] ∈ Render Names.typedV exTyped ∧
    Line.kv [C03.bU, C03.bIndexes, C03.bThings, C03.bAlias] [120, 0, 0, 0, 0, 0, 0, 0] [97] ∈ Render Names.typedV exTyped ∧
    (step exTyped (.deleteA [97])).2 = .ok ∧
    (step exTyped (.deleteA [97])).1.uAlias = [] ∧ (step exTyped (.deleteA [97])).1.uCode = [] ∧
    (step exTyped (.deleteA [97])).1.uColour = [] ∧
    (Render Names.typedV (step exTyped (.deleteA [97])).1).filter (fun l => decide (Mentions [97] l)) = [] ∧
    (step (step exTyped (.deleteA [97])).1 (.createA [98] ⟨[121], some (padTo 8 [120]), [], none, none, [], none, none⟩)).2 = .ok ∧
    (Render Names.typedV (txStep exTyped [.deleteA [97], .deleteB [112]]).1).filter
      (fun l => decide (Mentions [97] l) || decide (Mentions [112] l)) = [] := by
  decide +kernel

example : NoClash Names.typedV [97] (step exTyped (.deleteA [97])).1 := noClash_of_check (by decide +kernel)
example : NoClash Names.typedV [112] (txStep exTyped [.deleteA [97], .deleteB [112]]).1 := noClash_of_check (by decide +kernel)

section DepthSection
open StorageModel.C06.Depth

/-- the FULL statement: in every configuration the library accepts, a committed delete through any store
    leaves nothing of the id.  It is FALSE at depth 3 (`grandchild_delete_leaves_trace`): the root fans out
    over its own registered strategies only, so a store registered with a CHILD is never visited. -/
def delete_no_trace_fullStatement : Prop :=
  ∀ (cfg : Cfg) (s s' : DState) (k : Nat) (id : Id),
    rootOf cfg k = 0 → Sound cfg s → deleteById cfg s k id = .ok s' → NoTrace s' id

/-- proved part: every configuration in which every declaring store is the root or registered with the
    root (any depth, any number of stores; all depth ≤ 2 configurations are of this kind); the state stays
    sound, so the statement composes over histories of deletes.  Missing for the full statement: stores
    registered below the root - there the code leaves their entries behind. -/
theorem delete_no_trace_partial {cfg : Cfg} {s s' : DState} {k : Nat} {id : Id}
    (hr : AllDeclaringStoresReachable cfg) (h0 : rootOf cfg k = 0) (hs : Sound cfg s)
    (hd : deleteById cfg s k id = .ok s') : NoTrace s' id ∧ Sound cfg s' :=
  ⟨delete_no_trace_reachable hr h0 hs hd, sound_after_delete hr h0 hs hd⟩

def allDecl (p : Option Nat) (r : List Nat) (path : List Bytes) (tag : UInt8) : StoreCfg :=
  { parent := p, regWith := r, path := path, tag := tag, uniq := true, set := true, link := true, fk := true }

/-- A → C → G, G registered with C (the library accepts it) -/
def cfg3 : Cfg := [allDecl none [] [] 48, allDecl (some 0) [0] [[101, 120, 116]] 49,
  allDecl (some 1) [1] [[101, 120, 116], [103]] 50]
/-- the same chain with G registered with the root as well -/
def cfg3r : Cfg := [allDecl none [] [] 48, allDecl (some 0) [0] [[101, 120, 116]] 49,
  allDecl (some 1) [1, 0] [[101, 120, 116], [103]] 50]

def vs3 : Nat → Vals
  | 0 => { u := some [120], s := [[109]], l := [[112]], f := some [113] }
  | 1 => { u := some [121], s := [[110]], l := [[112]], f := some [113] }
  | _ => { u := some [122], s := [[111]], l := [[112]], f := some [113] }

def stateOf (r : Except Err DState) : DState := match r with
  | .ok t => t
  | .error _ => {}

def s3 : DState := stateOf (createThrough cfg3 {} 2 [97] vs3)
def s3d : DState := stateOf (deleteById cfg3 s3 0 [97])
def s3r : DState := stateOf (createThrough cfg3r {} 2 [97] vs3)

example : AllDeclaringStoresReachable cfg3r := reachable_of_B (by decide +kernel)
example : ¬ AllDeclaringStoresReachable cfg3 := fun h => by have := h 2 (by decide +kernel); revert this; decide +kernel
example : Sound cfg3r s3r ∧ rootOf cfg3r 2 = 0 ∧ okB (deleteById cfg3r s3r 2 [97]) = true := by decide +kernel
example : NoTrace (stateOf (deleteById cfg3r s3r 2 [97])) [97] := by decide +kernel

/-- **the model follows the code**: three-level chain, entity created through G, deleted through the root:
    exactly G's own unique / set / link / fk entries stay behind -/
theorem grandchild_delete_leaves_trace : ¬ delete_no_trace_fullStatement := by
  intro h
  have := h cfg3 s3 s3d 0 [97] (by decide +kernel) (by decide +kernel) rfl
  revert this; decide +kernel

example : s3d.data = [] ∧ s3d.idx = [⟨.u, 2, [122], [97]⟩, ⟨.s, 2, [111], [97]⟩, ⟨.f, 2, [113], [97]⟩, ⟨.l, 2, [112], [97]⟩] := by decide +kernel

def recreate_fresh_fullStatement : Prop :=
  ∀ (cfg : Cfg) (s s' : DState) (k : Nat) (id : Id) (k' : Nat) (vs : Nat → Vals),
    rootOf cfg k = 0 → Sound cfg s → deleteById cfg s k id = .ok s' →
    createThrough cfg s' k' id vs = createThrough cfg (purge s' id) k' id vs

/-- after a committed delete a creation of the id sees a state that holds nothing of it (it behaves as in the
    state with everything of the id purged) - for the reachable configurations -/
theorem recreate_fresh_partial {cfg : Cfg} {s s' : DState} {k : Nat} {id : Id}
    (hr : AllDeclaringStoresReachable cfg) (h0 : rootOf cfg k = 0) (hs : Sound cfg s)
    (hd : deleteById cfg s k id = .ok s') (k' : Nat) (vs : Nat → Vals) :
    createThrough cfg s' k' id vs = createThrough cfg (purge s' id) k' id vs := by
  rw [purge_of_noTrace (delete_no_trace_reachable hr h0 hs hd)]

/-- at depth 3 the re-creation meets G's stale unique entry: duplicate-value error -/
theorem grandchild_recreate_meets_stale_entry : ¬ recreate_fresh_fullStatement := by
  intro h
  have e := h cfg3 s3 s3d 0 [97] 2 vs3 (by decide +kernel) (by decide +kernel) rfl
  have : okB (createThrough cfg3 s3d 2 [97] vs3) = okB (createThrough cfg3 (purge s3d [97]) 2 [97] vs3) := by rw [e]
  revert this; decide +kernel

end DepthSection

end StorageModel.Properties.C06

#print axioms StorageModel.Properties.C06.inv_reachable
#print axioms StorageModel.Properties.C06.absent_no_trace
#print axioms StorageModel.Properties.C06.cascade_no_trace
#print axioms StorageModel.Properties.C06.boss_cascade_no_trace
#print axioms StorageModel.Properties.C06.tx_removed_no_trace
#print axioms StorageModel.Properties.C06.delete_terminates
#print axioms StorageModel.Properties.C06.restrict_refuses
#print axioms StorageModel.Properties.C06.no_fk_names_absent
#print axioms StorageModel.Properties.C06.recreate_fresh
#print axioms StorageModel.Properties.C06.recreate_as_if_never_existed
#print axioms StorageModel.Properties.C06.alias_index_key_is_stored_bytes
#print axioms StorageModel.Properties.C06.code_index_key_is_stored_bytes
