import StorageModel.Query.BoltProofs
import StorageModel.Query.Resolve
import StorageModel.Query.TreeQueries
import StorageModel.Query.ObjectzTime
import StorageModel.Query.ObjectzHistory
import StorageModel.Generated.PagingFacts
import StorageModel.Generated.ObjectzStore
/-
  C19 — In-memory object store answers queries like the bolt-backed store.

  "Querying an in-memory object store with a filter, sort, skip and limit returns exactly the
  objects, order and total count that the same query returns from a bolt-backed store holding the
  same field values - including null handling (`= null`, `!= null`), the default id ordering and
  every paging boundary (skip without limit, negative skip, limit none, limit 0, skip past the
  end)."

  Model: Query/Objectz.lean (typed nil pointers inside the interface; `memSortingScanner.Scan` = the bounded-tree scheme
  of Query/Paging.lean run with objectz's own paging arithmetic `Generated.objectzPaging`).  Spec: `page` / `total` of
  the rows that satisfy the filter (Query/Spec.lean, Query/Filter.lean `sat`).

  Values: no exclusion — NaN float keys included (the float64 comparators order NaN first since 1532996).

  Filters: the fragment of Query/Filter.lean over non-set symbols (`FilterTyped`); the whole filter
  language is C01's subject.
-/
namespace StorageModel.Properties.C19
open StorageModel StorageModel.Query

/-- Obligation on regenerated data: objectz's `setPaging`, `maxResults` and eviction test have the
    expected shape (objectz/object_store.go). -/
theorem objectz_paging_facts_expected : Generated.objectzPaging = expectedPaging := by decide

theorem boltz_paging_facts_expected : Generated.boltzPaging = expectedPaging := by decide

/-- every object is well typed for the store's symbols (a symbol function of type T returns a *T) -/
def WellTypedObjs (st : ObjStore) (objs : List Row) : Prop :=
  ∀ r ∈ objs, ∀ n, (∃ t, st.symbols.lookup n = some t) → WellTypedAt st.symbols r n

theorem filterTyped_symbol {symbols : List (String × SymType)} {f : Filter} (h : FilterTyped symbols f) {n : String}
    (hn : n ∈ f.symbols) : ∃ t, symbols.lookup n = some t := by
  induction f with
  | tt => simp [Filter.symbols] at hn
  | cmpBool m _ _ | cmpInt m _ _ | cmpFloat m _ _ | cmpStr m _ _ | cmpTime m _ _ =>
    simp only [Filter.symbols, List.mem_singleton] at hn; subst hn; exact ⟨_, h⟩
  | isNull m | notNull m =>
    simp only [Filter.symbols, List.mem_singleton] at hn; subst hn
    obtain ⟨t, ht, _⟩ := h; exact ⟨t, ht⟩
  | and a b iha ihb | or a b iha ihb =>
    simp only [Filter.symbols, List.mem_append] at hn
    rcases hn with hn | hn
    · exact iha h.1 hn
    · exact ihb h.2 hn
  | not a iha => exact iha h hn

/-- **null handling**: on well-typed objects the object cursor decides every filter of the fragment
    — `= null` and `!= null` included, under any nesting of `and` / `or` / `not` — exactly as the
    specification does. -/
theorem objectz_filter_exact (st : ObjStore) (objs : List Row) (f : Filter) (hf : FilterTyped st.symbols f)
    (hw : WellTypedObjs st objs) : ∀ r ∈ objs, evalFilter (objSymbols st r) f = sat r f := by
  intro r hr
  exact (obj_eval_eq_bolt st r (evalFilter_typedLocal st.symbols f hf) fun n hn => hw r hr n (filterTyped_symbol hf hn)).trans
    (bolt_eval_sat r f)

theorem objStore_hasId {st : ObjStore} (h : st.symbols.lookup "id" = some .string) : HasIdSymbol st.schema := by
  rw [HasIdSymbol, ObjStore.schema_lookup, h]; rfl

theorem objectz_exact_pred (st : ObjStore) (objs : List Row) (ev : Symbols → Bool) (spec : Row → Bool)
    (sort : List SortField) (paging : Paging) (c : Cmp Row)
    (ho : st.objs = some objs) (hd : DistinctIds objs) (hid : st.symbols.lookup "id" = some .string)
    (hc : newRowComparator st.schema sort = .ok c)
    (hev : ∀ r ∈ objs, ev (objSymbols st r) = spec r)
    (hq : paging.InRange) (hlen : (objs.length : Int) ≤ maxI64) :
    objQueryP Generated.objectzPaging st ev sort paging =
      .ok (page c paging.skip paging.limit (objs.filter spec), total (objs.filter spec)) := by
  have hm : matching ({ pred := fun r => ev (objSymbols st r) } : ScanEnv Row) objs = objs.filter spec :=
    List.filter_congr fun r hr => by simp only [ScanEnv.admits, Bool.not_false, Bool.true_and]; exact hev r hr
  simp only [objQueryP, hc, ho]
  rw [objectz_paging_facts_expected, sortScan_rows_exact (objStore_hasId hid) hc hd _ _ hq hlen, hm]

/-- **objectz_exact.**  `QueryEntitiesC` returns the page of the objects that satisfy the filter,
    in the requested order (nulls first ascending, ties by id), and their total number — for every
    collection with distinct ids, in whatever order the iterator yields it, and every skip / limit. -/
theorem objectz_exact (st : ObjStore) (objs : List Row) (q : Query) (c : Cmp Row)
    (ho : st.objs = some objs) (hd : DistinctIds objs) (hid : st.symbols.lookup "id" = some .string)
    (hc : newRowComparator st.schema q.sort = .ok c)
    (hf : FilterTyped st.symbols q.filter) (hw : WellTypedObjs st objs)
    (hq : q.paging.InRange) (hlen : (objs.length : Int) ≤ maxI64) :
    objQuery Generated.objectzPaging st q =
      .ok (page c q.paging.skip q.paging.limit (objs.filter fun r => sat r q.filter),
           total (objs.filter fun r => sat r q.filter)) := by
  rw [objQuery_eq_P]
  exact objectz_exact_pred st objs _ (fun r => sat r q.filter) q.sort q.paging c ho hd hid hc
    (objectz_filter_exact st objs q.filter hf hw) hq hlen

theorem page_filter_perm {c : Cmp Row} {xs ys : List Row} (hc : StrictTotalOn (fun r => r ∈ ys) c) (h : xs.Perm ys)
    (hnd : ys.Nodup) (spec : Row → Bool) (skip limit : Option Int) :
    (page c skip limit (xs.filter spec), total (xs.filter spec)) =
      (page c skip limit (ys.filter spec), total (ys.filter spec)) := by
  have hP : ∀ a ∈ ys.filter spec, a ∈ ys := fun a ha => (List.mem_filter.1 ha).1
  have hf := h.filter spec
  have hndf : (ys.filter spec).Nodup := hnd.sublist List.filter_sublist
  have hs : sort c (xs.filter spec) = sort c (ys.filter spec) :=
    sort_unique hc hP ((sort_perm c _).trans hf) (sort_sorted hc (fun a ha => hP a (hf.subset ha)) (hf.symm.nodup hndf))
  simp only [page, hs, total, hf.length_eq]

theorem bolt_exact_pred (bst : BoltStore) (rows : List Row) (ev : Symbols → Bool)
    (sort : List SortField) (paging : Paging) (c : Cmp Row)
    (hb : bst.bucket = some rows) (hroot : ∀ r, bst.childSkip r = false) (hord : BucketOrdered rows)
    (hidb : HasIdSymbol bst.schema) (hcb : newRowComparator bst.schema sort = .ok c)
    (hq : paging.InRange) (hlen : (rows.length : Int) ≤ maxI64) :
    queryIdsCP Generated.boltzPaging bst ev sort paging =
      .ok (page c paging.skip paging.limit (rows.filter fun r => ev (boltSymbols r)),
           total (rows.filter fun r => ev (boltSymbols r))) := by
  have hm : matching (bst.envP ev) rows = rows.filter fun r => ev (boltSymbols r) :=
    List.filter_congr fun r _ => by simp only [BoltStore.envP, ScanEnv.admits, hroot, Bool.not_false, Bool.true_and]
  rw [boltz_paging_facts_expected, queryIdsCP, hb, ← hm]
  exact scanCursorP_exact bst ev paging hord hidb hcb hq hlen

/-- **objectz_eq_bolt, for the whole class of filters over non-set symbols.**  Let `ev` be the
    evaluation of any filter node whose value depends on the `ast.Symbols` only through the typed
    views of the symbols in `N` (`TypedLocal`: every node built from typed symbol nodes, constants,
    comparisons, `in`, `between`, `contains`, …, `and` / `or` / `not` — everything except set
    functions, which open set cursors).  Then an object store and a bolt store holding the same rows
    (the object store in any iteration order), declaring the symbols of `N` and of the sort list
    alike, with the objects well typed at `N`, answer identically: same objects, same order, same
    count — whichever scanner the bolt store uses. -/
theorem objectz_eq_bolt_any_filter (ost : ObjStore) (bst : BoltStore) (objs rows : List Row)
    (ev : Symbols → Bool) (N : List String) (sort : List SortField) (paging : Paging) (c : Cmp Row)
    (ho : ost.objs = some objs) (hb : bst.bucket = some rows) (hperm : objs.Perm rows)
    (hroot : ∀ r, bst.childSkip r = false)
    (hord : BucketOrdered rows) (hid : ost.symbols.lookup "id" = some .string)
    (hschema : ∀ f ∈ sort ++ [⟨"id", true⟩], bst.schema.lookup f.name = ost.schema.lookup f.name)
    (hc : newRowComparator ost.schema sort = .ok c)
    (hloc : TypedLocal ost.symbols N ev) (hw : ∀ r ∈ objs, ∀ n ∈ N, WellTypedAt ost.symbols r n)
    (hq : paging.InRange) (hlen : (rows.length : Int) ≤ maxI64) :
    objQueryP Generated.objectzPaging ost ev sort paging =
      (match queryIdsCP Generated.boltzPaging bst ev sort paging with
       | .ok r => .ok r
       | .error e => .err e) := by
  have hd : DistinctIds objs := hord.distinct.perm hperm
  have hcb : newRowComparator bst.schema sort = .ok c := by
    rw [← hc]; unfold newRowComparator; rw [resolveSort_congr hschema]
  have hidb : HasIdSymbol bst.schema := by
    have := objStore_hasId hid
    unfold HasIdSymbol at *
    rw [hschema ⟨"id", true⟩ (by simp)]; exact this
  -- both stores decide the filter as the bolt row cursor does
  rw [objectz_exact_pred ost objs ev (fun r => ev (boltSymbols r)) sort paging c ho hd hid hc
    (fun r hr => obj_eval_eq_bolt ost r hloc (hw r hr)) hq (by rw [hperm.length_eq]; exact hlen)]
  rw [bolt_exact_pred bst rows ev sort paging c hb hroot hord hidb hcb hq hlen]
  rw [page_filter_perm (newRowComparator_strict hidb hcb hord.distinct) hperm hord.distinct.nodup]

/-- **objectz_eq_bolt** for the fragment of Query/Filter.lean (comparisons, `= null`, `!= null`, any
    nesting of `and` / `or` / `not`): an instance of `objectz_eq_bolt_any_filter`. -/
theorem objectz_eq_bolt (ost : ObjStore) (bst : BoltStore) (objs rows : List Row) (q : Query) (c : Cmp Row)
    (ho : ost.objs = some objs) (hb : bst.bucket = some rows) (hperm : objs.Perm rows)
    (hroot : ∀ r, bst.childSkip r = false)
    (hord : BucketOrdered rows) (hid : ost.symbols.lookup "id" = some .string)
    (hschema : ∀ f ∈ q.sort ++ [⟨"id", true⟩], bst.schema.lookup f.name = ost.schema.lookup f.name)
    (hc : newRowComparator ost.schema q.sort = .ok c)
    (hf : FilterTyped ost.symbols q.filter) (hw : WellTypedObjs ost objs)
    (hq : q.paging.InRange) (hlen : (rows.length : Int) ≤ maxI64) :
    objQuery Generated.objectzPaging ost q =
      (match queryIdsC Generated.boltzPaging bst q with
       | .ok r => .ok r
       | .error e => .err e) := by
  rw [objQuery_eq_P, queryIdsC_eq_P]
  exact objectz_eq_bolt_any_filter ost bst objs rows _ q.filter.symbols q.sort q.paging c ho hb hperm hroot hord hid
    hschema hc (evalFilter_typedLocal ost.symbols q.filter hf)
    (fun r hr n hn => hw r hr n (filterTyped_symbol hf hn)) hq hlen

/-- the iteration order of the object store (e.g. Go map order in `IterateMap`) is irrelevant -/
theorem objectz_order_independent (st : ObjStore) (objs objs' : List Row) (q : Query) (c : Cmp Row)
    (hperm : objs'.Perm objs) (hd : DistinctIds objs) (hid : st.symbols.lookup "id" = some .string)
    (hc : newRowComparator st.schema q.sort = .ok c)
    (hf : FilterTyped st.symbols q.filter) (hw : WellTypedObjs st objs)
    (hq : q.paging.InRange) (hlen : (objs.length : Int) ≤ maxI64) :
    objQuery Generated.objectzPaging { st with objs := some objs' } q =
      objQuery Generated.objectzPaging { st with objs := some objs } q := by
  have hd' : DistinctIds objs' := hd.perm hperm
  have hw' : WellTypedObjs { st with objs := some objs' } objs' := fun r hr => hw r (hperm.subset hr)
  rw [objectz_exact { st with objs := some objs' } objs' q c rfl hd' hid hc hf hw' hq
      (by rw [hperm.length_eq]; exact hlen),
    objectz_exact { st with objs := some objs } objs q c rfl hd hid hc hf hw hq hlen]
  rw [page_filter_perm (newRowComparator_strict (objStore_hasId hid) hc hd) hperm hd.nodup]

/-- **an object store must declare `id`**: `newRowComparator` appends `id asc` to every sort list, so
    without an `id` symbol every query — whatever its filter, sort, skip, limit — fails with "no such
    sort field" once the requested sort fields resolved (a bolt store always has its id symbol). -/
theorem objectz_needs_id (pf : PagingFacts) (st : ObjStore) (q : Query) (hid : st.symbols.lookup "id" = none)
    (hs : ∀ f ∈ q.sort, fieldErr st.schema f = none) :
    objQuery pf st q = .err .noSuchField := by
  have hl : st.schema.lookup "id" = none := by rw [ObjStore.schema_lookup, hid]; rfl
  have he : newRowComparator st.schema q.sort = .error .noSuchField := by
    rw [newRowComparator_error_iff]
    exact ⟨q.sort, ⟨"id", true⟩, [], rfl, hs, by simp [fieldErr, hl]⟩
  simp only [objQuery, he]

def exSymbols : List (String × SymType) := [("id", .string), ("s", .string), ("i", .int64)]
def exObjs : List Row :=
  [⟨[99], [("s", .string [120]), ("i", .int64 5)]⟩,
   ⟨[97], [("s", .nil), ("i", .nil)]⟩,
   ⟨[98], [("s", .string []), ("i", .int32 5)]⟩]
def exStore : ObjStore := ⟨exSymbols, some exObjs⟩

def ids : ObjOutcome (List Row × Int) → Option (List Bytes × Int)
  | .ok r => some (r.1.map (·.id), r.2)
  | _ => none

/-- `s = null sort by i desc`: only the object whose `s` function returns a nil *string matches -/
example : ids (objQuery expectedPaging exStore ⟨.isNull "s", [⟨"i", false⟩], ⟨none, none⟩⟩) = some ([[97]], 1) := by decide
/-- `s != null skip 1`: "" is not null; default order is id ascending -/
example : ids (objQuery expectedPaging exStore ⟨.notNull "s", [], ⟨some 1, none⟩⟩) = some ([[99]], 2) := by decide

example : DistinctIds exObjs ∧ WellTypedObjs exStore exObjs ∧ FilterTyped exSymbols (.isNull "s") := by
  refine ⟨by unfold DistinctIds; decide, ?_, ⟨.string, by decide, by decide⟩⟩
  intro r hr n ⟨t, ht⟩
  simp only [exObjs, List.mem_cons, List.mem_nil_iff, or_false] at hr
  -- a declared symbol is one of the three; each of the nine (object, symbol) pairs by evaluation
  by_cases h1 : n = "id"
  · subst h1; rcases hr with rfl | rfl | rfl <;> exact trivial
  by_cases h2 : n = "s"
  · subst h2; rcases hr with rfl | rfl | rfl <;> exact trivial
  by_cases h3 : n = "i"
  · subst h3; rcases hr with rfl | rfl | rfl <;> exact trivial
  simp [exStore, exSymbols, List.lookup, beq_eq_false_iff_ne.2 h1, beq_eq_false_iff_ne.2 h2, beq_eq_false_iff_ne.2 h3] at ht

/-- the `IsNil` before 83c62e4 compared the interface itself with nil: a nil *string inside the
    interface was "not nil", so `= null` matched nothing -/
theorem pinned_isnil_violates :
    ifaceIsNilPinned (.stringPtr none) = false ∧ ifaceIsNil (.stringPtr none) = true := by decide

/-- an object store whose iterator function returns nil holds nothing: every query whose sort list
    resolves is answered with no objects and count 0 (the nil test precedes the first use of the
    iterator since bbcb51c) -/
theorem objectz_nil_iterator_empty (pf : PagingFacts) (st : ObjStore) (q : Query) (c : Cmp Row)
    (ho : st.objs = none) (hc : newRowComparator st.schema q.sort = .ok c) :
    objQuery pf st q = .ok ([], 0) := by
  simp only [objQuery, hc, ho]

/-- **set functions are outside the class, and both stores say so**: a set function (`anyOf`, `allOf`,
    `count`, `isEmpty`) applied to a non-set or unknown symbol is rejected by `ast.Parse` against the
    bolt store and against the object store (whose `IsSet` answers `(false, true)` for every name) -/
theorem set_function_on_non_set_rejected (schema : Schema) (name : String)
    (h : ∀ info, schema.lookup name = some info → info.isSet = false) :
    setFunctionAccepted (boltIsSet schema name) = false ∧ setFunctionAccepted (objIsSet name) = false :=
  set_function_rejected schema name h

/-! ### a NaN sort key (repaired in 1532996)

Before 1532996 `*s1 < *s2` and `*s1 > *s2` being both false made the float64 comparator tie NaN with
every number; the row comparator was then not transitive (2.0 < NaN < 1.0 < 2.0 through the id
tie-break) and the llrb tree — `Query/Llrb.lean`, the port of the code's tree — gave a result that
depended on the insertion order: the bolt store inserts in id order, the object store in its
iterator's order.  Since 1532996 NaN sorts before every number in both comparators, `objectz_eq_bolt*` carry no
exclusion of values, and the examples below keep the behaviour before it on record. -/

theorem objectz_float_comparator_facts_expected : Generated.objectzFloatCmp = expectedFloatCmp := by decide
theorem boltz_float_comparator_facts_expected : Generated.boltzFloatCmp = expectedFloatCmp := by decide

def nanSyms : List (String × SymType) := [("id", .string), ("f", .float64)]
/-- a: 2.0, b: NaN, c: 1.0 -/
def nanRows : List Row :=
  [⟨[97], [("f", .float64 0x4000000000000000 [])]⟩, ⟨[98], [("f", .float64 0x7ff8000000000001 [])]⟩,
   ⟨[99], [("f", .float64 0x3ff0000000000000 [])]⟩]
def nanBolt : BoltStore := { schema := nanSyms.map fun (n, t) => (n, ⟨t, false⟩), bucket := some nanRows }
def nanQuery (limit : Option Int) : Query := ⟨.tt, [⟨"f", true⟩], ⟨none, limit⟩⟩

def boltIds : Except SortErr (List Row × Int) → Option (List Bytes × Int)
  | .ok r => some (r.1.map (·.id), r.2)
  | .error _ => none

/-- `sort by f` with the comparator of the code as it is: NaN first, whatever the order of arrival, in
    the list model of the theorems and in the llrb port alike -/
example :
    boltIds (queryIdsC expectedPaging nanBolt (nanQuery none)) = some ([[98], [99], [97]], 3) ∧
    boltIds (queryIdsCT expectedPaging nanBolt (nanQuery none)) = some ([[98], [99], [97]], 3) ∧
    ids (objQueryT expectedPaging ⟨nanSyms, some nanRows.reverse⟩ (nanQuery none)) = some ([[98], [99], [97]], 3) ∧
    ids (objQuery expectedPaging ⟨nanSyms, some nanRows.reverse⟩ (nanQuery (some 2))) = some ([[98], [99]], 3) ∧
    boltIds (queryIdsC expectedPaging nanBolt (nanQuery (some 2))) = some ([[98], [99]], 3) := by decide +kernel

/-- the row comparator `sort by f` had BEFORE 1532996: float comparison without the NaN branch, then id -/
def preFixCmp : Cmp Row :=
  chain [fun a b => nullsFirst (cmpFloatValWith false) (fieldToFloat64 (evalSym "f" a)) (fieldToFloat64 (evalSym "f" b)),
         symCmp .string "id" true]

def scanIds (r : List Row × Int) : List Bytes × Int := (r.1.map (·.id), r.2)

/-- **the counter-example of the repaired finding `nan-sort-key`** (on the llrb port run with the pre-fix comparator): the
    same three rows reach the result tree in id order (bolt) or in reverse (an object store iterating
    c, b, a) — different order, and with `limit 2` different objects -/
example :
    scanIds (sortScanT expectedPaging preFixCmp { pred := fun _ => true } ⟨none, none⟩ (some nanRows)) = ([[97], [98], [99]], 3) ∧
    scanIds (sortScanT expectedPaging preFixCmp { pred := fun _ => true } ⟨none, none⟩ (some nanRows.reverse)) = ([[98], [99], [97]], 3) ∧
    scanIds (sortScanT expectedPaging preFixCmp { pred := fun _ => true } ⟨none, some 2⟩ (some nanRows)) = ([[97], [98]], 3) ∧
    scanIds (sortScanT expectedPaging preFixCmp { pred := fun _ => true } ⟨none, some 2⟩ (some nanRows.reverse)) = ([[98], [99]], 3) := by
  decide +kernel

/-! ### datetime fields are `time.Time` values

An object's datetime symbol returns a `*time.Time`: the instant plus a `*Location` and possibly a monotonic clock
reading (`Query/ObjectzTime.lean`).  The bolt store keeps the instant.  The theorems above speak about objects given
by their field values; the two below extend them to objects holding arbitrary representations of those instants. -/

/-- **the representation of a datetime value is invisible to a query**: over objects whose datetime fields are
    `time.Time` values in any location, with or without monotonic reading, `QueryEntitiesC` returns exactly (objects,
    order, count, error) what it returns over the bare field values — every filter node, sort list, skip, limit,
    iteration order.  `MonoConsistent`: two monotonic readings order like their instants. -/
theorem objectz_time_representation_irrelevant (symbols : List (String × SymType)) (objs : List TObj)
    (ev : Symbols → Bool) (sort : List SortField) (paging : Paging) (hm : MonoConsistent objs) :
    (objQueryTP Generated.objectzPaging symbols (some objs) ev sort paging).mapRows (·.row) =
      objQueryP Generated.objectzPaging ⟨symbols, some (objs.map (·.row))⟩ ev sort paging :=
  objQueryTP_map_row _ symbols objs ev sort paging hm

/-- **objectz_eq_bolt over `time.Time`-holding objects**: `objectz_eq_bolt_any_filter` with the object store holding, for
    every datetime field, any `time.Time` value denoting the instant the bolt store holds. -/
theorem objectz_eq_bolt_time_values (symbols : List (String × SymType)) (bst : BoltStore) (objs : List TObj) (rows : List Row)
    (ev : Symbols → Bool) (N : List String) (sort : List SortField) (paging : Paging) (c : Cmp Row)
    (hm : MonoConsistent objs)
    (hb : bst.bucket = some rows) (hperm : (objs.map (·.row)).Perm rows)
    (hroot : ∀ r, bst.childSkip r = false)
    (hord : BucketOrdered rows) (hid : symbols.lookup "id" = some .string)
    (hschema : ∀ f ∈ sort ++ [⟨"id", true⟩], bst.schema.lookup f.name = (ObjStore.schema ⟨symbols, none⟩).lookup f.name)
    (hc : newRowComparator (ObjStore.schema ⟨symbols, none⟩) sort = .ok c)
    (hloc : TypedLocal symbols N ev) (hw : ∀ o ∈ objs, ∀ n ∈ N, WellTypedAt symbols o.row n)
    (hq : paging.InRange) (hlen : (rows.length : Int) ≤ maxI64) :
    (objQueryTP Generated.objectzPaging symbols (some objs) ev sort paging).mapRows (·.row) =
      (match queryIdsCP Generated.boltzPaging bst ev sort paging with
       | .ok r => .ok r
       | .error e => .err e) := by
  -- `rw`, not `exact`: this statement's `match` and that of `objectz_eq_bolt_any_filter` are different auxiliary
  -- functions, and unifying them on the open scrutinee makes Lean unfold `queryIdsCP`
  rw [objectz_time_representation_irrelevant symbols objs ev sort paging hm,
    objectz_eq_bolt_any_filter ⟨symbols, some (objs.map (·.row))⟩ bst (objs.map (·.row)) rows ev N sort paging c rfl hb hperm
      hroot hord hid hschema hc hloc
      (fun r hr n hn => by
        obtain ⟨o, ho, rfl⟩ := List.mem_map.1 hr
        exact hw o ho n hn) hq hlen]

def timeSyms : List (String × SymType) := [("id", .string), ("t", .datetime)]
def tRow (id : UInt8) (ns : Int) : Row := ⟨[id], [("t", .time ns)]⟩
/-- a: 12:00 UTC, b: the same instant in a FixedZone, c: the same instant as `time.Now()` gave it (Local + monotonic
    reading), d: one hour later (also with a reading) -/
def timeObjs : List TObj :=
  [⟨tRow 97 1000, fun _ => {}⟩, ⟨tRow 98 1000, fun _ => { loc := 1 }⟩,
   ⟨tRow 99 1000, fun _ => { loc := 4, mono := some 50 }⟩, ⟨tRow 100 4600, fun _ => { loc := 4, mono := some 3650 }⟩]

def tIds : ObjOutcome (List TObj × Int) → Option (List Bytes × Int)
  | .ok r => some (r.1.map (·.row.id), r.2)
  | _ => none

/-- non-vacuity of `MonoConsistent` on a collection mixing all representations -/
example : MonoConsistent timeObjs := by
  -- all monotonic readings come from one clock: reading = instant - 950
  have hrow : ∀ (i : UInt8) (ns v : Int) (n : String), fieldToDatetime (evalSym n (tRow i ns)) = some v → v = ns := by
    intro i ns v n h
    unfold evalSym at h
    split at h
    · cases h
    · simp only [tRow, Row.get, List.lookup] at h
      split at h
      · exact (Option.some.inj h).symm
      · cases h
  have key : ∀ o ∈ timeObjs, ∀ n t x, objTime n o = some t → t.mono = some x → x = t.ns - 950 := by
    intro o ho n t x ht hx
    simp only [timeObjs, List.mem_cons, List.mem_nil_iff, or_false] at ho
    obtain ⟨v, hv, rfl⟩ := Option.map_eq_some_iff.1 ht
    rcases ho with rfl | rfl | rfl | rfl <;> cases hrow _ _ _ _ hv <;> simp at hx ⊢ <;> omega
  intro a ha b hb n t u hta hub x y hx hy
  have := key a ha n t x hta hx
  have := key b hb n u y hub hy
  omega
/-- `sort by t` and `sort by t desc limit 2`: the three representations of one instant tie and fall through to the id,
    whatever the iteration order (list model and llrb port) -/
example :
    tIds (objQueryTP expectedPaging timeSyms (some timeObjs.reverse) (fun _ => true) [⟨"t", true⟩] ⟨none, none⟩)
      = some ([[97], [98], [99], [100]], 4) ∧
    tIds (objQueryTPT expectedPaging timeSyms (some timeObjs.reverse) (fun _ => true) [⟨"t", true⟩] ⟨none, none⟩)
      = some ([[97], [98], [99], [100]], 4) ∧
    tIds (objQueryTPT expectedPaging timeSyms (some timeObjs.reverse) (fun _ => true) [⟨"t", false⟩] ⟨none, some 2⟩)
      = some ([[100], [97]], 4) := by decide +kernel

/-- **what deciding the tie with Go's `==` on the struct would do** (`*s1 != *s2` and a single `Before`): equal instants
    in different representations compare "greater" both ways, the id tie-break is never consulted, and the answer depends
    on the iteration order (llrb port): `sort by t` over a, b, c, d is right when the iterator yields them in id order and
    c, b, a, d when it yields them backwards; with `limit 1` a different object is on the page. -/
example :
    objCmpTimeValStructEq ⟨1000, none, 0⟩ ⟨1000, none, 1⟩ = .gt ∧ objCmpTimeValStructEq ⟨1000, none, 1⟩ ⟨1000, none, 0⟩ = .gt ∧
    tIds (objQueryTPW objCmpTimeValStructEq (sortScanT expectedPaging) timeSyms (some timeObjs) (fun _ => true)
      [⟨"t", true⟩] ⟨none, none⟩) = some ([[97], [98], [99], [100]], 4) ∧
    tIds (objQueryTPW objCmpTimeValStructEq (sortScanT expectedPaging) timeSyms (some timeObjs.reverse) (fun _ => true)
      [⟨"t", true⟩] ⟨none, none⟩) = some ([[99], [98], [97], [100]], 4) ∧
    tIds (objQueryTPW objCmpTimeValStructEq (sortScanT expectedPaging) timeSyms (some timeObjs.reverse) (fun _ => true)
      [⟨"t", true⟩] ⟨none, some 1⟩) = some ([[99]], 4) := by decide +kernel

/-! ### histories of calls on one store object

`Query/ObjectzHistory.lean`: the `ObjectStore` object, the bolt store, the collection behind them, and the parsed query
objects a caller keeps, over any sequence of calls — `QueryEntities(text)` / `QueryIds(tx, text)`, `ast.Parse` into a kept
object, `QueryEntitiesC(q)` / `QueryIdsC(tx, q)` with that object (on either store, in any interleaving), `SetSkip` /
`SetLimit` on it, and changes of the collection. -/

/-- Obligation on regenerated data: an `ObjectStore` has exactly the fields `symbols` and `iteratorF`, package objectz has
    no package-level variable, no function outside the set-up (`NewObjectStore`, `Add…Symbol`) writes to (or calls a method
    on) a store field, and `QueryEntities` / `QueryEntitiesC` are "parse, then a fresh scanner".  This is what entitles the
    history model to carry no state of the store object from one call to the next. -/
theorem objectz_store_facts_expected : Generated.objectzStore = expectedObjStore := by decide

/-- **history_independent.**  For EVERY history of calls on one object store / one bolt store — any length, any
    interleaving of the two stores and of several object stores over one collection, query objects reused across calls
    and across stores, skip / limit changed in between, the collection changed in between — and for every way `parse` of
    turning texts into query objects: each answer is the stand-alone answer of that call, i.e. what stores that have never
    been used answer for the call's own request (its own text; for a kept object: the text parsed into it and the skip /
    limit the caller set last) on the collection as it is at that moment.  Earlier calls, earlier texts, and the paging
    defaults earlier executions wrote into a kept object leave no trace. -/
theorem history_independent {Text : Type} (parse : Text → Option CQuery) (W : HStores) (st : HState) (calls : List (Call Text)) :
    history parse Generated.objectzPaging Generated.boltzPaging W st calls =
      objSpecHistory parse Generated.objectzPaging Generated.boltzPaging W st calls := by
  rw [objectz_paging_facts_expected, boltz_paging_facts_expected]
  exact history_eq_spec parse W calls st st (stateAgrees_refl st)

/-- one stand-alone execution: the object store answers what the bolt store answers (`objectz_eq_bolt_any_filter`) -/
theorem standAlone_objectz_eq_bolt (W : HStores) (st : HState) (k : Nat) (q : CQuery) (h : GoodExec W st k q) :
    standAlone Generated.objectzPaging Generated.boltzPaging W st.objs st.bucket (.obj k) q =
      (standAlone Generated.objectzPaging Generated.boltzPaging W st.objs st.bucket .bolt q).norm := by
  obtain ⟨objs, rows, N, c, ho, hb, hperm, hord, hid, hschema, hc, hloc, hw, hq, hlen⟩ := h
  simp only [standAlone, runOn, Answer.norm, liftBolt]
  congr 1
  exact objectz_eq_bolt_any_filter (W.ostore k st.objs) (W.bstore st.bucket) objs rows q.ev N q.sort q.paging c
    (by simp only [HStores.ostore, ho]) (by simp only [HStores.bstore, hb]) hperm (fun _ => rfl) hord hid hschema hc hloc hw hq hlen

/-- one stand-alone execution answers the page of the objects that satisfy the predicate, in the requested order, and
    their number (`objectz_exact_pred`) -/
theorem standAlone_objectz_exact (W : HStores) (st : HState) (k : Nat) (q : CQuery) (h : GoodExec W st k q) :
    ∃ (objs : List Row) (c : Cmp Row), st.objs = some objs ∧ newRowComparator (W.ostore k st.objs).schema q.sort = .ok c ∧
      standAlone Generated.objectzPaging Generated.boltzPaging W st.objs st.bucket (.obj k) q =
        .obj (.ok (page c q.paging.skip q.paging.limit (objs.filter fun r => q.ev (boltSymbols r)),
                   total (objs.filter fun r => q.ev (boltSymbols r)))) := by
  obtain ⟨objs, rows, N, c, ho, hb, hperm, hord, hid, hschema, hc, hloc, hw, hq, hlen⟩ := h
  refine ⟨objs, c, ho, hc, ?_⟩
  have hd : DistinctIds objs := hord.distinct.perm hperm
  simp only [standAlone, runOn]
  congr 1
  exact objectz_exact_pred (W.ostore k st.objs) objs q.ev (fun r => q.ev (boltSymbols r)) q.sort q.paging c
    (by simp only [HStores.ostore, ho]) hd hid hc
    (fun r hr => obj_eval_eq_bolt (W.ostore k st.objs) r hloc (hw r hr)) hq
    (by rw [hperm.length_eq]; exact hlen)

theorem standAlone_norm (W : HStores) (st : HState) (t : StoreRef) (q : CQuery) (h : ∀ k, t = .obj k → GoodExec W st k q) :
    (standAlone Generated.objectzPaging Generated.boltzPaging W st.objs st.bucket t q).norm =
      (standAlone Generated.objectzPaging Generated.boltzPaging W st.objs st.bucket .bolt q).norm := by
  cases t with
  | bolt => rfl
  | obj k =>
    rw [standAlone_objectz_eq_bolt W st k q (h k rfl)]
    cases standAlone Generated.objectzPaging Generated.boltzPaging W st.objs st.bucket .bolt q <;> rfl

/-- **objectz = bolt, over histories.**  Take any history in which every execution on an object store happens under the
    hypotheses of `objectz_eq_bolt_any_filter` (for the collection and the request as they stand at that call), and send
    every query of it to the bolt store instead: the two histories give the same answers, position by position — same
    objects, same order, same count, same error. -/
theorem history_objectz_eq_bolt {Text : Type} (parse : Text → Option CQuery) (W : HStores) (st : HState) (calls : List (Call Text))
    (hg : GoodFrom parse Generated.objectzPaging Generated.boltzPaging W st calls) :
    (history parse Generated.objectzPaging Generated.boltzPaging W st calls).map Answer.norm =
      (history parse Generated.objectzPaging Generated.boltzPaging W st (calls.map Call.toBolt)).map Answer.norm := by
  rw [history_independent, history_independent]
  induction calls generalizing st with
  | nil => rfl
  | cons c cs ih =>
    obtain ⟨hc, hrest⟩ := hg
    simp only [List.map_cons, objSpecHistory]
    rw [specStep_toBolt_state, ih _ hrest]
    congr 1
    cases c with
    | setData o b => rfl
    | parse k s => rfl
    | setSkip k v => rfl
    | setLimit k v => rfl
    | text t s =>
      simp only [Call.toBolt, specStep]
      cases hp : parse s with
      | none => rfl
      | some q => exact standAlone_norm W st t q fun k hk => by subst hk; exact hc q hp
    | exec j t =>
      simp only [Call.toBolt, specStep]
      cases hs : st.slots j with
      | none => rfl
      | some q => exact standAlone_norm W st t q fun k hk => by subst hk; exact hc q hs

/-! non-vacuity: a history over `exStore`'s collection (sorted by id for the bolt store) whose executions are all good -/

def hW : HStores := ⟨fun _ => exSymbols, exSymbols.map fun (n, t) => (n, ⟨t, false⟩)⟩
def hRows : List Row := [⟨[97], [("s", .nil), ("i", .nil)]⟩, ⟨[98], [("s", .string []), ("i", .int32 5)]⟩,
  ⟨[99], [("s", .string [120]), ("i", .int64 5)]⟩]
def hSt : HState := ⟨some exObjs, some hRows, fun _ => none⟩
def hParse (t : Option Int) : Option CQuery := some ⟨fun _ => true, [⟨"i", false⟩], ⟨none, t⟩⟩

theorem hGoodExec (slots : Nat → Option CQuery) (k : Nat) (p : Paging) (hp : p.InRange) :
    GoodExec hW ⟨some exObjs, some hRows, slots⟩ k ⟨fun _ => true, [⟨"i", false⟩], p⟩ := by
  obtain ⟨c, hc⟩ : ∃ c, newRowComparator (hW.ostore k (some exObjs)).schema [⟨"i", false⟩] = .ok c := ⟨_, rfl⟩
  refine ⟨exObjs, hRows, [], c, rfl, rfl, ?_, ?_, rfl, ?_, hc, ?_, ?_, hp, ?_⟩
  · exact List.perm_append_comm (l₁ := [_]) (l₂ := [_, _])
  · unfold BucketOrdered; decide
  · intro f hf
    simp only [List.cons_append, List.nil_append, List.mem_cons, List.mem_nil_iff, or_false] at hf
    rcases hf with rfl | rfl <;> rfl
  · intro _ _ _; rfl
  · intro _ _ n hn; cases hn
  · decide

example : GoodFrom hParse Generated.objectzPaging Generated.boltzPaging hW hSt
    [.text (.obj 0) (some 1), .parse 3 none, .exec 3 (.obj 1), .exec 3 .bolt, .setLimit 3 2, .exec 3 (.obj 0)] := by
  refine ⟨?_, trivial, ?_, trivial, trivial, ?_, trivial⟩
  · intro q hq; cases hq
    exact hGoodExec _ 0 _ (by constructor <;> intro v hv <;> cases hv <;> simp [InI64, minI64, maxI64])
  · intro q hq
    simp only [specStep, hParse, setSlot] at hq
    cases hq
    exact hGoodExec _ 1 _ (by constructor <;> intro v hv <;> cases hv)
  · intro q hq
    simp only [specStep, hParse, setSlot, standAlone, Option.map, withLimit] at hq
    cases hq
    exact hGoodExec _ 0 _ (by constructor <;> intro v hv <;> cases hv <;> simp [InI64, minI64, maxI64])

end StorageModel.Properties.C19

#print axioms StorageModel.Properties.C19.objectz_paging_facts_expected
#print axioms StorageModel.Properties.C19.objectz_filter_exact
#print axioms StorageModel.Properties.C19.objectz_exact
#print axioms StorageModel.Properties.C19.objectz_eq_bolt
#print axioms StorageModel.Properties.C19.objectz_order_independent
#print axioms StorageModel.Properties.C19.pinned_isnil_violates
#print axioms StorageModel.Properties.C19.objectz_eq_bolt_any_filter
#print axioms StorageModel.Properties.C19.objectz_needs_id
#print axioms StorageModel.Properties.C19.objectz_float_comparator_facts_expected
#print axioms StorageModel.Properties.C19.boltz_float_comparator_facts_expected
#print axioms StorageModel.Properties.C19.set_function_on_non_set_rejected
#print axioms StorageModel.Properties.C19.objectz_nil_iterator_empty
#print axioms StorageModel.Properties.C19.objectz_time_representation_irrelevant
#print axioms StorageModel.Properties.C19.objectz_eq_bolt_time_values
#print axioms StorageModel.Properties.C19.objectz_store_facts_expected
#print axioms StorageModel.Properties.C19.history_independent
#print axioms StorageModel.Properties.C19.standAlone_objectz_eq_bolt
#print axioms StorageModel.Properties.C19.standAlone_objectz_exact
#print axioms StorageModel.Properties.C19.history_objectz_eq_bolt
