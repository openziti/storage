import StorageModel.C04.Exact
import StorageModel.C04.SpecProofs
import StorageModel.C04.OldRoute
import StorageModel.C04.MarksProofs
import StorageModel.C04.TierProofs
import StorageModel.C04.GenProofs
import StorageModel.C04.GenInv
/-
  C04 — Foreign keys: targets exist, back-references exact, delete restricts or cascades.

  "An entity can be created or updated to reference another entity only if that target exists (or the
  reference is null and the field is nullable), and after any committed history the target's
  back-reference set equals exactly the set of entities currently referencing it. Deleting a
  referenced entity is either refused with a reference-exists error (restrict) or deletes exactly the
  entities that reference it and nothing else (cascade) - for every possible id value, including ids
  containing quotes, backslashes or filter keywords."

  The model (`StorageModel/C04/Model.lean`) follows boltz/indexes.go and boltz/store_crud.go; it is tied
  to /repo by the correspondence harness (/verif/harness/c04.go).  All theorems quantify over every
  schema variant, every id (any byte string) and every history.

  The model contains two plain CHILD STORES C, C2 of the referring store A (`Op.createC / updateC /
  deleteC`; updates through A of an entity with child data are handed to the child store).  A create through
  a child store over an already existing A entity runs `ProcessAfterUpdate` with `IsCreate = true` AND captured
  old values (remove the old back-reference, write the new one — also when both name the same target), a delete
  of an entity with child data runs A's `ProcessBeforeDelete` constraints once per child store holding data for
  it and once more for A itself (`roundsOf`).  Every theorem below about this model holds for the whole
  operation set, at full strength (no hypothesis about child data).
-/
namespace StorageModel.Properties.C04
open StorageModel StorageModel.C04

/-- **Invariant over all histories**: after any sequence of transactions (committed or rolled back),
    every back-reference set is exact in both directions: `k` is listed under target `t` iff `k`
    exists and its fk field currently holds `t` — the two sets of A's own fk indexes and the set of every
    mentor index DECLARED BY a child store (`mentorOf σ c` is the mentor value child store `c` holds for
    the entity if `c` declares the index, null otherwise). -/
theorem fk_inv_reachable (σ : Schema) (txs : List (List Op)) :
    let s := runHistory σ txs
    (∀ b k, k ∈ (s.things.lookup b).getD [] ↔ ∃ e, s.as.lookup k = some e ∧ evalVal e.owner = b ∧ b ≠ []) ∧
    (∀ a k, k ∈ (s.minions.lookup a).getD [] ↔ ∃ e, s.as.lookup k = some e ∧ evalVal e.boss = a ∧ a ≠ []) ∧
    (∀ c b k, k ∈ ((s.mentees c).lookup b).getD [] ↔
      ∃ e, s.as.lookup k = some e ∧ evalVal (mentorOf σ c e) = b ∧ b ≠ []) ∧
    FullInv σ s := by
  have h : FullInv σ (runHistory σ txs) := full_reachable σ txs
  exact ⟨h.1.things.mem_iff, h.1.minions.mem_iff, fun c => (h.2.men c).mem_iff, h⟩

/-- the same for every single operation (also inside a transaction) -/
theorem fk_inv_step (σ : Schema) (s s' : St) (op : Op) (hF : FullInv σ s) (h : apply σ s op = .ok s') : FullInv σ s' :=
  apply_full op hF h

/-- **Targets exist, null only where nullable** — in every reachable state, for every stored entity, for A's
    fks and for the mentor / guard fks the child stores declare. -/
theorem fk_target_exists (σ : Schema) (txs : List (List Op)) (k : Bytes) (e : EntA)
    (he : (runHistory σ txs).as.lookup k = some e) :
    let s := runHistory σ txs
    (evalVal e.owner ≠ [] → s.bs.contains (evalVal e.owner) = true) ∧
    (evalVal e.boss ≠ [] ∧ s.as.contains (evalVal e.boss) = true) ∧
    (evalVal e.dep ≠ [] → s.bs.contains (evalVal e.dep) = true) ∧
    (σ.depNullable = false → evalVal e.dep ≠ []) ∧
    (∀ c, (evalVal (mentorOf σ c e) ≠ [] → s.bs.contains (evalVal (mentorOf σ c e)) = true) ∧
          (evalVal (guardOf σ c e) ≠ [] → s.bs.contains (evalVal (guardOf σ c e)) = true)) := by
  exact (full_reachable σ txs).targets he

/-- **A write needs its targets**: a Create / Update of an A entity — through A or through a child store —
    that succeeds leaves an entity whose every reference names an entity that exists (for `boss` possibly
    itself), and a null reference only where the field is nullable; this includes the mentor / guard
    references of the fks the child stores declare.  Contrapositive: a reference to a missing target, or a
    null in a non-nullable field, makes the write fail (and a failed operation leaves the state). -/
theorem fk_write_requires_target (σ : Schema) (s s' : St) (op : Op) (id : Bytes) (hF : FullInv σ s)
    (hop : (∃ e, op = .createA id e) ∨ (∃ e mo mb md, op = .updateA id e mo mb md) ∨
           (∃ c e x, op = .createC c id e x) ∨ (∃ c e x mo mb md mt mm mg, op = .updateC c id e x mo mb md mt mm mg))
    (h : apply σ s op = .ok s') :
    ∃ e', s'.as.lookup id = some e' ∧ s'.bs = s.bs ∧
      (evalVal e'.owner ≠ [] → s.bs.contains (evalVal e'.owner) = true) ∧
      (evalVal e'.boss ≠ [] ∧ s'.as.contains (evalVal e'.boss) = true) ∧
      (evalVal e'.dep ≠ [] → s.bs.contains (evalVal e'.dep) = true) ∧
      (σ.depNullable = false → evalVal e'.dep ≠ []) ∧
      (∀ c, (evalVal (mentorOf σ c e') ≠ [] → s.bs.contains (evalVal (mentorOf σ c e')) = true) ∧
            (evalVal (guardOf σ c e') ≠ [] → s.bs.contains (evalVal (guardOf σ c e')) = true)) := by
  suffices key : ∃ e', s'.as.lookup id = some e' ∧ s'.bs = s.bs by
    obtain ⟨e', he, hbs⟩ := key
    have ht := (apply_full op hF h).targets he
    rw [hbs] at ht
    exact ⟨e', he, hbs, ht⟩
  rcases hop with ⟨e, rfl⟩ | ⟨e, mo, mb, md, rfl⟩ | ⟨c, e, x, rfl⟩ | ⟨c, e, x, mo, mb, md, mt, mm, mg, rfl⟩
  · have w := (createA_written h).2; exact ⟨_, w.lookup, w.bs⟩
  · obtain ⟨_, _, w⟩ := updateA_written h; exact ⟨_, w.lookup, w.bs⟩
  · have w := (createC_written h).2; exact ⟨_, w.lookup, w.bs⟩
  · obtain ⟨_, _, _, _, w⟩ := updateC_written h; exact ⟨_, w.lookup, w.bs⟩

/-- **Null is rejected where the field is not nullable** (`boss` always, `dep` in the non-nullable
    variants): the write fails and the state is unchanged — through A and through either child store. -/
theorem null_rejected_when_not_nullable (σ : Schema) (s : St) (id : Bytes) (e : EntA) (hF : FullInv σ s)
    (hnull : evalVal e.boss = [] ∨ (σ.depNullable = false ∧ evalVal e.dep = [])) :
    (∃ err, step σ s (.createA id e) = (s, some err)) ∧
    (∃ err, step σ s (.updateA id e true true true) = (s, some err)) ∧
    (∀ c x, ∃ err, step σ s (.createC c id e x) = (s, some err)) ∧
    (∀ c x mt mm mg, ∃ err, step σ s (.updateC c id e x true true true mt mm mg) = (s, some err)) := by
  have hI := hF.1
  -- the written entity carries `e`'s boss and dep
  have bad : ∀ (op : Op) (s' : St) (e' : EntA), apply σ s op = .ok s' → s'.as.lookup id = some e' →
      e'.boss = e.boss → e'.dep = e.dep → False := by
    intro op s' e' h he' hb hd
    have hI' := apply_inv op hI h
    rcases hnull with hn | ⟨hn1, hn2⟩
    · exact hI'.bossNN id e' he' (show evalVal e'.boss = [] by rw [hb]; exact hn)
    · exact hI'.depNN hn1 id e' he' (show evalVal e'.dep = [] by rw [hd]; exact hn2)
  -- an operation that cannot succeed is refused and (rollback) leaves the state
  have refused : ∀ op : Op, (∀ s', apply σ s op = .ok s' → False) → ∃ err, step σ s op = (s, some err) := by
    intro op hno
    unfold step
    cases h : apply σ s op with
    | error err => exact ⟨err, rfl⟩
    | ok s' => exact (hno s' h).elim
  refine ⟨refused _ fun s' h => ?_, refused _ fun s' h => ?_, fun c x => refused _ fun s' h => ?_,
    fun c x mt mm mg => refused _ fun s' h => ?_⟩
  · exact bad _ s' e.plain h (createA_written h).2.lookup rfl rfl
  · obtain ⟨_, _, w⟩ := updateA_written h
    exact bad _ s' _ h w.lookup rfl rfl
  · exact bad _ s' _ h (createC_written h).2.lookup (createdEnt_fields s c id e x).2.1 (createdEnt_fields s c id e x).2.2.1
  · obtain ⟨_, _, _, _, w⟩ := updateC_written h
    exact bad _ s' _ h w.lookup (setExt_fields _ c _).2.1 (setExt_fields _ c _).2.2.1

/-- the error enum in the plain case: a fresh id, no owner, an empty `boss` — "null-not-allowed" -/
theorem null_boss_enum (σ : Schema) (s : St) (id : Bytes) (e : EntA) (hdf : σ.depFirst = false)
    (hid : id ≠ []) (hfresh : s.as.contains id = false) (ho : evalVal e.owner = []) (hb : evalVal e.boss = []) :
    step σ s (.createA id e) = (s, some .nullNotAllowed) := by
  have hf := fieldOf_some (s := { s with as := s.as.insert id e.plain }) (id := id) (e := e.plain) (by simp)
  have ho' : evalVal e.plain.owner = [] := ho
  have hb' : evalVal e.plain.boss = [] := hb
  simp [step, apply, createA, hid, hfresh, processAfterUpdateA, orderA, hdf, List.foldlM_cons, afterUpdateA,
    hf, ho', hb', bind, Except.bind]

/-- **Restrict refuses**: while an A entity refers to `b` through `owner` — or through `dep` in the
    restrict variant — deleting `b` returns the reference-exists error and changes nothing.
    (Excluded: the variant in which the dep *cascade* is registered before the restrict check; there
    the cascade runs first, see `restrict_never_orphans`.) -/
theorem restrict_refuses (σ : Schema) (s : St) (b : Bytes) (hI : Inv σ s) (hb : s.bs.contains b = true)
    (href : (∃ k e, s.as.lookup k = some e ∧ evalVal e.owner = b ∧ b ≠ []) ∨
            (σ.depCascade = false ∧ ∃ k e, s.as.lookup k = some e ∧ e.dep = some b))
    (hord : ¬ (σ.depFirst = true ∧ σ.depCascade = true)) :
    step σ s (.deleteB b) = (s, some .refExists) :=
  deleteB_refuses σ s b hI hb href hord

/-- in *every* variant a successful delete of `b` leaves no entity referring to `b` -/
theorem restrict_never_orphans (σ : Schema) (s s' : St) (b : Bytes) (hI : Inv σ s)
    (h : apply σ s (.deleteB b) = .ok s') (k : Bytes) (e : EntA) (he : s'.as.lookup k = some e) :
    (evalVal e.owner ≠ [] → evalVal e.owner ≠ b) ∧ (evalVal e.dep ≠ [] → evalVal e.dep ≠ b) :=
  deleteB_no_orphans σ s s' b hI h k e he

/-- **Restrict refuses for the fks the child stores declare**: while an entity refers to `b` through a mentor
    index or a guard constraint declared by C or C2, deleting `b` returns the reference-exists error and
    changes nothing (variants where `dep` restricts: no cascade runs before these checks). -/
theorem restrict_refuses_child (σ : Schema) (s : St) (b : Bytes) (hF : FullInv σ s) (hb : s.bs.contains b = true)
    (hnc : σ.depCascade = false)
    (href : ∃ c k e, s.as.lookup k = some e ∧ (mentorOf σ c e = some b ∨ guardOf σ c e = some b)) :
    step σ s (.deleteB b) = (s, some .refExists) :=
  deleteB_refuses_child σ s b hF.1 hF.2 hb hnc href

/-- … and in *every* variant a successful delete of `b` leaves no entity referring to `b` through them -/
theorem restrict_never_orphans_child (σ : Schema) (s s' : St) (b : Bytes) (hF : FullInv σ s)
    (h : apply σ s (.deleteB b) = .ok s') (k : Bytes) (e : EntA) (he : s'.as.lookup k = some e) (c : Child) :
    mentorOf σ c e ≠ some b ∧ guardOf σ c e ≠ some b :=
  deleteB_no_orphans_child hF h k e he c

/-- **A delete clears every back-reference, whichever store declared the index** (the class of seeded change
    C04-8: the delete fans out over ALL child stores holding data for the entity): after a successful delete of
    A entity `id` — through A or a child store — `id` is listed in no back-reference set at all, so none of its
    former targets is kept from being deleted by it. -/
theorem delete_clears_all_backrefs (σ : Schema) (s s' : St) (id : Bytes) (op : Op)
    (hop : op = .deleteA id ∨ op = .deleteC id) (hF : FullInv σ s) (h : apply σ s op = .ok s') :
    (∀ b, id ∉ (s'.things.lookup b).getD []) ∧ (∀ a, id ∉ (s'.minions.lookup a).getD []) ∧
    (∀ c b, id ∉ ((s'.mentees c).lookup b).getD []) := by
  have hF' := apply_full _ hF h
  have hgone : s'.as.lookup id = none := by
    rcases hop with rfl | rfl <;> exact deleteA_gone (σ := σ) h
  refine ⟨fun b hm => ?_, fun a hm => ?_, fun c b hm => ?_⟩
  · obtain ⟨e, he, _⟩ := (hF'.1.things b id).1 hm; rw [hgone] at he; cases he
  · obtain ⟨e, he, _⟩ := (hF'.1.minions a id).1 hm; rw [hgone] at he; cases he
  · obtain ⟨e, he, _⟩ := (hF'.2.men c b id).1 hm; rw [hgone] at he; cases he

/-- **Termination of the cascading delete** — for every schema, state (invariant or not) and id, cycles
    and self references included: the recursion of `DeleteById` through the cascade constraint comes
    back.  Argument (`deleteA_terminates`): every nested call is about an entity outside the in-progress
    set and adds it, the set is duplicate-free and stays inside the key set of the table the outermost
    call started from, so the depth is bounded by the table size; the fuel `step` supplies (|A| + 1)
    is never exhausted. -/
theorem cascade_terminates (σ : Schema) (s : St) (id : Bytes) :
    apply σ s (.deleteA id) ≠ .error .diverge ∧ apply σ s (.deleteC id) ≠ .error .diverge :=
  ⟨deleteA_top_terminates σ s s id (Sub.refl s), deleteA_top_terminates σ s s id (Sub.refl s)⟩

/-- **Cascade on A is exact and total**, for every id and every state satisfying the invariant — reference
    cycles and self references included, with or without child-store data, through A or through the child
    store: `DeleteById` on an existing entity succeeds, and removes the target and exactly the entities that
    refer to it transitively through `boss`; every other entity keeps its stored values, table B is
    untouched.  (`hp`: no entity constraint of the caller is vetoing deletes during the operation — with one,
    see `protected_cascade_fails`.) -/
theorem cascade_exact (σ : Schema) (s : St) (id : Bytes) (op : Op) (hop : op = .deleteA id ∨ op = .deleteC id)
    (hI : Inv σ s) (hc : s.as.contains id = true) (hp : σ.protect = none) :
    ∃ s', apply σ s op = .ok s' ∧
      s'.bs = s.bs ∧
      (∀ k e, s'.as.lookup k = some e → s.as.lookup k = some e) ∧
      (∀ k, s'.as.lookup k = none ↔ (s.as.lookup k = none ∨ k = id ∨ Reach s.as id k)) := by
  obtain ⟨s', h⟩ := deleteA_succeeds (s0 := s) (Sub.refl s) hc hp
  rcases hop with rfl | rfl
  · exact ⟨s', h, deleteA_exact σ s s' id hI h⟩
  · exact ⟨s', h, deleteA_exact σ s s' id hI h⟩

/-- **Whenever a delete of an A entity succeeds it is exact** — no further hypothesis: the target and
    exactly its transitive referrers are gone, nothing else changed. -/
theorem cascade_exact_of_success (σ : Schema) (s s' : St) (id : Bytes) (op : Op)
    (hop : op = .deleteA id ∨ op = .deleteC id) (hI : Inv σ s) (h : apply σ s op = .ok s') :
    s'.bs = s.bs ∧
    (∀ k e, s'.as.lookup k = some e → s.as.lookup k = some e) ∧
    (∀ k, s'.as.lookup k = none ↔ (s.as.lookup k = none ∨ k = id ∨ Reach s.as id k)) := by
  rcases hop with rfl | rfl
  · exact deleteA_exact σ s s' id hI h
  · exact deleteA_exact σ s s' id hI h

/-- a delete of an A entity never fails with the reference-exists error, whatever the state: the only
    failures are not-found (missing id), outside invariant states only a vanished entity bucket, and — only
    when the schema carries a protected entity (`σ.protect`) — the veto of the caller's entity constraint -/
theorem delete_A_errors (σ : Schema) (s : St) (id : Bytes) (e : Err) (h : apply σ s (.deleteA id) = .error e) :
    e = .notFound ∨ e = .other ∨ (e = .veto ∧ σ.protect ≠ none) :=  by
  rcases deleteA_error h with ⟨h1, _⟩ | h1 | h1
  · exact Or.inl h1
  · subst h1; exact absurd h (cascade_terminates σ s id).1
  · exact Or.inr (Or.inr h1)

/-- **A cascade that meets the protected entity fails as a whole**: while the caller's entity constraint refuses the
    delete of `v`, a delete of `id` whose cascade would have to remove `v` (`v = id` or `v` refers to `id`
    transitively) does not succeed — and a failed operation leaves the state (`step`) -/
theorem protected_cascade_fails (σ : Schema) (s : St) (id v : Bytes) (hI : Inv σ s)
    (hv : v = id ∨ Reach s.as id v) : ¬ ∃ s', apply σ s (.deleteAV id v) = .ok s' := by
  rintro ⟨s', h⟩
  -- `v` had a row and is protected, so it is still there; but the delete removed it
  obtain ⟨_, _, hiff⟩ := deleteA_exact (σ.withProtect v) s s' id (hI.of_schema rfl) h
  obtain ⟨e, he⟩ : ∃ e, s.as.lookup v = some e :=
    hv.elim (fun hvi => hvi ▸ (Map.contains_iff _ _).1 (deleteA_succ_char (n := s.as.length) h).1) Reach.exists_entry
  have := deleteA_keeps_protected (σ := σ.withProtect v) rfl h he
  rw [(hiff v).2 (Or.inr hv)] at this; cases this

/-- **Cascade on B is exact**, for every id: a successful `DeleteById` on B removes `b` from B and from A
    exactly the entities that refer to `b` through `dep` together with their transitive `boss`
    referrers (none in the restrict variant, where a successful delete means there were none). -/
theorem cascade_exact_B (σ : Schema) (s s' : St) (b : Bytes) (hI : Inv σ s)
    (h : apply σ s (.deleteB b) = .ok s') :
    s'.bs = s.bs.erase b ∧
    (∀ k e, s'.as.lookup k = some e → s.as.lookup k = some e) ∧
    (∀ k, s'.as.lookup k = none ↔ (s.as.lookup k = none ∨ RemovedVia (·.dep) s.as b k)) :=
  deleteB_exact σ s s' b hI h

/-- **Restrict or cascade, nothing else** (the property's "either … or"): in every state that satisfies
    the invariant, deleting an existing B entity either succeeds (`cascade_exact_B` says what went) or is
    refused with the reference-exists error — and it is refused only if some entity refers to it through
    `owner`, through `dep` in the restrict variant, or through a mentor / guard fk declared by a child store.
    No other error, no divergence. -/
theorem delete_outcomes (σ : Schema) (s : St) (b : Bytes) (hF : FullInv σ s) (hc : s.bs.contains b = true)
    (hp : σ.protect = none) :
    (∃ s', apply σ s (.deleteB b) = .ok s') ∨
    (apply σ s (.deleteB b) = .error .refExists ∧
      ((∃ k e, s.as.lookup k = some e ∧ evalVal e.owner = b ∧ b ≠ []) ∨
       (σ.depCascade = false ∧ ∃ k e, s.as.lookup k = some e ∧ e.dep = some b) ∨
       (∃ c k e, s.as.lookup k = some e ∧ (mentorOf σ c e = some b ∨ guardOf σ c e = some b)))) := by
  rcases deleteB_progress hc hp with h | h
  · exact Or.inl h
  · exact Or.inr ⟨h, deleteB_refExists_reason hF.1 hF.2 h⟩

/-- **A refusal always has a reason**: a reference-exists error from deleting `b` means some entity refers to
    `b` through `owner`, through `dep` in the restrict variant, or through a child-declared mentor / guard. -/
theorem refusal_has_reason (σ : Schema) (s : St) (b : Bytes) (hF : FullInv σ s)
    (h : apply σ s (.deleteB b) = .error .refExists) :
    (∃ k e, s.as.lookup k = some e ∧ evalVal e.owner = b ∧ b ≠ []) ∨
    (σ.depCascade = false ∧ ∃ k e, s.as.lookup k = some e ∧ e.dep = some b) ∨
    (∃ c k e, s.as.lookup k = some e ∧ (mentorOf σ c e = some b ∨ guardOf σ c e = some b)) :=
  deleteB_refExists_reason hF.1 hF.2 h

/-- **Promotion keeps the back-references** (the class of seeded change C04-4): after a successful create
    through a child store — over a fresh id or over an existing A entity (plain, or holding data of the sibling
    child store), with equal, changed or cleared reference values — the entity is listed under exactly the
    targets it now names, and nowhere else; for the mentor index the child store declares as well. -/
theorem child_create_backrefs_exact (σ : Schema) (s s' : St) (c : Child) (id : Bytes) (e : EntA) (x : Ext)
    (hF : FullInv σ s) (h : apply σ s (.createC c id e x) = .ok s') :
    (∀ b, id ∈ (s'.things.lookup b).getD [] ↔ (evalVal e.owner = b ∧ b ≠ [])) ∧
    (∀ a, id ∈ (s'.minions.lookup a).getD [] ↔ (evalVal e.boss = a ∧ a ≠ [])) ∧
    (∀ b, id ∈ ((s'.mentees c).lookup b).getD [] ↔ (σ.idx c = true ∧ evalVal x.m = b ∧ b ≠ [])) ∧
    (evalVal e.owner ≠ [] → ¬ (σ.depFirst = true ∧ σ.depCascade = true) →
      step σ s' (.deleteB (evalVal e.owner)) = (s', some .refExists)) := by
  have hF' := apply_full _ hF h
  have hlk : s'.as.lookup id = some (createdEnt s c id e x) := (createC_written h).2.lookup
  obtain ⟨ho, hb, _, hx⟩ := createdEnt_fields s c id e x
  refine ⟨fun b => ho ▸ hF'.1.things.mem_of_lookup hlk b, fun a => hb ▸ hF'.1.minions.mem_of_lookup hlk a, fun b => ?_,
    fun hne hord => ?_⟩
  · rw [(hF'.2.men c).mem_of_lookup hlk b, mentorOf, hx]
    cases σ.idx c
    · exact ⟨fun h => absurd h.1.symm h.2, fun h => nomatch h.1⟩
    · exact ⟨fun h => ⟨rfl, h⟩, fun h => h.2⟩
  · have hne' : evalVal (createdEnt s c id e x).owner ≠ [] := ho.symm ▸ hne
    exact restrict_refuses σ s' (evalVal e.owner) hF'.1 (ho ▸ hF'.1.ownerT id _ hlk hne')
      (Or.inl ⟨id, _, hlk, by rw [ho], hne⟩) hord

/-- **`cascade_marks_balanced`** — the "cascading delete in progress" map lives in the `MutateContext`, outlives the
    operation and (with a reused context) the transaction, and is NOT rolled back with the database.  In the
    state-passing model of the code (`C04/Marks.lean`: entry added unless present, loop over the current map, entry
    removed on every exit iff this call added it) — after ANY operation, successful or failed (a vetoed or otherwise
    failing cascade returns out of the middle of the referrer loop), from any state and any map `m`: the map is `m`
    again.  In particular it is empty again whenever it was empty before. -/
theorem cascade_marks_balanced (σ : Schema) (m : Ctx) (s : St) (op : Op) : (applyM σ m s op).2 = m :=
  applyM_balanced σ m s op

/-- … **hence later cascades are exact**: whatever operation `op1` ran before on the same context — also one that
    failed part-way —, the next operation `op2` (in the same transaction, or in a later one when the caller reuses the
    context object) computes exactly what `apply` computes on a fresh context; all theorems above apply to it. -/
theorem later_cascades_exact (σ : Schema) (s1 s2 : St) (op1 op2 : Op) :
    (applyM σ (applyM σ {} s1 op1).2 s2 op2).1 = apply σ s2 op2 := by
  rw [cascade_marks_balanced]; exact applyM_apply σ {} s2 op2 rfl

/-- a whole history on ONE reused `MutateContext` — rolled-back transactions included — reaches the state of the same
    history with a fresh context per transaction, with an empty in-progress map at the end -/
theorem context_reuse_exact (σ : Schema) (reuse : Bool) (txs : List (List Op)) :
    runHistoryM σ reuse txs = (runHistory σ txs, {}) :=
  runHistoryM_eq σ reuse txs

/-- **The referrer lookup is exact for EVERY byte string id** (quotes, backslashes, keywords, anything):
    the cursor of `fkDeleteCascadeConstraint` yields exactly the entities whose stored fk value is `id`. -/
theorem referrer_lookup_exact (s : St) (f : EntA → FV) (id x : Bytes) :
    x ∈ referrers s f id ↔ ∃ e, s.as.lookup x = some e ∧ f e = some id := by
  rw [mem_referrers, isReferrer_iff]

/-- **The run-time oracle is this spec**: the executable spec (`C04/Spec.lean`, what the check compares
    the implementation with) computes its cascade set by bounded fixpoint iteration; that set is exactly
    the seeds plus everything referring to them transitively. -/
theorem spec_closure_exact (as : Map EntA) (seeds : List Bytes) (k : Bytes) :
    k ∈ closure as seeds ↔ k ∈ seeds ∨ ∃ x ∈ seeds, Reach as x k :=
  mem_closure as seeds k

/-- **Refinement on success**: from any state satisfying the invariant (every reachable state), whenever
    an operation of the model succeeds, the same operation of the spec — which knows only the entity
    tables — succeeds and yields the same tables. -/
theorem spec_agrees_on_success (σ : Schema) (s s' : St) (op : Op) (hF : FullInv σ s) (h : apply σ s op = .ok s') :
    ∃ ss', specApply σ (absSt s) op = .ok ss' ∧ (∀ k, ss'.as.lookup k = s'.as.lookup k) ∧
      (∀ k, ss'.bs.lookup k = s'.bs.lookup k) :=
  StorageModel.C04.spec_agrees_on_success op hF h

section Examples

def σ0 : Schema := { depCascade := true, depNullable := true, depFirst := false }

-- ids: k = "k", r = "r", x = `a"b`, y = `x" or id != "`, z = "z"
def idK : Bytes := [107]
def idR : Bytes := [114]
def idX : Bytes := [97, 34, 98]
def idY : Bytes := [120, 34, 32, 111, 114, 32, 105, 100, 32, 33, 61, 32, 34]
def idZ : Bytes := [122]

/-- B entity k; root r (self reference); x = `a"b` under r with dep k; y under x; z under r -/
def hist0 : List (List Op) :=
  [[.createB idK], [.createA idR { owner := none, boss := some idR, dep := none }], [.createA idX { owner := some idK, boss := some idR, dep := some idK }],
   [.createA idY { owner := none, boss := some idX, dep := none }], [.createA idZ { owner := none, boss := some idR, dep := none }]]

/-- the hypotheses of the theorems above are satisfiable by a non-trivial state -/
example : ((runHistory σ0 hist0).as.keys = [idZ, idY, idX, idR]) ∧
    (runHistory σ0 hist0).minions.lookup idR = some [idZ, idX, idR] ∧
    (runHistory σ0 hist0).things.lookup idK = some [idX] := by decide +kernel

/-- deleting `a"b` cascades to exactly its minion `x" or id != "` — r and z survive -/
example : (step σ0 (runHistory σ0 hist0) (.deleteA idX)).2 = none ∧
    (step σ0 (runHistory σ0 hist0) (.deleteA idX)).1.as.keys = [idZ, idR] := by decide +kernel

/-- restrict: k is referenced through owner -/
example : (step σ0 (runHistory σ0 hist0) (.deleteB idK)).2 = some .refExists := by decide +kernel

/-! #### reference cycles (the stack overflow fixed by bda5470) -/

/-- `A.Create(r, boss = r); A.DeleteById(r)`: succeeds and leaves nothing -/
def histSelf : List (List Op) := [[.createA idR { owner := none, boss := some idR, dep := none }]]

example : (step σ0 (runHistory σ0 histSelf) (.deleteA idR)).2 = none ∧
    (step σ0 (runHistory σ0 histSelf) (.deleteA idR)).1.as.keys = [] := by decide +kernel
example : Reach (runHistory σ0 histSelf).as idR idR := .direct (e := { owner := none, boss := some idR, dep := none }) (by decide) rfl

/-- a two-cycle made by re-parenting (r ← z, then r.boss := z) with a third entity k below z:
    deleting either member of the cycle removes all three -/
def histCycle : List (List Op) :=
  [[.createA idR { owner := none, boss := some idR, dep := none }], [.createA idZ { owner := none, boss := some idR, dep := none }],
   [.updateA idR { owner := none, boss := some idZ, dep := none } false true false], [.createA idK { owner := none, boss := some idZ, dep := none }]]

example : (step σ0 (runHistory σ0 histCycle) (.deleteA idR)).2 = none ∧
    (step σ0 (runHistory σ0 histCycle) (.deleteA idR)).1.as.keys = [] ∧
    (step σ0 (runHistory σ0 histCycle) (.deleteA idZ)).1.as.keys = [] ∧
    (step σ0 (runHistory σ0 histCycle) (.deleteA idK)).1.as.keys = [idR, idZ] := by decide +kernel

/-- … and a B delete that cascades into a self reference -/
example : (step σ0 (runHistory σ0 ([.createB idK] :: histSelf ++ [[.updateA idR { owner := none, boss := some idR, dep := some idK } false false true]]))
    (.deleteB idK)).2 = none := by decide +kernel

def tagT : Ext := { tag := some [116] }
def tagN : Ext := { tag := none }

/-- seeded change C04-4 as a history: k; r (self reference); x with owner k, boss r; then x is "promoted"
    (create through the child store over the existing entity) with every reference unchanged -/
def histPromote : List (List Op) :=
  [[.createB idK], [.createA idR { owner := none, boss := some idR, dep := none }], [.createA idX { owner := some idK, boss := some idR, dep := none }],
   [.createC .c1 idX { owner := some idK, boss := some idR, dep := none } tagT]]

/-- … k still lists x, r still lists x, deleting k is still refused, deleting r still takes x — through
    either store -/
example : (runHistory σ0 histPromote).things.lookup idK = some [idX] ∧
    (runHistory σ0 histPromote).minions.lookup idR = some [idX, idR] ∧
    (step σ0 (runHistory σ0 histPromote) (.deleteB idK)).2 = some .refExists ∧
    (step σ0 (runHistory σ0 histPromote) (.deleteA idR)).1.as.keys = [] ∧
    (step σ0 (runHistory σ0 histPromote) (.deleteC idX)).2 = none ∧
    (step σ0 (runHistory σ0 histPromote) (.deleteC idX)).1.as.keys = [idR] := by decide +kernel

/-- promotion with changed references (owner cleared, boss r → z): the old targets forget x, the new boss
    lists it; update through the child store and through A (handed over) move it again -/
example :
    let s := runHistory σ0 (histPromote.take 3 ++ [[.createA idZ { owner := none, boss := some idR, dep := none }],
      [.createC .c1 idX { owner := none, boss := some idZ, dep := none } tagT]])
    s.things.lookup idK = some [] ∧ s.minions.lookup idR = some [idZ, idR] ∧ s.minions.lookup idZ = some [idX] ∧
    (step σ0 s (.deleteB idK)).2 = none ∧
    (step σ0 s (.updateC .c1 idX { owner := some idK, boss := some idR, dep := none } tagN true true false true false false)).1.minions.lookup idR
      = some [idX, idZ, idR] ∧
    (step σ0 s (.updateA idX { owner := some idK, boss := some idR, dep := none } true false false)).1.things.lookup idK = some [idX] ∧
    (step σ0 s (.updateC .c1 idZ { owner := none, boss := some idR, dep := none } tagN true true true true false false)).2 = some .notFound := by decide +kernel

/-- a delete of an entity with child data runs both `ProcessBeforeDelete` rounds and still removes exactly
    its transitive referrers (here: a self-referencing root with child data and a minion with child data) -/
example :
    let s := runHistory σ0 [[.createC .c1 idR { owner := none, boss := some idR, dep := none } tagT], [.createC .c1 idZ { owner := none, boss := some idR, dep := none } tagN],
      [.createA idK { owner := none, boss := some idZ, dep := none }], [.createA idX { owner := none, boss := some idX, dep := none }]]
    (step σ0 s (.deleteA idR)).2 = none ∧ (step σ0 s (.deleteA idR)).1.as.keys = [idX] ∧
    (step σ0 s (.deleteC idZ)).1.as.keys = [idX, idR] := by decide +kernel

/-- **The history that failed before 001d2d2 now cascades.**  r and z refer to each other (a two-cycle made
    by re-parenting), r has child-store data.  `DeleteById(r)` runs A's `ProcessBeforeDelete` constraints twice:
    the first round's cascade deletes z (it refers to r); the second round's `fkIndex.ProcessBeforeDelete` finds
    r's boss z gone and — since 001d2d2 — skips it (before: `getIndexBucket` → not-found, the delete failed).
    Through A, through the child store, and through a B delete that cascades into r: both entities go, exactly
    as the spec says, and as in the same history without child data. -/
def histExtCycle : List (List Op) :=
  [[.createB idK], [.createA idR { owner := none, boss := some idR, dep := some idK }], [.createA idZ { owner := none, boss := some idR, dep := none }],
   [.updateA idR { owner := none, boss := some idZ, dep := none } false true false], [.createC .c1 idR { owner := none, boss := some idZ, dep := some idK } tagT]]

example : (step σ0 (runHistory σ0 histExtCycle) (.deleteA idR)).2 = none ∧
    (step σ0 (runHistory σ0 histExtCycle) (.deleteA idR)).1.as.keys = [] ∧
    (step σ0 (runHistory σ0 histExtCycle) (.deleteC idR)).2 = none ∧
    (step σ0 (runHistory σ0 histExtCycle) (.deleteC idR)).1.as.keys = [] ∧
    (step σ0 (runHistory σ0 histExtCycle) (.deleteB idK)).2 = none ∧
    (step σ0 (runHistory σ0 histExtCycle) (.deleteB idK)).1.as.keys = [] ∧
    (step σ0 (runHistory σ0 histExtCycle) (.deleteA idZ)).1.as.keys = [] ∧
    (match specApply σ0 (absSt (runHistory σ0 histExtCycle)) (.deleteA idR) with
      | .ok ss => ss.as.keys | .error _ => [idR]) = [] ∧
    (step σ0 (runHistory σ0 (histExtCycle.take 4)) (.deleteA idR)).1.as.keys = [] := by decide +kernel

/-- outside invariant states the repaired step is visible directly: an entity whose `boss` value dangles
    (no such entity) can be deleted — the removal of the back-reference is skipped -/
example : (step σ0 { as := [(idX, { owner := none, boss := some idZ, dep := none })] } (.deleteA idX)).2 = none := by decide +kernel

/-- both child stores declare the mentor index and the guard constraint, C2 is registered first; dep restricts -/
def σ1 : Schema := { depCascade := false, depNullable := true, depFirst := false,
                     idx1 := true, idx2 := true, fk1 := true, fk2 := true, c2First := true }

/-- k, y in B; root r; x is created through C (mentor y, guard y) and then through C2 over the same id
    (mentor y, guard k): x holds data in BOTH child stores (the history of seeded change C04-8) -/
def histSiblings : List (List Op) :=
  [[.createB idK], [.createB idY], [.createA idR { owner := none, boss := some idR, dep := some idK }],
   [.createC .c1 idX { owner := none, boss := some idR, dep := some idK } { tag := some [116], m := some idY, g := some idY }],
   [.createC .c2 idX { owner := none, boss := some idR, dep := some idK } { tag := none, m := some idY, g := some idK }]]

/-- y lists x in both mentees sets and cannot be deleted; deleting x — through A or either child store — runs
    the delete constraints of BOTH child stores, whatever their registration order: x leaves both sets and y
    can be deleted afterwards -/
example : (runHistory σ1 histSiblings).mentees1.lookup idY = some [idX] ∧
    (runHistory σ1 histSiblings).mentees2.lookup idY = some [idX] ∧
    (step σ1 (runHistory σ1 histSiblings) (.deleteB idY)).2 = some .refExists ∧
    (step σ1 (step σ1 (runHistory σ1 histSiblings) (.deleteA idX)).1 (.deleteB idY)).2 = none ∧
    (step σ1 (runHistory σ1 histSiblings) (.deleteC idX)).1.mentees1.lookup idY = some [] ∧
    (step σ1 (runHistory σ1 histSiblings) (.deleteC idX)).1.mentees2.lookup idY = some [] ∧
    (step { σ1 with c2First := false } (runHistory { σ1 with c2First := false } histSiblings) (.deleteA idX)).1.mentees2.lookup idY
      = some [] := by decide +kernel

/-- a missing mentor / guard target is refused (only where the child store declares the fk), a guard alone keeps
    its target from being deleted, moving the references through the child store releases it -/
example : (step σ1 (runHistory σ1 histSiblings)
      (.updateC .c1 idX { owner := none, boss := some idR, dep := none } { tag := none, m := some idZ } false false false false true false)).2
      = some .notFound ∧
    (step { σ1 with idx1 := false } (runHistory { σ1 with idx1 := false } histSiblings)
      (.updateC .c1 idX { owner := none, boss := some idR, dep := none } { tag := none, m := some idZ } false false false false true false)).2
      = none ∧
    (step σ1 (runHistory σ1 histSiblings)
      (.updateC .c2 idX { owner := none, boss := some idR, dep := none } { tag := none, g := some idZ } false false false false false true)).2
      = some .notFound ∧
    (let s := (step σ1 (step σ1 (runHistory σ1 histSiblings)
        (.updateC .c1 idX { owner := none, boss := some idR, dep := none } { tag := none } false false false false true false)).1
        (.updateC .c2 idX { owner := none, boss := some idR, dep := none } { tag := none, m := some idK } false false false false true false)).1
     (step σ1 s (.deleteB idY)).2 = some .refExists ∧               -- C's guard still names y
     (step σ1 (step σ1 s (.updateC .c1 idX { owner := none, boss := some idR, dep := none } { tag := none } false false false false false true)).1
        (.deleteB idY)).2 = none) := by decide +kernel

/-- non-vacuity of `FullInv` with child-declared fks in use: the state above satisfies it (it is reachable) -/
example : FullInv σ1 (runHistory σ1 histSiblings) := full_reachable σ1 histSiblings

/-! #### a cascade that fails part-way (seeded C04-11), on a reused context -/

/-- r ← z ← x ← y (boss chain below the self-referencing root r) -/
def histChain : List (List Op) :=
  [[.createA idR { owner := none, boss := some idR, dep := none }], [.createA idZ { owner := none, boss := some idR, dep := none }],
   [.createA idX { owner := none, boss := some idZ, dep := none }], [.createA idY { owner := none, boss := some idX, dep := none }]]

/-- deleting x while the caller's entity constraint protects its referrer y fails with the veto and (rollback) changes
    nothing; the in-progress map of the context is empty afterwards; the next delete on the SAME context — z, which
    x refers to — cascades through x and y as if nothing had happened -/
example : (step σ0 (runHistory σ0 histChain) (.deleteAV idX idY)).2 = some .veto ∧
    (applyM σ0 {} (runHistory σ0 histChain) (.deleteAV idX idY)).2 = {} ∧
    (applyM σ0 (applyM σ0 {} (runHistory σ0 histChain) (.deleteAV idX idY)).2 (runHistory σ0 histChain) (.deleteA idZ)).2 = {} ∧
    (runHistoryM σ0 true (histChain ++ [[.deleteAV idX idY], [.deleteA idZ]])).1.as.keys = [idR] ∧
    (runHistoryM σ0 true (histChain ++ [[.deleteAV idX idY], [.deleteA idZ]])).2 = {} := by decide +kernel

/-! #### why commit 7aca2fc was needed: the referrer lookup through `Sprintf` + `ast.Parse`

  `OldRoute.referrersViaFilter` is the lookup as it was before the fix.  Table: r (boss r), `a"b`
  (boss r), `x" or id != "` (boss `a"b`), z (boss r). -/

open OldRoute in
/-- id `a"b`: the text `boss = "a"b"` is no sentence — the delete failed with a parse error although
    exactly one entity refers to `a"b` (which the direct comparison finds) -/
example : referrersViaFilter (runHistory σ0 hist0).as symBoss idX = none ∧
    referrers (runHistory σ0 hist0) (·.boss) idX = [idY] := by decide +kernel

open OldRoute in
/-- id `x" or id != "`: the text `boss = "x" or id != ""` matches EVERY entity — the cascade deleted
    unrelated rows — although nothing refers to that id -/
example : referrersViaFilter (runHistory σ0 hist0).as symBoss idY = some [idZ, idY, idX, idR] ∧
    referrers (runHistory σ0 hist0) (·.boss) idY = [] := by decide +kernel

open OldRoute in
/-- id `a\` (trailing backslash): `boss = "a\"` has an unterminated literal — parse error;
    id `a\nb` (backslash, n): the literal denotes a-LF-b, so the true referrer is not found -/
example : referrersViaFilter [([109], { owner := none, boss := some [97, 92], dep := none })] symBoss [97, 92] = none ∧
    referrersViaFilter [([109], { owner := none, boss := some [97, 92, 110, 98], dep := none })] symBoss [97, 92, 110, 98] = some [] ∧
    referrers { as := [([109], { owner := none, boss := some [97, 92, 110, 98], dep := none })] } (·.boss) [97, 92, 110, 98] = [[109]] := by
  decide +kernel

open OldRoute in
/-- a filter-safe id: both routes agree -/
example : referrersViaFilter (runHistory σ0 hist0).as symBoss idR = some [idZ, idX, idR] ∧
    referrers (runHistory σ0 hist0) (·.boss) idR = [[97, 34, 98], idR, idZ] := by decide +kernel

end Examples

/-! ## A chain of three stores (owners <- items <- notes), an fk constraint on each link, every combination
    of restrict / cascade and nullable / not (`C04/Tier.lean`): a cascade that starts at an owner reaches items
    which the lower link may protect.  All statements: every schema, every state (no invariant needed for the
    delete statements), every id. -/
section Chain

/-- **restrict holds inside a cascade**: an item that a note refers to through a RESTRICT link is never removed
    by deleting its owner — whatever the upper link does (restrict: refused because of the item; cascade: the
    nested delete of the item is refused and with it the whole delete) the outcome is reference-exists.
    (The class of seeded C04-16.) -/
theorem restrict_inside_cascade_refuses (σ : TSchema) (s : TSt) (o i n : Bytes)
    (ho : s.t0.contains o = true) (hi : tIsRef s.t1 o i = true) (hn : tIsRef s.t2 i n = true)
    (hrestrict : σ.casc2 = false) :
    tDelete0 σ s o = .error .refExists := by
  have h := tDelete0_char σ s o
  cases hres : tDelete0 σ s o with
  | ok s' =>
    rw [hres] at h
    have := h.2.2.1 hrestrict i hi
    rw [(tReferred_iff _ _).2 ⟨n, hn⟩] at this; cases this
  | error e =>
    rw [hres] at h
    rcases h with ⟨_, hc⟩ | ⟨he, _⟩
    · rw [ho] at hc; cases hc
    · rw [he]

/-- non-vacuity: owner o, items i1 i2 under it, a note on i2; cascade over restrict -/
example : (match tDelete0 ⟨true, false, false, false⟩
    { t0 := [([111], ())], t1 := [([1], some [111]), ([2], some [111])], t2 := [([9], some [2])] } [111] with
    | .error .refExists => true
    | _ => false) = true := by decide +kernel

/-- **delete of an owner: refused or exactly the cascade.**  `DeleteById` on the top store either fails — not-found
    for a missing id, otherwise reference-exists, and then for a reason: the upper link restricts and an item
    refers to the owner, or it cascades and a note refers through a restrict link to an item of the removal set —
    or succeeds, and then: no restrict link had a referrer into the removal set, the owner, exactly the items
    referring to it and exactly the notes referring to those are gone, every other row is unchanged. -/
theorem chain_delete_refused_or_exact (σ : TSchema) (s : TSt) (id : Bytes) :
    match tDelete0 σ s id with
    | .ok s' => s.t0.contains id = true ∧ (σ.casc1 = false → tReferred s.t1 id = false) ∧
        (σ.casc2 = false → ∀ i, tIsRef s.t1 id i = true → tReferred s.t2 i = false) ∧
        (∀ y, s'.t0.lookup y = if y = id then none else s.t0.lookup y) ∧
        (∀ y, s'.t1.lookup y = if tIsRef s.t1 id y = true then none else s.t1.lookup y) ∧
        (∀ n, ((∃ i, tIsRef s.t1 id i = true ∧ tIsRef s.t2 i n = true) → s'.t2.lookup n = none) ∧
              ((¬ ∃ i, tIsRef s.t1 id i = true ∧ tIsRef s.t2 i n = true) → s'.t2.lookup n = s.t2.lookup n))
    | .error e => (e = .notFound ∧ s.t0.contains id = false) ∨
        (e = .refExists ∧ s.t0.contains id = true ∧
          ((σ.casc1 = false ∧ tReferred s.t1 id = true) ∨
           (σ.casc1 = true ∧ σ.casc2 = false ∧ ∃ i, tIsRef s.t1 id i = true ∧ tReferred s.t2 i = true))) :=
  tDelete0_char σ s id

/-- the same one level down: `DeleteById` on the middle store -/
theorem chain_delete_item_refused_or_exact (σ : TSchema) (s : TSt) (id : Bytes) :
    match tDelete1 σ s id with
    | .ok s' => s.t1.contains id = true ∧ (σ.casc2 = false → tReferred s.t2 id = false) ∧ s'.t0 = s.t0 ∧
        (∀ y, s'.t1.lookup y = if y = id then none else s.t1.lookup y) ∧
        (∀ y, s'.t2.lookup y = if tIsRef s.t2 id y = true then none else s.t2.lookup y)
    | .error e => (e = .notFound ∧ s.t1.contains id = false) ∨
        (e = .refExists ∧ s.t1.contains id = true ∧ σ.casc2 = false ∧ tReferred s.t2 id = true) :=
  tDelete1_char σ s id

/-- **targets exist along the chain**: after any history of transactions (failed ones rolled back) every stored
    reference of an item names an existing owner and every stored reference of a note names an existing item — or
    is null / empty on a nullable link; in particular no delete, refused or cascading, leaves a dangling reference -/
theorem chain_targets_exist (σ : TSchema) (txs : List (List TOp)) : TInv σ (tRunHistory σ txs) :=
  tInv_history σ txs

/-- per operation, from any state satisfying the invariant -/
theorem chain_targets_exist_step (σ : TSchema) (s s' : TSt) (op : TOp) (hi : TInv σ s)
    (h : tApply σ s op = .ok s') : TInv σ s' :=
  tInv_apply σ s s' op hi h

/-- non-vacuity of the hypothesis `TInv` -/
example : TInv ⟨true, false, false, false⟩ { t0 := [([111], ())], t1 := [([1], some [111])], t2 := [] } := by
  refine ⟨fun x v hx => ?_, fun x v hx => by simp [Map.lookup] at hx⟩
  simp only [Map.lookup] at hx
  split at hx
  · cases hx; exact ⟨fun _ => by decide, fun h => by simp [evalVal] at h⟩
  · cases hx

/-- **the run-time oracle says what the model does**: the executable specification of the owner delete used by
    the check (set comprehensions over the three tables: no loop, no nesting) agrees with the model of the code on
    every schema, state and id — same error, or states with the same rows -/
theorem chain_spec_agrees (σ : TSchema) (s : TSt) (id : Bytes) :
    TRes.Agree (tDelete0 σ s id) (specDelete0 σ s id) :=
  tDelete0_agrees_spec σ s id

end Chain

/-! ### The schema-parametric model (`C04/Gen.lean`): EVERY schema (any number of stores, any list of fk
    declarations: index / constraint, nullable / not, restrict / cascade, self references, cycles, several
    declarations between two stores, any registration order), every state, every in-progress map.
    Proved here: the context's map is balanced and a reused context changes nothing; a refused transaction changes
    nothing; restrict refuses (no cascade into the store); creates / updates keep `fk_target_exists`.  NOT proved for
    the generic model (kept as full statements; decided per run by the correspondence against the spec oracle
    `gSpecOutcomes`): back-reference exactness, the delete step of `fk_target_exists`, refused-or-exact for arbitrary schemas — they are
    theorems of the two earlier models above (`Model.lean`: `fk_inv_reachable`, `cascade_exact`; `Tier.lean`:
    `chain_delete_refused_or_exact`), which are separate models: nothing here derives them from the generic model at
    `schemaAB` / `schemaChain`. -/
section Generic

/-- after ANY operation on ANY schema (successful, refused, failed part-way inside a nested cascade) the in-progress
    map of the MutateContext is what it was -/
theorem gen_cascade_marks_balanced (σ : GSchema) (m : GMarks) (s : GSt) (op : GOp) : (gApply σ m s op).2 = m :=
  gApply_marks σ m s op

/-- `DeleteById` at any nesting depth -/
theorem gen_delete_marks_balanced (σ : GSchema) (n : Nat) (m : GMarks) (s : GSt) (t : Nat) (id : Bytes) :
    (gDelete σ n m s t id).2 = m :=
  gDelete_marks σ n m s t id

/-- a whole history on ONE reused MutateContext reaches the state of the same history with a fresh context per
    transaction, and the map is empty at the end -/
theorem gen_context_reuse_exact (σ : GSchema) (h : List (List GOp)) (s : GSt) :
    gRunHistory σ true h s [] = gRunHistory σ false h s [] ∧ (gRunHistory σ true h s []).2 = [] :=
  ⟨(gRunHistory_fresh σ true h s).trans (gRunHistory_fresh σ false h s).symm, by rw [gRunHistory_fresh]⟩

/-- a refused transaction (restrict, missing target, null, a refusal inside a cascade) changes nothing -/
theorem gen_refused_changes_nothing (σ : GSchema) (m : GMarks) (s : GSt) (tx : List GOp) (e : Nat × Err)
    (h : (gRunTx σ m s tx).1.2 = some e) : (gRunTx σ m s tx).1.1 = s :=
  gRunTx_refused_unchanged σ m s tx e h

/-- FULL STATEMENT, not proved for arbitrary schemas: a delete is refused (reference-exists, nothing changes) or
    removes exactly the cascade closure; decided on every generated history by the correspondence
    (implementation = model = `gSpecApply`) -/
def gen_delete_refused_or_exact_fullStatement : Prop :=
  ∀ (σ : GSchema) (s : GSt) (t : Nat) (id : Bytes), s.live t id = true →
    match (gDelete σ (gFuel s) [] s t id).1 with
    | .error e => e = .refExists ∧ (gBlockers σ s (gClosure σ s t id) false = true ∨ gBlockers σ s (gClosure σ s t id) true = true)
    | .ok s' => ∀ t' x, s'.ent t' x = if (gClosure σ s t id).contains (t', x) then none else s.ent t' x

/-- restrict refuses — EVERY schema: no cascading declaration targets store `t`, a restrict declaration `i` does,
    and a referrer remains (`GBlocks`: listed in the back-reference set of the fk index, other than the entity
    itself; or a row referring to it through the fk constraint) ⇒ `DeleteById` = reference-exists, the map is
    untouched, and (`gen_refused_changes_nothing`) the transaction leaves the state as it was -/
theorem gen_restrict_refuses (σ : GSchema) (n : Nat) (m : GMarks) (s : GSt) (t : Nat) (id : Bytes)
    (i : Nat) (d : GDecl) (r : Bytes) (hlive : s.live t id = true)
    (hdecl : (i, d) ∈ gDecls σ) (ht : d.tgt = t) (hd : d.cascade = false)
    (hnone : ∀ p ∈ gDecls σ, p.2.tgt = t → p.2.cascade = false)
    (hb : GBlocks s i d id r) :
    gDelete σ (n + 1) m s t id = (.error .refExists, m) ∧
      (gRunTx σ m s [GOp.delete t id]).1 = (s, some (0, Err.refExists)) := by
  have h := gDelete_restrict_refuses σ (gFuel s - 1) m s t id i d r hlive hdecl ht hnone hb
  refine ⟨gDelete_restrict_refuses σ n m s t id i d r hlive hdecl ht hnone hb, ?_⟩
  have hf : gFuel s = (gFuel s - 1) + 1 := by simp [gFuel]
  simp only [gRunTx, gRunOps, gApply]
  rw [hf, h]

/-- a successful create leaves every reference of the new entity pointing at an existing entity (contrapositive: a
    missing target ⇒ the create fails) — every schema -/
theorem gen_write_requires_target (σ : GSchema) (s : GSt) (t : Nat) (id : Bytes) (row : GRow) (s' : GSt)
    (h : gCreate σ s t id row = .ok s') :
    ∀ p ∈ gDecls σ, p.2.src = t → evalVal (row p.1) ≠ [] → s'.live p.2.tgt (evalVal (row p.1)) = true :=
  gCreate_targets σ s t id row s' h

/-- `fk_target_exists` is preserved by every successful create / update / patch update, every schema, any checker -/
theorem gen_fk_target_exists_write (σ : GSchema) (m : GMarks) (s s' : GSt) (op : GOp)
    (hop : ∀ t id, op ≠ GOp.delete t id) (h : (gApply σ m s op).1 = .ok s') (hinv : GTargetInv σ s) :
    GTargetInv σ s' := by
  cases op with
  | create t id row => exact gCreate_targetInv σ s t id row s' h hinv
  | update t id sel row => exact gUpdate_targetInv σ s t id sel row s' h hinv
  | delete t id => exact absurd rfl (hop t id)

/-- FULL STATEMENT (the delete step is not proved for arbitrary schemas) -/
def gen_fk_target_exists_fullStatement : Prop :=
  ∀ (σ : GSchema) (reuse : Bool) (h : List (List GOp)), GTargetInv σ (gRunHistory σ reuse h GSt.empty []).1

/-- FULL STATEMENT: every back-reference set of every fk index is exactly the set of referrers, after any history -/
def gen_backref_inv_fullStatement : Prop :=
  ∀ (σ : GSchema) (reuse : Bool) (h : List (List GOp)) (i : Nat) (d : GDecl) (y r : Bytes),
    (i, d) ∈ gDecls σ → d.index = true →
    let s := (gRunHistory σ reuse h GSt.empty []).1
    s.live d.tgt y = true → (r ∈ s.back i y ↔ (s.live d.src r = true ∧ gIsRef s i d y r = true))

theorem schemaChain_restrict_refuses (n1 c2 n2 : Bool) (n : Nat) (m : GMarks) (s : GSt) (o item : Bytes)
    (hlive : s.live 0 o = true)
    (hb : gIsRef s 0 ⟨1, 0, false, n1, false⟩ o item = true ∧ (1, item) ∈ s.ids) :
    gDelete (schemaChain false n1 c2 n2) (n + 1) m s 0 o = (.error .refExists, m) := by
  refine gDelete_restrict_refuses _ n m s 0 o 0 ⟨1, 0, false, n1, false⟩ item hlive ?_ rfl ?_ ?_
  · simp [gDecls, schemaChain, List.range_succ]
  · intro p hp
    simp [gDecls, schemaChain, List.range_succ] at hp
    rcases hp with rfl | rfl <;> simp
  · unfold GBlocks; simpa using hb

theorem schemaAB_restrict_refuses (depNullable : Bool) (n : Nat) (m : GMarks) (s : GSt) (b r : Bytes)
    (hlive : s.live 1 b = true) (hr : r ∈ s.back 0 b) (hne : r ≠ b) :
    gDelete (schemaAB false depNullable) (n + 1) m s 1 b = (.error .refExists, m) := by
  refine gDelete_restrict_refuses _ n m s 1 b 0 ⟨0, 1, true, true, false⟩ r hlive ?_ rfl ?_ ?_
  · simp [gDecls, schemaAB, List.range_succ]
  · intro p hp
    simp [gDecls, schemaAB, List.range_succ] at hp
    rcases hp with rfl | rfl | rfl <;> simp
  · unfold GBlocks; simp [hr, hne]

theorem schemaAB_marks_balanced (c nl : Bool) (m : GMarks) (s : GSt) (op : GOp) :
    (gApply (schemaAB c nl) m s op).2 = m :=
  gen_cascade_marks_balanced _ m s op

/-- "… and nothing else", row level, EVERY schema: after a successful `DeleteById` (any cascade, any nesting depth, any
    map) every row of every store is exactly as it was or gone -/
theorem gen_delete_only_removes (σ : GSchema) (n : Nat) (m : GMarks) (s : GSt) (t : Nat) (id : Bytes) (s' : GSt) (m' : GMarks)
    (h : gDelete σ n m s t id = (.ok s', m')) : ∀ t' x, s'.ent t' x = s.ent t' x ∨ s'.ent t' x = none :=
  gDelete_onlyRemoves σ n m s t id s' m' h

/-- … and the deleted entity is gone -/
theorem gen_delete_removes_target (σ : GSchema) (n : Nat) (m : GMarks) (s : GSt) (t : Nat) (id : Bytes) (s' : GSt)
    (m' : GMarks) (h : gDelete σ n m s t id = (.ok s', m')) : s'.ent t id = none :=
  gDelete_removes_self σ n m s t id s' m' h

end Generic

end StorageModel.Properties.C04
