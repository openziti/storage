import StorageModel.C17.SnapshotProofs
import StorageModel.C17.StagedProofs
import StorageModel.C17.PathsProofs
import StorageModel.C17.PathTable
import StorageModel.C17.TimelineConc
import StorageModel.C17.LockProofs
import StorageModel.C17.LockTable
import StorageModel.Generated.DbLocks
/-
  C17 — Snapshot and restore reproduce the database exactly.

  "A snapshot taken at a committed state, when later restored over any subsequent state, yields a
  database whose entire logical content equals the state at snapshot time, apart from the
  snapshot-id and timeline-reset markers the snapshot operation itself records. After the restore
  the reported snapshot id is the one returned when the snapshot was taken, restore listeners have
  fired, the next timeline-id request returns a fresh id exactly once, and transactions running
  concurrently with the restore see either the old or the new database in full, never a mixture."
  — for all histories (state A; snapshot; arbitrary further transactions; restore) and all
  interleavings of concurrent read/write transactions with the restore.

  PARTIAL.  The theorems are about the executable model in StorageModel/C17 (Snapshot.lean: the
  sequential behaviour of boltz/db.go over `(content, meta)`; Lock.lean: the reloadLock protocol as
  a transition system).  What the model cannot exhibit, and what therefore rests on the
  correspondence harness alone: that `tx.CopyFile/WriteTo` produce a consistent copy, that
  close/rename/reopen of the files succeed and are atomic enough, bbolt's `Close` waiting for open
  transactions, asynchronous delivery of `go listener()`, and the Go `sync.RWMutex` semantics the
  lock model assumes (writer preference: RLock blocks behind an announced writer).
-/
namespace StorageModel.Properties.C17
open StorageModel.C17 StorageModel.C17.Lock

/-- **the copy step.**  `persistSnapshot` = io.Copy: the persisted bytes are the concatenation of
    everything the reader returned, including bytes returned together with io.EOF — so for EVERY
    reader behaviour (explicit short / empty reads, any chunk size, EOF with the last data or on its
    own call) and every stream the persisted bytes are the stream. -/
theorem copy_reassembles {α : Type} (rd : Reader) (data : List α) : copyAll (script rd data) = data :=
  copyAll_script rd data

/-- hence reopening what was persisted yields the snapshot file, whatever reader delivered it -/
theorem restore_any_reader (f : Db) (rd : Reader) : restoreVia f rd = some f := restoreVia_eq f rd

/-- not vacuous: a copy loop that tests for EOF before writing loses the final chunk for a reader
    that returns its last bytes with EOF — a one-read stream is lost entirely, and an empty file is
    what bbolt turns into a brand-new empty database -/
example : copyDroppingEofData (script { eofWithData := true, chunk := 9 } [1, 2, 3]) = ([] : List Nat) := by decide
example : decodeDb (copyDroppingEofData (script { eofWithData := true, chunk := 99 }
    (encodeDb { content := [(0, 1)], mt := { present := true, sid := some 1, rt := some true } }))) = some {} := by decide
example : copyDroppingEofData (script { eofWithData := true, chunk := 1 } [1, 2, 3]) = [1, 2] := by decide
example : copyDroppingEofData (script { eofWithData := false, chunk := 1 } [1, 2, 3]) = [1, 2, 3] := by decide

/-- **restore ∘ snapshot.**  For every start state, every history `h1` leading to the state A at
    which the snapshot is taken, every further history `h2` (transactions, other snapshots into other
    slots, other restores, timeline requests, …) and every restore route and reader behaviour: the database after the
    restore is the database at snapshot time with exactly the two markers set (snapshot id = the id
    handed out, resetTimeline = true); in particular the content is A's content. -/
theorem restore_snapshot (s0 : Sys) (h1 h2 : List Op) (k : Nat) (inTx : Bool) (viaR : Reader) (hk : KeepsSlot k h2) :
    let sA := (run s0 h1).1
    (run s0 (h1 ++ [.snap k inTx] ++ h2 ++ [.restore k viaR])).1.db = mark sA.nextId sA.db ∧
    (run s0 (h1 ++ [.snap k inTx] ++ h2 ++ [.restore k viaR])).1.db.content = sA.db.content := by
  intro sA
  have key : (run s0 (h1 ++ [.snap k inTx] ++ h2 ++ [.restore k viaR])).1.db = mark sA.nextId sA.db :=
    run_restore_kept s0 h1 h2 _ k viaR _ (lookup_store_same _ _ _) hk
  exact ⟨key, by rw [key]; rfl⟩

/-- the snapshot operation reports the id it wrote: the observation of `snap` carries `nextId` -/
theorem snapshot_reports_id (s : Sys) (k : Nat) (inTx : Bool) :
    (step s (.snap k inTx)).2 = .snapped s.nextId s.db := rfl

/-- **snapshot id kept.**  After the restore, GetSnapshotId reports the id returned by Snapshot. -/
theorem snapshot_id_kept (s0 : Sys) (h1 h2 : List Op) (k : Nat) (inTx : Bool) (viaR : Reader) (hk : KeepsSlot k h2) :
    let sA := (run s0 h1).1
    (step (run s0 (h1 ++ [.snap k inTx] ++ h2 ++ [.restore k viaR])).1 .gsid).2 = .sid (some sA.nextId) :=
  (marked_reports (restore_snapshot s0 h1 h2 k inTx viaR hk).1).1

/-- **restore listeners fire**, each registered listener exactly once per restore. -/
theorem restore_fires_listeners (s : Sys) (k : Nat) (viaR : Reader) (f : Db) (hf : lookup k s.files = some f) :
    (step s (.restore k viaR)).1.fired = s.fired + s.listeners ∧
    (step s (.restore k viaR)).2 = .restored (s.fired + s.listeners) f := by
  simp [step, hf]

/-- **timeline once.**  In a state whose reset marker is set (as it is after restoring a marked
    snapshot, see `restore_snapshot`), the first GetTimelineId request — in any mode, with a working
    `idF` — calls `idF` exactly once and returns that fresh id; after any further history without
    another restore or forced reset, every request in `default` or `initIfEmpty` mode returns the
    same id and does not call `idF`. -/
theorem timeline_once (s : Sys) (hrt : s.db.mt.rt = some true) (m : Mode) :
    (step s (.gtl m true)).2 = .tl (some (s.idf + 1)) 1 ∧
    ∀ (h : List Op), (∀ o ∈ h, o.quiet = true) → ∀ (m' : Mode) (ok : Bool), m' ≠ .forceReset →
      (step (run (step s (.gtl m true)).1 h).1 (.gtl m' ok)).2 = .tl (some (s.idf + 1)) 0 := by
  have hfresh : step s (.gtl m true) = _ := getTimeline_fresh s m hrt
  rw [hfresh]
  refine ⟨rfl, fun h hq m' ok hm' => ?_⟩
  exact congrArg Prod.snd (getTimeline_settled (run_quiet_settled _ h _ hq ⟨rfl, rfl⟩) hm' ok)

/-- the two together: after `A; snapshot; …; restore` the reset marker is set, hence `timeline_once` applies -/
theorem restore_then_timeline_fresh (s0 : Sys) (h1 h2 : List Op) (k : Nat) (inTx : Bool) (viaR : Reader) (hk : KeepsSlot k h2)
    (m : Mode) :
    let s := (run s0 (h1 ++ [.snap k inTx] ++ h2 ++ [.restore k viaR])).1
    (step s (.gtl m true)).2 = .tl (some (s.idf + 1)) 1 :=
  (marked_reports (restore_snapshot s0 h1 h2 k inTx viaR hk).1).2 m

/-- **stream route.**  StreamToWriter + RestoreFromReader reproduce the database exactly (content
    and meta; no markers are written on this route). -/
theorem stream_restore_exact (s0 : Sys) (h1 h2 : List Op) (k : Nat) (viaR : Reader) (hk : KeepsSlot k h2) :
    (run s0 (h1 ++ [.stream k] ++ h2 ++ [.restore k viaR])).1.db = (run s0 h1).1.db :=
  run_restore_kept s0 h1 h2 _ k viaR _ (lookup_store_same _ _ _) hk

/-- **model ⊨ spec, all histories.**  `specHolds` is the property's clauses evaluated on an observed
    trace (restored dump = dump at snapshot time modulo the markers; id kept; listeners fired; next
    timeline request fresh exactly once, then stable) — the same function the check applies to the
    IMPLEMENTATION's observations on every run.  Every trace of the model satisfies it. -/
theorem model_meets_spec (h : List Op) : specHolds h (run {} h).2 = true :=
  let ⟨_, h1, _⟩ := rel_run {} {} h Rel_init
  congrArg Option.isSome h1

/-- the run-time oracle (`specFirstFail`, which also names the failing operation) accepts exactly the
    traces `specHolds` accepts, so it accepts every model trace -/
theorem oracle_accepts_model (h : List Op) : specFirstFail {} h (run {} h).2 0 = none :=
  (specFirstFail_none_iff {} h _ 0).mpr (model_meets_spec h)

/-! ## The restore in stages, with the caller re-entering through the reader (C17/Staged.lean) -/

/-- **stage 1 is transparent.**  For every reader behaviour, every queue of calls and every choice of
    positions: the temporary file is the snapshot file, every queued call has been issued, and system
    and observations are those of the calls made one after the other on the state in which
    RestoreFromReader was entered. -/
theorem persist_stage_transparent (s : Sys) (f : Db) (rd : Reader) (cbs : List Cb) :
    (stagePersist s f rd cbs).tmp = encodeDb f ∧
    (stagePersist s f rd cbs).pending = [] ∧
    (stagePersist s f rd cbs).sys = (run s (cbs.map Cb.act)).1 ∧
    (stagePersist s f rd cbs).obs = (run s (cbs.map Cb.act)).2 :=
  stagePersist_transparent s f rd cbs

/-- **the staged restore in closed form**: calls; swap in the file held by the slot AT ENTRY; fire. -/
theorem staged_restore_closed_form (s : Sys) (k : Nat) (rd : Reader) (cbs : List Cb) (f : Db)
    (hf : lookup k s.files = some f) :
    xstep s (.restoreCb k rd cbs) =
      ({ (run s (cbs.map Cb.act)).1 with
           db := f, prev := some (run s (cbs.map Cb.act)).1.db,
           fired := (run s (cbs.map Cb.act)).1.fired + (run s (cbs.map Cb.act)).1.listeners },
       .restoredCb (run s (cbs.map Cb.act)).2
         ((run s (cbs.map Cb.act)).1.fired + (run s (cbs.map Cb.act)).1.listeners) f) :=
  xstep_restoreCb s k rd cbs f hf

/-- **all interleaving points.**  Where in the stream the calls are issued, and how the reader
    chops the stream up, is irrelevant: two restores that issue the same calls in the same order
    are the same step (state and every observation). -/
theorem staged_restore_position_independent (s : Sys) (k : Nat) (rd rd' : Reader) (cbs cbs' : List Cb)
    (h : cbs.map Cb.act = cbs'.map Cb.act) :
    xstep s (.restoreCb k rd cbs) = xstep s (.restoreCb k rd' cbs') := by
  cases hf : lookup k s.files with
  | none => rw [xstep_restoreCb_nofile s k rd cbs hf, xstep_restoreCb_nofile s k rd' cbs' hf]
  | some f => rw [xstep_restoreCb s k rd cbs f hf, xstep_restoreCb s k rd' cbs' f hf, h]

/-- **after the restore every observation is the restored snapshot's**, whatever was called (and
    whatever those calls returned or changed) while the snapshot was streaming in — the calls may
    write, request timeline ids, take snapshots even into slot `k`, restore other snapshots: the live
    database is the file slot `k` held when RestoreFromReader was entered, a full dump shows it,
    GetSnapshotId reports its id, and its reset marker decides the next timeline request. -/
theorem staged_restore_installs (s : Sys) (k : Nat) (rd : Reader) (cbs : List Cb) (f : Db)
    (hf : lookup k s.files = some f) :
    let S := (xstep s (.restoreCb k rd cbs)).1
    S.db = f ∧
    (step S .dump).2 = .dump f ∧
    (step S .gsid).2 = .sid (if f.mt.present then f.mt.sid else none) ∧
    (f.mt.rt = some true → ∀ m, (step S (.gtl m true)).2 = .tl (some (S.idf + 1)) 1) := by
  intro S
  have hS : S.db = f := by simp only [S, xstep_restoreCb s k rd cbs f hf]
  refine ⟨hS, by simp [step, hS], by simp [step, hS], ?_⟩
  intro hrt m
  exact (timeline_once S (by rw [hS]; exact hrt) m).1

/-- … in particular the live database does not depend on the calls at all: it is the one the plain
    restore (no calls, any reader) produces -/
theorem staged_restore_db_eq_plain (s : Sys) (k : Nat) (rd rd' : Reader) (cbs : List Cb) :
    (xstep s (.restoreCb k rd cbs)).1.db = (step s (.restore k rd')).1.db := by
  cases hf : lookup k s.files with
  | none => rw [xstep_restoreCb_nofile s k rd cbs hf]; simp [step, hf]
  | some f => rw [xstep_restoreCb s k rd cbs f hf]; simp [step, hf]

/-- a restore whose reader issues no call is the restore of the sequential model -/
theorem staged_restore_nil (s : Sys) (k : Nat) (rd : Reader) :
    (xstep s (.restoreCb k rd [])).1 = (step s (.restore k rd)).1 := by
  cases hf : lookup k s.files with
  | none => rw [xstep_restoreCb_nofile s k rd [] hf]; simp [step, hf]
  | some f => rw [xstep_restoreCb s k rd [] f hf]; simp [step, hf, run]

/-- the enlarged model is conservative: on histories of `plain` operations it is the sequential model -/
theorem staged_extends_plain (s : Sys) (h : List Op) :
    xrun s (h.map .plain) = ((run s h).1, (run s h).2.map .plain) := by
  induction h generalizing s with
  | nil => rfl
  | cons o os ih => simp [xrun, run, xstep, ih]

/-- **calls made during the stream see the OLD database in full**: reading calls return what they
    would have returned before RestoreFromReader was entered (none of them sees the incoming snapshot,
    or a half-swapped state) -/
theorem calls_during_stream_see_old (s : Sys) (k : Nat) (rd : Reader) (ps : List Pos) (as : List RoAct) (f : Db)
    (hf : lookup k s.files = some f) (hl : ps.length = as.length) :
    (xstep s (.restoreCb k rd ((ps.zip as).map fun pa => ⟨pa.1, pa.2.toOp⟩))).2 =
      .restoredCb (as.map (roObs s)) (s.fired + s.listeners) f := by
  have hm : ((ps.zip as).map fun pa => (⟨pa.1, pa.2.toOp⟩ : Cb)).map Cb.act = as.map RoAct.toOp := by
    rw [List.map_map]
    have : (Cb.act ∘ fun (pa : Pos × RoAct) => (⟨pa.1, pa.2.toOp⟩ : Cb)) = (RoAct.toOp ∘ Prod.snd) := rfl
    rw [this, ← List.map_map, List.map_snd_zip (by omega)]
  rw [xstep_restoreCb s k rd _ f hf, hm, run_ro]

/-- **restore ∘ snapshot, staged.**  The headline over histories of the enlarged vocabulary (restores
    with calls from inside their readers, transactions with reading calls around the copy, in `h1`
    and `h2` as well) and a final restore whose reader issues ANY calls at ANY positions. -/
theorem staged_restore_snapshot (s0 : Sys) (h1 h2 : List XOp) (k : Nat) (inTx : Bool) (rd : Reader) (cbs : List Cb)
    (hk : XKeepsSlot k h2) :
    let sA := (xrun s0 h1).1
    (xrun s0 (h1 ++ [.plain (.snap k inTx)] ++ h2 ++ [.restoreCb k rd cbs])).1.db = mark sA.nextId sA.db ∧
    (xrun s0 (h1 ++ [.plain (.snap k inTx)] ++ h2 ++ [.restoreCb k rd cbs])).1.db.content = sA.db.content := by
  intro sA
  have key : (xrun s0 (h1 ++ [.plain (.snap k inTx)] ++ h2 ++ [.restoreCb k rd cbs])).1.db = mark sA.nextId sA.db :=
    xrun_restoreCb_kept s0 h1 h2 _ k rd cbs _ (lookup_store_same _ _ _) hk
  exact ⟨key, by rw [key]; rfl⟩

/-- **snapshot id kept, staged**: whatever GetSnapshotId (or anything else) returned while the snapshot
    was streaming in, after the restore it reports the id the snapshot operation returned -/
theorem staged_snapshot_id_kept (s0 : Sys) (h1 h2 : List XOp) (k : Nat) (inTx : Bool) (rd : Reader) (cbs : List Cb)
    (hk : XKeepsSlot k h2) :
    let sA := (xrun s0 h1).1
    (step (xrun s0 (h1 ++ [.plain (.snap k inTx)] ++ h2 ++ [.restoreCb k rd cbs])).1 .gsid).2 = .sid (some sA.nextId) :=
  (marked_reports (staged_restore_snapshot s0 h1 h2 k inTx rd cbs hk).1).1

/-- **listeners, staged**: every listener registered when the swap is done — those registered from
    inside the reader included — is started once; invocations caused by restores nested in the reader
    are counted before -/
theorem staged_restore_fires_listeners (s : Sys) (k : Nat) (rd : Reader) (cbs : List Cb) (f : Db)
    (hf : lookup k s.files = some f) :
    let s1 := (run s (cbs.map Cb.act)).1
    (xstep s (.restoreCb k rd cbs)).1.fired = s1.fired + s1.listeners ∧
    (xstep s (.restoreCb k rd cbs)).1.listeners = s1.listeners := by
  intro s1
  rw [xstep_restoreCb s k rd cbs f hf]
  exact ⟨rfl, rfl⟩

/-- **timeline once, staged**: `timeline_once` with the continuation ranging over the enlarged
    vocabulary (no further restore, no forced reset) -/
theorem staged_timeline_once (s : Sys) (hrt : s.db.mt.rt = some true) (m : Mode) :
    (step s (.gtl m true)).2 = .tl (some (s.idf + 1)) 1 ∧
    ∀ (h : List XOp), (∀ o ∈ h, o.quiet = true) → ∀ (m' : Mode) (ok : Bool), m' ≠ .forceReset →
      (step (xrun (step s (.gtl m true)).1 h).1 (.gtl m' ok)).2 = .tl (some (s.idf + 1)) 0 := by
  have hfresh : step s (.gtl m true) = _ := getTimeline_fresh s m hrt
  rw [hfresh]
  refine ⟨rfl, fun h hq m' ok hm' => ?_⟩
  exact congrArg Prod.snd (getTimeline_settled (xrun_quiet_settled _ h _ hq ⟨rfl, rfl⟩) hm' ok)

/-- after `A; snapshot; …; restore with calls from inside the reader` — GetTimelineId calls in any
    mode among them, which settle the OLD database's timeline — the next request is fresh, once -/
theorem staged_restore_then_timeline_fresh (s0 : Sys) (h1 h2 : List XOp) (k : Nat) (inTx : Bool) (rd : Reader)
    (cbs : List Cb) (hk : XKeepsSlot k h2) (m : Mode) :
    let s := (xrun s0 (h1 ++ [.plain (.snap k inTx)] ++ h2 ++ [.restoreCb k rd cbs])).1
    (step s (.gtl m true)).2 = .tl (some (s.idf + 1)) 1 :=
  (marked_reports (staged_restore_snapshot s0 h1 h2 k inTx rd cbs hk).1).2 m

/-- **model ⊨ spec over the enlarged vocabulary, all histories.**  `xspecHolds` judges a restore with
    calls from inside its reader by: the calls like any other operation (against the bookkeeping at
    entry), then the restore clauses against what the slot held AT ENTRY. -/
theorem staged_model_meets_spec (h : List XOp) : xspecHolds h (xrun {} h).2 = true :=
  xrel_run {} {} h Rel_init

theorem staged_oracle_accepts_model (h : List XOp) : xspecFirstFail {} h (xrun {} h).2 0 = none :=
  (xspecFirstFail_none_iff {} h _ 0).mpr (staged_model_meets_spec h)

/-- **obligation on the regenerated field list** (Generated/DbLocks.lean, from `type DbImpl struct` and
    the package-level variables of boltz/db.go now): a DbImpl carries no state besides the handle, the
    lock and the listener slices — nothing read from the file is kept outside the file, so nothing
    observed during the stream can survive the swap, which is what the model's `Sys` assumes. -/
theorem dbimpl_state_modelled : stateModelled Generated.dbImplFields Generated.dbGoPackageVars = true := by decide +kernel

/-- non-vacuity of the hypotheses: a staged restore whose reader polls the snapshot id on its first
    Read, requests a timeline id mid-stream, writes, snapshots INTO THE SLOT BEING RESTORED and
    registers a listener at EOF, over a database that already carries snapshot id 1 — the poll sees
    id 1, afterwards the database reports id 2 and the content of snapshot 2 -/
example :
    let h : List XOp := [.plain (.tx [.put 0 1] true), .plain (.snap 0 false), .plain (.restore 0 {}), .plain .gsid,
      .plain (.tx [.put 0 2] true), .plain (.snap 1 false), .plain (.tx [.put 0 3] true),
      .restoreCb 1 { chunk := 0, eofWithData := true }
        [⟨.first, .gsid⟩, ⟨.at 500, .gtl .default true⟩, ⟨.at 500, .tx [.put 5 1] true⟩, ⟨.eof, .snap 1 false⟩, ⟨.eof, .listen⟩],
      .plain .gsid, .plain .dump]
    (xrun {} h).2.drop 7 =
      [.restoredCb [.sid (some 1), .tl (some 1) 1, .ok,
                    .snapped 3 { content := [(0, 3), (5, 1)], mt := { present := true, sid := some 1, rt := some false, tl := some 1 } }, .ok]
         1 { content := [(0, 2)], mt := { present := true, sid := some 2, rt := some true, tl := none } },
       .plain (.sid (some 2)),
       .plain (.dump { content := [(0, 2)], mt := { present := true, sid := some 2, rt := some true, tl := none } })] := by
  decide +kernel

/-- why `dbimpl_state_modelled` matters — the design of the seeded change C17-4, in small: GetSnapshotId
    answers from a field of the DbImpl when it is filled and fills it otherwise; RestoreFromReader
    empties the field on ENTRY (before stage 1).  A poll during the stream refills it from the old
    database, and after the swap the old id is reported although the file carries the new one. -/
def cachedPoll (cache : Option Nat) (live : Db) : Option Nat × Option Nat :=   -- (cache afterwards, reported id)
  match cache with
  | some id => (some id, some id)
  | none => let r := if live.mt.present then live.mt.sid else none; (r, r)

example :
    let old : Db := { mt := { present := true, sid := some 1 } }
    let new : Db := { mt := { present := true, sid := some 2 } }
    let cacheAtEntry : Option Nat := none                       -- `self.snapshotId.Store(nil)` at the top
    let duringStream := cachedPoll cacheAtEntry old             -- a poll from inside the reader
    (cachedPoll duringStream.1 new).2 = some 1 ∧                -- after the swap: the OLD id
    (cachedPoll cacheAtEntry new).2 = some 2 := by              -- without the poll: correct
  decide

/-! ## "fresh id exactly once" under concurrent requests (C17/TimelineConc.lean) -/

/-- **timeline once, concurrently.**  After a restore (reset marker set), for ANY number of
    GetTimelineId requests in `default` / `initIfEmpty` mode running the code's program (decision and
    action in one Update transaction) and for EVERY interleaving of their steps — every prefix of
    it too: idF is called at most once; whoever has finished returned that one fresh id; and once
    every requester has had its turn, exactly one id was generated and every request returned it. -/
theorem timeline_once_concurrent (sys : Sys) (hrt : sys.db.mt.rt = some true) (ms : List Mode)
    (hms : ∀ m ∈ ms, m ≠ Mode.forceReset) (sched : List Nat) :
    let s := texec (tinit sys [.atomic] ms) sched
    (∀ r ∈ s.reqs, ∀ ret, r = .done ret → ret = some (sys.idf + 1) ∧ s.sys.idf = sys.idf + 1) ∧
    s.sys.idf ≤ sys.idf + 1 ∧
    ((∀ i, i < ms.length → i ∈ sched) → ms ≠ [] →
      s.sys.idf = sys.idf + 1 ∧ s.sys.db.mt.tl = some (sys.idf + 1) ∧ ∀ r ∈ s.reqs, r = .done (some (sys.idf + 1))) := by
  intro s
  have h0 := tinit_fresh sys hrt ms hms
  have hinv : TInv sys.idf s := texec_inv sys.idf _ sched h0
  have hlen : s.reqs.length = ms.length := by simp [s, texec_length, tinit]
  refine ⟨?_, ?_, ?_⟩
  · intro r hr ret hret
    rcases hinv with ⟨_, _, hall⟩ | ⟨_, hidf, hall⟩
    · obtain ⟨m, _, hm⟩ := hall r hr
      rw [hm] at hret; cases hret
    · rcases hall r hr with ⟨m, _, hm⟩ | hd
      · rw [hm] at hret; cases hret
      · rw [hd] at hret; cases hret; exact ⟨rfl, hidf⟩
  · rcases hinv with ⟨_, hidf, _⟩ | ⟨_, hidf, _⟩
    · exact hidf ▸ Nat.le_succ _
    · exact Nat.le_of_eq hidf
  · intro hall hne
    have hdone : ∀ r ∈ s.reqs, r = .done (some (sys.idf + 1)) := by
      intro r hr
      obtain ⟨i, hi, hget⟩ := List.mem_iff_getElem.mp hr
      have := texec_scheduled_done sys.idf _ sched h0 i (hall i (by omega)) (by simpa [tinit] using (by omega : i < ms.length))
      rw [List.getElem?_eq_getElem hi, hget] at this
      exact Option.some.inj this
    have hpos : 0 < s.reqs.length := by
      rw [hlen]; exact List.length_pos_iff.mpr hne
    rcases hinv with ⟨_, _, hw⟩ | ⟨hset, hidf, _⟩
    · -- somebody has finished, so this is not the fresh phase
      obtain ⟨m, _, hm⟩ := hw _ (List.getElem_mem hpos)
      rw [hdone _ (List.getElem_mem hpos)] at hm; cases hm
    · exact ⟨hidf, hset.2, hdone⟩

/-- **obligation on the regenerated table** (Generated/DbLocks.lean, `dbMetaOps`, from boltz/db.go now):
    GetTimelineId is ONE Update transaction that reads both markers, calls idF and writes both markers under
    a guard on the values read in that same transaction — i.e. the requester program `[atomic]` of
    `timeline_once_concurrent`.  Splitting it into a read-only check and a separate write breaks this. -/
theorem timeline_steps_expected : readTlProgram (MetaOps.get Generated.dbMetaOps "GetTimelineId") = some [.atomic] := by decide +kernel

/-- … and GetSnapshotId is one View, MarkAsSnapshot writes both markers in one Update -/
theorem marker_steps_expected : markerStepsExpected Generated.dbMetaOps = true := by decide +kernel

/-- hence for the code's program as regenerated -/
theorem code_timeline_once_concurrent (prog : List TlAct) (hp : readTlProgram (MetaOps.get Generated.dbMetaOps "GetTimelineId") = some prog)
    (sys : Sys) (hrt : sys.db.mt.rt = some true) (ms : List Mode) (hms : ∀ m ∈ ms, m ≠ Mode.forceReset) (sched : List Nat)
    (hall : ∀ i, i < ms.length → i ∈ sched) (hne : ms ≠ []) :
    (texec (tinit sys prog ms) sched).sys.idf = sys.idf + 1 ∧
    ∀ r ∈ (texec (tinit sys prog ms) sched).reqs, r = .done (some (sys.idf + 1)) := by
  rw [timeline_steps_expected] at hp
  cases hp
  have := (timeline_once_concurrent sys hrt ms hms sched).2.2 hall hne
  exact ⟨this.1, this.2.2⟩

/-- not vacuous, and why the table obligation matters — the check-then-act split (seeded C17-6: a View
    that reads the markers, the decision outside, then an Update that generates and stores
    unconditionally): two requests, both checks before either write ⇒ TWO fresh ids, the requests
    return different ids.  Run one after the other the same program behaves like the code. -/
theorem split_program_generates_twice :
    let sys : Sys := { db := { mt := { present := true, sid := some 1, rt := some true } } }
    let s := texec (tinit sys [.check, .act] [.default, .default]) [0, 1, 0, 1]
    s.sys.idf = 2 ∧ s.reqs = [.done (some 1), .done (some 2)] := by decide +kernel

example :
    let sys : Sys := { db := { mt := { present := true, sid := some 1, rt := some true } } }
    let s := texec (tinit sys [.check, .act] [.default, .default]) [0, 0, 1, 1]
    s.sys.idf = 1 ∧ s.reqs = [.done (some 1), .done (some 1)] := by decide +kernel

/-- the reading of the seeded change's table is that split program -/
example : readTlProgram [.tx .view [.read .resetTimeline, .read .timelineId], .decide [.resetTimeline, .timelineId],
    .decide [.timelineId], .tx .update [.idF, .read .timelineId, .write .timelineId, .write .resetTimeline]] = some [.check, .act] := by
  decide +kernel

/-- the hypotheses are satisfiable: four requesters, an interleaving with repeats and an out-of-range index -/
example :
    let sys : Sys := { idf := 3, db := { mt := { present := true, sid := some 1, rt := some true, tl := some 2 } } }
    let s := texec (tinit sys [.atomic] [.default, .initIfEmpty, .default, .initIfEmpty]) [2, 7, 0, 2, 3, 1]
    s.sys.idf = 4 ∧ s.reqs = List.replicate 4 (.done (some 4)) := by decide +kernel

/-- **no mixed view.**  For every set of threads — any number of transactions whose programs are
    balanced with reads under a read hold (re-entrant ones included), any number of restores — and
    every interleaving (any list of scheduling choices): every read of every transaction sees the
    database generation that was open when the transaction took its outermost read lock, and never a
    closed handle.  Hence a transaction's whole extent lies before or after the swap. -/
theorem no_mixed_view (ts : List Thread) (hts : ∀ t ∈ ts, t.initial = true) (sched : List Nat) :
    anyMixed (exec (init ts) sched) = false :=
  not_mixed_of_Inv (Inv_exec (Inv_init hts) sched)

/-- the same, spelled out per read -/
theorem every_read_sees_pinned (ts : List Thread) (hts : ∀ t ∈ ts, t.initial = true) (sched : List Nat)
    (p : List TxAct) (d : Nat) (pin : Option Nat) (obs : List (Option Nat × Option Nat))
    (ht : Thread.tx p d pin obs ∈ (exec (init ts) sched).threads) :
    ∀ o ∈ obs, ∃ g, o.1 = some g ∧ o.2 = some g := by
  have hinv := (Inv_exec (Inv_init hts) sched).thr _ ht
  intro o ho
  obtain ⟨h1, h2⟩ := hinv.2.2.2 o ho
  cases h : o.1 with
  | none => rw [h] at h1; simp at h1
  | some g => exact ⟨g, rfl, by rw [h2, h]⟩

/-- the write lock really is exclusive in every reachable state: while a restore is between Close and
    Open (handle closed) or anywhere inside its critical section, nobody holds a read lock -/
theorem swap_excludes_readers (ts : List Thread) (hts : ∀ t ∈ ts, t.initial = true) (sched : List Nat) :
    ((exec (init ts) sched).g.held = true → (exec (init ts) sched).g.readers = 0) ∧
    ((exec (init ts) sched).g.isOpen = false → (exec (init ts) sched).g.readers = 0) := by
  have hinv := Inv_exec (Inv_init hts) sched
  generalize exec (init ts) sched = s at hinv
  refine ⟨hinv.excl, ?_⟩
  intro hclosed
  apply hinv.excl
  have hc := hinv.closed
  have hh := hinv.held
  have := sumBy_le inClosed_le_inHeld s.threads
  cases hg : s.g.held with
  | true => rfl
  | false =>
    simp [hg, hclosed] at hc hh
    omega

/-- **no deadlock without re-entrant read locking.**  If no transaction takes the read lock while it
    already holds it, then in every reachable state either every thread has finished or some thread
    can move: transactions and restores always complete under a fair scheduler. -/
theorem no_deadlock_flat (ts : List Thread) (hts : ∀ t ∈ ts, t.initialFlat = true) (sched : List Nat) :
    stuck (exec (init ts) sched) = false :=
  not_stuck_of_Inv (Inv_exec (Inv_init_flat hts).1 sched) (AllFlat_exec (Inv_init_flat hts).2 sched)

/-- **completion under a fair scheduler.**  Without re-entrant read locking, round-robin scheduling
    (every thread gets a turn in every pass) finishes every transaction and every restore within
    `work` passes, `work` = total number of steps the threads have to take.  (Each pass performs at
    least one step by `no_deadlock_flat`; each step is work done.) -/
theorem flat_population_completes (ts : List Thread) (hts : ∀ t ∈ ts, t.initialFlat = true) :
    allDone (exec (init ts) (roundRobin ts.length (work (init ts)))) = true :=
  rounds_complete (Inv_init_flat hts).1 (Inv_init_flat hts).2 (work (init ts)) (Nat.le_refl _)

/-- RestoreFromReader / RestoreSnapshot have the shape the model's restore thread follows: persist
    outside the lock; Lock; Close, Rename, Rename, Open; go listener(); deferred Unlock. -/
theorem restore_under_write_lock : restoreModelled Generated.dbLockPrograms = true := by decide +kernel

/-- every transaction entry point reads as a balanced program with its bolt transaction / file copy
    under a read hold — the hypothesis of `no_mixed_view` holds of the code's programs. -/
theorem tx_entry_points_guarded : txProgsGuarded Generated.dbLockPrograms = true := by decide +kernel

/-- hence: any population of threads running the code's entry points and restores never sees a
    mixed view, under any interleaving -/
theorem code_no_mixed_view (names : List String) (nRestores : Nat) (sched : List Nat)
    (hn : ∀ n ∈ names, n ∈ txEntryPoints) :
    anyMixed (exec (init (names.filterMap (fun n => (txProg Generated.dbLockPrograms n).map mkTx) ++
        List.replicate nRestores (.restore .persist))) sched) = false := by
  apply no_mixed_view
  refine forall_population (P := (·.initial = true)) (fun n hnm p hp => ?_) rfl nRestores
  have := List.all_eq_true.mp tx_entry_points_guarded n (hn n hnm)
  rw [hp] at this
  exact this

/-- obligation on the regenerated tables: every method a transaction body calls — the ones taking the
    transaction as a parameter (SnapshotInTx, RootBucket, Update / Batch with the running context) and the
    ones the repository calls inside a transaction body (Migrate: GetDefaultSnapshotPath) — takes no read
    lock on its in-transaction path: `RLock; tx; <method>; RUnlock` is flat. -/
theorem in_tx_apis_take_no_read_lock : inTxApisFlat Generated.dbInTxApis Generated.dbInTxPrograms = true := by decide +kernel

/-- obligation on the regenerated table, for EVERY exported DbImpl method: a method that opens no bolt
    transaction of its own on its in-transaction path (a helper a transaction body may call: RootBucket,
    SnapshotInTx, GetDefaultSnapshotPath, nested Update / Batch, AddRestoreListener, AddTxCompleteListener,
    MarkAsSnapshot, and whatever is added later) takes no reload lock there — `Stats` excepted (`lockByDesign`). -/
theorem helpers_take_no_read_lock : helpersLockFree Generated.dbInTxPrograms = true := by decide +kernel

/-- hence: any population of transactions each calling one of those methods from inside its body, and
    any number of restores, under any interleaving, is never stuck -/
theorem code_in_tx_call_no_deadlock (names : List String) (nRestores : Nat) (sched : List Nat)
    (hn : ∀ n ∈ names, n ∈ Generated.dbInTxApis.map Prod.fst) :
    stuck (exec (init (names.filterMap (fun n => (inTxProg Generated.dbInTxPrograms n).map mkTx) ++
        List.replicate nRestores (.restore .persist))) sched) = false := by
  apply no_deadlock_flat
  refine forall_population (P := (·.initialFlat = true)) (fun n hnm p hp => ?_) rfl nRestores
  obtain ⟨a, ha, rfl⟩ := List.mem_map.mp (hn n hnm)
  have := List.all_eq_true.mp in_tx_apis_take_no_read_lock a ha
  rw [hp] at this
  exact this

/-- not vacuous: a method that takes the read lock itself (the seeded C17-15 reading of
    GetDefaultSnapshotPath: `rlock, runlock`) called from inside a transaction body, with a restore
    announcing its write lock between the transaction's RLock and the call: stuck -/
example : flat 0 (inTxCall [.rlock, .runlock]) = false := by decide
example : stuck (exec (init [mkTx (inTxCall [.rlock, .runlock]), .restore .persist]) [0, 0, 1, 1]) = true := by decide
example : (inTxProg Generated.dbInTxPrograms "GetDefaultSnapshotPath").map (flat 0) = some true := by decide +kernel

/-- the hypotheses are satisfiable by the interesting population: two readers, a snapshotter and
    two restores; and a real interleaving gets somewhere (both restores complete) -/
example : let ts := [mkTx [.rlock, .read, .read, .runlock], mkTx [.rlock, .read, .runlock],
                     mkTx [.rlock, .rlock, .read, .runlock, .runlock], .restore .persist, .restore .persist]
    (∀ t ∈ ts, t.initial = true) ∧ (exec (init ts) [0, 3, 3, 0, 0, 0, 3, 3, 3, 3, 3, 3, 1, 4, 4, 1, 1, 4, 4, 4, 4, 4, 4]).g.gen = 2 := by
  decide +kernel

/-- the theorem is not vacuous: WITHOUT the write lock (restore swapping files outside the lock) a
    mixed view is reachable — a reader sees generation 0, then the swapped-in generation 1 -/
example : anyMixed (execNoLock (init [mkTx [.rlock, .read, .read, .runlock], .restore .persist])
    [0, 0, 1, 1, 1, 1, 1, 0]) = true := by decide

/-- … and a closed handle is reachable too -/
example : anyMixed (execNoLock (init [mkTx [.rlock, .read, .runlock], .restore .persist])
    [0, 1, 1, 1, 1, 0]) = true := by decide

/-- COUNTER-EXAMPLE KEPT FOR THE RECORD — the protocol BEFORE /repo commit 1716f6e:
    `Snapshot` = `View` (RLock) around `SnapshotInTx`, which took the read lock AGAIN (and
    `RootBucket(tx)` did the same inside any transaction).  With a restore arriving between the two
    RLock calls the system is stuck: the snapshotter's second RLock waits behind the announced
    writer, the writer waits for the snapshotter's first hold.  The trace [0,0,1,1] below is that
    schedule (thread 0: RLock, begin bolt tx; thread 1: persist, announce Lock); the resulting
    state is reachable and has no enabled thread.  The program is balanced and guarded (`wf`), so
    `no_mixed_view` covered it — it was a liveness defect, which is why `no_deadlock_flat` needs
    flatness.  (program as regenerated from the old code: rlock, dbtx, rlock, copy, runlock, runlock) -/
def snapshotProgramBefore1716f6e : List TxAct := [.rlock, .read, .rlock, .read, .runlock, .runlock]

theorem old_protocol_deadlock_reachable :
    stuck (exec (init [mkTx snapshotProgramBefore1716f6e, .restore .persist]) [0, 0, 1, 1]) = true := by decide
example : flat 0 snapshotProgramBefore1716f6e = false := by decide
example : wf 0 snapshotProgramBefore1716f6e = true := by decide
/-- the same for a transaction calling the old RootBucket(tx) -/
example : stuck (exec (init [mkTx [.rlock, .read, .rlock, .runlock, .runlock], .restore .persist]) [0, 0, 1, 1]) = true := by decide

/-- obligation on the regenerated table: the two methods that are called with a transaction in hand
    (i.e. under that transaction's read hold) do not take the read lock themselves -/
theorem no_reentrant_read_lock :
    (takesReadLock Generated.dbLockPrograms "SnapshotInTx" || takesReadLock Generated.dbLockPrograms "RootBucket") = false := by
  decide +kernel

/-- obligation on the regenerated table: every transaction entry point — `Snapshot` included — takes
    the read lock exactly once around its bolt transaction -/
theorem all_entry_points_flat : ∀ n ∈ txEntryPoints, txProgFlat Generated.dbLockPrograms n = true := by decide +kernel

theorem code_population_flat (names : List String) (nRestores : Nat) (hn : ∀ n ∈ names, n ∈ txEntryPoints) :
    ∀ t ∈ names.filterMap (fun n => (txProg Generated.dbLockPrograms n).map mkTx) ++
        List.replicate nRestores (.restore .persist), t.initialFlat = true := by
  refine forall_population (P := (·.initialFlat = true)) (fun n hnm p hp => ?_) rfl nRestores
  have := all_entry_points_flat n (hn n hnm)
  rw [txProgFlat, hp] at this
  exact this

/-- **no deadlock for the code's protocol.**  Any population of threads running the code's
    transaction entry points (as regenerated) and any number of restores, under any interleaving,
    is never stuck: in every reachable state everybody has finished or somebody can move. -/
theorem code_no_deadlock (names : List String) (nRestores : Nat) (sched : List Nat)
    (hn : ∀ n ∈ names, n ∈ txEntryPoints) :
    stuck (exec (init (names.filterMap (fun n => (txProg Generated.dbLockPrograms n).map mkTx) ++
        List.replicate nRestores (.restore .persist))) sched) = false :=
  no_deadlock_flat _ (code_population_flat names nRestores hn) sched

/-- … and completes under round-robin scheduling -/
theorem code_population_completes (names : List String) (nRestores : Nat) (hn : ∀ n ∈ names, n ∈ txEntryPoints) :
    let ts := names.filterMap (fun n => (txProg Generated.dbLockPrograms n).map mkTx) ++
        List.replicate nRestores (.restore .persist)
    allDone (exec (init ts) (roundRobin ts.length (work (init ts)))) = true :=
  flat_population_completes _ (code_population_flat names nRestores hn)

/-- non-vacuity of `code_no_deadlock`: the population that used to deadlock (a snapshotter, a
    reader, two restores) now runs to completion under a concrete schedule -/
example :
    let ts := (["Snapshot", "View"].filterMap (fun n => (txProg Generated.dbLockPrograms n).map mkTx)) ++
              List.replicate 2 (.restore .persist)
    ts.length = 4 ∧
    allDone (exec (init ts) [0, 0, 2, 2, 0, 0, 2, 2, 2, 2, 2, 1, 3, 3, 1, 1, 3, 3, 3, 3, 3]) = true := by
  decide +kernel

/-! ## The path argument of Snapshot / SnapshotInTx (C17/Paths.lean) -/

/-- **the file under the returned path is the marked copy, nothing else is touched** — for EVERY template
    (any placeholders, in any number, in either form, or none), every clock / db location, every
    directory content: the call returns the expansion, the file under the returned path is the copy
    with the two markers, every other file of the directory is as before. -/
theorem snapshot_path_file_marked (e : Env) (tmpl : Path) (id : Nat) (copy : Db) (fs : PFS) :
    (snapshotInTx e tmpl id copy fs).1 = expand e tmpl ∧
    lookupP (snapshotInTx e tmpl id copy fs).1 (snapshotInTx e tmpl id copy fs).2 = some (mark id copy) ∧
    ∀ q, q ≠ (snapshotInTx e tmpl id copy fs).1 →
      lookupP q (snapshotInTx e tmpl id copy fs).2 = lookupP q fs := by
  simp only [snapshotInTx, pathUseCode]
  generalize expand e tmpl = p
  exact ⟨rfl, snapshotFiles_same p id copy fs, fun q hq => snapshotFiles_other p q id copy fs hq⟩

/-- **exactly the uses of the path that agree are correct.**  For an arbitrary assignment of paths to
    the three uses (CopyFile, MarkAsSnapshot, returned value): the file under the returned path is
    the marked copy for every id / database / directory IFF the copy and the markers went to the
    returned path. -/
theorem path_use_correct_iff (u : PathUse) :
    (∀ id copy fs, lookupP u.returned (snapshotFiles u id copy fs).2 = some (mark id copy)) ↔
    (u.copyTo = u.returned ∧ u.markAt = u.returned) := by
  obtain ⟨c, m, r⟩ := u
  constructor
  · intro h
    -- one instance decides: a non-empty copy into the empty directory.  Markers written elsewhere leave the returned
    -- file unmarked or absent; a copy written elsewhere leaves it an empty marked database
    have h0 := h 1 { content := [(0, 0)] } []
    simp only [snapshotFiles, markAsSnapshot, copyFile] at h0
    by_cases hm : m = r
    · subst hm
      rw [lookupP_storeP_same] at h0
      by_cases hc : c = m
      · exact ⟨hc, rfl⟩
      · have hc' : m ≠ c := fun hh => hc hh.symm
        simp [storeP, lookupP, hc', mark] at h0
    · have hm' : r ≠ m := fun hh => hm hh.symm
      rw [lookupP_storeP_other _ _ _ _ hm'] at h0
      by_cases hc : r = c
      · subst hc; simp [storeP, lookupP, mark] at h0
      · simp [storeP, lookupP, hc] at h0
  · intro ⟨h1, h2⟩ id copy fs
    simp only at h1 h2
    subst h1 h2
    exact snapshotFiles_same _ _ _ _

/-- a template without `D` and `T` (every placeholder contains one of them) is its own expansion:
    with a plain path the argument and the expansion are the same string -/
theorem expand_plain_path (e : Env) (p : Path) (hD : 'D' ∉ p) (hT : 'T' ∉ p) : expand e p = p :=
  expand_plain e p hD hT

/-- **the path level refines the slot level**, for whole histories (each operation with the clock at
    which it is made), under any injective naming of paths: same database, same counters, same files,
    same observations.  Every sequential theorem above therefore speaks about histories whose
    snapshots are taken through templates, with slot = name of the expansion. -/
theorem path_level_refines_slots (code : Path → Nat) (hinj : ∀ a b, code a = code b → a = b)
    (ps : PSys) (s : Sys) (h : Sim code ps s) (hist : List (Env × POp)) :
    Sim code (prun ps hist).1 (run s (hist.map fun eo => eo.2.abs code eo.1)).1 ∧
    (prun ps hist).2.map PObs.abs = (run s (hist.map fun eo => eo.2.abs code eo.1)).2 := by
  induction hist generalizing ps s with
  | nil => exact ⟨h, rfl⟩
  | cons eo os ih =>
    obtain ⟨e, o⟩ := eo
    obtain ⟨h1, h2⟩ := pstep_refines code hinj e ps s o h
    obtain ⟨i1, i2⟩ := ih _ _ h1
    exact ⟨i1, by simp only [prun, run, List.map_cons, h2, i2]⟩

/-- **restore ∘ snapshot through a template.**  Every start state and directory, every history `h1`,
    a snapshot with ANY template at ANY clock, every further history `h2` that does not write the
    file the call returned (other templates, the same template at another second, other files),
    a restore of the file under the RETURNED path through any reader: the database is the one at
    snapshot time with exactly the two markers, GetSnapshotId reports the returned id, and the next
    timeline request calls idF once and returns the fresh id, in every mode. -/
theorem path_restore_snapshot (ps0 : PSys) (h1 h2 : List (Env × POp)) (e eR : Env) (tmpl : Path) (inTx : Bool)
    (rd : Reader) (hk : KeepsPath (expand e tmpl) h2) :
    let pA := (prun ps0 h1).1
    let fin := (prun ps0 (h1 ++ [(e, .snapT tmpl inTx)] ++ h2 ++ [(eR, .restoreFrom (expand e tmpl) rd)])).1
    (pstep e pA (.snapT tmpl inTx)).2 = .snappedAt (expand e tmpl) pA.base.nextId pA.base.db ∧
    fin.base.db = mark pA.base.nextId pA.base.db ∧
    (step fin.base .gsid).2 = .sid (some pA.base.nextId) ∧
    ∀ m, (step fin.base (.gtl m true)).2 = .tl (some (fin.base.idf + 1)) 1 := by
  intro pA fin
  have key : fin.base.db = mark pA.base.nextId pA.base.db :=
    prun_restore_kept ps0 h1 h2 e _ _ eR rd _ (snapshotFiles_same _ _ _ _) hk
  exact ⟨by simp only [pstep, snapshotInTx, snapshotFiles, pathUseCode], key, marked_reports key⟩

/-- non-vacuity + what the expansion does, decided: both forms of every placeholder, several at once,
    adjacent ones, the `__X__` form losing its underscores (it is replaced before the bare form), a
    bare placeholder between single underscores, lower case untouched, the text a replacement put
    in being seen by the later calls (a db directory called DATE) -/
def demoEnv : Env := { date := "20260930".toList, time := "155703".toList, dbDir := "/data".toList, dbFile := "ctrl.db".toList }
theorem demoEnv_chars : demoEnv = ⟨['2', '0', '2', '6', '0', '9', '3', '0'], ['1', '5', '5', '7', '0', '3'],
    ['/', 'd', 'a', 't', 'a'], ['c', 't', 'r', 'l', '.', 'd', 'b']⟩ := by
  unfold demoEnv
  rw [toList_literal (a := "20260930") rfl, toList_literal (a := "155703") rfl, toList_literal (a := "/data") rfl,
    toList_literal (a := "ctrl.db") rfl]
example : expand demoEnv "/backups/ctrl-DATE-TIME.db".toList = "/backups/ctrl-20260930-155703.db".toList :=
  expand_literal demoEnv_chars rfl rfl (by decide +kernel)
example : expand demoEnv "__DB_DIR__/__DB_FILE__-__DATE____TIME__".toList = "/data/ctrl.db-20260930155703".toList :=
  expand_literal demoEnv_chars rfl rfl (by decide +kernel)
example : expand demoEnv "DB_DIR/DB_FILE.DATETIME".toList = "/data/ctrl.db.20260930155703".toList :=
  expand_literal demoEnv_chars rfl rfl (by decide +kernel)
example : expand demoEnv "x_DATE_-date".toList = "x_20260930_-date".toList :=
  expand_literal demoEnv_chars rfl rfl (by decide +kernel)
example : expand demoEnv "DATE-DATE".toList = "20260930-20260930".toList :=
  expand_literal demoEnv_chars rfl rfl (by decide +kernel)
example : expand { demoEnv with dbDir := "/srv/DATE".toList } "__DB_DIR__/s".toList = "/srv/20260930/s".toList :=
  expand_literal (by rw [demoEnv_chars, toList_literal (a := "/srv/DATE") rfl]) rfl rfl (by decide +kernel)
example : expand demoEnv "/backups/plain.db".toList = "/backups/plain.db".toList :=
  expand_literal demoEnv_chars rfl rfl (by decide +kernel)

/-- the variant that keeps the expansion in a second variable and marks the ARGUMENT (seeded C17-18): with a
    template that has a placeholder the file under the returned path carries no marker at all, and a
    second file appears under the literal template; restoring the returned file reports no snapshot
    id and requests no timeline reset.  With a plain path the two variables are equal and nothing changes. -/
example :
    let u := pathUseSplit demoEnv "b-DATE".toList
    let r := snapshotFiles u 7 { content := [(0, 1)], mt := { present := true, tl := some 1, rt := some false } } []
    r.1 = "b-20260930".toList ∧
    (lookupP r.1 r.2).map (·.mt.sid) = some none ∧
    (lookupP r.1 r.2).map (·.mt.rt) = some (some false) ∧
    (lookupP "b-DATE".toList r.2).map (·.mt.sid) = some (some 7) ∧
    (lookupP "b-DATE".toList r.2).map (·.content) = some [] := by
  have h : expand demoEnv "b-DATE".toList = "b-20260930".toList := expand_literal demoEnv_chars rfl rfl (by decide +kernel)
  simp only [pathUseSplit, h]
  decide +kernel
example : pathUseSplit demoEnv "b-plain".toList = pathUseCode demoEnv "b-plain".toList := by
  have h := expand_plain demoEnv "b-plain".toList (by decide +kernel) (by decide +kernel)
  simp only [pathUseSplit, pathUseCode, h]
example : ¬ ((pathUseSplit demoEnv "b-DATE".toList).markAt = (pathUseSplit demoEnv "b-DATE".toList).returned) := by
  have h : expand demoEnv "b-DATE".toList = "b-20260930".toList := expand_literal demoEnv_chars rfl rfl (by decide +kernel)
  simp only [pathUseSplit, h]
  decide +kernel

/-- non-vacuity of `path_restore_snapshot`: a decided history — snapshot through a template, the same
    template a second later (another file), a stream into a third file, a write; restore of the first -/
example :
    let e1 := demoEnv
    let e2 := { demoEnv with time := "155704".toList }
    let hist : List (Env × POp) :=
      [(e1, .other (.tx [.put 0 1] true)), (e1, .other (.gtl .initIfEmpty true)),
       (e1, .snapT "s-DATE-TIME".toList false),
       (e2, .other (.tx [.put 0 2, .put 1 3] true)), (e2, .snapT "s-DATE-TIME".toList true), (e2, .streamTo "w".toList),
       (e2, .restoreFrom "s-20260930-155703".toList {}), (e2, .other .gsid), (e2, .other (.gtl .default true))]
    (prun {} hist).2.drop 6 =
      [.plain (.restored 0 { content := [(0, 1)], mt := { present := true, sid := some 1, rt := some true, tl := some 1 } }),
       .plain (.sid (some 1)), .plain (.tl (some 2) 1)] := by decide +kernel

/-- table obligation: SnapshotInTx rewrites ONE path variable by exactly the chain of ReplaceAll calls the model's
    `expand` is written after, and that variable after the last rewrite is what CopyFile receives, what
    MarkAsSnapshot receives and what is returned (`pathUseCode`) -/
theorem snapshot_path_program_expected :
    readPathProgram Generated.dbSnapshotPathOps = some codeReplacements := by decide +kernel

/-- hence the expansion read off the code is the model's, for every clock / location and every template -/
theorem code_expansion_is_model (e : Env) (p : Path) :
    (readPathProgram Generated.dbSnapshotPathOps).bind (fun r => expandTable e r p) = some (expand e p) := by
  rw [snapshot_path_program_expected]; rfl

/-- the table of the seeded variant (expansion kept in a second variable, the argument still marked) does not read -/
example : readPathProgram [.assign "target" 1 "self.resolveSnapshotPath(path)", .copy "target" 1, .mark "path" 0,
    .ret "target" 1] = none := by decide +kernel
/-- marking before the last rewrite does not read either -/
example : readPathProgram [.replace "path" 1 "DATE" "date", .copy "path" 1, .replace "path" 2 "TIME" "time",
    .mark "path" 2, .ret "path" 2] = none := by decide +kernel
example : readPathProgram [.copy "path" 0, .mark "path" 0, .ret "path" 0] = some [] := by decide

end StorageModel.Properties.C17
