import StorageModel.C05.Sim
import StorageModel.C05.SelfW
import StorageModel.C05.Self
import StorageModel.C05.SchemaHist
import StorageModel.C05.KeySize
import StorageModel.C05.Restrict
/-
  C05 — Link collections stay symmetric; ref-counted links agree on both sides.

  "For many-to-many link collections, after any committed history of add, remove, set-links and
  entity deletions, B is in A's link set if and only if A is in B's; set-links leaves exactly the
  requested set (duplicates and order are irrelevant) and linking to a missing entity fails.  For
  reference-counted links both sides always hold the same positive count, and the link disappears
  from both sides when the count reaches zero or either entity is deleted."

  The theorems are about the executable model in StorageModel/C05/Model.lean, which follows
  boltz/link_collection.go, boltz/link_collection_rc.go, the list-entry / link-count functions of
  boltz/typed_bucket.go and Create/Update/DeleteById of boltz/store_crud.go branch by branch
  (paired writes local side first, the literal sorted-merge loop of SetLinks, int32 counts with
  explicit wrap-around), for every key type with a strict total order — in particular byte
  strings under Go's string order (`KOrd Bytes`, proved in C05/Order.lean).  The correspondence
  harness runs that same model (compiled) against the real stores on every check.

  A history is a list of `Db.Update` bodies (`List (List (Op K))`); a body that returns an error
  is rolled back (`commitTx`).  Histories start from the empty database.
-/
set_option linter.unusedSectionVars false
namespace StorageModel.Properties.C05
open StorageModel StorageModel.C05

section
variable {K : Type} [KOrd K] [DecidableEq K]

/-- **After any committed history, B is in A's link set iff A is in B's.**  No hypothesis on the
    history: any operations (link, ref-count, create/update/delete, with any arguments, failing
    or not), any number of transactions. -/
theorem links_symmetric (h : List (List (Op K))) (a b : K) :
    b ∈ linksOf (runHist ([] : St K) h) (.A, a) ↔ a ∈ linksOf (runHist ([] : St K) h) (.B, b) :=
  (runHist_lInv lInv_nil h).sym .A a b

/-- consequence: a link never points to an entity that does not exist (no dangling link survives
    a committed history) -/
theorem links_point_to_existing (h : List (List (Op K))) (sd : Side) (a b : K)
    (hm : b ∈ linksOf (runHist ([] : St K) h) (sd, a)) :
    exists? (runHist ([] : St K) h) (sd.other, b) = true :=
  exists_of_mem_linksOf (((runHist_lInv lInv_nil h).sym sd a b).mp hm)

/-- after every committed history every link bucket is in key order without duplicates -/
theorem link_buckets_sorted (h : List (List (Op K))) (r : Ref K) :
    SSorted (linksOf (runHist ([] : St K) h) r) :=
  (runHist_lInv lInv_nil h).sorted r

/-- **set-links leaves exactly the requested set.**  For every state whose link buckets are
    symmetric and in key order (every state a history can reach, see `setlinks_exact_reachable`),
    every entity `id` that exists and EVERY request list `req` — any order, any duplicates, any
    overlap with the current links — all of whose keys exist on the other side:
    `SetLinks` succeeds; afterwards the link bucket of `id` is `dedup (sort req)`; on the other side
    exactly the requested entities list `id`; no other link set of `id`'s store changes. -/
theorem setlinks_exact {s : St K} (hinv : LInv s) {sd : Side} {id : K} {req : List K}
    (hid : exists? s (sd, id) = true) (hall : ∀ k ∈ req, exists? s (sd.other, k) = true) :
    (setLinks s sd id req).2 = none ∧
    linksOf (setLinks s sd id req).1 (sd, id) = dedupK (sortK req) ∧
    (∀ b, id ∈ linksOf (setLinks s sd id req).1 (sd.other, b) ↔ b ∈ req) ∧
    (∀ x, x ≠ id → ∀ y, y ∈ linksOf (setLinks s sd id req).1 (sd, x) ↔ y ∈ linksOf s (sd, x)) := by
  obtain ⟨h1, h2, h3⟩ := setLinks_ok hinv.sorted hid hall
  refine ⟨h1, h2, ?_, h3⟩
  intro b
  have := setLinks_sym hinv.sym h1 sd id b
  rw [← this, h2, mem_dedup_sort]

/-- the same, phrased on the key lists only: the current bucket content `cur` (strictly sorted,
    hence duplicate free) and the request decide the result -/
theorem setlinks_exact_lists {s : St K} (hinv : LInv s) {sd : Side} {id : K} {cur req : List K}
    (_hcur : linksOf s (sd, id) = cur) (_hsorted : SSorted cur) (_hnodup : cur.Nodup)
    (hid : exists? s (sd, id) = true) (hall : ∀ k ∈ req, exists? s (sd.other, k) = true) :
    linksOf (setLinks s sd id req).1 (sd, id) = dedupK (sortK req) :=
  (setlinks_exact hinv hid hall).2.1

theorem setlinks_exact_reachable (h : List (List (Op K))) {sd : Side} {id : K} {req : List K}
    (hid : exists? (runHist ([] : St K) h) (sd, id) = true)
    (hall : ∀ k ∈ req, exists? (runHist ([] : St K) h) (sd.other, k) = true) :
    (setLinks (runHist ([] : St K) h) sd id req).2 = none ∧
    linksOf (setLinks (runHist ([] : St K) h) sd id req).1 (sd, id) = dedupK (sortK req) ∧
    (∀ b, id ∈ linksOf (setLinks (runHist ([] : St K) h) sd id req).1 (sd.other, b) ↔ b ∈ req) :=
  let r := setlinks_exact (runHist_lInv lInv_nil h) hid hall
  ⟨r.1, r.2.1, r.2.2.1⟩

/-- `dedup (sort req)` is the set of `req`: same members, strictly increasing -/
theorem dedup_sort_is_the_set (req : List K) :
    SSorted (dedupK (sortK req)) ∧ ∀ x, x ∈ dedupK (sortK req) ↔ x ∈ req :=
  ⟨ssorted_dedup_sort req, fun _ => mem_dedup_sort⟩

/-- **linking to a missing entity fails**: a `SetLinks` request that names an entity which does
    not exist returns not-found … -/
theorem setlinks_missing {s : St K} (hinv : LInv s) {sd : Side} {id : K} {req : List K}
    (hid : exists? s (sd, id) = true) (hmiss : ∃ k ∈ req, exists? s (sd.other, k) = false) :
    (setLinks s sd id req).2 = some .notFound :=
  setLinks_missing hinv.sym hinv.sorted hid hmiss

/-- … and so do `AddLinks`, `AddLink`, `IncrementLinkCount` and `SetLinkCount` … -/
theorem addlinks_missing {s : St K} {sd : Side} {id : K} {keys : List K}
    (hid : exists? s (sd, id) = true) (hmiss : ∃ k ∈ keys, exists? s (sd.other, k) = false) :
    (addLinks s sd id keys).2 = some .notFound := by
  rw [addLinks_unfold keys hid]; exact linkAll_missing sd id keys s hmiss

theorem addlink_missing {s : St K} {sd : Side} {id k : K}
    (hid : exists? s (sd, id) = true) (hmiss : exists? s (sd.other, k) = false) :
    (addLink s sd id k).2.2 = some .notFound := by
  rw [addLink_unfold k hid, link_err, hmiss]; rfl

theorem increment_missing {s : St K} {sd : Side} {id k : K}
    (hid : exists? s (sd, id) = true) (hmiss : exists? s (sd.other, k) = false) :
    (rcIncr s sd id k).2.2 = some .notFound := rcIncr_missing_other hid hmiss

theorem setcount_missing {s : St K} {sd : Side} {id k : K} (c : Int)
    (hid : exists? s (sd, id) = true) (hmiss : exists? s (sd.other, k) = false) :
    (rcSet s sd id k c).2.2.2 = some .notFound := rcSet_missing_other c hid hmiss

/-- … and a transaction whose body fails leaves the database as it was. -/
theorem failed_tx_changes_nothing {s : St K} {ops : List (Op K)} (h : (runOps s ops).2 = true) :
    commitTx s ops = s := commitTx_failed h

/-- **Both sides always hold the same positive count**, after every committed history inside the
    property's vocabulary: `SetLinkCount` arguments are ≥ 0 (`HistVocab`) and counts stay below
    2^31 — stated on the history alone: the sum of all `SetLinkCount` arguments plus the number
    of increments (`histWeight`) is < 2^31. -/
theorem rc_agree (h : List (List (Op K))) (hv : HistVocab h) (hw : histWeight h < 2147483648) (a b : K) :
    rcOf (runHist ([] : St K) h) (.A, a) b = rcOf (runHist ([] : St K) h) (.B, b) a ∧
    ∀ c, rcOf (runHist ([] : St K) h) (.A, a) b = some c → 0 < c ∧ c < 2147483648 := by
  have := runHist_rcInv h hv hw
  refine ⟨this.1 .A a b, fun c hc => ?_⟩
  have := this.2 _ _ _ hc
  omega

/-- the hypothesis of `rc_agree` is necessary: at 2^31 - 1 the int32 count wraps to a negative
    number (the model follows the Go arithmetic) -/
example : (bucketIncr ({ rc := [((5 : Nat), 2147483647)] } : Ent Nat) 5).2 = -2147483648 := by decide +kernel

/-- **The link disappears from both sides when the count reaches zero** (by `DecrementLinkCount`):
    in every state satisfying the invariant, a decrement of an existing entity's count succeeds,
    returns the old count minus one (−1 if there was none), and whenever that is ≤ 0 neither side
    holds an entry afterwards; otherwise both sides hold the decremented count. -/
theorem rc_zero_removes {s : St K} {w : Int} (hinv : RcInv s w) (hw : w < 2147483648) {sd : Side} {id k : K}
    (hid : exists? s (sd, id) = true) :
    (rcDecr s sd id k).2.2 = none ∧
    ((rcDecr s sd id k).2.1 ≤ 0 →
      rcOf (rcDecr s sd id k).1 (sd, id) k = none ∧ rcOf (rcDecr s sd id k).1 (sd.other, k) id = none) ∧
    ((rcDecr s sd id k).2.1 > 0 →
      rcOf (rcDecr s sd id k).1 (sd, id) k = some (rcDecr s sd id k).2.1 ∧
      rcOf (rcDecr s sd id k).1 (sd.other, k) id = some (rcDecr s sd id k).2.1) := by
  obtain ⟨h1, h2⟩ := rcDecr_ok (k := k) hinv hw hid
  have hloc := h2 sd id k
  have hoth := h2 sd.other k id
  simp only [if_true, and_self] at hloc
  simp only [Side.other_ne, false_and, if_false, if_true, and_self] at hoth
  rw [h1, hloc, hoth]
  cases rcOf s (sd, id) k with
  | none => simp [decrRet, decrValue]
  | some c => simp [decrRet, decrValue]; omega

/-- … and by `SetLinkCount(…, 0)`; a positive argument stores that count on both sides -/
theorem rc_set_both_sides {s : St K} {sd : Side} {id k : K} (c : Int) (hc0 : 0 ≤ c) (hc : c < 2147483648)
    (hid : exists? s (sd, id) = true) (hk : exists? s (sd.other, k) = true) :
    (rcSet s sd id k c).2.2.2 = none ∧
    rcOf (rcSet s sd id k c).1 (sd, id) k = (if c = 0 then none else some c) ∧
    rcOf (rcSet s sd id k c).1 (sd.other, k) id = (if c = 0 then none else some c) := by
  obtain ⟨h1, h2⟩ := rcSet_ok c hc0 hc hid hk
  refine ⟨by rw [h1], ?_, ?_⟩
  · rw [h2]; simp
  · rw [h2]; simp

/-- an increment inside the vocabulary stores the same new count on both sides -/
theorem rc_increment_both_sides {s : St K} {w : Int} (hinv : RcInv s w) (hw : w + 1 < 2147483648)
    {sd : Side} {id k : K} (hid : exists? s (sd, id) = true) (hk : exists? s (sd.other, k) = true) :
    ∃ n, (rcIncr s sd id k).2 = (n, none) ∧ 0 < n ∧
      rcOf (rcIncr s sd id k).1 (sd, id) k = some n ∧ rcOf (rcIncr s sd id k).1 (sd.other, k) id = some n := by
  obtain ⟨n, h1, hn, h2⟩ := rcIncr_ok hinv hw hid hk
  refine ⟨n, h1, ?_, ?_, ?_⟩
  · rw [hn]; cases hc : rcOf s (sd, id) k with
    | none => simp
    | some c => have := hinv.2 _ _ _ hc; simp only; omega
  · rw [h2]; simp
  · rw [h2]; simp

/-- **The link disappears from both sides when either entity is deleted**: after a successful
    `DeleteById` from a state satisfying the invariants, the entity is gone, no link set and no
    count map of the other store mentions its id, and nothing else changed. -/
theorem delete_unlinks {s : St K} {w : Int} (hl : LInv s) (hr : RcInv s w) {sd : Side} {id : K}
    (hid : exists? s (sd, id) = true) :
    (deleteEntity s sd id).2 = none ∧
    exists? (deleteEntity s sd id).1 (sd, id) = false ∧
    linksOf (deleteEntity s sd id).1 (sd, id) = [] ∧
    (∀ x, id ∉ linksOf (deleteEntity s sd id).1 (sd.other, x)) ∧
    (∀ x, rcOf (deleteEntity s sd id).1 (sd.other, x) id = none ∧ rcOf (deleteEntity s sd id).1 (sd, id) x = none) ∧
    (∀ x y, y ≠ id → (y ∈ linksOf (deleteEntity s sd id).1 (sd.other, x) ↔ y ∈ linksOf s (sd.other, x))) ∧
    (∀ x, x ≠ id → linksOf (deleteEntity s sd id).1 (sd, x) = linksOf s (sd, x)) := by
  have hgone : exists? (deleteEntity s sd id).1 (sd, id) = false := by rw [exists_deleteEntity hid]; simp
  have hm := mem_deleteEntity hl.sym hid
  refine ⟨by rw [deleteEntity_found hid], hgone, linksOf_of_not_exists hgone, ?_, ?_, ?_, ?_⟩
  · intro x hx
    exact ((hm _ _ _).mp hx).2.2 (by rw [Side.other_other])
  · intro x
    exact ⟨by rw [rcOf_deleteEntity hr hid, if_pos (Or.inr (by rw [Side.other_other]))], rcOf_of_not_exists hgone x⟩
  · intro x y hy
    rw [hm]
    exact ⟨fun h => h.1, fun h => ⟨h, fun e => Side.other_ne sd (Prod.mk.inj e).1, fun e => hy (Prod.mk.inj e).2⟩⟩
  · intro x hx
    apply ssorted_ext (deleteEntity_allSorted hl.sorted (sd, x)) (hl.sorted (sd, x))
    intro y
    rw [hm]
    exact ⟨fun h => h.1, fun h => ⟨h, fun e => hx (Prod.mk.inj e).2, fun e => Side.other_ne sd (Prod.mk.inj e).1⟩⟩

/-- deletion from any state a history inside the vocabulary can reach -/
theorem delete_unlinks_reachable (h : List (List (Op K))) (hv : HistVocab h) (hw : histWeight h < 2147483648)
    {sd : Side} {id : K} (hid : exists? (runHist ([] : St K) h) (sd, id) = true) :
    let s' := (deleteEntity (runHist ([] : St K) h) sd id).1
    exists? s' (sd, id) = false ∧ (∀ x, id ∉ linksOf s' (sd.other, x)) ∧ (∀ x, rcOf s' (sd.other, x) id = none) := by
  obtain ⟨_, a, _, b, c, _⟩ := delete_unlinks (runHist_lInv lInv_nil h) (runHist_rcInv h hv hw) hid
  exact ⟨a, b, fun x => (c x).1⟩

/-- **For every history inside the vocabulary the committed state of the model is the state the
    specification prescribes** (C05/Spec.lean: ONE relation and ONE count map of which both sides'
    views are projections; set-links replaces a row by the requested set; linking to a missing
    entity fails; delete removes every pair that mentions the entity; a count reaching zero removes
    the pair; a failing operation fails its transaction, which then changes nothing): both show
    the same entities, the same sorted link list for every entity on either side and the same
    count for every pair from either side.  `step_sim` (C05/Sim.lean) is the single-operation
    statement, including equal return values and equal failure. -/
theorem model_refines_spec (h : List (List (Op K))) (hv : HistVocab h) (hw : histWeight h < 2147483648) :
    (∀ r, exists? (runHist ([] : St K) h) r = Spec.has (srunHist ({} : Spec.SSt K) h) r) ∧
    (∀ sd id, linksOf (runHist ([] : St K) h) (sd, id) = Spec.partners (srunHist ({} : Spec.SSt K) h) sd id) ∧
    (∀ sd id k, rcOf (runHist ([] : St K) h) (sd, id) k = Spec.count (srunHist ({} : Spec.SSt K) h) sd id k) := by
  have hr := runHist_sim (rel_nil (K := K)) h hv (by omega)
  exact ⟨hr.ents, fun sd id => (partners_eq hr sd id).symm, fun sd id k => (count_eq hr sd id k).symm⟩

/-! ## self-referential collections (`store.AddLinkCollection(peers, peers)`; model: C05/SelfW.lean)

  An entity can be linked to itself, and `EntityDeleted`'s `RemoveLink(id, id)` deletes from the very
  bucket whose keys it walks — the repaired code (b23d525) collects the keys first. -/

open SelfW in
/-- **symmetry for every history** of a self-referential collection (create, create-with-links,
    delete, AddLinks, RemoveLinks, SetLinks, AddLink, RemoveLink; self links included) -/
theorem self_links_symmetric (h : List (List (SelfW.SOp K))) (a b : K) :
    b ∈ SelfW.L (SelfW.srunHistW ([] : St K) h) a ↔ a ∈ SelfW.L (SelfW.srunHistW ([] : St K) h) b :=
  (SelfW.srunHistW_lInv SelfW.lInvW_nil h).sym a b

/-- **set-links leaves exactly the requested set**, whether or not the request, the current set or
    both contain the entity itself; exactly the requested entities list `id` afterwards -/
theorem self_setlinks_exact {s : St K} (hinv : SelfW.LInvW s) {id : K} {req : List K}
    (hid : exists? s (SelfW.R id) = true) (hall : ∀ k ∈ req, exists? s (SelfW.R k) = true) :
    (SelfW.ssetLinks s id req).2 = none ∧
    SelfW.L (SelfW.ssetLinks s id req).1 id = dedupK (sortK req) ∧
    (∀ b, id ∈ SelfW.L (SelfW.ssetLinks s id req).1 b ↔ b ∈ req) := by
  obtain ⟨h1, h2⟩ := SelfW.ssetLinks_ok hinv.sorted hid hall
  refine ⟨h1, h2, fun b => ?_⟩
  rw [← SelfW.ssetLinks_sym hinv.sym h1 id b, h2, mem_dedup_sort]

theorem self_setlinks_missing {s : St K} (hinv : SelfW.LInvW s) {id : K} {req : List K}
    (hid : exists? s (SelfW.R id) = true) (hmiss : ∃ k ∈ req, exists? s (SelfW.R k) = false) :
    (SelfW.ssetLinks s id req).2 = some .notFound :=
  SelfW.ssetLinks_missing hinv.sym hinv.sorted hid hmiss

/-- **a deleted entity disappears from every link set, also when it was linked to itself**: after
    `DeleteById` nobody lists `id`, `id` is gone, and every other membership is as before -/
theorem self_delete_unlinks {s : St K} (hinv : SelfW.LInvW s) {id : K} (hid : exists? s (SelfW.R id) = true) :
    (SelfW.sdelete s id).2 = none ∧
    exists? (SelfW.sdelete s id).1 (SelfW.R id) = false ∧
    (∀ x, id ∉ SelfW.L (SelfW.sdelete s id).1 x) ∧
    (∀ x y, x ≠ id → y ≠ id → (y ∈ SelfW.L (SelfW.sdelete s id).1 x ↔ y ∈ SelfW.L s x)) := by
  have hm := SelfW.mem_sdelete hinv.sym hid
  refine ⟨by rw [SelfW.sdelete_found hid], by rw [SelfW.exists_sdelete hid]; simp, ?_, ?_⟩
  · intro x hx
    exact ((hm x id).mp hx).2.2 rfl
  · intro x y hx hy
    rw [hm]
    exact ⟨fun h => h.1, fun h => ⟨h, hx, hy⟩⟩

theorem self_delete_unlinks_reachable (h : List (List (SelfW.SOp K))) {id : K}
    (hid : exists? (SelfW.srunHistW ([] : St K) h) (SelfW.R id) = true) (x : K) :
    id ∉ SelfW.L (SelfW.sdelete (SelfW.srunHistW ([] : St K) h) id).1 x :=
  (self_delete_unlinks (SelfW.srunHistW_lInv SelfW.lInvW_nil h) hid).2.2.1 x

/-! ## every schema (model: C05/Schema.lean)

  Which stores declare which link collections is configuration, and `DeleteById → cleanupLinks` walks
  exactly the registries.  The theorems below hold for EVERY list of declared collections (plain,
  reference-counted, self-referential; on root or child stores) and every history over it. -/

open Schema in
/-- **Every declared collection of every schema behaves like the two-store model**: after any
    committed history of store-level (Create / Update / DeleteById on any of the four stores) and
    collection-level operations, the field buckets of a plain or ref-counted collection are the
    committed state of a history of C05/Model.lean — so every theorem above about reachable states
    applies to it.  Inside the vocabulary that history is inside the vocabulary, and not heavier. -/
theorem schema_collection_is_two_store_model (sc : Schema) (h : List (List (GOp K))) {j : Nat} {c : Coll}
    (hj : sc.colls[j]? = some c) (hc : ∀ sd ch, c ≠ .self sd ch) :
    ∃ h' : List (List (Op K)), (grunHist sc (g0 : GSt K) h).slots j = runHist [] h' ∧
      (GHistVocab h → HistVocab h' ∧ histWeight h' ≤ ghistWeight h) :=
  slot_reachable sc h hj hc

open Schema in
/-- consequently every declared plain / ref-counted collection of every schema shows, after every
    history inside the vocabulary, exactly the two views of ONE relation and ONE count map (the
    relational spec of C05/Spec.lean run on the collection's own history) -/
theorem schema_collection_refines_spec (sc : Schema) (h : List (List (GOp K))) (hv : GHistVocab h)
    (hw : ghistWeight h < 2147483648) {j : Nat} {c : Coll} (hj : sc.colls[j]? = some c) (hc : ∀ sd ch, c ≠ .self sd ch) :
    ∃ h' : List (List (Op K)),
      (∀ r, exists? ((grunHist sc (g0 : GSt K) h).slots j) r = Spec.has (srunHist ({} : Spec.SSt K) h') r) ∧
      (∀ sd id, linksOf ((grunHist sc (g0 : GSt K) h).slots j) (sd, id) = Spec.partners (srunHist ({} : Spec.SSt K) h') sd id) ∧
      (∀ sd id k, rcOf ((grunHist sc (g0 : GSt K) h).slots j) (sd, id) k = Spec.count (srunHist ({} : Spec.SSt K) h') sd id k) := by
  obtain ⟨h', e, p⟩ := slot_reachable sc h hj hc
  refine ⟨h', ?_⟩
  rw [e]
  exact model_refines_spec h' (p hv).1 (by have := (p hv).2; omega)

open Schema in
theorem schema_self_collection_is_self_model (sc : Schema) (h : List (List (GOp K))) {j : Nat} {sd : Side} {ch : Bool}
    (hj : sc.colls[j]? = some (.self sd ch)) :
    ∃ h' : List (List (SelfW.SOp K)), (grunHist sc (g0 : GSt K) h).slots j = SelfW.srunHistW [] h' :=
  self_slot_reachable sc h hj

open Schema in
/-- the field buckets of a collection exist exactly inside the entity buckets of its two stores,
    a child-store entity lives inside a root-store entity, a plain collection stores no counts
    and a ref-counted one no link keys — after every history over every schema -/
theorem schema_coherent (sc : Schema) (h : List (List (GOp K))) : GInv sc (grunHist sc (g0 : GSt K) h) :=
  (reach_hist (reach_g0 (K := K) sc) h).inv

open Schema in
theorem Schema.slot_lInv (sc : Schema) (h : List (List (GOp K))) {j : Nat} {ca cb : Bool}
    (hj : sc.colls[j]? = some (.plain ca cb)) : LInv ((grunHist sc (g0 : GSt K) h).slots j) := by
  obtain ⟨h', e, _⟩ := slot_reachable sc h hj (by intro sd ch e; cases e)
  rw [e]; exact runHist_lInv lInv_nil h'

open Schema in
theorem Schema.self_slot_lInv (sc : Schema) (h : List (List (GOp K))) {j : Nat} {sd : Side} {ch : Bool}
    (hj : sc.colls[j]? = some (.self sd ch)) : SelfW.LInvW ((grunHist sc (g0 : GSt K) h).slots j) := by
  obtain ⟨h', e⟩ := self_slot_reachable sc h hj
  rw [e]; exact SelfW.srunHistW_lInv SelfW.lInvW_nil h'

open Schema in
/-- **for every naming**: how the set symbols at the ends of the collections are named, under which
    key their buckets are stored and under which path prefix (`AddFkSymbolWithKey(name, key, store,
    prefix...)`), and whether a child store is extended, does not influence any operation — two
    schemas with the same declared collections run every history to the same state.  All `schema_*`
    theorems quantify over the whole `Schema`, naming included; what the naming does decide is where
    the buckets are (`Schema.bucketPath`, printed by the rendered dump and compared with the real
    bucket tree on every run; `Schema.wf` = the symbols of a store have different names and
    different, non-nested buckets). -/
theorem schema_naming_irrelevant (sc : Schema) (e : Side → Bool) (n : Nat → Side → Naming) (g : GSt K)
    (h : List (List (GOp K))) :
    grunHist { colls := sc.colls, ext := e, naming := n } g h = grunHist sc g h :=
  naming_irrelevant sc e n g h

open Schema in
/-- **symmetry, for every schema and every history**: in every declared plain collection, b is in
    a's link set iff a is in b's -/
theorem schema_links_symmetric (sc : Schema) (h : List (List (GOp K))) {j : Nat} {ca cb : Bool}
    (hj : sc.colls[j]? = some (.plain ca cb)) (a b : K) :
    b ∈ linksOf ((grunHist sc (g0 : GSt K) h).slots j) (.A, a) ↔
      a ∈ linksOf ((grunHist sc (g0 : GSt K) h).slots j) (.B, b) :=
  (Schema.slot_lInv sc h hj).sym .A a b

open Schema in
theorem schema_self_links_symmetric (sc : Schema) (h : List (List (GOp K))) {j : Nat} {sd : Side} {ch : Bool}
    (hj : sc.colls[j]? = some (.self sd ch)) (a b : K) :
    b ∈ SelfW.L ((grunHist sc (g0 : GSt K) h).slots j) a ↔ a ∈ SelfW.L ((grunHist sc (g0 : GSt K) h).slots j) b :=
  (Schema.self_slot_lInv sc h hj).sym a b

open Schema in
/-- no link of any collection points to an entity that its far-side store does not hold -/
theorem schema_links_point_to_existing (sc : Schema) (h : List (List (GOp K))) {j : Nat} {ca cb : Bool}
    (hj : sc.colls[j]? = some (.plain ca cb)) (sd : Side) (a b : K)
    (hm : b ∈ linksOf ((grunHist sc (g0 : GSt K) h).slots j) (sd, a)) :
    ∃ y, (Coll.plain ca cb).storeAt sd.other = some y ∧ (grunHist sc (g0 : GSt K) h).ents y b = true := by
  have hex := exists_of_mem_linksOf (((Schema.slot_lInv sc h hj).sym sd a b).mp hm)
  rw [(schema_coherent sc h).coh j _ hj sd.other b] at hex
  cases sd <;> exact ⟨_, rfl, hex⟩

open Schema in
/-- **both sides hold the same positive count, for every schema**: every declared ref-counted
    collection, every history inside the vocabulary (`SetLinkCount` arguments ≥ 0, total weight < 2^31) -/
theorem schema_rc_agree (sc : Schema) (h : List (List (GOp K))) (hv : GHistVocab h) (hw : ghistWeight h < 2147483648)
    {j : Nat} {ca cb : Bool} (hj : sc.colls[j]? = some (.rc ca cb)) (a b : K) :
    rcOf ((grunHist sc (g0 : GSt K) h).slots j) (.A, a) b = rcOf ((grunHist sc (g0 : GSt K) h).slots j) (.B, b) a ∧
    ∀ c, rcOf ((grunHist sc (g0 : GSt K) h).slots j) (.A, a) b = some c → 0 < c ∧ c < 2147483648 := by
  obtain ⟨h', e, p⟩ := slot_reachable sc h hj (by intro sd ch e; cases e)
  rw [e]; exact rc_agree h' (p hv).1 (by have := (p hv).2; omega) a b

open Schema in
/-- **set-links leaves exactly the requested set, in every collection of every schema**:
    `SetLinks` through the collection API on a reachable state, for an entity its store holds and
    any request list (order, duplicates irrelevant) naming entities the far-side store holds -/
theorem schema_setlinks_exact (sc : Schema) (h : List (List (GOp K))) {j : Nat} {ca cb : Bool}
    (hj : sc.colls[j]? = some (.plain ca cb)) {sd : Side} {x y : Store} {id : K} {req : List K}
    (hx : (Coll.plain ca cb).storeAt sd = some x) (hy : (Coll.plain ca cb).storeAt sd.other = some y)
    (hid : (grunHist sc (g0 : GSt K) h).ents x id = true)
    (hall : ∀ k ∈ req, (grunHist sc (g0 : GSt K) h).ents y k = true) :
    let o := gstep sc (grunHist sc (g0 : GSt K) h) (.link j (.setLinks sd id req))
    o.err = none ∧ linksOf (o.st.slots j) (sd, id) = dedupK (sortK req) ∧
      ∀ b, id ∈ linksOf (o.st.slots j) (sd.other, b) ↔ b ∈ req := by
  have hinv := schema_coherent sc h
  have r := setlinks_exact (Schema.slot_lInv sc h hj) (sd := sd) (id := id) (req := req)
    (by rw [hinv.coh j _ hj sd id, hx]; exact hid) (fun k hk => by rw [hinv.coh j _ hj sd.other k, hy]; exact hall k hk)
  simp only [gstep, hj, PlainOp.toOp, step, setSlot_same]
  exact ⟨r.1, r.2.1, r.2.2.1⟩

open Schema in
/-- **linking to a missing entity fails, in every collection of every schema** -/
theorem schema_setlinks_missing (sc : Schema) (h : List (List (GOp K))) {j : Nat} {ca cb : Bool}
    (hj : sc.colls[j]? = some (.plain ca cb)) {sd : Side} {x y : Store} {id : K} {req : List K}
    (hx : (Coll.plain ca cb).storeAt sd = some x) (hy : (Coll.plain ca cb).storeAt sd.other = some y)
    (hid : (grunHist sc (g0 : GSt K) h).ents x id = true)
    (hmiss : ∃ k ∈ req, (grunHist sc (g0 : GSt K) h).ents y k = false) :
    (gstep sc (grunHist sc (g0 : GSt K) h) (.link j (.setLinks sd id req))).err = some .notFound := by
  have hinv := schema_coherent sc h
  obtain ⟨k, hk, hm⟩ := hmiss
  have := setlinks_missing (Schema.slot_lInv sc h hj) (sd := sd) (id := id) (req := req)
    (by rw [hinv.coh j _ hj sd id, hx]; exact hid) ⟨k, hk, by rw [hinv.coh j _ hj sd.other k, hy]; exact hm⟩
  simp only [gstep, hj, PlainOp.toOp, step]
  exact this

open Schema in
theorem Schema.gdelete_unlinks_plain {sc : Schema} {g : GSt K} (hinv : GInv sc g) {x : Store} {id : K}
    (hok : (gdelete sc g x id).2 = none) {j : Nat} {ca cb : Bool} (hj : sc.colls[j]? = some (.plain ca cb))
    (hL : LInv (g.slots j)) (y : K) : id ∉ linksOf ((gdelete sc g x id).1.slots j) (x.side.other, y) := by
  intro hm
  rcases gdelete_slot_base hinv x id hok hj (by intro sd ch e; cases e) with ⟨hne, e⟩ | ⟨hex, e⟩ <;> rw [e] at hm
  · -- the slot never held the entity: by symmetry nobody listed it
    have := exists_of_mem_linksOf ((hL.sym x.side.other y id).mp hm)
    rw [Side.other_other, hne] at this; cases this
  · exact ((mem_deleteEntity hL.sym hex _ _ _).mp hm).2.2 (by rw [Side.other_other])

open Schema in
theorem Schema.gdelete_unlinks_rc {sc : Schema} {g : GSt K} (hinv : GInv sc g) {x : Store} {id : K}
    (hok : (gdelete sc g x id).2 = none) {j : Nat} {ca cb : Bool} (hj : sc.colls[j]? = some (.rc ca cb))
    {w : Int} (hR : RcInv (g.slots j) w) (y : K) :
    rcOf ((gdelete sc g x id).1.slots j) (x.side.other, y) id = none ∧
    rcOf ((gdelete sc g x id).1.slots j) (x.side, id) y = none := by
  rcases gdelete_slot_base hinv x id hok hj (by intro sd ch e; cases e) with ⟨hne, e⟩ | ⟨hex, e⟩ <;> rw [e]
  · -- the slot never held the entity: its own counts are absent, and by agreement so are the far side's
    exact ⟨by rw [hR.1 x.side.other y id, Side.other_other]; exact rcOf_of_not_exists hne y, rcOf_of_not_exists hne y⟩
  · rw [rcOf_deleteEntity hR hex, rcOf_deleteEntity hR hex, if_pos (Or.inr (by rw [Side.other_other])), if_pos (Or.inl rfl)]
    exact ⟨rfl, rfl⟩

open Schema in
theorem Schema.gdelete_unlinks_self {sc : Schema} {g : GSt K} (hinv : GInv sc g) {x : Store} {id : K}
    (hok : (gdelete sc g x id).2 = none) {j : Nat} {ch : Bool} (hj : sc.colls[j]? = some (.self x.side ch))
    (hW : SelfW.LInvW (g.slots j)) (y : K) : id ∉ SelfW.L ((gdelete sc g x id).1.slots j) y := by
  intro hm
  rcases gdelete_slot hinv x id hok hj with ⟨hf, _⟩ | ⟨s, y', hys, hsy, hcase⟩
  · exact absurd rfl ((famSide_eq_none_iff _ _).mp hf .A ch)
  · obtain rfl := sideOf_self hsy
    rcases hcase with ⟨hne, e⟩ | ⟨hex, e⟩ <;> rw [e] at hm
    · have hex := exists_of_mem_linksOf ((hW.sym y id).mp hm)
      rw [hne] at hex; cases hex
    · exact (self_delete_unlinks hW hex).2.2.1 y hm

open Schema in
/-- **`DeleteById` succeeds exactly when** the root store of the family holds the id — for every
    schema, also when the family's child store is EXTENDED, declares link collections and the entity
    has no extension data (before fix c784f90 that delete failed with `getFieldBucket`'s
    "… not found with id …") -/
theorem schema_delete_succeeds_iff (sc : Schema) (g : GSt K) (x : Store) (id : K) :
    (gdelete sc g x id).2 = none ↔ g.ents ⟨x.side, false⟩ id = true :=
  gdelete_succeeds_iff sc g x id

open Schema in
/-- a failing `DeleteById` changes nothing (even before the rollback) -/
theorem schema_delete_failure_changes_nothing {sc : Schema} {g : GSt K} {x : Store} {id : K} {e : Err}
    (h : (gdelete sc g x id).2 = some e) : (gdelete sc g x id).1 = g := gdelete_failure h

open Schema in
/-- **The link disappears from both sides when either entity is deleted — for every schema.**
    After any history, `DeleteById` of an entity the root store holds, through ANY store of its family
    (root store or child store, plain or extended), succeeds and leaves no store of the family
    holding the id, and no link set of any
    declared plain collection (whether registered on the root store or on the child store, and
    whatever else the stores declare or do not declare) and no link set of a self-referential
    collection of the family mentions the id … -/
theorem schema_delete_unlinks (sc : Schema) (h : List (List (GOp K))) (x : Store) (id : K)
    (hid : (grunHist sc (g0 : GSt K) h).ents ⟨x.side, false⟩ id = true) :
    let g' := (gdelete sc (grunHist sc (g0 : GSt K) h) x id).1
    (gdelete sc (grunHist sc (g0 : GSt K) h) x id).2 = none ∧
    (∀ ch, g'.ents ⟨x.side, ch⟩ id = false) ∧
    (∀ j ca cb, sc.colls[j]? = some (.plain ca cb) → ∀ y, id ∉ linksOf (g'.slots j) (x.side.other, y)) ∧
    (∀ j ch, sc.colls[j]? = some (.self x.side ch) → ∀ y, id ∉ SelfW.L (g'.slots j) y) := by
  have hinv := schema_coherent sc h
  have hok := (gdelete_succeeds_iff sc _ x id).mpr hid
  exact ⟨hok, gdelete_ents_gone hok, fun _ _ _ hj => Schema.gdelete_unlinks_plain hinv hok hj (Schema.slot_lInv sc h hj),
    fun _ _ hj => Schema.gdelete_unlinks_self hinv hok hj (Schema.self_slot_lInv sc h hj)⟩

open Schema in
/-- … and, inside the vocabulary, no count map of any declared reference-counted collection holds a
    count for the id any more: the deleted entity's store may have reference-counted collections
    only (no plain one), plain ones only, both, several, on the root or on the child store. -/
theorem schema_delete_unlinks_rc (sc : Schema) (h : List (List (GOp K))) (hv : GHistVocab h)
    (hw : ghistWeight h < 2147483648) (x : Store) (id : K)
    (hid : (grunHist sc (g0 : GSt K) h).ents ⟨x.side, false⟩ id = true) {j : Nat} {ca cb : Bool}
    (hj : sc.colls[j]? = some (.rc ca cb)) (y : K) :
    rcOf ((gdelete sc (grunHist sc (g0 : GSt K) h) x id).1.slots j) (x.side.other, y) id = none ∧
    rcOf ((gdelete sc (grunHist sc (g0 : GSt K) h) x id).1.slots j) (x.side, id) y = none := by
  have hinv := schema_coherent sc h
  obtain ⟨h', e, p⟩ := slot_reachable sc h hj (by intro sd ch e; cases e)
  have hR := runHist_rcInv h' (p hv).1 (by have := (p hv).2; omega)
  rw [← e] at hR
  have hok := (gdelete_succeeds_iff sc _ x id).mpr hid
  exact Schema.gdelete_unlinks_rc hinv hok hj hR y

/-! ### the key-size boundary of ids (model: C05/KeySize.lean)

  `Schema.gstepK big` is the model with bbolt's key-size limit (`big` = the id cannot be a link key): the
  operations that would store such a key fail, so their transaction is rolled back. -/

open Schema in
/-- with ids below the limit the model with bbolt's key-size limit IS the model above -/
theorem keysize_small_ids_unchanged (sc : Schema) (big : K → Bool) (g : GSt K) (op : GOp K)
    (h : ∀ k ∈ op.keys, big k = false) : gstepK sc big g op = liftOut (gstep sc g op) :=
  gstepK_small sc big g op h

end

/-! ## non-vacuity: concrete states and histories (keys = Nat) -/

/-- a history: create B.1 B.2 B.3 and A.7; link A.7 to {1,3}; set-links A.7 := [3,2,2,3] -/
def demoHist : List (List (Op Nat)) :=
  [[.create .B 1 false none, .create .B 2 false none, .create .B 3 false none, .create .A 7 false none],
   [.addLinks .A 7 [3, 1]],
   [.setLinks .A 7 [3, 2, 2, 3], .incr .A 7 2, .incr .B 2 7, .setCount .A 7 3 5, .decr .B 3 7]]

example : linksOf (runHist [] demoHist) (.A, 7) = [2, 3] := by decide +kernel
example : linksOf (runHist [] demoHist) (.B, 2) = [7] ∧ linksOf (runHist [] demoHist) (.B, 1) = [] := by decide +kernel
example : rcOf (runHist [] demoHist) (.A, 7) 2 = some 2 ∧ rcOf (runHist [] demoHist) (.B, 2) 7 = some 2 := by decide +kernel
example : rcOf (runHist [] demoHist) (.A, 7) 3 = some 4 ∧ rcOf (runHist [] demoHist) (.B, 3) 7 = some 4 := by decide +kernel
example : HistVocab demoHist ∧ histWeight demoHist < 2147483648 := by
  refine ⟨?_, by decide +kernel⟩
  intro tx htx op hop
  simp only [demoHist, List.mem_cons, List.mem_nil_iff, or_false] at htx
  rcases htx with rfl | rfl | rfl <;> simp only [List.mem_cons, List.mem_nil_iff, or_false] at hop
  all_goals (rcases hop with rfl | rfl | rfl | rfl | rfl <;> simp [OpVocab])
/-- hypotheses of `setlinks_exact` / `setlinks_missing` / `delete_unlinks` are satisfiable by a state with links -/
example : exists? (runHist [] demoHist) (.A, 7) = true ∧ exists? (runHist [] demoHist) (.B, 9) = false := by decide +kernel
example : (setLinks (runHist [] demoHist) .A 7 [9, 1]).2 = some .notFound := by decide +kernel
example : (linksOf (deleteEntity (runHist [] demoHist) .B 2).1 (.A, 7), rcOf (deleteEntity (runHist [] demoHist) .B 2).1 (.A, 7) 2)
    = ([3], none) := by decide +kernel

/-- create 1 2 3 and `AddLinks(1, 1, 2, 3)` (a self link) in one transaction; the examples below
    apply `DeleteById(1)` / `SetLinks` to the committed state -/
def selfHist : List (List (SelfW.SOp Nat)) :=
  [[.create 1 false none, .create 2 false none, .create 3 false none, .addLinks 1 [1, 2, 3]]]

example : SelfW.L (SelfW.srunHistW [] selfHist) 1 = [1, 2, 3] ∧ SelfW.L (SelfW.srunHistW [] selfHist) 2 = [1] := by decide +kernel
example : exists? (SelfW.srunHistW [] selfHist) (SelfW.R 1) = true := by decide +kernel
example : SelfW.L (SelfW.sdelete (SelfW.srunHistW [] selfHist) 1).1 2 = [] ∧
    SelfW.L (SelfW.sdelete (SelfW.srunHistW [] selfHist) 1).1 3 = [] := by decide +kernel
example : SelfW.L (SelfW.ssetLinks (SelfW.srunHistW [] selfHist) 2 [2, 3, 2]).1 2 = [2, 3] ∧
    SelfW.L (SelfW.ssetLinks (SelfW.srunHistW [] selfHist) 2 [2, 3, 2]).1 1 = [1, 3] := by decide +kernel

/-- Why the tree before b23d525 violated C05 in this wiring (C05/Self.lean models the old walk: a
    bbolt cursor standing on an in-memory node skips the key after a deleted current key): entity
    2 kept its link to the deleted entity 1. -/
example : Self.linksOf (Self.runHist false {} Self.witness) 2 = [1] ∧
    Self.mget (Self.runHist false {} Self.witness).ents 1 = none := by decide +kernel

open Schema in
/-- a schema whose two stores are related ONLY through a ref-counted collection (no store has a
    plain collection) -/
def rcOnly : Schema := { colls := [.rc false false] }

open Schema in
def rcOnlyHist : List (List (GOp Nat)) :=
  [[.create ⟨.A, false⟩ 1 false none, .create ⟨.B, false⟩ 7 false none, .count 0 (.setCount .A 1 7 3)],
   [.count 0 (.incr .B 7 1)]]

open Schema in
example : rcOf ((grunHist rcOnly g0 rcOnlyHist).slots 0) (.B, 7) 1 = some 4 ∧
    (grunHist rcOnly g0 rcOnlyHist).ents ⟨.A, false⟩ 1 = true := by decide +kernel
open Schema in
example : (gdelete rcOnly (grunHist rcOnly g0 rcOnlyHist) ⟨.A, false⟩ 1).2 = none ∧
    rcOf ((gdelete rcOnly (grunHist rcOnly g0 rcOnlyHist) ⟨.A, false⟩ 1).1.slots 0) (.B, 7) 1 = none := by decide +kernel
open Schema in
example : GHistVocab rcOnlyHist ∧ ghistWeight rcOnlyHist < 2147483648 := by
  refine ⟨?_, by decide +kernel⟩
  intro tx htx op hop
  simp only [rcOnlyHist, List.mem_cons, List.mem_nil_iff, or_false] at htx
  rcases htx with rfl | rfl <;> simp only [List.mem_cons, List.mem_nil_iff, or_false] at hop
  · rcases hop with rfl | rfl | rfl <;> simp [GOpVocab, RcOp.toOp, OpVocab]
  · subst hop; simp [GOpVocab, RcOp.toOp, OpVocab]

open Schema in
/-- a schema with a collection declared on the CHILD store of A (slot 0), one on the root stores
    (slot 1), a ref-counted one between the child of A and the child of B (slot 2) and a
    self-referential one on B (slot 3) -/
def mixed : Schema := { colls := [.plain true false, .plain false false, .rc true true, .self .B false] }

open Schema in
def mixedHist : List (List (GOp Nat)) :=
  [[.create ⟨.A, true⟩ 1 false none, .create ⟨.B, true⟩ 7 false none, .create ⟨.B, false⟩ 8 false (some (3, [7, 8]))],
   [.link 0 (.addLinks .A 1 [8, 7]), .link 1 (.addLink .B 7 1), .count 2 (.incr .A 1 7)],
   [.create ⟨.A, false⟩ 2 false none, .link 0 (.addLinks .A 2 [7])]]

open Schema in
example : linksOf ((grunHist mixed g0 mixedHist).slots 0) (.B, 7) = [1] ∧
    linksOf ((grunHist mixed g0 mixedHist).slots 1) (.A, 1) = [7] ∧
    rcOf ((grunHist mixed g0 mixedHist).slots 2) (.B, 7) 1 = some 1 ∧
    SelfW.L ((grunHist mixed g0 mixedHist).slots 3) 7 = [8] := by decide +kernel
open Schema in
/-- the third transaction failed (entity 2 is not held by the child store): rolled back -/
example : (grunHist mixed g0 mixedHist).ents ⟨.A, false⟩ 2 = false := by decide +kernel
open Schema in
/-- `DeleteById` through the ROOT store of A cleans the child store's collections too -/
example : let g' := (gdelete mixed (grunHist mixed g0 mixedHist) ⟨.A, false⟩ 1).1
    linksOf (g'.slots 0) (.B, 7) = [] ∧ linksOf (g'.slots 0) (.B, 8) = [] ∧ linksOf (g'.slots 1) (.B, 7) = [] ∧
    rcOf (g'.slots 2) (.B, 7) 1 = none ∧ g'.ents ⟨.A, true⟩ 1 = false := by decide +kernel
open Schema in
/-- deleting B.7 through the child store of B; B.8 keeps its link to itself -/
example : let g' := (gdelete mixed (grunHist mixed g0 mixedHist) ⟨.B, true⟩ 7).1
    linksOf (g'.slots 0) (.A, 1) = [8] ∧ linksOf (g'.slots 1) (.A, 1) = [] ∧ rcOf (g'.slots 2) (.A, 1) 7 = none ∧
    SelfW.L (g'.slots 3) 8 = [8] := by decide +kernel

open Schema in
/-- a naming: collection 0 (ref-counted, child store of A <-> root store B) has on A the symbol `crew`
    stored at `refs/crewCounts`, on B the symbol `ships` stored under the key `s`; collection 1 the plain
    symbols `f1` -/
def namedSchema : Schema :=
  { colls := [.rc true false, .plain false false],
    naming := fun i sd => match i, sd with
      | 0, .A => { name := "crew", key := "crewCounts", pre := ["refs"] }
      | 0, .B => { name := "ships", key := "s" }
      | _, _ => { name := "f1", key := "f1" } }

open Schema in
example : namedSchema.wf = true ∧ namedSchema.bucketPath 0 (.rc true false) .A = ["ext", "refs", "crewCounts"] ∧
    namedSchema.bucketPath 0 (.rc true false) .B = ["s"] := by decide +kernel
open Schema in
/-- ill-formed: two symbols of one store in the same bucket / nested buckets / same name -/
example : ({ colls := [.plain false false, .rc false false], naming := fun _ _ => { name := "x", key := "x" } } : Schema).wf = false ∧
    ({ colls := [.plain false false, .rc false false],
       naming := fun i _ => if i = 0 then { name := "x", key := "x" } else { name := "y", key := "z", pre := ["x"] } } : Schema).wf = false := by decide +kernel
open Schema in
example : let h : List (List (GOp Nat)) := [[.create ⟨.A, true⟩ 1 false none, .create ⟨.B, false⟩ 7 false none, .count 0 (.incr .A 1 7)]]
    rcOf ((grunHist namedSchema g0 h).slots 0) (.B, 7) 1 = some 1 ∧
    rcOf ((gdelete namedSchema (grunHist namedSchema g0 h) ⟨.A, false⟩ 1).1.slots 0) (.B, 7) 1 = none := by decide +kernel

open Schema in
/-- Extended child store with link collections (found by this check, repaired by c784f90): the child
    store of A is extended and declares collection 0; entity 1 is created through the ROOT store (no
    extension data) or through the child store, entity 7 in B and linked with 1 through the
    ref-counted collection 1 of the root stores.  `DeleteById(1)` succeeds through the root store as
    well as through the child store, and the count disappears from B.7. -/
def extSchema (ext : Bool) : Schema := { colls := [.plain true false, .rc false false], ext := fun sd => ext && sd == .A }

open Schema in
def extHist (x : Store) : List (List (GOp Nat)) :=
  [[.create x 1 false none, .create ⟨.B, false⟩ 7 false none, .count 1 (.incr .A 1 7)]]

open Schema in
example : (gdelete (extSchema true) (grunHist (extSchema true) g0 (extHist ⟨.A, false⟩)) ⟨.A, false⟩ 1).2 = none ∧
    (gdelete (extSchema true) (grunHist (extSchema true) g0 (extHist ⟨.A, false⟩)) ⟨.A, true⟩ 1).2 = none ∧
    (gdelete (extSchema true) (grunHist (extSchema true) g0 (extHist ⟨.A, true⟩)) ⟨.A, false⟩ 1).2 = none := by decide +kernel
open Schema in
example : rcOf ((grunHist (extSchema true) g0 (extHist ⟨.A, false⟩)).slots 1) (.B, 7) 1 = some 1 ∧
    rcOf ((gdelete (extSchema true) (grunHist (extSchema true) g0 (extHist ⟨.A, false⟩)) ⟨.A, true⟩ 1).1.slots 1) (.B, 7) 1 = none ∧
    (gdelete (extSchema true) (grunHist (extSchema true) g0 (extHist ⟨.A, false⟩)) ⟨.A, true⟩ 1).1.ents ⟨.A, false⟩ 1 = false := by decide +kernel

/-! ## Refused operations inside a transaction that carries on (model: C05/Restrict.lean)

  A caller may tolerate a REFUSED `DeleteById` and commit.  A delete refused by the restricting fk (or
  because the entity does not exist) has written nothing when it returns, so symmetry and agreement of
  counts survive histories that carry on after it.  Failures that do leave partial link writes are not
  tolerable in the model's histories: `ROp.tolerated` is true for `deleteT` only. -/
section
variable {K : Type} [KOrd K] [DecidableEq K]
open Schema Restrict

/-- **a refused delete leaves every link set and every count map, on both sides, exactly as it was —
    inside the transaction, not merely after a rollback**: for every schema, every state, through
    root or child store -/
theorem refused_delete_changes_no_links (rs : RSchema) (r : RSt K) (x : Store) (id : K) (e : RErr)
    (h : (rdelete rs r x id).err = some e) :
    (rdelete rs r x id).st = r ∧
    (∀ j ref, linksOf ((rdelete rs r x id).st.g.slots j) ref = linksOf (r.g.slots j) ref) ∧
    (∀ j ref k, rcOf ((rdelete rs r x id).st.g.slots j) ref k = rcOf (r.g.slots j) ref k) := by
  have := rdelete_err h
  exact ⟨this, fun j ref => by rw [this], fun j ref k => by rw [this]⟩

/-- the restricting fk does refuse: an entity of the referred root store that has a back-reference
    cannot be deleted, through either store of its family -/
theorem restricted_delete_refused (rs : RSchema) (r : RSt K) (x : Store) (id : K)
    (hid : r.g.ents ⟨x.side, false⟩ id = true) (hfk : rs.fk = some x.side.other) (p : K × K) (hp : p ∈ r.idx) (hpid : p.1 = id) :
    (rdelete rs r x id).err = some .referenced := by
  unfold rdelete
  have : r.idx.any (fun p => decide (p.1 = id)) = true := List.any_eq_true.mpr ⟨p, hp, by simp [hpid]⟩
  simp [hid, hfk, this]

/-- the only failures a history may carry on after are those that changed nothing -/
theorem tolerated_refusal_changes_nothing {rs : RSchema} {r : RSt K} {op : ROp K} {e : RErr}
    (ht : op.tolerated = true) (h : (rstep rs r op).err = some e) : (rstep rs r op).st = r :=
  Restrict.tolerated_refusal_changes_nothing ht h

theorem restrict_coherent (rs : RSchema) (h : List (List (ROp K))) : GInv rs.sc (rrunHist rs (r0 : RSt K) h).g :=
  (rreach_hist (rs := rs) (r := (r0 : RSt K)) (reach_g0 (K := K) rs.sc) h).inv

/-- after any such history every declared collection is still a committed state of the two-store model -/
theorem restrict_collection_is_two_store_model (rs : RSchema) (h : List (List (ROp K))) {j : Nat} {c : Coll}
    (hj : rs.sc.colls[j]? = some c) (hc : ∀ sd ch, c ≠ .self sd ch) :
    ∃ h' : List (List (Op K)), (rrunHist rs (r0 : RSt K) h).g.slots j = runHist [] h' ∧
      (RHistVocab h → HistVocab h' ∧ histWeight h' ≤ rhistWeight h) :=
  r_slot_reachable rs h hj hc

/-- **symmetry for every schema with a restricting fk and every history, tolerated refused deletes
    followed by further operations and a commit included** -/
theorem restrict_links_symmetric (rs : RSchema) (h : List (List (ROp K))) {j : Nat} {ca cb : Bool}
    (hj : rs.sc.colls[j]? = some (.plain ca cb)) (a b : K) :
    b ∈ linksOf ((rrunHist rs (r0 : RSt K) h).g.slots j) (.A, a) ↔
      a ∈ linksOf ((rrunHist rs (r0 : RSt K) h).g.slots j) (.B, b) := by
  obtain ⟨h', e, _⟩ := r_slot_reachable rs h hj (by intro sd ch e; cases e)
  rw [e]; exact links_symmetric h' a b

theorem restrict_self_links_symmetric (rs : RSchema) (h : List (List (ROp K))) {j : Nat} {sd : Side} {ch : Bool}
    (hj : rs.sc.colls[j]? = some (.self sd ch)) (a b : K) :
    b ∈ SelfW.L ((rrunHist rs (r0 : RSt K) h).g.slots j) a ↔ a ∈ SelfW.L ((rrunHist rs (r0 : RSt K) h).g.slots j) b := by
  obtain ⟨h', e⟩ := r_self_slot_reachable rs h hj
  rw [e]; exact self_links_symmetric h' a b

/-- **both sides hold the same positive count** after every such history inside the vocabulary -/
theorem restrict_rc_agree (rs : RSchema) (h : List (List (ROp K))) (hv : RHistVocab h) (hw : rhistWeight h < 2147483648)
    {j : Nat} {ca cb : Bool} (hj : rs.sc.colls[j]? = some (.rc ca cb)) (a b : K) :
    rcOf ((rrunHist rs (r0 : RSt K) h).g.slots j) (.A, a) b = rcOf ((rrunHist rs (r0 : RSt K) h).g.slots j) (.B, b) a ∧
    ∀ c, rcOf ((rrunHist rs (r0 : RSt K) h).g.slots j) (.A, a) b = some c → 0 < c ∧ c < 2147483648 := by
  obtain ⟨h', e, p⟩ := r_slot_reachable rs h hj (by intro sd ch e; cases e)
  rw [e]; exact rc_agree h' (p hv).1 (by have := (p hv).2; omega) a b

end

/-- non-vacuity: employees-like store A (fk `ref` to B) with a plain and a ref-counted collection to B;
    B.7 is linked with A.1 and referenced by it: the delete of B.7 is refused (through root and child
    store), the transaction carries on and commits, both sides still list each other; once the
    referrer is gone the delete succeeds and unlinks. -/
def fkSchema : Restrict.RSchema := { sc := { colls := [.plain false false, .rc false true] }, fk := some .A }

open Schema Restrict in
def fkHist : List (List (ROp Nat)) :=
  [[.g (.create ⟨.B, true⟩ 7 false none), .createRef 1 false (some (0, [7])) 7, .g (.count 1 (.incr .A 1 7))],
   [.deleteT ⟨.B, false⟩ 7, .deleteT ⟨.B, true⟩ 7, .g (.create ⟨.A, false⟩ 2 false none), .g (.link 0 (.addLink .B 7 2))]]

open Schema Restrict in
example : (rdelete fkSchema (rrunHist fkSchema r0 fkHist) ⟨.B, false⟩ 7).err = some .referenced ∧
    linksOf ((rrunHist fkSchema r0 fkHist).g.slots 0) (.B, 7) = [1, 2] ∧
    linksOf ((rrunHist fkSchema r0 fkHist).g.slots 0) (.A, 1) = [7] ∧
    rcOf ((rrunHist fkSchema r0 fkHist).g.slots 1) (.B, 7) 1 = some 1 ∧
    (rrunHist fkSchema r0 fkHist).g.ents ⟨.A, false⟩ 2 = true := by decide +kernel
open Schema Restrict in
example : let r := rrunHist fkSchema r0 (fkHist ++ [[.g (.delete ⟨.A, false⟩ 1), .deleteT ⟨.B, true⟩ 7]])
    r.g.ents ⟨.B, false⟩ 7 = false ∧ linksOf (r.g.slots 0) (.A, 2) = [] ∧ r.idx = [] := by decide +kernel
-- a create through the child store over an existing parent with links leaves exactly the requested set
open Schema Restrict in
def cpHist : List (List (ROp Nat)) :=
  [[.g (.create ⟨.B, false⟩ 7 false none), .g (.create ⟨.B, false⟩ 8 false none), .g (.create ⟨.A, false⟩ 1 false (some (0, [8, 7])))],
   [.createP ⟨.A, true⟩ 1 false 0 [8]]]
open Schema Restrict in
example : let r := rrunHist fkSchema (r0 : RSt Nat) cpHist
    linksOf (r.g.slots 0) (.A, 1) = [8] ∧ linksOf (r.g.slots 0) (.B, 7) = [] ∧ linksOf (r.g.slots 0) (.B, 8) = [1] ∧
      r.g.ents ⟨.A, true⟩ 1 = true := by decide +kernel

end StorageModel.Properties.C05

#print axioms StorageModel.Properties.C05.links_symmetric
#print axioms StorageModel.Properties.C05.setlinks_exact
#print axioms StorageModel.Properties.C05.setlinks_missing
#print axioms StorageModel.Properties.C05.rc_agree
#print axioms StorageModel.Properties.C05.rc_zero_removes
#print axioms StorageModel.Properties.C05.delete_unlinks
#print axioms StorageModel.Properties.C05.model_refines_spec
#print axioms StorageModel.Properties.C05.self_links_symmetric
#print axioms StorageModel.Properties.C05.self_setlinks_exact
#print axioms StorageModel.Properties.C05.self_delete_unlinks
#print axioms StorageModel.Properties.C05.schema_collection_is_two_store_model
#print axioms StorageModel.Properties.C05.schema_self_collection_is_self_model
#print axioms StorageModel.Properties.C05.schema_coherent
#print axioms StorageModel.Properties.C05.schema_links_symmetric
#print axioms StorageModel.Properties.C05.schema_rc_agree
#print axioms StorageModel.Properties.C05.schema_setlinks_exact
#print axioms StorageModel.Properties.C05.schema_delete_unlinks
#print axioms StorageModel.Properties.C05.schema_delete_unlinks_rc
#print axioms StorageModel.Properties.C05.schema_delete_succeeds_iff
#print axioms StorageModel.Properties.C05.schema_collection_refines_spec
#print axioms StorageModel.Properties.C05.schema_naming_irrelevant
#print axioms StorageModel.Properties.C05.keysize_small_ids_unchanged
#print axioms StorageModel.Properties.C05.refused_delete_changes_no_links
#print axioms StorageModel.Properties.C05.restrict_links_symmetric
#print axioms StorageModel.Properties.C05.restrict_rc_agree
