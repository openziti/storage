import StorageModel.Query.BoltProofs
import StorageModel.Query.Providers
import StorageModel.Query.Resolve
import StorageModel.Query.Llrb
import StorageModel.Query.FloatOrder
import StorageModel.Query.History
import StorageModel.Generated.PagingFacts
/-
  C02 — Sort order, skip, limit and total count are exact.

  "For every dataset and query, the returned id list equals the matching entities ordered by the
  requested sort fields (each ascending or descending, null values first when ascending, remaining
  ties broken by id ascending; default order id ascending), with the first max(skip,0) rows dropped
  and at most limit rows kept, where an absent, negative or 'none' limit means unbounded.  The
  returned count always equals the total number of matching entities regardless of skip and limit,
  and the same answer is produced whichever scan strategy or cursor-style iteration serves the
  query."

  Model: Query/Paging.lean, Query/Compare.lean, Query/Bolt.lean; specification: Query/Spec.lean (`page`, `total`);
  both for histories of calls on one query object: Query/History.lean.
  The paging arithmetic is the one the `paging` extractor reads from the source on every run
  (`Generated.boltzPaging`).

  Hypotheses that appear below, all explicit:
    * `BucketOrdered rows`      the entities bucket yields ids in ascending byte order (bbolt)
      (no hypothesis on the values: since 1532996 the float64 comparator orders NaN before every number)
    * `HasIdSymbol schema`      the store declares `id` as a plain string symbol (`AddIdSymbol("id", NodeTypeString)`)
    * `newRowComparator … = .ok c`  the sort list is accepted (`sort_accepted_iff`; the refused lists: `query_ids_total`)
    * `Paging.InRange`          skip and limit are int64 values
    * `rows.length ≤ maxI64`    fewer than 2^63 rows (the counters are int64)
    * `IndexesMirror ix rows`   (provider theorems only) the set index and the back-reference lists mirror the
      entities — what C03 / C04 prove the code maintains
-/
namespace StorageModel.Properties.C02
open StorageModel StorageModel.Query

/-- Obligation on regenerated data: `setPaging`, `maxResults` and the eviction test in
    boltz/query_scanners.go have the expected shape (negative skip clamped, overflow guarded,
    strict `>`). -/
theorem paging_facts_expected : Generated.boltzPaging = expectedPaging := by decide

/-- Obligation on regenerated data: the branch chain of `float64SymbolComparator.Compare`
    (boltz/query_sort.go) is the one `cmpFloatVal` models — nil tests, the NaN branch of 1532996
    (NaN before every number, NaNs tie), `<`, `>`. -/
theorem float_comparator_facts_expected : Generated.boltzFloatCmp = expectedFloatCmp := by decide

/-- **comparator_strict_total.**  The comparator built for any list of sort fields (per-type
    comparison, nulls first, direction flip, trailing `id asc`) is a strict total order on any set
    of rows with distinct ids — whatever their values: a NaN float64 key sorts before every number
    (after null) and ties only with NaN. -/
theorem comparator_strict_total {schema : Schema} {sort : List SortField} {c : Cmp Row} {rows : List Row}
    (hid : HasIdSymbol schema) (hc : newRowComparator schema sort = .ok c)
    (hd : DistinctIds rows) :
    StrictTotalOn (fun r => r ∈ rows) c :=
  newRowComparator_strict hid hc hd

/-- **the requested order, in closed form.**  The row comparator is: one symbol comparator per
    requested sort field, in the order requested and in the requested direction, then `id`
    ascending; the first comparator that does not tie decides. -/
theorem order_closed_form {schema : Schema} {sort : List SortField} {c : Cmp Row} (hid : HasIdSymbol schema)
    (hc : newRowComparator schema sort = .ok c) :
    c = chain ((sort.map fun f => symCmp (tyOf schema f.name) f.name f.asc) ++ [symCmp .string "id" true]) :=
  newRowComparator_closed hid hc

/-- lexicographic reading: `a` sorts before `b` iff some field (or finally the id) puts it first and
    all earlier fields tie -/
theorem order_lexicographic {schema : Schema} {sort : List SortField} {c : Cmp Row} (hid : HasIdSymbol schema)
    (hc : newRowComparator schema sort = .ok c) (a b : Row) :
    c a b = .lt ↔ ∃ pre d post,
      (sort.map fun f => symCmp (tyOf schema f.name) f.name f.asc) ++ [symCmp .string "id" true] = pre ++ d :: post ∧
      (∀ e ∈ pre, e a b = .eq) ∧ d a b = .lt := by
  rw [order_closed_form hid hc]; exact chain_eq_iff _ a b (by decide)

/-- remaining ties are broken by id ascending (byte order) -/
theorem ties_broken_by_id {schema : Schema} {sort : List SortField} {c : Cmp Row} (hid : HasIdSymbol schema)
    (hc : newRowComparator schema sort = .ok c) (a b : Row)
    (htie : ∀ f ∈ sort, symCmp (tyOf schema f.name) f.name f.asc a b = .eq) : c a b = cmpBytes a.id b.id := by
  rw [order_closed_form hid hc, chain_all_eq _ _ _ _ (by
    intro d hd
    obtain ⟨f, hf, rfl⟩ := List.mem_map.1 hd
    exact htie f hf), symCmp_id]
  rfl

/-- the value a symbol comparator of type `ty` reads is null (nil pointer after `FieldTo*`) -/
def keyIsNull (ty : SymType) (v : Stored) : Bool :=
  match ty with
  | .bool => (fieldToBool v).isNone
  | .datetime => (fieldToDatetime v).isNone
  | .float64 => (fieldToFloat64 v).isNone
  | .int64 => (fieldToInt64 v).isNone
  | .string => (fieldToString v).isNone
  | .other => true

/-- null sort keys come first when ascending and last when descending -/
theorem nulls_first_ascending (ty : SymType) (name : String) (a b : Row)
    (ha : keyIsNull ty (evalSym name a) = true) (hb : keyIsNull ty (evalSym name b) = false) :
    symCmp ty name true a b = .lt ∧ symCmp ty name false a b = .gt := by
  have key : ∀ {κ : Type} (base : κ → κ → Ordering) (y : Option κ), y.isNone = false →
      nullsFirst base none y = .lt ∧ (nullsFirst base none y).swap = .gt := by
    intro κ base y hy
    cases y with
    | none => cases hy
    | some v => exact ⟨rfl, rfl⟩
  cases ty <;> simp only [keyIsNull, Option.isNone_iff_eq_none] at ha hb
  case other => cases hb
  all_goals
    simp only [symCmp, dir, ha, if_true, Bool.false_eq_true, if_false]
    exact key _ _ hb

/-! ### sort keys whose stored type differs from the symbol type (`FieldTo*` coercions)

The typed bucket admits any stored type under any key; a symbol of type T reads the field through
`FieldToT`.  `comparator_strict_total` (above), `sorting_scan_exact`, `query_ids_exact` (below) quantify over
arbitrary rows, hence over every (symbol type, stored type) pair; the theorems below say what the
key is in each case. -/

/-- **the coercion matrix**: what a symbol of each sortable type reads from each stored type.
    bool / datetime symbols read only their own type; an int64 symbol widens int32; a float64 symbol
    converts ints with `float64(int64)`; a string symbol formats everything; all other pairs are null. -/
theorem coerced_keys :
    (∀ v, fieldToBool v = match v with | .bool b => some b | _ => none) ∧
    (∀ v, fieldToDatetime v = match v with | .time t => some t | _ => none) ∧
    (∀ v, fieldToInt64 v = match v with | .int32 i => some i | .int64 i => some i | _ => none) ∧
    (∀ v, fieldToFloat64 v = match v with
      | .float64 b _ => some b | .int32 i => some (intToF64Bits i) | .int64 i => some (intToF64Bits i) | _ => none) ∧
    (∀ v, fieldToString v = match v with
      | .string s => some s | .bool b => some (boolText b) | .int32 i => some (intText i) | .int64 i => some (intText i)
      | .float64 _ text => some text | .time t => timeText t | .nil => none) := by
  refine ⟨?_, ?_, ?_, ?_, ?_⟩ <;> intro v <;> cases v <;> rfl

/-- an int-stored field read through a float64 symbol is never NaN … -/
theorem int_float_key_not_nan (v : Int) : fIsNaN (intToF64Bits v) = false := intToF64Bits_not_nan v

/-- **the float64 comparator is a total preorder on ALL float64 values**: comparison of the integer
    keys `fKey` (NaN ↦ below everything, otherwise the monotone image of the bit pattern; −0 = +0) -/
theorem float_comparator_total (a b : Nat) : cmpFloatVal a b = cmpInt (fKey a) (fKey b) := cmpFloatVal_eq_key a b

/-- NaN sorts before every number and ties with NaN only -/
theorem nan_sorts_first (a b : Nat) (ha : fIsNaN a = true) :
    cmpFloatVal a b = (if fIsNaN b then .eq else .lt) ∧ cmpFloatVal b a = (if fIsNaN b then .eq else .gt) := by
  cases hb : fIsNaN b <;> simp [cmpFloatVal, cmpFloatValWith, ha, hb]

/-- the comparator BEFORE 1532996 (`cmpFloatValWith false`: no NaN branch, `<` and `>` both false on NaN) tied NaN
    with every number; with the id tie-break the rows a: 2.0, b: NaN, c: 1.0 then form a cycle a < b < c < a —
    no order at all -/
example :
    let c : Cmp (Bytes × Nat) := fun x y => match cmpFloatValWith false x.2 y.2 with | .eq => cmpBytes x.1 y.1 | o => o
    c ([97], 0x4000000000000000) ([98], 0x7ff8000000000001) = .lt ∧
    c ([98], 0x7ff8000000000001) ([99], 0x3ff0000000000000) = .lt ∧
    c ([99], 0x3ff0000000000000) ([97], 0x4000000000000000) = .lt := by decide
/-- with the NaN branch: b (NaN) < c (1.0) < a (2.0), transitively -/
example : cmpFloatVal 0x7ff8000000000001 0x3ff0000000000000 = .lt ∧ cmpFloatVal 0x3ff0000000000000 0x4000000000000000 = .lt ∧
    cmpFloatVal 0x7ff8000000000001 0x4000000000000000 = .lt ∧ cmpFloatVal 0x7ff8000000000001 0xfff8000000000000 = .eq := by decide

/-- **the order a float64 symbol gives int-stored fields**: integers `a ≤ b` never come out inverted —
    `float64(int64)` is monotone; integers rounding to the same float64 tie (→ next field / id) -/
theorem int_float_key_monotone {a b : Int} (h : a ≤ b) :
    cmpFloatVal (intToF64Bits a) (intToF64Bits b) ≠ .gt := by
  rw [cmpFloatVal_eq_ord (intToF64Bits_not_nan a) (intToF64Bits_not_nan b), Ne, cmpInt_gt]
  exact Int.not_lt.2 (intToF64Bits_mono h)

def answer : Except SortErr (List Row × Int) → Option (List Bytes × Int)
  | .ok r => some (r.1.map (·.id), r.2)
  | .error _ => none

def coSchema : Schema := [("id", ⟨.string, false⟩), ("f", ⟨.float64, false⟩), ("s", ⟨.string, false⟩)]
/-- ints under a float64 symbol: 2^53 + 1 and 2^53 convert to the same float64 (tie → id order), 7 is smaller;
    under a string symbol the decimal texts compare bytewise: "10" < "7" < "9007…" -/
def coRows : List Row :=
  [⟨[97], [("f", .int64 9007199254740993), ("s", .int64 7)]⟩,
   ⟨[98], [("f", .int64 9007199254740992), ("s", .int32 10)]⟩,
   ⟨[99], [("f", .int32 7), ("s", .time 1614834367000000001)]⟩,
   ⟨[100], [("f", .string [55]), ("s", .float64 4602678819172646912 [48, 46, 53])]⟩]
def coStore : BoltStore := { schema := coSchema, bucket := some coRows }

/-- a string stored under the float64 symbol is null (first); then 7.0; then the two ints that
    round to 2^53, in id order -/
example : answer (queryIdsC expectedPaging coStore ⟨.tt, [⟨"f", true⟩], ⟨none, none⟩⟩) = some ([[100], [99], [97], [98]], 4) := by
  decide +kernel
/-- "0.5" < "10" < "2021-03-04T05:06:07.000000001Z" < "7" -/
example : answer (queryIdsC expectedPaging coStore ⟨.tt, [⟨"s", true⟩], ⟨none, none⟩⟩) = some ([[100], [98], [99], [97]], 4) := by
  decide +kernel

/-- a strictly sorted permutation of the matching rows is what the specification calls their
    sort: `page` does not depend on the sorting algorithm written in Query/Sorted.lean -/
theorem sort_characterised {P : Row → Prop} {c : Cmp Row} (hc : StrictTotalOn P c) {xs l : List Row}
    (hP : ∀ a ∈ xs, P a) (hnd : xs.Nodup) : (l.Perm xs ∧ Sorted c l) ↔ l = sort c xs :=
  ⟨fun h => sort_unique hc hP h.1 h.2, fun h => h ▸ ⟨sort_perm c xs, sort_sorted hc hP hnd⟩⟩

/-- **k_smallest_stream** (core lemma of the bounded result tree).  Inserting every row into the
    tree and cutting it back to `k` rows after each insertion leaves exactly the first `k` rows of
    the sorted input. -/
theorem k_smallest_stream {P : Row → Prop} {c : Cmp Row} (hc : StrictTotalOn P c) (k : Nat) {xs : List Row}
    (hP : ∀ a ∈ xs, P a) (hnd : xs.Nodup) :
    xs.foldl (fun t x => (tins c x t).take k) [] = (sort c xs).take k := by
  have := bounded_fold c k [] xs
  simp only [List.take_nil] at this
  rw [this, foldl_tins_eq_sort hc hP hnd]

/-- what `setPaging` leaves in the scanner and in the query object: absent skip → 0, negative skip
    clamped to 0 (scanner only), absent / negative / `none` limit → MaxInt64, and the defaults are
    written back into the query. -/
theorem set_paging_exact (q : Paging) :
    setPaging Generated.boltzPaging q =
      (⟨some (q.skip.getD 0), some (match q.limit with | none => maxI64 | some l => if l < 0 then maxI64 else l)⟩,
       ⟨max (q.skip.getD 0) 0, match q.limit with | none => maxI64 | some l => if l < 0 then maxI64 else l⟩) := by
  rw [paging_facts_expected]
  exact setPaging_expected q

/-- a query object that already went through a scan pages the same way when it is run again -/
theorem set_paging_idempotent (q : Paging) :
    setPaging Generated.boltzPaging (setPaging Generated.boltzPaging q).1 = setPaging Generated.boltzPaging q := by
  rw [paging_facts_expected]; exact setPaging_idempotent q

/-- **index_scan_exact.**  When `NewScanner` chooses the index scanner (no sort field, or `id`
    first, either direction), `QueryIdsC` returns the page of the matching rows under the row
    comparator of the requested sort fields, and the total number of matching rows. -/
theorem index_scan_exact (st : BoltStore) (rows : List Row) (q : Query) (fwd : Bool) (c : Cmp Row)
    (hb : st.bucket = some rows) (hord : BucketOrdered rows) (hid : HasIdSymbol st.schema)
    (hs : newScanner q.sort = .index fwd) (hc : newRowComparator st.schema q.sort = .ok c)
    (hq : q.paging.InRange) (hlen : (rows.length : Int) ≤ maxI64) :
    queryIdsC Generated.boltzPaging st q =
      .ok (page c q.paging.skip q.paging.limit (matching (st.env q.filter) rows),
           total (matching (st.env q.filter) rows)) := by
  rw [paging_facts_expected]
  simp only [queryIdsC, hb, scanCursor, hs]
  rw [idxScan_bucket_exact hid hs hc hord _ _ hq hlen]

/-- **sorting_scan_exact.**  When `NewScanner` chooses the sorting scanner, `QueryIdsC` returns the
    page of the matching rows under the row comparator, and the total number of matching rows — for
    every skip and limit in int64 (negative, 0, MaxInt64, beyond the end, absent, none). -/
theorem sorting_scan_exact (st : BoltStore) (rows : List Row) (q : Query) (c : Cmp Row)
    (hb : st.bucket = some rows) (hord : BucketOrdered rows) (hid : HasIdSymbol st.schema)
    (hs : newScanner q.sort = .sorting) (hc : newRowComparator st.schema q.sort = .ok c)
    (hq : q.paging.InRange) (hlen : (rows.length : Int) ≤ maxI64) :
    queryIdsC Generated.boltzPaging st q =
      .ok (page c q.paging.skip q.paging.limit (matching (st.env q.filter) rows),
           total (matching (st.env q.filter) rows)) := by
  rw [paging_facts_expected]
  simp only [queryIdsC, hb, scanCursor, hs, hc, bucketCursor, if_true]
  rw [sortScan_rows_exact hid hc hord.distinct _ _ hq hlen]

/-- **query_ids_exact** (the property, for the bolt store): whatever strategy serves the query,
    the answer is the page of the matching rows in the requested order and their total number. -/
theorem query_ids_exact (st : BoltStore) (rows : List Row) (q : Query) (c : Cmp Row)
    (hb : st.bucket = some rows) (hord : BucketOrdered rows) (hid : HasIdSymbol st.schema)
    (hc : newRowComparator st.schema q.sort = .ok c)
    (hq : q.paging.InRange) (hlen : (rows.length : Int) ≤ maxI64) :
    queryIdsC Generated.boltzPaging st q =
      .ok (page c q.paging.skip q.paging.limit (rows.filter fun r => !st.childSkip r && sat r q.filter),
           total (rows.filter fun r => !st.childSkip r && sat r q.filter)) := by
  rw [← matching_env, paging_facts_expected, queryIdsC, hb]
  exact scanCursorP_exact st (fun s => evalFilter s q.filter) q.paging hord hid hc hq hlen

/-- **cursor_provider_exact.**  `QueryWithCursorC` with a cursor provider that yields a sub-sequence
    of the bucket in key order (forward) or reverse key order — as the bucket's own `OpenCursor`,
    `IteratorMatchingAllOf` and `IteratorMatchingAnyOf` do — answers with the page and count of the
    matching rows among those the provider yields. -/
theorem cursor_provider_exact (st : BoltStore) (sub : List Row) (q : Query) (c : Cmp Row)
    (hord : BucketOrdered sub) (hid : HasIdSymbol st.schema)
    (hc : newRowComparator st.schema q.sort = .ok c)
    (hq : q.paging.InRange) (hlen : (sub.length : Int) ≤ maxI64) :
    queryWithCursorC Generated.boltzPaging st q (fun fwd => some (bucketCursor sub fwd)) =
      .ok (page c q.paging.skip q.paging.limit (sub.filter fun r => !st.childSkip r && sat r q.filter),
           total (sub.filter fun r => !st.childSkip r && sat r q.filter)) := by
  rw [← matching_env, paging_facts_expected]
  exact scanCursorP_exact st (fun s => evalFilter s q.filter) q.paging hord hid hc hq hlen

/-- the listener's reading of `skip N` / `limit N` / `limit none` pages exactly as the text asks:
    `limit none` (pushed as -1) is "no limit" -/
theorem paging_tokens_exact (skip : Option NumTok) (limit : Option LimitTok) (p : Paging)
    (h : parsePaging skip limit = .ok p) (c : Cmp Row) (xs : List Row) :
    page c p.skip p.limit xs = page c (tokSkip skip) (tokLimit limit) xs := by
  -- by the shape of the tokens; only `limit none` is not read literally: it arrives as -1, which keeps as many rows as no limit
  have hp : p.skip = tokSkip skip ∧ limitRows p.limit = limitRows (tokLimit limit) := by
    rcases skip with _ | ⟨s⟩ | _ <;> rcases limit with _ | ⟨⟨v⟩ | _⟩ | _ <;> cases h <;> exact ⟨rfl, rfl⟩
  simp only [page, hp.1, hp.2]

/-- **strategy_independent.**  On a query the index scanner can serve (no sort field or `id`
    first), the sorting scanner run with the same comparator gives the same ids and count. -/
theorem strategy_independent (st : BoltStore) (rows : List Row) (q : Query) (fwd : Bool) (c : Cmp Row)
    (hord : BucketOrdered rows) (hid : HasIdSymbol st.schema)
    (hs : newScanner q.sort = .index fwd) (hc : newRowComparator st.schema q.sort = .ok c)
    (hq : q.paging.InRange) (hlen : (rows.length : Int) ≤ maxI64) :
    sortScan Generated.boltzPaging c (st.env q.filter) q.paging (some rows) =
      idxScan Generated.boltzPaging (st.env q.filter) q.paging (some (bucketCursor rows fwd)) := by
  rw [paging_facts_expected, sortScan_rows_exact hid hc hord.distinct _ _ hq hlen,
    idxScan_bucket_exact hid hs hc hord _ _ hq hlen]

/-- **count_exact.**  The count does not depend on skip and limit. -/
theorem count_exact (st : BoltStore) (rows : List Row) (q : Query) (p' : Paging) (c : Cmp Row)
    (hb : st.bucket = some rows) (hord : BucketOrdered rows) (hid : HasIdSymbol st.schema)
    (hc : newRowComparator st.schema q.sort = .ok c)
    (hq : q.paging.InRange) (hq' : p'.InRange)
    (hlen : (rows.length : Int) ≤ maxI64) :
    (queryIdsC Generated.boltzPaging st q).map (·.2) =
      (queryIdsC Generated.boltzPaging st { q with paging := p' }).map (·.2) := by
  rw [query_ids_exact st rows q c hb hord hid hc hq hlen,
    query_ids_exact st rows { q with paging := p' } c hb hord hid hc hq' hlen]
  rfl

/-- the count of the sorting scan is the number of matching rows for *any* comparator — also one that
    is no order at all (as the float64 comparator before 1532996 was on NaN sort keys) -/
theorem count_exact_any_comparator (c : Cmp Row) (env : ScanEnv Row) (q : Paging) (cur : List Row)
    (hlen : ((matching env cur).length : Int) ≤ maxI64) :
    (sortScan Generated.boltzPaging c env q (some cur)).2 = total (matching env cur) := by
  simp only [sortScan]
  rw [sortLoop_count _ c env _ cur hlen]
  rfl

/-- **cursor_iter_exact.**  Draining `IterateIds(tx, query)` yields the page of the matching rows in
    id order (a filtered cursor cannot sort: the sort fields are ignored). -/
theorem cursor_iter_exact (st : BoltStore) (rows : List Row) (q : Query) (c : Cmp Row)
    (hb : st.bucket = some rows) (hord : BucketOrdered rows) (hid : HasIdSymbol st.schema)
    (hc : newRowComparator st.schema [] = .ok c) (hq : q.paging.InRange) (hlen : (rows.length : Int) ≤ maxI64) :
    iterateIds Generated.boltzPaging st q =
      page c q.paging.skip q.paging.limit (matching (st.env q.filter) rows) := by
  rw [paging_facts_expected]
  simp only [iterateIds, hb]
  exact iterate_bucket_exact hid hc hord _ _ hq hlen

/-- `Seek(v)` on an unpaged `IterateIds` cursor (any state it can be in), then draining: the matching
    rows from the first id ≥ v on. -/
theorem cursor_seek_exact (env : ScanEnv Row) (v : Bytes) (c : PagedCursor Row)
    (ho : 0 ≤ c.offset) (hc : 0 ≤ c.collected) (hlen : c.collected + (c.all.length : Int) < maxI64) :
    drain ⟨0, maxI64⟩ env (c.all.length + 1) (c.seek ⟨0, maxI64⟩ env (fun r => cmpBytes r.id v == .lt)) =
      matching env (c.all.dropWhile (fun r => cmpBytes r.id v == .lt)) :=
  seek_spec env _ c ho hc (Int.le_of_lt hlen)

def exSchema : Schema := [("id", ⟨.string, false⟩), ("s", ⟨.string, false⟩), ("f", ⟨.float64, false⟩)]
def exRows : List Row :=
  [⟨[97], [("s", .string [120]), ("f", .float64 0 [48])]⟩,
   ⟨[98], [("s", .nil), ("f", .float64 4607182418800017408 [49])]⟩,
   ⟨[99], [("s", .string [120]), ("f", .nil)]⟩]
def exStore : BoltStore := { schema := exSchema, bucket := some exRows }
def exQuery : Query := ⟨.tt, [⟨"s", true⟩], ⟨some 1, none⟩⟩
/-- the hypotheses are satisfiable by a store with ties and nulls -/
example : BucketOrdered exRows ∧ HasIdSymbol exSchema ∧ exQuery.paging.InRange ∧ newScanner exQuery.sort = .sorting := by
  refine ⟨by unfold BucketOrdered; decide, by unfold HasIdSymbol; decide,
    ⟨by intro s h; cases h; unfold InI64; decide, by intro l h; cases h⟩, by decide⟩

/-- `sort by s skip 1` (no limit): null first, then the tie on "x" broken by id; one row dropped -/
example : answer (queryIdsC expectedPaging exStore exQuery) = some ([[97], [99]], 3) := by decide

/-- the arithmetic before e51f293 (no overflow guard): `skip 1` without limit makes
    `targetOffset + targetLimit` wrap negative, every row is evicted -/
theorem pinned_arithmetic_violates :
    answer (queryIdsC pinnedPaging exStore exQuery) = some ([], 3) := by decide

/-- ... and a negative skip shrank the window: `skip -2 limit 2` kept nothing -/
example : answer (queryIdsC pinnedPaging exStore { exQuery with paging := ⟨some (-2), some 2⟩ }) = some ([], 3) := by decide
example : answer (queryIdsC expectedPaging exStore { exQuery with paging := ⟨some (-2), some 2⟩ }) = some ([[98], [97]], 3) := by
  decide

/-! ### which sort fields are supported: map elements, linked symbols, child-store symbols

`ast.Parse` resolves a sort field with `GetSymbol` (registered symbols, map elements `tags.k`,
composite symbols through linked stores `owner.label`); `newRowComparator` looks only into
`store.symbols`.  Supported are therefore exactly the registered non-set symbols of the five
sortable types — among them the fk symbol itself (`owner`: the linked id, a string), the parent's
symbols granted to a child store and the child store's own symbols; `comparator_strict_total`,
`sorting_scan_exact`, `query_ids_exact` cover those (any schema).  Everything else is refused: -/

/-- a sort list is accepted by `newRowComparator` iff every field — and the trailing `id` — is a
    registered, non-set symbol of a sortable type -/
theorem sort_accepted_iff (schema : Schema) (sort : List SortField) :
    (∃ c, newRowComparator schema sort = .ok c) ↔ ∀ f ∈ sort ++ [⟨"id", true⟩], fieldErr schema f = none :=
  newRowComparator_ok_iff schema sort

/-- **exact error**: the error is that of the first refused field in the order written ("no such
    sort field" for a name that is not registered, "invalid sort field" for a set symbol,
    "unsupported sort field type" for a registered symbol of another type) -/
theorem sort_field_error_exact (schema : Schema) (sort : List SortField) (e : SortErr) :
    newRowComparator schema sort = .error e ↔
      ∃ pre f post, sort ++ [⟨"id", true⟩] = pre ++ f :: post ∧ (∀ g ∈ pre, fieldErr schema g = none) ∧
        fieldErr schema f = some e :=
  newRowComparator_error_iff schema sort e

/-- **map elements and linked symbols** (`tags.k`, `owner.label`, `owner.id`): a dotted name is never a
    registered symbol, so the comparator refuses it with "no such sort field" although the parser
    resolved it -/
theorem dotted_sort_field_refused {schema : Schema} (hp : PlainNames schema) (f : SortField)
    (hd : (splitDots f.name).length ≠ 1) : fieldErr schema f = some .noSuchField :=
  dotted_field_noSuchField hp f hd

/-- the sorting scanner reports that error for every dataset, filter, skip and limit (once the
    entities bucket exists; without it `Scan` answers `(nil, 0, nil)` before looking at the sort) -/
theorem sorting_scan_error_exact (st : BoltStore) (rows : List Row) (q : Query) (e : SortErr)
    (hb : st.bucket = some rows) (hs : newScanner q.sort = .sorting) (he : newRowComparator st.schema q.sort = .error e) :
    queryIdsC Generated.boltzPaging st q = .error e ∧
    queryIdsC Generated.boltzPaging { st with bucket := none } q = .ok ([], 0) := by
  simp [queryIdsC, hb, scanCursor, hs, he]

/-- **`id` first**: the index scanner serves the query and never builds a comparator — any sort
    fields after `id` (refused ones included) are irrelevant and the answer is the page in id order -/
theorem id_first_exact (st : BoltStore) (rows : List Row) (q : Query) (asc : Bool) (rest : List SortField) (c : Cmp Row)
    (hsort : q.sort = ⟨"id", asc⟩ :: rest)
    (hb : st.bucket = some rows) (hord : BucketOrdered rows) (hid : HasIdSymbol st.schema)
    (hc : newRowComparator st.schema [⟨"id", asc⟩] = .ok c) (hq : q.paging.InRange) (hlen : (rows.length : Int) ≤ maxI64) :
    queryIdsC Generated.boltzPaging st q =
      .ok (page c q.paging.skip q.paging.limit (rows.filter fun r => !st.childSkip r && sat r q.filter),
           total (rows.filter fun r => !st.childSkip r && sat r q.filter)) := by
  have hs : newScanner q.sort = .index asc := by rw [hsort, newScanner_cons]; rfl
  have hs' : newScanner [⟨"id", asc⟩] = .index asc := by rw [newScanner_cons]; rfl
  rw [index_scanner_needs_no_comparator _ st q asc hs [⟨"id", asc⟩] hs']
  exact query_ids_exact st rows { q with sort := [⟨"id", asc⟩] } c hb hord hid hc hq hlen

/-- the harness stores' tables: `things` with the map symbol `tags` and the fk `owner` → `owners` -/
def exStores : Stores :=
  [("things", { symbols := [("id", ⟨.string, false⟩), ("s", ⟨.string, false⟩), ("owner", ⟨.string, false⟩), ("roles", ⟨.string, true⟩)],
                maps := [("tags", .other)], links := [("owner", "owners")] }),
   ("owners", { symbols := [("id", ⟨.string, false⟩), ("label", ⟨.string, false⟩), ("things", ⟨.string, true⟩)],
                maps := [], links := [("things", "things")] })]
def exThings : Schema := [("id", ⟨.string, false⟩), ("s", ⟨.string, false⟩), ("owner", ⟨.string, false⟩), ("roles", ⟨.string, true⟩)]

/-- the parser resolves `tags.k`, `owner.label`, `owner.id`; `owner.things.s` resolves to a set -/
example : sortFieldParses exStores "things" ⟨"tags.k", true⟩ = true ∧ sortFieldParses exStores "things" ⟨"owner.label", true⟩ = true ∧
    sortFieldParses exStores "things" ⟨"owner.id", false⟩ = true ∧ sortFieldParses exStores "things" ⟨"owner.things.s", true⟩ = false ∧
    sortFieldParses exStores "things" ⟨"tags", true⟩ = false := by decide +kernel
/-- … and the comparator refuses them, while the fk symbol itself sorts (by the linked id) -/
example : fieldErr exThings ⟨"tags.k", true⟩ = some .noSuchField ∧ fieldErr exThings ⟨"owner.label", true⟩ = some .noSuchField ∧
    fieldErr exThings ⟨"owner", true⟩ = none ∧ fieldErr exThings ⟨"roles", true⟩ = some .invalidSetField := by decide +kernel
example : PlainNames exThings := by
  intro p hp
  simp only [exThings, List.mem_cons, List.mem_nil_iff, or_false] at hp
  rcases hp with rfl | rfl | rfl | rfl <;> decide

/-! ### the llrb tree and its sorted-list view

`Query/Llrb.lean` ports biogo's `Tree.Insert` / `DeleteMax` / `Do` node by node; the scanner theorems
above use the in-order walk (`tins`, `dropLast`).  For `Insert` the two are proved equal; for
`DeleteMax` (= `dropLast` on a balanced tree) the drivers compare both models on every generated case. -/

/-- **`llrb.Tree.Insert` is sorted-list insertion with replace-on-equal**, whenever the row comparator
    is a strict total order on the rows involved (`comparator_strict_total`) — whatever the colours
    and the shape of the tree -/
theorem llrb_insert_is_sorted_insert {P : Row → Prop} {c : Cmp Row} (hc : StrictTotalOn P c) (e : Row) (he : P e)
    (t : LL Row) (hP : ∀ y ∈ t.inorder, P y) (hs : Sorted c t.inorder) :
    (LL.Insert c e t).inorder = tins c e t.inorder :=
  LL.Insert_inorder hc.toWeakOrdOn e he t hP hs

/-- **cursor_provider_exact, for every provider kind** (`TypedBucket.OpenCursor`, `setIndex.OpenValueCursor`,
    `ast.OpenEmptyCursor`, the filtered cursor of `IteratorMatchingAllOf`, the tree set of
    `IteratorMatchingAnyOf`, `GetRelatedEntitiesCursor` over an fk back-reference list, a nil cursor):
    `QueryWithCursorC` answers with the page — in the requested sort order, whichever scanner serves
    it — and the total of the matching entities among those the provider selects. -/
theorem cursor_provider_exact_all (st : BoltStore) (rows : List Row) (ix : Indexes) (p : Provider) (q : Query) (c : Cmp Row)
    (hord : BucketOrdered rows) (hm : IndexesMirror ix rows) (hid : HasIdSymbol st.schema)
    (hc : newRowComparator st.schema q.sort = .ok c)
    (hq : q.paging.InRange) (hlen : (rows.length : Int) ≤ maxI64) :
    queryWithCursorC Generated.boltzPaging st q (p.cursor ix rows) =
      .ok (page c q.paging.skip q.paging.limit
             ((rows.filter (p.selects ix)).filter fun r => !st.childSkip r && sat r q.filter),
           total ((rows.filter (p.selects ix)).filter fun r => !st.childSkip r && sat r q.filter)) := by
  by_cases hp : p = .nilCursor
  · subst hp
    have hnil : rows.filter (Provider.selects ix .nilCursor) = [] :=
      List.filter_eq_nil_iff.2 (fun _ _ => by simp [Provider.selects])
    have hcur : Provider.cursor ix rows .nilCursor = fun _ => none := rfl
    simp only [hnil, List.filter_nil, queryWithCursorC, scanCursor, hcur, hc, page_nil]
    cases newScanner q.sort <;> rfl
  · have hsub : BucketOrdered (rows.filter (p.selects ix)) := List.Pairwise.sublist List.filter_sublist hord
    have hcur : p.cursor ix rows = fun fwd => some (bucketCursor (rows.filter (p.selects ix)) fwd) := by
      funext fwd; exact provider_cursor_eq hord hm p hp fwd
    rw [hcur]
    refine cursor_provider_exact st _ q c hsub hid hc hq ?_
    have : (rows.filter (p.selects ix)).length ≤ rows.length := List.length_filter_le ..
    omega

/-- `IteratorMatchingAllOf(index, values)`: the entities that hold every value (none at all for an
    empty value list), duplicates in `values` being irrelevant -/
theorem iterator_all_of_exact (st : BoltStore) (rows : List Row) (ix : Indexes) (vs : List Bytes) (q : Query) (c : Cmp Row)
    (hord : BucketOrdered rows) (hm : IndexesMirror ix rows) (hid : HasIdSymbol st.schema)
    (hc : newRowComparator st.schema q.sort = .ok c)
    (hq : q.paging.InRange) (hlen : (rows.length : Int) ≤ maxI64) :
    queryWithCursorC Generated.boltzPaging st q ((iteratorMatchingAllOf vs).cursor ix rows) =
      .ok (page c q.paging.skip q.paging.limit
             ((rows.filter fun r => !vs.isEmpty && vs.all (hasValue ix r.id)).filter fun r => !st.childSkip r && sat r q.filter),
           total ((rows.filter fun r => !vs.isEmpty && vs.all (hasValue ix r.id)).filter fun r => !st.childSkip r && sat r q.filter)) := by
  rw [cursor_provider_exact_all st rows ix _ q c hord hm hid hc hq hlen,
    List.filter_congr fun r _ => iteratorMatchingAllOf_selects ix vs r]

/-- `IteratorMatchingAnyOf(index, values)`: the entities that hold at least one of the values, each once -/
theorem iterator_any_of_exact (st : BoltStore) (rows : List Row) (ix : Indexes) (vs : List Bytes) (q : Query) (c : Cmp Row)
    (hord : BucketOrdered rows) (hm : IndexesMirror ix rows) (hid : HasIdSymbol st.schema)
    (hc : newRowComparator st.schema q.sort = .ok c)
    (hq : q.paging.InRange) (hlen : (rows.length : Int) ≤ maxI64) :
    queryWithCursorC Generated.boltzPaging st q ((iteratorMatchingAnyOf vs).cursor ix rows) =
      .ok (page c q.paging.skip q.paging.limit
             ((rows.filter fun r => vs.any (hasValue ix r.id)).filter fun r => !st.childSkip r && sat r q.filter),
           total ((rows.filter fun r => vs.any (hasValue ix r.id)).filter fun r => !st.childSkip r && sat r q.filter)) := by
  rw [cursor_provider_exact_all st rows ix _ q c hord hm hid hc hq hlen,
    List.filter_congr fun r _ => iteratorMatchingAnyOf_selects ix vs r]

/-- **cursor_scanner_exact** (`newCursorScanner`, the cursor behind `OpenSetCursorForQuery`): drained,
    it yields the page — in id order, a cursor cannot sort — of the members of the set cursor that
    satisfy the sub-query's predicate in the linked store, honouring the sub-query's skip and limit. -/
theorem cursor_scanner_exact (linked : BoltStore) (members : List Row) (q : Query) (c : Cmp Row)
    (hord : BucketOrdered members) (hid : HasIdSymbol linked.schema)
    (hc : newRowComparator linked.schema [] = .ok c) (hq : q.paging.InRange) (hlen : (members.length : Int) ≤ maxI64) :
    subQueryCursor Generated.boltzPaging linked q members =
      page c q.paging.skip q.paging.limit (members.filter fun r => !linked.childSkip r && sat r q.filter) := by
  rw [paging_facts_expected, ← matching_env]
  exact iterate_bucket_exact hid hc hord _ _ hq hlen

def pvRows : List Row := [⟨[97], []⟩, ⟨[98], []⟩, ⟨[99], []⟩, ⟨[100], []⟩]
/-- a: r w, b: w, c: r, d: — ; owner o holds back-references to b and d -/
def pvIx : Indexes :=
  { valuesOf := fun id => if id = [97] then [[114], [119]] else if id = [98] then [[119]] else if id = [99] then [[114]] else [],
    index := [([114], [[97], [99]]), ([119], [[97], [98]])],
    related := [(([111], "things"), [[98], [100]])] }

example : BucketOrdered pvRows ∧ IndexesMirror pvIx pvRows := by
  refine ⟨by unfold BucketOrdered; decide, fun v => ?_, fun k ids hk => ?_⟩
  · -- the two indexed values by evaluation; any other value is in no entity's list and has no index bucket
    by_cases h1 : v = [114]
    · subst h1; decide
    · by_cases h2 : v = [119]
      · subst h2; decide
      · simp [pvIx, pvRows, hasValue, List.lookup, List.filter, h1, h2, beq_eq_false_iff_ne.2 h1, beq_eq_false_iff_ne.2 h2]
  · simp only [pvIx, List.lookup] at hk
    split at hk
    · cases hk; exact ⟨by unfold IdLt; decide, by decide⟩
    · cases hk

example : ((iteratorMatchingAllOf [[114], [119], [114]]).cursor pvIx pvRows true).map (·.map (·.id)) = some [[97]] := by decide
example : ((iteratorMatchingAnyOf [[119], [114], [119]]).cursor pvIx pvRows false).map (·.map (·.id)) = some [[99], [98], [97]] := by
  decide
example : ((iteratorMatchingAllOf []).cursor pvIx pvRows true) = some [] := by decide
example : ((Provider.related [111] "things").cursor pvIx pvRows false).map (·.map (·.id)) = some [[100], [98]] := by decide

/-- **query_ids_total**: `QueryIdsC` answers what the specification demands for EVERY sort list — refused
    ones (error of the comparator) and `id`-first ones included -/
theorem query_ids_total (st : BoltStore) (rows : List Row) (q : Query)
    (hb : st.bucket = some rows) (hord : BucketOrdered rows) (hid : HasIdSymbol st.schema)
    (hq : q.paging.InRange) (hlen : (rows.length : Int) ≤ maxI64) :
    queryIdsC Generated.boltzPaging st q = specAnswer st rows q := by
  unfold specAnswer requested
  cases hsort : q.sort with
  | nil =>
    obtain ⟨c, hc⟩ := newRowComparator_nil_ok hid
    simp only [effSort, hc]
    exact query_ids_exact st rows q c hb hord hid (by rw [hsort]; exact hc) hq hlen
  | cons f rest =>
    by_cases hname : f.name = "id"
    · obtain ⟨c, hc⟩ := newRowComparator_id_ok hid f.asc
      have hf : f = ⟨"id", f.asc⟩ := by cases f; simp only at hname; subst hname; rfl
      simp only [effSort, hname, if_true]
      rw [hf] at hsort ⊢
      simp only [hc]
      exact id_first_exact st rows q f.asc rest c hsort hb hord hid hc hq hlen
    · simp only [effSort, hname, if_false]
      have hs : newScanner q.sort = .sorting := by rw [hsort, newScanner_cons, if_neg hname]
      cases hc : newRowComparator st.schema (f :: rest) with
      | error e =>
        exact (sorting_scan_error_exact st rows q e hb hs (by rw [hsort]; exact hc)).1
      | ok c =>
        exact query_ids_exact st rows q c hb hord hid (by rw [hsort]; exact hc) hq hlen

theorem iterate_ids_total (st : BoltStore) (rows : List Row) (q : Query)
    (hb : st.bucket = some rows) (hord : BucketOrdered rows) (hid : HasIdSymbol st.schema)
    (hq : q.paging.InRange) (hlen : (rows.length : Int) ≤ maxI64) :
    iterateIds Generated.boltzPaging st q = specIter st rows q := by
  obtain ⟨c, hc⟩ := newRowComparator_nil_ok hid
  simp only [specIter, hc, requested, ← matching_env]
  exact cursor_iter_exact st rows q c hb hord hid hc hq hlen

/-- invariant of `history_exact`: the object as the executions left it (`qm`) and the caller's request (`qs`) have the
    same filter and sort clause, and pagings that `setPaging` reads as the same targets (an execution's write-back changes
    the paging fields, not their targets: `targetOf_writeback`); `rm` / `rs`: both pagings hold int64 values -/
structure Agrees (qm qs : Query) : Prop where
  filter : qm.filter = qs.filter
  sort : qm.sort = qs.sort
  target : targetOf qm.paging = targetOf qs.paging
  rm : qm.paging.InRange
  rs : qs.paging.InRange

theorem agrees_writeback {qm qs : Query} (h : Agrees qm qs) : Agrees (wroteBack expectedPaging qm) qs :=
  ⟨h.filter, h.sort, by simp only [wroteBack]; rw [targetOf_writeback]; exact h.target, inRange_writeback h.rm, h.rs⟩

theorem step_exact (st : BoltStore) (rows : List Row) (hb : st.bucket = some rows) (hord : BucketOrdered rows)
    (hid : HasIdSymbol st.schema) (hlen : (rows.length : Int) ≤ maxI64) {qm qs : Query} (h : Agrees qm qs) (op : QOp)
    (hop : op.InRange) :
    (stepOp Generated.boltzPaging st qm op).2 = specObs st qs op ∧
      Agrees (stepOp Generated.boltzPaging st qm op).1 (applyRequest qs op) := by
  have hrun := query_ids_total st rows qs hb hord hid h.rs hlen
  have hiter := iterate_ids_total st rows qs hb hord hid h.rs hlen
  rw [paging_facts_expected] at hrun hiter ⊢
  rw [queryIdsC_eq_P, ← h.filter, ← h.sort, ← queryIdsCP_target st _ _ h.target, ← queryIdsC_eq_P] at hrun
  cases op with
  | run =>
    simpa only [stepOp, specObs, hb, hrun, Option.isNone_some, applyRequest, Bool.false_eq_true, if_false, true_and]
      using agrees_writeback h
  | cur =>
    simp only [stepOp, specObs, hb, applyRequest]
    exact ⟨by rw [← hrun]; simp only [queryIdsC, queryWithCursorC, hb], agrees_writeback h⟩
  | iter =>
    simp only [stepOp, specObs, hb, Option.isNone_some, applyRequest, Bool.false_eq_true, if_false]
    exact ⟨by rw [← hiter]; simp only [iterateIds, hb, h.filter, iterate_target _ h.target], agrees_writeback h⟩
  | getSort => exact ⟨by simp only [stepOp, specObs, h.sort], h⟩
  | adopt s => exact ⟨rfl, { h with sort := rfl }⟩
  | setPredicate f => exact ⟨rfl, { h with filter := rfl }⟩
  | setSkip v =>
    exact ⟨rfl, { h with target := targetOf_setSkip h.target v, rm := inRange_setSkip h.rm hop,
                         rs := inRange_setSkip h.rs hop }⟩
  | setLimit v =>
    exact ⟨rfl, { h with target := targetOf_setLimit h.target v, rm := inRange_setLimit h.rm hop,
                         rs := inRange_setLimit h.rs hop }⟩

/-- **history_exact.**  For every sequence of calls on ONE query object — executions through `QueryIdsC`,
    `QueryWithCursorC`, `IterateIds`, reads of the sort fields, `AdoptSortFields`, `SetSkip`, `SetLimit`,
    `SetPredicate`, in any order and number — every execution answers the page (and count) of the request
    as the caller's own calls have made it by then: the sort clause adopted last, the skip / limit set last,
    the predicate set last.  Earlier executions (which write the paging defaults back into the object)
    and earlier reads leave no trace. -/
theorem history_exact (st : BoltStore) (rows : List Row) (q0 : Query) (ops : List QOp)
    (hb : st.bucket = some rows) (hord : BucketOrdered rows) (hid : HasIdSymbol st.schema)
    (hq : q0.paging.InRange) (hops : ∀ op ∈ ops, op.InRange) (hlen : (rows.length : Int) ≤ maxI64) :
    runHistory Generated.boltzPaging st q0 ops = specHistory st q0 ops := by
  suffices h : ∀ (ops : List QOp) (qm qs : Query), Agrees qm qs → (∀ op ∈ ops, op.InRange) →
      runHistory Generated.boltzPaging st qm ops = specHistory st qs ops from
    h ops q0 q0 ⟨rfl, rfl, rfl, hq, hq⟩ hops
  intro ops
  induction ops with
  | nil => intros; rfl
  | cons op ops ih =>
    intro qm qs hag hops
    obtain ⟨hobs, hag'⟩ := step_exact st rows hb hord hid hlen hag op (hops op List.mem_cons_self)
    simp only [runHistory, specHistory, hobs]
    exact congrArg _ (ih _ _ hag' fun o ho => hops o (List.mem_cons_of_mem _ ho))

/-- without entities bucket nothing is scanned and nothing is written back: every execution answers
    "no rows, count 0" and the object stays exactly what the caller made it -/
theorem history_exact_no_bucket (st : BoltStore) (q0 : Query) (ops : List QOp) (hb : st.bucket = none) :
    runHistory Generated.boltzPaging st q0 ops = specHistory st q0 ops := by
  induction ops generalizing q0 with
  | nil => rfl
  | cons op ops ih =>
    simp only [runHistory, specHistory]
    have h1 : (stepOp Generated.boltzPaging st q0 op).2 = specObs st q0 op := by
      cases op <;> simp [stepOp, specObs, hb, queryIdsC, iterateIds]
    have h2 : (stepOp Generated.boltzPaging st q0 op).1 = applyRequest q0 op := by
      cases op <;> simp [stepOp, applyRequest, hb]
    rw [h1, h2, ih]

/-- a query sorted by `s`, executed, then adopting `id desc`, executed again: the second answer is in the adopted order -/
example : (runHistory expectedPaging exStore exQuery [.run, .adopt [⟨"id", false⟩], .run]).map
      (fun o => match o with | .answer r => answer r | _ => none) =
    [some ([[97], [99]], 3), none, some ([[98], [97]], 3)] := by decide +kernel

/-- non-vacuity of `history_exact`'s hypotheses (with `exStore`, `exQuery` above) -/
example : ∀ op ∈ [QOp.run, .adopt [⟨"id", false⟩], .setSkip 1, .setLimit (-1), .iter], op.InRange := by
  intro op h
  simp only [List.mem_cons, List.mem_nil_iff, or_false] at h
  rcases h with rfl | rfl | rfl | rfl | rfl <;> simp [QOp.InRange, InI64, minI64, maxI64]

/-- after an execution wrote the defaults back (`skip 1`, limit MaxInt64), `SetLimit(1)` and a new sort clause
    decide the next answer alone -/
example : (runHistory expectedPaging exStore exQuery [.cur, .setLimit 1, .adopt [⟨"s", false⟩], .getSort, .run]).map
      (fun o => match o with | .answer r => answer r | _ => none) =
    [some ([[97], [99]], 3), none, none, none, some ([[99]], 3)] := by decide +kernel

end StorageModel.Properties.C02

#print axioms StorageModel.Properties.C02.paging_facts_expected
#print axioms StorageModel.Properties.C02.comparator_strict_total
#print axioms StorageModel.Properties.C02.order_closed_form
#print axioms StorageModel.Properties.C02.order_lexicographic
#print axioms StorageModel.Properties.C02.ties_broken_by_id
#print axioms StorageModel.Properties.C02.nulls_first_ascending
#print axioms StorageModel.Properties.C02.count_exact_any_comparator
#print axioms StorageModel.Properties.C02.sort_characterised
#print axioms StorageModel.Properties.C02.k_smallest_stream
#print axioms StorageModel.Properties.C02.set_paging_exact
#print axioms StorageModel.Properties.C02.set_paging_idempotent
#print axioms StorageModel.Properties.C02.index_scan_exact
#print axioms StorageModel.Properties.C02.sorting_scan_exact
#print axioms StorageModel.Properties.C02.query_ids_exact
#print axioms StorageModel.Properties.C02.cursor_provider_exact
#print axioms StorageModel.Properties.C02.paging_tokens_exact
#print axioms StorageModel.Properties.C02.strategy_independent
#print axioms StorageModel.Properties.C02.count_exact
#print axioms StorageModel.Properties.C02.cursor_iter_exact
#print axioms StorageModel.Properties.C02.cursor_seek_exact
#print axioms StorageModel.Properties.C02.pinned_arithmetic_violates
#print axioms StorageModel.Properties.C02.coerced_keys
#print axioms StorageModel.Properties.C02.int_float_key_not_nan
#print axioms StorageModel.Properties.C02.float_comparator_total
#print axioms StorageModel.Properties.C02.nan_sorts_first
#print axioms StorageModel.Properties.C02.float_comparator_facts_expected
#print axioms StorageModel.Properties.C02.cursor_provider_exact_all
#print axioms StorageModel.Properties.C02.iterator_all_of_exact
#print axioms StorageModel.Properties.C02.iterator_any_of_exact
#print axioms StorageModel.Properties.C02.cursor_scanner_exact
#print axioms StorageModel.Properties.C02.sort_accepted_iff
#print axioms StorageModel.Properties.C02.sort_field_error_exact
#print axioms StorageModel.Properties.C02.dotted_sort_field_refused
#print axioms StorageModel.Properties.C02.sorting_scan_error_exact
#print axioms StorageModel.Properties.C02.id_first_exact
#print axioms StorageModel.Properties.C02.llrb_insert_is_sorted_insert
#print axioms StorageModel.Properties.C02.int_float_key_monotone
#print axioms StorageModel.Properties.C02.query_ids_total
#print axioms StorageModel.Properties.C02.iterate_ids_total
#print axioms StorageModel.Properties.C02.history_exact
#print axioms StorageModel.Properties.C02.history_exact_no_bucket
