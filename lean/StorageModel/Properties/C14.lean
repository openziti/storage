import StorageModel.Cursor.KindsProofs
import StorageModel.Cursor.StackedProofs
import StorageModel.Cursor.ReuseProofs
import StorageModel.Cursor.Multi
import StorageModel.Cursor.WriteProofs
import StorageModel.Cursor.World
/-
  C14 — Every set cursor enumerates its set exactly, in order, and seeks correctly.

  "Every set cursor the library hands out - forward or reverse, raw or typed, filtered, union or
  tree-backed, over index values, index keys, link sets or related-entity sets - enumerates
  exactly the elements of its underlying set once each in key order (descending for reverse
  cursors), reports invalid once exhausted and immediately for an empty set without panicking,
  and returns element values without storage type tags.  After Seek(v) a seekable cursor is
  positioned on the first element >= v (the last element <= v for reverse cursors), or is
  invalid if there is none."   — for all finite sets of byte strings (including the empty string,
  shared prefixes, the empty set) × all cursor kinds × all seek targets × all interleavings of
  Next and Seek.

  `Desc` describes a cursor the library hands out (kind + data, nested for the wrappers);
  `Desc.open` is the model — the literal Go adapters stacked on the bbolt cursor model
  (StorageModel/Cursor/{Bolt,Mem,Scanner,Kinds}.lean); `Desc.spec` / `Desc.list` the
  specification.  The correspondence check runs `Desc.open` (driver) against the real cursors.
  bbolt itself (ordered keys, First/Last/Next/Prev/Seek) is modelled, not verified.
-/
namespace StorageModel.Properties.C14
open StorageModel.Cursor

/-- the elements of the underlying set, in any order, possibly repeated -/
def elems : Desc → List Bytes
  | .fwd xs | .rev xs | .tfwd _ xs | .trev _ xs | .setsym xs | .slice _ xs | .tree _ _ xs => xs
  | .setsymNone | .empty => []
  | .filt i keep => (elems i).filter (Desc.mem keep)
  | .union _ a b => elems a ++ elems b
  | .scan i skip keep => (elems i).filter (fun x => !Desc.mem skip x && Desc.mem keep x)
  | .validIds i present => (elems i).filter (Desc.mem present)

theorem mem_filter_congr {l l' : List Bytes} (q : Bytes → Bool) {x : Bytes} (h : x ∈ l ↔ x ∈ l') :
    x ∈ l.filter q ↔ x ∈ l'.filter q :=
  List.mem_filter.trans ((and_congr_left' h).trans List.mem_filter.symm)

theorem mem_list_iff : ∀ (d : Desc) (x : Bytes), x ∈ d.list ↔ x ∈ elems d
  | .fwd _, _ | .tfwd .., _ | .setsym _, _ | .tree .., _ => mem_sortD
  | .rev _, _ | .trev .., _ => List.mem_reverse.trans mem_sortD
  | .setsymNone, _ | .empty, _ | .slice .., _ => Iff.rfl
  | .filt i _, x | .validIds i _, x | .scan i _ _, x => mem_filter_congr _ (mem_list_iff i x)
  | .union _ a b, x =>
    mem_sortD.trans (List.mem_append.trans ((or_congr (mem_list_iff a x) (mem_list_iff b x)).trans List.mem_append.symm))

/-- **the specification list is the underlying set in key order**: `order kind (dedupSort xs)` -/
theorem list_is_ordered_set (d : Desc) (h : d.WF) : d.list = order d.dir (dedupSort (elems d)) := by
  rw [← sortD_eq_order]
  exact eq_sortD (Desc.sorted d h) (mem_list_iff d)

/-- **Any interleaving of Next and Seek.**  For every described cursor and every script the
    model — the literal adapters over the bbolt model — produces, observation by observation
    (after opening and after every operation), what the specification prescribes; in particular
    no operation panics.  (`d.render` is `some` except for cursors that read through
    `GetTypeAndValue`, which return nil for the empty element.) -/
theorem next_seek_mix (d : Desc) (h : d.WF) (ops : List Op) :
    d.open.run ops = (d.spec.openRun ops).map (Obs.render d.render) :=
  (Desc.implements d h).run_eq ops

/-- **Exact enumeration, once each, in order.**  Iterating a freshly opened cursor to exhaustion
    yields exactly the underlying set as `order kind (dedupSort xs)` — each element once,
    ascending for forward and descending for reverse cursors — and terminates within the model's
    loop budget. -/
theorem enumerates (d : Desc) (h : d.WF) :
    d.open.toList d.fuel = .ok ((order d.dir (dedupSort (elems d))).map d.render) := by
  rw [← list_is_ordered_set d h]
  exact d.toList_eq h (Desc.list_lt_fuel d)

theorem getLast?_cons_snoc {α} (a : α) (l : List α) (x : α) : (a :: (l ++ [x])).getLast? = some x := by
  rw [← List.cons_append, List.getLast?_append]; simp

theorem not_before_fwd (v : Bytes) : (fun x => !decide (Dir.fwd.before x v)) = fun x => decide (v ≤ x) := by
  funext x
  have : (v ≤ x) ↔ ¬ x < v := ble_iff
  simp only [Dir.before, this, decide_not]

theorem not_before_rev (v : Bytes) : (fun x => !decide (Dir.rev.before x v)) = fun x => decide (x ≤ v) := by
  funext x
  have : (x ≤ v) ↔ ¬ v < x := ble_iff
  simp only [Dir.before, this, decide_not]

/-- **Exhausted means invalid, and it stays so.**  After as many `Next` calls as there are
    elements the cursor reports invalid, and every further `Next` leaves it invalid
    (no panic, no resurrection). -/
theorem exhausted_invalid (d : Desc) (h : d.WF) (k : Nat) :
    (d.open.run (List.replicate (d.list.length + k) .next)).getLast? = some .invalid := by
  rw [next_seek_mix d h, Spec.openRun, Desc.spec_list, run_nexts_spec]
  cases hn : d.list.length + k with
  | zero =>
    have : d.list = [] := List.eq_nil_of_length_eq_zero (by omega)
    simp [this, Spec.observe, Obs.render]
  | succ n =>
    have : d.list.drop (n + 1) = [] := List.drop_eq_nil_iff.2 (by omega)
    simp only [List.range_succ, List.map_append, List.map_cons, List.map_nil, this, Spec.observe, Obs.render]
    exact getLast?_cons_snoc _ _ _

theorem spec_nil_closed (d : Desc) (hl : d.list = []) : d.spec.NilClosed := by
  rw [Desc.spec_eq, hl]
  split
  · exact std_nil_closed _ _
  · exact setSymSpec_nil_closed

/-- **The empty set: invalid at once, never a panic.**  A cursor over an empty set (empty
    bucket, missing bucket, empty tree — `NewTreeCursor` on a tree without root —, filter that
    rejects everything, …) is invalid right after it has been opened and stays invalid under
    every script; nothing panics. -/
theorem empty_invalid_no_panic (d : Desc) (h : d.WF) (hempty : ∀ x, x ∉ elems d) (ops : List Op) :
    ∀ o ∈ d.open.run ops, o = Obs.invalid ∨ o = Obs.unsupported := by
  have hl : d.list = [] := List.eq_nil_iff_forall_not_mem.2 (fun x hx => hempty x ((mem_list_iff d x).1 hx))
  rw [next_seek_mix d h, Spec.openRun_nil (spec_nil_closed d hl) ((Desc.spec_list d).trans hl)]
  intro o ho
  rcases List.mem_cons.1 ho with rfl | ho
  · exact .inl rfl
  · obtain ⟨op, -, rfl⟩ := List.mem_map.1 ho
    split
    · exact .inl rfl
    · exact .inr rfl

/-- **No storage type tag in the values.**  The list bucket of a typed cursor holds the keys
    `tag :: e`; the cursor returns the elements `e` themselves (forward: ascending, reverse:
    descending), for every tag byte and every set, including the empty-string element. -/
theorem untagged (tag : UInt8) (xs : List Bytes) :
    (∀ k ∈ tagged tag (dedupSort xs), ∃ e ∈ xs, k = tag :: e) ∧
    (Desc.tfwd tag xs).open.toList (xs.length + 2) = .ok ((dedupSort xs).map some) ∧
    (Desc.trev tag xs).open.toList (xs.length + 2) = .ok ((dedupSort xs).reverse.map some) := by
  refine ⟨?_, ?_, ?_⟩
  · intro k hk
    simp only [tagged, List.mem_map] at hk
    obtain ⟨e, he, rfl⟩ := hk
    exact ⟨e, mem_sortD.1 he, rfl⟩
  · exact (Desc.tfwd tag xs).toList_eq trivial (Nat.lt_succ_of_le (Nat.le_succ_of_le (sortD_length_le .fwd xs)))
  · exact (Desc.trev tag xs).toList_eq trivial
      (by rw [Desc.list, List.length_reverse]; exact Nat.lt_succ_of_le (Nat.le_succ_of_le (sortD_length_le .fwd xs)))

/-- the set-symbol cursor strips the tag as well; by the empty ≡ nil convention of
    `GetTypeAndValue` the empty element is returned as nil (the cursor stays valid on it) -/
theorem untagged_setsym (xs : List Bytes) :
    (Desc.setsym xs).open.toList (xs.length + 2) = .ok ((dedupSort xs).map renderNilEmpty) :=
  (Desc.setsym xs).toList_eq trivial (Nat.lt_succ_of_le (Nat.le_succ_of_le (sortD_length_le .fwd xs)))

/-- the remaining list after a script, according to the specification -/
def specState (S : Spec) : List Op → List Bytes → List Bytes
  | [], rem => rem
  | op :: ops, rem =>
    match S.method op with
    | none => specState S ops rem
    | some f => specState S ops (f rem)

theorem spec_run_snoc (S : Spec) (op : Op) : ∀ (ops : List Op) (rem : List Bytes),
    S.run (ops ++ [op]) rem = S.run ops rem ++
      (match S.method op with
        | none => [Obs.unsupported]
        | some f => [Spec.observe (f (specState S ops rem))])
  | [], rem => by
    simp only [List.nil_append, Spec.run, specState]
    cases S.method op <;> rfl
  | o :: ops, rem => by
    simp only [List.cons_append, Spec.run, specState]
    cases S.method o with
    | none => simp [spec_run_snoc S op ops rem]
    | some f => simp [spec_run_snoc S op ops (f rem)]

theorem last_openRun_snoc (S : Spec) (r : Render) (ops : List Op) (op : Op) :
    ((S.openRun (ops ++ [op])).map (Obs.render r)).getLast? =
      some ((match S.method op with
        | none => Obs.unsupported
        | some f => Spec.observe (f (specState S ops S.list))).render r) := by
  rw [Spec.openRun, spec_run_snoc]
  cases S.method op <;> simp only [List.map_cons, List.map_append, List.map_nil] <;>
    exact getLast?_cons_snoc _ _ _

theorem observe_seek_fwd {L : List Bytes} (hs : Sorted .fwd L) (v : Bytes) (r : Render) :
    (Spec.observe (Spec.seekIn .fwd L v)).render r =
      match (L.filter (fun x => decide (v ≤ x))).head? with
      | some x => .value (r x)
      | none => .invalid := by
  rw [Spec.seekIn, dropWhile_eq_filter v hs, not_before_fwd]
  cases L.filter fun x => decide (v ≤ x) <;> rfl

theorem observe_seek_rev {L : List Bytes} (hs : Asc L) (v : Bytes) (r : Render) :
    (Spec.observe (Spec.seekIn .rev L.reverse v)).render r =
      match (L.filter (fun x => decide (x ≤ v))).getLast? with
      | some x => .value (r x)
      | none => .invalid := by
  rw [Spec.seekIn, dropWhile_eq_filter v (asc_reverse hs), not_before_rev, List.filter_reverse, ← List.head?_reverse]
  cases (L.filter fun x => decide (x ≤ v)).reverse <;> rfl

theorem last_after_seek (d : Desc) (h : d.WF) (hstd : d.isStd = true) (hsk : d.seekable = true)
    (ops : List Op) (v : Bytes) :
    (d.open.run (ops ++ [.seek v])).getLast? = some ((Spec.observe (Spec.seekIn d.dir d.list v)).render d.render) := by
  rw [next_seek_mix d h, last_openRun_snoc, Desc.spec_of_isStd hstd, hsk]
  rfl

/-- **Seek on a forward cursor.**  Whatever happened before (any script `ops`), after `Seek(v)`
    the cursor stands on the first element `≥ v` of its set, or is invalid if there is none. -/
theorem seek_forward (d : Desc) (h : d.WF) (hstd : d.isStd = true) (hsk : d.seekable = true)
    (hdir : d.dir = .fwd) (ops : List Op) (v : Bytes) :
    (d.open.run (ops ++ [.seek v])).getLast? =
      some (match ((dedupSort (elems d)).filter (fun x => decide (v ≤ x))).head? with
        | some x => .value (d.render x)
        | none => .invalid) := by
  rw [last_after_seek d h hstd hsk, list_is_ordered_set d h, hdir]
  exact congrArg some (observe_seek_fwd sorted_sortD v _)

/-- **Seek on a reverse cursor.**  After `Seek(v)` the cursor stands on the last element `≤ v`
    of its set (in key order), or is invalid if there is none. -/
theorem seek_reverse (d : Desc) (h : d.WF) (hstd : d.isStd = true) (hsk : d.seekable = true)
    (hdir : d.dir = .rev) (ops : List Op) (v : Bytes) :
    (d.open.run (ops ++ [.seek v])).getLast? =
      some (match ((dedupSort (elems d)).filter (fun x => decide (x ≤ v))).getLast? with
        | some x => .value (d.render x)
        | none => .invalid) := by
  rw [last_after_seek d h hstd hsk, list_is_ordered_set d h, hdir]
  exact congrArg some (observe_seek_rev sorted_sortD v _)

/-- **`SeekToString` on the set-symbol cursor** lands on the first element `≥ v`
    (the raw `Seek` of that type compares against stored keys, type byte included: `setSymSpec`). -/
theorem seek_setsym (xs : List Bytes) (ops : List Op) (v : Bytes) :
    ((Desc.setsym xs).open.run (ops ++ [.seekS v])).getLast? =
      some (match ((dedupSort xs).filter (fun x => decide (v ≤ x))).head? with
        | some x => .value (renderNilEmpty x)
        | none => .invalid) := by
  rw [next_seek_mix (.setsym xs) trivial, last_openRun_snoc]
  exact congrArg some (observe_seek_fwd sorted_sortD v _)

/-- **Union: every element of either operand exactly once, in order.**  For any two cursors
    that implement lists sorted in the union's direction — whatever they return for the empty
    element (`some []` or nil, `Faithful`) — `NewUnionSetCursor` behaves, under every script, as a
    cursor over the sorted duplicate-free union: a shared element is emitted once, validity does
    not depend on the returned value being non-nil, and iterating to exhaustion yields the whole
    union, each value rendered as the operand it is taken from renders it (the first on a tie). -/
theorem union_exact {a b : AnyCursor} {S₁ S₂ : Spec} {r₁ r₂ : Render} (d : Dir) (ha : a.Implements S₁ r₁)
    (hb : b.Implements S₂ r₂) (hf₁ : Faithful r₁) (hf₂ : Faithful r₂)
    (h₁ : Sorted d S₁.list) (h₂ : Sorted d S₂.list) (ops : List Op) {fuel : Nat}
    (hf : S₁.list.length + S₂.list.length < fuel) :
    (newUnionSetCursor a b (d == .fwd)).run ops =
      ((Spec.plain (sortD d (S₁.list ++ S₂.list))).openRun ops).map (Obs.render (unionRender S₁.list r₁ r₂)) ∧
    (newUnionSetCursor a b (d == .fwd)).toList fuel =
      .ok ((sortD d (S₁.list ++ S₂.list)).map (unionRender S₁.list r₁ r₂)) ∧
    Faithful (unionRender S₁.list r₁ r₂) := by
  have := newUnionSetCursor_implements ha hb hf₁ hf₂ d h₁ h₂
  refine ⟨this.run_eq ops, this.toList_eq ?_, faithful_unionRender hf₁ hf₂⟩
  have := sortD_length_le d (S₁.list ++ S₂.list)
  simp only [Spec.std, List.length_append] at this ⊢; omega

/-- **Filtered: exactly the accepted elements, none skipped.**  For any wrapped cursor and any
    predicate, `NewFilteredCursor` enumerates the wrapped list filtered — in particular the
    element after a rejected one is not lost, and a cursor whose elements are all rejected (or
    that is empty) is invalid from the start. -/
theorem filtered_exact {c : AnyCursor} {S : Spec} {r : Render} (h : c.Implements S r) (p : Option Bytes → Bool)
    {fuel : Nat} (hf : S.list.length < fuel) :
    (newFilteredCursor c p fuel).toList fuel = .ok ((S.list.filter (fun x => p (r x))).map r) :=
  (newFilteredCursor_implements h p hf).toList_eq
    (Nat.lt_of_le_of_lt (List.length_filter_le _ _) hf)

/-- **Tree cursor = in-order traversal, for every binary tree** (any shape the rebalancing of
    the llrb tree may produce), without panic on the empty tree and on `Next` past the end; a
    `TreeSet` filled by `Add` yields its elements once each in comparator order. -/
theorem tree_inorder (root : Tree) (render : Render) (ops : List Op) (d : Dir) (adds : List Bytes) :
    ({ σ := TreeCur, M := treeMachine render, init := newTreeCursor root } : AnyCursor).run ops =
      ((Spec.plain root.inorder).openRun ops).map (Obs.render render) ∧
    (treeSetCursor d render adds).toList (adds.length + 1) = .ok ((order d (dedupSort adds)).map render) := by
  refine ⟨(treeCursor_implements root render).run_eq ops, ?_⟩
  rw [← sortD_eq_order]
  exact (treeSetCursor_implements d render adds).toList_eq
    (Nat.lt_succ_of_le (sortD_length_le d adds))

/-- **IteratorMatchingAllOf**: for every table of entities (one value list per id), every
    non-empty list of values and either direction, the iterator is a well-formed cursor (so
    `next_seek_mix`, `exhausted_invalid`, … apply) over exactly the ids that hold all the values,
    in key order. -/
theorem allOf_exact (d : Dir) (t : Desc.Table) (ht : Desc.Table.Functional t) (values : List Bytes)
    (hv : values ≠ []) :
    (Desc.allOf d t values).WF ∧
    (Desc.allOf d t values).list = order d (dedupSort (Desc.hasAll t values)) ∧
    (Desc.allOf d t values).open.toList (Desc.allOf d t values).fuel =
      .ok ((order d (dedupSort (Desc.hasAll t values))).map (Desc.allOf d t values).render) := by
  have hwf := Desc.allOf_wf d t values
  have hl : (Desc.allOf d t values).list = order d (dedupSort (Desc.hasAll t values)) := by
    rw [Desc.allOf_list d ht values hv, sortD_eq_order]
  refine ⟨hwf, hl, ?_⟩
  have := Desc.toList_eq _ hwf (Desc.list_lt_fuel (Desc.allOf d t values))
  rwa [hl] at this

/-- **IteratorMatchingAnyOf**: exactly the ids that hold at least one of the values, once each
    (an id holding several of them is not repeated), in key order; no panic when no id matches
    (the tree set is then empty). -/
theorem anyOf_exact (d : Dir) (t : Desc.Table) (values : List Bytes) (hv : values ≠ []) :
    (Desc.anyOf d t values).WF ∧
    (Desc.anyOf d t values).list = order d (dedupSort (Desc.hasAny t values)) ∧
    (Desc.anyOf d t values).open.toList (Desc.anyOf d t values).fuel =
      .ok ((order d (dedupSort (Desc.hasAny t values))).map (Desc.anyOf d t values).render) := by
  have hwf := Desc.anyOf_wf d t values
  have hl : (Desc.anyOf d t values).list = order d (dedupSort (Desc.hasAny t values)) := by
    rw [Desc.anyOf_list d t values, sortD_eq_order]
  refine ⟨hwf, hl, ?_⟩
  have := Desc.toList_eq _ hwf (Desc.list_lt_fuel (Desc.anyOf d t values))
  rwa [hl] at this

/-- non-vacuity of `Table.Functional`, and AnyOf over values nobody holds (`NewTreeCursor` on an empty tree set: the panic
    repaired in 9437023) -/
example : Desc.Table.Functional [([97], [[114], [113]]), ([98], [[114]])] := by
  intro x r r' h h'
  simp only [List.mem_cons, Prod.mk.injEq, List.mem_nil_iff, or_false] at h h'
  rcases h with ⟨rfl, rfl⟩ | ⟨rfl, rfl⟩ <;> rcases h' with ⟨h1, rfl⟩ | ⟨h1, rfl⟩ <;> first | rfl | (simp at h1)
example : (Desc.anyOf .fwd [([97], [[114]])] [[120], [121]]).open.run [.next] = [.invalid, .invalid] := by decide +kernel

/-- sliceSetCursor enumerates its slice (any list) -/
theorem slice_exact (vals : List Bytes) (ops : List Op) :
    (sliceCursor vals).run ops = (Spec.plain vals).openRun ops := by
  have := (sliceCursor_implements vals).run_eq ops
  rwa [Obs.render_some, List.map_id] at this

/-- **stackedCursor** (the cursor of a composite set symbol such as `others.tags`; not a set
    cursor: it walks a chain of path elements depth first).  For every non-empty chain, every
    row and every script it yields exactly the depth-first concatenation of the keys of its path
    elements, values without their type byte, and is invalid afterwards; no panic, and the loop
    of `calculateNextCursorPosition` ends within `stackedFuel` iterations. -/
theorem stacked_exact (l0 : Level) (ls : List Level) (rowId : Option Bytes) (ops : List Op) :
    (stackedOpen (l0 :: ls) rowId (stackedFuel (l0 :: ls) rowId)).run ops =
      ((Spec.plain (stackedKeys (l0 :: ls) rowId)).openRun ops).map (Obs.render rowKeyOf) :=
  (stackedOpen_implements l0 ls rowId (Nat.le_refl _)).run_eq ops

/-- the description of the fresh set-symbol cursor of a row: no bucket / a bucket holding `xs` -/
def setRowDesc : Option (List Bytes) → Desc
  | none => .setsymNone
  | some xs => .setsym xs

theorem setRowDesc_spec (row : Option (List Bytes)) : (setRowDesc row).spec = setRowSpec row := by
  cases row <;> rfl

theorem setRowDesc_implements (row : Option (List Bytes)) :
    (setRowDesc row).open.Implements (setRowSpec row) renderNilEmpty := by
  have := Desc.implements (setRowDesc row) (by cases row <;> trivial)
  rw [setRowDesc_spec] at this
  cases row <;> exact this

/-- **entitySetSymbolRuntime, re-opened.**  For every assignment of sets (or "no bucket") to rows,
    every sequence of segments and EVERY state `s` the object may have been left in: the
    observations are, segment by segment, those of a fresh cursor over the row's set, i.e. those of
    the list specification of that set (elements in key order, `SeekToString` to the first element
    `≥ v`). -/
theorem reopen_setsym {κ : Type} (rows : κ → Option (List Bytes)) (segs : List (κ × List Op)) (s : SetSymCur) :
    (setSymReusable rows).run segs s = segs.flatMap (fun seg => (setRowDesc (rows seg.1)).open.run seg.2) ∧
    (setSymReusable rows).run segs s =
      segs.flatMap fun seg => ((setRowDesc (rows seg.1)).spec.openRun seg.2).map (Obs.render renderNilEmpty) := by
  have h := setSymReusable_implements rows
  refine ⟨h.run_eq_fresh (fresh := fun k => (setRowDesc (rows k)).open) (fun k => setRowDesc_implements (rows k)) segs s, ?_⟩
  rw [h.run_eq segs s]
  congr 1; funext seg; rw [setRowDesc_spec]

theorem setSymSpec_nil_openRun (ops : List Op) (r : Render) :
    ((setSymSpec []).openRun ops).map (Obs.render r) = List.replicate (ops.length + 1) .invalid := by
  rw [Spec.openRun_nil setSymSpec_nil_closed rfl, List.replicate_succ, ← List.map_const']
  exact congrArg _ (List.map_congr_left fun op _ => by cases op <;> rfl)

/-- **A row without elements after anything.**  Whatever was done to the object before (any
    segments `before`, from any state `s` — e.g. left standing on an element of another row), opening
    it on a row that has no bucket for the set, or an empty one, yields a cursor that is invalid at
    once and after every operation; the earlier observations are unaffected. -/
theorem reopen_empty_invalid {κ : Type} (rows : κ → Option (List Bytes)) (k : κ)
    (hk : ∀ xs, rows k = some xs → ∀ x, x ∉ xs) (before : List (κ × List Op)) (ops : List Op) (s : SetSymCur) :
    (setSymReusable rows).run (before ++ [(k, ops)]) s =
      (setSymReusable rows).run before s ++ List.replicate (ops.length + 1) .invalid := by
  have h := setSymReusable_implements rows
  rw [h.run_eq, h.run_eq, List.flatMap_append]
  congr 1
  have hE : setRowSpec (rows k) = setSymSpec [] := by
    cases hr : rows k with
    | none => rfl
    | some xs =>
      have : dedupSort xs = [] := List.eq_nil_iff_forall_not_mem.2 (fun x hx => hk xs hr x (mem_sortD.1 hx))
      simp [setRowSpec, this]
  simp only [List.flatMap_cons, List.flatMap_nil, List.append_nil, hE, setSymSpec_nil_openRun]

/-- **compositeEntitySetSymbol, re-opened** (`others.tags`, …): every `OpenCursor` yields the
    depth-first concatenation for the new row, whatever state the previous stacked cursor was in. -/
theorem reopen_stacked {κ : Type} (l0 : Level) (ls : List Level) (rowOf : κ → Option Bytes) (fuel : Nat)
    (hf : ∀ k, stackedFuel (l0 :: ls) (rowOf k) ≤ fuel) (segs : List (κ × List Op)) (s : StackedCur) :
    (compReusable (l0 :: ls) fuel rowOf).run segs s =
      segs.flatMap fun seg =>
        ((Spec.plain (stackedKeys (l0 :: ls) (rowOf seg.1))).openRun seg.2).map (Obs.render rowKeyOf) :=
  (compReusable_implements l0 ls fuel rowOf hf).run_eq segs s

/-- **The sub-query cursor over a set symbol, row after row** (`OpenSetCursorForQuery`: a new
    scanner around the re-opened runtime symbol; no paging).  Segment by segment: the linked ids of
    the row that have a key, pass the child-store test and the filter, in key order; `Seek` is the
    set symbol's raw `Seek` followed by the next accepted row. -/
theorem reopen_subquery_setsym {κ : Type} (rows : κ → Option (List Bytes)) (cfg : ScanCfg) (hcfg : cfg.Unpaged)
    (fuel : Nat) (hf : ∀ k, (setRowSpec (rows k)).list.length + 1 < fuel) (segs : List (κ × List Op))
    (st : ScanState SetSymCur) :
    (scanReusable (setSymReusable rows) cfg fuel).run segs st =
      segs.flatMap fun seg =>
        ((scanSpecR (setRowSpec (rows seg.1)) renderNilEmpty (cfg.keepR renderNilEmpty)).openRun seg.2).map
          (Obs.render renderNilEmpty) :=
  (scanReusable_implements (setSymReusable_implements rows) (fun _ => setSymSpec_stateless _) hcfg hf).run_eq segs st

/-- **The sub-query cursor over a composite set symbol, row after row** (`from others.things where …`):
    the wrapped stacked cursor has no `Seek`, so `Seek` is the forward-only fallback loop. -/
theorem reopen_subquery_stacked {κ : Type} (l0 : Level) (ls : List Level) (rowOf : κ → Option Bytes) (cfg : ScanCfg)
    (hcfg : cfg.Unpaged) (fuel fuel' : Nat) (hf : ∀ k, stackedFuel (l0 :: ls) (rowOf k) ≤ fuel)
    (hf' : ∀ k, (stackedKeys (l0 :: ls) (rowOf k)).length + 1 < fuel') (segs : List (κ × List Op))
    (st : ScanState StackedCur) :
    (scanReusable (compReusable (l0 :: ls) fuel rowOf) cfg fuel').run segs st =
      segs.flatMap fun seg =>
        ((scanSpecR (Spec.plain (stackedKeys (l0 :: ls) (rowOf seg.1))) rowKeyOf (cfg.keepR rowKeyOf)).openRun seg.2).map
          (Obs.render rowKeyOf) :=
  (scanReusable_implements (compReusable_implements l0 ls fuel rowOf hf) (fun _ => plain_stateless _) hcfg hf').run_eq
    segs st

/-- **The non-seekable fallback of `uniqueIndexScanner.Seek`.**  For ANY wrapped cursor without a
    `Seek` method (it implements `Spec.plain L`, rendering through any `r`), after ANY script,
    `Seek(v)` leaves the scanner on the first of the rows *still ahead of it* whose value is not
    below `v`, or invalid if there is none — a forward-only seek: it never moves backwards, the loop
    ends within the budget, nothing panics. -/
theorem scan_fallback_seek {c : AnyCursor} {L : List Bytes} {r : Render} (h : c.Implements (Spec.plain L) r)
    (cfg : ScanCfg) (hcfg : cfg.Unpaged) {fuel : Nat} (hf : L.length + 1 < fuel) (ops : List Op) (v : Bytes) :
    ((newScanCursor c cfg fuel).run (ops ++ [.seek v])).getLast? =
      some ((Spec.observe
        ((specState (scanSpecR (Spec.plain L) r (cfg.keepR r)) ops (L.filter (cfg.keepR r))).dropWhile
          (fun x => decide ((r x).getD [] < v)))).render r) := by
  rw [(newScanCursor_implements h (plain_stateless L) hcfg hf).run_eq, last_openRun_snoc]
  rfl

/-- **The paged sub-query cursor** (`from others where … skip S limit L`), re-opened row after row
    and driven with `Next` (the `SetCursor` interface the set functions use): for ANY re-used set
    symbol object that implements its row specifications (`setSymReusable_implements`,
    `compReusable_implements`), every opening shows the window `drop S / take L` of the rows of the
    NEW row's set that the query accepts — offset and limit counters do not carry over from the
    previous row, nor does its position. -/
theorem reopen_subquery_paged {σ κ : Type} {U : Reusable σ κ} {S : κ → Spec} {r : κ → Render}
    (h : U.Implements S r) (cfg : ScanCfg) {fuel : Nat} (hf : ∀ k, (S k).list.length < fuel)
    (segs : List (κ × List Op)) (hsegs : ∀ seg ∈ segs, NextOnlyOps seg.2) (st : ScanState σ) :
    (scanReusable U cfg fuel).run segs st =
      segs.flatMap fun seg =>
        ((Spec.plain (cfg.page 0 0 ((S seg.1).list.filter (cfg.keepR (r seg.1))))).openRun seg.2).map
          (Obs.render (r seg.1)) := by
  rw [← Reusable.run_nextOnly _ segs hsegs st]
  exact (scanReusable_implements_paged h cfg hf).run_eq segs st

/-- how to read `cfg.page 0 0` in `reopen_subquery_paged` -/
theorem page_fresh (cfg : ScanCfg) (K : List Bytes) :
    cfg.page 0 0 K = match cfg.targetLimit with
      | none => K.drop cfg.targetOffset
      | some l => (K.drop cfg.targetOffset).take l := by
  unfold ScanCfg.page; cases cfg.targetLimit <;> simp

/-- a paged sub-query re-opened: row 0 links `a b c`, row 1 `b c d`; `skip 1 limit 1` shows `b`, then `c` -/
example : (scanReusable (setSymReusable (fun k : Nat => if k = 0 then some [[97], [98], [99]] else some [[98], [99], [100]]))
      { skipRow := fun _ => false, filter := fun _ => true, targetOffset := 1, targetLimit := some 1 } 9).run
    [(0, [.next]), (1, [.next])] { cursor := setSymNew, current := none, offset := 0, collected := 0 } =
    [.value (some [98]), .invalid, .value (some [99]), .invalid] := by decide +kernel

/-- non-vacuity: a stacked cursor (no `Seek`) wrapped by the scanner; a fuel that satisfies the hypotheses -/
example : ∃ (c : AnyCursor) (L : List Bytes), c.Implements (Spec.plain L) rowKeyOf ∧ L.length + 1 < 9 :=
  ⟨stackedOpen [fun _ => [[5, 97], [5, 98]]] none 9, [[5, 97], [5, 98]],
    stackedOpen_implements _ [] none (by decide), by decide⟩

/-- the input that exposes seeded change C14-4: left standing on `a` of row 0, re-opened on a row without bucket -/
example : (setSymReusable (fun k : Nat => if k = 0 then some [[97], [98]] else none)).run
    [(0, []), (1, [.next]), (0, [.next, .next])] setSymNew =
    [.value (some [97]), .invalid, .invalid, .value (some [97]), .value (some [98]), .invalid] := by decide +kernel

/-- **Cursors alive at once do not disturb each other.**  For any well-formed descriptions opened
    together (from one bucket object, one link collection, one store, one transaction) and any
    interleaved script, the observations are those of each cursor run ALONE on the operations
    addressed to it, i.e. of its own list specification — a `Next` or `Seek` on one never moves
    another.  (True of the model because each modelled cursor owns its bbolt cursor, as
    `bucket.Cursor()` per opening gives in the code; the correspondence run is what ties it.) -/
theorem interleaved_cursors_independent (ds : List Desc) (hwf : ∀ d ∈ ds, d.WF) (script : List (Nat × Op)) :
    multiRun ds script = multiSpec ds script := by
  unfold multiRun multiSpec
  congr 1
  funext i
  cases hi : ds[i]? with
  | none => exact next_seek_mix .empty trivial _
  | some d => exact next_seek_mix d (hwf d (List.mem_of_getElem? hi)) _

/-- a forward and a reverse cursor over one list bucket walking in lock step -/
example : multiRun [.tfwd 5 [[97], [98], [99]], .trev 5 [[97], [98], [99]]] [(0, .next), (1, .next), (0, .next), (1, .seek [97])] =
    [.value (some [97]), .value (some [99]), .value (some [98]), .value (some [98]), .value (some [99]),
     .value (some [97])] := by decide +kernel

/-- a well-formed nested description: union of a filtered typed reverse cursor and a tree set -/
example : (Desc.union .rev (.filt (.trev 5 [[97], [], [98]]) [[97], []]) (.tree .rev false [[99], [97]])).WF := by
  refine ⟨trivial, trivial, rfl, rfl⟩

/-- both renders in use are faithful (non-vacuity of `Faithful`) -/
example : Faithful some ∧ Faithful renderNilEmpty := ⟨faithful_some, faithful_nilEmpty⟩

example : (Desc.validIds (.scan (.fwd [[97], [98], [99]]) [] [[97], [99]]) [[99]]).WF :=
  ⟨⟨trivial, rfl, rfl⟩, rfl⟩

/-- the empty-string element is an element like any other for the typed cursors … -/
example : (Desc.tfwd 5 [[97], []]).open.run [.next, .next] = [.value (some []), .value (some [97]), .invalid] := by decide +kernel
/-- … reverse `Seek` on an exact hit returns the element, not the stored key … -/
example : (Desc.trev 5 [[97], [98]]).open.run [.seek [97]] = [.value (some [98]), .value (some [97])] := by decide +kernel
/-- … and a tree cursor over the empty set is invalid, not a panic. -/
example : (Desc.tree .fwd false []).open.run [.next] = [.invalid, .invalid] := by decide +kernel

/-- a union over the set-symbol cursor, which returns nil for the empty element: the union is
    valid on it and goes on (before cd6cfe4 it reported invalid here: `current == nil`) -/
example : (Desc.union .fwd (.setsym [[], [97]]) (.tfwd 5 [[98]])).open.run [.next, .next, .next] =
    [.value none, .value (some [97]), .value (some [98]), .invalid] := by decide +kernel

/-- **Every script over a written world: the set symbol follows the current world.**  For every
    assignment of sets to rows per world, every bucket-identity function that tells existing from
    missing buckets, every write function, every script of items and every initial state: item by item
    the observations are those of the list specification of the row AS IT IS AT THAT ITEM. -/
theorem write_script_setsym {ω κ ι W : Type} [DecidableEq ι] (rows : ω → κ → Option (List Bytes)) (ident : ω → κ → ι)
    (hid : ∀ w0 w k, ident w0 k = ident w k → (rows w0 k).isSome = (rows w k).isSome)
    (apply : W → ω → ω) (items : List (Item W κ)) (w : ω) (s : SetSymCur) :
    (setSymW rows ident).run apply items w none s =
      specRunW (fun w k => setRowSpec (rows w k)) (fun _ _ => renderNilEmpty) ident true apply items w none :=
  (setSymW_implements rows ident hid).run_eq apply items w s

theorem open_item {ω σ κ ι W : Type} [DecidableEq ι] {U : WObject ω σ κ ι} {S : ω → κ → Spec}
    {r : ω → κ → Render} (h : U.Implements S r) (apply : W → ω → ω) (ws : List W) (k : κ) (ops : List Op) (w : ω) (s : σ) :
    U.run apply [⟨ws, .open k, ops⟩] w none s =
      ((S (applyAll apply ws w) k).openRun ops).map (Obs.render (r (applyAll apply ws w) k)) := by
  rw [h.run_eq]
  simp [specRunW, specEnter, Spec.openRun]

/-- **Re-opened after a write: exactly the current set.**  Whatever state `s` the runtime set symbol is
    in — left on any element of any row, opened on this very row `k` before the rewrite, exhausted, never
    opened —, after ANY writes `ws` (the row's bucket deleted and re-created, keys put or deleted, the entity
    deleted, …) `OpenCursor` on row `k` followed by any script shows the observations of a fresh cursor over
    the set the row holds NOW; iterated to exhaustion: exactly its elements, once each, in key order. -/
theorem reopen_after_write_enumerates_current {ω κ ι W : Type} [DecidableEq ι] (rows : ω → κ → Option (List Bytes))
    (ident : ω → κ → ι) (hid : ∀ w0 w k, ident w0 k = ident w k → (rows w0 k).isSome = (rows w k).isSome)
    (apply : W → ω → ω) (ws : List W) (k : κ) (ops : List Op) (w : ω) (s : SetSymCur) :
    (setSymW rows ident).run apply [⟨ws, .open k, ops⟩] w none s =
        (setRowDesc (rows (applyAll apply ws w) k)).open.run ops ∧
    (setSymW rows ident).run apply [⟨ws, .open k, ops⟩] w none s =
        ((setRowSpec (rows (applyAll apply ws w) k)).openRun ops).map (Obs.render renderNilEmpty) ∧
    ∀ s', (setSymW rows ident).reopen (applyAll apply ws w) k s = .ok s' →
      setSym.toList ((((rows (applyAll apply ws w) k).map dedupSort).getD []).length + 1) s' =
        .ok ((((rows (applyAll apply ws w) k).map dedupSort).getD []).map renderNilEmpty) := by
  have h := setSymW_implements rows ident hid
  refine ⟨?_, open_item h apply ws k ops w s, ?_⟩
  · rw [open_item h apply ws k ops w s, (setRowDesc_implements _).run_eq]
  · intro s' hs'
    have hR := setSym_reopen_row (rows (applyAll apply ws w) k) s
    simp only [setSymW, Outcome.ok.injEq] at hs'
    subst hs'
    exact (setSym_refines_row _).toList_eq _ hR (Nat.lt_succ_self _)

/-- **SeekToString after re-opening after a write**: lands on the first element `≥ v` of the set the row
    holds NOW (or the cursor is invalid), whatever the object cached and whatever was done since the open. -/
theorem seek_after_reopen_after_write {ω κ ι W : Type} [DecidableEq ι] (rows : ω → κ → Option (List Bytes))
    (ident : ω → κ → ι) (hid : ∀ w0 w k, ident w0 k = ident w k → (rows w0 k).isSome = (rows w k).isSome)
    (apply : W → ω → ω) (ws : List W) (k : κ) (ops : List Op) (v : Bytes) (w : ω) (s : SetSymCur) :
    ((setSymW rows ident).run apply [⟨ws, .open k, ops ++ [.seekS v]⟩] w none s).getLast? =
      some (match ((((rows (applyAll apply ws w) k).map dedupSort).getD []).filter (fun x => decide (v ≤ x))).head? with
        | some x => .value (renderNilEmpty x)
        | none => .invalid) := by
  rw [open_item (setSymW_implements rows ident hid), last_openRun_snoc]
  refine congrArg some (observe_seek_fwd ?_ v _)
  cases rows (applyAll apply ws w) k with
  | none => exact List.Pairwise.nil
  | some xs => exact sorted_sortD

/-- **Re-sought after single-key writes.**  The set symbol is opened on row `k` (after any writes `ws0`, from any
    state), driven by any script, then the row is written WITHOUT replacing its bucket object (`ident` unchanged:
    keys put / deleted, links added / removed) and `SeekToString v` is called on the object as it stands: it
    lands on the first element `≥ v` of the CURRENT set — bbolt searches the live bucket from its root —, and
    the following operations follow the current set's specification. -/
theorem reseek_after_keywrite_setsym {ω κ ι W : Type} [DecidableEq ι] (rows : ω → κ → Option (List Bytes))
    (ident : ω → κ → ι) (hid : ∀ w0 w k, ident w0 k = ident w k → (rows w0 k).isSome = (rows w k).isSome)
    (apply : W → ω → ω) (ws0 ws : List W) (k : κ) (ops0 ops : List Op) (v : Bytes) (w : ω) (s : SetSymCur)
    (hsame : ident (applyAll apply ws0 w) k = ident (applyAll apply ws (applyAll apply ws0 w)) k) :
    (setSymW rows ident).run apply [⟨ws0, .open k, ops0⟩, ⟨ws, .seekS v, ops⟩] w none s =
      ((setRowSpec (rows (applyAll apply ws0 w) k)).openRun ops0).map (Obs.render renderNilEmpty) ++
      (let cur := setRowSpec (rows (applyAll apply ws (applyAll apply ws0 w)) k)
       (Spec.observe (Spec.seekIn .fwd cur.list v) :: cur.run ops (Spec.seekIn .fwd cur.list v)).map
         (Obs.render renderNilEmpty)) := by
  rw [write_script_setsym rows ident hid]
  simp [specRunW, specEnter, Spec.openRun, hsame, setRowSpec, setSymSpec]

/-- **The bolt cursor adapters, re-sought after single-key writes** (`ForwardBoltCursor`, `ReverseBoltCursor`,
    `TypedForward/TypedReverseBoltCursor` as handed out by `TypedBucket`, `GetRelatedEntitiesCursor`, `IterateLinks`):
    every script of writes / `open` (a new cursor) / `Seek` on the live cursor follows the list specification of the
    bucket's CURRENT keys — forward: first element `≥ v`; reverse: last element `≤ v`. -/
theorem write_script_bolt {ω κ ι W : Type} [DecidableEq ι] (tag : UInt8) (elems : ω → κ → List Bytes) (ident : ω → κ → ι)
    (hE : ∀ w k, Asc (elems w k)) (apply : W → ω → ω) (items : List (Item W κ)) (w : ω) (s : BoltCur) :
    (tfwdW tag elems ident).run apply items w none s =
      specRunW (fun w k => Spec.seekable .fwd (elems w k)) (fun _ _ => some) ident true apply items w none ∧
    (trevW tag elems ident).run apply items w none s =
      specRunW (fun w k => Spec.seekable .rev (elems w k).reverse) (fun _ _ => some) ident true apply items w none ∧
    (fwdW elems ident).run apply items w none s =
      specRunW (fun w k => Spec.seekable .fwd (elems w k)) (fun _ _ => some) ident true apply items w none ∧
    (revW elems ident).run apply items w none s =
      specRunW (fun w k => Spec.seekable .rev (elems w k).reverse) (fun _ _ => some) ident true apply items w none :=
  ⟨(tfwdW_implements tag elems ident).run_eq apply items w s, (trevW_implements tag elems ident hE).run_eq apply items w s,
    (fwdW_implements elems ident).run_eq apply items w s, (revW_implements elems ident hE).run_eq apply items w s⟩

/-- **Objects that are only re-opened** (a composite set symbol's stacked cursor, the sub-query scanner over
    it, the paged sub-query scanner, a provider): if in every world the object implements the row specifications
    of that world from every state (`reopen_stacked`, `reopen_subquery_*`), then over a written world every
    script of `writes; open k; operations` shows, item by item, the specification of the row in the world of that item. -/
theorem reopen_after_write_any {ω σ κ W : Type} {U : ω → Reusable σ κ} {S : ω → κ → Spec} {r : ω → κ → Render}
    (h : ∀ w, (U w).Implements (S w) (r w)) (apply : W → ω → ω) (items : List (Item W κ)) (w : ω) (s : σ) :
    (WObject.ofFamily U).run apply items w none s = specRunW S r (fun _ _ => ()) false apply items w none :=
  (WObject.ofFamily_implements h).run_eq apply items w s

/-- … the stacked cursor of a composite set symbol whose chain reads the written world -/
theorem reopen_after_write_stacked {ω κ W : Type} (chain : ω → Level × List Level) (rowOf : κ → Option Bytes) (fuel : Nat)
    (hf : ∀ w k, stackedFuel ((chain w).1 :: (chain w).2) (rowOf k) ≤ fuel)
    (apply : W → ω → ω) (items : List (Item W κ)) (w : ω) (s : StackedCur) :
    (WObject.ofFamily fun w => compReusable ((chain w).1 :: (chain w).2) fuel rowOf).run apply items w none s =
      specRunW (fun w k => Spec.plain (stackedKeys ((chain w).1 :: (chain w).2) (rowOf k))) (fun _ _ => rowKeyOf)
        (fun _ _ => ()) false apply items w none :=
  reopen_after_write_any (fun w => compReusable_implements (chain w).1 (chain w).2 fuel rowOf (hf w)) apply items w s

/-- … the paged sub-query scanner (`Next` only) around ANY re-used symbol object: every opening shows the window
    `drop S / take L` of the accepted rows of the row's CURRENT set -/
theorem reopen_after_write_subquery_paged {ω σ κ W : Type} {U : ω → Reusable σ κ} {S : ω → κ → Spec} {r : ω → κ → Render}
    (h : ∀ w, (U w).Implements (S w) (r w)) (cfg : ScanCfg) {fuel : Nat} (hf : ∀ w k, (S w k).list.length < fuel)
    (apply : W → ω → ω) (items : List (Item W κ)) (w : ω) (st : ScanState σ) :
    (WObject.ofFamily fun w => (scanReusable (U w) cfg fuel).nextOnly).run apply items w none st =
      specRunW (fun w k => Spec.plain (cfg.page 0 0 ((S w k).list.filter (cfg.keepR (r w k))))) r
        (fun _ _ => ()) false apply items w none :=
  reopen_after_write_any (fun w => scanReusable_implements_paged (h w) cfg (hf w)) apply items w st

/-- **The sub-query scanner over the set symbol, re-opened and re-sought after writes** (no paging): the accepted
    linked ids of the row's CURRENT set; `Seek` = the set symbol's raw seek in the live bucket, then the next accepted row. -/
theorem write_script_subquery_setsym {ω κ ι W : Type} [DecidableEq ι] (rows : ω → κ → Option (List Bytes)) (ident : ω → κ → ι)
    (hid : ∀ w0 w k, ident w0 k = ident w k → (rows w0 k).isSome = (rows w k).isSome)
    (cfg : ω → ScanCfg) (hcfg : ∀ w, (cfg w).Unpaged) (fuel : Nat)
    (hf : ∀ w k, (setRowSpec (rows w k)).list.length + 1 < fuel)
    (apply : W → ω → ω) (items : List (Item W κ)) (w : ω) (st : ScanState SetSymCur) :
    (scanW (setSymW rows ident) cfg fuel).run apply items w none st =
      specRunW (fun w k => scanSpecR (setRowSpec (rows w k)) renderNilEmpty ((cfg w).keepR renderNilEmpty))
        (fun _ _ => renderNilEmpty) ident true apply items w none :=
  (scanW_implements (setSymW_implements rows ident hid) (fun _ _ => setSymSpec_stateless _) hcfg hf
    (fun _ _ => ⟨_, rfl⟩)).run_eq apply items w st

/-- **The id cursor (`IterateIds`) over a written world.**  The ids of the store AND the verdict of the filter
    on each row change between the operations (an entity updated so that it stops / starts matching, created,
    deleted).  For every script of `writes; entry; operations` — entry = a new `IterateIds` cursor, or `Seek v` on
    the live one — and every initial state: after the entry the cursor shows the ids the filter accepts ON THE
    CURRENT DATA, in key order; `Seek v` re-reads the entities bucket and asks the filter again. -/
theorem write_script_idcursor {ω W : Type} (ids : ω → List Bytes) (cfg : ω → ScanCfg) (hcfg : ∀ w, (cfg w).Unpaged)
    (fuel : Nat) (hf : ∀ w, (ids w).length + 1 < fuel) (apply : W → ω → ω) (items : List (Item W Unit)) (w : ω)
    (st : ScanState BoltCur) :
    (idCursorW ids cfg fuel).run apply items w none st =
      specRunW (fun w _ => idSpec (ids w) (cfg w).keep) (fun _ _ => some) (fun _ _ => ()) true apply items w none := by
  have h := (scanW_implements (fwdW_implements (fun w (_ : Unit) => ids w) (fun _ _ => ()))
    (fun w _ => seekable_stateless .fwd (ids w)) hcfg (fuel := fuel) (fun w _ => hf w) (fun _ _ => ⟨_, rfl⟩)).run_eq apply items w st
  simp only [keepR_some] at h
  exact h

/-- **Seek back to a row whose verdict changed.**  An id cursor is opened (after any writes `ws0`, from any state),
    driven by any script — e.g. it stands on row `v` —, then the world is written (`ws`: row `v` is updated so that
    the filter no longer accepts it, or deleted, or a smaller matching id is created) and `Seek v` is called on the
    SAME cursor: it stands on the first id `≥ v` that the filter accepts on the CURRENT data, or is invalid. -/
theorem idcursor_seek_after_write {ω W : Type} (ids : ω → List Bytes) (hids : ∀ w, Sorted .fwd (ids w)) (cfg : ω → ScanCfg)
    (hcfg : ∀ w, (cfg w).Unpaged) (fuel : Nat) (hf : ∀ w, (ids w).length + 1 < fuel) (apply : W → ω → ω)
    (ws0 ws : List W) (ops0 : List Op) (v : Bytes) (w : ω) (st : ScanState BoltCur) :
    ((idCursorW ids cfg fuel).run apply [⟨ws0, .open (), ops0⟩, ⟨ws, .seek v, []⟩] w none st).getLast? =
      some (let w2 := applyAll apply ws (applyAll apply ws0 w)
        match (((ids w2).filter (cfg w2).keep).filter (fun x => decide (v ≤ x))).head? with
        | some x => .value (some x)
        | none => .invalid) := by
  rw [write_script_idcursor ids cfg hcfg fuel hf]
  simp only [specRunW, specEnter]
  generalize applyAll apply ws (applyAll apply ws0 w) = w2
  simp only [idSpec, Bool.true_and, decide_true, if_true, Spec.run, List.map_cons, List.map_nil, List.append_nil]
  rw [List.getLast?_append, List.getLast?_singleton]
  rw [Option.some_or, Option.some.injEq]
  rw [seekIn_filter (hids w2)]
  exact observe_seek_fwd (sorted_filter _ (hids w2)) v some

/-- **`store.Update` of the row the cursor stands on**: the `tags` bucket of thing `id` is deleted and re-created
    with `tags`; the set symbol re-opened on `id` — from whatever state, e.g. opened on `id` just before — enumerates
    exactly `tags`, once each, in key order (an emptied set: invalid at once); the bucket object is a new one. -/
theorem reopen_after_update (w : World) (id : Bytes) (tags : List Bytes) (t : WThing) (ht : w.find id = some t) (hti : t.id = id)
    (ops : List Op) (s : SetSymCur) :
    (setSymW World.tagsOf World.tagsIdent).run World.applyWrite [⟨[.setTags id tags], .open id, ops⟩] w none s =
      ((setSymSpec (dedupSort tags)).openRun ops).map (Obs.render renderNilEmpty) ∧
    (World.tagsIdent (World.applyWrite (.setTags id tags) w) id ≠ World.tagsIdent w id ∨ t.gen = w.clock + 1) := by
  have hfind : (World.applyWrite (.setTags id tags) w).find id = some { t with tags := tags, gen := w.clock + 1 } := by
    have h0 : ({ w with clock := w.clock + 1 } : World).find id = some t := ht
    have := World.find_modify { w with clock := w.clock + 1 } id id
      (fun t => { t with tags := tags, gen := w.clock + 1 }) (fun _ => rfl)
    simpa [World.applyWrite, h0, hti] using this
  refine ⟨?_, ?_⟩
  · rw [open_item (setSymW_implements World.tagsOf World.tagsIdent World.tagsIdent_some)]
    simp [applyAll, World.tagsOf, hfind, setRowSpec]
  · by_cases hg : t.gen = w.clock + 1
    · exact .inr hg
    · refine .inl ?_
      simp only [World.tagsIdent, hfind, ht, Option.map_some, ne_eq, Option.some.injEq, Prod.mk.injEq, and_true, true_and]
      exact fun h => hg h.symm

/-- **The entity deleted under the cursor**: re-opened on the deleted row the set symbol is invalid at once and stays so. -/
theorem reopen_after_delete (w : World) (id : Bytes) (ops : List Op) (s : SetSymCur) :
    (setSymW World.tagsOf World.tagsIdent).run World.applyWrite [⟨[.delete id], .open id, ops⟩] w none s =
      List.replicate (ops.length + 1) .invalid := by
  rw [open_item (setSymW_implements World.tagsOf World.tagsIdent World.tagsIdent_some)]
  have hnone : (World.applyWrite (.delete id) w).find id = none := by
    simp only [World.applyWrite, World.find, List.find?_eq_none, List.mem_filter]
    intro t ht
    simpa using ht.2
  simp only [applyAll, List.foldl, World.tagsOf, hnone, Option.map_none, setRowSpec, Option.getD_none]
  exact setSymSpec_nil_openRun ops _

/-- the input that exposes seeded change C14-21: `tags` of row `e` = {a, b, c}; opened, rewritten to {b, d} by an update,
    re-opened on the same row with no other row in between: b, d — then emptied: invalid at once -/
example : (setSymW World.tagsOf World.tagsIdent).run World.applyWrite
    [⟨[], .open [101], [.next]⟩, ⟨[.setTags [101] [[98], [100]]], .open [101], [.next, .next]⟩,
     ⟨[.setTags [101] []], .open [101], []⟩]
    { things := [{ id := [101], tags := [[97], [98], [99]], others := [], boss := none, rc := none }], others := [] } none setSymNew =
    [.value (some [97]), .value (some [98]), .value (some [98]), .value (some [100]), .invalid, .invalid] := by decide +kernel

/-- a re-seek is answered only while the bucket object is the same: after a single key put it is, after the update it is not -/
example : (setSymW World.tagsOf World.tagsIdent).run World.applyWrite
    [⟨[], .open [101], []⟩, ⟨[.putTag [101] [96]], .seekS [], []⟩, ⟨[.setTags [101] [[98]]], .seekS [], []⟩]
    { things := [{ id := [101], tags := [[97]], others := [], boss := none, rc := none }], others := [] } none setSymNew =
    [.value (some [97]), .value (some [96]), .failed "unspecified"] := by decide +kernel

/-- the id cursor stands on `e1`, `e1` stops matching, `Seek e1`: the next matching id (the second sample of C14-21) -/
example : (idCursorW World.ids
      (fun w => { skipRow := fun _ => false, filter := fun id => ((w.tagsOf id).getD []).contains [120],
                  targetOffset := 0, targetLimit := none }) 9).run World.applyWrite
    [⟨[], .open (), []⟩, ⟨[.setTags [101, 49] [[121]]], .seek [101, 49], [.next]⟩]
    { things := [{ id := [101, 49], tags := [[120]], others := [], boss := none, rc := none },
                 { id := [101, 50], tags := [[122]], others := [], boss := none, rc := none },
                 { id := [101, 51], tags := [[120]], others := [], boss := none, rc := none }], others := [] } none
    { cursor := newForwardBoltCursor [], current := none, offset := 0, collected := 0 } =
    [.value (some [101, 49]), .value (some [101, 51]), .invalid] := by decide +kernel

/-- non-vacuity of the identity hypothesis: the identities of the concrete world tell existing from missing buckets -/
example : ∀ w0 w k, World.rcIdent w0 k = World.rcIdent w k → (World.rcOf w0 k).isSome = (World.rcOf w k).isSome :=
  World.rcIdent_some

end StorageModel.Properties.C14

#print axioms StorageModel.Properties.C14.next_seek_mix
#print axioms StorageModel.Properties.C14.enumerates
#print axioms StorageModel.Properties.C14.exhausted_invalid
#print axioms StorageModel.Properties.C14.empty_invalid_no_panic
#print axioms StorageModel.Properties.C14.untagged
#print axioms StorageModel.Properties.C14.seek_forward
#print axioms StorageModel.Properties.C14.seek_reverse
#print axioms StorageModel.Properties.C14.union_exact
#print axioms StorageModel.Properties.C14.filtered_exact
#print axioms StorageModel.Properties.C14.tree_inorder
#print axioms StorageModel.Properties.C14.allOf_exact
#print axioms StorageModel.Properties.C14.anyOf_exact
#print axioms StorageModel.Properties.C14.stacked_exact
#print axioms StorageModel.Properties.C14.reopen_setsym
#print axioms StorageModel.Properties.C14.reopen_empty_invalid
#print axioms StorageModel.Properties.C14.reopen_stacked
#print axioms StorageModel.Properties.C14.reopen_subquery_setsym
#print axioms StorageModel.Properties.C14.reopen_subquery_stacked
#print axioms StorageModel.Properties.C14.scan_fallback_seek
#print axioms StorageModel.Properties.C14.reopen_subquery_paged
#print axioms StorageModel.Properties.C14.interleaved_cursors_independent
#print axioms StorageModel.Properties.C14.write_script_setsym
#print axioms StorageModel.Properties.C14.reopen_after_write_enumerates_current
#print axioms StorageModel.Properties.C14.seek_after_reopen_after_write
#print axioms StorageModel.Properties.C14.reseek_after_keywrite_setsym
#print axioms StorageModel.Properties.C14.write_script_bolt
#print axioms StorageModel.Properties.C14.reopen_after_write_any
#print axioms StorageModel.Properties.C14.reopen_after_write_stacked
#print axioms StorageModel.Properties.C14.reopen_after_write_subquery_paged
#print axioms StorageModel.Properties.C14.write_script_subquery_setsym
#print axioms StorageModel.Properties.C14.write_script_idcursor
#print axioms StorageModel.Properties.C14.idcursor_seek_after_write
#print axioms StorageModel.Properties.C14.reopen_after_update
#print axioms StorageModel.Properties.C14.reopen_after_delete
