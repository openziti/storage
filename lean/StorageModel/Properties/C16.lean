import StorageModel.C16.Lemmas
import StorageModel.C16.LoadLemmas
import StorageModel.Generated.C16Setters
/-
  C16 — System entities can only be changed from a system context.

  "An entity created with the system flag can be created, updated and deleted only through a
  system mutate context; the same attempts from an ordinary context fail and leave the entity
  unchanged.  The flag is fixed at creation - no update from any context turns an ordinary entity
  into a system entity or back - and ordinary entities are unaffected by the constraint."

  The theorems are about the executable model in StorageModel/C16/Model.lean (its header describes the
  universe and every indirect path it follows).  They are stated for every registration of the constraint
  (`St.reg`: on S, on the child store C only, on both) about the entities it protects (`Ent.protectedBy`) and
  read off per registration (`…_parent_registration`, `…_child_registration`: with the constraint on C only
  the property can be claimed for the entities that have child data).  `Vals` is the complete in-memory
  entity; every theorem quantifies over all of it.  A history is a list of `Db.Update` bodies, each with a
  mode: the body aborts at the first error, or the caller ignores the errors that were raised before
  anything was written (and commits anyway).
-/
set_option linter.unusedSectionVars false

namespace StorageModel.Properties.C16
open StorageModel StorageModel.C16

section
variable {K N T : Type} [DecidableEq K] [DecidableEq N] [KeyOrd K]

theorem ccreate_over_refused {s : St K N T} {id : K} {e : Ent K N T} (hg : s.ents.get id = some e) {v : Vals K N T}
    {lvl : N} (hp : (mkEnt v (some lvl) e).protectedBy s.reg = true) :
    (step s (.ccreate false id false v lvl)).err ≠ none := by
  rw [step_ccreate_found hg]
  split
  · exact Option.some_ne_none _
  · rcases createOn_refused s id v (some lvl) e hp with h | h <;> rw [h] <;> exact Option.some_ne_none _

/-- **create / update / delete of a system entity from an ordinary context fail** — directly,
    through the child store, through the cascade of a foreign key and through a delete by query;
    the refused update and delete do not even touch the uncommitted state.  Stated for ANY
    registration of the constraint (`s.reg`): about the entities that registration looks at
    (`Ent.protectedBy`: system entities, and with the constraint on the child store only those of
    them that have child data); the two theorems below read it off per registration. -/
theorem system_needs_system_ctx (s : St K N T) (id : K) :
    -- create with the system flag (id fresh, not blank), whatever else the entity carries: through
    -- S when the constraint is on S, through the child store when it is on either store
    (∀ v : Vals K N T, v.flag = true → s.ents.get id = none →
        (s.reg.onS = true →
          ((step s (.create false id false v)).err = some .sysCreate ∨
            (step s (.create false id false v)).err = some .noOwner)) ∧
        ((s.reg.onS || s.reg.onC) = true →
          ∀ lvl, ((step s (.ccreate false id false v lvl)).err = some .sysCreate ∨
            (step s (.ccreate false id false v lvl)).err = some .noOwner))) ∧
    -- every operation that reaches a protected entity (STORED flag set, a registered constraint looks at it)
    (∀ e, s.ents.get id = some e → e.protectedBy s.reg = true →
        (∀ (v : Vals K N T) sn st so, step s (.update false id v sn st so) = { st := s, err := some .sysUpdate }) ∧
        -- through the child store the error is `notFound` when there is no child data
        (∀ (v : Vals K N T) sn st so sl lvl, ∃ err, step s (.cupdate false id v sn st so sl lvl) = { st := s, err := some err }) ∧
        step s (.delete false id) = { st := s, err := some .sysDelete } ∧
        step s (.cdelete false id) = { st := s, err := some .sysDelete } ∧
        -- extending it through the child store, whatever the in-memory entity says about the flag
        (∀ (v : Vals K N T) lvl, (step s (.ccreate false id false v lvl)).err ≠ none) ∧
        (∀ o, e.owner = some o → o ∈ s.owners → (step s (.odelete false o)).err = some .viaSysDelete) ∧
        (∀ q : Query K N, q.eval e = true → (step s (.deleteWhere false q)).err = some .viaSysDelete)) := by
  refine ⟨?_, ?_⟩
  · intro v hv hg
    refine ⟨fun hS => ?_, fun hr lvl => ?_⟩
    · rw [step_create_new hg]
      exact createOn_refused _ _ _ _ _ (by rw [protectedBy_eq, guarded_mkEnt_fresh, mkEnt_isSystem, hS, hv]; rfl)
    · rw [step_ccreate_new hg]
      exact createOn_refused _ _ _ _ _ (protectedBy_mkEnt_child hr v lvl _ (by rw [hv]; rfl))
  · intro e hg hp
    have hr : ∀ sys, (e.protectedBy s.reg && !sys) = !sys := fun sys => by rw [hp, Bool.true_and]
    refine ⟨?_, ?_, ?_, ?_, ?_, ?_, ?_⟩
    · intro v sn st so; rw [step_update_found hg, updateOn_eq hg, hr]; rfl
    · intro v sn st so sl lvl
      rw [step_cupdate_found hg]
      split
      · exact ⟨_, rfl⟩
      · rw [updateOn_eq hg, hr]; exact ⟨_, rfl⟩
    · rw [step_delete, deleteOne_found hg, hr]; rfl
    · rw [step_cdelete, deleteOne_found hg, hr]; rfl
    · intro v lvl
      exact ccreate_over_refused hg (protectedBy_mkEnt_child_of hp v lvl)
    · intro o ho hm
      rw [step_odelete_found hm, any_refused_of_mem (mem_refs hg ho) hg hp]; rfl
    · intro q hq
      rw [step_deleteWhere, any_refused_of_mem (mem_matching hg hq) hg hp]; rfl

/-- **constraint registered on the parent store S** (alone or together with one on C): every system
    entity is protected, with or without child data -/
theorem system_needs_system_ctx_parent_registration (s : St K N T) (hS : s.reg.onS = true) (id : K) (e : Ent K N T)
    (hg : s.ents.get id = some e) (hs : e.isSystem = true) :
    (∀ (v : Vals K N T) sn st so, step s (.update false id v sn st so) = { st := s, err := some .sysUpdate }) ∧
    (∀ (v : Vals K N T) sn st so sl lvl, ∃ err, step s (.cupdate false id v sn st so sl lvl) = { st := s, err := some err }) ∧
    step s (.delete false id) = { st := s, err := some .sysDelete } ∧
    step s (.cdelete false id) = { st := s, err := some .sysDelete } ∧
    (∀ (v : Vals K N T) lvl, (step s (.ccreate false id false v lvl)).err ≠ none) ∧
    (∀ o, e.owner = some o → o ∈ s.owners → (step s (.odelete false o)).err = some .viaSysDelete) ∧
    (∀ q : Query K N, q.eval e = true → (step s (.deleteWhere false q)).err = some .viaSysDelete) :=
  (system_needs_system_ctx s id).2 e hg (protectedBy_of (guarded_onS hS e) hs)

/-- **constraint registered on the child store C only (or also)**: the property can be claimed for
    the system entities that HAVE child data — for them update and delete through EITHER store
    (operations through S reach C's constraints through `HandleUpdate` / the child store's
    `processDeleteConstraints`), the cascade and the delete by query are refused from an ordinary
    context, and so is every create through the child store that carries the flag or extends a
    system entity.  A system entity WITHOUT child data is beyond the reach of a constraint on C:
    operations on it through S run S's constraints only (examples below: they succeed). -/
theorem system_needs_system_ctx_child_registration (s : St K N T) (hC : s.reg.onC = true) (id : K) :
    (∀ e, s.ents.get id = some e → e.isSystem = true → e.level.isSome = true →
      (∀ (v : Vals K N T) sn st so, step s (.update false id v sn st so) = { st := s, err := some .sysUpdate }) ∧
      (∀ (v : Vals K N T) sn st so sl lvl, step s (.cupdate false id v sn st so sl lvl) = { st := s, err := some .sysUpdate }) ∧
      step s (.delete false id) = { st := s, err := some .sysDelete } ∧
      step s (.cdelete false id) = { st := s, err := some .sysDelete } ∧
      (∀ o, e.owner = some o → o ∈ s.owners → (step s (.odelete false o)).err = some .viaSysDelete) ∧
      (∀ q : Query K N, q.eval e = true → (step s (.deleteWhere false q)).err = some .viaSysDelete)) ∧
    -- creates through the child store: a fresh entity carrying the flag, and any extension of a
    -- system entity that has no child data yet (it gets child data by this very create)
    (∀ (v : Vals K N T) lvl, s.ents.get id = none → v.flag = true → (step s (.ccreate false id false v lvl)).err ≠ none) ∧
    (∀ e (v : Vals K N T) lvl, s.ents.get id = some e → (v.flag || e.isSystem) = true →
      (step s (.ccreate false id false v lvl)).err ≠ none) := by
  have hr : (s.reg.onS || s.reg.onC) = true := by rw [hC, Bool.or_true]
  refine ⟨?_, ?_, fun e v lvl hg hvs => ccreate_over_refused hg (protectedBy_mkEnt_child hr v lvl e hvs)⟩
  · intro e hg hs hl
    have hp : e.protectedBy s.reg = true := protectedBy_of (guarded_onC hC hl) hs
    obtain ⟨h1, _, h3, h4, _, h6, h7⟩ := (system_needs_system_ctx s id).2 e hg hp
    refine ⟨h1, ?_, h3, h4, h6, h7⟩
    intro v sn st so sl lvl
    rw [step_cupdate_found hg, Option.isNone_eq_false_iff.mpr hl, if_neg Bool.false_ne_true, updateOn_eq hg, hp]; rfl
  · intro v lvl hg hv
    rcases ((system_needs_system_ctx s id).1 v hv hg).2 hr lvl with h | h <;> rw [h] <;>
      exact Option.some_ne_none _

/-- … **and leave the entity unchanged**: a transaction in which such an attempt is reached
    commits nothing if its body aborts on errors; if the caller ignores the error of a refused
    update or delete and commits anyway, that operation has changed nothing (previous theorem);
    every failure that leaves partial writes (refused create, refused cascade, …) aborts the body
    in either mode. -/
theorem refused_tx_unchanged (s : St K N T) (k : Bool) (ops : List (Op K N T)) (h : (runOps k s ops).2 = true) :
    commitTx s (k, ops) = s := commitTx_failed h

theorem refused_aborts (k : Bool) (s : St K N T) (op : Op K N T) (rest : List (Op K N T)) (e : Err)
    (he : (step s op).err = some e) (hk : k = false ∨ e.ignorable = false) :
    (runOps k s (op :: rest)).2 = true := by
  rw [runOps_cons_err he]
  rcases hk with rfl | h
  · simp
  · simp [h]

theorem runOps_append_failed (k : Bool) (s : St K N T) (pre post : List (Op K N T))
    (h : (runOps k (runOps k s pre).1 post).2 = true) (hpre : (runOps k s pre).2 = false) :
    (runOps k s (pre ++ post)).2 = true := by
  induction pre generalizing s with
  | nil => simpa [runOps] using h
  | cons op pre ih =>
    cases he : (step s op).err with
    | none =>
      rw [List.cons_append, runOps_cons_ok he]
      rw [runOps_cons_ok he] at h hpre
      exact ih _ h hpre
    | some e =>
      rw [List.cons_append, runOps_cons_err he]
      rw [runOps_cons_err he] at h hpre
      split
      · next hk => rw [if_pos hk] at h hpre; exact ih _ h hpre
      · rfl

/-- the full statement at the level of a transaction: wherever in the body the refused attempt on
    a system entity sits, an aborting transaction commits nothing -/
theorem system_needs_system_ctx_tx (s : St K N T) (pre rest : List (Op K N T)) (op : Op K N T) (e : Err)
    (hpre : (runOps false s pre).2 = false)
    (he : (step (runOps false s pre).1 op).err = some e) :
    commitTx s (false, pre ++ op :: rest) = s := by
  apply commitTx_failed
  apply runOps_append_failed _ _ _ _ _ hpre
  exact refused_aborts false _ op rest e he (Or.inl rfl)

/-- the operation is issued from an ordinary context (link operations and reads take no context, and
    `Op.ocreate` carries none — no constraint on O looks at it —: they count as ordinary) -/
def ordinaryOp : Op K N T → Bool
  | .create sys .. => !sys
  | .update sys .. => !sys
  | .delete sys _ => !sys
  | .ccreate sys .. => !sys
  | .cupdate sys .. => !sys
  | .cdelete sys _ => !sys
  | .odelete sys _ => !sys
  | .deleteWhere sys _ => !sys
  | .ocreate .. => true
  | .link .. => true
  | .unlink .. => true
  | .read _ => true

/-- `e'` is `e` up to the link set (link collections take a bare transaction: no context is
    involved, the constraint does not apply to them) -/
def SameButLinks (e e' : Ent K N T) : Prop := e' = { e with peers := e'.peers }

theorem sameButLinks_refl (e : Ent K N T) : SameButLinks e e := rfl

theorem sameButLinks_trans {e e1 e2 : Ent K N T} (h1 : SameButLinks e e1) (h2 : SameButLinks e1 e2) : SameButLinks e e2 := by
  unfold SameButLinks at *
  rw [h2, h1]

theorem sameButLinks_isSystem {e e' : Ent K N T} (h : SameButLinks e e') : e'.isSystem = e.isSystem := by
  unfold SameButLinks at h; rw [h]; rfl

theorem sameButLinks_protectedBy {e e' : Ent K N T} (h : SameButLinks e e') (reg : Reg) :
    e'.protectedBy reg = e.protectedBy reg := by
  unfold SameButLinks at h; rw [h]; rfl

/-- a bucket after a successful operation: as it was up to the link set; or the operation got past the system
    check on it and it is gone or updated; or a child-store create got past the check on what it made of it -/
theorem stepOk_get {s s' : St K N T} {op : Op K N T} (hk : StepOk s op s') {x : K} {e : Ent K N T}
    (hg : s.ents.get x = some e) :
    (∃ ps, s'.ents.get x = some { e with peers := ps }) ∨
    ((e.protectedBy s.reg && ordinaryOp op) = false ∧
      (s'.ents.get x = none ∨ ∃ v sn st so l, s'.ents.get x = some (updEnt v sn st so l e))) ∨
    (∃ sys v lvl, op = .ccreate sys x false v lvl ∧ s'.ents.get x = some (mkEnt v (some lvl) e) ∧
      ((mkEnt v (some lvl) e).protectedBy s.reg && !sys) = false) := by
  have other : ∀ id e1, id ≠ x → ∃ ps, (s.putEnt id e1).ents.get x = some { e with peers := ps } :=
    fun id e1 hne => ⟨e.peers, by rw [putEnt_ents, Map.get_put, if_neg hne]; exact hg⟩
  have fresh : ∀ id, s.ents.get id = none → id ≠ x := fun id h hx => by rw [hx, hg] at h; cases h
  have same : ∀ {e0}, s.ents.get x = some e0 → e0 = e := fun h => Option.some.inj (h.symm.trans hg)
  cases hk with
  | create hn _ => exact .inl (other _ _ (fresh _ hn))
  | ccreateNew hn _ => exact .inl (other _ _ (fresh _ hn))
  | @ccreateOver sys id v lvl e0 hg0 hc =>
    by_cases hx : id = x
    · subst hx; cases same hg0
      exact .inr (.inr ⟨sys, v, lvl, rfl, get_putEnt_self .., hc⟩)
    · exact .inl (other _ _ hx)
  | @update sys id v sn st so e0 hg0 hc =>
    by_cases hx : id = x
    · subst hx; cases same hg0
      exact .inr (.inl ⟨hc, .inr ⟨v, sn, st, so, none, get_putEnt_self ..⟩⟩)
    · exact .inl (other _ _ hx)
  | @cupdate sys id v sn st so sl lvl e0 hg0 hc =>
    by_cases hx : id = x
    · subst hx; cases same hg0
      exact .inr (.inl ⟨hc, .inr ⟨v, sn, st, so, _, get_putEnt_self ..⟩⟩)
    · exact .inl (other _ _ hx)
  | @delete sys id e0 hg0 hc =>
    by_cases hx : id = x
    · subst hx; cases same hg0
      exact .inr (.inl ⟨hc, .inl (by rw [delEnt_ents, Map.get_del, if_pos rfl])⟩)
    · exact .inl ⟨e.peers, by rw [delEnt_ents, Map.get_del, if_neg hx]; exact hg⟩
  | @cdelete sys id e0 hg0 hc =>
    by_cases hx : id = x
    · subst hx; cases same hg0
      exact .inr (.inl ⟨hc, .inl (by rw [delEnt_ents, Map.get_del, if_pos rfl])⟩)
    · exact .inl ⟨e.peers, by rw [delEnt_ents, Map.get_del, if_neg hx]; exact hg⟩
  | ocreate => exact .inl ⟨e.peers, hg⟩
  | @odelete sys o ha =>
    by_cases hx : x ∈ refs s o
    · exact .inr (.inl ⟨not_refused_of_any ha hx hg, .inl (by rw [get_unlinkAll, Map.get_delAll, if_pos hx]; rfl)⟩)
    · exact .inl ⟨(unlinkEnt o e).peers, by rw [get_unlinkAll, Map.get_delAll, if_neg hx, hg]; rfl⟩
  | @deleteWhere sys q ha =>
    by_cases hx : x ∈ matching s q
    · exact .inr (.inl ⟨not_refused_of_any ha hx hg, .inl (by rw [Map.get_delAll, if_pos hx])⟩)
    · exact .inl ⟨e.peers, by rw [Map.get_delAll, if_neg hx]; exact hg⟩
  | @link sid oid e0 hg0 =>
    by_cases hx : sid = x
    · subst hx; cases same hg0
      exact .inl ⟨_, get_putEnt_self ..⟩
    · exact .inl (other _ _ hx)
  | @unlink sid oid e0 hg0 =>
    by_cases hx : sid = x
    · subst hx; cases same hg0
      exact .inl ⟨(unlinkEnt oid e).peers, get_putEnt_self ..⟩
    · exact .inl (other _ _ hx)
  | read => exact .inl ⟨e.peers, hg⟩

theorem stepOk_preserves_system {s s' : St K N T} {op : Op K N T} (hk : StepOk s op s') (ho : ordinaryOp op = true)
    {x : K} {e : Ent K N T} (hg : s.ents.get x = some e) (hp : e.protectedBy s.reg = true) :
    ∃ e', s'.ents.get x = some e' ∧ SameButLinks e e' := by
  rcases stepOk_get hk hg with ⟨ps, h⟩ | ⟨hc, _⟩ | ⟨sys, v, lvl, rfl, _, hc⟩
  · exact ⟨_, h, rfl⟩
  · rw [hp, ho] at hc; cases hc
  · rw [protectedBy_mkEnt_child_of hp, show (!sys) = true from ho] at hc; cases hc

/-- **one successful operation from an ordinary context — on whatever entity, through whatever
    store — leaves every protected system entity in place and unchanged** (flag, name, tags,
    timestamps, owner, child data); protected = system entity a registered constraint looks at:
    all of them with the constraint on S, those with child data with the constraint on C only -/
theorem ordinary_step_preserves_system (s : St K N T) (op : Op K N T) (ho : ordinaryOp op = true)
    (hok : (step s op).err = none) (x : K) (e : Ent K N T) (hg : s.ents.get x = some e) (hp : e.protectedBy s.reg = true) :
    ∃ e', (step s op).st.ents.get x = some e' ∧ SameButLinks e e' :=
  stepOk_preserves_system (step_ok hok) ho hg hp

/-- … and a cascade or a delete by query never removes a protected system entity on behalf of an
    ordinary context, **not even in the partial state a refused batch leaves in the open transaction** -/
theorem cascade_never_deletes_system (s : St K N T) (ids : List K) (x : K) (e : Ent K N T)
    (hg : s.ents.get x = some e) (hp : e.protectedBy s.reg = true) :
    (delMany false s ids).1.ents.get x = some e := delMany_keeps_system s ids hg hp

/-- the registration is part of the schema: no operation changes it, not even in a partial state -/
theorem step_reg (s : St K N T) (op : Op K N T) : (step s op).st.reg = s.reg := by
  have hr := step_res s op
  generalize step s op = o at hr ⊢
  cases hr with
  | same _ => rfl
  | dirty _ h => exact h
  | ok h => exact stepOk_reg h

theorem preserves_system_inv {r : Reg} {x : K} {e : Ent K N T} (hp : e.protectedBy r = true) (s : St K N T)
    (op : Op K N T) (s' : St K N T) (ho : ordinaryOp op = true)
    (h : s.reg = r ∧ ∃ e', s.ents.get x = some e' ∧ SameButLinks e e') (hk : StepOk s op s') :
    s'.reg = r ∧ ∃ e', s'.ents.get x = some e' ∧ SameButLinks e e' := by
  obtain ⟨hr, e1, hg1, hsim1⟩ := h
  obtain ⟨e2, hg2, hsim2⟩ :=
    stepOk_preserves_system hk ho hg1 (by rw [sameButLinks_protectedBy hsim1, hr]; exact hp)
  exact ⟨(stepOk_reg hk).trans hr, e2, hg2, sameButLinks_trans hsim1 hsim2⟩

/-- **no transaction whose operations are all issued from ordinary contexts — in either mode, with
    failing, ignored and indirect operations in any order — changes or deletes a protected system
    entity or its flag**: after `Db.Update` it is still there with the same flag, name, tags,
    timestamps, owner and child data.  Under every registration: with the constraint on S that is
    every system entity, with the constraint on C only every system entity that has child data. -/
theorem ordinary_tx_preserves_system (s : St K N T) (k : Bool) (ops : List (Op K N T))
    (ho : ∀ op ∈ ops, ordinaryOp op = true) (x : K) (e : Ent K N T) (hg : s.ents.get x = some e)
    (hp : e.protectedBy s.reg = true) :
    ∃ e', (commitTx s (k, ops)).ents.get x = some e' ∧ SameButLinks e e' :=
  (commitTx_invariant (preserves_system_inv hp) ⟨rfl, e, hg, rfl⟩ (k, ops) ho).2

theorem ordinary_history_preserves_system (txs : List (Bool × List (Op K N T))) (s : St K N T)
    (ho : ∀ tx ∈ txs, ∀ op ∈ tx.2, ordinaryOp op = true) (x : K) (e : Ent K N T) (hg : s.ents.get x = some e)
    (hp : e.protectedBy s.reg = true) :
    ∃ e', (runHist s txs).ents.get x = some e' ∧ SameButLinks e e' :=
  (runHist_invariant (preserves_system_inv hp) ⟨rfl, e, hg, rfl⟩ txs ho).2

theorem ordinary_history_preserves_system_parent_registration (txs : List (Bool × List (Op K N T))) (s : St K N T)
    (hS : s.reg.onS = true) (ho : ∀ tx ∈ txs, ∀ op ∈ tx.2, ordinaryOp op = true) (x : K) (e : Ent K N T)
    (hg : s.ents.get x = some e) (hs : e.isSystem = true) :
    ∃ e', (runHist s txs).ents.get x = some e' ∧ SameButLinks e e' :=
  ordinary_history_preserves_system txs s ho x e hg (protectedBy_of (guarded_onS hS e) hs)

theorem ordinary_history_preserves_system_child_registration (txs : List (Bool × List (Op K N T))) (s : St K N T)
    (hC : s.reg.onC = true) (ho : ∀ tx ∈ txs, ∀ op ∈ tx.2, ordinaryOp op = true) (x : K) (e : Ent K N T)
    (hg : s.ents.get x = some e) (hs : e.isSystem = true) (hl : e.level.isSome = true) :
    ∃ e', (runHist s txs).ents.get x = some e' ∧ SameButLinks e e' :=
  ordinary_history_preserves_system txs s ho x e hg (protectedBy_of (guarded_onC hC hl) hs)

/-- **an update that changes nothing is refused all the same**: handing `Update` the entity exactly as
    it is stored (loaded and written back), with the nil checker, the empty checker or a checker
    naming only fields whose values are unchanged, from an ordinary context, on a protected system
    entity — `ENTITY_CAN_NOT_BE_UPDATED`, state untouched.  (An instance of `system_needs_system_ctx`,
    which quantifies over every in-memory entity; stated because "nothing would change" is exactly
    the case an implementation is tempted to short-cut before the constraints run.) -/
theorem unchanged_update_refused (s : St K N T) (id : K) (e : Ent K N T) (hg : s.ents.get id = some e)
    (hp : e.protectedBy s.reg = true) (v : Vals K N T)
    (_hsame : v.flag = e.isSystem ∧ v.name = e.name ∧ v.tags = e.tags ∧ v.owner = e.owner) (sn st so : Bool) :
    step s (.update false id v sn st so) = { st := s, err := some .sysUpdate } :=
  ((system_needs_system_ctx s id).2 e hg hp).1 v sn st so

/-- … while from a context that may update it, the write-back goes through the full update path:
    it succeeds and `updatedAt` is the clock's (nothing else of the entity changes) -/
theorem unchanged_update_allowed (s : St K N T) (id : K) (e : Ent K N T) (hg : s.ents.get id = some e)
    (v : Vals K N T) (hsame : v.name = e.name ∧ v.tags = e.tags ∧ v.owner = e.owner) (sn st so : Bool) :
    step s (.update true id v sn st so) = { st := s.putEnt id { e with updated := .now } } := by
  rw [step_update_found hg, updateOn_eq hg]
  have he : updEnt v sn st so none e = { e with updated := .now } := by
    rw [updEnt_eq, hsame.1, hsame.2.1, hsame.2.2, ite_self, ite_self, ite_self]
  rw [he]
  simp

/-- **a bucket whose error holder is set is never written** — by any `PersistEntity`: any sequence of
    setter calls of any kind (`SetString`, `SetRequiredString`, `SetStringP`, `GetAndSetString`,
    `SetBool`, `SetInt32/64`, `SetFloat64`, `SetTime(P)`, `PutMap`, `PutList`, `SetStringList`,
    `GetAndSetStringList`, `SetLinkedIds`), in any order, with any checker: content, error and the
    "anything was Put" mark are what they were. -/
theorem errored_bucket_never_written (ws : List (Write K N T)) (b : Bkt K N T) (h : b.err.isSome = true) :
    runWrites ws b = b := runWrites_errored ws h

/-- **a refused update writes nothing, whatever setters the entity strategy is made of**: `Update` of
    a protected entity from an ordinary context, for EVERY strategy `ws` (schema parameter: which
    setters `PersistEntity` calls, on which fields, in which order, under which checker — including a
    `SetRequiredString` handed a blank or a non-blank value): `ProcessBeforeUpdate` puts
    `ENTITY_CAN_NOT_BE_UPDATED` into the bucket's error holder, no setter proceeds, nothing is `Put`,
    `ProcessAfterUpdate` is skipped and that very error is returned (no later setter replaces or
    clears it).  The stores of the universe are the instance `ws = stratWrites …`
    (`update_runs_strategy`); the harness runs the plain (`SetString`) and the wide (every setter)
    strategies against the same model. -/
theorem refused_update_any_strategy (ws : List (Write K N T)) (s : St K N T) (id : K) (e : Ent K N T)
    (hg : s.ents.get id = some e) (hp : e.protectedBy s.reg = true) :
    updateWith ws s false id e = { st := s, err := some .sysUpdate } :=
  updateWith_refused ws (by rw [refused_of_get hg, hp]; rfl) e

/-- **every setter of the code is a gated write of the model** (tie by extraction): each of the
    persistence setters of `*TypedBucket` (those taking a `FieldChecker`) and `*PersistContext` in
    the current source has a shape the model has a meaning for (`SetterShape.write`: a `Write.set` or,
    for `SetRequiredString`, a `Write.require`), both `ProceedWithSet` functions are
    `bucket.Err == nil && (checker == nil || checker.IsUpdated(name))`, and the setters the harness's
    strategies call are among them.  So ANY `PersistEntity` written with these setters is a
    `List Write`, to which `refused_update_any_strategy` applies. -/
theorem every_setter_is_a_gated_write :
    Generated.c16GateOk = true ∧ (∀ p ∈ Generated.c16Setters, p.2.modelled = true) ∧
    (∀ n ∈ ["PersistContext.SetString", "PersistContext.SetRequiredString", "PersistContext.SetStringP",
            "PersistContext.GetAndSetString", "PersistContext.SetInt32", "PersistContext.SetInt64",
            "PersistContext.SetBool", "PersistContext.SetTimeP", "PersistContext.SetStringList",
            "PersistContext.GetAndSetStringList", "PersistContext.SetMap", "PersistContext.SetLinkedIds",
            "TypedBucket.SetTime", "TypedBucket.SetTimeP", "TypedBucket.SetFloat64", "TypedBucket.PutList",
            "TypedBucket.PutMap", "TypedBucket.SetBool"],
      (Generated.c16Setters.lookup n).isSome = true) := by decide +kernel

/-- `S.Update` / `C.Update` of the model ARE `updateWith` the universe's strategy -/
theorem update_runs_strategy (s : St K N T) (id : K) (e : Ent K N T) (hg : s.ents.get id = some e) (sys : Bool)
    (v : Vals K N T) (sn st so : Bool) :
    step s (.update sys id v sn st so) = updateWith (stratWrites v sn st so none) s sys id e ∧
    ∀ (sl : Bool) (lvl : N), e.level.isSome = true →
      step s (.cupdate sys id v sn st so sl lvl) = updateWith (stratWrites v sn st so (some (sl, lvl))) s sys id e := by
  refine ⟨by rw [step_update_found hg]; rfl, ?_⟩
  intro sl lvl hl
  rw [step_cupdate_found hg, Option.isNone_eq_false_iff.mpr hl]; rfl

/-- where nothing refuses (ordinary entity, or a system context) a strategy of plain setters under a
    nil checker writes all its fields: the gate is the error holder, nothing else -/
theorem allowed_update_writes (fs : List (Ent K N T → Ent K N T)) (b : Bkt K N T) (h : b.err = none) :
    (runWrites (fs.map (Write.set true)) b).ent = fs.foldl (fun e f => f e) b.ent ∧
    (runWrites (fs.map (Write.set true)) b).err = none := by
  induction fs generalizing b with
  | nil => exact ⟨rfl, h⟩
  | cons f fs ih =>
    obtain ⟨e, er, wr⟩ := b
    obtain rfl : er = none := h
    show (runWrites (fs.map (Write.set true)) ((Write.set true f).run ⟨e, none, wr⟩)).ent = _ ∧
      (runWrites (fs.map (Write.set true)) ((Write.set true f).run ⟨e, none, wr⟩)).err = none
    rw [Write.run_set_clean]
    exact ih _ rfl

def NoKids (s : St K N T) : Prop := ∀ p ∈ s.ents, p.2.level = none

theorem stepOk_noKids (s : St K N T) (op : Op K N T) (s' : St K N T) (hv : op.viaChild = false) (hn : NoKids s)
    (hk : StepOk s op s') : NoKids s' := by
  have hget : ∀ {id : K} {e : Ent K N T}, s.ents.get id = some e → e.level = none :=
    fun hg => hn _ (Map.get_some_mem hg)
  have put : ∀ (id : K) (e : Ent K N T), e.level = none → NoKids (s.putEnt id e) :=
    fun id _ he => Map.forall_put (P := fun e : Ent K N T => e.level = none) hn id he
  cases hk with
  | create _ _ => exact put _ _ (by rw [mkEnt_level]; rfl)
  | update hg _ => exact put _ _ (by rw [updEnt_eq]; exact (hget hg :))
  | delete _ _ => exact fun p hp => hn p (Map.mem_del hp)
  | ocreate => exact hn
  | odelete _ =>
    exact forall_unlinkAll (P := fun e : Ent K N T => e.level = none) (fun p hp => hn p (Map.mem_delAll hp)) _
      fun _ h => h
  | deleteWhere _ => exact fun p hp => hn p (Map.mem_delAll hp)
  | link hg => exact put _ _ (hget hg :)
  | unlink hg => exact put _ _ (hget hg :)
  | read => exact hn
  | ccreateNew _ _ | ccreateOver _ _ | cupdate _ _ | cdelete _ _ => cases hv

/-- **the plain shape**: in a schema without a child store (`reg.childStore = false`) the histories
    contain no operation through C (`Op.fits`), and then no bucket ever has child data — the branches
    of the model that look at child data are never taken, the constrained store behaves as a store
    without parent and without child stores -/
theorem plain_shape_no_child_data (reg : Reg) (hshape : reg.childStore = false) (h : List (Bool × List (Op K N T)))
    (hfit : ∀ tx ∈ h, ∀ op ∈ tx.2, op.fits reg = true) :
    NoKids (runHist (St.empty reg : St K N T) h) := by
  refine runHist_invariant (Q := fun op => op.viaChild = false) stepOk_noKids (fun p hp => by cases hp) h
    fun tx htx op hop => ?_
  have := hfit tx htx op hop
  unfold Op.fits at this
  rw [hshape] at this
  cases hvc : op.viaChild with
  | false => rfl
  | true => rw [hvc] at this; cases this

/-- the property in the plain shape (constraint on the store itself): after ANY history of that
    shape every system entity is refused update — whatever the update carries, in particular the
    stored values themselves, with any checker — and delete from an ordinary context, directly, by
    cascade and by query -/
theorem system_needs_system_ctx_plain_shape (reg : Reg) (hshape : reg.childStore = false) (hS : reg.onS = true)
    (h : List (Bool × List (Op K N T))) (_hfit : ∀ tx ∈ h, ∀ op ∈ tx.2, op.fits reg = true)
    (id : K) (e : Ent K N T) (hg : (runHist (St.empty reg : St K N T) h).ents.get id = some e) (hs : e.isSystem = true) :
    e.level = none ∧
    (∀ (v : Vals K N T) sn st so, step (runHist (St.empty reg) h) (.update false id v sn st so) =
        { st := runHist (St.empty reg) h, err := some .sysUpdate }) ∧
    step (runHist (St.empty reg) h) (.delete false id) = { st := runHist (St.empty reg) h, err := some .sysDelete } ∧
    (∀ o, e.owner = some o → o ∈ (runHist (St.empty reg : St K N T) h).owners →
        (step (runHist (St.empty reg) h) (.odelete false o)).err = some .viaSysDelete) ∧
    (∀ q : Query K N, q.eval e = true → (step (runHist (St.empty reg) h) (.deleteWhere false q)).err = some .viaSysDelete) := by
  have hreg : (runHist (St.empty reg : St K N T) h).reg = reg := runHist_reg _ _
  have hS' : (runHist (St.empty reg : St K N T) h).reg.onS = true := by rw [hreg]; exact hS
  obtain ⟨h1, _, h3, _, _, h6, h7⟩ := system_needs_system_ctx_parent_registration _ hS' id e hg hs
  exact ⟨plain_shape_no_child_data reg hshape h _hfit _ (Map.get_some_mem hg), h1, h3, h6, h7⟩

/-- **from a system context create, update and delete of a system entity succeed** and do what
    they say; so does the delete of an owner that system entities refer to -/
theorem system_ctx_allowed (s : St K N T) (id : K) :
    (∀ v : Vals K N T, s.ents.get id = none → ownerOk s v.owner = true →
        (step s (.create true id false v)).err = none ∧
        ((step s (.create true id false v)).st.ents.get id).map Ent.isSystem = some v.flag ∧
        ((step s (.create true id false v)).st.ents.get id).map Ent.name = some v.name) ∧
    (∀ e (v : Vals K N T), s.ents.get id = some e →
        (step s (.update true id v true true false)).err = none ∧
        ((step s (.update true id v true true false)).st.ents.get id).map Ent.name = some v.name ∧
        ((step s (.update true id v true true false)).st.ents.get id).map Ent.flag = some e.flag) ∧
    (∀ e, s.ents.get id = some e →
        (step s (.delete true id)).err = none ∧ (step s (.delete true id)).st.ents.get id = none) ∧
    (∀ o, o ∈ s.owners → (step s (.odelete true o)).err = none ∧
        ∀ y ∈ refs s o, (step s (.odelete true o)).st.ents.get y = none) := by
  refine ⟨?_, ?_, ?_, ?_⟩
  · intro v hg ho
    rw [step_create_new hg, createOn_eq, ho]
    simp only [Bool.not_true, Bool.and_false, Bool.false_eq_true, if_false, get_putEnt_self, Option.map_some,
      mkEnt_isSystem, blankEnt_isSystem, Bool.or_false, true_and]
    rw [mkEnt_eq]
  · intro e v hg
    rw [step_update_found hg, updateOn_eq hg]
    have hown : (updEnt v true true false none e).owner = e.owner := by rw [updEnt_owner]; rfl
    simp only [hown, Bool.not_true, Bool.and_false, Bool.false_eq_true, if_false, get_putEnt_self, Option.map_some,
      updEnt_flag, true_and, and_true, ne_eq, not_true_eq_false, decide_false, Bool.false_and]
    rw [updEnt_eq]; rfl
  · intro e hg
    rw [step_delete, deleteOne_found hg]
    simp [Map.get_del]
  · intro o ho
    rw [step_odelete_found ho, any_refused_sys]
    simp only [Bool.false_eq_true, if_false, true_and]
    intro y hy
    rw [get_unlinkAll, Map.get_delAll]
    simp [hy]

/-- **For every history** — any mix of contexts, several operations per transaction, updates
    carrying a flipped flag with any field checker, operations through the child store, cascades,
    deletes by query, failing and ignored operations — every entity that exists at the end reads
    back exactly the IsSystem flag on record for it: the flag its creating `Create` call carried
    (`runHistG` runs the same history while recording, for each existing entity, the flag of the
    call that created it, a child-store `Create` over an existing parent adding its flag to the one
    on record; `runHistG_fst` shows it computes the same states).  Which calls can change the record
    of an existing entity at all: `flag_change_needs_system_child_create`. -/
theorem flag_immutable (reg : Reg) (h : List (Bool × List (Op K N T))) (id : K) :
    ((runHist (St.empty reg : St K N T) h).ents.get id).map Ent.isSystem =
      (runHistG ((St.empty reg : St K N T), ([] : Map K Bool)) h).2.get id := by
  have := runHistG_flagInv (sg := ((St.empty reg : St K N T), ([] : Map K Bool))) (fun _ => rfl) h id
  rw [runHistG_fst] at this
  exact this

/-- **the only successful operation after which an existing entity reads back another flag** is a
    `Create` through the child store, over that entity, carrying `IsSystem = true`, **from a system
    context** — it re-runs `CreateBaseValues` on the parent's bucket and so turns an ordinary
    entity into a system one.  Nothing turns a system entity back, and nothing an ordinary context
    does changes any flag. -/
theorem flag_change_needs_system_child_create (s : St K N T) (hreg : (s.reg.onS || s.reg.onC) = true)
    (op : Op K N T) (hok : (step s op).err = none)
    (x : K) (e e' : Ent K N T) (hg : s.ents.get x = some e) (hg' : (step s op).st.ents.get x = some e') :
    e'.isSystem = e.isSystem ∨
      (∃ v lvl, op = .ccreate true x false v lvl ∧ v.flag = true ∧ e.isSystem = false ∧ e'.isSystem = true) := by
  rcases stepOk_get (step_ok hok) hg with ⟨ps, h⟩ | ⟨_, h | ⟨v, sn, st, so, l, h⟩⟩ | ⟨sys, v, lvl, rfl, h, hc⟩ <;>
    rw [h] at hg' <;> cases hg'
  · exact .inl rfl
  · exact .inl (updEnt_isSystem ..)
  · rw [mkEnt_isSystem]
    cases hf : v.flag with
    | false => exact .inl rfl
    | true =>
      cases hes : e.isSystem with
      | true => exact .inl rfl
      | false =>
        -- the bucket is now a protected system entity: only a system context gets past the check
        rw [protectedBy_mkEnt_child hreg v lvl e (by rw [hf]; rfl)] at hc
        cases sys with
        | false => cases hc
        | true => exact .inr ⟨v, lvl, rfl, hf, rfl, rfl⟩

/-- the single step behind it: **no update — through S or through the child store, from any
    context, whatever `IsSystem`, `Migrate`, timestamps, tags, name and owner the in-memory entity
    carries (`v` is the whole of it), with any field checker, failing or not — changes the stored
    flag of any entity** -/
theorem update_never_changes_flag (s : St K N T) (sys : Bool) (id : K) (v : Vals K N T) (sn st so sl : Bool)
    (lvl : N) (x : K) :
    ((step s (.update sys id v sn st so)).st.ents.get x).map Ent.flag = (s.ents.get x).map Ent.flag ∧
    ((step s (.cupdate sys id v sn st so sl lvl)).st.ents.get x).map Ent.flag = (s.ents.get x).map Ent.flag := by
  have key : ∀ (e : Ent K N T) (l : Option (Bool × N)), s.ents.get id = some e →
      ((updateOn s sys id v sn st so l e).st.ents.get x).map Ent.flag = (s.ents.get x).map Ent.flag := by
    intro e l hg
    rw [updateOn_eq hg]
    have hput : ((s.putEnt id (updEnt v sn st so l e)).ents.get x).map Ent.flag = (s.ents.get x).map Ent.flag := by
      rw [putEnt_ents, Map.get_put]
      by_cases hx : id = x
      · subst hx; simp [hg, updEnt_flag]
      · simp [hx]
    split
    · rfl
    · split
      · exact hput
      · exact hput
  cases hg : s.ents.get id with
  | none => rw [step_update_missing hg, step_cupdate_missing hg]; exact ⟨rfl, rfl⟩
  | some e =>
    rw [step_update_found hg, step_cupdate_found hg]
    refine ⟨key e none hg, ?_⟩
    split
    · rfl
    · exact key e _ hg

/-- the code path behind *that*: on an update `SetBaseValues` takes the `UpdateBaseValues` branch
    (it looks at `ctx.IsCreate` only, never at the entity's `Migrate`), and that branch does not
    touch `isSystem` nor `createdAt` -/
theorem setBaseValues_update_keeps (v : Vals K N T) (st : Bool) (e : Ent K N T) :
    (setBaseValues false v st e).flag = e.flag ∧ (setBaseValues false v st e).created = e.created ∧
    (setBaseValues false v st e).name = e.name := ⟨rfl, rfl, rfl⟩

/-- and on a create `CreateBaseValues` writes the key only when the entity carries the flag: re-run
    on an existing bucket it never clears a stored flag -/
theorem createBaseValues_never_clears (v : Vals K N T) (lvl : Option N) (e : Ent K N T) (h : e.isSystem = true) :
    (mkEnt v lvl e).isSystem = true := by
  rw [mkEnt_isSystem, h]; simp

def withCtx (sys : Bool) : Op K N T → Op K N T
  | .create _ id blank v => .create sys id blank v
  | .update _ id v sn st so => .update sys id v sn st so
  | .delete _ id => .delete sys id
  | .ccreate _ id blank v lvl => .ccreate sys id blank v lvl
  | .cupdate _ id v sn st so sl lvl => .cupdate sys id v sn st so sl lvl
  | .cdelete _ id => .cdelete sys id
  | .odelete _ o => .odelete sys o
  | .deleteWhere _ q => .deleteWhere sys q
  | .ocreate id blank => .ocreate id blank
  | .link a b => .link a b
  | .unlink a b => .unlink a b
  | .read id => .read id

/-- the operation concerns ordinary entities only: it does not create with the flag set and every
    entity it addresses or reaches (cascade, query) is stored without the flag -/
def Ordinary (s : St K N T) : Op K N T → Prop
  | .create _ _ _ v => v.flag = false
  | .ccreate _ id _ v _ => v.flag = false ∧ ∀ e, s.ents.get id = some e → e.isSystem = false
  | .update _ id _ _ _ _ => ∀ e, s.ents.get id = some e → e.isSystem = false
  | .cupdate _ id _ _ _ _ _ _ => ∀ e, s.ents.get id = some e → e.isSystem = false
  | .delete _ id => ∀ e, s.ents.get id = some e → e.isSystem = false
  | .cdelete _ id => ∀ e, s.ents.get id = some e → e.isSystem = false
  | .odelete _ o => ∀ y ∈ refs s o, ∀ e, s.ents.get y = some e → e.isSystem = false
  | .deleteWhere _ q => ∀ y ∈ matching s q, ∀ e, s.ents.get y = some e → e.isSystem = false
  | _ => True

/-- **ordinary entities are unaffected by the constraint**: on them every operation — direct,
    through the child store, cascading or by query — behaves the same from an ordinary and from a
    system context (same error, same resulting state) -/
theorem ordinary_unaffected (s : St K N T) (op : Op K N T) (h : Ordinary s op) (c1 c2 : Bool) :
    step s (withCtx c1 op) = step s (withCtx c2 op) := by
  have hcreate : ∀ (id : K) (v : Vals K N T) (lvl : Option N) (e0 : Ent K N T), v.flag = false → e0.isSystem = false →
      createOn s c1 id v lvl e0 = createOn s c2 id v lvl e0 := by
    intro id v lvl e0 hv he
    have hp : (mkEnt v lvl e0).protectedBy s.reg = false :=
      protectedBy_of_not_system _ (by rw [mkEnt_isSystem, hv, he]; rfl)
    rw [createOn_eq, createOn_eq, hp]; rfl
  -- update and delete ask `refused` of the stored bucket, and an ordinary entity is refused to no context
  have hupdate : ∀ (id : K) (v : Vals K N T) (sn st so : Bool) (l : Option (Bool × N)),
      (∀ e, s.ents.get id = some e → e.isSystem = false) →
      ∀ e, updateOn s c1 id v sn st so l e = updateOn s c2 id v sn st so l e := by
    intro id v sn st so l hh e
    unfold updateOn updateWith
    rw [refused_of_not_system hh c1, refused_of_not_system hh c2]
  have hdelete : ∀ id : K, (∀ e, s.ents.get id = some e → e.isSystem = false) → deleteOne s c1 id = deleteOne s c2 id := by
    intro id hh
    unfold deleteOne
    rw [refused_of_not_system hh c1, refused_of_not_system hh c2]
  -- the context reaches `step` only through these bodies and the batch delete
  cases op with
  | create sys id blank v =>
    show step s (.create c1 id blank v) = step s (.create c2 id blank v)
    simp only [step, hcreate id v none (blankEnt v.name) h rfl]
  | ccreate sys id blank v lvl =>
    replace h : v.flag = false ∧ ∀ e, s.ents.get id = some e → e.isSystem = false := h
    show step s (.ccreate c1 id blank v lvl) = step s (.ccreate c2 id blank v lvl)
    cases hg : s.ents.get id with
    | some e => simp only [step, hg, hcreate id v _ e h.1 (h.2 e hg)]
    | none => simp only [step, hg, hcreate id v _ (blankEnt v.name) h.1 rfl]
  | update sys id v sn st so =>
    show step s (.update c1 id v sn st so) = step s (.update c2 id v sn st so)
    simp only [step, hupdate id v sn st so none h]
  | cupdate sys id v sn st so sl lvl =>
    show step s (.cupdate c1 id v sn st so sl lvl) = step s (.cupdate c2 id v sn st so sl lvl)
    simp only [step, hupdate id v sn st so (some (sl, lvl)) h]
  | delete sys id => exact hdelete id h
  | cdelete sys id => exact hdelete id h
  | odelete sys o =>
    simp only [withCtx, step, cascadeCtx]
    rw [delMany_ctx_irrelevant s (refs s o) (fun y hy => refused_of_not_system (h y hy) false) c1 c2]
  | deleteWhere sys q =>
    simp only [withCtx, step]
    rw [delMany_ctx_irrelevant s (matching s q) (fun y hy => refused_of_not_system (h y hy) false) c1 c2]
  | ocreate id blank => rfl
  | link a b => rfl
  | unlink a b => rfl
  | read id => rfl

/-- the spec's reading of a transaction body: a failing operation changes nothing; in keep-going
    mode the caller carries on after an ignorable failure -/
def srunOps (k : Bool) : SSt K N T → List (Op K N T) → SSt K N T × Bool
  | s, [] => (s, false)
  | s, op :: ops =>
    match sstep s op with
    | .ok s' => srunOps k s' ops
    | .fail ignorable => if k && ignorable then srunOps k s ops else (s, true)

def scommitTx (s : SSt K N T) (tx : Bool × List (Op K N T)) : SSt K N T :=
  let r := srunOps tx.1 s tx.2
  if r.2 then s else r.1

def srunHist (s : SSt K N T) (txs : List (Bool × List (Op K N T))) : SSt K N T := txs.foldl scommitTx s

theorem runOps_refines (k : Bool) (s : St K N T) (hw : WF s.ents) (ops : List (Op K N T)) :
    (runOps k s ops).2 = (srunOps k (abs s) ops).2 ∧
    ((runOps k s ops).2 = false → abs (runOps k s ops).1 = (srunOps k (abs s) ops).1) := by
  induction ops generalizing s with
  | nil => exact ⟨rfl, fun _ => rfl⟩
  | cons op ops ih =>
    have href := step_refines s hw op
    unfold Refines at href
    cases he : (step s op).err with
    | none =>
      rw [he] at href
      rw [runOps_cons_ok he]
      simp only [srunOps, href]
      exact ih _ (stepOk_wf (step_ok he) hw)
    | some e =>
      rw [he] at href
      rw [runOps_cons_err he]
      simp only [srunOps, href]
      split
      · next hk => rw [step_err_state he (Bool.and_eq_true_iff.mp hk).2]; exact ih s hw
      · exact ⟨rfl, fun h => nomatch h⟩

theorem commitTx_refines (s : St K N T) (hw : WF s.ents) (tx : Bool × List (Op K N T)) :
    abs (commitTx s tx) = scommitTx (abs s) tx := by
  obtain ⟨h1, h2⟩ := runOps_refines tx.1 s hw tx.2
  unfold commitTx scommitTx
  simp only [← h1]
  split
  · rfl
  · next hf => exact h2 (Bool.eq_false_iff.mpr hf)

/-- the refinement from any state; `WF` is needed for `DeleteWhere isSystem = b` only: the model compares the
    stored key, the spec the flag (`eval_abs`) -/
theorem runHist_refines (s : St K N T) (hw : WF s.ents) (h : List (Bool × List (Op K N T))) :
    abs (runHist s h) = srunHist (abs s) h := by
  induction h generalizing s with
  | nil => rfl
  | cons tx txs ih =>
    have hw' : WF (commitTx s tx).ents :=
      commitTx_invariant (P := fun s => WF s.ents) (Q := fun _ => True) (fun _ _ _ _ hw hk => stepOk_wf hk hw)
        hw tx fun _ _ => trivial
    exact (ih _ hw').trans (congrArg (srunHist · txs) (commitTx_refines s hw tx))

/-- **for every history the committed state of the model is the state the specification
    prescribes** (entities, their system flag, names, tags, timestamps, owners, child data; the
    owners) -/
theorem model_refines_spec (reg : Reg) (h : List (Bool × List (Op K N T))) :
    abs (runHist (St.empty reg : St K N T) h) = srunHist (SSt.empty reg : SSt K N T) h :=
  runHist_refines (St.empty reg) (fun p hp => by cases hp) h

end

instance : KeyOrd Nat := ⟨fun a b => decide (a ≤ b)⟩

def regS : Reg := { onS := true, onC := false }
def regC : Reg := { onS := false, onC := true }

def vals (flag migrate : Bool) (name : Nat) (owner : Option Nat := none) : Vals Nat Nat Nat :=
  { flag := flag, migrate := migrate, cAt := 1000, uAt := 2000, tags := some name, name := name, owner := owner }

/-- owner 7; a system context creates system entity 1 (migrated: carries its own timestamps) referring to
    it, an ordinary one ordinary entity 2 referring to it too; an ordinary transaction tries to update 1 with a
    flipped flag (ignored error, committed), updates 2 carrying IsSystem = true AND Migrate = true,
    tries to delete 1; a system transaction renames 1 -/
def demoHist : List (Bool × List (Op Nat Nat Nat)) :=
  [(false, [.ocreate 7 false, .create true 1 false (vals true true 10 (some 7)),
            .create false 2 false (vals false false 20 (some 7))]),
   (true, [.update false 1 (vals false false 11) true true false, .update false 2 (vals true true 21) true false false,
           .delete false 1]),
   (false, [.update true 1 (vals false true 12) true true false])]

example : (runHist (St.empty regS) demoHist).ents.get 1 =
    some { flag := some true, name := 12, tags := some 12, created := .given 1000, updated := .now,
           owner := some 7, level := none, peers := [] } := by decide +kernel
example : (runHist (St.empty regS) demoHist).ents.get 2 =
    some { flag := none, name := 21, tags := some 20, created := .now, updated := .now, owner := some 7,
           level := none, peers := [] } := by decide +kernel
example : (runHistG ((St.empty regS), []) demoHist).2.get 1 = some true ∧ (runHistG ((St.empty regS), []) demoHist).2.get 2 = some false := by
  decide +kernel
example : (step (runHist (St.empty regS) demoHist) (.delete false 1)).err = some .sysDelete := by decide +kernel
example : (step (runHist (St.empty regS) demoHist) (.create false 3 false (vals true false 30))).err = some .sysCreate := by decide +kernel

example : (step (runHist (St.empty regS) demoHist) (.odelete false 7)).err = some .viaSysDelete := by decide +kernel
example : (step (runHist (St.empty regS) demoHist) (.deleteWhere false .all)).err = some .viaSysDelete := by decide +kernel
example : (step (runHist (St.empty regS) demoHist) (.ccreate false 1 false (vals false false 5) 9)).err = some .sysCreate := by decide +kernel
example : (step (runHist (St.empty regS) demoHist) (.cdelete false 1)).err = some .sysDelete := by decide +kernel
example : (commitTx (runHist (St.empty regS) demoHist) (true, [.odelete false 7, .deleteWhere false .all,
    .ccreate false 1 false (vals false false 5) 9])).ents.get 1 = (runHist (St.empty regS) demoHist).ents.get 1 := by decide +kernel
example : ((step (runHist (St.empty regS) demoHist) (.odelete true 7)).st.ents.get 1,
    (step (runHist (St.empty regS) demoHist) (.odelete true 7)).st.ents.get 2,
    (step (runHist (St.empty regS) demoHist) (.odelete true 7)).st.owners) = (none, none, []) := by decide +kernel
/-- the promotion `flag_change_needs_system_child_create` describes, and its refusal from an ordinary context -/
example : ((step (runHist (St.empty regS) demoHist) (.ccreate true 2 false (vals true false 5 (some 7)) 9)).st.ents.get 2).map Ent.isSystem
    = some true := by decide +kernel
example : (step (runHist (St.empty regS) demoHist) (.ccreate false 2 false (vals true false 5 (some 7)) 9)).err = some .sysCreate := by
  decide +kernel
/-- the cascade stops being safe the moment the nested delete runs under another context than
    the caller's: with the referrers deleted from a system context the system entity is gone -/
example : ((delMany true (runHist (St.empty regS) demoHist) (refs (runHist (St.empty regS) demoHist) 7)).1.ents.get 1) = none := by decide +kernel
example : Ordinary (runHist (St.empty regS) demoHist) (.update false 2 (vals true true 5) true true true) := by
  intro e he
  have : (runHist (St.empty regS) demoHist).ents.get 2 =
      some { flag := none, name := 21, tags := some 20, created := .now, updated := .now, owner := some 7,
             level := none, peers := [] } := by decide +kernel
  rw [this] at he; cases he; rfl

/-- a system context creates system entity 1 THROUGH THE CHILD STORE (child data) and system entity 2
    through S (no child data) -/
def demoHistC : List (Bool × List (Op Nat Nat Nat)) :=
  [(false, [.ocreate 7 false, .ccreate true 1 false (vals true false 10 (some 7)) 5,
            .create true 2 false (vals true false 20)])]

example : (step (runHist (St.empty regC) demoHistC) (.delete false 1)).err = some .sysDelete := by decide +kernel
example : (step (runHist (St.empty regC) demoHistC) (.cdelete false 1)).err = some .sysDelete := by decide +kernel
example : (step (runHist (St.empty regC) demoHistC) (.update false 1 (vals false false 11) true true false)).err
    = some .sysUpdate := by decide +kernel
example : (step (runHist (St.empty regC) demoHistC) (.cupdate false 1 (vals false false 11) true true false true 6)).err
    = some .sysUpdate := by decide +kernel
example : (step (runHist (St.empty regC) demoHistC) (.odelete false 7)).err = some .viaSysDelete := by decide +kernel
example : (step (runHist (St.empty regC) demoHistC) (.deleteWhere false .all)).err = some .viaSysDelete := by decide +kernel
/-- entity 2 has no child data: a constraint on the child store never sees operations on it through S — the
    hypothesis `e.level.isSome` of `system_needs_system_ctx_child_registration` is necessary —, but extending it
    through the child store is refused -/
example : (step (runHist (St.empty regC) demoHistC) (.delete false 2)).err = none := by decide +kernel
example : (step (runHist (St.empty regC) demoHistC) (.update false 2 (vals false false 21) true true false)).err = none := by
  decide +kernel
example : (step (runHist (St.empty regC) demoHistC) (.create false 3 false (vals true false 30))).err = none := by decide +kernel
example : (step (runHist (St.empty regC) demoHistC) (.ccreate false 2 false (vals false false 21) 9)).err = some .sysCreate := by
  decide +kernel
example : (step (runHist (St.empty regC) demoHistC) (.ccreate false 3 false (vals true false 30) 9)).err = some .sysCreate := by
  decide +kernel
def regP : Reg := { onS := true, onC := false, childStore := false }
def demoHistP : List (Bool × List (Op Nat Nat Nat)) :=
  [(false, [.create true 2 false (vals true true 20)])]
example : ∀ tx ∈ demoHistP, ∀ op ∈ tx.2, op.fits regP = true := by decide +kernel
example : (step (runHist (St.empty regP) demoHistP) (.update false 2 (vals true false 20) true true true)).err =
    some .sysUpdate := by decide +kernel
example : (step (runHist (St.empty regP) demoHistP) (.update false 2 (vals true false 20) false false false)).err =
    some .sysUpdate := by decide +kernel
example : ((step (runHist (St.empty regP) demoHistP) (.update true 2 (vals true false 20) true true true)).st.ents.get 2) =
    some { flag := some true, name := 20, tags := some 20, created := .given 1000, updated := .now, owner := none,
           level := none, peers := [] } := by decide +kernel
example : (step (runHist (St.empty regS) demoHistC) (.delete false 2)).err = some .sysDelete := by decide +kernel

/-- a strategy with a `SetRequiredString` between two plain setters: handed a blank value it raises its own
    error after the first write -/
def demoWrites (blank : Bool) : List (Write Nat Nat Nat) :=
  [.set true (fun e => { e with tags := some 5 }), .require true blank .blank (fun e => { e with name := 99 }),
   .set true (fun e => { e with owner := none })]
def demoEnt1 : Ent Nat Nat Nat :=
  { flag := some true, name := 12, tags := some 12, created := .given 1000, updated := .now, owner := some 7,
    level := none, peers := [] }
example : (updateWith (demoWrites false) (runHist (St.empty regS) demoHist) false 1 demoEnt1).err = some .sysUpdate ∧
    (updateWith (demoWrites false) (runHist (St.empty regS) demoHist) false 1 demoEnt1).st.ents.get 1 = some demoEnt1 := by
  decide +kernel
example : (updateWith (demoWrites false) (runHist (St.empty regS) demoHist) true 1 demoEnt1).err = none ∧
    (updateWith (demoWrites false) (runHist (St.empty regS) demoHist) true 1 demoEnt1).st.ents.get 1 =
      some { demoEnt1 with tags := some 5, name := 99, owner := none } := by decide +kernel
example : (updateWith (demoWrites true) (runHist (St.empty regS) demoHist) true 1 demoEnt1).err = some .blank ∧
    (updateWith (demoWrites true) (runHist (St.empty regS) demoHist) true 1 demoEnt1).st.ents.get 1 =
      some { demoEnt1 with tags := some 5 } := by decide +kernel

section
variable {K N T : Type} [DecidableEq K] [DecidableEq N] [KeyOrd K]

/-- **what a SYSTEM context can do with an entity the strategy cannot load** (whatever its flag):
    nothing that loads it first — `Update`, `DeleteById` through either store and `FindById` return the
    load error with the state untouched; deleting its owner and a `DeleteWhere` matching it fail (the
    batch stops at it) and the entity stays.  (What repairs it: a child-store `Create` over it — no
    load precedes `PersistEntity`, which rewrites the field — or a raw write: `rawName_repairs`.) -/
theorem system_ctx_unloadable (σ : Strat N) (s : St K N T) (sys : Bool) (id : K) (e : Ent K N T)
    (hg : s.ents.get id = some e) (hu : σ.fillFails e.name = true) :
    (∀ v sn st so, (lstep σ s (.base (.update sys id v sn st so))).err = some .load ∧
        (lstep σ s (.base (.update sys id v sn st so))).st = s) ∧
    ((lstep σ s (.base (.delete sys id))).err = some .load ∧ (lstep σ s (.base (.delete sys id))).st = s) ∧
    ((lstep σ s (.base (.cdelete sys id))).err = some .load ∧ (lstep σ s (.base (.cdelete sys id))).st = s) ∧
    ((lstep σ s (.base (.read id))).err = some .load) ∧
    (∀ o, e.owner = some o → o ∈ s.owners →
        (lstep σ s (.base (.odelete sys o))).err.isSome = true ∧
        (lstep σ s (.base (.odelete sys o))).st.ents.get id = some e) ∧
    (∀ q : Query K N, q.eval e = true →
        (lstep σ s (.base (.deleteWhere sys q))).err.isSome = true ∧
        (lstep σ s (.base (.deleteWhere sys q))).st.ents.get id = some e) := by
  have hun : unloadable σ s id = true := by rw [unloadable_of_get hg]; exact hu
  -- a batch listing the entity stops at it or before it, with an error
  have batch : ∀ {ids : List K} {c : Bool}, id ∈ ids → ∀ {lo : LErr → LOut K N T} {ok : LOut K N T},
      (∀ er, (lo er).err.isSome = true ∧ (lo er).st = (ldelMany σ c s ids).1) →
      (match (ldelMany σ c s ids).2 with | some er => lo er | none => ok).err.isSome = true ∧
      (match (ldelMany σ c s ids).2 with | some er => lo er | none => ok).st.ents.get id = some e := by
    intro ids c hm lo ok hlo
    obtain ⟨h1, h2⟩ := ldelMany_unloadable_mem σ c s ids hm hun
    cases hr : (ldelMany σ c s ids).2 with
    | none => rw [hr] at h1; cases h1
    | some er => exact ⟨(hlo er).1, by rw [(hlo er).2, h2, hg]⟩
  refine ⟨?_, ?_, ?_, ?_, ?_, ?_⟩
  · intro v sn st so; simp only [lstep, hun, if_true, and_self]
  · simp only [lstep, hun, if_true, and_self]
  · simp only [lstep, hun, if_true, and_self]
  · simp only [lstep, hun, if_true]
  · intro o ho hm
    simp only [lstep, hm, if_true]
    exact batch (mem_refs hg ho) fun _ => ⟨rfl, rfl⟩
  · intro q hq
    simp only [lstep]
    exact batch (mem_matching hg hq) fun _ => ⟨rfl, rfl⟩

/-- **system entities need a system context — also those the strategy cannot load.**  For a
    protected entity whose stored data cannot be loaded, from an ORDINARY context: `Update` (S and C),
    `DeleteById` (S and C) fail with the state untouched (the load error comes before the constraint
    pass — it must not be "tolerated" into a success); deleting the owner it refers to and a
    `DeleteWhere` matching it fail and the entity is still there, as it was. -/
theorem system_needs_system_ctx_unloadable (σ : Strat N) (s : St K N T) (id : K) (e : Ent K N T)
    (hg : s.ents.get id = some e) (_hp : e.protectedBy s.reg = true) (hu : σ.fillFails e.name = true) :
    (∀ v sn st so, (lstep σ s (.base (.update false id v sn st so))).err = some .load ∧
        (lstep σ s (.base (.update false id v sn st so))).st = s) ∧
    (∀ v sn st so sl lvl, (lstep σ s (.base (.cupdate false id v sn st so sl lvl))).err.isSome = true ∧
        (lstep σ s (.base (.cupdate false id v sn st so sl lvl))).st = s) ∧
    ((lstep σ s (.base (.delete false id))).err = some .load ∧ (lstep σ s (.base (.delete false id))).st = s) ∧
    ((lstep σ s (.base (.cdelete false id))).err = some .load ∧ (lstep σ s (.base (.cdelete false id))).st = s) ∧
    (∀ o, e.owner = some o → o ∈ s.owners →
        (lstep σ s (.base (.odelete false o))).err.isSome = true ∧
        (lstep σ s (.base (.odelete false o))).st.ents.get id = some e) ∧
    (∀ q : Query K N, q.eval e = true →
        (lstep σ s (.base (.deleteWhere false q))).err.isSome = true ∧
        (lstep σ s (.base (.deleteWhere false q))).st.ents.get id = some e) := by
  obtain ⟨h1, h3, h4, _, h5, h6⟩ := system_ctx_unloadable σ s false id e hg hu
  refine ⟨h1, ?_, h3, h4, h5, h6⟩
  intro v sn st so sl lvl
  simp only [lstep, hg]
  split
  · rw [lift_st, lift_err, step_cupdate_found hg, if_pos ‹_›]; exact ⟨rfl, rfl⟩
  · exact ⟨rfl, rfl⟩

/-- a raw write of a loadable form makes the entity loadable again (and one of an unloadable form
    makes it unloadable): no context is involved -/
theorem rawName_repairs (σ : Strat N) (s : St K N T) (id : K) (e : Ent K N T) (n : N)
    (hg : s.ents.get id = some e) :
    (lstep σ s (.rawName id n)).err = none ∧
    unloadable σ (lstep σ s (.rawName id n)).st id = σ.fillFails n := by
  simp only [lstep, hg]
  refine ⟨trivial, ?_⟩
  exact unloadable_of_get (get_putEnt_self ..)

/-- operations an ordinary context issues; raw writes on OTHER entities may occur anywhere in the
    history (they make other entities unloadable or loadable again) -/
def lordinaryFor (x : K) : LOp K N T → Bool
  | .base op => ordinaryOp op
  | .rawName id _ => decide (id ≠ x)

/-- **one successful operation from an ordinary context leaves every protected system entity —
    loadable or not — in place and unchanged**, whatever else in the store cannot be loaded -/
theorem lordinary_step_preserves_system (σ : Strat N) (s : St K N T) (x : K) (lop : LOp K N T)
    (ho : lordinaryFor x lop = true) (hok : (lstep σ s lop).err = none) (e : Ent K N T)
    (hg : s.ents.get x = some e) (hp : e.protectedBy s.reg = true) :
    ∃ e', (lstep σ s lop).st.ents.get x = some e' ∧ SameButLinks e e' := by
  cases lop with
  | rawName id n =>
    simp only [lordinaryFor, decide_eq_true_eq] at ho
    cases hgi : s.ents.get id with
    | none => simp only [lstep, hgi] at hok; cases hok
    | some e0 =>
      simp only [lstep, hgi]
      exact ⟨e, by rw [putEnt_ents, Map.get_put, if_neg ho]; exact hg, rfl⟩
  | base op =>
    obtain ⟨h1, h2⟩ := lstep_ok σ s op hok
    rw [h2]; exact ordinary_step_preserves_system s op ho h1 x e hg hp

end

end StorageModel.Properties.C16

#print axioms StorageModel.Properties.C16.every_setter_is_a_gated_write
#print axioms StorageModel.Properties.C16.errored_bucket_never_written
#print axioms StorageModel.Properties.C16.refused_update_any_strategy
#print axioms StorageModel.Properties.C16.update_runs_strategy
#print axioms StorageModel.Properties.C16.allowed_update_writes
#print axioms StorageModel.Properties.C16.system_needs_system_ctx
#print axioms StorageModel.Properties.C16.system_needs_system_ctx_parent_registration
#print axioms StorageModel.Properties.C16.system_needs_system_ctx_child_registration
#print axioms StorageModel.Properties.C16.system_needs_system_ctx_plain_shape
#print axioms StorageModel.Properties.C16.plain_shape_no_child_data
#print axioms StorageModel.Properties.C16.unchanged_update_refused
#print axioms StorageModel.Properties.C16.unchanged_update_allowed
#print axioms StorageModel.Properties.C16.system_needs_system_ctx_tx
#print axioms StorageModel.Properties.C16.ordinary_step_preserves_system
#print axioms StorageModel.Properties.C16.ordinary_tx_preserves_system
#print axioms StorageModel.Properties.C16.ordinary_history_preserves_system
#print axioms StorageModel.Properties.C16.ordinary_history_preserves_system_child_registration
#print axioms StorageModel.Properties.C16.cascade_never_deletes_system
#print axioms StorageModel.Properties.C16.system_ctx_allowed
#print axioms StorageModel.Properties.C16.flag_immutable
#print axioms StorageModel.Properties.C16.flag_change_needs_system_child_create
#print axioms StorageModel.Properties.C16.update_never_changes_flag
#print axioms StorageModel.Properties.C16.ordinary_unaffected
#print axioms StorageModel.Properties.C16.model_refines_spec
