import StorageModel.C05.Links
/-
  C05 — the sorted-merge loop of `SetLinks`: for every strictly sorted current key list and every
  sorted request (duplicates allowed) the walk computes  toRemove = cur \ req  and
  toAdd ∪ leftover ⊆ req ⊆ toAdd ∪ leftover ∪ cur.
-/
namespace StorageModel.C05

section
variable {K : Type} [KOrd K] [DecidableEq K]
open KOrd

/-- `lo` are the keys the inner loop passes over for this row, `mid` the one it consumes.  That the rest does not hold
    the row when none was consumed is the one place where the order of the request is used. -/
theorem mergeRow_split (row : K) (skip : Option K) (keys toAdd : List K) (hs : WSorted keys)
    (hskip : ∀ c, skip = some c → c ∈ toAdd ∧ lt c row = true) :
    ∃ lo mid, keys = lo ++ mid ++ (mergeRow row skip keys toAdd).1 ∧ (∀ x ∈ lo, lt x row = true) ∧
      (∀ x, x ∈ (mergeRow row skip keys toAdd).2.1 ↔ x ∈ toAdd ∨ x ∈ lo) ∧
      (mid = [row] ∧ (mergeRow row skip keys toAdd).2.2 = false ∨
       mid = [] ∧ (mergeRow row skip keys toAdd).2.2 = true ∧ row ∉ (mergeRow row skip keys toAdd).1) := by
  fun_induction mergeRow row skip keys toAdd with
  | case1 skip toAdd => exact ⟨[], [], rfl, by simp, by simp, Or.inr ⟨rfl, rfl, by simp⟩⟩
  | case2 k ks toAdd ih =>
    -- a duplicate of the key added last: `toAdd` holds it already
    obtain ⟨hk, hlt⟩ := hskip k rfl
    obtain ⟨lo, mid, e, hlo, ha, hm⟩ := ih (List.pairwise_cons.mp hs).2 hskip
    refine ⟨k :: lo, mid, congrArg (k :: ·) e, by simpa [hlt] using hlo, fun x => ?_, hm⟩
    rw [ha, List.mem_cons]
    exact ⟨fun h => h.imp_right Or.inr, fun h => h.elim Or.inl fun h => h.elim (fun e => Or.inl (e ▸ hk)) Or.inr⟩
  | case3 skip k ks toAdd hsk hlt ih =>
    obtain ⟨lo, mid, e, hlo, ha, hm⟩ := ih (List.pairwise_cons.mp hs).2 (by intro c hc; cases hc; exact ⟨by simp, hlt⟩)
    refine ⟨k :: lo, mid, congrArg (k :: ·) e, by simpa [hlt] using hlo, fun x => ?_, hm⟩
    rw [ha, List.mem_append, List.mem_singleton, List.mem_cons, or_assoc]
  | case4 skip k ks toAdd hsk hlt hgt =>
    refine ⟨[], [], rfl, by simp, by simp, Or.inr ⟨rfl, rfl, fun hm => ?_⟩⟩
    -- every key left is at least `k`, which is above the row
    rcases List.mem_cons.mp hm with rfl | hm
    · rw [irrefl] at hgt; cases hgt
    · rw [(List.pairwise_cons.mp hs).1 row hm] at hgt; cases hgt
  | case5 skip k ks toAdd hsk hlt hgt =>
    obtain rfl : k = row := eq_of_not_lt (by simpa using hlt) (by simpa using hgt)
    exact ⟨[], [k], rfl, by simp, by simp, Or.inl ⟨rfl, rfl⟩⟩

theorem mergeWalk_spec (rows keys toAdd toRemove : List K) (hr : SSorted rows) (hk : WSorted keys) :
    let r := mergeWalk rows keys toAdd toRemove
    r.2.2 = toRemove ++ rows.filter (· ∉ keys) ∧
    (∀ x, x ∈ r.2.1 → x ∈ toAdd ∨ x ∈ keys) ∧
    (∀ x, x ∈ toAdd → x ∈ r.2.1) ∧
    (∀ x, x ∈ r.1 → x ∈ keys) ∧
    (∀ x, x ∈ keys → x ∈ r.2.1 ∨ x ∈ r.1 ∨ x ∈ rows) := by
  induction rows generalizing keys toAdd toRemove with
  | nil =>
    simp only [mergeWalk]
    exact ⟨by simp, fun _ h => Or.inl h, fun _ h => h, fun _ h => h, fun _ h => Or.inr (Or.inl h)⟩
  | cons row rows ih =>
    obtain ⟨hrow, hrows⟩ := List.pairwise_cons.mp hr
    obtain ⟨lo, mid, e, hlo, ha, hm⟩ := mergeRow_split row none keys toAdd hk (by intro c hc; cases hc)
    unfold mergeWalk
    simp only
    generalize mergeRow row none keys toAdd = m at e ha hm ⊢
    subst e
    obtain ⟨A, B, C, D, E⟩ := ih m.1 m.2.1 (if m.2.2 then toRemove ++ [row] else toRemove) hrows
      (hk.sublist (List.sublist_append_right _ _))
    have hmid : ∀ x ∈ mid, x = row := by
      rcases hm with ⟨rfl, _⟩ | ⟨rfl, _⟩ <;> simp
    -- the keys passed over or consumed for this row are not above it, the later rows are
    have hlater : ∀ x ∈ rows, (x ∈ lo ++ mid ++ m.1 ↔ x ∈ m.1) := by
      intro x hx
      have hgt := hrow x hx
      simp only [List.mem_append, or_iff_right_iff_imp]
      rintro (h | h)
      · rw [asymm (hlo x h)] at hgt; cases hgt
      · rw [hmid x h, irrefl] at hgt; cases hgt
    have hflag : decide (row ∉ lo ++ mid ++ m.1) = m.2.2 := by
      have hnlo : row ∉ lo := fun hl => Bool.false_ne_true ((irrefl row).symm.trans (hlo row hl))
      rcases hm with ⟨rfl, h⟩ | ⟨rfl, h, hn⟩
      · simp [h]
      · simp [h, hnlo, hn]
    refine ⟨?_, fun x hx => ?_, fun x hx => C x ((ha x).mpr (Or.inl hx)),
      fun x hx => List.mem_append_right _ (D x hx), fun x hx => ?_⟩
    · have hfil : rows.filter (· ∉ lo ++ mid ++ m.1) = rows.filter (· ∉ m.1) :=
        List.filter_congr fun x hx => by simp only [hlater x hx]
      rw [A, List.filter_cons, hfil, hflag]
      cases m.2.2 <;> simp
    · rcases B x hx with h | h
      · exact ((ha x).mp h).imp_right fun h => List.mem_append_left _ (List.mem_append_left _ h)
      · exact Or.inr (List.mem_append_right _ h)
    · rcases List.mem_append.mp hx with h | h
      · rcases List.mem_append.mp h with h | h
        · exact Or.inl (C x ((ha x).mpr (Or.inr h)))
        · exact Or.inr (Or.inr (hmid x h ▸ List.mem_cons_self))
      · exact (E x h).imp_right (Or.imp_right (List.mem_cons_of_mem _))

theorem mergeWalk_sets (cur req : List K) (hc : SSorted cur) :
    let r := mergeWalk cur (sortK req) [] []
    (∀ x, x ∈ r.2.2 ↔ (x ∈ cur ∧ x ∉ req)) ∧
    (∀ x, x ∈ r.2.1 ++ r.1 → x ∈ req) ∧
    (∀ x, x ∈ req → x ∈ r.2.1 ++ r.1 ∨ x ∈ cur) := by
  obtain ⟨A, B, _, D, E⟩ := mergeWalk_spec cur (sortK req) [] [] hc (wsorted_sortK req)
  refine ⟨?_, ?_, ?_⟩
  · intro x; rw [A]; simp [mem_sortK]
  · intro x hx
    rcases List.mem_append.mp hx with h | h
    · rcases B x h with h | h
      · cases h
      · exact mem_sortK.mp h
    · exact mem_sortK.mp (D x h)
  · intro x hx
    rcases E x (mem_sortK.mpr hx) with h | h | h
    · exact Or.inl (List.mem_append_left _ h)
    · exact Or.inl (List.mem_append_right _ h)
    · exact Or.inr h
end
end StorageModel.C05
