import StorageModel.C05.Order
/-
  C05 — LEGACY model of the tree before fix b23d525 (kept to state why it violated the property;
  the model of the code that exists now is C05/SelfW.lean).

  The self-referential wiring: ONE store whose set symbol `peers` is linked with itself
  (`store.AddLinkCollection(peers, peers)`), so that an entity can be linked to itself.

  In this wiring `linkCollectionImpl.EntityDeleted` iterates the entity's own `peers` bucket with
  a bbolt cursor while `otherField.RemoveLink(key, id)` deletes from that SAME bucket when
  `key = id`.  A bbolt cursor that is positioned on an in-memory node (the bucket was created or
  written earlier in the same transaction) then skips the key that follows; a cursor positioned
  on a page (bucket untouched so far in this transaction) does not.  The model therefore tracks,
  per transaction, which `peers` buckets are materialised (`dirty`), and whether a `peers` bucket
  exists at all (`links : Option …`, because creating it materialises it).

  `ideal = true` switches the hazard off: that is the specification and the repaired code (delete
  removes the entity from every link set), `ideal = false` is the model of the old walk, which the
  correspondence harness matched on 56 000 random histories before the repair.
-/
set_option linter.unusedSectionVars false
namespace StorageModel.C05.Self

abbrev Map (κ ν : Type) := List (κ × ν)

section
variable {K : Type} [KOrd K] [DecidableEq K]

def mget (m : Map K (Option (List K))) (k : K) : Option (Option (List K)) :=
  match m with
  | [] => none
  | (k', v) :: m => if k' = k then some v else mget m k

def mdel (m : Map K (Option (List K))) (k : K) : Map K (Option (List K)) := m.filter (fun p => p.1 ≠ k)
def mput (m : Map K (Option (List K))) (k : K) (v : Option (List K)) : Map K (Option (List K)) := (k, v) :: mdel m k

/-- entity ↦ its `peers` bucket (`none` = the field bucket does not exist yet); `dirty` = ids whose
    `peers` bucket has been created or written in the current transaction -/
structure St (K : Type) where
  ents : Map K (Option (List K)) := []
  dirty : List K := []

inductive Err | missing | notFound | exists | blank
  deriving DecidableEq, Repr

def linksOf (s : St K) (id : K) : List K :=
  match mget s.ents id with
  | some (some l) => l
  | _ => []

def markDirty (s : St K) (id : K) : St K := if s.dirty.contains id then s else { s with dirty := id :: s.dirty }

/-- `GetOrCreatePath(field)`: creating the bucket materialises it -/
def touch (s : St K) (id : K) : St K :=
  match mget s.ents id with
  | some none => markDirty { s with ents := mput s.ents id (some []) } id
  | _ => s

/-- `bucket.Put(key)`: always materialises the node -/
def putKey (s : St K) (id k : K) : St K :=
  markDirty { s with ents := mput s.ents id (some (insertS k (linksOf s id))) } id

/-- `bucket.Delete(key)`: materialises the node only when the key is there -/
def delKey (s : St K) (id k : K) : St K :=
  if (linksOf s id).contains k then
    markDirty { s with ents := mput s.ents id (some (eraseS k (linksOf s id))) } id
  else s

/-- `LinkedSetSymbol.AddLink(id, link)` -/
def symAddLink (s : St K) (id l : K) : St K × Option Err :=
  match mget s.ents id with
  | none => (s, some .notFound)
  | some _ => (putKey (touch s id) id l, none)

/-- `LinkedSetSymbol.RemoveLink(id, link)`: `GetPath`, nothing is created -/
def symRemoveLink (s : St K) (id l : K) : St K :=
  match mget s.ents id with
  | some (some _) => delKey s id l
  | _ => s

def link (s : St K) (id k : K) : St K × Option Err := symAddLink (putKey s id k) k id
def unlink (s : St K) (id k : K) : St K := symRemoveLink (delKey s id k) k id

def linkAll (id : K) : List K → St K → St K × Option Err
  | [], s => (s, none)
  | k :: ks, s =>
    match link s id k with
    | (s', some e) => (s', some e)
    | (s', none) => linkAll id ks s'

def unlinkAll (id : K) : List K → St K → St K
  | [], s => s
  | k :: ks, s => unlinkAll id ks (unlink s id k)

def addLinks (s : St K) (id : K) (keys : List K) : St K × Option Err :=
  match mget s.ents id with
  | none => (s, some .missing)
  | some _ => linkAll id keys (touch s id)

def removeLinks (s : St K) (id : K) (keys : List K) : St K × Option Err :=
  match mget s.ents id with
  | none => (s, some .missing)
  | some _ => (unlinkAll id keys (touch s id), none)

def addLink (s : St K) (id k : K) : St K × Bool × Option Err :=
  match mget s.ents id with
  | none => (s, false, some .missing)
  | some _ =>
    let s0 := touch s id
    let present := (linksOf s0 id).contains k
    -- CheckAndSetListEntry puts only when the key is absent
    let s1 := if present then s0 else putKey s0 id k
    let r := symAddLink s1 k id
    (r.1, !present, r.2)

def removeLink (s : St K) (id k : K) : St K × Bool × Option Err :=
  match mget s.ents id with
  | none => (s, false, some .missing)
  | some _ =>
    let s0 := touch s id
    let present := (linksOf s0 id).contains k
    (symRemoveLink (delKey s0 id k) k id, present, none)

/-- the merge of `SetLinks` (same loop as in C05/Model.lean) -/
def mergeRow (row : K) : Option K → List K → List K → List K × List K × Bool
  | _, [], toAdd => ([], toAdd, true)
  | skip, k :: ks, toAdd =>
    if skip = some k then mergeRow row skip ks toAdd
    else if KOrd.lt k row then mergeRow row (some k) ks (toAdd ++ [k])
    else if KOrd.lt row k then (k :: ks, toAdd, true)
    else (ks, toAdd, false)

def mergeWalk : List K → List K → List K → List K → List K × List K × List K
  | [], keys, toAdd, toRemove => (keys, toAdd, toRemove)
  | row :: rows, keys, toAdd, toRemove =>
    let r := mergeRow row none keys toAdd
    mergeWalk rows r.1 r.2.1 (if r.2.2 then toRemove ++ [row] else toRemove)

def setLinks (s : St K) (id : K) (keys : List K) : St K × Option Err :=
  match mget s.ents id with
  | none => (s, some .missing)
  | some _ =>
    let s0 := touch s id
    let w := mergeWalk (linksOf s0 id) (sortK keys) [] []
    linkAll id (w.2.1 ++ w.1) (unlinkAll id w.2.2 s0)

/-- the cursor walk of `EntityDeleted` over the keys that were in the bucket when it started.
    `nodeBased`: the cursor sits on an in-memory node, so deleting the current key from this very
    bucket makes `Next` skip the following key (`skipNext`). -/
def deletedWalk (ideal nodeBased : Bool) (id : K) : Bool → List K → St K → St K
  | _, [], s => s
  | true, _ :: ks, s => deletedWalk ideal nodeBased id false ks s
  | false, k :: ks, s =>
    deletedWalk ideal nodeBased id (decide (k = id) && nodeBased && !ideal) ks (symRemoveLink s k id)

/-- `DeleteById` → `cleanupLinks` → `EntityDeleted` → entity bucket deleted -/
def deleteEntity (ideal : Bool) (s : St K) (id : K) : St K × Option Err :=
  match mget s.ents id with
  | none => (s, some .notFound)
  | some _ =>
    let s0 := touch s id
    let nodeBased := s0.dirty.contains id
    let s1 := deletedWalk ideal nodeBased id false (linksOf s0 id) s0
    ({ ents := mdel s1.ents id, dirty := s1.dirty.filter (· ≠ id) }, none)

def createEntity (s : St K) (id : K) (blank : Bool) (links : Option (List K)) : St K × Option Err :=
  if blank then (s, some .blank)
  else match mget s.ents id with
  | some _ => (s, some .exists)
  | none =>
    let s1 := { s with ents := mput s.ents id none }
    match links with
    | none => (s1, none)
    | some ks => setLinks s1 id ks

inductive Op (K : Type)
  | create (id : K) (blank : Bool) (links : Option (List K))
  | delete (id : K)
  | addLinks (id : K) (keys : List K)
  | removeLinks (id : K) (keys : List K)
  | setLinks (id : K) (keys : List K)
  | addLink (id k : K)
  | removeLink (id k : K)
  | getLinks (id : K)

inductive Ret (K : Type)
  | unit
  | bool (b : Bool)
  | keys (l : List K)

structure Out (K : Type) where
  st : St K
  ret : Ret K := .unit
  err : Option Err := none

def step (ideal : Bool) (s : St K) : Op K → Out K
  | .create id blank links => let r := createEntity s id blank links; { st := r.1, err := r.2 }
  | .delete id => let r := deleteEntity ideal s id; { st := r.1, err := r.2 }
  | .addLinks id keys => let r := addLinks s id keys; { st := r.1, err := r.2 }
  | .removeLinks id keys => let r := removeLinks s id keys; { st := r.1, err := r.2 }
  | .setLinks id keys => let r := setLinks s id keys; { st := r.1, err := r.2 }
  | .addLink id k => let r := addLink s id k; { st := r.1, ret := .bool r.2.1, err := r.2.2 }
  | .removeLink id k => let r := removeLink s id k; { st := r.1, ret := .bool r.2.1, err := r.2.2 }
  | .getLinks id =>
    match mget s.ents id with
    | none => { st := s, ret := .keys [] }
    | some _ => let s0 := touch s id; { st := s0, ret := .keys (linksOf s0 id) }

def runOps (ideal : Bool) : St K → List (Op K) → St K × Bool
  | s, [] => (s, false)
  | s, op :: ops =>
    let o := step ideal s op
    match o.err with
    | some _ => (o.st, true)
    | none => runOps ideal o.st ops

/-- `Db.Update`: commit iff the body returned nil; either way the next transaction starts with
    nothing materialised -/
def commitTx (ideal : Bool) (s : St K) (ops : List (Op K)) : St K :=
  let r := runOps ideal { s with dirty := [] } ops
  if r.2 then { s with dirty := [] } else { r.1 with dirty := [] }

def runHist (ideal : Bool) (s : St K) (txs : List (List (Op K))) : St K := txs.foldl (commitTx ideal) s

end

/-! ### the witness: the walk before fix b23d525 violates the property in this wiring

  one transaction: create a, b, c; `AddLinks(a, a, b, c)`; `DeleteById(a)`.  The bucket `a.peers` was
  written in this transaction, the walk removes `a` from `a.peers` while standing on it, skips `b`,
  and `b` keeps its link to the deleted `a`. -/

def witness : List (List (Op Nat)) :=
  [[.create 1 false none, .create 2 false none, .create 3 false none, .addLinks 1 [1, 2, 3], .delete 1]]

/-- the model of the old walk (`ideal = false`): entity 2 still lists the deleted entity 1 -/
example : linksOf (runHist false {} witness) 2 = [1] ∧ mget (runHist false {} witness).ents 1 = none := by decide
/-- entity 3 was cleaned: the asymmetry is the skipped key only -/
example : linksOf (runHist false {} witness) 3 = [] := by decide
/-- the specification and the repaired code (`ideal = true`): nobody lists the deleted entity -/
example : linksOf (runHist true {} witness) 2 = [] ∧ linksOf (runHist true {} witness) 3 = [] := by decide

end StorageModel.C05.Self
