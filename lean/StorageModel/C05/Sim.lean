import StorageModel.C05.Refine
/-
  C05 — simulation: one successful model operation = one spec operation with the same return value,
  a failing model operation = a failing spec operation; lifted to transactions and histories.
-/
namespace StorageModel.C05
open Spec

section
variable {K : Type} [KOrd K] [DecidableEq K]

/-- the simulation obligation for one `op`: both fail, or both return the same value and end related within the bound `w` -/
def SimStep (s : St K) (ss : SSt K) (op : Op K) (w : Int) : Prop :=
  match (step s op).err with
  | none => ∃ ss', sstep ss op = some (ss', (step s op).ret) ∧ Rel (step s op).st ss' w
  | some _ => sstep ss op = none

theorem mem_setLinks {s : St K} (hinv : LInv s) {sd : Side} {id : K} {req : List K}
    (hid : exists? s (sd, id) = true) (hall : ∀ k ∈ req, exists? s (sd.other, k) = true) (sd' : Side) (x y : K) :
    y ∈ linksOf (setLinks s sd id req).1 (sd', x) ↔
      if sd' = sd then (if x = id then y ∈ req else y ∈ linksOf s (sd', x))
      else (if y = id then x ∈ req else y ∈ linksOf s (sd', x)) := by
  obtain ⟨hok, hrow, hframe⟩ := setLinks_ok hinv.sorted hid hall
  have hsym := setLinks_sym hinv.sym hok
  have hsd : ∀ x y, y ∈ linksOf (setLinks s sd id req).1 (sd, x) ↔
      if x = id then y ∈ req else y ∈ linksOf s (sd, x) := by
    intro x y
    by_cases hx : x = id
    · rw [if_pos hx, hx, hrow, mem_dedup_sort]
    · rw [if_neg hx]; exact hframe x hx y
  by_cases hsd' : sd' = sd
  · rw [if_pos hsd', hsd']; exact hsd x y
  · have hso := Side.eq_other_of_ne hsd'
    -- the other side: through symmetry, before and after
    rw [if_neg hsd', hso, ← hsym sd y x, hsd y x, hinv.sym sd y x]

/-- `mem_setLinks` in the terms of `Spec.setRow` (`mentions`, `pair`) -/
theorem rel_setLinks {s : St K} (hinv : LInv s) {sd : Side} {id : K} {req : List K}
    (hid : exists? s (sd, id) = true) (hall : ∀ k ∈ req, exists? s (sd.other, k) = true) (sd' : Side) (a b : K) :
    b ∈ linksOf (setLinks s sd id req).1 (sd', a) ↔
      (b ∈ linksOf s (sd', a) ∧ mentions sd id (pair sd' a b) = false) ∨ ∃ k ∈ req, pair sd' a b = pair sd id k := by
  rw [mem_setLinks hinv hid hall, exists_pair_eq_iff, mentions_pair]
  by_cases hsd : sd' = sd
  · subst hsd; by_cases ha : a = id <;> simp [ha]
  · obtain rfl := Side.eq_other_of_ne hsd
    by_cases hb : b = id <;> simp [hb]

theorem sim_setLinks {s : St K} {ss : SSt K} {w : Int} (hr : Rel s ss w) (sd : Side) (id : K) (req : List K) :
    SimStep s ss (.setLinks sd id req) w := by
  simp only [SimStep, step]
  cases hid : exists? s (sd, id) with
  | false =>
    rw [setLinks_missing_local req hid]
    simp [sstep, setRow, ← hr.ents, hid]
  | true =>
    cases hall : (req.all fun k => has ss (sd.other, k)) with
    | false =>
      rw [setLinks_missing hr.sym hr.sorted hid (not_all_exist hr sd req hall)]
      simp [sstep, setRow, hall]
    | true =>
      have hall' := (all_exist_iff hr sd req).mp hall
      rw [(setLinks_ok hr.sorted hid hall').1]
      simp only [sstep, setRow, (hr.ents _).symm.trans hid, hall, Bool.and_self, if_true, Option.map_some]
      obtain ⟨fa, fb, fc⟩ := foldl_addPair sd id req { ss with rel := ss.rel.filter (fun p => !mentions sd id p) }
      refine ⟨_, rfl, hr.link (setLinks_frame s sd id req) fb fc fun sd' a b => ?_⟩
      rw [rel_setLinks hr.lInv hid hall', fa, List.mem_filter, ← hr.rel, Bool.not_eq_true']

theorem rel_create {s : St K} {ss : SSt K} {w : Int} (hr : Rel s ss w) {r : Ref K} (h : exists? s r = false) :
    Rel (s.put r {}) { ss with ents := r :: ss.ents } w := by
  obtain ⟨f1, f2⟩ := create_fresh h
  refine ⟨?_, ?_, ?_, ?_, hr.pos, hr.nonneg⟩
  · intro r'; rw [exists_put, has_cons]
    by_cases hh : r = r' <;> simp [hh, hr.ents]
  · intro sd a b; rw [f1]; exact hr.rel sd a b
  · intro sd a b; rw [f2]; exact hr.cnt sd a b
  · intro r'; rw [f1]; exact hr.sorted r'

theorem sim_create {s : St K} {ss : SSt K} {w : Int} (hr : Rel s ss w) (sd : Side) (id : K)
    (blank : Bool) (links : Option (List K)) :
    SimStep s ss (.create sd id blank links) w := by
  simp only [SimStep, step]
  cases blank with
  | true => rw [createEntity_blank]; simp [sstep]
  | false =>
    cases hex : exists? s (sd, id) with
    | true => rw [createEntity_exists hex]; simp [sstep, ← hr.ents, hex]
    | false =>
      rw [createEntity_new hex]
      cases links with
      | none =>
        simp only [sstep, ← hr.ents, hex]
        exact ⟨_, by simp, rel_create hr hex⟩
      | some ks =>
        simp only [sstep, ← hr.ents, hex]
        exact sim_setLinks (rel_create hr hex) sd id ks

theorem sim_update {s : St K} {ss : SSt K} {w : Int} (hr : Rel s ss w) (sd : Side) (id : K)
    (links : List K) (p : Bool) :
    SimStep s ss (.update sd id links p) w := by
  simp only [SimStep, step]
  cases hex : exists? s (sd, id) with
  | false => rw [updateEntity_missing hex]; simp [sstep, ← hr.ents, hex]
  | true =>
    rw [updateEntity_found hex]
    cases p with
    | false => simp only [sstep, ← hr.ents, hex]; exact ⟨ss, by simp, hr⟩
    | true =>
      simp only [if_true, sstep, ← hr.ents, hex]
      exact sim_setLinks hr sd id links

theorem sim_delete {s : St K} {ss : SSt K} {w : Int} (hr : Rel s ss w) (sd : Side) (id : K) :
    SimStep s ss (.delete sd id) w := by
  simp only [SimStep, step]
  cases hex : exists? s (sd, id) with
  | false => rw [deleteEntity_missing hex]; simp [sstep, ← hr.ents, hex]
  | true =>
    rw [show (deleteEntity s sd id).2 = none by rw [deleteEntity_found hex]]
    simp only [sstep, ← hr.ents, hex, Bool.not_true, Bool.false_eq_true, if_false]
    refine ⟨_, rfl, fun r => ?_, fun sd' a b => ?_, fun sd' a b => ?_, deleteEntity_allSorted hr.sorted, fun p c hp => ?_,
      hr.nonneg⟩
    · rw [exists_deleteEntity hex, has_filter]
      by_cases hh : (sd, id) = r <;> simp [hh, hr.ents]
    · rw [mem_deleteEntity hr.sym hex, List.mem_filter, ← hr.rel, mentions_pair]
      simp only [Bool.not_eq_true', decide_eq_false_iff_not, not_or, ne_eq]
    · rw [rcOf_deleteEntity hr.rcInv hex, Map.get_filter_key ss.cnt (fun k => !mentions sd id k), mentions_pair, ← hr.cnt]
      simp only [Bool.not_eq_true', decide_eq_false_iff_not, ite_not]
    · simp only at hp
      rw [Map.get_filter_key ss.cnt (fun k => !mentions sd id k)] at hp
      split at hp
      · exact hr.pos p c hp
      · cases hp

theorem sim_addLinks {s : St K} {ss : SSt K} {w : Int} (hr : Rel s ss w) (sd : Side) (id : K) (keys : List K) :
    SimStep s ss (.addLinks sd id keys) w := by
  simp only [SimStep, step]
  cases hex : exists? s (sd, id) with
  | false => rw [addLinks_missing_local keys hex]; simp [sstep, ← hr.ents, hex]
  | true =>
    rw [addLinks_unfold keys hex]
    cases hall : (keys.all fun k => has ss (sd.other, k)) with
    | false =>
      rw [linkAll_missing sd id keys s (not_all_exist hr sd keys hall)]
      simp [sstep, hall]
    | true =>
      obtain ⟨hok, hmem⟩ := linkAll_ok sd id keys hex ((all_exist_iff hr sd keys).mp hall)
      rw [hok]
      simp only [sstep, (hr.ents _).symm.trans hex, hall, Bool.and_self, if_true]
      obtain ⟨fa, fb, fc⟩ := foldl_addPair sd id keys ss
      refine ⟨_, rfl, hr.link (linkAll_frame sd id keys s) fb fc fun sd' a b => ?_⟩
      rw [hmem, fa, ← hr.rel]; simp only [pair_eq_pair]

theorem sim_removeLinks {s : St K} {ss : SSt K} {w : Int} (hr : Rel s ss w) (sd : Side) (id : K) (keys : List K) :
    SimStep s ss (.removeLinks sd id keys) w := by
  simp only [SimStep, step]
  cases hex : exists? s (sd, id) with
  | false => rw [removeLinks_missing_local keys hex]; simp [sstep, ← hr.ents, hex]
  | true =>
    rw [removeLinks_unfold keys hex]
    simp only [sstep, ← hr.ents, hex, if_true]
    obtain ⟨fa, fb, fc⟩ := foldl_delPair sd id keys ss
    refine ⟨_, rfl, hr.link (unlinkAll_frame sd id keys s) fb fc fun sd' a b => ?_⟩
    rw [mem_unlinkAll, fa, ← hr.rel]; simp only [pair_eq_pair]

theorem sim_addLink {s : St K} {ss : SSt K} {w : Int} (hr : Rel s ss w) (sd : Side) (id k : K) :
    SimStep s ss (.addLink sd id k) w := by
  simp only [SimStep, step]
  cases hex : exists? s (sd, id) with
  | false => rw [addLink_missing_local k hex]; simp [sstep, ← hr.ents, hex]
  | true =>
    rw [addLink_unfold k hex, link_err]
    cases hk : exists? s (sd.other, k) with
    | false => simp [sstep, ← hr.ents, hk]
    | true =>
      simp only [sstep, ← hr.ents, hex, hk, Bool.and_self, if_true, linked_iff hr]
      refine ⟨_, rfl, hr.link (link_frame s sd id k) (addPair_ents _ _) (addPair_cnt _ _) fun sd' a b => ?_⟩
      rw [mem_link hk hex, mem_addPair, ← hr.rel, pair_eq_pair]

theorem sim_removeLink {s : St K} {ss : SSt K} {w : Int} (hr : Rel s ss w) (sd : Side) (id k : K) :
    SimStep s ss (.removeLink sd id k) w := by
  simp only [SimStep, step]
  cases hex : exists? s (sd, id) with
  | false => rw [removeLink_missing_local k hex]; simp [sstep, ← hr.ents, hex]
  | true =>
    rw [removeLink_unfold k hex]
    simp only [sstep, ← hr.ents, hex, if_true, linked_iff hr]
    refine ⟨_, rfl, hr.link (unlink_frame s sd id k) rfl rfl fun sd' a b => ?_⟩
    rw [mem_unlink, ← pair_eq_pair]
    simp only [delPair, List.mem_filter, decide_eq_true_eq, ← hr.rel, ne_eq]

theorem sim_incr {s : St K} {ss : SSt K} {w : Int} (hr : Rel s ss w) (hw : w + 1 < 2147483648) (sd : Side) (id k : K) :
    SimStep s ss (.incr sd id k) (w + 1) := by
  simp only [SimStep, step]
  cases hex : exists? s (sd, id) with
  | false => rw [rcIncr_missing_local hex]; simp [sstep, ← hr.ents, hex]
  | true =>
    cases hk : exists? s (sd.other, k) with
    | false => rw [rcIncr_missing_other hex hk]; simp [sstep, ← hr.ents, hk]
    | true =>
      obtain ⟨n, h1, hn, h2⟩ := rcIncr_ok hr.rcInv hw hex hk
      rw [h1]
      have hs : sstep ss (.incr sd id k) = some ({ ss with cnt := ss.cnt.put (pair sd id k) n }, .int n) := by
        simp only [sstep, ← hr.ents, hex, hk, Bool.and_self, if_true, count_eq hr sd id k]
        cases hc : rcOf s (sd, id) k <;> (rw [hc] at hn; subst hn; simp)
      refine ⟨_, hs, hr.write (sameLinks_rcIncr s sd id k) h2 (by omega) ?_ (fun q => Map.get_put _ _ q n)⟩
      intro c hc; cases hc
      cases hc : rcOf s (sd, id) k with
      | none => rw [hc] at hn; simp only at hn; have := hr.nonneg; omega
      | some c0 => rw [hc] at hn; simp only at hn; have := hr.rcInv.2 _ _ _ hc; omega

theorem sim_decr {s : St K} {ss : SSt K} {w : Int} (hr : Rel s ss w) (hw : w < 2147483648)
    (sd : Side) (id k : K) :
    SimStep s ss (.decr sd id k) w := by
  simp only [SimStep, step]
  cases hex : exists? s (sd, id) with
  | false => rw [rcDecr_missing_local hex]; simp [sstep, ← hr.ents, hex]
  | true =>
    obtain ⟨h1, h2⟩ := rcDecr_ok (k := k) hr.rcInv hw hex
    rw [h1]
    have hcount := count_eq hr sd id k
    have hrel := fun cnt' => hr.write (cnt' := cnt') (sameLinks_rcDecr s sd id k) h2 (Int.le_refl w)
    simp only [sstep, ← hr.ents, hex, if_true, hcount]
    cases hc : rcOf s (sd, id) k with
    | none =>
      rw [hc] at hrel
      refine ⟨_, rfl, hrel ss.cnt (fun c h => by cases h) fun q => ?_⟩
      split
      · next e => rw [← e]; exact hcount.trans hc
      · rfl
    | some c =>
      rw [hc] at hrel
      have hcw := hr.rcInv.2 _ _ _ hc
      by_cases hpos : c - 1 > 0
      · simp only [hpos, if_true, decrValue] at hrel ⊢
        exact ⟨_, rfl, hrel _ (fun c' h => by cases h; omega) fun q => Map.get_put _ _ q _⟩
      · simp only [hpos, if_false, decrValue] at hrel ⊢
        exact ⟨_, rfl, hrel _ (fun c' h => by cases h) fun q => Map.get_del _ _ q⟩

theorem sim_setCount {s : St K} {ss : SSt K} {w : Int} (hr : Rel s ss w) (c : Int) (hc0 : 0 ≤ c)
    (hc : w + c < 2147483648) (sd : Side) (id k : K) :
    SimStep s ss (.setCount sd id k c) (w + c) := by
  have hw0 := hr.nonneg
  simp only [SimStep, step]
  cases hex : exists? s (sd, id) with
  | false => rw [rcSet_missing_local c hex]; simp [sstep, ← hr.ents, hex]
  | true =>
    cases hk : exists? s (sd.other, k) with
    | false => rw [rcSet_missing_other c hex hk]; simp [sstep, ← hr.ents, hk]
    | true =>
      obtain ⟨h1, h2⟩ := rcSet_ok c hc0 (by omega) hex hk
      rw [h1, ← hr.rcInv.1 sd id k]
      have hrel := fun cnt' => hr.write (cnt' := cnt') (w' := w + c) (sameLinks_rcSet s sd id k c) h2 (by omega)
      simp only [sstep, ← hr.ents, hex, hk, Bool.and_self, if_true, count_eq hr sd id k]
      by_cases hz : c = 0
      · simp only [hz, if_true] at hrel ⊢
        exact ⟨_, rfl, hrel _ (fun c' h => by cases h) fun q => Map.get_del _ _ q⟩
      · simp only [hz, if_false] at hrel ⊢
        exact ⟨_, rfl, hrel _ (fun c' h => by cases h; omega) fun q => Map.get_put _ _ q _⟩

theorem step_sim {s : St K} {ss : SSt K} {w : Int} (hr : Rel s ss w) (op : Op K) (hv : OpVocab op)
    (hw : w + weight op < 2147483648) : SimStep s ss op (w + weight op) := by
  cases op with
  | create sd id blank links => simpa only [weight, Int.add_zero] using sim_create hr sd id blank links
  | update sd id links p => simpa only [weight, Int.add_zero] using sim_update hr sd id links p
  | delete sd id => simpa only [weight, Int.add_zero] using sim_delete hr sd id
  | addLinks sd id keys => simpa only [weight, Int.add_zero] using sim_addLinks hr sd id keys
  | removeLinks sd id keys => simpa only [weight, Int.add_zero] using sim_removeLinks hr sd id keys
  | setLinks sd id keys => simpa only [weight, Int.add_zero] using sim_setLinks hr sd id keys
  | addLink sd id k => simpa only [weight, Int.add_zero] using sim_addLink hr sd id k
  | removeLink sd id k => simpa only [weight, Int.add_zero] using sim_removeLink hr sd id k
  | incr sd id k => exact sim_incr hr hw sd id k
  | decr sd id k => simp only [weight, Int.add_zero] at hw ⊢; exact sim_decr hr hw sd id k
  | setCount sd id k c => exact sim_setCount hr c hv hw sd id k
  | getLinks sd id =>
    simp only [SimStep, step, sstep, weight, Int.add_zero]
    exact ⟨ss, by rw [partners_eq hr], hr⟩
  | isLinked sd id k =>
    simp only [SimStep, step, sstep, weight, Int.add_zero]
    exact ⟨ss, by rw [linked_iff hr], hr⟩
  | getCounts sd id k =>
    simp only [SimStep, step, sstep, weight, Int.add_zero]
    refine ⟨ss, ?_, hr⟩
    rw [count_eq hr, ← hr.rcInv.1 sd id k]

/-- the spec's reading of a transaction body and of a history -/
def srunOps : SSt K → List (Op K) → SSt K × Bool
  | ss, [] => (ss, false)
  | ss, op :: ops =>
    match sstep ss op with
    | some r => srunOps r.1 ops
    | none => (ss, true)

def scommitTx (ss : SSt K) (ops : List (Op K)) : SSt K :=
  let r := srunOps ss ops
  if r.2 then ss else r.1

def srunHist (ss : SSt K) (txs : List (List (Op K))) : SSt K := txs.foldl scommitTx ss

theorem runOps_sim {s : St K} {ss : SSt K} {w : Int} (hr : Rel s ss w) (ops : List (Op K)) (hv : TxVocab ops)
    (hw : w + txWeight ops < 2147483648) :
    (runOps s ops).2 = (srunOps ss ops).2 ∧
    ((runOps s ops).2 = false → Rel (runOps s ops).1 (srunOps ss ops).1 (w + txWeight ops)) := by
  induction ops generalizing s ss w with
  | nil => exact ⟨rfl, fun _ => by simpa [txWeight, runOps, srunOps] using hr⟩
  | cons op ops ih =>
    have hvo := hv op (by simp)
    have hvr : TxVocab ops := fun o ho => hv o (by simp [ho])
    have hwr := txWeight_nonneg hvr
    have hsplit : txWeight (op :: ops) = weight op + txWeight ops := by simp [txWeight]
    rw [hsplit, ← Int.add_assoc] at hw ⊢
    have hsim := step_sim hr op hvo (by omega)
    unfold SimStep at hsim
    cases he : (step s op).err with
    | some e =>
      rw [he] at hsim; simp only at hsim
      rw [runOps_cons_err he]
      simp [srunOps, hsim]
    | none =>
      rw [he] at hsim; simp only at hsim
      obtain ⟨ss', h1, h2⟩ := hsim
      rw [runOps_cons_ok he]
      simp only [srunOps, h1]
      exact ih h2 hvr hw

theorem commitTx_sim {s : St K} {ss : SSt K} {w : Int} (hr : Rel s ss w) (ops : List (Op K)) (hv : TxVocab ops)
    (hw : w + txWeight ops < 2147483648) :
    Rel (commitTx s ops) (scommitTx ss ops) (w + txWeight ops) := by
  obtain ⟨h1, h2⟩ := runOps_sim hr ops hv hw
  cases hf : (runOps s ops).2 with
  | true =>
    rw [commitTx_failed hf]
    have : (srunOps ss ops).2 = true := by rw [← h1]; exact hf
    simp only [scommitTx, this, if_true]; exact hr.mono (by have := txWeight_nonneg hv; omega)
  | false =>
    rw [commitTx_ok hf]
    have : (srunOps ss ops).2 = false := by rw [← h1]; exact hf
    simp only [scommitTx, this, Bool.false_eq_true, if_false]; exact h2 hf

theorem runHist_sim {s : St K} {ss : SSt K} {w : Int} (hr : Rel s ss w) (txs : List (List (Op K))) (hv : HistVocab txs)
    (hw : w + histWeight txs < 2147483648) :
    Rel (runHist s txs) (srunHist ss txs) (w + histWeight txs) := by
  induction txs generalizing s ss w with
  | nil => simpa [histWeight, runHist, srunHist] using hr
  | cons tx txs ih =>
    have hvt := hv tx (by simp)
    have hvr : HistVocab txs := fun o ho => hv o (by simp [ho])
    have h2 := histWeight_nonneg hvr
    have hsplit : histWeight (tx :: txs) = txWeight tx + histWeight txs := by simp [histWeight]
    rw [hsplit, ← Int.add_assoc] at hw ⊢
    exact ih (commitTx_sim hr tx hvt (by omega)) hvr hw

/-- read off the ONE count map of the specification (`Rel.rcInv`): no invariant about counts is carried through the model -/
theorem runHist_rcInv (txs : List (List (Op K))) (hv : HistVocab txs) (hw : histWeight txs < 2147483648) :
    RcInv (runHist ([] : St K) txs) (histWeight txs) := by
  have := (runHist_sim (rel_nil (K := K)) txs hv (by omega)).rcInv
  rwa [Int.zero_add] at this

end
end StorageModel.C05
