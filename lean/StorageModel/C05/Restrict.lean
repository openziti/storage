import StorageModel.C05.SchemaHist
import StorageModel.C05.SchemaSpec
/-
  C05 — refused operations inside a transaction that carries on, and the entity-level entry to
  SetLinks through a child store.

  The other C05 models treat a failing operation as "its transaction is rolled back".  A caller may
  instead TOLERATE a refused `DeleteById` (skip the entity) and commit.  Whether that is harmless
  depends on what the code has written before it refuses.  store_crud.go / indexes.go:

    DeleteById(id):  child store forwards to the parent;  FindById → not found  (nothing written);
      for every registered child store that finds the entity: processDeleteConstraints =
          indexingContext.ProcessBeforeDelete()   -- Parent context FIRST (the root store's constraints),
                                                   -- then the child store's; a constraint that refuses
                                                   -- sets the error holder
          cleanupLinks(tx, id, errHolder)          -- every EntityDeleted is guarded by !holder.HasError()
      then the same for the store itself; then the entity bucket is deleted.

  So every refusal by a constraint of the ROOT store (a restricting fk: `fkDeleteConstraint` finds
  back-references; the system-entity constraint; a custom Constraint whose ProcessBeforeDelete sets an
  error) happens before the first link write of the whole DeleteById — also when a child store with
  collections holds the entity, because the child store's indexing context runs its parent's
  constraints first and `cleanupLinks` does nothing once the holder has an error.  This file models the
  restricting fk: one (nullable) fk index from one root store to the other
  (`AddNullableFkIndex(ref, refd)`: `fkIndex` on the referring store, `fkDeleteConstraint` on the
  referred one).  With ONE direction a store never carries both an `fkIndex` and an
  `fkDeleteConstraint`, so the refusal is also preceded by no fk-index write.  (Not in the family: fk
  in both directions / a store referring to itself — there `fkIndex.ProcessBeforeDelete` of the same
  store removes the entity's own back-reference before `fkDeleteConstraint` refuses; that is fk-index
  state, C04's subject, not link state.  Two child stores of one root: the second one's own constraint
  could refuse after the first one's cleanupLinks.)

  Operations that DO leave partial link writes when they fail stay "must roll back": AddLinks /
  SetLinks / Create-with-links naming a missing entity (local entry first, then the other side
  fails — Model.lean has that write order), and Create with an fk value naming a missing entity
  (PersistEntity has written links and the field, then `fkIndex.ProcessAfterUpdate` fails).

  `createP` — Create through a CHILD store whose entity strategy persists the
  parent's fields on `ctx.GetParentContext()` (IsCreate inherited), i.e. `SetLinkedIds` → `SetLinks` on
  a collection of the ROOT store for an entity that may already exist there and already have links.
-/
namespace StorageModel.C05.Restrict
open StorageModel.C05 StorageModel.C05.Schema

/-- a schema of C05/Schema.lean plus the restricting fk: `some s` = root store `s` declares the fk
    field `ref` (nullable fk index) to the other root store -/
structure RSchema where
  sc : Schema
  fk : Option Side := none

inductive RErr
  | base (e : Err)
  | referenced   -- NewReferenceByIdError from fkDeleteConstraint.ProcessBeforeDelete
  | fkMissing    -- fkIndex.getIndexBucket: the referred entity does not exist
  deriving DecidableEq, Repr

section
variable {K : Type} [KOrd K] [DecidableEq K]

structure RSt (K : Type) where
  g : GSt K := {}
  /-- the fk field of the referring entities: (referrer, target) -/
  fkv : List (K × K) := []
  /-- the back-reference sets inside the referred entities' buckets: (target, referrer) -/
  idx : List (K × K) := []

inductive ROp (K : Type)
  /-- an operation of C05/Schema.lean (DeleteById goes through `rdelete`) -/
  | g (op : GOp K)
  /-- Create through the referring root store with the fk field set -/
  | createRef (id : K) (blank : Bool) (links : Option (Nat × List K)) (target : K)
  /-- Create through store `x` (a child store); PersistEntity calls SetLinkedIds on GetParentContext() -/
  | createP (x : Store) (id : K) (blank : Bool) (i : Nat) (keys : List K)
  /-- DeleteById whose error the caller tolerates: the transaction carries on -/
  | deleteT (x : Store) (id : K)

structure ROut (K : Type) where
  st : RSt K
  ret : Ret K := .unit
  err : Option RErr := none

def ROp.tolerated : ROp K → Bool
  | .deleteT _ _ => true
  | _ => false

/-- `DeleteById` with the restricting fk: not found; refused while back-references exist (BEFORE any
    write); otherwise the delete of C05/Schema.lean, `fkIndex.ProcessBeforeDelete` of a referrer removes
    its back-reference, and the entity bucket takes field and back-reference set with it -/
def rdelete (rs : RSchema) (r : RSt K) (x : Store) (id : K) : ROut K :=
  if r.g.ents ⟨x.side, false⟩ id = true ∧ rs.fk = some x.side.other ∧ r.idx.any (fun p => decide (p.1 = id)) = true then
    { st := r, err := some .referenced }
  else
    let o := gstep rs.sc r.g (.delete x id)
    match o.err with
    | some e => { st := { r with g := o.st }, err := some (.base e) }
    | none =>
      { st := { g := o.st
                fkv := if rs.fk = some x.side then r.fkv.filter (fun p => !decide (p.1 = id)) else r.fkv
                idx := if rs.fk = some x.side then r.idx.filter (fun p => !decide (p.2 = id))
                       else if rs.fk = some x.side.other then r.idx.filter (fun p => !decide (p.1 = id)) else r.idx } }

def rstep (rs : RSchema) (r : RSt K) : ROp K → ROut K
  | .g (.delete x id) => rdelete rs r x id
  | .deleteT x id => rdelete rs r x id
  | .g op =>
    let o := gstep rs.sc r.g op
    { st := { r with g := o.st }, ret := o.ret, err := o.err.map .base }
  | .createRef id blank links target =>
    match rs.fk with
    | none =>
      let o := gstep rs.sc r.g (.create ⟨.A, false⟩ id blank links)
      { st := { r with g := o.st }, err := o.err.map .base }
    | some s =>
      let o := gstep rs.sc r.g (.create ⟨s, false⟩ id blank links)
      match o.err with
      | some e => { st := { r with g := o.st }, err := some (.base e) }
      | none =>
        -- PersistEntity has written the links and the field; now fkIndex.ProcessAfterUpdate
        if o.st.ents ⟨s.other, false⟩ target = true then
          { st := { g := o.st, fkv := (id, target) :: r.fkv, idx := (target, id) :: r.idx } }
        else
          { st := { g := o.st, fkv := (id, target) :: r.fkv, idx := r.idx }, err := some .fkMissing }
  | .createP x id blank i keys =>
    let o := gstep rs.sc r.g (.create x id blank none)
    match o.err with
    | some e => { st := { r with g := o.st }, err := some (.base e) }
    | none =>
      let o2 := gstep rs.sc o.st (.update ⟨x.side, false⟩ id i keys true)
      { st := { r with g := o2.st }, err := o2.err.map .base }

/-- the body of one `Db.Update`: the first error that the caller does not tolerate ends it -/
def rrunOps (rs : RSchema) : RSt K → List (ROp K) → RSt K × Bool
  | r, [] => (r, false)
  | r, op :: ops =>
    let o := rstep rs r op
    match o.err with
    | some _ => if op.tolerated then rrunOps rs o.st ops else (o.st, true)
    | none => rrunOps rs o.st ops

def rcommitTx (rs : RSchema) (r : RSt K) (ops : List (ROp K)) : RSt K :=
  let o := rrunOps rs r ops
  if o.2 then r else o.1

def rrunHist (rs : RSchema) (r : RSt K) (txs : List (List (ROp K))) : RSt K := txs.foldl (rcommitTx rs) r

def r0 : RSt K := {}

def ROpVocab : ROp K → Prop
  | .g op => GOpVocab op
  | _ => True

def rweight : ROp K → Int
  | .g op => gweight op
  | _ => 0

def rtxWeight (ops : List (ROp K)) : Int := (ops.map rweight).sum
def rhistWeight (txs : List (List (ROp K))) : Int := (txs.map rtxWeight).sum
def RTxVocab (ops : List (ROp K)) : Prop := ∀ op ∈ ops, ROpVocab op
def RHistVocab (txs : List (List (ROp K))) : Prop := ∀ tx ∈ txs, RTxVocab tx

/-! ### the specification: one relation / count map per collection (C05/SchemaSpec.lean), the fk as a
    set of (referrer, target) pairs; a refused delete changes nothing and may be tolerated -/

structure RSSt (K : Type) where
  g : GSSt K := {}
  refs : List (K × K) := []

def rsdelete (rs : RSchema) (r : RSSt K) (x : Store) (id : K) : Option (RSSt K × Ret K) :=
  if rs.fk = some x.side.other ∧ r.refs.any (fun p => decide (p.2 = id)) = true then none
  else
    (gsstep rs.sc r.g (.delete x id)).map fun q =>
      ({ g := q.1, refs := if rs.fk = some x.side then r.refs.filter (fun p => !decide (p.1 = id)) else r.refs }, q.2)

def rsstep (rs : RSchema) (r : RSSt K) : ROp K → Option (RSSt K × Ret K)
  | .g (.delete x id) => rsdelete rs r x id
  | .deleteT x id => rsdelete rs r x id
  | .g op => (gsstep rs.sc r.g op).map fun q => ({ r with g := q.1 }, q.2)
  | .createRef id blank links target =>
    match rs.fk with
    | none => (gsstep rs.sc r.g (.create ⟨.A, false⟩ id blank links)).map fun q => ({ r with g := q.1 }, q.2)
    | some s =>
      match gsstep rs.sc r.g (.create ⟨s, false⟩ id blank links) with
      | none => none
      | some q => if q.1.ents ⟨s.other, false⟩ target then some ({ g := q.1, refs := (id, target) :: r.refs }, q.2) else none
  | .createP x id blank i keys =>
    -- afterwards the entity exists in `x` and its links are exactly the requested set
    match gsstep rs.sc r.g (.create x id blank none) with
    | none => none
    | some q => (gsstep rs.sc q.1 (.update ⟨x.side, false⟩ id i keys true)).map fun q2 => ({ r with g := q2.1 }, q2.2)

theorem rdelete_err {rs : RSchema} {r : RSt K} {x : Store} {id : K} {e : RErr}
    (h : (rdelete rs r x id).err = some e) : (rdelete rs r x id).st = r := by
  unfold rdelete at h ⊢
  by_cases hc : r.g.ents ⟨x.side, false⟩ id = true ∧ rs.fk = some x.side.other ∧ r.idx.any (fun p => decide (p.1 = id)) = true
  · rw [if_pos hc]
  · rw [if_neg hc] at h ⊢
    simp only [gstep] at h ⊢
    cases hd : (gdelete rs.sc r.g x id).2 with
    | none => rw [hd] at h; simp at h
    | some e' =>
      show ({ r with g := (gdelete rs.sc r.g x id).1 } : RSt K) = r
      rw [gdelete_failure hd]

theorem rdelete_ok {rs : RSchema} {r : RSt K} {x : Store} {id : K}
    (h : (rdelete rs r x id).err = none) :
    (gstep rs.sc r.g (.delete x id)).err = none ∧ (rdelete rs r x id).st.g = (gstep rs.sc r.g (.delete x id)).st := by
  unfold rdelete at h ⊢
  split
  · rename_i hc; simp [hc] at h
  · rename_i hc
    simp only [hc, if_false] at h
    cases hd : (gstep rs.sc r.g (.delete x id)).err with
    | none => simp [hd]
    | some e' => simp [hd] at h

theorem rstep_ok {rs : RSchema} {r : RSt K} (h : GInv rs.sc r.g) (op : ROp K) (hok : (rstep rs r op).err = none) :
    Ok rs.sc r.g (rstep rs r op).st.g (rweight op) (ROpVocab op) := by
  have delCase : ∀ x id, (rdelete rs r x id).err = none → Ok rs.sc r.g (rdelete rs r x id).st.g 0 True := by
    intro x id hd
    obtain ⟨h1, h2⟩ := rdelete_ok hd
    rw [h2]
    exact gstep_ok h _ h1
  cases op with
  | deleteT x id => exact delCase x id hok
  | g gop =>
    cases gop with
    | delete x id => exact delCase x id hok
    | create x id blank links => exact gstep_ok h _ (Option.map_eq_none_iff.mp hok)
    | update x id i keys p => exact gstep_ok h _ (Option.map_eq_none_iff.mp hok)
    | link i lop => exact gstep_ok h _ (Option.map_eq_none_iff.mp hok)
    | count i cop => exact gstep_ok h _ (Option.map_eq_none_iff.mp hok)
  | createRef id blank links target =>
    simp only [rstep] at hok ⊢
    cases hf : rs.fk with
    | none =>
      simp only [hf] at hok ⊢
      exact gstep_ok h _ (Option.map_eq_none_iff.mp hok)
    | some s =>
      simp only [hf] at hok ⊢
      cases he : (gstep rs.sc r.g (.create ⟨s, false⟩ id blank links)).err with
      | some e => simp [he] at hok
      | none =>
        simp only [he] at hok ⊢
        split
        · exact gstep_ok h _ he
        · rename_i hc; simp [hc] at hok
  | createP x id blank i keys =>
    simp only [rstep] at hok ⊢
    cases he : (gstep rs.sc r.g (.create x id blank none)).err with
    | some e => simp [he] at hok
    | none =>
      simp only [he] at hok ⊢
      have a := gstep_ok h _ he
      exact (a.trans (gstep_ok a.inv _ (Option.map_eq_none_iff.mp hok))).weaken (by simp [rweight, gweight])
        (fun _ => ⟨trivial, trivial⟩)

/-- the only tolerated operation is `deleteT`, and `rdelete` refuses before it writes (`rdelete_err`) -/
theorem tolerated_refusal_changes_nothing {rs : RSchema} {r : RSt K} {op : ROp K} {e : RErr}
    (ht : op.tolerated = true) (h : (rstep rs r op).err = some e) : (rstep rs r op).st = r := by
  cases op with
  | deleteT x id => exact rdelete_err h
  | g _ => cases ht
  | createRef _ _ _ _ => cases ht
  | createP _ _ _ _ _ => cases ht

theorem rweight_nonneg {op : ROp K} (h : ROpVocab op) : 0 ≤ rweight op := by
  cases op with
  | g op => exact gweight_nonneg h
  | _ => exact Int.le_refl 0

theorem rtxWeight_nonneg {ops : List (ROp K)} (h : RTxVocab ops) : 0 ≤ rtxWeight ops :=
  sum_map_nonneg rweight ops fun op ho => rweight_nonneg (h op ho)

theorem rrunOps_ok {rs : RSchema} {r : RSt K} (h : GInv rs.sc r.g) (ops : List (ROp K)) (hok : (rrunOps rs r ops).2 = false) :
    Ok rs.sc r.g (rrunOps rs r ops).1.g (rtxWeight ops) (RTxVocab ops) := by
  induction ops generalizing r with
  | nil => exact Ok.refl h fun _ => by simp [rtxWeight]
  | cons op ops ih =>
    cases he : (rstep rs r op).err with
    | some e =>
      cases ht : op.tolerated with
      | false => simp [rrunOps, he, ht] at hok
      | true =>
        have hst := tolerated_refusal_changes_nothing ht he
        have hrun : rrunOps rs r (op :: ops) = rrunOps rs r ops := by
          simp only [rrunOps, he, ht, if_true, hst]
        rw [hrun] at hok ⊢
        refine (ih h hok).weaken ?_ ?_
        · have : rweight op = 0 := by
            cases op with
            | deleteT _ _ => rfl
            | g _ => cases ht
            | createRef _ _ _ _ => cases ht
            | createP _ _ _ _ _ => cases ht
          simp [rtxWeight, this]
        · intro hv o ho; exact hv o (by simp [ho])
    | none =>
      have hrun : rrunOps rs r (op :: ops) = rrunOps rs (rstep rs r op).st ops := by
        simp only [rrunOps, he]
      rw [hrun] at hok ⊢
      have h1 := rstep_ok h op he
      refine (h1.trans (ih h1.inv hok)).weaken ?_ ?_
      · simp [rtxWeight]
      · intro hv; exact ⟨hv op (by simp), fun o ho => hv o (by simp [ho])⟩

theorem rreach_commit {rs : RSchema} {r : RSt K} {w : Int} {v : Prop} (h : Reach rs.sc r.g w v) (ops : List (ROp K)) :
    Reach rs.sc (rcommitTx rs r ops).g (w + rtxWeight ops) (v ∧ RTxVocab ops) := by
  cases hf : (rrunOps rs r ops).2 with
  | true =>
    have : rcommitTx rs r ops = r := by simp [rcommitTx, hf]
    rw [this]; exact h.same rtxWeight_nonneg
  | false =>
    have : rcommitTx rs r ops = (rrunOps rs r ops).1 := by simp [rcommitTx, hf]
    rw [this]; exact h.moves (rrunOps_ok h.inv ops hf)

theorem rreach_hist {rs : RSchema} {r : RSt K} {w : Int} {v : Prop} (h : Reach rs.sc r.g w v) (txs : List (List (ROp K))) :
    Reach rs.sc (rrunHist rs r txs).g (w + rhistWeight txs) (v ∧ RHistVocab txs) :=
  reach_foldl RSt.g (rcommitTx rs) rtxWeight RTxVocab (fun _ _ _ tx hr => rreach_commit hr tx) h txs

theorem r_slot_reachable (rs : RSchema) (h : List (List (ROp K))) {j : Nat} {c : Coll} (hj : rs.sc.colls[j]? = some c)
    (hc : ∀ sd ch, c ≠ .self sd ch) :
    ∃ h' : List (List (Op K)), (rrunHist rs (r0 : RSt K) h).g.slots j = runHist [] h' ∧
      (RHistVocab h → HistVocab h' ∧ histWeight h' ≤ rhistWeight h) :=
  (rreach_hist (rs := rs) (r := (r0 : RSt K)) (reach_g0 (K := K) rs.sc) h).base hj hc

theorem r_self_slot_reachable (rs : RSchema) (h : List (List (ROp K))) {j : Nat} {sd : Side} {ch : Bool}
    (hj : rs.sc.colls[j]? = some (.self sd ch)) :
    ∃ h' : List (List (SelfW.SOp K)), (rrunHist rs (r0 : RSt K) h).g.slots j = SelfW.srunHistW [] h' :=
  (rreach_hist (rs := rs) (r := (r0 : RSt K)) (reach_g0 (K := K) rs.sc) h).slots j _ hj

end
end StorageModel.C05.Restrict
