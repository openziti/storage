import StorageModel.C05.Frame
/-
  C05 — link collections: effect of link / unlink / AddLinks / RemoveLinks on the membership
  relation, and the symmetry invariant.

  `link` writes `k` into the bucket of `id` and `id` into the bucket of `k`.  Which two buckets these
  are is the wiring: on opposite sides for two stores (Model.lean), on the same side for a store
  linked with itself (SelfW.lean).  The facts are proved once, for any two buckets (`linkAt` …), and
  read off for the two-store wiring below.
-/
set_option linter.unusedSectionVars false
namespace StorageModel.C05

section
variable {K : Type} [KOrd K] [DecidableEq K]

/-- B is in A's link set iff A is in B's (for both orientations) -/
def Sym (s : St K) : Prop := ∀ sd a b, b ∈ linksOf s (sd, a) ↔ a ∈ linksOf s (sd.other, b)

theorem sym_nil : Sym ([] : St K) := by intro sd a b; simp [linksOf, Map.get]

theorem mem_updL_insert (s : St K) (r r' : Ref K) (l y : K) :
    y ∈ linksOf (upd s r fun e => { e with links := insertS l e.links }) r' ↔
      y ∈ linksOf s r' ∨ (r' = r ∧ exists? s r = true ∧ y = l) := by
  rw [linksOf_updL]
  by_cases h : r = r'
  · subst h
    cases he : exists? s r
    · simp
    · simp [mem_insertS]; constructor <;> (rintro (h | h) <;> simp [h])
  · have h' : ¬ r' = r := fun e => h e.symm
    simp [h, h']

theorem mem_updL_erase (s : St K) (r r' : Ref K) (l y : K) :
    y ∈ linksOf (upd s r fun e => { e with links := eraseS l e.links }) r' ↔
      y ∈ linksOf s r' ∧ ¬(r' = r ∧ y = l) := by
  rw [linksOf_updL]
  by_cases h : r = r'
  · subst h
    cases he : exists? s r
    · simp [linksOf_of_not_exists he]
    · simp [mem_eraseS]
  · have h' : ¬ r' = r := fun e => h e.symm
    simp [h, h']

theorem symAddLink_none {s : St K} {r : Ref K} (l : K) (h : exists? s r = false) :
    symAddLink s r l = (s, some .notFound) := by
  unfold symAddLink; rw [get_none_of_not_exists h]

theorem symAddLink_some {s : St K} {r : Ref K} (l : K) (h : exists? s r = true) :
    symAddLink s r l = (upd s r (fun e => { e with links := insertS l e.links }), none) := by
  unfold symAddLink upd; unfold exists? at h
  cases hg : s.get r <;> simp_all

/-! ### a link between two given buckets: `p` holds `id`'s links, `q` those of `k` -/

def linkAt (s : St K) (p q : Ref K) (id k : K) : St K × Option Err :=
  symAddLink (upd s p fun e => { e with links := insertS k e.links }) q id

def unlinkAt (s : St K) (p q : Ref K) (id k : K) : St K :=
  symRemoveLink (upd s p fun e => { e with links := eraseS k e.links }) q id

def linkAllAt (p : Ref K) (q : K → Ref K) (id : K) : List K → St K → St K × Option Err
  | [], s => (s, none)
  | k :: ks, s =>
    match linkAt s p (q k) id k with
    | (s', some e) => (s', some e)
    | (s', none) => linkAllAt p q id ks s'

def unlinkAllAt (p : Ref K) (q : K → Ref K) (id : K) (ks : List K) (s : St K) : St K :=
  ks.foldl (fun s k => unlinkAt s p (q k) id k) s

variable {p : Ref K} {q : K → Ref K} {id : K}

theorem linkAt_cases (s : St K) (p q : Ref K) (id k : K) :
    (exists? s q = false ∧
      linkAt s p q id k = (upd s p (fun e => { e with links := insertS k e.links }), some .notFound)) ∨
    (exists? s q = true ∧
      linkAt s p q id k = (upd (upd s p fun e => { e with links := insertS k e.links }) q
        (fun e => { e with links := insertS id e.links }), none)) := by
  unfold linkAt
  cases h : exists? s q
  · exact Or.inl ⟨rfl, symAddLink_none _ (by rw [exists_upd]; exact h)⟩
  · exact Or.inr ⟨rfl, symAddLink_some _ (by rw [exists_upd]; exact h)⟩

theorem linkAt_err (s : St K) (p q : Ref K) (id k : K) :
    (linkAt s p q id k).2 = if exists? s q = true then none else some .notFound := by
  rcases linkAt_cases s p q id k with ⟨h, e⟩ | ⟨h, e⟩ <;> rw [e, h] <;> rfl

theorem linkAt_frame (s : St K) (p q : Ref K) (id k : K) : LinkFrame s (linkAt s p q id k).1 := by
  have h1 := linkFrame_updL s p _ fun _ hl => ssorted_insertS (k := k) hl
  rcases linkAt_cases s p q id k with ⟨_, e⟩ | ⟨_, e⟩ <;> rw [e]
  · exact h1
  · exact h1.trans (linkFrame_updL _ q _ fun _ hl => ssorted_insertS hl)

theorem mem_linkAt {s : St K} {p q : Ref K} {id k : K} (hq : exists? s q = true) (hp : exists? s p = true)
    (r : Ref K) (y : K) :
    y ∈ linksOf (linkAt s p q id k).1 r ↔ y ∈ linksOf s r ∨ (r = p ∧ y = k) ∨ (r = q ∧ y = id) := by
  rw [((linkAt_cases s p q id k).resolve_left fun h => by rw [hq] at h; cases h.1).2]
  simp only [mem_updL_insert, exists_upd, hq, hp, true_and, or_assoc]

theorem mem_unlinkAt (s : St K) (p q : Ref K) (id k : K) (r : Ref K) (y : K) :
    y ∈ linksOf (unlinkAt s p q id k) r ↔ y ∈ linksOf s r ∧ ¬((r = p ∧ y = k) ∨ (r = q ∧ y = id)) := by
  unfold unlinkAt symRemoveLink
  simp only [mem_updL_erase, and_assoc, not_or]

theorem unlinkAt_frame (s : St K) (p q : Ref K) (id k : K) : LinkFrame s (unlinkAt s p q id k) :=
  (linkFrame_updL s p _ fun _ hl => ssorted_eraseS hl).trans (linkFrame_updL _ q _ fun _ hl => ssorted_eraseS hl)

theorem linkAllAt_cons (k : K) (ks : List K) (s : St K) :
    linkAllAt p q id (k :: ks) s =
      if exists? s (q k) = true then linkAllAt p q id ks (linkAt s p (q k) id k).1
      else ((linkAt s p (q k) id k).1, some .notFound) := by
  rw [linkAllAt]
  rcases linkAt_cases s p (q k) id k with ⟨h, e⟩ | ⟨h, e⟩ <;> rw [e, h] <;> rfl

theorem linkAllAt_keeps {P : St K → Prop} (h : ∀ s k, P s → P (linkAt s p (q k) id k).1) (ks : List K) {s : St K}
    (hs : P s) : P (linkAllAt p q id ks s).1 := by
  induction ks generalizing s with
  | nil => exact hs
  | cons k ks ih =>
    rw [linkAllAt_cons]; split
    · exact ih (h s k hs)
    · exact h s k hs

theorem linkAllAt_keeps_ok {P : St K → Prop}
    (h : ∀ s k, P s → exists? s p = true → exists? s (q k) = true → P (linkAt s p (q k) id k).1)
    (ks : List K) {s : St K} (hs : P s) (hp : exists? s p = true) (hok : (linkAllAt p q id ks s).2 = none) :
    P (linkAllAt p q id ks s).1 := by
  induction ks generalizing s with
  | nil => exact hs
  | cons k ks ih =>
    rw [linkAllAt_cons] at hok ⊢
    split at hok
    · next hk => rw [if_pos hk]; exact ih (h s k hs hp hk) (by rw [(linkAt_frame s p (q k) id k).ex]; exact hp) hok
    · cases hok

theorem linkAllAt_frame (p : Ref K) (q : K → Ref K) (id : K) (ks : List K) (s : St K) :
    LinkFrame s (linkAllAt p q id ks s).1 :=
  linkAllAt_keeps (P := LinkFrame s) (fun t k ht => ht.trans (linkAt_frame t p (q k) id k)) ks (LinkFrame.refl s)

theorem unlinkAllAt_frame (p : Ref K) (q : K → Ref K) (id : K) (ks : List K) (s : St K) :
    LinkFrame s (unlinkAllAt p q id ks s) :=
  foldl_keeps (P := LinkFrame s) (fun t k ht => ht.trans (unlinkAt_frame t p (q k) id k)) ks (LinkFrame.refl s)

theorem linkAllAt_ok (ks : List K) {s : St K} (hp : exists? s p = true)
    (hall : ∀ k ∈ ks, exists? s (q k) = true) :
    (linkAllAt p q id ks s).2 = none ∧
    ∀ r y, y ∈ linksOf (linkAllAt p q id ks s).1 r ↔
      y ∈ linksOf s r ∨ ∃ k ∈ ks, (r = p ∧ y = k) ∨ (r = q k ∧ y = id) := by
  induction ks generalizing s with
  | nil => simp [linkAllAt]
  | cons k ks ih =>
    have hk := hall k (by simp)
    have he := (linkAt_frame s p (q k) id k).ex
    rw [linkAllAt_cons, if_pos hk]
    have ih' := ih (s := _) (by rw [he]; exact hp) (fun k' hk' => by rw [he]; exact hall k' (by simp [hk']))
    refine ⟨ih'.1, fun r y => ?_⟩
    rw [ih'.2, mem_linkAt hk hp, or_assoc]; simp only [List.mem_cons, exists_eq_or_imp]

theorem linkAllAt_missing (ks : List K) (s : St K) (hmiss : ∃ k ∈ ks, exists? s (q k) = false) :
    (linkAllAt p q id ks s).2 = some .notFound := by
  induction ks generalizing s with
  | nil => obtain ⟨k, hk, _⟩ := hmiss; cases hk
  | cons k ks ih =>
    rw [linkAllAt_cons]; split
    · next hk =>
      apply ih
      obtain ⟨k', hk', hm⟩ := hmiss
      rcases List.mem_cons.mp hk' with rfl | hk'
      · rw [hk] at hm; cases hm
      · exact ⟨k', hk', by rw [(linkAt_frame s p (q k) id k).ex]; exact hm⟩
    · rfl

theorem linkAllAt_err (ks : List K) (s : St K) :
    (linkAllAt p q id ks s).2 = none ∨ (linkAllAt p q id ks s).2 = some .notFound := by
  induction ks generalizing s with
  | nil => exact Or.inl rfl
  | cons k ks ih =>
    rw [linkAllAt_cons]; split
    · exact ih _
    · exact Or.inr rfl

theorem mem_unlinkAllAt (ks : List K) (s : St K) (r : Ref K) (y : K) :
    y ∈ linksOf (unlinkAllAt p q id ks s) r ↔
      y ∈ linksOf s r ∧ ¬ ∃ k ∈ ks, (r = p ∧ y = k) ∨ (r = q k ∧ y = id) :=
  foldl_removes (M := fun s => y ∈ linksOf s r) (fun s k => mem_unlinkAt s p (q k) id k r y) ks s

theorem linkAll_eq (sd : Side) (id : K) (ks : List K) (s : St K) :
    linkAll sd id ks s = linkAllAt (sd, id) (fun k => (sd.other, k)) id ks s := by
  induction ks generalizing s with
  | nil => rfl
  | cons k ks ih => unfold linkAll linkAllAt; simp only [ih]; rfl

theorem unlinkAll_eq (sd : Side) (id : K) (ks : List K) (s : St K) :
    unlinkAll sd id ks s = unlinkAllAt (sd, id) (fun k => (sd.other, k)) id ks s := by
  induction ks generalizing s with
  | nil => rfl
  | cons k ks ih => unfold unlinkAll; rw [ih]; rfl

theorem link_err (s : St K) (sd : Side) (id k : K) :
    (link s sd id k).2 = if exists? s (sd.other, k) = true then none else some .notFound :=
  linkAt_err s (sd, id) (sd.other, k) id k

theorem link_frame (s : St K) (sd : Side) (id k : K) : LinkFrame s (link s sd id k).1 := linkAt_frame s _ _ id k

theorem mem_link {s : St K} {sd : Side} {id k : K} (hk : exists? s (sd.other, k) = true)
    (hid : exists? s (sd, id) = true) (sd' : Side) (x y : K) :
    y ∈ linksOf (link s sd id k).1 (sd', x) ↔
      y ∈ linksOf s (sd', x) ∨ (sd' = sd ∧ x = id ∧ y = k) ∨ (sd' = sd.other ∧ x = k ∧ y = id) :=
  (mem_linkAt hk hid (sd', x) y).trans (by simp only [Prod.mk.injEq, and_assoc])

theorem Side.eq_other_of_ne {sd sd' : Side} (h : sd' ≠ sd) : sd' = sd.other := by
  cases sd <;> cases sd' <;> first | rfl | exact absurd rfl h

/-- the two pairs a link adds (or an unlink removes) are each other's mirror image -/
theorem mirror_iff (sd sd' : Side) (a b x y : K) :
    (sd'.other = sd ∧ b = x ∧ a = y) ↔ (sd' = sd.other ∧ a = y ∧ b = x) :=
  ⟨fun ⟨h1, h2, h3⟩ => ⟨by rw [← h1, Side.other_other], h3, h2⟩,
   fun ⟨h1, h2, h3⟩ => ⟨by rw [h1, Side.other_other], h3, h2⟩⟩

theorem mirror_iff' (sd sd' : Side) (a b x y : K) :
    (sd'.other = sd.other ∧ b = x ∧ a = y) ↔ (sd' = sd ∧ a = y ∧ b = x) := by
  rw [mirror_iff, Side.other_other]

theorem sym_link {s : St K} (h : Sym s) {sd : Side} {id k : K} (hk : exists? s (sd.other, k) = true)
    (hid : exists? s (sd, id) = true) : Sym (link s sd id k).1 := by
  intro sd' a b
  rw [mem_link hk hid, mem_link hk hid, h sd' a b, mirror_iff, mirror_iff', or_comm (a := sd' = sd.other ∧ _)]

theorem mem_unlink (s : St K) (sd : Side) (id k : K) (sd' : Side) (x y : K) :
    y ∈ linksOf (unlink s sd id k) (sd', x) ↔
      y ∈ linksOf s (sd', x) ∧ ¬((sd' = sd ∧ x = id ∧ y = k) ∨ (sd' = sd.other ∧ x = k ∧ y = id)) :=
  (mem_unlinkAt s (sd, id) (sd.other, k) id k (sd', x) y).trans (by simp only [Prod.mk.injEq, and_assoc])

theorem unlink_frame (s : St K) (sd : Side) (id k : K) : LinkFrame s (unlink s sd id k) := unlinkAt_frame s _ _ id k

theorem sym_unlink {s : St K} (h : Sym s) (sd : Side) (id k : K) : Sym (unlink s sd id k) := by
  intro sd' a b
  rw [mem_unlink, mem_unlink, h sd' a b, mirror_iff, mirror_iff', or_comm (a := sd' = sd.other ∧ _)]

theorem linkAll_frame (sd : Side) (id : K) (ks : List K) (s : St K) : LinkFrame s (linkAll sd id ks s).1 := by
  rw [linkAll_eq]; exact linkAllAt_frame _ _ id ks s

theorem linkAll_ok (sd : Side) (id : K) (ks : List K) {s : St K} (hid : exists? s (sd, id) = true)
    (hall : ∀ k ∈ ks, exists? s (sd.other, k) = true) :
    (linkAll sd id ks s).2 = none ∧
    ∀ sd' x y, y ∈ linksOf (linkAll sd id ks s).1 (sd', x) ↔
      y ∈ linksOf s (sd', x) ∨ ∃ k ∈ ks, (sd' = sd ∧ x = id ∧ y = k) ∨ (sd' = sd.other ∧ x = k ∧ y = id) := by
  rw [linkAll_eq]
  obtain ⟨h1, h2⟩ := linkAllAt_ok (id := id) ks hid hall
  refine ⟨h1, fun sd' x y => (h2 (sd', x) y).trans ?_⟩
  simp only [Prod.mk.injEq, and_assoc]

theorem linkAll_missing (sd : Side) (id : K) (ks : List K) (s : St K)
    (hmiss : ∃ k ∈ ks, exists? s (sd.other, k) = false) :
    (linkAll sd id ks s).2 = some .notFound := by
  rw [linkAll_eq]; exact linkAllAt_missing ks s hmiss

theorem sym_linkAll (sd : Side) (id : K) (ks : List K) {s : St K} (h : Sym s) (hid : exists? s (sd, id) = true)
    (hok : (linkAll sd id ks s).2 = none) : Sym (linkAll sd id ks s).1 := by
  rw [linkAll_eq] at hok ⊢
  exact linkAllAt_keeps_ok (P := Sym) (fun _ _ ht hp hk => sym_link ht hk hp) ks h hid hok

theorem mem_unlinkAll (sd : Side) (id : K) (ks : List K) (s : St K) (sd' : Side) (x y : K) :
    y ∈ linksOf (unlinkAll sd id ks s) (sd', x) ↔
      y ∈ linksOf s (sd', x) ∧ ¬ ∃ k ∈ ks, (sd' = sd ∧ x = id ∧ y = k) ∨ (sd' = sd.other ∧ x = k ∧ y = id) := by
  rw [unlinkAll_eq]
  refine (mem_unlinkAllAt ks s (sd', x) y).trans ?_
  simp only [Prod.mk.injEq, and_assoc]

theorem unlinkAll_frame (sd : Side) (id : K) (ks : List K) (s : St K) : LinkFrame s (unlinkAll sd id ks s) := by
  rw [unlinkAll_eq]; exact unlinkAllAt_frame _ _ id ks s

theorem sym_unlinkAll (sd : Side) (id : K) (ks : List K) {s : St K} (h : Sym s) : Sym (unlinkAll sd id ks s) := by
  rw [unlinkAll_eq]; exact foldl_keeps (P := Sym) (fun _ k ht => sym_unlink ht sd id k) ks h

end
end StorageModel.C05
