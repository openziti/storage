import StorageModel.C05.Delete
/-
  C05 — the link invariant (symmetric, in key order) is preserved by every successful operation, hence by every
  transaction (a failing body is rolled back) and by every committed history, whatever the operations.  The vocabulary and
  the weight of a history, inside which the counts stay below 2^31; that both sides then hold the same positive count is
  read off the refinement (C05/Sim.lean).
-/
set_option linter.unusedSectionVars false
namespace StorageModel.C05

section
variable {K : Type} [KOrd K] [DecidableEq K]

theorem runOps_cons_err {s : St K} {op : Op K} {ops : List (Op K)} {e : Err} (h : (step s op).err = some e) :
    runOps s (op :: ops) = ((step s op).st, true) := by
  simp only [runOps, h]

theorem runOps_cons_ok {s : St K} {op : Op K} {ops : List (Op K)} (h : (step s op).err = none) :
    runOps s (op :: ops) = runOps (step s op).st ops := by
  simp only [runOps, h]

theorem commitTx_failed {s : St K} {ops : List (Op K)} (h : (runOps s ops).2 = true) : commitTx s ops = s := by
  simp only [commitTx, h, if_true]

theorem commitTx_ok {s : St K} {ops : List (Op K)} (h : (runOps s ops).2 = false) :
    commitTx s ops = (runOps s ops).1 := by
  simp [commitTx, h]

structure LInv (s : St K) : Prop where
  sym : Sym s
  sorted : AllSorted s

theorem lInv_nil : LInv ([] : St K) := ⟨sym_nil, allSorted_nil⟩

theorem lInv_of_linksOf_eq {s s' : St K} (h : LInv s) (he : ∀ r, linksOf s' r = linksOf s r) : LInv s' := by
  constructor
  · intro sd a b; rw [he, he]; exact h.sym sd a b
  · intro r; rw [he]; exact h.sorted r

theorem step_lInv {s : St K} (h : LInv s) (op : Op K) (hok : (step s op).err = none) : LInv (step s op).st := by
  cases op with
  | create sd id blank links =>
    simp only [step] at hok ⊢
    obtain ⟨rfl, hne⟩ := createEntity_of_ok hok
    rw [createEntity_new hne] at hok ⊢
    have h1 : LInv (s.put (sd, id) {}) := lInv_of_linksOf_eq h (create_fresh hne).1
    cases links with
    | none => exact h1
    | some ks => exact ⟨setLinks_sym h1.sym hok, (setLinks_frame _ sd id _).sorted h1.sorted⟩
  | update sd id links p =>
    simp only [step] at hok ⊢
    have e := updateEntity_of_ok hok
    rw [e] at hok ⊢
    cases p with
    | false => exact h
    | true => exact ⟨setLinks_sym h.sym hok, (setLinks_frame s sd id _).sorted h.sorted⟩
  | delete sd id =>
    simp only [step] at hok ⊢
    exact ⟨deleteEntity_sym h.sym hok, deleteEntity_allSorted h.sorted⟩
  | addLinks sd id keys =>
    simp only [step] at hok ⊢
    cases hid : exists? s (sd, id) with
    | false => rw [addLinks_missing_local keys hid] at hok; cases hok
    | true =>
      rw [addLinks_unfold keys hid] at hok ⊢
      exact ⟨sym_linkAll sd id keys h.sym hid hok, (linkAll_frame sd id keys s).sorted h.sorted⟩
  | removeLinks sd id keys =>
    simp only [step] at hok ⊢
    cases hid : exists? s (sd, id) with
    | false => rw [removeLinks_missing_local keys hid] at hok; cases hok
    | true =>
      rw [removeLinks_unfold keys hid]
      exact ⟨sym_unlinkAll sd id keys h.sym, (unlinkAll_frame sd id keys s).sorted h.sorted⟩
  | setLinks sd id keys =>
    simp only [step] at hok ⊢
    exact ⟨setLinks_sym h.sym hok, (setLinks_frame s sd id _).sorted h.sorted⟩
  | addLink sd id k =>
    simp only [step] at hok ⊢
    cases hid : exists? s (sd, id) with
    | false => rw [addLink_missing_local k hid] at hok; cases hok
    | true =>
      rw [addLink_unfold k hid] at hok ⊢
      rw [link_err] at hok
      cases hk : exists? s (sd.other, k) with
      | false => simp [hk] at hok
      | true => exact ⟨sym_link h.sym hk hid, (link_frame s sd id k).sorted h.sorted⟩
  | removeLink sd id k =>
    simp only [step] at hok ⊢
    cases hid : exists? s (sd, id) with
    | false => rw [removeLink_missing_local k hid] at hok; cases hok
    | true =>
      rw [removeLink_unfold k hid]
      exact ⟨sym_unlink h.sym sd id k, (unlink_frame s sd id k).sorted h.sorted⟩
  | incr sd id k => simp only [step]; exact lInv_of_linksOf_eq h fun r => (sameLinks_rcIncr s sd id k r).2
  | decr sd id k => simp only [step]; exact lInv_of_linksOf_eq h fun r => (sameLinks_rcDecr s sd id k r).2
  | setCount sd id k c => simp only [step]; exact lInv_of_linksOf_eq h fun r => (sameLinks_rcSet s sd id k c r).2
  | getLinks sd id => exact h
  | isLinked sd id k => exact h
  | getCounts sd id k => exact h

theorem runOps_lInv {s : St K} (h : LInv s) (ops : List (Op K)) (hok : (runOps s ops).2 = false) :
    LInv (runOps s ops).1 := by
  induction ops generalizing s with
  | nil => exact h
  | cons op ops ih =>
    cases he : (step s op).err with
    | some e => rw [runOps_cons_err he] at hok; simp at hok
    | none => rw [runOps_cons_ok he] at hok ⊢; exact ih (step_lInv h op he) hok

theorem commitTx_lInv {s : St K} (h : LInv s) (ops : List (Op K)) : LInv (commitTx s ops) := by
  cases hf : (runOps s ops).2 with
  | true => rw [commitTx_failed hf]; exact h
  | false => rw [commitTx_ok hf]; exact runOps_lInv h ops hf

theorem runHist_lInv {s : St K} (h : LInv s) (txs : List (List (Op K))) : LInv (runHist s txs) :=
  foldl_keeps (P := LInv) (fun _ tx hs => commitTx_lInv hs tx) txs h

/-- the property's vocabulary: `SetLinkCount` is called with counts ≥ 0 -/
def OpVocab : Op K → Prop
  | .setCount _ _ _ c => 0 ≤ c
  | _ => True

/-- how far an operation can raise a count -/
def weight : Op K → Int
  | .incr _ _ _ => 1
  | .setCount _ _ _ c => c
  | _ => 0

def txWeight (ops : List (Op K)) : Int := (ops.map weight).sum
def histWeight (txs : List (List (Op K))) : Int := (txs.map txWeight).sum
def TxVocab (ops : List (Op K)) : Prop := ∀ op ∈ ops, OpVocab op
def HistVocab (txs : List (List (Op K))) : Prop := ∀ tx ∈ txs, TxVocab tx

theorem weight_nonneg {op : Op K} (h : OpVocab op) : 0 ≤ weight op := by
  cases op <;> simp [weight] <;> first | exact h | omega

theorem sum_map_nonneg {α : Type} (f : α → Int) (l : List α) (h : ∀ a ∈ l, 0 ≤ f a) : 0 ≤ (l.map f).sum := by
  induction l with
  | nil => exact Int.le_refl 0
  | cons a l ih =>
    have h1 := h a (by simp)
    have h2 := ih (fun b hb => h b (by simp [hb]))
    simp only [List.map_cons, List.sum_cons]; omega

theorem txWeight_nonneg {ops : List (Op K)} (h : TxVocab ops) : 0 ≤ txWeight ops :=
  sum_map_nonneg weight ops fun op ho => weight_nonneg (h op ho)

theorem histWeight_nonneg {txs : List (List (Op K))} (h : HistVocab txs) : 0 ≤ histWeight txs :=
  sum_map_nonneg txWeight txs fun tx ht => txWeight_nonneg (h tx ht)

end
end StorageModel.C05
