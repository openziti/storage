import StorageModel.C05.SchemaStep
/-
  C05 — schema-parametrised model: transactions and histories.  After every committed history over
  any schema, the slot of each declared collection is the state of a committed history of the base
  model (two-store model for plain / ref-counted collections, self-referential model for `self`).
-/
set_option linter.unusedSectionVars false
namespace StorageModel.C05.Schema
open StorageModel.C05

section
variable {K : Type} [KOrd K] [DecidableEq K]

theorem grunOps_cons_err {sc : Schema} {g : GSt K} {op : GOp K} {ops : List (GOp K)} {e : Err}
    (h : (gstep sc g op).err = some e) : grunOps sc g (op :: ops) = ((gstep sc g op).st, true) := by
  simp only [grunOps, h]

theorem grunOps_cons_ok {sc : Schema} {g : GSt K} {op : GOp K} {ops : List (GOp K)}
    (h : (gstep sc g op).err = none) : grunOps sc g (op :: ops) = grunOps sc (gstep sc g op).st ops := by
  simp only [grunOps, h]

theorem gcommitTx_failed {sc : Schema} {g : GSt K} {ops : List (GOp K)} (h : (grunOps sc g ops).2 = true) :
    gcommitTx sc g ops = g := by
  simp only [gcommitTx, h, if_true]

theorem gcommitTx_ok {sc : Schema} {g : GSt K} {ops : List (GOp K)} (h : (grunOps sc g ops).2 = false) :
    gcommitTx sc g ops = (grunOps sc g ops).1 := by
  simp [gcommitTx, h]

theorem gweight_nonneg {op : GOp K} (h : GOpVocab op) : 0 ≤ gweight op := by
  cases op with
  | count i op => exact weight_nonneg (K := K) (op := op.toOp) h
  | _ => exact Int.le_refl 0

theorem gtxWeight_nonneg {ops : List (GOp K)} (h : GTxVocab ops) : 0 ≤ gtxWeight ops :=
  sum_map_nonneg gweight ops fun op ho => gweight_nonneg (h op ho)

theorem ghistWeight_nonneg {txs : List (List (GOp K))} (h : GHistVocab txs) : 0 ≤ ghistWeight txs :=
  sum_map_nonneg gtxWeight txs fun tx ht => gtxWeight_nonneg (h tx ht)

theorem grunOps_ok {sc : Schema} {g : GSt K} (h : GInv sc g) (ops : List (GOp K)) (hok : (grunOps sc g ops).2 = false) :
    Ok sc g (grunOps sc g ops).1 (gtxWeight ops) (GTxVocab ops) := by
  induction ops generalizing g with
  | nil => exact Ok.refl h fun _ => by simp [gtxWeight]
  | cons op ops ih =>
    cases he : (gstep sc g op).err with
    | some e => rw [grunOps_cons_err he] at hok; simp at hok
    | none =>
      rw [grunOps_cons_ok he] at hok ⊢
      have h1 := gstep_ok h op he
      refine (h1.trans (ih h1.inv hok)).weaken ?_ ?_
      · simp [gtxWeight]
      · intro hv; exact ⟨hv op (by simp), fun o ho => hv o (by simp [ho])⟩

/-- no operation reads `naming` or `ext` (hence `rfl`); only the rendered bucket paths (`Schema.bucketPath`) depend on them -/
theorem gstep_naming_irrelevant (sc : Schema) (e : Side → Bool) (n : Nat → Side → Naming) (g : GSt K) (op : GOp K) :
    gstep { colls := sc.colls, ext := e, naming := n } g op = gstep sc g op := rfl

theorem grunOps_naming_irrelevant (sc : Schema) (e : Side → Bool) (n : Nat → Side → Naming) (g : GSt K)
    (ops : List (GOp K)) : grunOps { colls := sc.colls, ext := e, naming := n } g ops = grunOps sc g ops := by
  induction ops generalizing g with
  | nil => rfl
  | cons op ops ih =>
    simp only [grunOps, gstep_naming_irrelevant]
    cases (gstep sc g op).err with
    | some _ => rfl
    | none => exact ih _

theorem naming_irrelevant (sc : Schema) (e : Side → Bool) (n : Nat → Side → Naming) (g : GSt K)
    (h : List (List (GOp K))) :
    grunHist { colls := sc.colls, ext := e, naming := n } g h = grunHist sc g h := by
  induction h generalizing g with
  | nil => rfl
  | cons tx txs ih =>
    simp only [grunHist, List.foldl_cons] at ih ⊢
    have : gcommitTx { colls := sc.colls, ext := e, naming := n } g tx = gcommitTx sc g tx := by
      simp only [gcommitTx, grunOps_naming_irrelevant]
    rw [this]; exact ih _

/-- the state of a committed history of the two-store model; inside the vocabulary (`v`) that history
    is inside the base vocabulary and weighs at most `w` -/
def BaseReach (s : St K) (w : Int) (v : Prop) : Prop :=
  ∃ h' : List (List (Op K)), s = runHist [] h' ∧ (v → HistVocab h' ∧ histWeight h' ≤ w)

def SlotReach (c : Coll) (s : St K) (w : Int) (v : Prop) : Prop :=
  match c with
  | .self _ _ => ∃ h' : List (List (SelfW.SOp K)), s = SelfW.srunHistW [] h'
  | _ => BaseReach s w v

theorem runHist_snoc (s : St K) (h : List (List (Op K))) (tx : List (Op K)) :
    runHist s (h ++ [tx]) = commitTx (runHist s h) tx := by
  simp [runHist, List.foldl_append]

theorem srunHistW_snoc (s : St K) (h : List (List (SelfW.SOp K))) (tx : List (SelfW.SOp K)) :
    SelfW.srunHistW s (h ++ [tx]) = SelfW.scommitW (SelfW.srunHistW s h) tx := by
  simp [SelfW.srunHistW, List.foldl_append]

theorem histWeight_snoc (h : List (List (Op K))) (tx : List (Op K)) : histWeight (h ++ [tx]) = histWeight h + txWeight tx := by
  simp [histWeight, List.map_append, List.sum_append]

theorem BaseReach.weaken {s : St K} {w w' : Int} {v v' : Prop} (h : BaseReach s w v)
    (hw : v' → w ≤ w') (hv : v' → v) : BaseReach s w' v' := by
  obtain ⟨h', e, p⟩ := h
  exact ⟨h', e, fun x => ⟨(p (hv x)).1, by have := (p (hv x)).2; have := hw x; omega⟩⟩

/-- a body of successful operations is one more committed transaction -/
theorem BaseReach.step {s s' : St K} {w w' : Int} {v v' : Prop} (h : BaseReach s w v) (m : Moves s s' w' v') :
    BaseReach s' (w + w') (v ∧ v') := by
  obtain ⟨h', e, p⟩ := h
  obtain ⟨bops, hs, q⟩ := m
  refine ⟨h' ++ [bops], ?_, ?_⟩
  · rw [runHist_snoc, ← e]; simp [commitTx, hs]
  · rintro ⟨x, y⟩
    refine ⟨fun tx htx => ?_, ?_⟩
    · rcases List.mem_append.mp htx with htx | htx
      · exact (p x).1 tx htx
      · simp only [List.mem_cons, List.mem_nil_iff, or_false] at htx; subst htx; exact (q y).1
    · rw [histWeight_snoc]; have := (p x).2; have := (q y).2; omega

theorem SlotReach.weaken {c : Coll} {s : St K} {w w' : Int} {v v' : Prop} (h : SlotReach c s w v)
    (hw : v' → w ≤ w') (hv : v' → v) : SlotReach c s w' v' := by
  cases c with
  | self _ _ => exact h
  | plain _ _ => exact BaseReach.weaken h hw hv
  | rc _ _ => exact BaseReach.weaken h hw hv

theorem SlotReach.step {c : Coll} {s s' : St K} {w w' : Int} {v v' : Prop} (h : SlotReach c s w v)
    (m : SlotMoves c s s' w' v') : SlotReach c s' (w + w') (v ∧ v') := by
  cases c with
  | self _ _ =>
    obtain ⟨h', e⟩ := h
    obtain ⟨sops, hs⟩ := m
    refine ⟨h' ++ [sops], ?_⟩
    rw [srunHistW_snoc, ← e]
    simp [SelfW.scommitW, hs]
  | plain _ _ => exact BaseReach.step h m
  | rc _ _ => exact BaseReach.step h m

structure Reach (sc : Schema) (g : GSt K) (w : Int) (v : Prop) : Prop where
  inv : GInv sc g
  slots : ∀ j c, sc.colls[j]? = some c → SlotReach c (g.slots j) w v

theorem reach_g0 (sc : Schema) : Reach sc (g0 : GSt K) 0 True := by
  refine ⟨gInv_g0 sc, fun j c _ => ?_⟩
  have hb : BaseReach ([] : St K) 0 True := ⟨[], rfl, fun _ => ⟨fun _ h => (by cases h), by simp [histWeight]⟩⟩
  cases c with
  | self _ _ => exact ⟨[], rfl⟩
  | plain _ _ => exact hb
  | rc _ _ => exact hb

/-- a rolled-back transaction -/
theorem Reach.same {sc : Schema} {g : GSt K} {w w' : Int} {v v' : Prop} (h : Reach sc g w v) (hw : v' → 0 ≤ w') :
    Reach sc g (w + w') (v ∧ v') :=
  ⟨h.inv, fun j c hj => (h.slots j c hj).weaken (fun x => by have := hw x.2; omega) (fun x => x.1)⟩

/-- a committed transaction -/
theorem Reach.moves {sc : Schema} {g g' : GSt K} {w w' : Int} {v v' : Prop} (h : Reach sc g w v) (m : Ok sc g g' w' v') :
    Reach sc g' (w + w') (v ∧ v') :=
  ⟨m.inv, fun j c hj => (h.slots j c hj).step (m.moves j c hj)⟩

theorem reach_commit {sc : Schema} {g : GSt K} {w : Int} {v : Prop} (h : Reach sc g w v) (ops : List (GOp K)) :
    Reach sc (gcommitTx sc g ops) (w + gtxWeight ops) (v ∧ GTxVocab ops) := by
  cases hf : (grunOps sc g ops).2 with
  | true => rw [gcommitTx_failed hf]; exact h.same gtxWeight_nonneg
  | false => rw [gcommitTx_ok hf]; exact h.moves (grunOps_ok h.inv ops hf)

/-- histories of any kind of transaction `τ` over states `σ` that carry a schema state: what each
    commit keeps, the history keeps, with the weights and vocabularies summed up -/
theorem reach_foldl {sc : Schema} {σ τ : Type} (π : σ → GSt K) (commit : σ → τ → σ) (wt : τ → Int) (voc : τ → Prop)
    (hc : ∀ r w v tx, Reach sc (π r) w v → Reach sc (π (commit r tx)) (w + wt tx) (v ∧ voc tx))
    {r : σ} {w : Int} {v : Prop} (h : Reach sc (π r) w v) (txs : List τ) :
    Reach sc (π (txs.foldl commit r)) (w + (txs.map wt).sum) (v ∧ ∀ tx ∈ txs, voc tx) := by
  induction txs generalizing r w v with
  | nil => exact ⟨h.inv, fun j c hj => (h.slots j c hj).weaken (fun _ => by simp) (fun x => x.1)⟩
  | cons tx txs ih =>
    have := ih (hc r w v tx h)
    refine ⟨this.inv, fun j c hj => (this.slots j c hj).weaken ?_ ?_⟩
    · intro _; simp only [List.map_cons, List.sum_cons]; omega
    · rintro ⟨x, y⟩
      exact ⟨⟨x, y tx (by simp)⟩, fun t ht => y t (by simp [ht])⟩

theorem reach_hist {sc : Schema} {g : GSt K} {w : Int} {v : Prop} (h : Reach sc g w v) (txs : List (List (GOp K))) :
    Reach sc (grunHist sc g txs) (w + ghistWeight txs) (v ∧ GHistVocab txs) :=
  reach_foldl id (gcommitTx sc) gtxWeight GTxVocab (fun _ _ _ tx hr => reach_commit hr tx) h txs

/-- `0 + w` and `True ∧ v` are literally what `reach_hist` (and `rreach_hist`) hand back when started from `reach_g0` -/
theorem Reach.base {sc : Schema} {g : GSt K} {w : Int} {v : Prop} (h : Reach sc g (0 + w) (True ∧ v))
    {j : Nat} {c : Coll} (hj : sc.colls[j]? = some c) (hc : ∀ sd ch, c ≠ .self sd ch) :
    ∃ h' : List (List (Op K)), g.slots j = runHist [] h' ∧ (v → HistVocab h' ∧ histWeight h' ≤ w) := by
  have := h.slots j c hj
  have hb : BaseReach (g.slots j) (0 + w) (True ∧ v) := by
    cases c with
    | self sd ch => exact absurd rfl (hc sd ch)
    | plain _ _ => exact this
    | rc _ _ => exact this
  obtain ⟨h', e, p⟩ := hb
  exact ⟨h', e, fun hv => ⟨(p ⟨trivial, hv⟩).1, by have := (p ⟨trivial, hv⟩).2; omega⟩⟩

theorem slot_reachable (sc : Schema) (h : List (List (GOp K))) {j : Nat} {c : Coll} (hj : sc.colls[j]? = some c)
    (hc : ∀ sd ch, c ≠ .self sd ch) :
    ∃ h' : List (List (Op K)), (grunHist sc (g0 : GSt K) h).slots j = runHist [] h' ∧
      (GHistVocab h → HistVocab h' ∧ histWeight h' ≤ ghistWeight h) :=
  (reach_hist (reach_g0 (K := K) sc) h).base hj hc

theorem self_slot_reachable (sc : Schema) (h : List (List (GOp K))) {j : Nat} {sd : Side} {ch : Bool}
    (hj : sc.colls[j]? = some (.self sd ch)) :
    ∃ h' : List (List (SelfW.SOp K)), (grunHist sc (g0 : GSt K) h).slots j = SelfW.srunHistW [] h' :=
  (reach_hist (reach_g0 (K := K) sc) h).slots j _ hj

end
end StorageModel.C05.Schema
