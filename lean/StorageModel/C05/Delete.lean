import StorageModel.C05.Rc
/-
  C05 — DeleteById → cleanupLinks → EntityDeleted (both kinds of collection), Create and Update.
-/
set_option linter.unusedSectionVars false
namespace StorageModel.C05

section
variable {K : Type} [KOrd K] [DecidableEq K]

theorem mem_foldl_symRemove (q : K → Ref K) (id : K) (L : List K) (s : St K) (r : Ref K) (y : K) :
    y ∈ linksOf (L.foldl (fun s k => symRemoveLink s (q k) id) s) r ↔
      y ∈ linksOf s r ∧ ¬ ∃ k ∈ L, r = q k ∧ y = id :=
  foldl_removes (M := fun s => y ∈ linksOf s r) (fun s k => mem_updL_erase s (q k) r id y) L s

theorem foldl_symRemove_frame (q : K → Ref K) (id : K) (L : List K) (s : St K) :
    LinkFrame s (L.foldl (fun s k => symRemoveLink s (q k) id) s) :=
  foldl_keeps (P := LinkFrame s) (fun t _ ht => ht.trans (linkFrame_updL t _ _ fun _ hl => ssorted_eraseS hl)) L
    (LinkFrame.refl s)

theorem rcOf_rcSymUnlink (s : St K) (r r' : Ref K) (l j : K) :
    rcOf (rcSymUnlink s r l) r' j = if r = r' ∧ l = j then none else rcOf s r' j := by
  unfold rcSymUnlink
  rw [rcOf_updR s r r' (fun m => m.del l) j]
  by_cases h : r = r'
  · subst h
    simp only [true_and, if_true]
    cases hg : s.get r with
    | none => simp [rcOf, hg]
    | some e => simp only; rw [Map.get_del]; simp [rcOf, hg]
  · simp [h]

theorem rcOf_foldl_rcUnlink (sd : Side) (id : K) (L : List K) (s : St K) (sd' : Side) (x j : K) :
    rcOf (L.foldl (fun s k => rcSymUnlink s (sd.other, k) id) s) (sd', x) j =
      if sd' = sd.other ∧ x ∈ L ∧ j = id then none else rcOf s (sd', x) j := by
  -- an unlink can only remove the entry: "it reads `some c`" is kept unless one of the keys is `x`
  have h := fun c => foldl_removes (f := fun s k => rcSymUnlink s (sd.other, k) id) (M := fun s => rcOf s (sd', x) j = some c)
    (A := fun k => (sd.other, k) = (sd', x) ∧ id = j) (fun s k => by
      simp only [rcOf_rcSymUnlink]; split
      · next hc => simp [hc]
      · next hn => exact ⟨fun h => ⟨h, hn⟩, And.left⟩) L s
  have e : (∃ k ∈ L, (sd.other, k) = (sd', x) ∧ id = j) ↔ sd' = sd.other ∧ x ∈ L ∧ j = id :=
    ⟨fun ⟨k, hk, e, e'⟩ => by cases e; exact ⟨rfl, hk, e'.symm⟩, fun ⟨e, hx, e'⟩ => ⟨x, hx, by rw [e], e'.symm⟩⟩
  apply Option.ext; intro c
  rw [h c, e]
  split <;> simp [*]

theorem mem_keys (m : Map K Int) (x : K) : x ∈ m.map (·.1) ↔ m.get x ≠ none := by
  induction m with
  | nil => simp [Map.get]
  | cons p m ih =>
    obtain ⟨a, v⟩ := p
    simp only [List.map_cons, List.mem_cons, Map.get]
    by_cases h : a = x
    · subst h; simp
    · have : ¬ x = a := fun e => h e.symm
      simp [h, this, ih]

theorem linksEntityDeleted_frame (s : St K) (sd : Side) (id : K) : LinkFrame s (linksEntityDeleted s sd id) :=
  foldl_symRemove_frame _ id _ s

theorem mem_linksEntityDeleted (s : St K) (sd : Side) (id : K) (r : Ref K) (y : K) :
    y ∈ linksOf (linksEntityDeleted s sd id) r ↔
      y ∈ linksOf s r ∧ ¬ ∃ k ∈ linksOf s (sd, id), r = (sd.other, k) ∧ y = id :=
  mem_foldl_symRemove _ id _ s r y

theorem linksOf_rcEntityDeleted (s : St K) (sd : Side) (id : K) (r : Ref K) :
    linksOf (rcEntityDeleted s sd id) r = linksOf s r := by
  unfold rcEntityDeleted
  cases hg : s.get (sd, id) with
  | none => rfl
  | some e =>
    exact foldl_keeps (P := fun t => linksOf t r = linksOf s r)
      (fun t k ht => by unfold rcSymUnlink; rw [linksOf_updR t _ _ (fun m => m.del id)]; exact ht) _ rfl

theorem exists_rcEntityDeleted (s : St K) (sd : Side) (id : K) (r : Ref K) :
    exists? (rcEntityDeleted s sd id) r = exists? s r := by
  unfold rcEntityDeleted
  cases hg : s.get (sd, id) with
  | none => rfl
  | some e =>
    exact foldl_keeps (P := fun t => exists? t r = exists? s r) (fun t k ht => by unfold rcSymUnlink; rw [exists_upd]; exact ht) _ rfl

theorem rcOf_rcEntityDeleted (s : St K) (sd : Side) (id : K) (sd' : Side) (x j : K) :
    rcOf (rcEntityDeleted s sd id) (sd', x) j =
      if sd' = sd.other ∧ rcOf s (sd, id) x ≠ none ∧ j = id then none else rcOf s (sd', x) j := by
  unfold rcEntityDeleted
  cases hg : s.get (sd, id) with
  | none => simp [rcOf, hg]
  | some e => simp only; rw [rcOf_foldl_rcUnlink]; simp only [mem_keys, rcOf, hg]

theorem deleteEntity_missing {s : St K} {sd : Side} {id : K} (hid : exists? s (sd, id) = false) :
    deleteEntity s sd id = (s, some .notFound) := by
  unfold deleteEntity; rw [get_none_of_not_exists hid]

theorem deleteEntity_found {s : St K} {sd : Side} {id : K} (hid : exists? s (sd, id) = true) :
    deleteEntity s sd id = ((rcEntityDeleted (linksEntityDeleted s sd id) sd id).del (sd, id), none) := by
  obtain ⟨e, he, _⟩ := get_of_exists hid
  unfold deleteEntity; rw [he]

theorem exists_deleteEntity {s : St K} {sd : Side} {id : K} (hid : exists? s (sd, id) = true) (r : Ref K) :
    exists? (deleteEntity s sd id).1 r = if (sd, id) = r then false else exists? s r := by
  rw [deleteEntity_found hid, exists_del, exists_rcEntityDeleted, (linksEntityDeleted_frame s sd id).ex]

theorem mem_deleteEntity {s : St K} (h : Sym s) {sd : Side} {id : K} (hid : exists? s (sd, id) = true)
    (sd' : Side) (x y : K) :
    y ∈ linksOf (deleteEntity s sd id).1 (sd', x) ↔
      y ∈ linksOf s (sd', x) ∧ (sd', x) ≠ (sd, id) ∧ (sd'.other, y) ≠ (sd, id) := by
  rw [deleteEntity_found hid, linksOf_del, linksOf_rcEntityDeleted]
  by_cases hx : (sd, id) = (sd', x)
  · cases hx; simp
  · rw [if_neg hx, mem_linksEntityDeleted]
    constructor
    · rintro ⟨h1, h2⟩
      refine ⟨h1, fun e => hx e.symm, fun e => ?_⟩
      obtain ⟨e1, e2⟩ := Prod.mk.inj e
      subst e1 e2
      exact h2 ⟨x, (h sd' x y).mp h1, by rw [Side.other_other], rfl⟩
    · rintro ⟨h1, _, h3⟩
      exact ⟨h1, fun ⟨_, _, e, e3⟩ => h3 (by rw [(Prod.mk.inj e).1, e3, Side.other_other])⟩

theorem deleteEntity_sym {s : St K} {sd : Side} {id : K} (h : Sym s) (hok : (deleteEntity s sd id).2 = none) :
    Sym (deleteEntity s sd id).1 := by
  cases hid : exists? s (sd, id) with
  | false => rw [deleteEntity_missing hid] at hok; cases hok
  | true =>
    intro sd' a b
    rw [mem_deleteEntity h hid, mem_deleteEntity h hid, Side.other_other, h sd' a b]
    exact ⟨fun ⟨x, y, z⟩ => ⟨x, z, y⟩, fun ⟨x, y, z⟩ => ⟨x, z, y⟩⟩

theorem deleteEntity_allSorted {s : St K} {sd : Side} {id : K} (h : AllSorted s) :
    AllSorted (deleteEntity s sd id).1 := by
  cases hid : exists? s (sd, id) with
  | false => rw [deleteEntity_missing hid]; exact h
  | true =>
    rw [deleteEntity_found hid]
    exact allSorted_del (fun r => by rw [linksOf_rcEntityDeleted]; exact (linksEntityDeleted_frame s sd id).sorted h r) _

theorem rcOf_deleteEntity {s : St K} {w : Int} (h : RcInv s w) {sd : Side} {id : K}
    (hid : exists? s (sd, id) = true) (sd' : Side) (x j : K) :
    rcOf (deleteEntity s sd id).1 (sd', x) j =
      if (sd', x) = (sd, id) ∨ (sd'.other, j) = (sd, id) then none else rcOf s (sd', x) j := by
  have hf := linksEntityDeleted_frame s sd id
  rw [deleteEntity_found hid, rcOf_del, rcOf_rcEntityDeleted, hf.rc, hf.rc]
  by_cases h1 : (sd, id) = (sd', x)
  · rw [if_pos h1, if_pos (Or.inl h1.symm)]
  · rw [if_neg h1]
    by_cases h2 : (sd'.other, j) = (sd, id)
    · rw [if_pos (Or.inr h2)]
      obtain ⟨e1, e2⟩ := Prod.mk.inj h2
      subst e1 e2
      split
      · rfl
      · next hn =>
        rw [h.1 sd' x j]
        exact Decidable.byContradiction fun hc => hn ⟨(Side.other_other sd').symm, hc, rfl⟩
    · rw [if_neg (not_or.mpr ⟨fun e => h1 e.symm, h2⟩), if_neg]
      rintro ⟨e1, _, e3⟩
      exact h2 (by rw [e1, e3, Side.other_other])

theorem create_fresh {s : St K} {r : Ref K} (hid : exists? s r = false) :
    (∀ r', linksOf (s.put r {}) r' = linksOf s r') ∧
    (∀ r' j, rcOf (s.put r {}) r' j = rcOf s r' j) := by
  constructor
  · intro r'; rw [linksOf_put]
    by_cases h : r = r'
    · subst h; simp [linksOf_of_not_exists hid]
    · simp [h]
  · intro r' j; rw [rcOf_put]
    by_cases h : r = r'
    · subst h; simp [rcOf_of_not_exists hid, Map.get]
    · simp [h]

theorem createEntity_blank (s : St K) (sd : Side) (id : K) (links : Option (List K)) :
    createEntity s sd id true links = (s, some .blank) := by simp [createEntity]

theorem createEntity_exists {s : St K} {sd : Side} {id : K} (h : exists? s (sd, id) = true) (links : Option (List K)) :
    createEntity s sd id false links = (s, some .exists) := by
  obtain ⟨e, he, _⟩ := get_of_exists h
  simp [createEntity, he]

theorem createEntity_new {s : St K} {sd : Side} {id : K} (h : exists? s (sd, id) = false) (links : Option (List K)) :
    createEntity s sd id false links =
      match links with
      | none => (s.put (sd, id) {}, none)
      | some ks => setLinks (s.put (sd, id) {}) sd id ks := by
  cases links <;> simp [createEntity, get_none_of_not_exists h]

theorem createEntity_of_ok {s : St K} {sd : Side} {id : K} {blank : Bool} {links : Option (List K)}
    (hok : (createEntity s sd id blank links).2 = none) : blank = false ∧ exists? s (sd, id) = false := by
  cases blank with
  | true => rw [createEntity_blank] at hok; cases hok
  | false =>
    cases hex : exists? s (sd, id) with
    | true => rw [createEntity_exists hex] at hok; cases hok
    | false => exact ⟨rfl, rfl⟩

theorem updateEntity_missing {s : St K} {sd : Side} {id : K} (h : exists? s (sd, id) = false) (links : List K)
    (p : Bool) : updateEntity s sd id links p = (s, some .notFound) := by
  simp [updateEntity, get_none_of_not_exists h]

theorem updateEntity_found {s : St K} {sd : Side} {id : K} (h : exists? s (sd, id) = true) (links : List K)
    (p : Bool) : updateEntity s sd id links p = if p then setLinks s sd id links else (s, none) := by
  obtain ⟨e, he, _⟩ := get_of_exists h
  simp [updateEntity, he]

theorem updateEntity_of_ok {s : St K} {sd : Side} {id : K} {links : List K} {p : Bool}
    (hok : (updateEntity s sd id links p).2 = none) :
    updateEntity s sd id links p = if p then setLinks s sd id links else (s, none) := by
  cases hex : exists? s (sd, id) with
  | true => exact updateEntity_found hex links p
  | false => rw [updateEntity_missing hex] at hok; cases hok

end
end StorageModel.C05
