import StorageModel.C05.Merge
/-
  C05 — `SetLinks` on states: for any two buckets (`setAt`: the exact result, the failure on a missing entity), then
  read off for the two-store wiring; and every collection operation unfolded on an existing / a missing local entity.
-/
set_option linter.unusedSectionVars false
namespace StorageModel.C05

section
variable {K : Type} [KOrd K] [DecidableEq K]

def setAt (p : Ref K) (q : K → Ref K) (id : K) (req : List K) (s : St K) : St K × Option Err :=
  linkAllAt p q id ((mergeWalk (linksOf s p) (sortK req) [] []).2.1 ++ (mergeWalk (linksOf s p) (sortK req) [] []).1)
    (unlinkAllAt p q id (mergeWalk (linksOf s p) (sortK req) [] []).2.2 s)

theorem setAt_frame (p : Ref K) (q : K → Ref K) (id : K) (req : List K) (s : St K) : LinkFrame s (setAt p q id req s).1 :=
  (unlinkAllAt_frame p q id _ s).trans (linkAllAt_frame p q id _ _)

variable {p : Ref K} {q : K → Ref K} {id : K}

/-- `hq` admits both wirings: a requested, kept or dropped key may be the entity itself, whose
    bucket is then `p` again (`q k = p` only for `k = id`) -/
theorem setAt_ok {s : St K} {req : List K} (hs : AllSorted s) (hp : exists? s p = true)
    (hall : ∀ k ∈ req, exists? s (q k) = true) (hq : ∀ k, q k = p → k = id) :
    (setAt p q id req s).2 = none ∧
    linksOf (setAt p q id req s).1 p = dedupK (sortK req) ∧
    (∀ r, r ≠ p → (∀ k, r ≠ q k) → ∀ y, y ∈ linksOf (setAt p q id req s).1 r ↔ y ∈ linksOf s r) := by
  unfold setAt
  obtain ⟨A, B, C⟩ := mergeWalk_sets (linksOf s p) req (hs p)
  generalize mergeWalk (linksOf s p) (sortK req) [] [] = w at A B C
  have hp1 : exists? (unlinkAllAt p q id w.2.2 s) p = true := by rw [(unlinkAllAt_frame _ _ _ _ _).ex]; exact hp
  have hall1 : ∀ k ∈ w.2.1 ++ w.1, exists? (unlinkAllAt p q id w.2.2 s) (q k) = true := by
    intro k hk; rw [(unlinkAllAt_frame _ _ _ _ _).ex]; exact hall k (B k hk)
  obtain ⟨hok, hmem⟩ := linkAllAt_ok (id := id) (w.2.1 ++ w.1) hp1 hall1
  refine ⟨hok, ?_, ?_⟩
  · apply ssorted_ext (((unlinkAllAt_frame p q id _ s).trans (linkAllAt_frame p q id _ _)).sorted hs p) (ssorted_dedup_sort req)
    intro y
    rw [hmem, mem_unlinkAllAt, mem_dedup_sort]
    constructor
    · rintro (⟨h1, h2⟩ | ⟨k, hk, ⟨_, rfl⟩ | ⟨e, rfl⟩⟩)
      · exact Classical.byContradiction fun hn => h2 ⟨y, (A y).mpr ⟨h1, hn⟩, Or.inl ⟨rfl, rfl⟩⟩
      · exact B _ hk
      · rw [← hq k e.symm]; exact B k hk
    · intro h
      rcases C y h with h' | h'
      · exact Or.inr ⟨y, h', Or.inl ⟨rfl, rfl⟩⟩
      · refine Or.inl ⟨h', ?_⟩
        rintro ⟨k, hk, ⟨_, rfl⟩ | ⟨e, rfl⟩⟩
        · exact ((A _).mp hk).2 h
        · rw [hq k e.symm] at hk; exact ((A _).mp hk).2 h
  · intro r hr hrq y
    rw [hmem, mem_unlinkAllAt]
    exact ⟨fun h => h.elim (fun h => h.1) fun ⟨k, _, h⟩ => h.elim (fun e => absurd e.1 hr) (fun e => absurd e.1 (hrq k)),
      fun h => Or.inl ⟨h, fun ⟨k, _, h⟩ => h.elim (fun e => hr e.1) (fun e => hrq k e.1)⟩⟩

theorem setAt_keeps_ok {P : St K → Prop}
    (hl : ∀ s k, P s → exists? s p = true → exists? s (q k) = true → P (linkAt s p (q k) id k).1)
    (hu : ∀ s k, P s → P (unlinkAt s p (q k) id k)) {s : St K} {req : List K} (hs : P s)
    (hp : exists? s p = true) (hok : (setAt p q id req s).2 = none) : P (setAt p q id req s).1 :=
  linkAllAt_keeps_ok hl _ (foldl_keeps hu _ hs) (by rw [(unlinkAllAt_frame _ _ _ _ _).ex]; exact hp) hok

theorem setAt_missing {s : St K} {req : List K} (hs : AllSorted s)
    (hcur : ∀ k ∈ linksOf s p, exists? s (q k) = true) (hmiss : ∃ k ∈ req, exists? s (q k) = false) :
    (setAt p q id req s).2 = some .notFound := by
  obtain ⟨_, _, C⟩ := mergeWalk_sets (linksOf s p) req (hs p)
  apply linkAllAt_missing
  obtain ⟨k, hk, hm⟩ := hmiss
  refine ⟨k, ?_, by rw [(unlinkAllAt_frame _ _ _ _ _).ex]; exact hm⟩
  rcases C k hk with h | h
  · exact h
  · rw [hcur k h] at hm; cases hm

theorem setLinks_unfold {s : St K} {sd : Side} {id : K} (req : List K) (hid : exists? s (sd, id) = true) :
    setLinks s sd id req = setAt (sd, id) (fun k => (sd.other, k)) id req s := by
  obtain ⟨e, hg, hl, _⟩ := get_of_exists hid
  unfold setLinks setAt; rw [hg]; simp only [hl, linkAll_eq, unlinkAll_eq]

theorem setLinks_missing_local {s : St K} {sd : Side} {id : K} (req : List K) (hid : exists? s (sd, id) = false) :
    setLinks s sd id req = (s, some .missing) := by
  unfold setLinks; rw [get_none_of_not_exists hid]

theorem setLinks_ok {s : St K} {sd : Side} {id : K} {req : List K} (hs : AllSorted s)
    (hid : exists? s (sd, id) = true) (hall : ∀ k ∈ req, exists? s (sd.other, k) = true) :
    (setLinks s sd id req).2 = none ∧
    linksOf (setLinks s sd id req).1 (sd, id) = dedupK (sortK req) ∧
    (∀ x, x ≠ id → ∀ y, y ∈ linksOf (setLinks s sd id req).1 (sd, x) ↔ y ∈ linksOf s (sd, x)) := by
  rw [setLinks_unfold req hid]
  obtain ⟨a, b, c⟩ := setAt_ok (id := id) hs hid hall (fun k e => absurd (Prod.mk.inj e).1 (Side.other_ne sd))
  exact ⟨a, b, fun x hx => c (sd, x) (fun e => hx (Prod.mk.inj e).2)
    (fun k e => Side.ne_other sd (Prod.mk.inj e).1)⟩

theorem setLinks_sym {s : St K} {sd : Side} {id : K} {req : List K} (h : Sym s)
    (hok : (setLinks s sd id req).2 = none) : Sym (setLinks s sd id req).1 := by
  cases hid : exists? s (sd, id) with
  | false => rw [setLinks_missing_local req hid]; exact h
  | true =>
    rw [setLinks_unfold req hid] at hok ⊢
    exact setAt_keeps_ok (P := Sym) (fun _ _ ht hp hk => sym_link ht hk hp) (fun _ k ht => sym_unlink ht sd id k) h hid hok

theorem setLinks_frame (s : St K) (sd : Side) (id : K) (req : List K) : LinkFrame s (setLinks s sd id req).1 := by
  cases hid : exists? s (sd, id) with
  | false => rw [setLinks_missing_local req hid]; exact LinkFrame.refl s
  | true => rw [setLinks_unfold req hid]; exact setAt_frame _ _ id req s

/-- under symmetry every current link points to an existing entity, so a request naming a
    missing one fails -/
theorem setLinks_missing {s : St K} {sd : Side} {id : K} {req : List K} (h : Sym s) (hs : AllSorted s)
    (hid : exists? s (sd, id) = true) (hmiss : ∃ k ∈ req, exists? s (sd.other, k) = false) :
    (setLinks s sd id req).2 = some .notFound := by
  rw [setLinks_unfold req hid]
  exact setAt_missing hs (fun k hk => exists_of_mem_linksOf ((h sd id k).mp hk)) hmiss

theorem setLinks_err (s : St K) (sd : Side) (id : K) (req : List K) :
    (setLinks s sd id req).2 = none ∨ (setLinks s sd id req).2 = some .notFound ∨
      (setLinks s sd id req).2 = some .missing := by
  cases hid : exists? s (sd, id) with
  | false => rw [setLinks_missing_local req hid]; right; right; rfl
  | true =>
    rw [setLinks_unfold req hid]
    rcases linkAllAt_err (p := (sd, id)) (q := fun k => (sd.other, k)) (id := id) _ (unlinkAllAt _ _ id _ s) with h | h
    · left; exact h
    · right; left; exact h

theorem addLinks_unfold {s : St K} {sd : Side} {id : K} (ks : List K) (hid : exists? s (sd, id) = true) :
    addLinks s sd id ks = linkAll sd id ks s := by
  obtain ⟨e, hg, _⟩ := get_of_exists hid
  unfold addLinks; rw [hg]

theorem addLinks_missing_local {s : St K} {sd : Side} {id : K} (ks : List K) (hid : exists? s (sd, id) = false) :
    addLinks s sd id ks = (s, some .missing) := by
  unfold addLinks; rw [get_none_of_not_exists hid]

theorem removeLinks_unfold {s : St K} {sd : Side} {id : K} (ks : List K) (hid : exists? s (sd, id) = true) :
    removeLinks s sd id ks = (unlinkAll sd id ks s, none) := by
  obtain ⟨e, hg, _⟩ := get_of_exists hid
  unfold removeLinks; rw [hg]

theorem removeLinks_missing_local {s : St K} {sd : Side} {id : K} (ks : List K) (hid : exists? s (sd, id) = false) :
    removeLinks s sd id ks = (s, some .missing) := by
  unfold removeLinks; rw [get_none_of_not_exists hid]

theorem addLink_unfold {s : St K} {sd : Side} {id : K} (k : K) (hid : exists? s (sd, id) = true) :
    addLink s sd id k = ((link s sd id k).1, !((linksOf s (sd, id)).contains k), (link s sd id k).2) := by
  obtain ⟨e, hg, hl, _⟩ := get_of_exists hid
  unfold addLink; rw [hg]; simp only; rw [hl]

theorem addLink_missing_local {s : St K} {sd : Side} {id : K} (k : K) (hid : exists? s (sd, id) = false) :
    addLink s sd id k = (s, false, some .missing) := by
  unfold addLink; rw [get_none_of_not_exists hid]

theorem removeLink_unfold {s : St K} {sd : Side} {id : K} (k : K) (hid : exists? s (sd, id) = true) :
    removeLink s sd id k = (unlink s sd id k, (linksOf s (sd, id)).contains k, none) := by
  obtain ⟨e, hg, hl, _⟩ := get_of_exists hid
  unfold removeLink; rw [hg]; simp only; rw [hl]

theorem removeLink_missing_local {s : St K} {sd : Side} {id : K} (k : K) (hid : exists? s (sd, id) = false) :
    removeLink s sd id k = (s, false, some .missing) := by
  unfold removeLink; rw [get_none_of_not_exists hid]

theorem addLinks_frame (s : St K) (sd : Side) (id : K) (ks : List K) : LinkFrame s (addLinks s sd id ks).1 := by
  cases hid : exists? s (sd, id) with
  | false => rw [addLinks_missing_local ks hid]; exact LinkFrame.refl s
  | true => rw [addLinks_unfold ks hid]; exact linkAll_frame sd id ks s

theorem removeLinks_frame (s : St K) (sd : Side) (id : K) (ks : List K) : LinkFrame s (removeLinks s sd id ks).1 := by
  cases hid : exists? s (sd, id) with
  | false => rw [removeLinks_missing_local ks hid]; exact LinkFrame.refl s
  | true => rw [removeLinks_unfold ks hid]; exact unlinkAll_frame sd id ks s

theorem addLink_frame (s : St K) (sd : Side) (id k : K) : LinkFrame s (addLink s sd id k).1 := by
  cases hid : exists? s (sd, id) with
  | false => rw [addLink_missing_local k hid]; exact LinkFrame.refl s
  | true => rw [addLink_unfold k hid]; exact link_frame s sd id k

theorem removeLink_frame (s : St K) (sd : Side) (id k : K) : LinkFrame s (removeLink s sd id k).1 := by
  cases hid : exists? s (sd, id) with
  | false => rw [removeLink_missing_local k hid]; exact LinkFrame.refl s
  | true => rw [removeLink_unfold k hid]; exact unlink_frame s sd id k

end
end StorageModel.C05
