import StorageModel.C05.Schema
/-
  C05 — schema-parametrised model.  The proofs (this file, SchemaSim, SchemaStep, SchemaHist): under the coherence
  invariant `GInv` every successful operation moves the slot of each declared collection by successful operations of
  its base model (`gstep_ok`), so after any history a slot is a committed state of C05/Model.lean resp. C05/SelfW.lean
  (`slot_reachable`, `self_slot_reachable`) and inherits their theorems.  Here: which store sits at which side of a
  collection, slots that hold no counts / no link keys, and what one collection
  operation leaves alone.
-/
set_option linter.unusedSectionVars false
namespace StorageModel.C05.Schema
open StorageModel.C05

/-- no store sits at both sides of a collection: the two sides of a plain or ref-counted one belong
    to different families, a self-referential one has no side `B` -/
theorem storeAt_A_ne_B (c : Coll) (x : Store) (hA : c.storeAt .A = some x) (hB : c.storeAt .B = some x) : False := by
  cases c <;> simp only [Coll.storeAt, Option.some.injEq, reduceCtorEq] at hA hB
  all_goals (rw [← hA] at hB; cases hB)

theorem sideOf_eq_some_iff (c : Coll) (x : Store) (sd : Side) : c.sideOf x = some sd ↔ c.storeAt sd = some x := by
  unfold Coll.sideOf
  cases sd with
  | A =>
    constructor
    · intro h
      split at h
      · assumption
      · split at h <;> cases h
    · intro h; rw [if_pos h]
  | B =>
    constructor
    · intro h
      split at h
      · cases h
      · split at h
        · assumption
        · cases h
    · intro h; rw [if_neg (fun hA => storeAt_A_ne_B c x hA h), if_pos h]

theorem sideOf_eq_none_iff (c : Coll) (x : Store) : c.sideOf x = none ↔ ∀ sd, c.storeAt sd ≠ some x := by
  constructor
  · intro h sd hs
    rw [(sideOf_eq_some_iff c x sd).mpr hs] at h; cases h
  · intro h
    cases hs : c.sideOf x with
    | none => rfl
    | some sd => exact absurd ((sideOf_eq_some_iff c x sd).mp hs) (h sd)

theorem sideOf_self {sd s : Side} {ch : Bool} {x : Store} (h : (Coll.self sd ch).sideOf x = some s) : s = .A := by
  have := (sideOf_eq_some_iff _ _ _).mp h
  cases s with
  | A => rfl
  | B => simp [Coll.storeAt] at this

theorem storeAt_family_unique (c : Coll) {s s' : Side} {sd : Side} {ch ch' : Bool}
    (h : c.storeAt s = some ⟨sd, ch⟩) (h' : c.storeAt s' = some ⟨sd, ch'⟩) : s = s' ∧ ch = ch' := by
  cases c <;> cases s <;> cases s' <;> cases sd <;> simp [Coll.storeAt] at h h' <;>
    first
    | exact ⟨rfl, by rw [← h, ← h']⟩
    | (obtain ⟨a, b⟩ := h; obtain ⟨a', b'⟩ := h'; first | exact ⟨rfl, by rw [← b, ← b']⟩ | (subst a; cases a'))

theorem famSide_eq_some_iff (c : Coll) (sd s : Side) : c.famSide sd = some s ↔ ∃ ch, c.storeAt s = some ⟨sd, ch⟩ := by
  unfold Coll.famSide
  cases h1 : c.sideOf ⟨sd, false⟩ with
  | some s1 =>
    have e1 := (sideOf_eq_some_iff c _ s1).mp h1
    simp only [Option.some.injEq]
    constructor
    · intro e; subst e; exact ⟨false, e1⟩
    · rintro ⟨ch, e⟩; exact (storeAt_family_unique c e1 e).1
  | none =>
    simp only
    constructor
    · intro e; exact ⟨true, (sideOf_eq_some_iff c _ s).mp e⟩
    · rintro ⟨ch, e⟩
      cases ch with
      | true => exact (sideOf_eq_some_iff c _ s).mpr e
      | false => exact absurd e ((sideOf_eq_none_iff c _).mp h1 s)

theorem famSide_eq_none_iff (c : Coll) (sd : Side) : c.famSide sd = none ↔ ∀ s ch, c.storeAt s ≠ some ⟨sd, ch⟩ := by
  constructor
  · intro h s ch hs
    rw [(famSide_eq_some_iff c sd s).mpr ⟨ch, hs⟩] at h; cases h
  · intro h
    cases hs : c.famSide sd with
    | none => rfl
    | some s => obtain ⟨ch, e⟩ := (famSide_eq_some_iff c sd s).mp hs; exact absurd e (h s ch)

theorem storeAt_side {c : Coll} (hc : ∀ sd ch, c ≠ .self sd ch) {s : Side} {y : Store}
    (h : c.storeAt s = some y) : y.side = s := by
  cases c with
  | self sd ch => exact absurd rfl (hc sd ch)
  | plain ca cb => cases s <;> simp [Coll.storeAt] at h <;> rw [← h]
  | rc ca cb => cases s <;> simp [Coll.storeAt] at h <;> rw [← h]

section
variable {K : Type} [KOrd K] [DecidableEq K]

def NoRc (s : St K) : Prop := ∀ r k, rcOf s r k = none
def NoLinks (s : St K) : Prop := ∀ r, linksOf s r = []

theorem noRc_of_eq {s s' : St K} (h : NoRc s) (he : ∀ r k, rcOf s' r k = rcOf s r k) : NoRc s' :=
  fun r k => by rw [he]; exact h r k

theorem noLinks_of_eq {s s' : St K} (h : NoLinks s) (he : ∀ r, linksOf s' r = linksOf s r) : NoLinks s' :=
  fun r => by rw [he]; exact h r

theorem map_eq_nil_of_get_none (m : Map K Int) (h : ∀ k, m.get k = none) : m = [] := by
  cases m with
  | nil => rfl
  | cons p m => obtain ⟨a, v⟩ := p; have := h a; simp [Map.get] at this

theorem del_of_not_exists {s : St K} {r : Ref K} (h : exists? s r = false) : s.del r = s := by
  unfold exists? at h
  induction s with
  | nil => rfl
  | cons p s ih =>
    obtain ⟨a, v⟩ := p
    simp only [Map.get] at h
    by_cases ha : a = r
    · simp [ha] at h
    · simp only [ha, if_false] at h
      have := ih h
      unfold Map.del at this ⊢
      simp only [List.filter, ne_eq, ha, not_false_eq_true, decide_true]
      rw [this]

theorem rcEntityDeleted_noRc {s : St K} (h : NoRc s) (sd : Side) (id : K) : rcEntityDeleted s sd id = s := by
  unfold rcEntityDeleted
  cases hg : s.get (sd, id) with
  | none => rfl
  | some e =>
    have : e.rc = [] := map_eq_nil_of_get_none e.rc fun k => by
      have := h (sd, id) k; simpa [rcOf, hg] using this
    simp [this]

theorem linksEntityDeleted_noLinks {s : St K} (h : NoLinks s) (sd : Side) (id : K) : linksEntityDeleted s sd id = s := by
  unfold linksEntityDeleted; rw [h]; rfl

theorem deleteEntity_plain {s : St K} (h : NoRc s) {sd : Side} {id : K} (hid : exists? s (sd, id) = true) :
    deleteEntity s sd id = ((linksEntityDeleted s sd id).del (sd, id), none) := by
  rw [deleteEntity_found hid, rcEntityDeleted_noRc (noRc_of_eq h (linksEntityDeleted_frame s sd id).rc)]

theorem deleteEntity_rc {s : St K} (h : NoLinks s) {sd : Side} {id : K} (hid : exists? s (sd, id) = true) :
    deleteEntity s sd id = ((rcEntityDeleted s sd id).del (sd, id), none) := by
  rw [deleteEntity_found hid, linksEntityDeleted_noLinks h]

theorem step_plain_frame (s : St K) (op : PlainOp K) : LinkFrame s (step s op.toOp).st := by
  cases op with
  | addLinks sd id keys => exact addLinks_frame s sd id keys
  | removeLinks sd id keys => exact removeLinks_frame s sd id keys
  | setLinks sd id keys => exact setLinks_frame s sd id keys
  | addLink sd id k => exact addLink_frame s sd id k
  | removeLink sd id k => exact removeLink_frame s sd id k
  | getLinks sd id => exact LinkFrame.refl s
  | isLinked sd id k => exact LinkFrame.refl s

theorem sameLinks_step_rc (s : St K) (op : RcOp K) : SameLinks s (step s op.toOp).st := by
  cases op with
  | incr sd id k => exact sameLinks_rcIncr s sd id k
  | decr sd id k => exact sameLinks_rcDecr s sd id k
  | setCount sd id k c => exact sameLinks_rcSet s sd id k c
  | getCounts sd id k => exact fun _ => ⟨rfl, rfl⟩

theorem exists_sstepW_link (s : St K) (op : PlainOp K) (r : Ref K) :
    exists? (SelfW.sstepW s op.toSOp).st r = exists? s r := by
  cases op with
  | addLinks sd id keys =>
    simp only [PlainOp.toSOp, SelfW.sstepW, SelfW.saddLinks]
    cases hg : s.get (SelfW.R id) with
    | none => rfl
    | some e => simp only; rw [SelfW.slinkAll_eq, (linkAllAt_frame _ _ _ _ _).ex]
  | removeLinks sd id keys =>
    simp only [PlainOp.toSOp, SelfW.sstepW, SelfW.sremoveLinks]
    cases hg : s.get (SelfW.R id) with
    | none => rfl
    | some e => simp only; rw [SelfW.sunlinkAll_eq, (unlinkAllAt_frame _ _ _ _ _).ex]
  | setLinks sd id keys => simp only [PlainOp.toSOp, SelfW.sstepW]; rw [(SelfW.ssetLinks_frame _ _ _).ex]
  | addLink sd id k =>
    simp only [PlainOp.toSOp, SelfW.sstepW, SelfW.saddLink]
    cases hg : s.get (SelfW.R id) with
    | none => rfl
    | some e => exact (linkAt_frame s _ _ id k).ex r
  | removeLink sd id k =>
    simp only [PlainOp.toSOp, SelfW.sstepW, SelfW.sremoveLink]
    cases hg : s.get (SelfW.R id) with
    | none => rfl
    | some e => exact (unlinkAt_frame s _ _ id k).ex r
  | getLinks sd id => rfl
  | isLinked sd id k => rfl

end
end StorageModel.C05.Schema
