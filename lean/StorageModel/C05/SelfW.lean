import StorageModel.C05.Hist
/-
  C05 — the self-referential wiring: ONE store whose set symbol is linked with itself
  (`store.AddLinkCollection(peers, peers)`), so that `otherField` is the collection's own field and
  an entity can be linked to itself.  The operations are the same Go functions; the model is the
  same state type restricted to one side (`(Side.A, id)`), with "the other side" being that same
  side.  `sEntityDeleted` follows the repaired `EntityDeleted` (b23d525): the keys are collected
  first and then removed, i.e. a fold over the snapshot of the bucket — which matters exactly
  here, because `RemoveLink(id, id)` deletes from the bucket being walked.
-/
set_option linter.unusedSectionVars false
namespace StorageModel.C05.SelfW
open StorageModel.C05

section
variable {K : Type} [KOrd K] [DecidableEq K]

abbrev R (x : K) : Ref K := (Side.A, x)

theorem R_inj {x y : K} : R x = R y ↔ x = y := by simp [R]

def L (s : St K) (x : K) : List K := linksOf s (R x)

/-! ### operations (link_collection.go with field = otherField) -/

def slink (s : St K) (id k : K) : St K × Option Err :=
  symAddLink (upd s (R id) fun e => { e with links := insertS k e.links }) (R k) id

def sunlink (s : St K) (id k : K) : St K :=
  symRemoveLink (upd s (R id) fun e => { e with links := eraseS k e.links }) (R k) id

def slinkAll (id : K) : List K → St K → St K × Option Err
  | [], s => (s, none)
  | k :: ks, s =>
    match slink s id k with
    | (s', some e) => (s', some e)
    | (s', none) => slinkAll id ks s'

def sunlinkAll (id : K) : List K → St K → St K
  | [], s => s
  | k :: ks, s => sunlinkAll id ks (sunlink s id k)

def saddLinks (s : St K) (id : K) (keys : List K) : St K × Option Err :=
  match s.get (R id) with
  | none => (s, some .missing)
  | some _ => slinkAll id keys s

def sremoveLinks (s : St K) (id : K) (keys : List K) : St K × Option Err :=
  match s.get (R id) with
  | none => (s, some .missing)
  | some _ => (sunlinkAll id keys s, none)

def saddLink (s : St K) (id k : K) : St K × Bool × Option Err :=
  match s.get (R id) with
  | none => (s, false, some .missing)
  | some e =>
    let r := slink s id k
    (r.1, !(e.links.contains k), r.2)

def sremoveLink (s : St K) (id k : K) : St K × Bool × Option Err :=
  match s.get (R id) with
  | none => (s, false, some .missing)
  | some e => (sunlink s id k, e.links.contains k, none)

def ssetLinks (s : St K) (id : K) (keys : List K) : St K × Option Err :=
  match s.get (R id) with
  | none => (s, some .missing)
  | some e =>
    let w := mergeWalk e.links (sortK keys) [] []
    slinkAll id (w.2.1 ++ w.1) (sunlinkAll id w.2.2 s)

/-- repaired `EntityDeleted`: collect the keys, then `RemoveLink(key, id)` for each -/
def sEntityDeleted (s : St K) (id : K) : St K :=
  (L s id).foldl (fun s k => symRemoveLink s (R k) id) s

def sdelete (s : St K) (id : K) : St K × Option Err :=
  match s.get (R id) with
  | none => (s, some .notFound)
  | some _ => ((sEntityDeleted s id).del (R id), none)

def screate (s : St K) (id : K) (blank : Bool) (links : Option (List K)) : St K × Option Err :=
  if blank then (s, some .blank)
  else match s.get (R id) with
  | some _ => (s, some .exists)
  | none =>
    match links with
    | none => (s.put (R id) {}, none)
    | some ks => ssetLinks (s.put (R id) {}) id ks

inductive SOp (K : Type)
  | create (id : K) (blank : Bool) (links : Option (List K))
  | delete (id : K)
  | addLinks (id : K) (keys : List K)
  | removeLinks (id : K) (keys : List K)
  | setLinks (id : K) (keys : List K)
  | addLink (id k : K)
  | removeLink (id k : K)
  | getLinks (id : K)

def sstepW (s : St K) : SOp K → Out K
  | .create id blank links => let r := screate s id blank links; { st := r.1, err := r.2 }
  | .delete id => let r := sdelete s id; { st := r.1, err := r.2 }
  | .addLinks id keys => let r := saddLinks s id keys; { st := r.1, err := r.2 }
  | .removeLinks id keys => let r := sremoveLinks s id keys; { st := r.1, err := r.2 }
  | .setLinks id keys => let r := ssetLinks s id keys; { st := r.1, err := r.2 }
  | .addLink id k => let r := saddLink s id k; { st := r.1, ret := .bool r.2.1, err := r.2.2 }
  | .removeLink id k => let r := sremoveLink s id k; { st := r.1, ret := .bool r.2.1, err := r.2.2 }
  | .getLinks id => { st := s, ret := .keys (L s id) }

def srunOpsW : St K → List (SOp K) → St K × Bool
  | s, [] => (s, false)
  | s, op :: ops =>
    let o := sstepW s op
    match o.err with
    | some _ => (o.st, true)
    | none => srunOpsW o.st ops

def scommitW (s : St K) (ops : List (SOp K)) : St K :=
  let r := srunOpsW s ops
  if r.2 then s else r.1

def srunHistW (s : St K) (txs : List (List (SOp K))) : St K := txs.foldl scommitW s

/-! ### link / unlink: the wiring of C05/Links.lean with every bucket on side `A` -/

/-- symmetric: b is in a's set iff a is in b's -/
def SymW (s : St K) : Prop := ∀ a b, b ∈ L s a ↔ a ∈ L s b

theorem symW_nil : SymW ([] : St K) := by intro a b; simp [L, linksOf, Map.get]

theorem slinkAll_eq (id : K) (ks : List K) (s : St K) : slinkAll id ks s = linkAllAt (R id) R id ks s := by
  induction ks generalizing s with
  | nil => rfl
  | cons k ks ih => unfold slinkAll linkAllAt; simp only [ih]; rfl

theorem sunlinkAll_eq (id : K) (ks : List K) (s : St K) : sunlinkAll id ks s = unlinkAllAt (R id) R id ks s := by
  induction ks generalizing s with
  | nil => rfl
  | cons k ks ih => unfold sunlinkAll; rw [ih]; rfl

theorem mem_slink {s : St K} {id k : K} (hk : exists? s (R k) = true) (hid : exists? s (R id) = true) (x y : K) :
    y ∈ L (slink s id k).1 x ↔ y ∈ L s x ∨ (x = id ∧ y = k) ∨ (x = k ∧ y = id) :=
  (mem_linkAt hk hid (R x) y).trans (by simp only [R_inj, L])

theorem mem_sunlink (s : St K) (id k x y : K) :
    y ∈ L (sunlink s id k) x ↔ y ∈ L s x ∧ ¬((x = id ∧ y = k) ∨ (x = k ∧ y = id)) :=
  (mem_unlinkAt s (R id) (R k) id k (R x) y).trans (by simp only [R_inj, L])

/-- the two pairs a link adds are each other's mirror image — also when they coincide (a self link) -/
theorem symW_slink {s : St K} (h : SymW s) {id k : K} (hk : exists? s (R k) = true) (hid : exists? s (R id) = true) :
    SymW (slink s id k).1 := by
  intro a b
  rw [mem_slink hk hid, mem_slink hk hid, h a b]
  exact or_congr_right ⟨fun h => h.symm.imp And.symm And.symm, fun h => h.symm.imp And.symm And.symm⟩

theorem symW_sunlink {s : St K} (h : SymW s) (id k : K) : SymW (sunlink s id k) := by
  intro a b
  rw [mem_sunlink, mem_sunlink, h a b]
  exact and_congr_right fun _ => not_congr ⟨fun h => h.symm.imp And.symm And.symm, fun h => h.symm.imp And.symm And.symm⟩

theorem slinkAll_err (id : K) (ks : List K) (s : St K) :
    (slinkAll id ks s).2 = none ∨ (slinkAll id ks s).2 = some .notFound := by
  rw [slinkAll_eq]; exact linkAllAt_err ks s

theorem symW_slinkAll (id : K) (ks : List K) {s : St K} (h : SymW s) (hid : exists? s (R id) = true)
    (hok : (slinkAll id ks s).2 = none) : SymW (slinkAll id ks s).1 := by
  rw [slinkAll_eq] at hok ⊢
  exact linkAllAt_keeps_ok (P := SymW) (fun _ _ ht hp hk => symW_slink ht hk hp) ks h hid hok

theorem symW_sunlinkAll (id : K) (ks : List K) {s : St K} (h : SymW s) : SymW (sunlinkAll id ks s) := by
  rw [sunlinkAll_eq]; exact foldl_keeps (P := SymW) (fun _ k ht => symW_sunlink ht id k) ks h

theorem ssetLinks_unfold {s : St K} {id : K} (req : List K) (hid : exists? s (R id) = true) :
    ssetLinks s id req = setAt (R id) R id req s := by
  obtain ⟨e, hg, hl, _⟩ := get_of_exists hid
  unfold ssetLinks setAt; rw [hg]; simp only [hl, slinkAll_eq, sunlinkAll_eq]

theorem ssetLinks_missing_local {s : St K} {id : K} (req : List K) (hid : exists? s (R id) = false) :
    ssetLinks s id req = (s, some .missing) := by
  unfold ssetLinks; rw [get_none_of_not_exists hid]

theorem ssetLinks_ok {s : St K} {id : K} {req : List K} (hs : AllSorted s) (hid : exists? s (R id) = true)
    (hall : ∀ k ∈ req, exists? s (R k) = true) :
    (ssetLinks s id req).2 = none ∧ L (ssetLinks s id req).1 id = dedupK (sortK req) := by
  rw [ssetLinks_unfold req hid]
  obtain ⟨a, b, _⟩ := setAt_ok (id := id) hs hid hall (fun k e => R_inj.mp e)
  exact ⟨a, b⟩

theorem ssetLinks_sym {s : St K} {id : K} {req : List K} (h : SymW s) (hok : (ssetLinks s id req).2 = none) :
    SymW (ssetLinks s id req).1 := by
  cases hid : exists? s (R id) with
  | false => rw [ssetLinks_missing_local req hid]; exact h
  | true =>
    rw [ssetLinks_unfold req hid] at hok ⊢
    exact setAt_keeps_ok (P := SymW) (fun _ _ ht hp hk => symW_slink ht hk hp) (fun _ k ht => symW_sunlink ht id k) h hid hok

theorem ssetLinks_frame (s : St K) (id : K) (req : List K) : LinkFrame s (ssetLinks s id req).1 := by
  cases hid : exists? s (R id) with
  | false => rw [ssetLinks_missing_local req hid]; exact LinkFrame.refl s
  | true => rw [ssetLinks_unfold req hid]; exact setAt_frame _ _ id req s

theorem ssetLinks_missing {s : St K} {id : K} {req : List K} (h : SymW s) (hs : AllSorted s)
    (hid : exists? s (R id) = true) (hmiss : ∃ k ∈ req, exists? s (R k) = false) :
    (ssetLinks s id req).2 = some .notFound := by
  rw [ssetLinks_unfold req hid]
  exact setAt_missing hs (fun k hk => exists_of_mem_linksOf ((h id k).mp hk)) hmiss

theorem sEntityDeleted_frame (s : St K) (id : K) : LinkFrame s (sEntityDeleted s id) :=
  foldl_symRemove_frame _ id _ s

theorem sdelete_missing {s : St K} {id : K} (hid : exists? s (R id) = false) : sdelete s id = (s, some .notFound) := by
  unfold sdelete; rw [get_none_of_not_exists hid]

theorem sdelete_found {s : St K} {id : K} (hid : exists? s (R id) = true) :
    sdelete s id = ((sEntityDeleted s id).del (R id), none) := by
  obtain ⟨e, he, _⟩ := get_of_exists hid
  unfold sdelete; rw [he]

theorem exists_sdelete {s : St K} {id : K} (hid : exists? s (R id) = true) (r : Ref K) :
    exists? (sdelete s id).1 r = if R id = r then false else exists? s r := by
  rw [sdelete_found hid, exists_del, (sEntityDeleted_frame s id).ex]

theorem mem_sdelete {s : St K} (h : SymW s) {id : K} (hid : exists? s (R id) = true) (x y : K) :
    y ∈ L (sdelete s id).1 x ↔ y ∈ L s x ∧ x ≠ id ∧ y ≠ id := by
  show y ∈ linksOf _ (R x) ↔ _
  rw [sdelete_found hid, linksOf_del]
  by_cases hx : x = id
  · subst hx; simp
  · rw [if_neg (fun e => hx (R_inj.mp e).symm)]
    unfold sEntityDeleted
    rw [mem_foldl_symRemove R id (L s id) s (R x) y]
    constructor
    · rintro ⟨h1, h2⟩
      exact ⟨h1, hx, fun e => h2 ⟨x, e ▸ (h x y).mp h1, rfl, e⟩⟩
    · rintro ⟨h1, _, h3⟩
      exact ⟨h1, fun ⟨_, _, _, e⟩ => h3 e⟩

theorem sdelete_sym {s : St K} {id : K} (h : SymW s) (hok : (sdelete s id).2 = none) : SymW (sdelete s id).1 := by
  cases hid : exists? s (R id) with
  | false => rw [sdelete_missing hid] at hok; cases hok
  | true =>
    intro a b
    rw [mem_sdelete h hid, mem_sdelete h hid, h a b]
    exact ⟨fun ⟨x, y, z⟩ => ⟨x, z, y⟩, fun ⟨x, y, z⟩ => ⟨x, z, y⟩⟩

theorem sdelete_allSorted {s : St K} {id : K} (h : AllSorted s) : AllSorted (sdelete s id).1 := by
  cases hid : exists? s (R id) with
  | false => rw [sdelete_missing hid]; exact h
  | true =>
    rw [sdelete_found hid]
    exact allSorted_del ((sEntityDeleted_frame s id).sorted h) _

structure LInvW (s : St K) : Prop where
  sym : SymW s
  sorted : AllSorted s

theorem lInvW_nil : LInvW ([] : St K) := ⟨symW_nil, allSorted_nil⟩

theorem lInvW_of_linksOf_eq {s s' : St K} (h : LInvW s) (he : ∀ r, linksOf s' r = linksOf s r) : LInvW s' := by
  constructor
  · intro a b; show b ∈ linksOf _ (R a) ↔ a ∈ linksOf _ (R b); rw [he, he]; exact h.sym a b
  · intro r; rw [he]; exact h.sorted r

theorem sstepW_lInv {s : St K} (h : LInvW s) (op : SOp K) (hok : (sstepW s op).err = none) : LInvW (sstepW s op).st := by
  cases op with
  | create id blank links =>
    simp only [sstepW] at hok ⊢
    unfold screate at hok ⊢
    cases blank with
    | true => simp at hok
    | false =>
      simp only [Bool.false_eq_true, if_false] at hok ⊢
      cases hg : s.get (R id) with
      | some e => rw [hg] at hok; simp at hok
      | none =>
        rw [hg] at hok; simp only at hok ⊢
        have hne : exists? s (R id) = false := by simp [exists?, hg]
        have h1 := lInvW_of_linksOf_eq h (create_fresh hne).1
        cases links with
        | none => exact h1
        | some ks => simp only at hok ⊢; exact ⟨ssetLinks_sym h1.sym hok, (ssetLinks_frame _ id _).sorted h1.sorted⟩
  | delete id =>
    simp only [sstepW] at hok ⊢
    exact ⟨sdelete_sym h.sym hok, sdelete_allSorted h.sorted⟩
  | addLinks id keys =>
    simp only [sstepW] at hok ⊢
    unfold saddLinks at hok ⊢
    cases hg : s.get (R id) with
    | none => rw [hg] at hok; simp at hok
    | some e =>
      rw [hg] at hok; simp only at hok ⊢
      have hid : exists? s (R id) = true := by simp [exists?, hg]
      exact ⟨symW_slinkAll id keys h.sym hid hok, by rw [slinkAll_eq]; exact (linkAllAt_frame _ _ id keys s).sorted h.sorted⟩
  | removeLinks id keys =>
    simp only [sstepW] at hok ⊢
    unfold sremoveLinks at hok ⊢
    cases hg : s.get (R id) with
    | none => rw [hg] at hok; simp at hok
    | some e => simp only; exact ⟨symW_sunlinkAll id keys h.sym, by rw [sunlinkAll_eq]; exact (unlinkAllAt_frame _ _ id keys s).sorted h.sorted⟩
  | setLinks id keys =>
    simp only [sstepW] at hok ⊢
    exact ⟨ssetLinks_sym h.sym hok, (ssetLinks_frame s id _).sorted h.sorted⟩
  | addLink id k =>
    simp only [sstepW] at hok ⊢
    unfold saddLink at hok ⊢
    cases hg : s.get (R id) with
    | none => rw [hg] at hok; simp at hok
    | some e =>
      rw [hg] at hok; simp only at hok ⊢
      have hid : exists? s (R id) = true := by simp [exists?, hg]
      rw [show (slink s id k).2 = _ from linkAt_err s (R id) (R k) id k] at hok
      cases hk : exists? s (R k) with
      | false => simp [hk] at hok
      | true => exact ⟨symW_slink h.sym hk hid, (linkAt_frame s _ _ id k).sorted h.sorted⟩
  | removeLink id k =>
    simp only [sstepW] at hok ⊢
    unfold sremoveLink at hok ⊢
    cases hg : s.get (R id) with
    | none => rw [hg] at hok; simp at hok
    | some e => simp only; exact ⟨symW_sunlink h.sym id k, (unlinkAt_frame s _ _ id k).sorted h.sorted⟩
  | getLinks id => exact h

theorem srunOpsW_cons_err {s : St K} {op : SOp K} {ops : List (SOp K)} {e : Err} (h : (sstepW s op).err = some e) :
    srunOpsW s (op :: ops) = ((sstepW s op).st, true) := by simp only [srunOpsW, h]

theorem srunOpsW_cons_ok {s : St K} {op : SOp K} {ops : List (SOp K)} (h : (sstepW s op).err = none) :
    srunOpsW s (op :: ops) = srunOpsW (sstepW s op).st ops := by simp only [srunOpsW, h]

theorem srunOpsW_lInv {s : St K} (h : LInvW s) (ops : List (SOp K)) (hok : (srunOpsW s ops).2 = false) :
    LInvW (srunOpsW s ops).1 := by
  induction ops generalizing s with
  | nil => exact h
  | cons op ops ih =>
    cases he : (sstepW s op).err with
    | some e => rw [srunOpsW_cons_err he] at hok; simp at hok
    | none => rw [srunOpsW_cons_ok he] at hok ⊢; exact ih (sstepW_lInv h op he) hok

theorem scommitW_lInv {s : St K} (h : LInvW s) (ops : List (SOp K)) : LInvW (scommitW s ops) := by
  unfold scommitW
  cases hf : (srunOpsW s ops).2 with
  | true => simp only [hf, if_true]; exact h
  | false => simp only [hf, Bool.false_eq_true, if_false]; exact srunOpsW_lInv h ops hf

theorem srunHistW_lInv {s : St K} (h : LInvW s) (txs : List (List (SOp K))) : LInvW (srunHistW s txs) :=
  foldl_keeps (P := LInvW) (fun _ tx hs => scommitW_lInv hs tx) txs h

end
end StorageModel.C05.SelfW
