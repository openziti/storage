import StorageModel.C05.Model
/-
  C05 — frame lemmas: how `linksOf`, `rcOf`, `exists?` change under the primitive writes; before them the three fold
  principles for the loops that cannot fail (`RemoveLinks`, `EntityDeleted`, the specification's `foldl`s, histories).
-/
set_option linter.unusedSectionVars false
namespace StorageModel.C05

theorem foldl_keeps {σ α : Type} {P : σ → Prop} {f : σ → α → σ} (h : ∀ s a, P s → P (f s a)) (l : List α) {s : σ}
    (hs : P s) : P (l.foldl f s) := by
  induction l generalizing s with
  | nil => exact hs
  | cons a l ih => exact ih (h s a hs)

theorem foldl_adds {σ α : Type} {f : σ → α → σ} {M : σ → Prop} {A : α → Prop}
    (h : ∀ s a, M (f s a) ↔ M s ∨ A a) (l : List α) (s : σ) : M (l.foldl f s) ↔ M s ∨ ∃ a ∈ l, A a := by
  induction l generalizing s with
  | nil => simp
  | cons a l ih => rw [List.foldl_cons, ih, h, or_assoc]; simp only [List.mem_cons, exists_eq_or_imp]

theorem foldl_removes {σ α : Type} {f : σ → α → σ} {M : σ → Prop} {A : α → Prop}
    (h : ∀ s a, M (f s a) ↔ M s ∧ ¬ A a) (l : List α) (s : σ) : M (l.foldl f s) ↔ M s ∧ ¬ ∃ a ∈ l, A a := by
  induction l generalizing s with
  | nil => simp
  | cons a l ih => rw [List.foldl_cons, ih, h, and_assoc, ← not_or]; simp only [List.mem_cons, exists_eq_or_imp]

section
variable {K : Type} [KOrd K] [DecidableEq K]

theorem linksOf_put(s : St K) (r r' : Ref K) (e : Ent K) :
    linksOf (s.put r e) r' = if r = r' then e.links else linksOf s r' := by
  unfold linksOf; rw [Map.get_put]; by_cases h : r = r' <;> simp [h]

theorem rcOf_put (s : St K) (r r' : Ref K) (e : Ent K) (k : K) :
    rcOf (s.put r e) r' k = if r = r' then e.rc.get k else rcOf s r' k := by
  unfold rcOf; rw [Map.get_put]; by_cases h : r = r' <;> simp [h]

theorem exists_put (s : St K) (r r' : Ref K) (e : Ent K) :
    exists? (s.put r e) r' = if r = r' then true else exists? s r' := by
  unfold exists?; rw [Map.get_put]; by_cases h : r = r' <;> simp [h]

theorem linksOf_del (s : St K) (r r' : Ref K) :
    linksOf (s.del r) r' = if r = r' then [] else linksOf s r' := by
  unfold linksOf; rw [Map.get_del]; by_cases h : r = r' <;> simp [h]

theorem rcOf_del (s : St K) (r r' : Ref K) (k : K) :
    rcOf (s.del r) r' k = if r = r' then none else rcOf s r' k := by
  unfold rcOf; rw [Map.get_del]; by_cases h : r = r' <;> simp [h]

theorem exists_del (s : St K) (r r' : Ref K) :
    exists? (s.del r) r' = if r = r' then false else exists? s r' := by
  unfold exists?; rw [Map.get_del]; by_cases h : r = r' <;> simp [h]

theorem exists_iff (s : St K) (r : Ref K) : exists? s r = true ↔ ∃ e, s.get r = some e := by
  unfold exists?; cases s.get r <;> simp

theorem get_none_of_not_exists {s : St K} {r : Ref K} (h : exists? s r = false) : s.get r = none := by
  unfold exists? at h; cases hg : s.get r <;> simp_all

theorem get_of_exists {s : St K} {r : Ref K} (h : exists? s r = true) :
    ∃ e, s.get r = some e ∧ e.links = linksOf s r ∧ ∀ k, e.rc.get k = rcOf s r k := by
  unfold exists? at h; unfold linksOf rcOf
  cases hg : s.get r with
  | none => simp [hg] at h
  | some e => exact ⟨e, rfl, rfl, fun _ => rfl⟩

theorem linksOf_of_not_exists {s : St K} {r : Ref K} (h : exists? s r = false) : linksOf s r = [] := by
  unfold exists? at h; unfold linksOf; cases hg : s.get r <;> simp_all

theorem rcOf_of_not_exists {s : St K} {r : Ref K} (h : exists? s r = false) (k : K) : rcOf s r k = none := by
  unfold exists? at h; unfold rcOf; cases hg : s.get r <;> simp_all

theorem exists_of_mem_linksOf {s : St K} {r : Ref K} {k : K} (h : k ∈ linksOf s r) : exists? s r = true := by
  cases he : exists? s r with
  | true => rfl
  | false => rw [linksOf_of_not_exists he] at h; cases h

theorem exists_of_rcOf {s : St K} {r : Ref K} {k : K} {c : Int} (h : rcOf s r k = some c) : exists? s r = true := by
  cases he : exists? s r with
  | true => rfl
  | false => rw [rcOf_of_not_exists he] at h; cases h

theorem linksOf_updL (s : St K) (r r' : Ref K) (g : List K → List K) :
    linksOf (upd s r fun e => { e with links := g e.links }) r' =
      if r = r' ∧ exists? s r = true then g (linksOf s r) else linksOf s r' := by
  unfold upd
  cases hg : s.get r with
  | none =>
    have : exists? s r = false := by simp [exists?, hg]
    simp [this]
  | some e =>
    have : exists? s r = true := by simp [exists?, hg]
    rw [linksOf_put]
    by_cases h : r = r'
    · subst h; simp [this, linksOf, hg]
    · simp [h]

theorem rcOf_updL (s : St K) (r r' : Ref K) (g : List K → List K) (k : K) :
    rcOf (upd s r fun e => { e with links := g e.links }) r' k = rcOf s r' k := by
  unfold upd
  cases hg : s.get r with
  | none => rfl
  | some e =>
    rw [rcOf_put]
    by_cases h : r = r'
    · subst h; simp [rcOf, hg]
    · simp [h]

theorem exists_upd (s : St K) (r r' : Ref K) (f : Ent K → Ent K) :
    exists? (upd s r f) r' = exists? s r' := by
  unfold upd
  cases hg : s.get r with
  | none => rfl
  | some e =>
    rw [exists_put]
    by_cases h : r = r'
    · subst h; simp [exists?, hg]
    · simp [h]

theorem rcOf_updR (s : St K) (r r' : Ref K) (g : Map K Int → Map K Int) (k : K) :
    rcOf (upd s r fun e => { e with rc := g e.rc }) r' k =
      if r = r' then (match s.get r with | some e => (g e.rc).get k | none => none) else rcOf s r' k := by
  unfold upd
  cases hg : s.get r with
  | none =>
    by_cases h : r = r'
    · subst h; simp [rcOf, hg]
    · simp [h]
  | some e =>
    rw [rcOf_put]

theorem linksOf_updR (s : St K) (r r' : Ref K) (g : Map K Int → Map K Int) :
    linksOf (upd s r fun e => { e with rc := g e.rc }) r' = linksOf s r' := by
  unfold upd
  cases hg : s.get r with
  | none => rfl
  | some e =>
    rw [linksOf_put]
    by_cases h : r = r'
    · subst h; simp [linksOf, hg]
    · simp [h]

def AllSorted (s : St K) : Prop := ∀ r, SSorted (linksOf s r)

theorem allSorted_nil : AllSorted ([] : St K) := fun _ => List.Pairwise.nil

theorem allSorted_updL {s : St K} (h : AllSorted s) (r : Ref K) (g : List K → List K)
    (hg : ∀ l, SSorted l → SSorted (g l)) :
    AllSorted (upd s r fun e => { e with links := g e.links }) := by
  intro r'
  rw [linksOf_updL]
  split
  · exact hg _ (h r)
  · exact h r'

/-- what the link-set writes leave alone -/
structure LinkFrame (s s' : St K) : Prop where
  ex : ∀ r, exists? s' r = exists? s r
  rc : ∀ r j, rcOf s' r j = rcOf s r j
  sorted : AllSorted s → AllSorted s'

theorem LinkFrame.refl (s : St K) : LinkFrame s s := ⟨fun _ => rfl, fun _ _ => rfl, id⟩

theorem LinkFrame.trans {s s' s'' : St K} (h : LinkFrame s s') (h' : LinkFrame s' s'') : LinkFrame s s'' :=
  ⟨fun r => (h'.ex r).trans (h.ex r), fun r j => (h'.rc r j).trans (h.rc r j), fun hs => h'.sorted (h.sorted hs)⟩

theorem linkFrame_updL (s : St K) (r : Ref K) (g : List K → List K) (hg : ∀ l, SSorted l → SSorted (g l)) :
    LinkFrame s (upd s r fun e => { e with links := g e.links }) :=
  ⟨fun r' => exists_upd s r r' _, fun r' j => rcOf_updL s r r' g j, fun h => allSorted_updL h r g hg⟩

theorem allSorted_updR {s : St K} (h : AllSorted s) (r : Ref K) (g : Map K Int → Map K Int) :
    AllSorted (upd s r fun e => { e with rc := g e.rc }) := by
  intro r'; rw [linksOf_updR]; exact h r'

theorem allSorted_del {s : St K} (h : AllSorted s) (r : Ref K) : AllSorted (s.del r) := by
  intro r'; rw [linksOf_del]; split
  · exact List.Pairwise.nil
  · exact h r'

end
end StorageModel.C05
