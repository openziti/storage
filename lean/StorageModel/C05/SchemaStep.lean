import StorageModel.C05.SchemaSim
/-
  C05 — schema-parametrised model: every successful operation keeps `GInv` and moves every
  declared collection's slot by successful base-model operations (`gstep_ok`); `DeleteById` succeeds
  iff the root store holds the id (`gdelete_succeeds_iff`).
-/
set_option linter.unusedSectionVars false
namespace StorageModel.C05.Schema
open StorageModel.C05

section
variable {K : Type} [KOrd K] [DecidableEq K]

/-- one slot is replaced by a state its base model reaches, with the same entities and of the same kind -/
theorem setSlot_ok {sc : Schema} {g : GSt K} (h : GInv sc g) {i : Nat} {c' : Coll} (hsi : sc.colls[i]? = some c') {s' : St K}
    {w : Int} {v : Prop} (hex : ∀ r, exists? s' r = exists? (g.slots i) r)
    (hrc : ∀ ca cb, c' = .plain ca cb → NoRc (g.slots i) → NoRc s')
    (hln : ∀ ca cb, c' = .rc ca cb → NoLinks (g.slots i) → NoLinks s')
    (hw : v → 0 ≤ w) (hm : SlotMoves c' (g.slots i) s' w v) : Ok sc g (g.setSlot i s') w v := by
  refine ⟨⟨fun j c hj sd id => ?_, h.par, fun j ca cb hj => ?_, fun j ca cb hj => ?_⟩, fun j c hj => ?_⟩
  · by_cases e : j = i
    · subst e; rw [setSlot_same, hex]; exact h.coh j c hj sd id
    · rw [setSlot_ne g s' e]; exact h.coh j c hj sd id
  · by_cases e : j = i
    · subst e; rw [setSlot_same]; exact hrc ca cb (Option.some.inj (hsi.symm.trans hj)) (h.noRc j ca cb hj)
    · rw [setSlot_ne g s' e]; exact h.noRc j ca cb hj
  · by_cases e : j = i
    · subst e; rw [setSlot_same]; exact hln ca cb (Option.some.inj (hsi.symm.trans hj)) (h.noLinks j ca cb hj)
    · rw [setSlot_ne g s' e]; exact h.noLinks j ca cb hj
  · by_cases e : j = i
    · subst e; rw [hsi] at hj; cases hj; rw [setSlot_same]; exact hm
    · rw [setSlot_ne g s' e]; exact SlotMoves.refl c _ hw

theorem gsetLinks_cases (sc : Schema) (g : GSt K) (x : Store) (i : Nat) (id : K) (keys : List K) :
    gsetLinks sc g x i id keys = (g, some .missing) ∨
    (∃ ca cb sd, sc.colls[i]? = some (.plain ca cb) ∧ gsetLinks sc g x i id keys =
      (g.setSlot i (setLinks (g.slots i) sd id keys).1, (setLinks (g.slots i) sd id keys).2)) ∨
    (∃ sd' c', sc.colls[i]? = some (.self sd' c') ∧ gsetLinks sc g x i id keys =
      (g.setSlot i (SelfW.ssetLinks (g.slots i) id keys).1, (SelfW.ssetLinks (g.slots i) id keys).2)) := by
  unfold gsetLinks
  cases hsi : sc.colls[i]? with
  | none => exact Or.inl rfl
  | some c =>
    cases c with
    | plain ca cb =>
      cases hs : (Coll.plain ca cb).sideOf x with
      | none => exact Or.inl (by simp [hs])
      | some sd => exact Or.inr (Or.inl ⟨ca, cb, sd, rfl, by simp [hs]⟩)
    | rc ca cb => exact Or.inl (by cases hs : (Coll.rc ca cb).sideOf x <;> simp)
    | self sd' c' =>
      cases hs : (Coll.self sd' c').sideOf x with
      | none => exact Or.inl (by simp [hs])
      | some sd => exact Or.inr (Or.inr ⟨sd', c', rfl, by simp [hs]⟩)

theorem gsetLinks_ents (sc : Schema) (g : GSt K) (x : Store) (i : Nat) (id : K) (keys : List K) :
    (gsetLinks sc g x i id keys).1.ents = g.ents := by
  rcases gsetLinks_cases sc g x i id keys with e | ⟨_, _, _, _, e⟩ | ⟨_, _, _, e⟩ <;> rw [e] <;> rfl

theorem gsetLinks_ok {sc : Schema} {g : GSt K} (h : GInv sc g) (x : Store) (i : Nat) (id : K) (keys : List K)
    (hok : (gsetLinks sc g x i id keys).2 = none) {v : Prop} : Ok sc g (gsetLinks sc g x i id keys).1 0 v := by
  rcases gsetLinks_cases sc g x i id keys with e | ⟨ca, cb, sd, hsi, e⟩ | ⟨sd', c', hsi, e⟩ <;> rw [e] at hok ⊢
  · cases hok
  · exact setSlot_ok h hsi (setLinks_frame _ sd id keys).ex (fun _ _ _ hn => noRc_of_eq hn (setLinks_frame _ sd id keys).rc)
      (fun _ _ e => by cases e) (fun _ => Int.le_refl 0) (Moves.single (bop := .setLinks sd id keys)
        (by simpa [step] using hok) fun _ => ⟨trivial, by simp [weight]⟩)
  · exact setSlot_ok h hsi (SelfW.ssetLinks_frame _ id keys).ex (fun _ _ e => by cases e) (fun _ _ e => by cases e)
      (fun _ => Int.le_refl 0) (SMoves.single (sop := .setLinks id keys) (by simpa [SelfW.sstepW] using hok))

theorem gcreate_ok {sc : Schema} {g : GSt K} (h : GInv sc g) (x : Store) (id : K) (blank : Bool)
    (links : Option (Nat × List K)) (hok : (gcreate sc g x id blank links).2 = none) {v : Prop} :
    Ok sc g (gcreate sc g x id blank links).1 0 v := by
  unfold gcreate at hok ⊢
  cases blank with
  | true => simp at hok
  | false =>
    simp only [Bool.false_eq_true, if_false] at hok ⊢
    cases hx : g.ents x id with
    | true => simp [hx] at hok
    | false =>
      simp only [hx, Bool.false_eq_true, if_false] at hok ⊢
      have hroot : ∃ g0 : GSt K, (if (x.child && !g.ents ⟨x.side, false⟩ id) = true then putEntity sc g ⟨x.side, false⟩ id else g) = g0 ∧
          Ok sc g g0 0 v ∧ g0.ents x id = false ∧ (x.child = true → g0.ents ⟨x.side, false⟩ id = true) := by
        by_cases hc : (x.child && !g.ents ⟨x.side, false⟩ id) = true
        · have hch : x.child = true := by
            cases hxc : x.child <;> simp [hxc] at hc ⊢
          have hr : g.ents ⟨x.side, false⟩ id = false := by
            cases hr : g.ents ⟨x.side, false⟩ id <;> simp [hr] at hc ⊢
          refine ⟨_, if_pos hc, putEntity_ok h hr (fun e => by cases e), ?_, fun _ => putEntity_ents_self _ _ _ _⟩
          rw [putEntity_ents_other]
          · exact hx
          · rintro ⟨e, _⟩
            rw [e] at hch; cases hch
        · refine ⟨g, if_neg hc, Ok.refl h fun _ => Int.le_refl 0, hx, fun hch => ?_⟩
          cases hr : g.ents ⟨x.side, false⟩ id with
          | true => rfl
          | false => simp [hch, hr] at hc
      obtain ⟨g0, hg0, hok0, hx0, hpar0⟩ := hroot
      rw [hg0] at hok ⊢
      have hok1 := hok0.trans0 (putEntity_ok hok0.inv hx0 hpar0)
      cases links with
      | none => exact hok1
      | some p =>
        obtain ⟨i, keys⟩ := p
        exact hok1.trans0 (gsetLinks_ok hok1.inv x i id keys hok)

theorem gupdate_ok {sc : Schema} {g : GSt K} (h : GInv sc g) (x : Store) (id : K) (i : Nat) (keys : List K)
    (p : Bool) (hok : (gupdate sc g x id i keys p).2 = none) {v : Prop} : Ok sc g (gupdate sc g x id i keys p).1 0 v := by
  unfold gupdate at hok ⊢
  cases hx : g.ents x id with
  | false => simp [hx] at hok
  | true =>
    simp only [hx, Bool.true_eq_false, if_false] at hok ⊢
    cases p with
    | false => exact Ok.refl h fun _ => Int.le_refl 0
    | true =>
      simp only [if_true] at hok ⊢
      exact gsetLinks_ok h x i id keys hok

theorem cleanupLinks_ginv {sc : Schema} {g : GSt K} (h : GInv sc g) (x : Store) (id : K) :
    GInv sc (cleanupLinks sc g x id) := by
  refine ⟨?_, h.par, ?_, ?_⟩
  · intro j c hj sd id'
    rw [cleanupLinks_slot sc g x id hj, cleanupLinks_ents, ← h.coh j c hj sd id']
    cases c with
    | plain ca cb => cases hs : (Coll.plain ca cb).sideOf x <;> simp [cleanupSlot, hs, (linksEntityDeleted_frame _ _ _).ex]
    | rc ca cb => cases hs : (Coll.rc ca cb).sideOf x <;> simp [cleanupSlot, hs, exists_rcEntityDeleted]
    | self sd' c' => cases hs : (Coll.self sd' c').sideOf x <;> simp [cleanupSlot, hs, (SelfW.sEntityDeleted_frame _ _).ex]
  · intro j ca cb hj
    rw [cleanupLinks_slot sc g x id hj]
    have := h.noRc j ca cb hj
    cases hs : (Coll.plain ca cb).sideOf x with
    | none => simpa [cleanupSlot, hs] using this
    | some sd => simp only [cleanupSlot, hs]; exact noRc_of_eq this (linksEntityDeleted_frame _ sd id).rc
  · intro j ca cb hj
    rw [cleanupLinks_slot sc g x id hj]
    have := h.noLinks j ca cb hj
    cases hs : (Coll.rc ca cb).sideOf x with
    | none => simpa [cleanupSlot, hs] using this
    | some sd => simp only [cleanupSlot, hs]; exact noLinks_of_eq this (linksOf_rcEntityDeleted _ sd id)

theorem exists_dropEntity_slot (sc : Schema) (g : GSt K) (sd : Side) (id : K) {i : Nat} {c : Coll}
    (hi : sc.colls[i]? = some c) (sd' : Side) (id' : K) :
    exists? ((dropEntity sc g sd id).slots i) (sd', id') =
      if c.famSide sd = some sd' ∧ id' = id then false else exists? (g.slots i) (sd', id') := by
  rw [dropEntity_slot sc g sd id hi]
  cases c.famSide sd with
  | none => exact (if_neg fun e => by cases e.1).symm
  | some s =>
    have : (s, id) = (sd', id') ↔ some s = some sd' ∧ id' = id :=
      ⟨fun e => by cases e; exact ⟨rfl, rfl⟩, fun ⟨e, e'⟩ => by cases e; rw [e']⟩
    simp only [exists_del, this]

theorem dropEntity_ginv {sc : Schema} {g : GSt K} (h : GInv sc g) (sd : Side) (id : K) :
    GInv sc (dropEntity sc g sd id) := by
  refine ⟨?_, ?_, ?_, ?_⟩
  · intro j c hj sd' id'
    rw [exists_dropEntity_slot sc g sd id hj, h.coh j c hj sd' id']
    cases hst : c.storeAt sd' with
    | none => simp
    | some y =>
      have : c.famSide sd = some sd' ↔ y.side = sd := by
        rw [famSide_eq_some_iff, hst]
        exact ⟨fun ⟨ch, e⟩ => by cases e; rfl, fun e => ⟨y.child, by rw [← e]⟩⟩
      simp [dropEntity, this]
  · intro sd' id' hc
    simp only [dropEntity] at hc ⊢
    by_cases e : sd' = sd ∧ id' = id
    · simp [e] at hc
    · simp only [e, if_false] at hc ⊢
      exact h.par sd' id' hc
  · intro j ca cb hj
    rw [dropEntity_slot sc g sd id hj]
    have := h.noRc j ca cb hj
    cases (Coll.plain ca cb).famSide sd with
    | none => exact this
    | some s =>
      simp only
      intro r k; rw [rcOf_del]; split
      · rfl
      · exact this r k
  · intro j ca cb hj
    rw [dropEntity_slot sc g sd id hj]
    have := h.noLinks j ca cb hj
    cases (Coll.rc ca cb).famSide sd with
    | none => exact this
    | some s =>
      simp only
      intro r; rw [linksOf_del]; split
      · rfl
      · exact this r

/-- the base model's `DeleteById` on the slot of a collection: of the two-store model, or of the self-referential one -/
def slotDelete (c : Coll) (s : St K) (sd : Side) (id : K) : St K :=
  match c with
  | .self _ _ => (SelfW.sdelete s id).1
  | _ => (deleteEntity s sd id).1

/-- the clean-up of the one collection plus the bucket delete is the base model's `DeleteById`: in a two-store slot
    the other kind of clean-up finds nothing to do -/
theorem cleanupSlot_del {sc : Schema} {g : GSt K} (h : GInv sc g) {j : Nat} {c : Coll} (hj : sc.colls[j]? = some c)
    {y : Store} {s : Side} (hs : c.sideOf y = some s) {id : K} (hex : exists? (g.slots j) (s, id) = true) :
    (cleanupSlot c y id (g.slots j)).del (s, id) = slotDelete c (g.slots j) s id := by
  cases c with
  | plain ca cb => simp [slotDelete, deleteEntity_plain (h.noRc j ca cb hj) hex, cleanupSlot, hs]
  | rc ca cb => simp [slotDelete, deleteEntity_rc (h.noLinks j ca cb hj) hex, cleanupSlot, hs]
  | self sd ch => obtain rfl := sideOf_self hs; simp [slotDelete, SelfW.sdelete_found hex, cleanupSlot, hs]

theorem slotDelete_base {c : Coll} (hc : ∀ sd ch, c ≠ .self sd ch) (s : St K) (sd : Side) (id : K) :
    slotDelete c s sd id = (deleteEntity s sd id).1 := by
  cases c <;> first | rfl | exact absurd rfl (hc _ _)

theorem slotDelete_moves {c : Coll} {y : Store} {sd : Side} (hs : c.sideOf y = some sd) {s : St K} {id : K}
    (hex : exists? s (sd, id) = true) (v : Prop) : SlotMoves c s (slotDelete c s sd id) 0 v := by
  have two : Moves s (deleteEntity s sd id).1 0 v :=
    Moves.single (bop := .delete sd id) (by simp [step, deleteEntity_found hex]) fun _ => ⟨trivial, by simp [weight]⟩
  cases c with
  | plain ca cb => exact two
  | rc ca cb => exact two
  | self sd' c' =>
    obtain rfl := sideOf_self hs
    exact SMoves.single (sop := .delete id) (by simp [SelfW.sstepW, SelfW.sdelete_found hex])

theorem gdelete_of_ok {sc : Schema} {g : GSt K} {x : Store} {id : K} (hok : (gdelete sc g x id).2 = none) :
    g.ents ⟨x.side, false⟩ id = true ∧
    (gdelete sc g x id).1 = dropEntity sc (cleanupLinks sc
      (if g.ents ⟨x.side, true⟩ id then cleanupLinks sc g ⟨x.side, true⟩ id else g) ⟨x.side, false⟩ id) x.side id := by
  unfold gdelete childConstraints at hok ⊢
  cases hr : g.ents ⟨x.side, false⟩ id with
  | false => simp [hr] at hok
  | true => simp

theorem gdelete_ents_gone {sc : Schema} {g : GSt K} {x : Store} {id : K} (hok : (gdelete sc g x id).2 = none) (ch : Bool) :
    (gdelete sc g x id).1.ents ⟨x.side, ch⟩ id = false := by
  rw [(gdelete_of_ok hok).2]; simp [dropEntity]

theorem gdelete_succeeds_iff (sc : Schema) (g : GSt K) (x : Store) (id : K) :
    (gdelete sc g x id).2 = none ↔ g.ents ⟨x.side, false⟩ id = true := by
  constructor
  · intro h; exact (gdelete_of_ok h).1
  · intro hr
    unfold gdelete
    simp [hr]

theorem gdelete_failure {sc : Schema} {g : GSt K} {x : Store} {id : K} {e : Err} (h : (gdelete sc g x id).2 = some e) :
    (gdelete sc g x id).1 = g := by
  unfold gdelete at h ⊢
  cases hr : g.ents ⟨x.side, false⟩ id with
  | false => simp
  | true => simp [hr] at h

theorem gdelete_slot {sc : Schema} {g : GSt K} (h : GInv sc g) (x : Store) (id : K)
    (hok : (gdelete sc g x id).2 = none) {j : Nat} {c : Coll} (hj : sc.colls[j]? = some c) :
    (c.famSide x.side = none ∧ (gdelete sc g x id).1.slots j = g.slots j) ∨
    (∃ s y, y.side = x.side ∧ c.sideOf y = some s ∧
      ((exists? (g.slots j) (s, id) = false ∧ (gdelete sc g x id).1.slots j = g.slots j) ∨
       (exists? (g.slots j) (s, id) = true ∧ (gdelete sc g x id).1.slots j = slotDelete c (g.slots j) s id))) := by
  obtain ⟨hroot, hst⟩ := gdelete_of_ok hok
  rw [hst, dropEntity_slot sc _ x.side id hj, cleanupLinks_slot sc _ _ id hj]
  have h1 : (if g.ents ⟨x.side, true⟩ id then cleanupLinks sc g ⟨x.side, true⟩ id else g).slots j =
      if g.ents ⟨x.side, true⟩ id then cleanupSlot c ⟨x.side, true⟩ id (g.slots j) else g.slots j := by
    split
    · exact cleanupLinks_slot sc g _ id hj
    · rfl
  rw [h1]
  cases hf : c.famSide x.side with
  | none =>
    left
    have hn := (famSide_eq_none_iff c x.side).mp hf
    have r0 : c.sideOf ⟨x.side, false⟩ = none := (sideOf_eq_none_iff c _).mpr fun s => hn s false
    have r1 : c.sideOf ⟨x.side, true⟩ = none := (sideOf_eq_none_iff c _).mpr fun s => hn s true
    refine ⟨rfl, ?_⟩
    simp only [cleanupSlot_none r0, cleanupSlot_none r1, ite_self]
  | some s =>
    right
    obtain ⟨ch, hs⟩ := (famSide_eq_some_iff c x.side s).mp hf
    have hsy := (sideOf_eq_some_iff c ⟨x.side, ch⟩ s).mpr hs
    have hother : c.sideOf ⟨x.side, !ch⟩ = none := by
      refine (sideOf_eq_none_iff c _).mpr fun s' hs' => ?_
      have := (storeAt_family_unique c hs hs').2
      cases ch <;> simp at this
    refine ⟨s, ⟨x.side, ch⟩, rfl, hsy, ?_⟩
    have hcoh := coh_at h hj hsy id
    cases ch with
    | false =>
      simp only [Bool.not_false] at hother
      have hex := hcoh.trans hroot
      refine Or.inr ⟨hex, ?_⟩
      rw [← cleanupSlot_del h hj hsy hex]
      simp only [cleanupSlot_none hother, ite_self]
    | true =>
      simp only [Bool.not_true] at hother
      simp only [cleanupSlot_none hother]
      cases hc : g.ents ⟨x.side, true⟩ id with
      | true =>
        have hex := hcoh.trans hc
        exact Or.inr ⟨hex, by rw [← cleanupSlot_del h hj hsy hex]; simp⟩
      | false =>
        have hne := hcoh.trans hc
        refine Or.inl ⟨hne, ?_⟩
        simp only [Bool.false_eq_true, if_false]
        exact del_of_not_exists hne

theorem gdelete_slot_base {sc : Schema} {g : GSt K} (h : GInv sc g) (x : Store) (id : K)
    (hok : (gdelete sc g x id).2 = none) {j : Nat} {c : Coll} (hj : sc.colls[j]? = some c)
    (hc : ∀ sd ch, c ≠ .self sd ch) :
    (exists? (g.slots j) (x.side, id) = false ∧ (gdelete sc g x id).1.slots j = g.slots j) ∨
    (exists? (g.slots j) (x.side, id) = true ∧
      (gdelete sc g x id).1.slots j = (deleteEntity (g.slots j) x.side id).1) := by
  rcases gdelete_slot h x id hok hj with ⟨hf, _⟩ | ⟨s, y, hys, hsy, hcase⟩
  · -- a two-store collection has a store in each family
    exfalso
    cases c with
    | self sd ch => exact hc sd ch rfl
    | plain ca cb =>
      exact (famSide_eq_none_iff _ _).mp hf x.side (match x.side with | .A => ca | .B => cb) (by cases x.side <;> rfl)
    | rc ca cb =>
      exact (famSide_eq_none_iff _ _).mp hf x.side (match x.side with | .A => ca | .B => cb) (by cases x.side <;> rfl)
  · have hs : s = x.side := by rw [← storeAt_side hc ((sideOf_eq_some_iff _ _ _).mp hsy), hys]
    subst hs
    rwa [slotDelete_base hc] at hcase

theorem gdelete_ok {sc : Schema} {g : GSt K} (h : GInv sc g) (x : Store) (id : K)
    (hok : (gdelete sc g x id).2 = none) {v : Prop} : Ok sc g (gdelete sc g x id).1 0 v := by
  constructor
  · rw [(gdelete_of_ok hok).2]
    apply dropEntity_ginv
    apply cleanupLinks_ginv
    split
    · exact cleanupLinks_ginv h _ id
    · exact h
  · intro j c hj
    rcases gdelete_slot h x id hok hj with ⟨_, e⟩ | ⟨s, y, _, hs, ⟨_, e⟩ | ⟨hex, e⟩⟩
    · rw [e]; exact SlotMoves.refl c _ fun _ => Int.le_refl 0
    · rw [e]; exact SlotMoves.refl c _ fun _ => Int.le_refl 0
    · rw [e]; exact slotDelete_moves hs hex v

theorem plain_weight (op : PlainOp K) : OpVocab op.toOp ∧ weight op.toOp ≤ 0 := by
  cases op <;> exact ⟨trivial, Int.le_refl 0⟩

theorem gstep_ok {sc : Schema} {g : GSt K} (h : GInv sc g) (op : GOp K) (hok : (gstep sc g op).err = none) :
    Ok sc g (gstep sc g op).st (gweight op) (GOpVocab op) := by
  cases op with
  | create x id blank links => exact gcreate_ok h x id blank links hok
  | update x id i keys p => exact gupdate_ok h x id i keys p hok
  | delete x id => exact gdelete_ok h x id hok
  | link i op =>
    simp only [gstep] at hok ⊢
    cases hsi : sc.colls[i]? with
    | none => simp [hsi] at hok
    | some c' =>
      cases c' with
      | plain ca cb =>
        simp only [hsi] at hok ⊢
        -- `SlotMoves` reduces by its `match` on the constructor: to `Moves` here and for `rc`, to `SMoves` for `self`
        exact setSlot_ok h hsi (step_plain_frame _ op).ex (fun _ _ _ hn => noRc_of_eq hn (step_plain_frame _ op).rc)
          (fun _ _ e => by cases e) (fun _ => Int.le_refl 0)
          (Moves.single hok fun _ => plain_weight op)
      | rc ca cb => simp [hsi] at hok
      | self sd' c'' =>
        simp only [hsi] at hok ⊢
        exact setSlot_ok h hsi (exists_sstepW_link _ op) (fun _ _ e => by cases e) (fun _ _ e => by cases e)
          (fun _ => Int.le_refl 0) (SMoves.single hok)
  | count i op =>
    simp only [gstep] at hok ⊢
    cases hsi : sc.colls[i]? with
    | none => simp [hsi] at hok
    | some c' =>
      cases c' with
      | plain ca cb => simp [hsi] at hok
      | self sd' c'' => simp [hsi] at hok
      | rc ca cb =>
        simp only [hsi] at hok ⊢
        exact setSlot_ok h hsi (fun r => (sameLinks_step_rc _ op r).1) (fun _ _ e => by cases e)
          (fun _ _ _ hn => noLinks_of_eq hn fun r => (sameLinks_step_rc _ op r).2)
          (fun hv => weight_nonneg (K := K) (op := op.toOp) hv) (Moves.single hok fun hv => ⟨hv, Int.le_refl _⟩)

end
end StorageModel.C05.Schema
