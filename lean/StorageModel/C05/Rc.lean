import StorageModel.C05.SetLinks
/-
  C05 — reference-counted links: effect of Increment / Decrement / SetLinkCount on the count
  function, and the agreement invariant.
-/
set_option linter.unusedSectionVars false
namespace StorageModel.C05

section
variable {K : Type} [KOrd K] [DecidableEq K]

/-- both sides hold the same count, every stored count is positive and at most `w` -/
def RcInv (s : St K) (w : Int) : Prop :=
  (∀ sd a b, rcOf s (sd, a) b = rcOf s (sd.other, b) a) ∧
  (∀ r k c, rcOf s r k = some c → 0 < c ∧ c ≤ w)

/-- what a count operation leaves alone -/
def SameLinks (s s' : St K) : Prop := ∀ r, exists? s' r = exists? s r ∧ linksOf s' r = linksOf s r

theorem SameLinks.put {s : St K} {r : Ref K} {e e' : Ent K} (hg : s.get r = some e) (hl : e'.links = e.links) :
    SameLinks s (s.put r e') := by
  intro r'
  rw [exists_put, linksOf_put]
  by_cases h : r = r'
  · subst h; simp [hl, exists?, linksOf, hg]
  · simp [h]

theorem SameLinks.trans {s s' s'' : St K} (h : SameLinks s s') (h' : SameLinks s' s'') : SameLinks s s'' :=
  fun r => ⟨(h' r).1.trans (h r).1, (h' r).2.trans (h r).2⟩

/-- an entity bucket after a write of `v` (none = entry deleted / absent) under count key `k` -/
def BucketWrite (e e' : Ent K) (k : K) (v : Option Int) : Prop :=
  e'.links = e.links ∧ ∀ j, e'.rc.get j = if k = j then v else e.rc.get j

theorem bucketIncr_write (e : Ent K) (k : K) : BucketWrite e (bucketIncr e k).1 k (some (bucketIncr e k).2) := by
  refine ⟨rfl, fun j => ?_⟩
  simp only [bucketIncr]; rw [Map.get_put]

theorem bucketDecr_write (e : Ent K) (k : K) :
    BucketWrite e (bucketDecr e k).1 k
      (match e.rc.get k with
       | none => none
       | some c => if wrap32 (c - 1) > 0 then some (wrap32 (c - 1)) else none) := by
  refine ⟨?_, fun j => ?_⟩
  · unfold bucketDecr; cases e.rc.get k with
    | none => rfl
    | some c => simp only; split <;> rfl
  · unfold bucketDecr
    cases hg : e.rc.get k with
    | none =>
      simp only
      by_cases h : k = j
      · subst h; simp [hg]
      · simp [h]
    | some c =>
      simp only
      split
      · simp only; rw [Map.get_put]
      · simp only; rw [Map.get_del]

theorem bucketSet_write (e : Ent K) (k : K) (count : Int) :
    BucketWrite e (bucketSet e k count).1 k (if count = 0 then none else some (wrap32 count)) := by
  refine ⟨?_, fun j => ?_⟩
  · unfold bucketSet; cases e.rc.get k <;> (simp only; split <;> rfl)
  · unfold bucketSet
    cases hg : e.rc.get k with
    | none =>
      simp only
      by_cases hc : count = 0
      · simp only [hc, if_true]
        by_cases h : k = j
        · subst h; simp [hg]
        · simp [h]
      · simp only [hc, if_false]; rw [Map.get_put]
    | some c =>
      simp only
      by_cases hc : count = 0
      · simp only [hc, if_true]; rw [Map.get_del]
      · simp only [hc, if_false]; rw [Map.get_put]

theorem bucketSet_ret (e : Ent K) (k : K) (c : Int) : (bucketSet e k c).2 = e.rc.get k := by
  unfold bucketSet
  cases e.rc.get k <;> (simp only; split <;> rfl)

/-- `s'` holds the counts of `s`, except that the pair `id`–`k` reads `v` from both sides -/
def PairedWrite (s s' : St K) (sd : Side) (id k : K) (v : Option Int) : Prop :=
  ∀ sd' x j, rcOf s' (sd', x) j =
    if sd' = sd ∧ x = id ∧ j = k then v
    else if sd' = sd.other ∧ x = k ∧ j = id then v
    else rcOf s (sd', x) j

theorem PairedWrite.of_bucketWrite {s : St K} {sd : Side} {id k : K} {e e' o o' : Ent K} {v : Option Int}
    (he : s.get (sd, id) = some e) (ho : s.get (sd.other, k) = some o)
    (we : BucketWrite e e' k v) (wo : BucketWrite o o' id v) :
    PairedWrite s ((s.put (sd, id) e').put (sd.other, k) o') sd id k v := by
  intro sd' x j
  rw [rcOf_put, rcOf_put]
  by_cases h1 : (sd.other, k) = (sd', x)
  · simp only [h1, if_true]
    obtain ⟨a, b⟩ := Prod.mk.inj h1
    subst a; subst b
    rw [wo.2 j]
    have : ¬ (sd.other = sd) := Side.other_ne sd
    by_cases hj : id = j
    · subst hj; simp [this]
    · have hj' : ¬ j = id := fun h => hj h.symm
      simp [this, hj, hj', rcOf, ho]
  · simp only [h1, if_false]
    by_cases h2 : (sd, id) = (sd', x)
    · simp only [h2, if_true]
      obtain ⟨a, b⟩ := Prod.mk.inj h2
      subst a; subst b
      rw [we.2 j]
      by_cases hj : k = j
      · subst hj; simp
      · have hj' : ¬ j = k := fun h => hj h.symm
        simp [hj, hj', rcOf, he]
    · simp only [h2, if_false]
      have n1 : ¬ (sd' = sd ∧ x = id ∧ j = k) := fun ⟨a, b, _⟩ => h2 (by rw [a, b])
      have n2 : ¬ (sd' = sd.other ∧ x = k ∧ j = id) := fun ⟨a, b, _⟩ => h1 (by rw [a, b])
      simp [n1, n2]

theorem rcIncr_missing_local {s : St K} {sd : Side} {id k : K} (hid : exists? s (sd, id) = false) :
    rcIncr s sd id k = (s, 0, some .missing) := by
  unfold rcIncr; rw [get_none_of_not_exists hid]

theorem get_put_other {s : St K} {sd : Side} {id k : K} (e' : Ent K) :
    (s.put (sd, id) e').get (sd.other, k) = s.get (sd.other, k) := by
  apply Map.get_put_ne
  intro h; exact Side.ne_other sd (Prod.mk.inj h).1

theorem rcIncr_missing_other {s : St K} {sd : Side} {id k : K} (hid : exists? s (sd, id) = true)
    (hk : exists? s (sd.other, k) = false) : (rcIncr s sd id k).2.2 = some .notFound := by
  obtain ⟨e, he, _⟩ := get_of_exists hid
  unfold rcIncr; rw [he]; simp only
  rw [get_put_other, get_none_of_not_exists hk]

theorem rcIncr_found {s : St K} {sd : Side} {id k : K} {e o : Ent K} (he : s.get (sd, id) = some e)
    (ho : s.get (sd.other, k) = some o) :
    rcIncr s sd id k =
      if (bucketIncr e k).2 ≠ (bucketIncr o id).2
      then ((s.put (sd, id) (bucketIncr e k).1).put (sd.other, k) (bucketIncr o id).1, 0, some .mismatch)
      else ((s.put (sd, id) (bucketIncr e k).1).put (sd.other, k) (bucketIncr o id).1, (bucketIncr e k).2, none) := by
  unfold rcIncr; rw [he]; simp only; rw [get_put_other, ho]

theorem sameLinks_rcIncr (s : St K) (sd : Side) (id k : K) : SameLinks s (rcIncr s sd id k).1 := by
  unfold rcIncr
  cases he : s.get (sd, id) with
  | none => exact fun _ => ⟨rfl, rfl⟩
  | some e =>
    simp only
    have h1 := SameLinks.put (e' := (bucketIncr e k).1) he rfl
    cases ho : (s.put (sd, id) (bucketIncr e k).1).get (sd.other, k) with
    | none => exact h1
    | some o => simp only; split <;> exact h1.trans (SameLinks.put ho rfl)

theorem rcIncr_ok {s : St K} {w : Int} {sd : Side} {id k : K} (h : RcInv s w) (hw : w + 1 < 2147483648)
    (hid : exists? s (sd, id) = true) (hk : exists? s (sd.other, k) = true) :
    ∃ n, (rcIncr s sd id k).2 = (n, none) ∧
      n = (match rcOf s (sd, id) k with | some c => c + 1 | none => 1) ∧
      PairedWrite s (rcIncr s sd id k).1 sd id k (some n) := by
  obtain ⟨e, he, _, hloc⟩ := get_of_exists hid
  obtain ⟨o, ho, _, hoth⟩ := get_of_exists hk
  have hnext : (bucketIncr e k).2 = (bucketIncr o id).2 := by
    simp only [bucketIncr]; rw [hloc, hoth, h.1 sd id k]
  have hval : (bucketIncr e k).2 = (match rcOf s (sd, id) k with | some c => c + 1 | none => 1) := by
    simp only [bucketIncr]; rw [← hloc]
    cases hc : e.rc.get k with
    | none => rfl
    | some c =>
      have := h.2 (sd, id) k c (by rw [← hloc]; exact hc)
      simp only; apply wrap32_id <;> omega
  rw [rcIncr_found he ho, if_neg (by rw [hnext]; simp)]
  exact ⟨_, rfl, hval, PairedWrite.of_bucketWrite he ho (bucketIncr_write e k) (hnext ▸ bucketIncr_write o id)⟩

theorem rcDecr_missing_local {s : St K} {sd : Side} {id k : K} (hid : exists? s (sd, id) = false) :
    rcDecr s sd id k = (s, 0, some .missing) := by
  unfold rcDecr; rw [get_none_of_not_exists hid]

def decrValue (cur : Option Int) : Option Int :=
  match cur with
  | none => none
  | some c => if c - 1 > 0 then some (c - 1) else none

def decrRet (cur : Option Int) : Int :=
  match cur with
  | none => -1
  | some c => c - 1

theorem bucketDecr_ret (e : Ent K) (k : K) : (bucketDecr e k).2 =
    (match e.rc.get k with | none => -1 | some c => wrap32 (c - 1)) := by
  unfold bucketDecr
  cases e.rc.get k with
  | none => rfl
  | some c => simp only; split <;> rfl

theorem sameLinks_rcDecr (s : St K) (sd : Side) (id k : K) : SameLinks s (rcDecr s sd id k).1 := by
  unfold rcDecr
  cases he : s.get (sd, id) with
  | none => exact fun _ => ⟨rfl, rfl⟩
  | some e =>
    simp only
    have h1 := SameLinks.put (e' := (bucketDecr e k).1) he (bucketDecr_write e k).1
    cases ho : (s.put (sd, id) (bucketDecr e k).1).get (sd.other, k) with
    | none => simp only; split <;> exact h1
    | some o => simp only; split <;> exact h1.trans (SameLinks.put ho (bucketDecr_write o id).1)

theorem bucketDecr_spec {e : Ent K} {k : K} (hw : ∀ c, e.rc.get k = some c → wrap32 (c - 1) = c - 1) :
    BucketWrite e (bucketDecr e k).1 k (decrValue (e.rc.get k)) ∧ (bucketDecr e k).2 = decrRet (e.rc.get k) := by
  have hb := bucketDecr_write e k
  rw [bucketDecr_ret]
  cases hc : e.rc.get k with
  | none => rw [hc] at hb; exact ⟨hb, rfl⟩
  | some c => rw [hc] at hb; simp only [hw c hc] at hb ⊢; exact ⟨hb, rfl⟩

theorem rcDecr_ok {s : St K} {w : Int} {sd : Side} {id k : K} (h : RcInv s w) (hw : w < 2147483648)
    (hid : exists? s (sd, id) = true) :
    (rcDecr s sd id k).2 = (decrRet (rcOf s (sd, id) k), none) ∧
      PairedWrite s (rcDecr s sd id k).1 sd id k (decrValue (rcOf s (sd, id) k)) := by
  obtain ⟨e, he, _, hloc⟩ := get_of_exists hid
  have hwrap : ∀ c, e.rc.get k = some c → wrap32 (c - 1) = c - 1 := by
    intro c hc
    have := h.2 (sd, id) k c (by rw [← hloc]; exact hc)
    apply wrap32_id <;> omega
  obtain ⟨hwv, hret⟩ := bucketDecr_spec hwrap
  cases hk : exists? s (sd.other, k) with
  | false =>
    -- the other entity does not exist: by agreement there is no local entry either, nothing is written
    have hoth : rcOf s (sd.other, k) id = none := rcOf_of_not_exists hk id
    have hnone : e.rc.get k = none := by rw [hloc, h.1 sd id k]; exact hoth
    have hgo := get_none_of_not_exists hk
    have hb : (bucketDecr e k).1 = e := by unfold bucketDecr; rw [hnone]
    have hst : rcDecr s sd id k = (s.put (sd, id) e, decrRet (rcOf s (sd, id) k), none) := by
      unfold rcDecr; rw [he]; simp only; rw [get_put_other, hgo, hret, hb, ← hloc, hnone]; rfl
    rw [hst]
    refine ⟨rfl, fun sd' x j => ?_⟩
    have hsame : rcOf (s.put (sd, id) e) (sd', x) j = rcOf s (sd', x) j := by
      rw [rcOf_put]; split
      · next e1 => rw [← e1]; exact hloc j
      · rfl
    rw [hsame, ← hloc, hnone]
    split
    · next c => obtain ⟨rfl, rfl, rfl⟩ := c; rw [← hloc, hnone]; rfl
    · split
      · next c => obtain ⟨rfl, rfl, rfl⟩ := c; rw [hoth]; rfl
      · rfl
  | true =>
    obtain ⟨o, ho, _, hoth⟩ := get_of_exists hk
    have heq : e.rc.get k = o.rc.get id := by rw [hloc, hoth, h.1 sd id k]
    obtain ⟨hwo, hreto⟩ := bucketDecr_spec (e := o) (k := id) (fun c hc => hwrap c (by rw [heq]; exact hc))
    rw [← heq] at hwo hreto
    have hst : rcDecr s sd id k =
        ((s.put (sd, id) (bucketDecr e k).1).put (sd.other, k) (bucketDecr o id).1, decrRet (rcOf s (sd, id) k), none) := by
      unfold rcDecr; rw [he]; simp only; rw [get_put_other, ho]; simp only
      rw [if_neg (by rw [hret, hreto]; simp), hret, hloc]
    rw [hst]
    exact ⟨rfl, hloc k ▸ PairedWrite.of_bucketWrite he ho hwv hwo⟩

theorem rcSet_missing_local {s : St K} {sd : Side} {id k : K} (c : Int) (hid : exists? s (sd, id) = false) :
    rcSet s sd id k c = (s, none, none, some .missing) := by
  unfold rcSet; rw [get_none_of_not_exists hid]

theorem rcSet_missing_other {s : St K} {sd : Side} {id k : K} (c : Int) (hid : exists? s (sd, id) = true)
    (hk : exists? s (sd.other, k) = false) : (rcSet s sd id k c).2.2.2 = some .notFound := by
  obtain ⟨e, he, _⟩ := get_of_exists hid
  unfold rcSet; rw [he]; simp only
  rw [get_put_other, get_none_of_not_exists hk]

theorem sameLinks_rcSet (s : St K) (sd : Side) (id k : K) (c : Int) : SameLinks s (rcSet s sd id k c).1 := by
  unfold rcSet
  cases he : s.get (sd, id) with
  | none => exact fun _ => ⟨rfl, rfl⟩
  | some e =>
    simp only
    have h1 := SameLinks.put (e' := (bucketSet e k c).1) he (bucketSet_write e k c).1
    cases ho : (s.put (sd, id) (bucketSet e k c).1).get (sd.other, k) with
    | none => exact h1
    | some o => exact h1.trans (SameLinks.put ho (bucketSet_write o id c).1)

theorem rcSet_ok {s : St K} {sd : Side} {id k : K} (c : Int) (hc0 : 0 ≤ c) (hc : c < 2147483648)
    (hid : exists? s (sd, id) = true) (hk : exists? s (sd.other, k) = true) :
    (rcSet s sd id k c).2 = (rcOf s (sd, id) k, rcOf s (sd.other, k) id, none) ∧
      PairedWrite s (rcSet s sd id k c).1 sd id k (if c = 0 then none else some c) := by
  obtain ⟨e, he, _, hloc⟩ := get_of_exists hid
  obtain ⟨o, ho, _, hoth⟩ := get_of_exists hk
  have we := bucketSet_write e k c
  have wo := bucketSet_write o id c
  rw [wrap32_id (by omega) hc] at we wo
  have hst : rcSet s sd id k c = ((s.put (sd, id) (bucketSet e k c).1).put (sd.other, k) (bucketSet o id c).1,
      rcOf s (sd, id) k, rcOf s (sd.other, k) id, none) := by
    unfold rcSet; rw [he]; simp only; rw [get_put_other, ho]; simp only [bucketSet_ret, hloc, hoth]
  rw [hst]
  exact ⟨rfl, PairedWrite.of_bucketWrite he ho we wo⟩

end
end StorageModel.C05
