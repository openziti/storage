import StorageModel.C05.Order
/-
  C05 — executable model of boltz/link_collection.go, boltz/link_collection_rc.go and the
  link-count / list-entry functions of boltz/typed_bucket.go, plus the part of
  boltz/store_crud.go that touches links (Create/Update through PersistContext.SetLinkedIds,
  DeleteById → cleanupLinks → EntityDeleted).

  Universe: two stores (`Side.A`, `Side.B`) wired the way /repo/boltz/*_test.go wires
  employees/locations: each store has a link collection whose `otherField` is the other store's
  set symbol, and a ref-counted link collection likewise.  An entity is its link bucket (keys in
  key order) and its ref-count bucket (key ↦ int32 count).  Whether an *empty* field bucket
  exists is not modelled (no function of the modelled files behaves differently; the harness
  drops empty buckets from the dump).

  Every function returns the state reached *including partial writes* together with the Go
  error, exactly in the order the Go code writes (local entry first, then the other side);
  `commitTx` models `Db.Update`: the body's first error rolls everything back.
-/
namespace StorageModel.C05

inductive Side | A | B
  deriving DecidableEq, Repr

def Side.other : Side → Side
  | .A => .B
  | .B => .A

@[simp] theorem Side.other_other (s : Side) : s.other.other = s := by cases s <;> rfl
@[simp] theorem Side.other_ne (s : Side) : s.other ≠ s := by cases s <;> decide
@[simp] theorem Side.ne_other (s : Side) : s ≠ s.other := by cases s <;> decide

abbrev Map (κ ν : Type) := List (κ × ν)

namespace Map
variable {κ ν : Type} [DecidableEq κ]

def get : Map κ ν → κ → Option ν
  | [], _ => none
  | (k', v) :: m, k => if k' = k then some v else get m k

def del (m : Map κ ν) (k : κ) : Map κ ν := m.filter (fun p => p.1 ≠ k)

def put (m : Map κ ν) (k : κ) (v : ν) : Map κ ν := (k, v) :: del m k

@[simp] theorem get_nil (k : κ) : get ([] : Map κ ν) k = none := rfl

theorem get_filter_key (m : Map κ ν) (p : κ → Bool) (k : κ) :
    get (m.filter fun e => p e.1) k = if p k then get m k else none := by
  induction m with
  | nil => simp [get]
  | cons e m ih =>
    obtain ⟨a, v⟩ := e
    simp only [List.filter]
    by_cases ha : a = k
    · subst ha
      cases hp : p a with
      | true => simp [get]
      | false => simp only; rw [ih]; simp [hp]
    · cases hp : p a with
      | true => simp only [get, ha, if_false]; exact ih
      | false => simp only; rw [ih]; simp [get, ha]

theorem get_del (m : Map κ ν) (k k' : κ) : get (del m k) k' = if k = k' then none else get m k' := by
  rw [del, get_filter_key m (fun a => decide (a ≠ k))]
  by_cases h : k = k' <;> simp [h, Ne.symm]

@[simp] theorem get_del_self (m : Map κ ν) (k : κ) : get (del m k) k = none := by simp [get_del]
theorem get_del_ne (m : Map κ ν) {k k' : κ} (h : k ≠ k') : get (del m k) k' = get m k' := by simp [get_del, h]

theorem get_put (m : Map κ ν) (k k' : κ) (v : ν) :
    get (put m k v) k' = if k = k' then some v else get m k' := by
  unfold put
  by_cases h : k = k'
  · simp [get, h]
  · simp [get, h, get_del]

@[simp] theorem get_put_self (m : Map κ ν) (k : κ) (v : ν) : get (put m k v) k = some v := by simp [get_put]
theorem get_put_ne (m : Map κ ν) {k k' : κ} (v : ν) (h : k ≠ k') : get (put m k v) k' = get m k' := by
  simp [get_put, h]

end Map

/-- two's-complement wrap to 32 bits: Go's `int32(x)` conversion and `int32` `+ 1` / `- 1` -/
def wrap32 (x : Int) : Int := (x + 2147483648) % 4294967296 - 2147483648

theorem wrap32_id {x : Int} (h1 : -2147483648 ≤ x) (h2 : x < 2147483648) : wrap32 x = x := by
  unfold wrap32; omega

/-- one entity bucket: the link-set field bucket and the ref-counted field bucket -/
structure Ent (K : Type) where
  links : List K := []
  rc : Map K Int := []
  deriving Repr

abbrev Ref (K : Type) := Side × K
abbrev St (K : Type) := Map (Ref K) (Ent K)

inductive Err
  | missing    -- errors.Errorf("%v not found with id %v") from getFieldBucket (local entity absent)
  | notFound   -- *RecordNotFoundError (NewNotFoundError / entityNotFoundF)
  | mismatch   -- "unexpected mismatch when incrementing/decrementing reference counts"
  | exists     -- Create: "an entity of type … already exists"
  | blank      -- Create: "cannot create … with blank id"
  deriving DecidableEq, Repr

/-- what an operation hands back besides the error -/
inductive Ret (K : Type)
  | unit
  | bool (b : Bool)
  | int (i : Int)
  | olds (a b : Option Int)
  | keys (l : List K)
  deriving Repr

section
variable {K : Type} [KOrd K] [DecidableEq K]

def linksOf (s : St K) (r : Ref K) : List K :=
  match s.get r with
  | some e => e.links
  | none => []

def rcOf (s : St K) (r : Ref K) (k : K) : Option Int :=
  match s.get r with
  | some e => e.rc.get k
  | none => none

def exists? (s : St K) (r : Ref K) : Bool := (s.get r).isSome

/-- write through a bucket handle obtained earlier: the entity is there -/
def upd (s : St K) (r : Ref K) (f : Ent K → Ent K) : St K :=
  match s.get r with
  | some e => s.put r (f e)
  | none => s

/-! ### link_collection.go -/

/-- `LinkedSetSymbol.AddLink(tx, id, link)`: not-found when the entity is missing -/
def symAddLink (s : St K) (r : Ref K) (l : K) : St K × Option Err :=
  match s.get r with
  | none => (s, some .notFound)
  | some e => (s.put r { e with links := insertS l e.links }, none)

/-- `LinkedSetSymbol.RemoveLink(tx, id, link)`: nothing to do when the entity is missing -/
def symRemoveLink (s : St K) (r : Ref K) (l : K) : St K :=
  upd s r fun e => { e with links := eraseS l e.links }

/-- `linkCollectionImpl.link`: local entry first, then the other side -/
def link (s : St K) (sd : Side) (id k : K) : St K × Option Err :=
  symAddLink (upd s (sd, id) fun e => { e with links := insertS k e.links }) (sd.other, k) id

/-- `linkCollectionImpl.unlink` -/
def unlink (s : St K) (sd : Side) (id k : K) : St K :=
  symRemoveLink (upd s (sd, id) fun e => { e with links := eraseS k e.links }) (sd.other, k) id

def linkAll (sd : Side) (id : K) : List K → St K → St K × Option Err
  | [], s => (s, none)
  | k :: ks, s =>
    match link s sd id k with
    | (s', some e) => (s', some e)
    | (s', none) => linkAll sd id ks s'

def unlinkAll (sd : Side) (id : K) : List K → St K → St K
  | [], s => s
  | k :: ks, s => unlinkAll sd id ks (unlink s sd id k)

/-- `AddLinks(tx, id, keys...)` -/
def addLinks (s : St K) (sd : Side) (id : K) (keys : List K) : St K × Option Err :=
  match s.get (sd, id) with
  | none => (s, some .missing)
  | some _ => linkAll sd id keys s

/-- `RemoveLinks(tx, id, keys...)` -/
def removeLinks (s : St K) (sd : Side) (id : K) (keys : List K) : St K × Option Err :=
  match s.get (sd, id) with
  | none => (s, some .missing)
  | some _ => (unlinkAll sd id keys s, none)

/-- `AddLink(tx, id, key)` → `checkAndLink`: `changed` is returned even when the other side fails -/
def addLink (s : St K) (sd : Side) (id k : K) : St K × Bool × Option Err :=
  match s.get (sd, id) with
  | none => (s, false, some .missing)
  | some e =>
    let changed := !(e.links.contains k)
    let r := link s sd id k
    (r.1, changed, r.2)

/-- `RemoveLink(tx, id, key)` → `checkAndUnlink` -/
def removeLink (s : St K) (sd : Side) (id k : K) : St K × Bool × Option Err :=
  match s.get (sd, id) with
  | none => (s, false, some .missing)
  | some e => (unlink s sd id k, e.links.contains k, none)

/-- the inner `for len(keys) > 0` loop of `SetLinks` for one cursor row.
    `skip = some c` while the duplicates of a just-added smaller key `c` are being skipped.
    Returns the remaining keys, the extended `toAdd`, and whether the row goes to `toRemove`
    (`compare > cursorCurrent`, or keys exhausted: `!rowHandled`). -/
def mergeRow (row : K) : Option K → List K → List K → List K × List K × Bool
  | _, [], toAdd => ([], toAdd, true)
  | skip, k :: ks, toAdd =>
    if skip = some k then mergeRow row skip ks toAdd              -- skip over duplicate entries
    else if KOrd.lt k row then mergeRow row (some k) ks (toAdd ++ [k])   -- compare < cursorCurrent
    else if KOrd.lt row k then (k :: ks, toAdd, true)             -- compare > cursorCurrent
    else (ks, toAdd, false)                                       -- equal: consume one request

/-- the cursor walk of `SetLinks` over the existing rows -/
def mergeWalk : List K → List K → List K → List K → List K × List K × List K
  | [], keys, toAdd, toRemove => (keys, toAdd, toRemove)
  | row :: rows, keys, toAdd, toRemove =>
    let r := mergeRow row none keys toAdd
    mergeWalk rows r.1 r.2.1 (if r.2.2 then toRemove ++ [row] else toRemove)

/-- `SetLinks(tx, id, keys)`: sort, walk, removals before additions -/
def setLinks (s : St K) (sd : Side) (id : K) (keys : List K) : St K × Option Err :=
  match s.get (sd, id) with
  | none => (s, some .missing)
  | some e =>
    let w := mergeWalk e.links (sortK keys) [] []
    let s1 := unlinkAll sd id w.2.2 s
    linkAll sd id (w.2.1 ++ w.1) s1

/-- `linkCollectionImpl.EntityDeleted`: only the other sides are cleaned, the local bucket goes
    with the entity bucket -/
def linksEntityDeleted (s : St K) (sd : Side) (id : K) : St K :=
  (linksOf s (sd, id)).foldl (fun s k => symRemoveLink s (sd.other, k) id) s

/-! ### typed_bucket.go link counts -/

/-- `TypedBucket.IncrementLinkCount` -/
def bucketIncr (e : Ent K) (k : K) : Ent K × Int :=
  let next := match e.rc.get k with
    | some c => wrap32 (c + 1)
    | none => 1
  ({ e with rc := e.rc.put k next }, next)

/-- `TypedBucket.DecrementLinkCount` -/
def bucketDecr (e : Ent K) (k : K) : Ent K × Int :=
  match e.rc.get k with
  | none => (e, -1)
  | some c =>
    let next := wrap32 (c - 1)
    if next > 0 then ({ e with rc := e.rc.put k next }, next)
    else ({ e with rc := e.rc.del k }, next)

/-- `TypedBucket.SetLinkCount` (returns the previous count) -/
def bucketSet (e : Ent K) (k : K) (count : Int) : Ent K × Option Int :=
  match e.rc.get k with
  | none => if count = 0 then (e, none) else ({ e with rc := e.rc.put k (wrap32 count) }, none)
  | some c => if count = 0 then ({ e with rc := e.rc.del k }, some c)
              else ({ e with rc := e.rc.put k (wrap32 count) }, some c)

/-! ### link_collection_rc.go -/

/-- `IncrementLinkCount(tx, id, key)` -/
def rcIncr (s : St K) (sd : Side) (id k : K) : St K × Int × Option Err :=
  match s.get (sd, id) with
  | none => (s, 0, some .missing)
  | some e =>
    let l := bucketIncr e k
    let s1 := s.put (sd, id) l.1
    match s1.get (sd.other, k) with
    | none => (s1, 0, some .notFound)
    | some o =>
      let r := bucketIncr o id
      let s2 := s1.put (sd.other, k) r.1
      if l.2 ≠ r.2 then (s2, 0, some .mismatch) else (s2, l.2, none)

/-- `DecrementLinkCount(tx, id, key)` -/
def rcDecr (s : St K) (sd : Side) (id k : K) : St K × Int × Option Err :=
  match s.get (sd, id) with
  | none => (s, 0, some .missing)
  | some e =>
    let l := bucketDecr e k
    let s1 := s.put (sd, id) l.1
    match s1.get (sd.other, k) with
    | none => if l.2 ≠ -1 then (s1, 0, some .mismatch) else (s1, l.2, none)
    | some o =>
      let r := bucketDecr o id
      let s2 := s1.put (sd.other, k) r.1
      if l.2 ≠ r.2 then (s2, 0, some .mismatch) else (s2, l.2, none)

/-- `SetLinkCount(tx, id, key, count)` -/
def rcSet (s : St K) (sd : Side) (id k : K) (count : Int) : St K × Option Int × Option Int × Option Err :=
  match s.get (sd, id) with
  | none => (s, none, none, some .missing)
  | some e =>
    let l := bucketSet e k count
    let s1 := s.put (sd, id) l.1
    match s1.get (sd.other, k) with
    | none => (s1, none, none, some .notFound)
    | some o =>
      let r := bucketSet o id count
      (s1.put (sd.other, k) r.1, l.2, r.2, none)

/-- `RefCountedLinkedSetSymbol.unlink` -/
def rcSymUnlink (s : St K) (r : Ref K) (l : K) : St K :=
  upd s r fun e => { e with rc := e.rc.del l }

/-- `rcLinkCollectionImpl.EntityDeleted` -/
def rcEntityDeleted (s : St K) (sd : Side) (id : K) : St K :=
  match s.get (sd, id) with
  | none => s
  | some e => (e.rc.map (·.1)).foldl (fun s k => rcSymUnlink s (sd.other, k) id) s

/-! ### store_crud.go -/

/-- `DeleteById`: not found, else `cleanupLinks` (both kinds of collection), then the bucket -/
def deleteEntity (s : St K) (sd : Side) (id : K) : St K × Option Err :=
  match s.get (sd, id) with
  | none => (s, some .notFound)
  | some _ => ((rcEntityDeleted (linksEntityDeleted s sd id) sd id).del (sd, id), none)

/-- `Create` of an entity whose `PersistEntity` optionally calls `ctx.SetLinkedIds(field, links)` -/
def createEntity (s : St K) (sd : Side) (id : K) (blank : Bool) (links : Option (List K)) : St K × Option Err :=
  if blank then (s, some .blank)
  else match s.get (sd, id) with
  | some _ => (s, some .exists)
  | none =>
    let s1 := s.put (sd, id) {}
    match links with
    | none => (s1, none)
    | some ks => setLinks s1 sd id ks

/-- `Update` with a field checker: `SetLinkedIds` proceeds iff the checker is nil or lists the field -/
def updateEntity (s : St K) (sd : Side) (id : K) (links : List K) (proceed : Bool) : St K × Option Err :=
  match s.get (sd, id) with
  | none => (s, some .notFound)
  | some _ => if proceed then setLinks s sd id links else (s, none)

inductive Op (K : Type)
  | create (sd : Side) (id : K) (blank : Bool) (links : Option (List K))
  | update (sd : Side) (id : K) (links : List K) (proceed : Bool)
  | delete (sd : Side) (id : K)
  | addLinks (sd : Side) (id : K) (keys : List K)
  | removeLinks (sd : Side) (id : K) (keys : List K)
  | setLinks (sd : Side) (id : K) (keys : List K)
  | addLink (sd : Side) (id k : K)
  | removeLink (sd : Side) (id k : K)
  | incr (sd : Side) (id k : K)
  | decr (sd : Side) (id k : K)
  | setCount (sd : Side) (id k : K) (count : Int)
  | getLinks (sd : Side) (id : K)
  | isLinked (sd : Side) (id k : K)
  | getCounts (sd : Side) (id k : K)
  deriving Repr

structure Out (K : Type) where
  st : St K
  ret : Ret K := .unit
  err : Option Err := none

def step (s : St K) : Op K → Out K
  | .create sd id blank links => let r := createEntity s sd id blank links; { st := r.1, err := r.2 }
  | .update sd id links p => let r := updateEntity s sd id links p; { st := r.1, err := r.2 }
  | .delete sd id => let r := deleteEntity s sd id; { st := r.1, err := r.2 }
  | .addLinks sd id keys => let r := addLinks s sd id keys; { st := r.1, err := r.2 }
  | .removeLinks sd id keys => let r := removeLinks s sd id keys; { st := r.1, err := r.2 }
  | .setLinks sd id keys => let r := setLinks s sd id keys; { st := r.1, err := r.2 }
  | .addLink sd id k => let r := addLink s sd id k; { st := r.1, ret := .bool r.2.1, err := r.2.2 }
  | .removeLink sd id k => let r := removeLink s sd id k; { st := r.1, ret := .bool r.2.1, err := r.2.2 }
  | .incr sd id k => let r := rcIncr s sd id k; { st := r.1, ret := .int r.2.1, err := r.2.2 }
  | .decr sd id k => let r := rcDecr s sd id k; { st := r.1, ret := .int r.2.1, err := r.2.2 }
  | .setCount sd id k c => let r := rcSet s sd id k c; { st := r.1, ret := .olds r.2.1 r.2.2.1, err := r.2.2.2 }
  | .getLinks sd id => { st := s, ret := .keys (linksOf s (sd, id)) }
  | .isLinked sd id k => { st := s, ret := .bool ((linksOf s (sd, id)).contains k) }
  | .getCounts sd id k => { st := s, ret := .olds (rcOf s (sd, id) k) (rcOf s (sd.other, k) id) }

/-- run the body of one `Db.Update`: stop at the first error.
    Returns the state reached (with partial writes) and whether the body failed. -/
def runOps : St K → List (Op K) → St K × Bool
  | s, [] => (s, false)
  | s, op :: ops =>
    let o := step s op
    match o.err with
    | some _ => (o.st, true)
    | none => runOps o.st ops

/-- `Db.Update`: commit iff the body returned nil -/
def commitTx (s : St K) (ops : List (Op K)) : St K :=
  let r := runOps s ops
  if r.2 then s else r.1

/-- a committed history -/
def runHist (s : St K) (txs : List (List (Op K))) : St K := txs.foldl commitTx s

end
end StorageModel.C05
