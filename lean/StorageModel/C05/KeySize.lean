import StorageModel.C05.SchemaSpec
/-
  C05 — the KEY-SIZE boundary of ids in link operations.

  bbolt accepts a bucket name of any length (an entity id is a bucket name) but `Put` refuses a key
  longer than `MaxKeySize` = 32768 bytes, and a link / count entry's key is the type byte plus the
  OTHER entity's id: an id of >= 32768 bytes (`big`) cannot be stored as a link key.  What the code
  does with bbolt's "key too large" (observed on the tree and followed here, operation by operation):

    * `SetListEntry` / `CheckAndSetListEntry` (AddLinks, AddLink, SetLinks' additions, SetLinkedIds) and
      `IncrementLinkCount` return the error: the operation fails — before anything is written when the
      key of the LOCAL entry is big, after the local entry was written when the key of the peer's entry
      (the local id) is big; the transaction is rolled back;
    * `TypedBucket.SetLinkCount(…, count ≠ 0)` likewise since fix 2a864e9 (before it the error was
      dropped — `bucket.SetInt32(…); return current, nil` — the entry with the big key was silently not
      written, the other side was, the call succeeded and the two sides disagreed: found by this check;
      `rcSetK_before_2a864e9`);
    * removals, decrements, `SetLinkCount(…, 0)`, reads and the delete clean-up never `Put` a new key.

  `gstepK` = `gstep` whenever no id or key of the operation is big (`gstepK_small`, by definition).
  The specification (`gsstepK`): an operation that would have to store a big key fails (and the
  transaction with it); everything else is C05/SchemaSpec.lean.
-/
namespace StorageModel.C05.Schema
open StorageModel.C05

inductive KErr
  | base (e : Err)
  | tooLarge            -- bbolt: "key too large"
  deriving DecidableEq, Repr

section
variable {K : Type} [KOrd K] [DecidableEq K]

structure KOut (K : Type) where
  st : GSt K
  ret : Ret K := .unit
  err : Option KErr := none

def liftOut (o : GOut K) : KOut K := { st := o.st, ret := o.ret, err := o.err.map .base }

/-- `linkCollectionImpl.link` with bbolt's key-size check -/
def linkK (big : K → Bool) (s : St K) (sd : Side) (id k : K) : St K × Option KErr :=
  if big k then (s, some .tooLarge)                       -- the local entry's key
  else
    let s1 := upd s (sd, id) fun e => { e with links := insertS k e.links }
    match s1.get (sd.other, k) with
    | none => (s1, some (.base .notFound))
    | some _ =>
      if big id then (s1, some .tooLarge)                 -- the peer's entry is keyed by the local id
      else ((symAddLink s1 (sd.other, k) id).1, none)

def linkAllK (big : K → Bool) (sd : Side) (id : K) : List K → St K → St K × Option KErr
  | [], s => (s, none)
  | k :: ks, s =>
    match linkK big s sd id k with
    | (s', some e) => (s', some e)
    | (s', none) => linkAllK big sd id ks s'

def addLinksK (big : K → Bool) (s : St K) (sd : Side) (id : K) (keys : List K) : St K × Option KErr :=
  match s.get (sd, id) with
  | none => (s, some (.base .missing))
  | some _ => linkAllK big sd id keys s

/-- `checkAndLink`: a failing local write returns `changed = false` -/
def addLinkK (big : K → Bool) (s : St K) (sd : Side) (id k : K) : St K × Bool × Option KErr :=
  match s.get (sd, id) with
  | none => (s, false, some (.base .missing))
  | some e =>
    if big k then (s, false, some .tooLarge)
    else
      let r := linkK big s sd id k
      (r.1, !(e.links.contains k), r.2)

def setLinksK (big : K → Bool) (s : St K) (sd : Side) (id : K) (keys : List K) : St K × Option KErr :=
  match s.get (sd, id) with
  | none => (s, some (.base .missing))
  | some e =>
    let w := mergeWalk e.links (sortK keys) [] []
    linkAllK big sd id (w.2.1 ++ w.1) (unlinkAll sd id w.2.2 s)

/-- `IncrementLinkCount`: both `TypedBucket.IncrementLinkCount` calls return the bucket error -/
def rcIncrK (big : K → Bool) (s : St K) (sd : Side) (id k : K) : St K × Int × Option KErr :=
  match s.get (sd, id) with
  | none => (s, 0, some (.base .missing))
  | some e =>
    if big k then (s, 0, some .tooLarge)
    else
      let s1 := s.put (sd, id) (bucketIncr e k).1
      match s1.get (sd.other, k) with
      | none => (s1, 0, some (.base .notFound))
      | some _ =>
        if big id then (s1, 0, some .tooLarge)
        else let r := rcIncr s sd id k; (r.1, r.2.1, r.2.2.map .base)

/-- `SetLinkCount` (since fix 2a864e9 `TypedBucket.SetLinkCount` returns the bucket error after
    `SetInt32`): like `IncrementLinkCount` — a non-zero count under a big key is an error, before anything
    is written when the local entry's key is big, after the local entry when the peer's is -/
def rcSetK (big : K → Bool) (s : St K) (sd : Side) (id k : K) (count : Int) :
    St K × Option Int × Option Int × Option KErr :=
  match s.get (sd, id) with
  | none => (s, none, none, some (.base .missing))
  | some e =>
    if big k && count != 0 then (s, none, none, some .tooLarge)
    else
      let s1 := s.put (sd, id) (bucketSet e k count).1
      match s1.get (sd.other, k) with
      | none => (s1, none, none, some (.base .notFound))
      | some _ =>
        if big id && count != 0 then (s1, none, none, some .tooLarge)
        else let r := rcSet s sd id k count; (r.1, r.2.1, r.2.2.1, r.2.2.2.map .base)

/-- the behaviour before fix 2a864e9: `TypedBucket.SetLinkCount` dropped the error of a refused `Put`
    (`bucket.SetInt32(…); return current, nil`) — the entry with the big key was silently not written, the
    other side was, the call succeeded -/
def rcSetK_before_2a864e9 (big : K → Bool) (s : St K) (sd : Side) (id k : K) (count : Int) :
    St K × Option Int × Option Int × Option KErr :=
  match s.get (sd, id) with
  | none => (s, none, none, some (.base .missing))
  | some e =>
    let l := if big k && count != 0 then (e, e.rc.get k) else bucketSet e k count
    let s1 := s.put (sd, id) l.1
    match s1.get (sd.other, k) with
    | none => (s1, none, none, some (.base .notFound))
    | some o =>
      let r := if big id && count != 0 then (o, o.rc.get id) else bucketSet o id count
      (s1.put (sd.other, k) r.1, l.2, r.2, none)

def GOp.keys : GOp K → List K
  | .create _ id _ links => id :: (match links with | some (_, ks) => ks | none => [])
  | .update _ id _ ks _ => id :: ks
  | .delete _ id => [id]
  | .link _ op =>
    match op with
    | .addLinks _ id ks => id :: ks
    | .removeLinks _ id ks => id :: ks
    | .setLinks _ id ks => id :: ks
    | .addLink _ id k => [id, k]
    | .removeLink _ id k => [id, k]
    | .getLinks _ id => [id]
    | .isLinked _ id k => [id, k]
  | .count _ op =>
    match op with
    | .incr _ id k => [id, k]
    | .decr _ id k => [id, k]
    | .setCount _ id k _ => [id, k]
    | .getCounts _ id k => [id, k]

/-- `SetLinkedIds` on a plain collection, with the key-size check -/
def gsetLinksK (sc : Schema) (big : K → Bool) (g : GSt K) (x : Store) (i : Nat) (id : K) (keys : List K) :
    GSt K × Option KErr :=
  match sc.colls[i]? with
  | some (.plain ca cb) =>
    match (Coll.plain ca cb).sideOf x with
    | some sd => let r := setLinksK big (g.slots i) sd id keys; (g.setSlot i r.1, r.2)
    | none => (g, some (.base .missing))
  | _ => let r := gsetLinks sc g x i id keys; (r.1, r.2.map .base)

/-- one operation, with bbolt's key-size limit: exactly `gstep` when no id or key is big -/
def gstepK (sc : Schema) (big : K → Bool) (g : GSt K) (op : GOp K) : KOut K :=
  if op.keys.all (fun k => !big k) then liftOut (gstep sc g op)
  else
    match op with
    | .create x id blank (some (i, keys)) =>
      -- the entity bucket itself can be created (a bucket name may be long); then `SetLinkedIds`
      let r := gcreate sc g x id blank none
      match r.2 with
      | some e => { st := r.1, err := some (.base e) }
      | none => let r2 := gsetLinksK sc big r.1 x i id keys; { st := r2.1, err := r2.2 }
    | .update x id i keys true =>
      if g.ents x id = false then { st := g, err := some (.base .notFound) }
      else let r := gsetLinksK sc big g x i id keys; { st := r.1, err := r.2 }
    | .link i (.addLinks sd id keys) =>
      match sc.colls[i]? with
      | some (.plain _ _) => let r := addLinksK big (g.slots i) sd id keys; { st := g.setSlot i r.1, err := r.2 }
      | _ => liftOut (gstep sc g op)
    | .link i (.setLinks sd id keys) =>
      match sc.colls[i]? with
      | some (.plain _ _) => let r := setLinksK big (g.slots i) sd id keys; { st := g.setSlot i r.1, err := r.2 }
      | _ => liftOut (gstep sc g op)
    | .link i (.addLink sd id k) =>
      match sc.colls[i]? with
      | some (.plain _ _) =>
        let r := addLinkK big (g.slots i) sd id k; { st := g.setSlot i r.1, ret := .bool r.2.1, err := r.2.2 }
      | _ => liftOut (gstep sc g op)
    | .count i (.incr sd id k) =>
      match sc.colls[i]? with
      | some (.rc _ _) =>
        let r := rcIncrK big (g.slots i) sd id k; { st := g.setSlot i r.1, ret := .int r.2.1, err := r.2.2 }
      | _ => liftOut (gstep sc g op)
    | .count i (.setCount sd id k c) =>
      match sc.colls[i]? with
      | some (.rc _ _) =>
        let r := rcSetK big (g.slots i) sd id k c
        { st := g.setSlot i r.1, ret := .olds r.2.1 r.2.2.1, err := r.2.2.2 }
      | _ => liftOut (gstep sc g op)
    -- removals, decrements, reads, entity create / delete never store a new link key
    | _ => liftOut (gstep sc g op)

theorem gstepK_small (sc : Schema) (big : K → Bool) (g : GSt K) (op : GOp K)
    (h : ∀ k ∈ op.keys, big k = false) : gstepK sc big g op = liftOut (gstep sc g op) := by
  unfold gstepK
  have : op.keys.all (fun k => !big k) = true := by
    rw [List.all_eq_true]; intro k hk; simp [h k hk]
  simp [this]

/-- the operation would have to store a link / count entry under a big key -/
def putsBig (big : K → Bool) : GOp K → Bool
  | .create _ id _ (some (_, keys)) => keys.any big || (big id && !keys.isEmpty)
  | .update _ id _ keys true => keys.any big || (big id && !keys.isEmpty)
  | .link _ (.addLinks _ id keys) => keys.any big || (big id && !keys.isEmpty)
  | .link _ (.setLinks _ id keys) => keys.any big || (big id && !keys.isEmpty)
  | .link _ (.addLink _ id k) => big id || big k
  | .count _ (.incr _ id k) => big id || big k
  | .count _ (.setCount _ id k c) => c != 0 && (big id || big k)
  | _ => false

/-- an operation either fails (leaving, after the rollback, both sides unchanged) or succeeds
    symmetrically: one that would have to store a big key cannot succeed symmetrically, so it fails -/
def gsstepK (sc : Schema) (big : K → Bool) (g : GSSt K) (op : GOp K) : Option (GSSt K × Ret K) :=
  if putsBig big op then none else gsstep sc g op

end

/-- `SetLinkCount(7, 100, 3)` and `IncrementLinkCount` of that pair fail with key-too-large from either
    side; before fix 2a864e9 the `SetLinkCount` succeeded and left B.100 with count 3 for A.7 while A.7
    held nothing for B.100 (found by this check) -/
example :
    let big : Nat → Bool := fun n => decide (n ≥ 100)
    let s : St Nat := [((.A, 7), {}), ((.B, 100), {})]
    (rcSetK big s .A 7 100 3).2.2.2 = some .tooLarge ∧ rcOf (rcSetK big s .A 7 100 3).1 (.B, 100) 7 = none ∧
    (rcSetK big s .B 100 7 3).2.2.2 = some .tooLarge ∧ (rcSetK big s .A 7 100 0).2.2.2 = none ∧
    (rcIncrK big s .A 7 100).2.2 = some .tooLarge ∧ (rcIncrK big s .B 100 7).2.2 = some .tooLarge ∧
    (rcSetK_before_2a864e9 big s .A 7 100 3).2.2.2 = none ∧
    rcOf (rcSetK_before_2a864e9 big s .A 7 100 3).1 (.B, 100) 7 = some 3 ∧
    rcOf (rcSetK_before_2a864e9 big s .A 7 100 3).1 (.A, 7) 100 = none := by decide +kernel

end StorageModel.C05.Schema
