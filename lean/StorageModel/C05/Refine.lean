import StorageModel.C05.Hist
import StorageModel.C05.Spec
/-
  C05 — the abstraction relation `Rel` between a state of the model and a state of the relational specification
  (C05/Spec.lean), what the specification's primitives do, and the two ways `Rel` is re-established: after a count
  write (`Rel.write`) and after link writes (`Rel.link`).  The simulation built on it is C05/Sim.lean.
-/
set_option linter.unusedSectionVars false
namespace StorageModel.C05
open Spec

section
variable {K : Type} [KOrd K] [DecidableEq K]

/-- the abstraction relation: each side's link sets and counts are that side's reading (`pair`) of the spec's ONE
    relation and ONE count map, so symmetry and agreement of the counts come with it (`Rel.sym`, `Rel.rcInv`) -/
structure Rel (s : St K) (ss : SSt K) (w : Int) : Prop where
  ents : ∀ r, exists? s r = has ss r
  rel : ∀ sd x y, y ∈ linksOf s (sd, x) ↔ pair sd x y ∈ ss.rel
  cnt : ∀ sd x y, rcOf s (sd, x) y = ss.cnt.get (pair sd x y)
  sorted : AllSorted s
  pos : ∀ p c, ss.cnt.get p = some c → 0 < c ∧ c ≤ w
  nonneg : 0 ≤ w

theorem rel_nil : Rel ([] : St K) ({} : SSt K) 0 :=
  ⟨fun _ => rfl, fun sd a b => by simp [linksOf, Map.get], fun _ _ _ => rfl, allSorted_nil,
    fun p c hc => (by cases hc), Int.le_refl 0⟩

theorem pair_other (sd : Side) (x y : K) : pair sd.other y x = pair sd x y := by cases sd <;> rfl

theorem Rel.sym {s : St K} {ss : SSt K} {w : Int} (h : Rel s ss w) : Sym s :=
  fun sd a b => by rw [h.rel, h.rel, pair_other]

theorem Rel.lInv {s : St K} {ss : SSt K} {w : Int} (h : Rel s ss w) : LInv s := ⟨h.sym, h.sorted⟩

theorem Rel.rcInv {s : St K} {ss : SSt K} {w : Int} (h : Rel s ss w) : RcInv s w :=
  ⟨fun sd a b => by rw [h.cnt, h.cnt, pair_other], fun r k c hc => by rw [h.cnt] at hc; exact h.pos _ _ hc⟩

theorem Rel.mono {s : St K} {ss : SSt K} {w w' : Int} (h : Rel s ss w) (hw : w ≤ w') : Rel s ss w' :=
  { h with pos := fun p c hc => ⟨(h.pos p c hc).1, Int.le_trans (h.pos p c hc).2 hw⟩, nonneg := Int.le_trans h.nonneg hw }

theorem pair_eq (sd : Side) (id k a b : K) :
    pair sd id k = (a, b) ↔ (sd = .A ∧ id = a ∧ k = b) ∨ (sd = .B ∧ k = a ∧ id = b) := by
  cases sd <;> simp [pair]

theorem pair_eq_pair (sd' sd : Side) (x y id k : K) :
    pair sd' x y = pair sd id k ↔ (sd' = sd ∧ x = id ∧ y = k) ∨ (sd' = sd.other ∧ x = k ∧ y = id) := by
  cases sd <;> cases sd' <;>
    simp only [pair, Side.other, Prod.mk.injEq, reduceCtorEq, false_and, true_and, or_false, false_or] <;>
    (constructor <;> rintro ⟨rfl, rfl⟩ <;> exact ⟨rfl, rfl⟩)

theorem exists_pair_eq_iff (sd' sd : Side) (id : K) (ks : List K) (a b : K) :
    (∃ k ∈ ks, pair sd' a b = pair sd id k) ↔
      (sd' = sd ∧ a = id ∧ b ∈ ks) ∨ (sd' = sd.other ∧ a ∈ ks ∧ b = id) := by
  simp only [pair_eq_pair]
  constructor
  · rintro ⟨k, hk, ⟨h1, h2, rfl⟩ | ⟨h1, rfl, h3⟩⟩
    · exact Or.inl ⟨h1, h2, hk⟩
    · exact Or.inr ⟨h1, hk, h3⟩
  · rintro (⟨h1, h2, h3⟩ | ⟨h1, h2, h3⟩)
    · exact ⟨b, h3, Or.inl ⟨h1, h2, rfl⟩⟩
    · exact ⟨a, h2, Or.inr ⟨h1, rfl, h3⟩⟩

theorem mentions_pair (sd sd' : Side) (id x y : K) :
    mentions sd id (pair sd' x y) = decide ((sd', x) = (sd, id) ∨ (sd'.other, y) = (sd, id)) := by
  -- `simp` leaves `decide p = decide p` with two different `Decidable p` instances
  cases sd <;> cases sd' <;> simp [mentions, pair, Side.other] <;> congr

theorem contains_iff {α : Type} [DecidableEq α] (l : List α) (x : α) : l.contains x = true ↔ x ∈ l := by
  simp

theorem linked_iff {s : St K} {ss : SSt K} {w : Int} (hr : Rel s ss w) (sd : Side) (id k : K) :
    linked ss sd id k = (linksOf s (sd, id)).contains k := by
  unfold linked
  have := hr.rel sd id k
  cases h1 : ss.rel.contains (pair sd id k) <;> cases h2 : (linksOf s (sd, id)).contains k <;> simp_all

theorem count_eq {s : St K} {ss : SSt K} {w : Int} (hr : Rel s ss w) (sd : Side) (id k : K) :
    count ss sd id k = rcOf s (sd, id) k := (hr.cnt sd id k).symm

theorem mem_partners (ss : SSt K) (sd : Side) (id y : K) : y ∈ partners ss sd id ↔ pair sd id y ∈ ss.rel := by
  cases sd <;> simp [partners, pair, mem_dedup_sort]

theorem partners_eq {s : St K} {ss : SSt K} {w : Int} (hr : Rel s ss w) (sd : Side) (id : K) :
    partners ss sd id = linksOf s (sd, id) :=
  ssorted_ext (by unfold partners; cases sd <;> exact ssorted_dedup_sort _) (hr.sorted (sd, id))
    fun y => by rw [mem_partners, hr.rel]

theorem mem_addPair (ss : SSt K) (p q : K × K) : q ∈ (addPair ss p).rel ↔ q ∈ ss.rel ∨ q = p := by
  unfold addPair
  split
  · next h =>
    have : p ∈ ss.rel := by simpa using h
    constructor
    · intro hq; exact Or.inl hq
    · rintro (hq | rfl)
      · exact hq
      · exact this
  · simp only [List.mem_cons]
    constructor
    · rintro (h | h)
      · exact Or.inr h
      · exact Or.inl h
    · rintro (h | h)
      · exact Or.inr h
      · exact Or.inl h

theorem addPair_ents (ss : SSt K) (p : K × K) : (addPair ss p).ents = ss.ents := by
  unfold addPair; split <;> rfl

theorem addPair_cnt (ss : SSt K) (p : K × K) : (addPair ss p).cnt = ss.cnt := by
  unfold addPair; split <;> rfl

theorem foldl_addPair (sd : Side) (id : K) (keys : List K) (ss : SSt K) :
    (∀ q, q ∈ (keys.foldl (fun s k => addPair s (pair sd id k)) ss).rel ↔
      q ∈ ss.rel ∨ ∃ k ∈ keys, q = pair sd id k) ∧
    (keys.foldl (fun s k => addPair s (pair sd id k)) ss).ents = ss.ents ∧
    (keys.foldl (fun s k => addPair s (pair sd id k)) ss).cnt = ss.cnt :=
  ⟨fun q => foldl_adds (M := fun ss => q ∈ ss.rel) (fun ss k => mem_addPair ss (pair sd id k) q) keys ss,
    foldl_keeps (P := fun t => t.ents = ss.ents) (fun t _ ht => (addPair_ents t _).trans ht) keys rfl,
    foldl_keeps (P := fun t => t.cnt = ss.cnt) (fun t _ ht => (addPair_cnt t _).trans ht) keys rfl⟩

theorem mem_delPair (ss : SSt K) (p q : K × K) : q ∈ (delPair ss p).rel ↔ q ∈ ss.rel ∧ ¬ q = p := by
  simp [delPair]

theorem foldl_delPair (sd : Side) (id : K) (keys : List K) (ss : SSt K) :
    (∀ q, q ∈ (keys.foldl (fun s k => delPair s (pair sd id k)) ss).rel ↔
      q ∈ ss.rel ∧ ¬ ∃ k ∈ keys, q = pair sd id k) ∧
    (keys.foldl (fun s k => delPair s (pair sd id k)) ss).ents = ss.ents ∧
    (keys.foldl (fun s k => delPair s (pair sd id k)) ss).cnt = ss.cnt :=
  ⟨fun q => foldl_removes (M := fun ss => q ∈ ss.rel) (fun ss k => mem_delPair ss (pair sd id k) q) keys ss,
    foldl_keeps (P := fun t : SSt K => t.ents = ss.ents) (f := fun s k => delPair s (pair sd id k)) (fun _ _ ht => ht) keys rfl,
    foldl_keeps (P := fun t : SSt K => t.cnt = ss.cnt) (f := fun s k => delPair s (pair sd id k)) (fun _ _ ht => ht) keys rfl⟩

theorem has_cons (ss : SSt K) (r r' : Ref K) :
    has { ss with ents := r :: ss.ents } r' = (if r = r' then true else has ss r') := by
  unfold has
  by_cases h : r = r'
  · subst h; simp
  · have : ¬ r' = r := fun e => h e.symm
    simp [h, this]

theorem has_filter (ss : SSt K) (r r' : Ref K) (rel' : List (K × K)) (cnt' : Map (K × K) Int) :
    has { ents := ss.ents.filter (· ≠ r), rel := rel', cnt := cnt' } r' = (if r = r' then false else has ss r') := by
  unfold has
  by_cases h : r = r'
  · subst h; simp
  · have : ¬ r' = r := fun e => h e.symm
    simp [h, this]

theorem all_exist_iff {s : St K} {ss : SSt K} {w : Int} (hr : Rel s ss w) (sd : Side) (keys : List K) :
    (keys.all fun k => has ss (sd.other, k)) = true ↔ ∀ k ∈ keys, exists? s (sd.other, k) = true := by
  simp only [List.all_eq_true]
  constructor
  · intro h k hk; rw [hr.ents]; exact h k hk
  · intro h k hk; rw [← hr.ents]; exact h k hk

theorem not_all_exist {s : St K} {ss : SSt K} {w : Int} (hr : Rel s ss w) (sd : Side) (keys : List K)
    (h : (keys.all fun k => has ss (sd.other, k)) = false) : ∃ k ∈ keys, exists? s (sd.other, k) = false := by
  have : ¬ (∀ k ∈ keys, exists? s (sd.other, k) = true) := by
    intro hall; rw [(all_exist_iff hr sd keys).mpr hall] at h; cases h
  apply Classical.byContradiction
  intro hn
  apply this
  intro k hk
  cases he : exists? s (sd.other, k) with
  | true => rfl
  | false => exact absurd ⟨k, hk, he⟩ hn

theorem Rel.write {s s' : St K} {ss : SSt K} {w w' : Int} (hr : Rel s ss w) {sd : Side} {id k : K} {v : Option Int}
    (hs : SameLinks s s') (hrc : PairedWrite s s' sd id k v) (hw : w ≤ w') (hv : ∀ c, v = some c → 0 < c ∧ c ≤ w')
    {cnt' : Map (K × K) Int} (hc : ∀ q, cnt'.get q = if pair sd id k = q then v else ss.cnt.get q) :
    Rel s' { ss with cnt := cnt' } w' := by
  refine ⟨fun r => by rw [(hs r).1]; exact hr.ents r, fun sd' a b => by rw [(hs _).2]; exact hr.rel sd' a b, fun sd' a b => ?_,
    fun r => by rw [(hs r).2]; exact hr.sorted r, fun p c hp => ?_, Int.le_trans hr.nonneg hw⟩
  · rw [hrc, hc, ← hr.cnt]; simp only [eq_comm (a := pair sd id k), pair_eq_pair]
    by_cases h1 : sd' = sd ∧ a = id ∧ b = k
    · simp [h1]
    · by_cases h2 : sd' = sd.other ∧ a = k ∧ b = id <;> simp [h1, h2]
  · simp only at hp; rw [hc] at hp; split at hp
    · exact hv c hp
    · exact (hr.mono hw).pos p c hp

theorem Rel.link {s s' : St K} {ss ss' : SSt K} {w : Int} (hr : Rel s ss w) (hf : LinkFrame s s') (he : ss'.ents = ss.ents)
    (hc : ss'.cnt = ss.cnt) (hl : ∀ sd a b, b ∈ linksOf s' (sd, a) ↔ pair sd a b ∈ ss'.rel) : Rel s' ss' w :=
  ⟨fun r => by rw [hf.ex]; unfold has; rw [he]; exact hr.ents r, hl, fun sd a b => by rw [hf.rc, hc]; exact hr.cnt sd a b,
    hf.sorted hr.sorted, fun p c => by rw [hc]; exact hr.pos p c, hr.nonneg⟩

end
end StorageModel.C05
