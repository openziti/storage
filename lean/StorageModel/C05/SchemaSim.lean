import StorageModel.C05.SchemaLemmas
/-
  C05 — schema-parametrised model: the invariant `GInv`, and how a slot moves (`Moves`, `SMoves`, `SlotMoves`, `Ok`).
-/
set_option linter.unusedSectionVars false
namespace StorageModel.C05.Schema
open StorageModel.C05

section
variable {K : Type} [KOrd K] [DecidableEq K]

structure GInv (sc : Schema) (g : GSt K) : Prop where
  /-- field buckets exist exactly inside the entity buckets of the collection's stores -/
  coh : ∀ i c, sc.colls[i]? = some c → ∀ sd id, exists? (g.slots i) (sd, id) =
      (match c.storeAt sd with | some x => g.ents x id | none => false)
  /-- a child-store entity is a sub-bucket of a root entity -/
  par : ∀ sd id, g.ents ⟨sd, true⟩ id = true → g.ents ⟨sd, false⟩ id = true
  noRc : ∀ i ca cb, sc.colls[i]? = some (.plain ca cb) → NoRc (g.slots i)
  noLinks : ∀ i ca cb, sc.colls[i]? = some (.rc ca cb) → NoLinks (g.slots i)

theorem gInv_g0 (sc : Schema) : GInv sc (g0 : GSt K) := by
  refine ⟨?_, ?_, ?_, ?_⟩
  · intro i c _ sd id
    cases c.storeAt sd <;> rfl
  · intro sd id h; cases h
  · intro i ca cb _ r k; rfl
  · intro i ca cb _ r; rfl

theorem coh_at {sc : Schema} {g : GSt K} (h : GInv sc g) {i : Nat} {c : Coll} (hi : sc.colls[i]? = some c)
    {sd : Side} {x : Store} (hx : c.sideOf x = some sd) (id : K) : exists? (g.slots i) (sd, id) = g.ents x id := by
  rw [h.coh i c hi sd id, (sideOf_eq_some_iff c x sd).mp hx]

theorem mapSlots_slot (sc : Schema) (g : GSt K) (f : Coll → St K → St K) {i : Nat} {c : Coll} (hi : sc.colls[i]? = some c) :
    (mapSlots sc g f).slots i = f c (g.slots i) := by
  simp [mapSlots, hi]

theorem setSlot_same (g : GSt K) (i : Nat) (s : St K) : (g.setSlot i s).slots i = s := by simp [GSt.setSlot]
theorem setSlot_ne (g : GSt K) {i j : Nat} (s : St K) (h : j ≠ i) : (g.setSlot i s).slots j = g.slots j := by
  simp [GSt.setSlot, h]

theorem cleanupLinks_ents (sc : Schema) (g : GSt K) (x : Store) (id : K) : (cleanupLinks sc g x id).ents = g.ents := rfl

def cleanupSlot (c : Coll) (x : Store) (id : K) (s : St K) : St K :=
  match c, c.sideOf x with
  | .plain _ _, some sd => linksEntityDeleted s sd id
  | .self _ _, some _ => SelfW.sEntityDeleted s id
  | .rc _ _, some sd => rcEntityDeleted s sd id
  | _, _ => s

theorem cleanupLinks_slot (sc : Schema) (g : GSt K) (x : Store) (id : K) {i : Nat} {c : Coll} (hi : sc.colls[i]? = some c) :
    (cleanupLinks sc g x id).slots i = cleanupSlot c x id (g.slots i) := by
  unfold cleanupLinks cleanupRc cleanupPlain
  rw [mapSlots_slot _ _ _ hi, mapSlots_slot _ _ _ hi]
  cases c <;> (cases hs : Coll.sideOf _ x <;> simp [cleanupSlot, hs])

theorem cleanupSlot_none {c : Coll} {x : Store} (hx : c.sideOf x = none) (id : K) (s : St K) :
    cleanupSlot c x id s = s := by
  cases c <;> simp [cleanupSlot, hx]

theorem cleanupLinks_slot_none (sc : Schema) (g : GSt K) (x : Store) (id : K) {i : Nat} {c : Coll} (hi : sc.colls[i]? = some c)
    (hx : c.sideOf x = none) : (cleanupLinks sc g x id).slots i = g.slots i := by
  rw [cleanupLinks_slot sc g x id hi, cleanupSlot_none hx]

theorem putEntity_slot (sc : Schema) (g : GSt K) (x : Store) (id : K) {i : Nat} {c : Coll} (hi : sc.colls[i]? = some c) :
    (putEntity sc g x id).slots i =
      match c.sideOf x with
      | some s => (g.slots i).put (s, id) {}
      | none => g.slots i := by
  show (match sc.colls[i]? with | some c => _ | none => _) = _
  rw [hi]; rfl

theorem dropEntity_slot (sc : Schema) (g : GSt K) (sd : Side) (id : K) {i : Nat} {c : Coll} (hi : sc.colls[i]? = some c) :
    (dropEntity sc g sd id).slots i =
      match c.famSide sd with
      | some s => (g.slots i).del (s, id)
      | none => g.slots i := by
  show (match sc.colls[i]? with | some c => _ | none => _) = _
  rw [hi]; rfl

/-- `s'` is reached from `s` by a body of base-model operations that all succeed; inside the
    vocabulary (`v`) the body is inside the base vocabulary and weighs at most `w` -/
def Moves (s s' : St K) (w : Int) (v : Prop) : Prop :=
  ∃ bops : List (Op K), runOps s bops = (s', false) ∧ (v → TxVocab bops ∧ txWeight bops ≤ w)

def SMoves (s s' : St K) : Prop := ∃ sops : List (SelfW.SOp K), SelfW.srunOpsW s sops = (s', false)

theorem runOps_append {s s' : St K} {a b : List (Op K)} (h : runOps s a = (s', false)) :
    runOps s (a ++ b) = runOps s' b := by
  induction a generalizing s with
  | nil => simp only [runOps] at h; cases h; rfl
  | cons op ops ih =>
    cases he : (step s op).err with
    | some e => rw [runOps_cons_err he] at h; cases h
    | none =>
      rw [runOps_cons_ok he] at h
      rw [List.cons_append, runOps_cons_ok he]
      exact ih h

theorem srunOpsW_append {s s' : St K} {a b : List (SelfW.SOp K)} (h : SelfW.srunOpsW s a = (s', false)) :
    SelfW.srunOpsW s (a ++ b) = SelfW.srunOpsW s' b := by
  induction a generalizing s with
  | nil => simp only [SelfW.srunOpsW] at h; cases h; rfl
  | cons op ops ih =>
    cases he : (SelfW.sstepW s op).err with
    | some e => rw [SelfW.srunOpsW_cons_err he] at h; cases h
    | none =>
      rw [SelfW.srunOpsW_cons_ok he] at h
      rw [List.cons_append, SelfW.srunOpsW_cons_ok he]
      exact ih h

theorem txWeight_append (a b : List (Op K)) : txWeight (a ++ b) = txWeight a + txWeight b := by
  simp [txWeight, List.map_append, List.sum_append]

theorem Moves.refl (s : St K) {w : Int} {v : Prop} (hw : v → 0 ≤ w) : Moves s s w v :=
  ⟨[], rfl, fun hv => ⟨fun _ h => (by cases h), (by simpa [txWeight] using hw hv)⟩⟩

theorem Moves.single {s : St K} {bop : Op K} (hok : (step s bop).err = none) {w : Int} {v : Prop}
    (hv : v → OpVocab bop ∧ weight bop ≤ w) : Moves s (step s bop).st w v := by
  refine ⟨[bop], ?_, fun h => ⟨?_, ?_⟩⟩
  · rw [runOps_cons_ok hok]; rfl
  · intro o ho; simp only [List.mem_cons, List.mem_nil_iff, or_false] at ho; subst ho; exact (hv h).1
  · simpa [txWeight] using (hv h).2

theorem Moves.trans {s s' s'' : St K} {w w' : Int} {v v' : Prop} (h : Moves s s' w v) (h' : Moves s' s'' w' v') :
    Moves s s'' (w + w') (v ∧ v') := by
  obtain ⟨a, ha, va⟩ := h
  obtain ⟨b, hb, vb⟩ := h'
  refine ⟨a ++ b, by rw [runOps_append ha, hb], fun ⟨hv, hv'⟩ => ⟨?_, ?_⟩⟩
  · intro o ho
    rcases List.mem_append.mp ho with ho | ho
    · exact (va hv).1 o ho
    · exact (vb hv').1 o ho
  · rw [txWeight_append]; have := (va hv).2; have := (vb hv').2; omega

theorem Moves.weaken {s s' : St K} {w w' : Int} {v v' : Prop} (h : Moves s s' w v) (hw : w ≤ w') (hv : v' → v) :
    Moves s s' w' v' := by
  obtain ⟨a, ha, va⟩ := h
  exact ⟨a, ha, fun h => ⟨(va (hv h)).1, by have := (va (hv h)).2; omega⟩⟩

theorem SMoves.refl (s : St K) : SMoves s s := ⟨[], rfl⟩

theorem SMoves.single {s : St K} {sop : SelfW.SOp K} (hok : (SelfW.sstepW s sop).err = none) :
    SMoves s (SelfW.sstepW s sop).st :=
  ⟨[sop], by rw [SelfW.srunOpsW_cons_ok hok]; rfl⟩

theorem SMoves.trans {s s' s'' : St K} (h : SMoves s s') (h' : SMoves s' s'') : SMoves s s'' := by
  obtain ⟨a, ha⟩ := h
  obtain ⟨b, hb⟩ := h'
  exact ⟨a ++ b, by rw [srunOpsW_append ha, hb]⟩

def SlotMoves (c : Coll) (s s' : St K) (w : Int) (v : Prop) : Prop :=
  match c with
  | .self _ _ => SMoves s s'
  | _ => Moves s s' w v

theorem SlotMoves.refl (c : Coll) (s : St K) {w : Int} {v : Prop} (hw : v → 0 ≤ w) : SlotMoves c s s w v := by
  cases c
  · exact Moves.refl s hw
  · exact Moves.refl s hw
  · exact SMoves.refl s

theorem SlotMoves.trans {c : Coll} {s s' s'' : St K} {w w' : Int} {v v' : Prop}
    (h : SlotMoves c s s' w v) (h' : SlotMoves c s' s'' w' v') : SlotMoves c s s'' (w + w') (v ∧ v') := by
  cases c
  · exact Moves.trans h h'
  · exact Moves.trans h h'
  · exact SMoves.trans h h'

theorem SlotMoves.weaken {c : Coll} {s s' : St K} {w w' : Int} {v v' : Prop}
    (h : SlotMoves c s s' w v) (hw : w ≤ w') (hv : v' → v) : SlotMoves c s s' w' v' := by
  cases c
  · exact Moves.weaken h hw hv
  · exact Moves.weaken h hw hv
  · exact h

theorem exists_putEntity_slot (sc : Schema) (g : GSt K) (x : Store) (id : K) {i : Nat} {c : Coll}
    (hi : sc.colls[i]? = some c) (sd : Side) (id' : K) :
    exists? ((putEntity sc g x id).slots i) (sd, id') =
      if c.storeAt sd = some x ∧ id' = id then true else exists? (g.slots i) (sd, id') := by
  rw [putEntity_slot sc g x id hi]
  cases hs : c.sideOf x with
  | none => exact (if_neg fun e => (sideOf_eq_none_iff c x).mp hs sd e.1).symm
  | some s =>
    have : (s, id) = (sd, id') ↔ c.storeAt sd = some x ∧ id' = id := by
      rw [← sideOf_eq_some_iff, hs]
      exact ⟨fun e => by cases e; exact ⟨rfl, rfl⟩, fun ⟨e, e'⟩ => by cases e; rw [e']⟩
    simp only [exists_put, this]

theorem putEntity_ginv {sc : Schema} {g : GSt K} (h : GInv sc g) {x : Store} {id : K}
    (hpar : x.child = true → g.ents ⟨x.side, false⟩ id = true) : GInv sc (putEntity sc g x id) := by
  refine ⟨?_, ?_, ?_, ?_⟩
  · intro i c hi sd id'
    rw [exists_putEntity_slot sc g x id hi, h.coh i c hi sd id']
    cases c.storeAt sd <;> simp [putEntity]
  · intro sd id' hc
    simp only [putEntity] at hc ⊢
    by_cases h1 : (⟨sd, true⟩ : Store) = x ∧ id' = id
    · obtain ⟨e1, e2⟩ := h1
      subst e1; subst e2
      have := hpar rfl
      simp only at this
      simp [this]
    · simp only [h1, if_false] at hc
      have := h.par sd id' hc
      simp [this]
  · intro i ca cb hi
    rw [putEntity_slot sc g x id hi]
    have := h.noRc i ca cb hi
    cases (Coll.plain ca cb).sideOf x with
    | none => exact this
    | some s =>
      simp only
      intro r k
      rw [rcOf_put]
      by_cases hr : (s, id) = r
      · simp [hr, Map.get]
      · simp only [hr, if_false]; exact this r k
  · intro i ca cb hi
    rw [putEntity_slot sc g x id hi]
    have := h.noLinks i ca cb hi
    cases (Coll.rc ca cb).sideOf x with
    | none => exact this
    | some s =>
      simp only
      intro r
      rw [linksOf_put]
      by_cases hr : (s, id) = r
      · simp [hr]
      · simp only [hr, if_false]; exact this r

theorem putEntity_ents_self (sc : Schema) (g : GSt K) (x : Store) (id : K) : (putEntity sc g x id).ents x id = true := by
  simp [putEntity]

theorem putEntity_ents_other (sc : Schema) (g : GSt K) {x y : Store} (id id' : K) (h : ¬ (y = x ∧ id' = id)) :
    (putEntity sc g x id).ents y id' = g.ents y id' := by
  simp [putEntity, h]

theorem putEntity_moves {sc : Schema} {g : GSt K} (h : GInv sc g) {x : Store} {id : K} (hx : g.ents x id = false)
    {i : Nat} {c : Coll} (hi : sc.colls[i]? = some c) (v : Prop) :
    SlotMoves c (g.slots i) ((putEntity sc g x id).slots i) 0 v := by
  rw [putEntity_slot sc g x id hi]
  cases hs : c.sideOf x with
  | none => exact SlotMoves.refl c _ fun _ => Int.le_refl 0
  | some s =>
    simp only
    have hne : exists? (g.slots i) (s, id) = false := by rw [coh_at h hi hs]; exact hx
    have hg := get_none_of_not_exists hne
    -- in a two-store slot the new bucket is the base model's `Create` without links
    have hm : Moves (g.slots i) ((g.slots i).put (s, id) {}) 0 v := by
      have e : step (g.slots i) (.create s id false none) = { st := (g.slots i).put (s, id) {}, err := none } := by
        simp [step, createEntity, hg]
      have := Moves.single (s := g.slots i) (bop := .create s id false none) (w := 0) (v := v) (by rw [e])
        (fun _ => ⟨trivial, by simp [weight]⟩)
      rw [e] at this; exact this
    cases c with
    | plain ca cb => exact hm
    | rc ca cb => exact hm
    | self sd' c' =>
      obtain rfl := sideOf_self hs
      have e : SelfW.sstepW (g.slots i) (.create id false none) = { st := (g.slots i).put (SelfW.R id) {}, err := none } := by
        simp [SelfW.sstepW, SelfW.screate, hg]
      have := SMoves.single (s := g.slots i) (sop := .create id false none) (by rw [e])
      rw [e] at this; exact this

/-- `g'` is coherent, and the slot of every declared collection got there from its slot in `g` by successful base
    operations (of weight at most `w`, inside the vocabulary if `v`) -/
structure Ok (sc : Schema) (g g' : GSt K) (w : Int) (v : Prop) : Prop where
  inv : GInv sc g'
  moves : ∀ j c, sc.colls[j]? = some c → SlotMoves c (g.slots j) (g'.slots j) w v

theorem Ok.refl {sc : Schema} {g : GSt K} (h : GInv sc g) {w : Int} {v : Prop} (hw : v → 0 ≤ w) : Ok sc g g w v :=
  ⟨h, fun _ c _ => SlotMoves.refl c _ hw⟩

theorem Ok.trans {sc : Schema} {g g' g'' : GSt K} {w w' : Int} {v v' : Prop} (h : Ok sc g g' w v) (h' : Ok sc g' g'' w' v') :
    Ok sc g g'' (w + w') (v ∧ v') :=
  ⟨h'.inv, fun j c hj => (h.moves j c hj).trans (h'.moves j c hj)⟩

theorem Ok.weaken {sc : Schema} {g g' : GSt K} {w w' : Int} {v v' : Prop} (h : Ok sc g g' w v) (hw : w ≤ w') (hv : v' → v) :
    Ok sc g g' w' v' :=
  ⟨h.inv, fun j c hj => (h.moves j c hj).weaken hw hv⟩

/-- `Create`, `Update` and `DeleteById` are made of steps of no weight -/
theorem Ok.trans0 {sc : Schema} {g g' g'' : GSt K} {v : Prop} (h : Ok sc g g' 0 v) (h' : Ok sc g' g'' 0 v) : Ok sc g g'' 0 v :=
  (h.trans h').weaken (Int.le_refl 0) fun hv => ⟨hv, hv⟩

theorem putEntity_ok {sc : Schema} {g : GSt K} (h : GInv sc g) {x : Store} {id : K} (hx : g.ents x id = false)
    (hpar : x.child = true → g.ents ⟨x.side, false⟩ id = true) {v : Prop} : Ok sc g (putEntity sc g x id) 0 v :=
  ⟨putEntity_ginv h hpar, fun _ _ hj => putEntity_moves h hx hj v⟩

end
end StorageModel.C05.Schema
