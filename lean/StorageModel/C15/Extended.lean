import StorageModel.C15.Query
import StorageModel.C15.Order
/-
  C15 — the full operation set:

  * writes whose shared fields the *parent's entity strategy* refuses.  A strategy reports a
    failure on the bucket of its persist context (`ctx.Bucket.SetError`, `SetRequiredString`, a
    refused bbolt put …); `PersistContext.GetParentContext` makes the parent bucket share the
    child bucket's error holder, so `Create` (`if bucket.HasError() { return … }` right after
    `PersistEntity`) and `Update` (`return bucket.Err`; the index constraints are no-ops once
    the shared holder has an error) report it whichever store the write was issued through.
    The strategy of the check's parent store refuses the reserved name 9 and more than three
    roles, each only when the field checker lets the field be written (`validateShared`).
    `createV` / `updateV` = `createM` / `updateM` with the strategy's verdict at the place the
    code has it: after the pre-checks (blank id, exists / not found), before the indexes.

  * `DeleteWhere(query)` through any store: `store.QueryIds(query)`, then
    `store.impl.DeleteById` for every id returned (`deleteWhereM`).

  `OpX`, `stepOpX`, `runX` are the histories over this operation set; `specOpX` the table
  specification.  The last section holds the lookup APIs that take an id (`loadById`,
  `loadEntity`, `entityBucketNonNil` next to Model.lean's `findById`, `isEntityPresent`) and their
  specification `ownedLookup` / `ownsData`.
-/
namespace StorageModel.C15

def reservedName : Val := 9
def maxRoles : Nat := 3

/-- what the parent strategy's `PersistEntity` leaves on the (shared) error holder:
    `if ctx.ProceedWithSet("name") && name is reserved`, then
    `if ctx.ProceedWithSet("roles") && len(roles) > 3` — first error wins -/
def validateShared (p : Payload) (chk : Option Checker) : Option Err :=
  if proceed chk (·.name) && p.name == reservedName then some .invalidName
  else if proceed chk (·.roles) && decide (p.roles.length > maxRoles) then some .invalidRoles
  else none

/-- `BaseStore.Create` with the strategy's verdict -/
def createV (cfg : Cfg) (st : St) (s : Sel) (id : Id) (p : Payload) : Except Err St :=
  match createPre st.ents s id with
  | some e => .error e
  | none =>
    match validateShared p none with
    | some e => .error e
    | none => createM cfg st s id p

/-- `BaseStore.Update` with the strategy's verdict; `upd` = `updateM` (or `updateMOrd`) -/
def updateVWith (upd : St → Sel → Id → Payload → Option Checker → Except Err St)
    (st : St) (s : Sel) (id : Id) (p : Payload) (chk : Option Checker) : Except Err St :=
  match updatePre st.ents s id with
  | some e => .error e
  | none =>
    match validateShared p chk with
    | some e => .error e
    | none => upd st s id p chk

def updateV := updateVWith updateM

/-- `DeleteById` for every id of a list, in order -/
def deleteAllWith (del : St → Sel → Id → Except Err St) (st : St) (s : Sel) : List Id → Except Err St
  | [] => .ok st
  | id :: rest =>
    match del st s id with
    | .ok st' => deleteAllWith del st' s rest
    | .error e => .error e

/-- `BaseStore.DeleteWhere` through store `s`: the ids *this* store's `QueryIds` returns -/
def deleteWhereWith (del : St → Sel → Id → Except Err St) (st : St) (s : Sel) (f : Filter) : Except Err St :=
  deleteAllWith del st s (queryIds st s f)

def deleteWhereM := deleteWhereWith deleteM

inductive OpX
  | create (s : Sel) (id : Id) (p : Payload)
  | update (s : Sel) (id : Id) (p : Payload) (chk : Option Checker)
  | delete (s : Sel) (id : Id)
  | deleteWhere (s : Sel) (f : Filter)
  deriving DecidableEq, Repr

def stepOpXWith (upd : St → Sel → Id → Payload → Option Checker → Except Err St)
    (del : St → Sel → Id → Except Err St) (cfg : Cfg) (st : St) : OpX → Except Err St
  | .create s id p => createV cfg st s id p
  | .update s id p chk => updateVWith upd st s id p chk
  | .delete s id => del st s id
  | .deleteWhere s f => deleteWhereWith del st s f

def stepOpX := stepOpXWith updateM deleteM
/-- the same with the child stores registered in the order `childOrder a2First` -/
def stepOpXOrd (a2First : Bool) := stepOpXWith (updateMOrd a2First) (deleteMOrd a2First)

def stepOpsX (cfg : Cfg) (st : St) : List OpX → Except Err St
  | [] => .ok st
  | op :: rest =>
    match stepOpX cfg st op with
    | .ok st' => stepOpsX cfg st' rest
    | .error e => .error e

def stepTxX (cfg : Cfg) (st : St) (tx : List OpX) : St :=
  match stepOpsX cfg st tx with
  | .ok st' => st'
  | .error _ => st

def runX (cfg : Cfg) (st : St) (hist : List (List OpX)) : St := hist.foldl (stepTxX cfg) st

/-- entity events of a successful operation; `ev` = `eventsOf` (or `eventsOfOrd`) -/
def eventsOfXWith (ev : St → Op → List Ev) (st : St) : OpX → List Ev
  | .create s id p => ev st (.create s id p)
  | .update s id p chk => ev st (.update s id p chk)
  | .delete s id => ev st (.delete s id)
  | .deleteWhere s f => (queryIds st s f).flatMap fun id => ev st (.delete s id)

def specCreateV (ents : Ents) (s : Sel) (id : Id) (p : Payload) : Except Err Ents :=
  match createPre ents s id with
  | some e => .error e
  | none =>
    match validateShared p none with
    | some e => .error e          -- what the parent store refuses is refused through every store
    | none => specCreate ents s id p

def specUpdateV (ents : Ents) (s : Sel) (id : Id) (p : Payload) (chk : Option Checker) : Except Err Ents :=
  match updatePre ents s id with
  | some e => .error e
  | none =>
    match validateShared p chk with
    | some e => .error e
    | none => specUpdate ents s id p chk

/-- delete-by-filter through store `s` removes exactly the entities `s` owns that match -/
def specDeleteWhere (ents : Ents) (s : Sel) (f : Filter) : Ents :=
  (ownedIds ents s false f).foldl mdel ents

def specOpX (ents : Ents) : OpX → Except Err Ents
  | .create s id p => specCreateV ents s id p
  | .update s id p chk => specUpdateV ents s id p chk
  | .delete _ id => specDelete ents id
  | .deleteWhere s f => .ok (specDeleteWhere ents s f)

def specOpsX (ents : Ents) : List OpX → Except Err Ents
  | [] => .ok ents
  | op :: rest =>
    match specOpX ents op with
    | .ok e' => specOpsX e' rest
    | .error e => .error e

def specTxX (ents : Ents) (tx : List OpX) : Ents :=
  match specOpsX ents tx with
  | .ok e' => e'
  | .error _ => ents

def specRunX (ents : Ents) (hist : List (List OpX)) : Ents := hist.foldl specTxX ents

theorem createM_of_pre (cfg : Cfg) (st : St) (s : Sel) (id : Id) (p : Payload) (e : Err)
    (h : createPre st.ents s id = some e) : createM cfg st s id p = .error e := by
  rw [createM_eq, h]

theorem specCreate_of_pre (ents : Ents) (s : Sel) (id : Id) (p : Payload) (e : Err)
    (h : createPre ents s id = some e) : specCreate ents s id p = .error e := by
  rw [specCreate_eq, h]

theorem createV_refines (cfg : Cfg) (hcfg : cfg.childCreateCapturesOld = true) (st : St) (hinv : Inv st)
    (s : Sel) (id : Id) (p : Payload) :
    Refines (createV cfg st s id p) (specCreateV st.ents s id p) := by
  unfold specCreateV createV
  exact Refines.guard _ fun _ => Refines.guard _ fun _ => createM_refines cfg st hinv s id p (Or.inl hcfg)

theorem updateV_refines (st : St) (hinv : Inv st) (s : Sel) (id : Id) (p : Payload) (chk : Option Checker) :
    Refines (updateV st s id p chk) (specUpdateV st.ents s id p chk) := by
  unfold specUpdateV updateV updateVWith
  exact Refines.guard _ fun _ => Refines.guard _ fun _ => updateM_refines st hinv s id p chk

theorem deleteAll_refines (s : Sel) (l : List Id) (st : St) (hinv : Inv st) (hnd : l.Nodup)
    (hex : ∀ id ∈ l, ∃ e, mget st.ents id = some e) :
    ∃ st', deleteAllWith deleteM st s l = .ok st' ∧ st'.ents = l.foldl mdel st.ents ∧ Inv st' := by
  induction l generalizing st with
  | nil => exact ⟨st, rfl, rfl, hinv⟩
  | cons x t ih =>
    obtain ⟨e, he⟩ := hex x (by simp)
    obtain ⟨st1, h1, h2, h3⟩ : Refines (deleteM st s x) (.ok (mdel st.ents x)) := by
      have hd := deleteM_refines st hinv s x
      rwa [specDelete, he] at hd
    obtain ⟨hx, ht⟩ := List.nodup_cons.1 hnd
    have hex1 : ∀ id ∈ t, ∃ e, mget st1.ents id = some e := by
      intro id hid
      obtain ⟨e', he'⟩ := hex id (List.mem_cons_of_mem _ hid)
      refine ⟨e', ?_⟩
      have hne : ¬ x = id := fun h => hx (h ▸ hid)
      rw [h2, mget_mdel, if_neg hne]; exact he'
    obtain ⟨st', h4, h5, h6⟩ := ih st1 h3 ht hex1
    refine ⟨st', ?_, ?_, h6⟩
    · simp only [deleteAllWith, h1]; exact h4
    · rw [h5, h2]; rfl

theorem deleteWhere_refines (st : St) (hinv : Inv st) (s : Sel) (f : Filter) :
    ∃ st', deleteWhereM st s f = .ok st' ∧ st'.ents = specDeleteWhere st.ents s f ∧ Inv st' := by
  unfold deleteWhereM deleteWhereWith specDeleteWhere
  rw [queryIds_eq_owned]
  refine deleteAll_refines s _ st hinv ((ownedIds_pairwise _ _ _ _).imp Nat.ne_of_lt) ?_
  intro id hid
  obtain ⟨e, he, _⟩ := (mem_ownedIds _ _ _ _ _).1 hid
  exact ⟨e, he⟩

theorem stepOpX_refines (cfg : Cfg) (hcfg : cfg.childCreateCapturesOld = true) (st : St) (hinv : Inv st) (op : OpX) :
    Refines (stepOpX cfg st op) (specOpX st.ents op) := by
  cases op with
  | create s id p => exact createV_refines cfg hcfg st hinv s id p
  | update s id p chk => exact updateV_refines st hinv s id p chk
  | delete s id => exact deleteM_refines st hinv s id
  | deleteWhere s f => exact deleteWhere_refines st hinv s f

theorem stepOpsX_refines (cfg : Cfg) (hcfg : cfg.childCreateCapturesOld = true) (ops : List OpX) (st : St)
    (hinv : Inv st) : Refines (stepOpsX cfg st ops) (specOpsX st.ents ops) := by
  induction ops generalizing st with
  | nil => exact ⟨st, rfl, rfl, hinv⟩
  | cons op rest ih =>
    rcases (stepOpX_refines cfg hcfg st hinv op).cases with ⟨e, hm, hs⟩ | ⟨st1, hm, hs, hinv1⟩
    · simp only [stepOpsX, specOpsX, hm, hs]; exact rfl
    · simp only [stepOpsX, specOpsX, hm, hs]; exact ih st1 hinv1

theorem stepTxX_refines (cfg : Cfg) (hcfg : cfg.childCreateCapturesOld = true) (tx : List OpX) (st : St)
    (hinv : Inv st) : (stepTxX cfg st tx).ents = specTxX st.ents tx ∧ Inv (stepTxX cfg st tx) := by
  unfold stepTxX specTxX
  rcases (stepOpsX_refines cfg hcfg tx st hinv).cases with ⟨e, hm, hs⟩ | ⟨st1, hm, hs, hinv1⟩
  · rw [hm, hs]; exact ⟨rfl, hinv⟩
  · rw [hm, hs]; exact ⟨rfl, hinv1⟩

theorem runX_refines (cfg : Cfg) (hcfg : cfg.childCreateCapturesOld = true) (hist : List (List OpX)) (st : St)
    (hinv : Inv st) : (runX cfg st hist).ents = specRunX st.ents hist ∧ Inv (runX cfg st hist) :=
  List.foldl_rel (r := fun st ents => st.ents = ents ∧ Inv st) ⟨rfl, hinv⟩
    fun tx _ st _ h => h.1 ▸ stepTxX_refines cfg hcfg tx st h.2

theorem mget_foldl_mdel (l : List Id) (ents : Ents) (j : Id) :
    mget (l.foldl mdel ents) j = if j ∈ l then none else mget ents j := by
  induction l generalizing ents with
  | nil => simp
  | cons x t ih =>
    simp only [List.foldl_cons, ih, mget_mdel, List.mem_cons]
    by_cases hjt : j ∈ t
    · simp [hjt]
    · by_cases hxj : x = j
      · simp [hxj]
      · have : ¬ j = x := fun h => hxj h.symm
        simp [hjt, hxj, this]

theorem stepOpXOrd_order_irrelevant (a2First : Bool) (cfg : Cfg) (st : St) (op : OpX) :
    stepOpXOrd a2First cfg st op = stepOpX cfg st op := by
  have hu : updateMOrd a2First = updateM := by
    funext st s id p chk; exact updateMOrd_order_irrelevant a2First st s id p chk
  have hd : deleteMOrd a2First = deleteM := by
    funext st s id; exact deleteMOrd_order_irrelevant a2First st s id
  unfold stepOpXOrd stepOpX
  rw [hu, hd]

theorem validateShared_child_irrelevant (p : Payload) (c : Option Val) (chk : Option Checker) :
    validateShared { p with child := c } chk = validateShared p chk := rfl

theorem createV_of_valid (cfg : Cfg) (st : St) (s : Sel) (id : Id) (p : Payload)
    (hv : validateShared p none = none) : createV cfg st s id p = createM cfg st s id p := by
  unfold createV
  cases hp : createPre st.ents s id with
  | some e => simp only [createM_of_pre cfg st s id p e hp]
  | none => simp only [hv]

theorem ok_of_guard {α : Type} {pre : Option Err} {m : Except Err α} {x : α}
    (h : (match (generalizing := false) pre with | some e => Except.error e | none => m) = .ok x) : m = .ok x := by
  cases pre with
  | some e => cases h
  | none => exact h

theorem createV_ok (cfg : Cfg) (st : St) (s : Sel) (id : Id) (p : Payload) (st' : St)
    (h : createV cfg st s id p = .ok st') : createM cfg st s id p = .ok st' :=
  ok_of_guard (ok_of_guard h)

theorem updateV_ok (st : St) (s : Sel) (id : Id) (p : Payload) (chk : Option Checker) (st' : St)
    (h : updateV st s id p chk = .ok st') : updateM st s id p chk = .ok st' :=
  ok_of_guard (ok_of_guard h)

theorem updateV_of_valid (st : St) (s : Sel) (id : Id) (p : Payload) (chk : Option Checker)
    (hp : updatePre st.ents s id = none) (hv : validateShared p chk = none) :
    updateV st s id p chk = updateM st s id p chk := by
  simp only [updateV, updateVWith, hp, hv]

/-- the operations of Model.lean as operations of the full set -/
def OpX.ofOp : Op → OpX
  | .create s id p => .create s id p
  | .update s id p chk => .update s id p chk
  | .delete s id => .delete s id

theorem stepOpX_ofOp_ok (cfg : Cfg) (st st' : St) (op : Op) (h : stepOpX cfg st (.ofOp op) = .ok st') :
    stepOp cfg st op = .ok st' := by
  cases op with
  | create s id p => exact createV_ok cfg st s id p st' h
  | update s id p chk => exact updateV_ok st s id p chk st' h
  | delete s id => exact h

theorem stepTxX_of_error (cfg : Cfg) (st : St) (op : OpX) (rest : List OpX) (e : Err)
    (h : stepOpX cfg st op = .error e) : stepTxX cfg st (op :: rest) = st := by
  simp [stepTxX, stepOpsX, h]

theorem updateChildM_of_pre (st : St) (s : Sel) (id : Id) (p : Payload) (chk : Option Checker) (e : Err)
    (h : updatePre st.ents s id = some e) : updateChildM st s id p chk = .error e := by
  rw [updateChildM_eq, h]

/-- the pre-checks are `updateM`'s own: where they fail, `updateM` fails alike (so `updateV` is
    `updateM` with the strategy's verdict inserted after them) -/
theorem updateM_of_pre (st : St) (s : Sel) (id : Id) (p : Payload) (chk : Option Checker) (e : Err)
    (h : updatePre st.ents s id = some e) : updateM st s id p chk = .error e := by
  have hpre : updatePre st.ents (updTarget st s id) id = updatePre st.ents s id := by
    unfold updatePre
    cases hm : mget st.ents id with
    | none => rfl
    | some b => simp only [(upd_route hm s p chk).1]
  rw [updateM_eq]
  exact updateChildM_of_pre st _ id _ chk e (hpre ▸ h)

/-! ## every lookup API of a store (store_crud.go: the methods taking an id)

  `FindById`, `LoadById` and `LoadEntity` each resolve the bucket with `getEntityBucketForLoad`
  (the child's data bucket; an extended store falls back to the parent's entity bucket) and fill
  an entity from it; `IsEntityPresent` and `GetEntityBucket != nil` look at the store's own data
  bucket only. -/

abbrev Found := Val × List Val × Option Val

/-- `LoadById`: not-found error instead of `found = false` -/
def loadById (st : St) (s : Sel) (id : Id) : Except Err Found :=
  match bucketForLoad st s id with
  | none => .error .notfound
  | some e => .ok (e.name, e.roles, e.childField s)

/-- `LoadEntity`: fills the caller's entity, reports whether it was found -/
def loadEntity (st : St) (s : Sel) (id : Id) : Option Found :=
  match bucketForLoad st s id with
  | none => none
  | some e => some (e.name, e.roles, e.childField s)

/-- `GetEntityBucket(tx, id) != nil` -/
def entityBucketNonNil (st : St) (s : Sel) (id : Id) : Bool :=
  match mget st.ents id with
  | none => false
  | some e => e.hasChild s

/-- the specification: the one predicate "store `s` owns the entity" decides every lookup —
    what a lookup through `s` returns for `id` -/
def ownedLookup (ents : Ents) (s : Sel) (id : Id) : Option Found :=
  match mget ents id with
  | some e => if ownsEnt s false e then some (e.name, e.roles, e.childField s) else none
  | none => none

/-- … and whether `s` has data of its own for `id` -/
def ownsData (ents : Ents) (s : Sel) (id : Id) : Bool :=
  match mget ents id with
  | some e => ownsEnt s true e
  | none => false

theorem findById_eq_owned (st : St) (s : Sel) (id : Id) : findById st s id = ownedLookup st.ents s id := by
  unfold findById bucketForLoad ownedLookup ownsEnt
  cases mget st.ents id with
  | none => rfl
  | some e =>
    cases h1 : e.hasChild s
    · cases s.isExtended <;> simp [h1]
    · simp [h1]

end StorageModel.C15
