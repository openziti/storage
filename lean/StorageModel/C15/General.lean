import StorageModel.C15.Refine
import StorageModel.C15.Query
import StorageModel.C15.Derive
/-
  C15 — the property statements for either variant of `BaseStore.Create` (`Cfg`), over the
  histories `Admissible` for that variant: every history for the repaired code
  (`childCreateCapturesOld = true`), the histories free of a child-store Create over an existing
  parent-only id for the code as it was.  Properties/C15.lean instantiates them with the variant
  regenerated from the source.
-/
namespace StorageModel.C15.General
open StorageModel.C15

deriving instance DecidableEq for Except

def Admissible (cfg : Cfg) (hist : List (List Op)) : Prop :=
  cfg.childCreateCapturesOld = true ∨ findingFree [] hist = true

def Reached (cfg : Cfg) (st : St) : Prop := ∃ hist, Admissible cfg hist ∧ st = run cfg St.init hist

/-- **Parent-store indexes and constraints apply identically to child entities**: `Inv` after
    every admissible history issued through A, A1 and A2. -/
theorem parent_constraints_apply_to_child_entities (cfg : Cfg) (hist : List (List Op))
    (h : Admissible cfg hist) : Inv (run cfg St.init hist) :=
  (run_refines cfg hist St.init inv_init h).2

theorem reached_inv {cfg : Cfg} {st : St} (h : Reached cfg st) : Inv st := by
  obtain ⟨hist, ha, rfl⟩ := h
  exact parent_constraints_apply_to_child_entities cfg hist ha

/-- The engine model refines the table specification on every admissible history: same entity
    table, hence (indexes being its image) the same answers; and every further operation gives
    the same result — success with the same table, or the same error. -/
theorem model_refines_spec (cfg : Cfg) (hist : List (List Op)) (h : Admissible cfg hist) :
    (run cfg St.init hist).ents = specRun [] hist ∧
    ∀ op, (cfg.childCreateCapturesOld = true ∨ findingOp (specRun [] hist) op = false) →
      match specOp (specRun [] hist) op with
      | .error e => stepOp cfg (run cfg St.init hist) op = .error e
      | .ok ents' => ∃ st', stepOp cfg (run cfg St.init hist) op = .ok st' ∧ st'.ents = ents' ∧ Inv st' := by
  obtain ⟨h1, h2⟩ := run_refines cfg hist St.init inv_init h
  refine ⟨h1, ?_⟩
  intro op hop
  have := stepOp_refines cfg (run cfg St.init hist) h2 op (by rw [h1]; exact hop)
  rw [h1] at this
  exact this

/-- The specification's indexes (`derive`: the image of the table, what the spec side of the
    check prints) answer every index read exactly like the engine model's incrementally
    maintained ones, after every admissible history. -/
theorem derived_indexes_agree (cfg : Cfg) (hist : List (List Op)) (h : Admissible cfg hist) :
    let st := run cfg St.init hist
    let d := derive (specRun [] hist)
    d.ents = st.ents ∧ (∀ v, mget d.nameIdx v = mget st.nameIdx v) ∧
    (∀ r j, (r, j) ∈ d.rolesIdx ↔ (r, j) ∈ st.rolesIdx) ∧ (∀ c, mget d.codeIdx c = mget st.codeIdx c) := by
  obtain ⟨h1, h2⟩ := run_refines cfg hist St.init inv_init h
  exact derive_agrees h1 h2

/-- with the repair in `BaseStore.Create` no history is excepted -/
theorem fixed_create_needs_no_exception (hist : List (List Op)) :
    Inv (run ⟨true⟩ St.init hist) ∧ (run ⟨true⟩ St.init hist).ents = specRun [] hist :=
  ⟨parent_constraints_apply_to_child_entities ⟨true⟩ hist (Or.inl rfl),
   (model_refines_spec ⟨true⟩ hist (Or.inl rfl)).1⟩

/-- **An entity created through the child exists in both** — lookups, queries and the parent's
    indexes — from any state satisfying `Inv`. -/
theorem create_through_child_exists_in_both (cfg : Cfg) (st : St) (hinv : Inv st)
    (s : Sel) (hs : s = .A1 ∨ s = .A2) (id : Id) (p : Payload) (st' : St)
    (hff : cfg.childCreateCapturesOld = true ∨ findingOp st.ents (.create s id p) = false)
    (h : createM cfg st s id p = .ok st') :
    findById st' .A id = some (p.name, canon p.roles, none) ∧
    findById st' s id = some (p.name, canon p.roles, p.child) ∧
    id ∈ queryIds st' .A .tt ∧ id ∈ queryIds st' s .tt ∧ id ∈ iterateValidIds st' s .tt ∧
    mget st'.nameIdx p.name = some id ∧ (∀ r, r ∈ p.roles → (r, id) ∈ st'.rolesIdx) := by
  have hinv' := (createM_refines cfg st hinv s id p hff).inv_of_ok h
  have hents := createM_ents cfg st st' s id p h
  generalize hb : (mget st.ents id).getD Ent.empty = base at hents
  have hget : mget st'.ents id = some (persistChild (persistShared base p none) s p none) := by
    rw [hents]; simp
  have hname : (persistChild (persistShared base p none) s p none).name = p.name := by
    rcases hs with rfl | rfl <;> rfl
  have hroles : (persistChild (persistShared base p none) s p none).roles = canon p.roles := by
    rcases hs with rfl | rfl <;> rfl
  have hchild : (persistChild (persistShared base p none) s p none).hasChild s = true := by
    rcases hs with rfl | rfl <;> rfl
  have hfield : (persistChild (persistShared base p none) s p none).childField s = p.child := by
    rcases hs with rfl | rfl <;> rfl
  have hown : ∀ v, ownsEnt s v (persistChild (persistShared base p none) s p none) = true := fun v => by
    simp [ownsEnt, hchild]
  refine ⟨?_, ?_, ?_, ?_, ?_, ?_, ?_⟩
  · simp [findById, bucketForLoad, hget, Ent.hasChild, hname, hroles, Ent.childField]
  · simp [findById, bucketForLoad, hget, hchild, hname, hroles, hfield]
  · exact (mem_queryIds ..).2 ⟨_, hget, rfl, rfl⟩
  · exact (mem_queryIds ..).2 ⟨_, hget, hown false, rfl⟩
  · exact (mem_iterateValidIds ..).2 ⟨_, hget, hown true, rfl⟩
  · exact (hinv'.name p.name id).2 ⟨hname ▸ hinv'.name_ne id _ hget, _, hget, hname⟩
  · intro r hr'
    exact (hinv'.roles r id).2 ⟨_, hget, by rw [hroles]; exact (mem_canon r p.roles).2 hr'⟩

/-- **The plain child store's queries return only entities that have child data** (and all of
    those that satisfy the filter). -/
theorem child_query_only_child_rows (st : St) (f : Filter) (id : Id) :
    (id ∈ queryIds st .A1 f ↔ ∃ e, mget st.ents id = some e ∧ e.c1.isSome = true ∧ f.eval e = true) ∧
    (id ∈ querySorted st .A1 f ↔ id ∈ queryIds st .A1 f) ∧
    (id ∈ iterateValidIds st .A1 f ↔ id ∈ queryIds st .A1 f) :=
  ⟨mem_queryIds st .A1 f id, mem_querySorted st .A1 f id, by rw [mem_iterateValidIds, mem_queryIds]; rfl⟩

/-- **The extended child store's queries return all parent entities**; only `IterateValidIds`
    restricts to the entities that have extension data. -/
theorem extended_query_all_parent_rows (st : St) (f : Filter) :
    queryIds st .A2 f = queryIds st .A f ∧ querySorted st .A2 f = querySorted st .A f ∧
    (∀ id, id ∈ queryIds st .A2 f ↔ ∃ e, mget st.ents id = some e ∧ f.eval e = true) ∧
    (∀ id, id ∈ iterateValidIds st .A2 f ↔
      ∃ e, mget st.ents id = some e ∧ e.c2.isSome = true ∧ f.eval e = true) := by
  have h1 : queryIds st .A2 f = queryIds st .A f := by rw [queryIds_eq_owned, queryIds_eq_owned]; rfl
  refine ⟨h1, by simp [querySorted, h1], fun id => ?_, mem_iterateValidIds st .A2 f⟩
  rw [mem_queryIds]
  exact exists_congr fun e => and_congr_right fun _ => ⟨fun h => h.2, fun h => ⟨rfl, h⟩⟩

/-- **Updating through the parent store or through the child store is the same operation**:
    the parent's `Update` of an entity with child data is the child's `Update` of the stored child
    entity with the caller's shared fields; a patch through the child that does not name the child
    field is the patch through the parent. -/
theorem update_either_route_same_state (st : St) (id : Id) (e : Ent) (hm : mget st.ents id = some e)
    (p : Payload) (chk : Option Checker) :
    (e.hasChild .A1 = true →
      updateM st .A id p chk = updateM st .A1 id { p with child := e.childField .A1 } chk) ∧
    (e.hasChild .A1 = false → e.hasChild .A2 = true →
      updateM st .A id p chk = updateM st .A2 id { p with child := e.childField .A2 } chk) ∧
    (∀ c : Checker, chk = some c → c.child = false → e.hasChild .A1 = true →
      updateM st .A1 id p chk = updateM st .A id p chk) ∧
    (∀ c : Checker, chk = some c → c.child = false → e.hasChild .A1 = false → e.hasChild .A2 = true →
      updateM st .A2 id p chk = updateM st .A id p chk) := by
  have hA1 : e.hasChild .A1 = true →
      updateM st .A id p chk = updateM st .A1 id { p with child := e.childField .A1 } chk := by
    intro h1
    simp [updateM, isEntityPresent, hm, h1, findById, bucketForLoad]
  have hA2 : e.hasChild .A1 = false → e.hasChild .A2 = true →
      updateM st .A id p chk = updateM st .A2 id { p with child := e.childField .A2 } chk := by
    intro h1 h2
    simp [updateM, isEntityPresent, hm, h1, h2, findById, bucketForLoad]
  refine ⟨hA1, hA2, ?_, ?_⟩
  · intro c hc hcc h1
    rw [hA1 h1]
    subst hc
    simp [updateM, updateChildM, bucketForLoad, hm, h1, persistChild, persistShared, proceed, hcc]
  · intro c hc hcc h1 h2
    rw [hA2 h1 h2]
    subst hc
    simp [updateM, updateChildM, bucketForLoad, hm, h2, persistChild, persistShared, proceed, hcc]

/-- **Updating through either store updates the shared fields and the parent's indexes**, from
    any state satisfying `Inv`: the fields the checker names replaced, the new name and roles
    indexed and the old ones not, every other entity untouched. -/
theorem update_updates_shared_fields_and_indexes (_cfg : Cfg) (st : St) (hinv : Inv st)
    (s : Sel) (id : Id) (p : Payload) (chk : Option Checker) (st' : St)
    (h : updateM st s id p chk = .ok st') :
    Inv st' ∧
    ∃ e, mget st.ents id = some e ∧
      findById st' .A id = some ((persistShared e p chk).name, (persistShared e p chk).roles, none) ∧
      mget st'.nameIdx (persistShared e p chk).name = some id ∧
      (e.name ≠ (persistShared e p chk).name → mget st'.nameIdx e.name = none) ∧
      (∀ r, (r, id) ∈ st'.rolesIdx ↔ r ∈ (persistShared e p chk).roles) ∧
      (∀ j, j ≠ id → mget st'.ents j = mget st.ents j) := by
  have h3 := (updateM_refines st hinv s id p chk).inv_of_ok h
  obtain ⟨e, hm, -, h2⟩ := updateM_ents st st' s id p chk h
  generalize hnew : persistChild (persistShared e p chk) s p chk = new at h2
  have hn : new.name = (persistShared e p chk).name := by rw [← hnew]; cases s <;> rfl
  have hro : new.roles = (persistShared e p chk).roles := by rw [← hnew]; cases s <;> rfl
  have hget : mget st'.ents id = some new := by rw [h2, mget_mput, if_pos rfl]
  refine ⟨h3, e, hm, ?_, ?_, ?_, ?_, ?_⟩
  · simp [findById, bucketForLoad, hget, Ent.hasChild, hn, hro, Ent.childField]
  · exact (h3.name _ id).2 ⟨hn ▸ h3.name_ne id _ hget, _, hget, hn⟩
  · intro hne
    cases hg : mget st'.nameIdx e.name with
    | none => rfl
    | some j =>
      exfalso
      obtain ⟨hv, e2, he2, hk⟩ := (h3.name _ _).1 hg
      have hold := (hinv.name e.name id).2 ⟨hinv.name_ne id e hm, e, hm, rfl⟩
      by_cases hj : j = id
      · subst hj; rw [hget] at he2; cases he2; exact hne (hk.symm.trans hn)
      · rw [h2, mget_mput, if_neg (fun h => hj h.symm)] at he2
        have := (hinv.name e.name j).2 ⟨hv, e2, he2, hk⟩
        rw [hold] at this; exact hj (Option.some.inj this).symm
  · intro r
    rw [h3.roles r id]
    constructor
    · rintro ⟨e2, he2, hr2⟩; rw [hget] at he2; cases he2; exact hro ▸ hr2
    · intro hr2; exact ⟨_, hget, hro.symm ▸ hr2⟩
  · intro j hj
    rw [h2, mget_mput, if_neg (fun h => hj h.symm)]

/-- **Deleting through either store removes both parts**: afterwards the entity is found through
    no store, returned by no store's queries, and has no child data left. -/
theorem delete_either_route_removes_both (st : St) (s : Sel) (id : Id) :
    deleteM st s id = deleteM st .A id ∧
    ∀ st', deleteM st s id = .ok st' →
      ∀ s', findById st' s' id = none ∧ isEntityPresent st' s' id = false ∧
        (∀ f, id ∉ queryIds st' s' f) ∧ (∀ f, id ∉ querySorted st' s' f) ∧ (∀ f, id ∉ iterateValidIds st' s' f) := by
  refine ⟨rfl, ?_⟩
  intro st' h s'
  have hgone : mget st'.ents id = none := by
    rw [deleteM_ents st st' s id h, mget_mdel, if_pos rfl]
  have hq : ∀ f, id ∉ queryIds st' s' f := by
    intro f hmem
    obtain ⟨e, he, _⟩ := (mem_queryIds st' s' f id).1 hmem
    rw [hgone] at he; cases he
  refine ⟨by simp [findById, bucketForLoad, hgone], by simp [isEntityPresent, hgone], hq, ?_, ?_⟩
  · intro f hmem; exact hq f ((mem_querySorted st' s' f id).1 hmem)
  · intro f hmem
    obtain ⟨e, he, _⟩ := (mem_iterateValidIds st' s' f id).1 hmem
    rw [hgone] at he; cases he

/-- … and leaves no trace of the id: no index entry of the parent store or of the child store
    refers to it any more, every other entity is untouched, and the invariant still holds. -/
theorem delete_leaves_no_trace (_cfg : Cfg) (st : St) (hinv : Inv st) (s : Sel) (id : Id) (st' : St)
    (h : deleteM st s id = .ok st') :
    Inv st' ∧ mget st'.ents id = none ∧
    (∀ v, mget st'.nameIdx v ≠ some id) ∧ (∀ r, (r, id) ∉ st'.rolesIdx) ∧ (∀ c, mget st'.codeIdx c ≠ some id) ∧
    (∀ j, j ≠ id → mget st'.ents j = mget st.ents j) := by
  have h3 := (deleteM_refines st hinv s id).inv_of_ok h
  have h2 := deleteM_ents st st' s id h
  have hgone : mget st'.ents id = none := by rw [h2, mget_mdel, if_pos rfl]
  obtain ⟨n1, n2, n3⟩ := h3.no_trace hgone
  exact ⟨h3, hgone, n1, n2, n3, fun j hj => by rw [h2, mget_mdel, if_neg (fun h => hj h.symm)]⟩

/-- how an operation changes "entity `j` has child data in store `s`" -/
def childDataAfter (op : Op) (s : Sel) (j : Id) (before : Bool) : Bool :=
  match op with
  | .create s' id _ => (s' == s && id == j) || before
  | .update _ _ _ _ => before
  | .delete _ id => id != j && before

theorem isEntityPresent_mput {st st' : St} {id : Id} {e : Ent} (h : st'.ents = mput st.ents id e) (s : Sel) (j : Id) :
    isEntityPresent st' s j = if id = j then e.hasChild s else isEntityPresent st s j := by
  unfold isEntityPresent
  rw [h, mget_mput]
  by_cases hj : id = j
  · simp only [if_pos hj]
  · simp only [if_neg hj]

theorem isEntityPresent_mdel {st st' : St} {id : Id} (h : st'.ents = mdel st.ents id) (s : Sel) (j : Id) :
    isEntityPresent st' s j = if id = j then false else isEntityPresent st s j := by
  unfold isEntityPresent
  rw [h, mget_mdel]
  by_cases hj : id = j
  · simp only [if_pos hj]
  · simp only [if_neg hj]

theorem hasChild_persist (e : Ent) (s' s : Sel) (p : Payload) (chk chk' : Option Checker) :
    (persistChild (persistShared e p chk) s' p chk').hasChild s = (s' == s || e.hasChild s) := by
  cases s' <;> cases s <;> rfl

theorem hasChild_getD (st : St) (s : Sel) (id : Id) (hs : s ≠ .A) :
    ((mget st.ents id).getD Ent.empty).hasChild s = isEntityPresent st s id := by
  unfold isEntityPresent
  cases mget st.ents id with
  | some e => rfl
  | none => cases s <;> first | rfl | exact absurd rfl hs

/-- which entities have child data changes only by `Create` through that child store and by
    `DeleteById` (through any store) — for every state and every successful operation -/
theorem child_data_changes_only_by_create_delete (cfg : Cfg) (st st' : St) (op : Op)
    (h : stepOp cfg st op = .ok st') (s : Sel) (hs : s = .A1 ∨ s = .A2) (j : Id) :
    isEntityPresent st' s j = childDataAfter op s j (isEntityPresent st s j) := by
  have hsA : s ≠ .A := by rcases hs with rfl | rfl <;> exact fun h => nomatch h
  cases op with
  | create s' id p =>
    rw [isEntityPresent_mput (createM_ents cfg st st' s' id p h), hasChild_persist, hasChild_getD _ _ _ hsA]
    by_cases hj : id = j <;> simp [childDataAfter, hj]
  | update s' id p chk =>
    obtain ⟨e, hm, hc, hents⟩ := updateM_ents st st' s' id p chk h
    rw [isEntityPresent_mput hents, hasChild_persist]
    split
    · next hj =>
      -- the store the update was issued through already had the entity's data
      subst hj
      have hpres : isEntityPresent st s id = e.hasChild s := by simp only [isEntityPresent, hm]
      rw [childDataAfter, hpres]
      cases htg : s' == s with
      | false => rfl
      | true => rw [← eq_of_beq htg, hc]; rfl
    · rfl
  | delete s' id =>
    rw [isEntityPresent_mdel (deleteM_ents st st' s' id h)]
    by_cases hj : id = j <;> simp [childDataAfter, hj]

/-- a `Create` through a child store with a name that another entity — plain-parent or child —
    already holds is refused as a duplicate, exactly as through the parent store; so is an
    `Update`/patch through a child store that changes the name to a taken one -/
theorem uniqueness_enforced_through_child (cfg : Cfg) (st : St) (hinv : Inv st)
    (s : Sel) (id other : Id) (eo : Ent) (p : Payload)
    (hne : other ≠ id) (ho : mget st.ents other = some eo) (hname : eo.name = p.name) :
    (id ≠ 0 → isEntityPresent st s id = false →
      (cfg.childCreateCapturesOld = true ∨ findingOp st.ents (.create s id p) = false) →
      createM cfg st s id p = .error .dupName) ∧
    (∀ e chk, id ≠ 0 → mget st.ents id = some e → e.hasChild s = true → proceed chk (·.name) = true →
      e.name ≠ p.name → updateM st s id p chk = .error .dupName) := by
  have hp0 : p.name ≠ 0 := hname ▸ hinv.name_ne other eo ho
  have hother : otherHas st.ents id (fun e => e.name == p.name) = true :=
    (otherHas_iff _ _ _).2 ⟨other, eo, hne, ho, by simp [hname]⟩
  constructor
  · intro hid hpres hff
    have href := createM_refines cfg st hinv s id p hff
    have hn : ∀ b, (persistChild (persistShared b p none) s p none).name = p.name := fun b => by
      cases s <;> rfl
    have hspec : specCreate st.ents s id p = .error .dupName := by
      rw [specCreate_eq, createPre_eq_none.2 ⟨hid, fun b hm => by simpa [isEntityPresent, hm] using hpres⟩]
      simp [specCheck, uniqViolation, hn, hp0, hother]
    rw [hspec] at href
    exact href
  · intro e chk hid hm hhc hpn hnn
    have href := updateM_refines st hinv s id p chk
    have hn : (persistChild (persistShared e p chk) s p chk).name = p.name := by
      cases s <;> simp [persistChild, persistShared, hpn]
    have hspec : specUpdate st.ents s id p chk = .error .dupName := by
      rw [specUpdate_eq, updatePre_eq_none.2 ⟨hid, e, hm, hhc⟩, hm]
      simp [specCheck, uniqViolation, hn, hp0, hother, hnn]
    rw [hspec] at href
    exact href

end StorageModel.C15.General
