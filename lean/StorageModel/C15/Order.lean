import StorageModel.C15.Refine
/-
  C15 — the order in which the parent's child stores are registered
  (`RegisterChildStoreStrategy`; `BaseStore.Update` and `BaseStore.DeleteById` walk
  `childStoreStrategies` in that order).

  Model.lean fixes the order A1 (plain), A2 (extended).  Here the same two functions are written
  for either order (`a2First`); the resulting state (or error) never depends on it, only the order
  (and, for `Update`, the addressee) of the child stores' entity events does.  So every theorem
  about `stepOp` / `run` speaks about both wirings.
-/
namespace StorageModel.C15

def childOrder (a2First : Bool) : Sel × Sel := if a2First then (.A2, .A1) else (.A1, .A2)

/-- the delegation step of `BaseStore.Update` for one registered child store:
    `ChildStoreUpdateHandler.HandleUpdate` — `none` = not handled -/
def handleUpdate (st : St) (c : Sel) (id : Id) (p : Payload) (chk : Option Checker) : Option (Except Err St) :=
  if isEntityPresent st c id then
    match findById st c id with
    | some (_, _, v) => some (updateChildM st c id { p with child := v } chk)
    | none => some (.error .notfound)
  else none

/-- `BaseStore.Update` through store `s`, child stores registered in the order `childOrder a2First` -/
def updateMOrd (a2First : Bool) (st : St) (s : Sel) (id : Id) (p : Payload) (chk : Option Checker) : Except Err St :=
  match s with
  | .A =>
    match handleUpdate st (childOrder a2First).1 id p chk with
    | some r => r
    | none =>
      match handleUpdate st (childOrder a2First).2 id p chk with
      | some r => r
      | none =>
        if id = 0 then .error .blank
        else
          match mget st.ents id with
          | none => .error .notfound
          | some e => indexAfter .A false st id e (persistShared e p chk)
  | s => updateChildM st s id p chk

/-- `BaseStore.DeleteById`, fan-out in registration order -/
def deleteMOrd (a2First : Bool) (st : St) (_s : Sel) (id : Id) : Except Err St :=
  match mget st.ents id with
  | none => .error .notfound
  | some _ =>
    let st1 := processDeleteConstraints st (childOrder a2First).1 id
    let st2 := processDeleteConstraints st1 (childOrder a2First).2 id
    let st3 := processDeleteConstraints st2 .A id
    .ok { st3 with ents := mdel st3.ents id }

def stepOpOrd (a2First : Bool) (cfg : Cfg) (st : St) : Op → Except Err St
  | .create s id p => createM cfg st s id p
  | .update s id p chk => updateMOrd a2First st s id p chk
  | .delete s id => deleteMOrd a2First st s id

/-- the entity events of a successful operation, in delivery order, for either registration order -/
def eventsOfOrd (a2First : Bool) (st : St) : Op → List Ev
  | .create .A id _ => [⟨.A, .created, id⟩]
  | .create s id _ => [⟨.A, .created, id⟩, ⟨s, .created, id⟩]
  | .update .A id _ _ =>
    if isEntityPresent st (childOrder a2First).1 id then [⟨.A, .updated, id⟩, ⟨(childOrder a2First).1, .updated, id⟩]
    else if isEntityPresent st (childOrder a2First).2 id then [⟨.A, .updated, id⟩, ⟨(childOrder a2First).2, .updated, id⟩]
    else [⟨.A, .updated, id⟩]
  | .update s id _ _ => [⟨.A, .updated, id⟩, ⟨s, .updated, id⟩]
  | .delete _ id =>
    [⟨.A, .deleted, id⟩] ++
      (if (bucketForLoad st (childOrder a2First).1 id).isSome then [⟨(childOrder a2First).1, .deleted, id⟩] else []) ++
      (if (bucketForLoad st (childOrder a2First).2 id).isSome then [⟨(childOrder a2First).2, .deleted, id⟩] else [])

theorem deleteMOrd_false (st : St) (s : Sel) (id : Id) : deleteMOrd false st s id = deleteM st s id := rfl

theorem eventsOfOrd_false (st : St) (op : Op) : eventsOfOrd false st op = eventsOf st op := by
  cases op with
  | create s id p => cases s <;> rfl
  | update s id p chk => cases s <;> rfl
  | delete s id => rfl

theorem deleteMOrd_order_irrelevant (a2First : Bool) (st : St) (s : Sel) (id : Id) :
    deleteMOrd a2First st s id = deleteM st s id := by
  cases a2First with
  | false => rfl
  | true =>
    unfold deleteMOrd deleteM
    cases hm : mget st.ents id with
    | none => rfl
    | some e =>
      -- both child stores' passes read the entity bucket, which neither changes, and write
      -- different index buckets (or the same value into the parent's)
      have hcomm : processDeleteConstraints (processDeleteConstraints st .A2 id) .A1 id =
          processDeleteConstraints (processDeleteConstraints st .A1 id) .A2 id := by
        rw [processDeleteConstraints_some (processDeleteConstraints st .A2 id) .A1 id e
            (by rw [processDeleteConstraints_ents]; exact hm),
          processDeleteConstraints_some (processDeleteConstraints st .A1 id) .A2 id e
            (by rw [processDeleteConstraints_ents]; exact hm),
          processDeleteConstraints_some st .A1 id e hm, processDeleteConstraints_some st .A2 id e hm]
        cases e.hasChild .A1 <;> cases e.hasChild .A2 <;> rfl
      simp only [childOrder, if_true]
      rw [hcomm]

theorem indexAfter_code_untouched (s : Sel) (st : St) (id : Id) (old new : Ent) (hk : new.codeKey = old.codeKey) :
    indexAfter .A1 false st id old new = indexAfter s false st id old new := by
  have : uniqAfter true false .dupCode st.codeIdx old.codeKey new.codeKey id = pure st.codeIdx := by
    simp [uniqAfter, hk]; rfl
  unfold indexAfter
  rw [this]
  cases s <;> rfl

theorem updateChild_both (st : St) (id : Id) (e : Ent) (hm : mget st.ents id = some e)
    (h1 : e.hasChild .A1 = true) (h2 : e.hasChild .A2 = true) (p : Payload) (chk : Option Checker) :
    updateChildM st .A2 id { p with child := e.childField .A2 } chk =
      updateChildM st .A1 id { p with child := e.childField .A1 } chk := by
  unfold updateChildM bucketForLoad
  simp only [hm, h1, h2, if_true, persist_delegate e .A1 p chk h1, persist_delegate e .A2 p chk h2]
  rw [indexAfter_code_untouched .A2 st id e (persistShared e p chk) rfl]

theorem handleUpdate_some (st : St) (c : Sel) (id : Id) (e : Ent) (hm : mget st.ents id = some e)
    (p : Payload) (chk : Option Checker) :
    handleUpdate st c id p chk =
      if e.hasChild c then some (updateChildM st c id { p with child := e.childField c } chk) else none := by
  unfold handleUpdate isEntityPresent findById bucketForLoad
  simp only [hm]
  cases e.hasChild c <;> rfl

theorem updateMOrd_order_irrelevant (a2First : Bool) (st : St) (s : Sel) (id : Id) (p : Payload)
    (chk : Option Checker) : updateMOrd a2First st s id p chk = updateM st s id p chk := by
  cases s with
  | A1 => rfl
  | A2 => rfl
  | A =>
    cases hm : mget st.ents id with
    | none => cases a2First <;> simp [updateMOrd, updateM, handleUpdate, isEntityPresent, hm]
    | some e =>
      have hM : updateM st .A id p chk =
          if e.hasChild .A1 then updateChildM st .A1 id { p with child := e.childField .A1 } chk
          else if e.hasChild .A2 then updateChildM st .A2 id { p with child := e.childField .A2 } chk
          else if id = 0 then .error .blank else indexAfter .A false st id e (persistShared e p chk) := by
        simp only [updateM, isEntityPresent, findById, bucketForLoad, hm]
        cases e.hasChild .A1 <;> cases e.hasChild .A2 <;> rfl
      rw [hM]
      unfold updateMOrd
      simp only [handleUpdate_some st _ id e hm, hm]
      cases a2First <;> simp only [childOrder, if_true, Bool.false_eq_true, if_false] <;>
        cases h1 : e.hasChild .A1 <;> cases h2 : e.hasChild .A2 <;>
        simp only [if_true, Bool.false_eq_true, if_false]
      -- A2 registered first and data of both child stores: through A2 here, through A1 in Model.lean
      exact updateChild_both st id e hm h1 h2 p chk

theorem stepOpOrd_order_irrelevant (a2First : Bool) (cfg : Cfg) (st : St) (op : Op) :
    stepOpOrd a2First cfg st op = stepOp cfg st op := by
  cases op with
  | create s id p => rfl
  | update s id p chk => exact updateMOrd_order_irrelevant a2First st s id p chk
  | delete s id => exact deleteMOrd_order_irrelevant a2First st s id

theorem delete_events_order (a2First : Bool) (st : St) (s : Sel) (id : Id) (ev : Ev) :
    ev ∈ eventsOfOrd a2First st (.delete s id) ↔ ev ∈ eventsOf st (.delete s id) := by
  cases a2First with
  | false => rw [eventsOfOrd_false]
  | true =>
    simp only [eventsOfOrd, eventsOf, childOrder, if_true, List.mem_append, or_assoc]
    exact or_congr Iff.rfl or_comm

end StorageModel.C15
