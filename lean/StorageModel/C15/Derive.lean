import StorageModel.C15.Proofs
/-
  C15 — the specification's view of the indexes (`derive`: the image of the table) answers
  every index read like the engine model's incrementally maintained indexes, in every state
  satisfying the invariant.
-/
namespace StorageModel.C15

def deriveUniq (ents : Ents) (key : Ent → Val) : Map Val Id :=
  (mkeys ents).filterMap fun id =>
    match mget ents id with
    | some e => if key e ≠ 0 then some (key e, id) else none
    | none => none

theorem mem_deriveUniq (ents : Ents) (key : Ent → Val) (v : Val) (j : Id) :
    (v, j) ∈ deriveUniq ents key ↔ v ≠ 0 ∧ ∃ e, mget ents j = some e ∧ key e = v := by
  simp only [deriveUniq, List.mem_filterMap, mem_mkeys]
  constructor
  · rintro ⟨id, ⟨e, he⟩, h⟩
    simp only [he] at h
    split at h
    · next hk => cases h; exact ⟨hk, e, he, rfl⟩
    · cases h
  · rintro ⟨hv, e, he, hk⟩
    refine ⟨j, ⟨e, he⟩, ?_⟩
    subst hk
    simp [he, hv]

theorem deriveUniq_agrees {idx : Map Val Id} {ents : Ents} {key : Ent → Val} (h : UMirror idx ents key) (v : Val) :
    mget (deriveUniq ents key) v = mget idx v := by
  -- whomever the derived index names holds the key, so the mirror names it too
  have hd : ∀ j, mget (deriveUniq ents key) v = some j → mget idx v = some j := fun j hj =>
    (h v j).2 ((mem_deriveUniq ents key v j).1 (mget_mem _ _ _ hj))
  cases hg : mget idx v with
  | some j =>
    obtain ⟨j', hj'⟩ := mem_mget _ _ _ ((mem_deriveUniq ents key v j).2 ((h v j).1 hg))
    rw [hj', ← hg, hd j' hj']
  | none =>
    cases hj : mget (deriveUniq ents key) v with
    | none => rfl
    | some j => rw [hd j hj] at hg; cases hg

theorem derive_roles_mirror (ents : Ents) : SMirror (derive ents).rolesIdx ents := by
  intro r j
  simp only [derive, List.mem_flatMap, mem_mkeys]
  constructor
  · rintro ⟨id, ⟨e, he⟩, h⟩
    simp only [he, List.mem_map, Prod.mk.injEq] at h
    obtain ⟨r', hr', rfl, rfl⟩ := h
    exact ⟨e, he, hr'⟩
  · rintro ⟨e, he, hr⟩
    exact ⟨j, ⟨e, he⟩, by simp [he, hr]⟩

/-- over any table equal to the state's, so that the two halves of `run_refines` / `runX_refines`
    (model table = specification table, `Inv`) apply as they come -/
theorem derive_agrees {st : St} {ents : Ents} (he : st.ents = ents) (h : Inv st) :
    (derive ents).ents = st.ents ∧ (∀ v, mget (derive ents).nameIdx v = mget st.nameIdx v) ∧
    (∀ r j, (r, j) ∈ (derive ents).rolesIdx ↔ (r, j) ∈ st.rolesIdx) ∧
    (∀ c, mget (derive ents).codeIdx c = mget st.codeIdx c) := by
  subst he
  exact ⟨rfl, deriveUniq_agrees h.name, fun r j => by rw [derive_roles_mirror _ r j, h.roles r j], deriveUniq_agrees h.code⟩

end StorageModel.C15
