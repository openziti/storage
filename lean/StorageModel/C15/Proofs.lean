import StorageModel.C15.Spec
/-
  C15 — the invariant (`Inv`: every index is the exact image of the entity table) and what each
  step of the index protocol of indexes.go does to it.
-/
namespace StorageModel.C15

/-- a unique index is the image of the table under `key` (empty keys are not indexed) -/
def UMirror (idx : Map Val Id) (ents : Ents) (key : Ent → Val) : Prop :=
  ∀ v j, mget idx v = some j ↔ v ≠ 0 ∧ ∃ e, mget ents j = some e ∧ key e = v

def SMirror (idx : List (Val × Id)) (ents : Ents) : Prop :=
  ∀ r j, (r, j) ∈ idx ↔ ∃ e, mget ents j = some e ∧ r ∈ e.roles

/-- the parent store's indexes and constraints, over the whole population (plain-parent and
    child entities alike): unique index on `name` exact and `name` never empty, set index on
    `roles` exact, A1's unique index on `code` exact -/
structure Inv (st : St) : Prop where
  name : UMirror st.nameIdx st.ents (·.name)
  roles : SMirror st.rolesIdx st.ents
  code : UMirror st.codeIdx st.ents (·.codeKey)
  name_ne : ∀ id e, mget st.ents id = some e → e.name ≠ 0

theorem inv_init : Inv St.init := by
  constructor <;> simp [UMirror, SMirror, St.init]

theorem Inv.no_trace {st : St} (h : Inv st) {id : Id} (hgone : mget st.ents id = none) :
    (∀ v, mget st.nameIdx v ≠ some id) ∧ (∀ r, (r, id) ∉ st.rolesIdx) ∧ (∀ c, mget st.codeIdx c ≠ some id) := by
  refine ⟨fun v hv => ?_, fun r hr => ?_, fun c hc => ?_⟩
  · obtain ⟨_, e, he, _⟩ := (h.name v id).1 hv
    rw [hgone] at he; cases he
  · obtain ⟨e, he, _⟩ := (h.roles r id).1 hr
    rw [hgone] at he; cases he
  · obtain ⟨_, e, he, _⟩ := (h.code c id).1 hc
    rw [hgone] at he; cases he

theorem otherHas_iff (ents : Ents) (id : Id) (q : Ent → Bool) :
    otherHas ents id q = true ↔ ∃ j e, j ≠ id ∧ mget ents j = some e ∧ q e = true := by
  unfold otherHas
  rw [List.any_eq_true]
  constructor
  · rintro ⟨j, hj, h⟩
    simp only [Bool.and_eq_true, bne_iff_ne, ne_eq] at h
    obtain ⟨h1, h2⟩ := h
    cases hm : mget ents j with
    | none => simp [hm] at h2
    | some e => exact ⟨j, e, h1, hm, by simpa [hm] using h2⟩
  · rintro ⟨j, e, h1, h2, h3⟩
    refine ⟨j, (mem_mkeys ents j).2 ⟨e, h2⟩, ?_⟩
    simp [h1, h2, h3]

/-! ### unique index

`UMirror idx (mdel ents id) key` says that `idx` holds the keys of every entity but `id`: the state
of the index between the removal of the old key and the insertion of the new one. -/

@[simp] theorem mget_uniqBeforeDelete (idx : Map Val Id) (v k : Val) :
    mget (uniqBeforeDelete idx v) k = if v ≠ 0 ∧ v = k then none else mget idx k := by
  unfold uniqBeforeDelete
  by_cases h0 : v = 0
  · simp [h0]
  · by_cases hk : v = k
    · subst hk; simp [h0]
    · simp [h0, hk]

theorem umirror_delete {ents : Ents} {idx idx' : Map Val Id} {key : Ent → Val} {id : Id} {e : Ent}
    (hidx : UMirror idx ents key) (he : mget ents id = some e)
    (h' : ∀ k, mget idx' k = if key e ≠ 0 ∧ key e = k then none else mget idx k) :
    UMirror idx' (mdel ents id) key := by
  intro v j
  rw [h', mget_mdel]
  by_cases hjid : id = j
  · subst hjid
    simp only [if_true]
    constructor
    · intro hg
      split at hg
      · cases hg
      · next hne =>
        obtain ⟨hv, e0, h0, hk⟩ := (hidx v id).1 hg
        rw [he] at h0; cases h0
        exact absurd ⟨hk ▸ hv, hk⟩ hne
    · rintro ⟨_, e0, h0, _⟩; cases h0
  · simp only [hjid, if_false]
    constructor
    · intro hg
      split at hg
      · cases hg
      · exact (hidx v j).1 hg
    · intro hr
      have hg := (hidx v j).2 hr
      split
      · next heq =>
        obtain ⟨h0, heq⟩ := heq
        subst heq
        have := (hidx (key e) id).2 ⟨h0, e, he, rfl⟩
        rw [hg] at this; exact absurd (Option.some.inj this).symm hjid
      · exact hg

theorem umirror_delete_untouched {ents : Ents} {idx : Map Val Id} {key : Ent → Val} {id : Id} {e : Ent}
    (hidx : UMirror idx ents key) (he : mget ents id = some e) (h0 : key e = 0) :
    UMirror idx (mdel ents id) key :=
  umirror_delete hidx he (by intro k; simp [h0])

theorem umirror_forget {ents : Ents} {idx : Map Val Id} {key : Ent → Val} {id : Id}
    (hidx : UMirror idx ents key) (h0 : key Ent.empty = 0) :
    UMirror (uniqBeforeDelete idx (key ((mget ents id).getD Ent.empty))) (mdel ents id) key := by
  cases he : mget ents id with
  | some e => exact umirror_delete hidx he fun k => mget_uniqBeforeDelete ..
  | none =>
    intro v j
    rw [Option.getD_none, h0, mget_uniqBeforeDelete, if_neg (fun h => h.1 rfl), hidx v j, mget_mdel]
    by_cases hj : id = j
    · subst hj; simp [he]
    · simp [hj]

theorem umirror_insert_null {ents : Ents} {idx : Map Val Id} {key : Ent → Val} {id : Id} {new : Ent}
    (h : UMirror idx (mdel ents id) key) (hn : key new = 0) : UMirror idx (mput ents id new) key := by
  intro v j
  rw [h v j, mget_mdel, mget_mput]
  by_cases hj : id = j
  · subst hj
    simp only [if_true, Option.some.injEq]
    constructor
    · rintro ⟨_, e, he, _⟩; cases he
    · rintro ⟨hv, e, rfl, hk⟩; exact absurd (hk.symm.trans hn) hv
  · simp only [hj, if_false]

theorem umirror_insert {ents : Ents} {idx : Map Val Id} {key : Ent → Val} {id : Id} {new : Ent}
    (h : UMirror idx (mdel ents id) key) (hn : key new ≠ 0) (hfree : mget idx (key new) = none) :
    UMirror (mput idx (key new) id) (mput ents id new) key := by
  intro v j
  have hvj := h v j
  rw [mget_mdel] at hvj
  rw [mget_mput, mget_mput]
  by_cases hv : key new = v
  · subst hv
    rw [hfree] at hvj
    by_cases hj : id = j
    · subst hj; simp [hn]
    · simp only [hj, if_false] at hvj ⊢
      simp only [if_true, Option.some.injEq, hj, false_iff]
      exact fun hr => nomatch hvj.2 hr
  · by_cases hj : id = j
    · subst hj
      simp only [hv, if_false, if_true, Option.some.injEq] at hvj ⊢
      rw [hvj]
      constructor
      · rintro ⟨_, e, he, _⟩; cases he
      · rintro ⟨_, e, rfl, hk⟩; exact absurd hk hv
    · simp only [hv, hj, if_false] at hvj ⊢
      exact hvj

/-- the specification's "another entity holds the key" is the index lookup between removal and insertion -/
theorem otherHas_eq_isSome {ents : Ents} {idx : Map Val Id} {key : Ent → Val} {id : Id} {v : Val}
    (h : UMirror idx (mdel ents id) key) (hv : v ≠ 0) :
    otherHas ents id (fun e => key e == v) = (mget idx v).isSome := by
  rw [Bool.eq_iff_iff, otherHas_iff, Option.isSome_iff_exists]
  constructor
  · rintro ⟨j, e, hj, he, hk⟩
    exact ⟨j, (h v j).2 ⟨hv, e, by rw [mget_mdel, if_neg (Ne.symm hj)]; exact he, by simpa using hk⟩⟩
  · rintro ⟨j, hj⟩
    obtain ⟨_, e, he, hk⟩ := (h v j).1 hj
    rw [mget_mdel] at he
    split at he
    · cases he
    · next hne => exact ⟨j, e, Ne.symm hne, he, by simp [hk]⟩

theorem umirror_same_key {ents : Ents} {idx : Map Val Id} {key : Ent → Val} {id : Id} {new : Ent}
    (hidx : UMirror idx ents key) (h0 : key Ent.empty = 0)
    (heq : key new = key ((mget ents id).getD Ent.empty)) :
    UMirror idx (mput ents id new) key := by
  intro v j
  rw [hidx v j, mget_mput]
  by_cases hj : id = j
  · subst hj
    simp only [if_true, Option.some.injEq]
    cases he : mget ents id with
    | some e =>
      rw [he] at heq
      constructor
      · rintro ⟨hv, _, h, hkv⟩; cases h; exact ⟨hv, new, rfl, heq.trans hkv⟩
      · rintro ⟨hv, _, rfl, hkv⟩; exact ⟨hv, e, rfl, heq.symm.trans hkv⟩
    | none =>
      rw [he] at heq
      constructor
      · rintro ⟨_, e, he, _⟩; cases he
      · rintro ⟨hv, _, rfl, hkv⟩; exact absurd (hkv.symm.trans (heq.trans h0)) hv
  · simp only [hj, if_false]

theorem uniqAfter_refines {ents : Ents} {idx : Map Val Id} {key : Ent → Val} {id : Id} {new : Ent}
    (nullable isCreate : Bool) (dup : Err) (hidx : UMirror idx ents key) (h0 : key Ent.empty = 0) :
    match uniqViolation ents id nullable dup key
        (isCreate || key ((mget ents id).getD Ent.empty) != key new) (key new) with
    | some err =>
      uniqAfter nullable isCreate dup idx (key ((mget ents id).getD Ent.empty)) (key new) id = .error err
    | none =>
      ∃ idx', uniqAfter nullable isCreate dup idx (key ((mget ents id).getD Ent.empty)) (key new) id = .ok idx' ∧
        UMirror idx' (mput ents id new) key := by
  have hothers := umirror_forget (id := id) hidx h0
  unfold uniqViolation uniqAfter
  cases hch : (isCreate || key ((mget ents id).getD Ent.empty) != key new)
  · obtain ⟨hic, heq⟩ : isCreate = false ∧ key ((mget ents id).getD Ent.empty) = key new := by simpa using hch
    simp only [hic, heq, Bool.not_false, Bool.true_and, beq_self_eq_true, if_true]
    exact ⟨idx, rfl, umirror_same_key hidx h0 heq.symm⟩
  · have h1 : (!isCreate && key ((mget ents id).getD Ent.empty) == key new) = false := by
      cases isCreate
      · simpa using hch
      · rfl
    simp only [h1, Bool.not_true, Bool.false_eq_true, if_false]
    rw [show ∀ k, (if k = 0 then idx else mdel idx k) = uniqBeforeDelete idx k from fun _ => rfl]
    by_cases hn : key new = 0
    · simp only [hn, beq_self_eq_true, if_true]
      cases nullable
      · rfl
      · exact ⟨_, rfl, umirror_insert_null hothers hn⟩
    · rw [otherHas_eq_isSome hothers hn]
      simp only [hn, beq_iff_eq, if_false]
      cases hg : mget (uniqBeforeDelete idx (key ((mget ents id).getD Ent.empty))) (key new) with
      | some j => rfl
      | none => exact ⟨_, rfl, umirror_insert hothers hn hg⟩

theorem uniqViolation_nonnull {ents : Ents} {id : Id} {dup : Err} {key : Ent → Val} {new : Val}
    (h : uniqViolation ents id false dup key true new = none) : new ≠ 0 := by
  intro h0
  simp [uniqViolation, h0] at h

/-- for the stores that do not run the constraint (A and A2 leave A1's `code` index alone) -/
theorem uniq_untouched {ents : Ents} {idx : Map Val Id} {key : Ent → Val} {id : Id} {new : Ent}
    (isCreate : Bool) (dup : Err) (hidx : UMirror idx ents key) (h0 : key Ent.empty = 0)
    (heq : key new = key ((mget ents id).getD Ent.empty)) :
    uniqViolation ents id true dup key (isCreate || key ((mget ents id).getD Ent.empty) != key new) (key new) = none ∧
      UMirror idx (mput ents id new) key := by
  refine ⟨?_, umirror_same_key hidx h0 heq⟩
  unfold uniqViolation
  by_cases hn : key new = 0
  · simp [hn]
  · rw [otherHas_eq_isSome (umirror_forget hidx h0) hn, ← heq, mget_uniqBeforeDelete]
    simp [hn]

theorem mem_foldl_prem (old : List Val) (id : Id) (idx : List (Val × Id)) (p : Val × Id) :
    p ∈ old.foldl (fun acc r => prem acc (r, id)) idx ↔ p ∈ idx ∧ ¬ (p.2 = id ∧ p.1 ∈ old) := by
  induction old generalizing idx with
  | nil => simp
  | cons r t ih =>
    obtain ⟨a, b⟩ := p
    simp only [List.foldl_cons, ih, mem_prem, List.mem_cons, ne_eq, Prod.mk.injEq]
    by_cases ha : a = r <;> by_cases hb : b = id <;> simp [ha, hb]

theorem mem_foldl_padd (new : List Val) (id : Id) (idx : List (Val × Id)) (p : Val × Id) :
    p ∈ new.foldl (fun acc r => padd acc (r, id)) idx ↔ p ∈ idx ∨ (p.2 = id ∧ p.1 ∈ new) := by
  induction new generalizing idx with
  | nil => simp
  | cons r t ih =>
    obtain ⟨a, b⟩ := p
    simp only [List.foldl_cons, ih, mem_padd, List.mem_cons, Prod.mk.injEq]
    by_cases ha : a = r <;> by_cases hb : b = id <;> simp [ha, hb]

theorem setAfter_mirror {ents : Ents} {idx : List (Val × Id)} {id : Id} {new : Ent} (hidx : SMirror idx ents) :
    SMirror (setAfter idx ((mget ents id).getD Ent.empty).roles new.roles id) (mput ents id new) := by
  -- the entries of `id` are the roles its entity bucket held (none for a new bucket)
  have hid : ∀ r, (r, id) ∈ idx ↔ r ∈ ((mget ents id).getD Ent.empty).roles := fun r => by
    rw [hidx r id]
    cases mget ents id with
    | some e => exact ⟨fun ⟨_, h, hr⟩ => (Option.some.inj h) ▸ hr, fun hr => ⟨e, rfl, hr⟩⟩
    | none => exact ⟨fun ⟨_, h, _⟩ => (nomatch h), fun hr => (nomatch hr)⟩
  generalize ((mget ents id).getD Ent.empty).roles = old at hid ⊢
  have hmem : ∀ r j, (r, j) ∈ setAfter idx old new.roles id ↔
      if j = id then r ∈ new.roles else (r, j) ∈ idx := fun r j => by
    unfold setAfter
    by_cases heq : old = new.roles
    · simp only [heq, beq_self_eq_true, if_true]
      split
      · next hj => rw [hj, hid, heq]
      · rfl
    · have hb : (old == new.roles) = false := by simpa using heq
      simp only [hb, Bool.false_eq_true, if_false, mem_foldl_padd, mem_foldl_prem]
      split
      · next hj => subst hj; simp [hid]
      · next hj => simp [hj]
  intro r j
  rw [hmem, mget_mput]
  by_cases hj : j = id
  · subst hj; simp
  · rw [if_neg hj, if_neg (fun h => hj h.symm)]; exact hidx r j

@[simp] theorem mem_setBeforeDelete (idx : List (Val × Id)) (roles : List Val) (id : Id) (p : Val × Id) :
    p ∈ setBeforeDelete idx roles id ↔ p ∈ idx ∧ ¬ (p.2 = id ∧ p.1 ∈ roles) :=
  mem_foldl_prem roles id idx p

theorem smirror_delete {ents : Ents} {idx idx' : List (Val × Id)} {id : Id} {e : Ent}
    (hidx : SMirror idx ents) (he : mget ents id = some e)
    (h' : ∀ p, p ∈ idx' ↔ p ∈ idx ∧ ¬ (p.2 = id ∧ p.1 ∈ e.roles)) :
    SMirror idx' (mdel ents id) := by
  intro r j
  rw [h', mget_mdel]
  by_cases hjid : id = j
  · subst hjid
    simp only [if_true, true_and]
    constructor
    · rintro ⟨hm, hnot⟩
      obtain ⟨e0, h0, hr⟩ := (hidx r id).1 hm
      rw [he] at h0; cases h0
      exact absurd hr hnot
    · rintro ⟨e0, h0, _⟩; cases h0
  · have hne : ¬ j = id := fun h => hjid h.symm
    simp only [hjid, if_false, hne, false_and, not_false_eq_true, and_true]
    exact hidx r j

end StorageModel.C15
