import StorageModel.C15.Model
/-
  C15 — the specification: one table of entities, nothing else.

  * an entity is (shared fields, optional A1 data, optional A2 data);
  * creating through a child store makes the entity exist with the shared fields *and* the
    child data (over an id that exists without that child's data it extends the entity and
    replaces the shared fields);
  * updating through any store replaces the shared fields named by the checker (and the
    child's own field when issued through that child);
  * deleting through any store removes the entity, i.e. both parts;
  * the parent's constraints are constraints on the table, whoever the entity belongs to:
    `name` is non-empty and unique, `code` is unique when set;
  * indexes are not state: they are the image of the table (`derive`).
-/
namespace StorageModel.C15

abbrev Ents := Map Id Ent

/-- some *other* entity satisfies `q` -/
def otherHas (ents : Ents) (id : Id) (q : Ent → Bool) : Bool :=
  (mkeys ents).any fun j => j != id && (match mget ents j with | some e => q e | none => false)

/-- verdict of one unique constraint on the table when entity `id` takes key `new`
    (`changed`: the entity is being created or the key differs from its old one) -/
def uniqViolation (ents : Ents) (id : Id) (nullable : Bool) (dup : Err) (key : Ent → Val)
    (changed : Bool) (new : Val) : Option Err :=
  if !changed then none
  else if new == 0 then (if nullable then none else some .nonnull)
  else if otherHas ents id (fun e => key e == new) then some dup else none

/-- constraint check when entity `id` goes from `old` to `new` (`old = Ent.empty` for a new id):
    `name` non-empty and unique, `code` unique when set -/
def specCheck (ents : Ents) (id : Id) (isCreate : Bool) (old new : Ent) : Except Err Unit :=
  match uniqViolation ents id false .dupName (·.name) (isCreate || old.name != new.name) new.name with
  | some e => .error e
  | none =>
    match uniqViolation ents id true .dupCode (·.codeKey) (isCreate || old.codeKey != new.codeKey) new.codeKey with
    | some e => .error e
    | none => .ok ()

def specCreate (ents : Ents) (s : Sel) (id : Id) (p : Payload) : Except Err Ents :=
  if id = 0 then .error .blank
  else
    let base := (mget ents id).getD Ent.empty
    if (mget ents id).isSome && base.hasChild s then .error .exists_
    else
      let e' := persistChild (persistShared base p none) s p none
      match specCheck ents id true base e' with
      | .error e => .error e
      | .ok _ => .ok (mput ents id e')

def specUpdate (ents : Ents) (s : Sel) (id : Id) (p : Payload) (chk : Option Checker) : Except Err Ents :=
  if id = 0 then .error .blank
  else
    match mget ents id with
    | none => .error .notfound
    | some e =>
      if !e.hasChild s then .error .notfound
      else
        let e' := persistChild (persistShared e p chk) s p chk
        match specCheck ents id false e e' with
        | .error err => .error err
        | .ok _ => .ok (mput ents id e')

def specDelete (ents : Ents) (id : Id) : Except Err Ents :=
  match mget ents id with
  | none => .error .notfound
  | some _ => .ok (mdel ents id)

def specOp (ents : Ents) : Op → Except Err Ents
  | .create s id p => specCreate ents s id p
  | .update s id p chk => specUpdate ents s id p chk
  | .delete _ id => specDelete ents id

def specOps (ents : Ents) : List Op → Except Err Ents
  | [] => .ok ents
  | op :: rest => do
    let e' ← specOp ents op
    specOps e' rest

def specTx (ents : Ents) (tx : List Op) : Ents :=
  match specOps ents tx with
  | .ok e' => e'
  | .error _ => ents

def specRun (ents : Ents) (hist : List (List Op)) : Ents := hist.foldl specTx ents

/-- the indexes as the image of the table -/
def derive (ents : Ents) : St :=
  { ents := ents,
    nameIdx := (mkeys ents).filterMap fun id =>
      match mget ents id with
      | some e => if e.name ≠ 0 then some (e.name, id) else none
      | none => none,
    rolesIdx := (mkeys ents).flatMap fun id =>
      match mget ents id with
      | some e => e.roles.map (·, id)
      | none => [],
    codeIdx := (mkeys ents).filterMap fun id =>
      match mget ents id with
      | some e => if e.codeKey ≠ 0 then some (e.codeKey, id) else none
      | none => none }

/-! ### the one situation in which `Create` before /repo 8269ce9 (`Cfg.childCreateCapturesOld = false`) departs from this specification -/

/-- `Create` through a child store over an id whose parent entity exists without that child's data -/
def findingOp (ents : Ents) : Op → Bool
  | .create s id _ =>
    s.isChildStore && id != 0 &&
      (match mget ents id with
       | some e => !e.hasChild s
       | none => false)
  | _ => false

def findingFreeOps (ents : Ents) : List Op → Bool
  | [] => true
  | op :: rest =>
    !findingOp ents op &&
      (match specOp ents op with
       | .ok e' => findingFreeOps e' rest
       | .error _ => true)

def findingFree (ents : Ents) : List (List Op) → Bool
  | [] => true
  | tx :: rest => findingFreeOps ents tx && findingFree (specTx ents tx) rest

end StorageModel.C15
