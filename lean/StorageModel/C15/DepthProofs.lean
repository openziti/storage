import StorageModel.C15.Depth
/-
  C15 — the chain model of C15/Depth.lean, state by state: the scan loop is a filter by the scan
  rule (`scanKeeps`); a delete, running the constraints of stores 0 and 1 only, leaves the own
  indexes of the stores at depth ≥ 2 as they were; a create makes every data bucket up to the caller's.
-/
namespace StorageModel.C15.Depth
open StorageModel.C15

def scanKeeps (lv : Chain) (st : DSt) (k : Nat) (f : Filter) (id : Id) : Prop :=
  ∃ e, mget st.ents id = some e ∧ (k = 0 ∨ e.present k = true ∨ isExt lv k = true) ∧ fevalD f e = true

def rowOkD (lv : Chain) (st : DSt) (k : Nat) (f : Filter) (id : Id) : Bool :=
  !(k != 0 && !isPresent st k id && !isExt lv k) &&
    (match mget st.ents id with
     | some e => fevalD f e
     | none => false)

theorem scanLoopD_cons (lv : Chain) (st : DSt) (k : Nat) (f : Filter) (x : Id) (t : List Id) :
    scanLoopD lv st k f (x :: t) =
      if rowOkD lv st k f x then x :: scanLoopD lv st k f t else scanLoopD lv st k f t := by
  unfold rowOkD
  rw [scanLoopD]
  cases k != 0 && !isPresent st k x && !isExt lv k <;>
    cases mget st.ents x with
    | none => rfl
    | some e => cases fevalD f e <;> rfl

theorem rowOkD_iff (lv : Chain) (st : DSt) (k : Nat) (f : Filter) (x : Id) :
    rowOkD lv st k f x = true ↔ scanKeeps lv st k f x := by
  unfold rowOkD scanKeeps isPresent
  cases mget st.ents x with
  | none => simp
  | some e => by_cases hk : k = 0 <;> simp [hk]

theorem mem_scanLoopD (lv : Chain) (st : DSt) (k : Nat) (f : Filter) (ids : List Id) (x : Id) :
    x ∈ scanLoopD lv st k f ids ↔ x ∈ ids ∧ scanKeeps lv st k f x := by
  rw [← rowOkD_iff, ← List.mem_filter]
  induction ids with
  | nil => rfl
  | cons a t ih => rw [scanLoopD_cons, List.filter_cons]; split <;> simp only [List.mem_cons, ih]

theorem mem_queryIdsD (lv : Chain) (st : DSt) (k : Nat) (f : Filter) (x : Id) :
    x ∈ queryIdsD lv st k f ↔ scanKeeps lv st k f x := by
  unfold queryIdsD idsInOrderD
  rw [mem_scanLoopD, mem_canon, mem_mkeys]
  constructor
  · exact fun h => h.2
  · intro h
    obtain ⟨e, he, hr⟩ := h
    exact ⟨⟨e, he⟩, e, he, hr⟩

theorem processDeleteConstraintsD_ents (lv : Chain) (st : DSt) (k : Nat) (id : Id) :
    (processDeleteConstraintsD lv st k id).ents = st.ents := by
  unfold processDeleteConstraintsD
  split <;> simp [indexBeforeDeleteD]

theorem deleteD_ents (lv : Chain) (st st' : DSt) (k : Nat) (id : Id) (h : deleteD lv st k id = .ok st') :
    st'.ents = mdel st.ents id := by
  unfold deleteD at h
  split at h
  · cases h
  · by_cases hl : lv.isEmpty = true
    · simp only [hl, if_true] at h
      cases h; simp [processDeleteConstraintsD_ents]
    · simp only [hl, Bool.false_eq_true, if_false] at h
      cases h; simp [processDeleteConstraintsD_ents]

theorem levelsBeforeDelete_getD (lv : Chain) (e : DEnt) (f : Nat) :
    ∀ (i : Nat) (l : List (Map Val Id)) (j : Nat), i + f ≤ j →
      (levelsBeforeDelete lv e i f l).getD j [] = l.getD j [] := by
  induction f with
  | zero => intro i l j _; rfl
  | succ f ih =>
    intro i l j hj
    unfold levelsBeforeDelete
    split
    · rw [ih (i + 1) _ j (by omega)]
      simp only [List.getD_eq_getElem?_getD]
      rw [List.getElem?_set_ne (by omega)]
    · exact ih (i + 1) l j (by omega)

theorem processDeleteConstraintsD_lidx_deep (lv : Chain) (st : DSt) (k : Nat) (id : Id) (j : Nat)
    (hj : k ≤ j) :
    (processDeleteConstraintsD lv st k id).lidx.getD j [] = st.lidx.getD j [] := by
  unfold processDeleteConstraintsD
  split
  · rfl
  · simp only [indexBeforeDeleteD]
    exact levelsBeforeDelete_getD lv _ k 0 st.lidx j (by omega)

theorem deleteD_deep_indexes_untouched (lv : Chain) (st st' : DSt) (k : Nat) (id : Id)
    (h : deleteD lv st k id = .ok st') (j : Nat) (hj : 1 ≤ j) :
    st'.lidx.getD j [] = st.lidx.getD j [] := by
  unfold deleteD at h
  split at h
  · cases h
  · by_cases hl : lv.isEmpty = true
    · simp only [hl, if_true] at h
      cases h
      exact processDeleteConstraintsD_lidx_deep lv st 0 id j (by omega)
    · simp only [hl, Bool.false_eq_true, if_false] at h
      cases h
      show (processDeleteConstraintsD lv (processDeleteConstraintsD lv st 1 id) 0 id).lidx.getD j [] = _
      rw [processDeleteConstraintsD_lidx_deep lv _ 0 id j (by omega),
        processDeleteConstraintsD_lidx_deep lv st 1 id j hj]

theorem indexAfterD_ents (lv : Chain) (m : Nat) (c : Bool) (st st' : DSt) (id : Id) (old new : DEnt)
    (h : indexAfterD lv m c st id old new = .ok st') : st'.ents = mput st.ents id new := by
  unfold indexAfterD at h
  cases h1 : uniqA false c .dupName st.nameIdx old.name new.name id with
  | error e => simp [h1, bind, Except.bind] at h
  | ok n =>
    cases h2 : levelsAfter lv c id old new 0 m st.lidx with
    | error e => simp [h1, h2, bind, Except.bind] at h
    | ok l =>
      simp [h1, h2, bind, Except.bind, pure, Except.pure] at h
      cases h; rfl

theorem createD_entity (lv : Chain) (st st' : DSt) (k : Nat) (id : Id) (p : DPayload)
    (h : createD lv st k id p = .ok st') :
    mget st'.ents id = some (persistD ((mget st.ents id).getD DEnt.empty) k p none k) := by
  unfold createD at h
  split at h
  · cases h
  · split at h
    · cases h
    · rw [indexAfterD_ents _ _ _ _ _ _ _ _ h]; simp

theorem persistD_present (e : DEnt) (k : Nat) (p : DPayload) (chk : Option Checker) (m j : Nat) (hj : j ≤ m) :
    (persistD e k p chk m).present j = true := by
  simp only [DEnt.present, persistD, List.length_map, List.length_range, decide_eq_true_eq]
  omega

end StorageModel.C15.Depth
