import StorageModel.C15.Extended
/-
  C15 — the shape of the layering: where the parent part and the child parts of an entity live.

  boltz/store.go: a child store's `StoreDefinition.BasePath` is the sub-path of *its data bucket
  inside the parent's entity bucket* (`entityPath`; one or more segments).  `GetEntityBucket` =
  `parent entities bucket / <id> / GetPath(entityPath…)` (nil if a segment is missing),
  `getOrCreateEntityBucket` = `… / GetOrCreatePath(entityPath…)` (creates every segment),
  `IsEntityPresent` = `GetEntityBucket != nil`; the parent's symbols are read in the entity
  bucket itself, a child's symbols in its data bucket.  boltz/base.go
  `PersistContext.GetParentContext`: the bucket the *parent's* strategy persists the shared
  fields into is `parentStore.GetEntityBucket(tx, id)` — the entity bucket itself, whatever the
  length of the child path.

  `Schema` = the two child paths (A1's, A2's).  `Tree` = one entity bucket with its nested
  buckets and typed fields; `StC` = the store state with real bucket trees; `stepC` / `runC` =
  the operations writing through these paths; `viewC` = what the stores read back.  For every
  well-formed schema (non-empty child paths, neither a prefix of the other — shared prefixes such
  as ext/a, ext/b are fine) the concrete model is simulated by the abstract one
  (`runC_simulates`), so every theorem of Properties/C15.lean holds for every path shape.
  (bbolt keeps keys and nested buckets of one bucket in one namespace; the model keeps fields and
  buckets apart and assumes that no child path starts with a key of the parent strategy.)
-/
namespace StorageModel.C15

abbrev Seg := String
abbrev Path := List Seg

structure Schema where
  p1 : Path   -- BasePath of the plain child store A1
  p2 : Path   -- BasePath of the extended child store A2
  deriving DecidableEq, Repr

def Schema.childPath (sch : Schema) : Sel → Path
  | .A => []
  | .A1 => sch.p1
  | .A2 => sch.p2

def Schema.wellFormed (sch : Schema) : Bool :=
  !sch.p1.isEmpty && !sch.p2.isEmpty && !sch.p1.isPrefixOf sch.p2 && !sch.p2.isPrefixOf sch.p1

/-- a typed-bucket field: a string (nil / value) or a string list -/
inductive Cell
  | str (v : Option Val)
  | list (l : List Val)
  deriving DecidableEq, Repr

/-- one entity bucket: the nested bucket paths created in it (`GetOrCreatePath`) and the fields,
    keyed by (path of the bucket they are in, field key) -/
structure Tree where
  made : List Path
  fields : Map (Path × String) Cell
  deriving DecidableEq, Repr

def Tree.empty : Tree := ⟨[], []⟩

/-- `bucket.GetPath(q…) != nil`: every segment exists -/
def Tree.getPath (t : Tree) (q : Path) : Bool := q.isEmpty || t.made.any (fun m => q.isPrefixOf m)
/-- `bucket.GetOrCreatePath(q…)` -/
def Tree.getOrCreatePath (t : Tree) (q : Path) : Tree := if q.isEmpty then t else { t with made := q :: t.made }
def Tree.set (t : Tree) (q : Path) (k : String) (c : Cell) : Tree := { t with fields := mput t.fields (q, k) c }
def Tree.get (t : Tree) (q : Path) (k : String) : Option Cell := mget t.fields (q, k)

def cellStr : Option Cell → Option Val
  | some (.str v) => v
  | _ => none

def cellList : Option Cell → List Val
  | some (.list l) => l
  | _ => []

def childKey : Sel → String
  | .A => ""
  | .A1 => "code"
  | .A2 => "colour"

/-- what the stores read back from an entity bucket: the parent's symbols in the entity bucket,
    a child's presence (`GetEntityBucket != nil`) and symbol at its data path -/
def viewC (sch : Schema) (t : Tree) : Ent :=
  { name := (cellStr (t.get [] "name")).getD 0,
    roles := cellList (t.get [] "roles"),
    c1 := if t.getPath sch.p1 then some (cellStr (t.get sch.p1 "code")) else none,
    c2 := if t.getPath sch.p2 then some (cellStr (t.get sch.p2 "colour")) else none }

/-- the parent strategy's `PersistEntity` into the bucket at `at_` -/
def writeShared (t : Tree) (at_ : Path) (p : Payload) (chk : Option Checker) : Tree :=
  let t1 := if proceed chk (·.name) then t.set at_ "name" (.str (some p.name)) else t
  if proceed chk (·.roles) then t1.set at_ "roles" (.list (canon p.roles)) else t1

/-- a store's strategy persisting into the entity bucket tree; `parentAt` = the bucket
    `GetParentContext` hands to the parent strategy -/
def persistCAt (parentAt : Path) (sch : Schema) (t : Tree) (s : Sel) (p : Payload) (chk : Option Checker) : Tree :=
  let t1 := writeShared t parentAt p chk
  match s with
  | .A => t1
  | s => if proceed chk (·.child) then t1.set (sch.childPath s) (childKey s) (.str p.child) else t1

/-- `GetParentContext`: `parentStore.GetEntityBucket(tx, id)` — the entity bucket itself -/
def persistC := persistCAt []

/-- `getOrCreateEntityBucket` of store `s` -/
def createBucketC (sch : Schema) (t : Tree) (s : Sel) : Tree := t.getOrCreatePath (sch.childPath s)

/-- fields only in buckets that exist -/
def Tree.OK (t : Tree) : Prop := ∀ q k, (t.get q k).isSome = true → t.getPath q = true

theorem Tree.OK.get_none {t : Tree} (ht : t.OK) {q : Path} (k : String) (hp : t.getPath q = false) :
    t.get q k = none := by
  cases hg : t.get q k with
  | none => rfl
  | some c => have := ht q k (by rw [hg]; rfl); rw [hp] at this; cases this

theorem Tree.empty_ok : Tree.empty.OK := by
  intro q k h; simp [Tree.get, Tree.empty] at h

theorem viewC_empty (sch : Schema) (h : sch.wellFormed = true) : viewC sch Tree.empty = Ent.empty := by
  simp only [Schema.wellFormed, Bool.and_eq_true, Bool.not_eq_true'] at h
  obtain ⟨⟨⟨h1, h2⟩, _⟩, _⟩ := h
  simp [viewC, Tree.empty, Tree.get, Tree.getPath, Ent.empty, cellStr, cellList, h1, h2]

theorem hasChild_viewC (sch : Schema) (t : Tree) (s : Sel) :
    (viewC sch t).hasChild s = t.getPath (sch.childPath s) := by
  cases s with
  | A => rfl
  | A1 => simp only [Ent.hasChild, viewC, Schema.childPath]; split <;> simp [*]
  | A2 => simp only [Ent.hasChild, viewC, Schema.childPath]; split <;> simp [*]

@[simp] theorem Tree.get_set (t : Tree) (q q' : Path) (k k' : String) (c : Cell) :
    (t.set q k c).get q' k' = if (q, k) = (q', k') then some c else t.get q' k' := by
  simp [Tree.get, Tree.set]

@[simp] theorem Tree.getPath_set (t : Tree) (q q' : Path) (k : String) (c : Cell) :
    (t.set q k c).getPath q' = t.getPath q' := rfl

@[simp] theorem Tree.get_getOrCreatePath (t : Tree) (q q' : Path) (k : String) :
    (t.getOrCreatePath q).get q' k = t.get q' k := by
  unfold Tree.getOrCreatePath; split <;> rfl

theorem Tree.getPath_getOrCreatePath (t : Tree) (q q' : Path) :
    (t.getOrCreatePath q).getPath q' = (t.getPath q' || (!q.isEmpty && q'.isPrefixOf q)) := by
  unfold Tree.getOrCreatePath Tree.getPath
  cases hq : q.isEmpty with
  | true => simp
  | false =>
    simp only [Bool.false_eq_true, if_false, List.any_cons, Bool.not_false, Bool.true_and]
    cases q'.isEmpty <;> cases q'.isPrefixOf q <;> simp

theorem isPrefixOf_self (q : Path) : q.isPrefixOf q = true := by
  induction q with
  | nil => rfl
  | cons x t ih => simp [List.isPrefixOf, ih]

theorem Tree.getPath_nil (t : Tree) : t.getPath [] = true := rfl

theorem set_ok (t : Tree) (h : t.OK) (q : Path) (k : String) (c : Cell) (hq : t.getPath q = true) :
    (t.set q k c).OK := by
  intro q' k' hs
  rw [Tree.get_set] at hs
  rw [Tree.getPath_set]
  by_cases he : (q, k) = (q', k')
  · cases he; exact hq
  · rw [if_neg he] at hs; exact h q' k' hs

theorem getOrCreatePath_ok (t : Tree) (h : t.OK) (q : Path) : (t.getOrCreatePath q).OK := by
  intro q' k' hs
  rw [Tree.get_getOrCreatePath] at hs
  rw [Tree.getPath_getOrCreatePath, h q' k' hs]; rfl

theorem writeShared_ok (t : Tree) (h : t.OK) (p : Payload) (chk : Option Checker) : (writeShared t [] p chk).OK := by
  unfold writeShared
  split
  · split
    · exact set_ok _ (set_ok _ h _ _ _ rfl) _ _ _ rfl
    · exact set_ok _ h _ _ _ rfl
  · split
    · exact set_ok _ h _ _ _ rfl
    · exact h

theorem writeShared_getPath (t : Tree) (at_ : Path) (p : Payload) (chk : Option Checker) (q : Path) :
    (writeShared t at_ p chk).getPath q = t.getPath q := by
  unfold writeShared
  split <;> split <;> rfl

theorem persistC_ok (sch : Schema) (t : Tree) (h : t.OK) (s : Sel) (p : Payload) (chk : Option Checker)
    (hp : t.getPath (sch.childPath s) = true) : (persistC sch t s p chk).OK := by
  have h1 := writeShared_ok t h p chk
  unfold persistC persistCAt
  split
  · exact h1
  · split
    · exact set_ok _ h1 _ _ _ (by rw [writeShared_getPath]; exact hp)
    · exact h1

structure Schema.Facts (sch : Schema) : Prop where
  ne1 : sch.p1 ≠ []
  ne2 : sch.p2 ≠ []
  e1 : sch.p1.isEmpty = false
  e2 : sch.p2.isEmpty = false
  n12 : sch.p1.isPrefixOf sch.p2 = false
  n21 : sch.p2.isPrefixOf sch.p1 = false
  ne12 : sch.p1 ≠ sch.p2

theorem Schema.facts (sch : Schema) (h : sch.wellFormed = true) : sch.Facts := by
  simp only [Schema.wellFormed, Bool.and_eq_true, Bool.not_eq_true'] at h
  obtain ⟨⟨⟨h1, h2⟩, h3⟩, h4⟩ := h
  refine ⟨?_, ?_, h1, h2, h3, h4, ?_⟩
  · intro e; rw [e] at h1; cases h1
  · intro e; rw [e] at h2; cases h2
  · intro e; rw [e, isPrefixOf_self] at h3; cases h3

theorem viewC_set_name (sch : Schema) (f : sch.Facts) (t : Tree) (v : Val) :
    viewC sch (t.set [] "name" (.str (some v))) = { viewC sch t with name := v } := by
  have a1 : ¬ (([] : Path) = sch.p1) := fun e => f.ne1 e.symm
  have a2 : ¬ (([] : Path) = sch.p2) := fun e => f.ne2 e.symm
  simp [viewC, Tree.get_set, cellStr, a1, a2]

theorem viewC_set_roles (sch : Schema) (f : sch.Facts) (t : Tree) (l : List Val) :
    viewC sch (t.set [] "roles" (.list l)) = { viewC sch t with roles := l } := by
  have a1 : ¬ (([] : Path) = sch.p1) := fun e => f.ne1 e.symm
  have a2 : ¬ (([] : Path) = sch.p2) := fun e => f.ne2 e.symm
  simp [viewC, Tree.get_set, cellList, a1, a2]

theorem viewC_set_child (sch : Schema) (f : sch.Facts) (t : Tree) (s : Sel) (c : Option Val)
    (hp : t.getPath (sch.childPath s) = true) :
    viewC sch (t.set (sch.childPath s) (childKey s) (.str c)) = (viewC sch t).setChild s c := by
  have b2 : ¬ (sch.p2 = sch.p1) := fun e => f.ne12 e.symm
  cases s with
  | A => simp [viewC, Tree.get_set, Schema.childPath, childKey, Ent.setChild, f.ne1.symm, f.ne2.symm]
  | A1 => simp [viewC, Tree.get_set, cellStr, Schema.childPath, childKey, Ent.setChild, show t.getPath sch.p1 = true from hp, f.ne1, f.ne12]
  | A2 => simp [viewC, Tree.get_set, cellStr, Schema.childPath, childKey, Ent.setChild, show t.getPath sch.p2 = true from hp, f.ne2, b2]

theorem viewC_writeShared (sch : Schema) (hw : sch.wellFormed = true) (t : Tree) (p : Payload) (chk : Option Checker) :
    viewC sch (writeShared t [] p chk) = persistShared (viewC sch t) p chk := by
  have f := sch.facts hw
  unfold writeShared persistShared
  cases proceed chk (·.name) <;> cases proceed chk (·.roles) <;>
    simp only [if_true, if_false, Bool.false_eq_true, viewC_set_name sch f, viewC_set_roles sch f]

theorem viewC_persistC (sch : Schema) (hw : sch.wellFormed = true) (t : Tree) (s : Sel) (p : Payload)
    (chk : Option Checker) (hp : t.getPath (sch.childPath s) = true) :
    viewC sch (persistC sch t s p chk) = persistChild (persistShared (viewC sch t) p chk) s p chk := by
  have hs := viewC_writeShared sch hw t p chk
  have hp' : (writeShared t [] p chk).getPath (sch.childPath s) = true := by rw [writeShared_getPath]; exact hp
  have hc : (viewC sch (writeShared t [] p chk)).hasChild s = true := by rw [hasChild_viewC]; exact hp'
  rw [persistChild_eq, ← hs]
  cases s with
  | A => rfl
  | _ =>
    simp only [persistC, persistCAt]
    split
    · exact viewC_set_child sch (sch.facts hw) _ _ _ hp'
    -- the child's field is not written: the data bucket keeps what it holds
    · exact (Ent.setChild_self _ _ hc).symm

theorem viewC_createBucketC (sch : Schema) (hw : sch.wellFormed = true) (t : Tree) (ht : t.OK) (s : Sel) :
    viewC sch (createBucketC sch t s) = (viewC sch t).setChild s ((viewC sch t).childField s) := by
  have f := sch.facts hw
  cases s with
  | A => simp [createBucketC, Schema.childPath, Tree.getOrCreatePath, Ent.setChild]
  | A1 =>
    simp only [createBucketC, Schema.childPath, viewC, Tree.get_getOrCreatePath, Tree.getPath_getOrCreatePath,
      f.e1, f.n21, isPrefixOf_self, Bool.not_false, Bool.true_and, Bool.or_true, Bool.and_false, Bool.or_false,
      if_true, Ent.childField, Ent.setChild]
    cases hp : t.getPath sch.p1 with
    | true => simp
    | false => simp [ht.get_none "code" hp, cellStr]
  | A2 =>
    simp only [createBucketC, Schema.childPath, viewC, Tree.get_getOrCreatePath, Tree.getPath_getOrCreatePath,
      f.e2, f.n12, isPrefixOf_self, Bool.not_false, Bool.true_and, Bool.or_true, Bool.and_false, Bool.or_false,
      if_true, Ent.childField, Ent.setChild]
    cases hp : t.getPath sch.p2 with
    | true => simp
    | false => simp [ht.get_none "colour" hp, cellStr]

theorem createBucketC_present (sch : Schema) (t : Tree) (s : Sel) :
    (createBucketC sch t s).getPath (sch.childPath s) = true := by
  unfold createBucketC
  rw [Tree.getPath_getOrCreatePath]
  cases h : (sch.childPath s).isEmpty with
  | true => simp [Tree.getPath, h]
  | false => simp [isPrefixOf_self]

theorem viewC_create (sch : Schema) (hw : sch.wellFormed = true) (t : Tree) (ht : t.OK) (s : Sel) (p : Payload) :
    viewC sch (persistC sch (createBucketC sch t s) s p none) =
      persistChild (persistShared (viewC sch t) p none) s p none := by
  rw [viewC_persistC sch hw _ s p none (createBucketC_present sch t s), viewC_createBucketC sch hw t ht s]
  cases s <;> simp [persistChild, persistShared, proceed, Ent.setChild]

structure StC where
  trees : Map Id Tree
  nameIdx : Map Val Id
  rolesIdx : List (Val × Id)
  codeIdx : Map Val Id
  deriving DecidableEq, Repr

def StC.init : StC := ⟨[], [], [], []⟩

/-- what the stores read (entity buckets through `viewC`; the index buckets do not depend on the
    child paths: a child store's indexes live under the parent's root path) -/
def absSt (sch : Schema) (stc : StC) : St :=
  { ents := stc.trees.map (fun kt => (kt.1, viewC sch kt.2)),
    nameIdx := stc.nameIdx, rolesIdx := stc.rolesIdx, codeIdx := stc.codeIdx }

def entTree (stc : StC) (id : Id) : Tree := (mget stc.trees id).getD Tree.empty

def StC.withIdx (trees : Map Id Tree) (st : St) : StC := ⟨trees, st.nameIdx, st.rolesIdx, st.codeIdx⟩

/-- `Create` through the real paths: checks, index work and result as the stores compute them
    from what they read (`createV` on `absSt`); the bucket work is
    `getOrCreateEntityBucket` + `PersistEntity` on the entity's tree -/
def createC (cfg : Cfg) (sch : Schema) (stc : StC) (s : Sel) (id : Id) (p : Payload) : Except Err StC :=
  match createV cfg (absSt sch stc) s id p with
  | .error e => .error e
  | .ok st' => .ok (StC.withIdx (mput stc.trees id (persistC sch (createBucketC sch (entTree stc id) s) s p none)) st')

def updateC (sch : Schema) (stc : StC) (s : Sel) (id : Id) (p : Payload) (chk : Option Checker) : Except Err StC :=
  match updateV (absSt sch stc) s id p chk with
  | .error e => .error e
  | .ok st' =>
    .ok (StC.withIdx (mput stc.trees id
      (persistC sch (entTree stc id) (updTarget (absSt sch stc) s id) (updPayload (absSt sch stc) s id p) chk)) st')

/-- `DeleteById`: constraints as computed from what is read, `DeleteEntity` removes the whole tree -/
def deleteC (sch : Schema) (stc : StC) (s : Sel) (id : Id) : Except Err StC :=
  match deleteM (absSt sch stc) s id with
  | .error e => .error e
  | .ok st' => .ok (StC.withIdx (mdel stc.trees id) st')

def deleteAllC (sch : Schema) (stc : StC) (s : Sel) : List Id → Except Err StC
  | [] => .ok stc
  | id :: rest =>
    match deleteC sch stc s id with
    | .ok stc' => deleteAllC sch stc' s rest
    | .error e => .error e

def stepC (cfg : Cfg) (sch : Schema) (stc : StC) : OpX → Except Err StC
  | .create s id p => createC cfg sch stc s id p
  | .update s id p chk => updateC sch stc s id p chk
  | .delete s id => deleteC sch stc s id
  | .deleteWhere s f => deleteAllC sch stc s (queryIds (absSt sch stc) s f)

def stepOpsC (cfg : Cfg) (sch : Schema) (stc : StC) : List OpX → Except Err StC
  | [] => .ok stc
  | op :: rest =>
    match stepC cfg sch stc op with
    | .ok stc' => stepOpsC cfg sch stc' rest
    | .error e => .error e

def stepTxC (cfg : Cfg) (sch : Schema) (stc : StC) (tx : List OpX) : StC :=
  match stepOpsC cfg sch stc tx with
  | .ok stc' => stc'
  | .error _ => stc

def runC (cfg : Cfg) (sch : Schema) (stc : StC) (hist : List (List OpX)) : StC := hist.foldl (stepTxC cfg sch) stc

def StC.OK (stc : StC) : Prop := ∀ id t, mget stc.trees id = some t → t.OK

theorem mget_mapv {K V W : Type} [DecidableEq K] (f : V → W) (m : Map K V) (k : K) :
    mget (m.map (fun kt => (kt.1, f kt.2))) k = (mget m k).map f := by
  induction m with
  | nil => rfl
  | cons a t ih =>
    obtain ⟨k', v⟩ := a
    simp only [List.map_cons, mget]
    split
    · rfl
    · exact ih

theorem mdel_mapv {K V W : Type} [DecidableEq K] (f : V → W) (m : Map K V) (k : K) :
    mdel (m.map (fun kt => (kt.1, f kt.2))) k = (mdel m k).map (fun kt => (kt.1, f kt.2)) := by
  induction m with
  | nil => rfl
  | cons a t ih =>
    obtain ⟨k', v⟩ := a
    simp only [List.map_cons, mdel]
    split
    · exact ih
    · simp [ih]

theorem mput_mapv {K V W : Type} [DecidableEq K] (f : V → W) (m : Map K V) (k : K) (v : V) :
    mput (m.map (fun kt => (kt.1, f kt.2))) k (f v) = (mput m k v).map (fun kt => (kt.1, f kt.2)) := by
  simp [mput, mdel_mapv]

theorem absSt_get (sch : Schema) (stc : StC) (id : Id) :
    mget (absSt sch stc).ents id = (mget stc.trees id).map (viewC sch) := mget_mapv _ _ _

theorem absSt_getD (sch : Schema) (hw : sch.wellFormed = true) (stc : StC) (id : Id) :
    (mget (absSt sch stc).ents id).getD Ent.empty = viewC sch (entTree stc id) := by
  rw [absSt_get, entTree]
  cases mget stc.trees id with
  | none => simp [viewC_empty sch hw]
  | some t => rfl

theorem entTree_ok (stc : StC) (h : stc.OK) (id : Id) : (entTree stc id).OK := by
  unfold entTree
  cases hm : mget stc.trees id with
  | none => exact Tree.empty_ok
  | some t => exact h id t hm

theorem ok_mput (stc : StC) (h : stc.OK) (id : Id) (t : Tree) (ht : t.OK) (st : St) :
    (StC.withIdx (mput stc.trees id t) st).OK := by
  intro j t' hj
  simp only [StC.withIdx, mget_mput] at hj
  split at hj
  · cases hj; exact ht
  · exact h j t' hj

theorem ok_mdel (stc : StC) (h : stc.OK) (id : Id) (st : St) : (StC.withIdx (mdel stc.trees id) st).OK := by
  intro j t' hj
  simp only [StC.withIdx, mget_mdel] at hj
  split at hj
  · cases hj
  · exact h j t' hj

def Simulates (sch : Schema) (c : Except Err StC) (a : Except Err St) : Prop :=
  match c with
  | .error e => a = .error e
  | .ok stc' => a = .ok (absSt sch stc') ∧ stc'.OK

theorem Simulates.cases {sch : Schema} {c : Except Err StC} {a : Except Err St} (h : Simulates sch c a) :
    (∃ e, c = .error e ∧ a = .error e) ∨ ∃ stc', c = .ok stc' ∧ a = .ok (absSt sch stc') ∧ stc'.OK := by
  cases c with
  | error e => exact Or.inl ⟨e, rfl, h⟩
  | ok stc' => exact Or.inr ⟨stc', rfl, h⟩

/-- the stores read back the state an operation computed once the new trees show its table -/
theorem absSt_withIdx (sch : Schema) (trees : Map Id Tree) (st : St)
    (h : st.ents = trees.map (fun kt => (kt.1, viewC sch kt.2))) : absSt sch (StC.withIdx trees st) = st := by
  cases st; cases h; rfl

theorem createC_simulates (cfg : Cfg) (sch : Schema) (hw : sch.wellFormed = true) (stc : StC) (hok : stc.OK)
    (s : Sel) (id : Id) (p : Payload) :
    Simulates sch (createC cfg sch stc s id p) (createV cfg (absSt sch stc) s id p) := by
  unfold createC
  cases hc : createV cfg (absSt sch stc) s id p with
  | error e => rfl
  | ok st' =>
    simp only
    have hents := createM_ents cfg _ st' s id p (createV_ok cfg _ s id p st' hc)
    rw [absSt_getD sch hw, ← viewC_create sch hw _ (entTree_ok stc hok id) s p] at hents
    refine ⟨congrArg _ (absSt_withIdx sch _ st' (hents.trans (mput_mapv (viewC sch) stc.trees id _))).symm, ?_⟩
    refine ok_mput stc hok id _ ?_ st'
    exact persistC_ok sch _ (getOrCreatePath_ok _ (entTree_ok stc hok id) _) s p none (createBucketC_present sch _ s)

theorem updateC_simulates (sch : Schema) (hw : sch.wellFormed = true) (stc : StC) (hok : stc.OK)
    (s : Sel) (id : Id) (p : Payload) (chk : Option Checker) :
    Simulates sch (updateC sch stc s id p chk) (updateV (absSt sch stc) s id p chk) := by
  unfold updateC
  cases hc : updateV (absSt sch stc) s id p chk with
  | error e => rfl
  | ok st' =>
    simp only
    obtain ⟨e, hm, hhc, hents⟩ := updateM_ents _ st' s id p chk (updateV_ok _ s id p chk st' hc)
    have he := absSt_get sch stc id ▸ hm
    cases ht : mget stc.trees id with
    | none => rw [ht] at he; cases he
    | some t =>
      rw [ht] at he
      simp only [Option.map_some, Option.some.injEq] at he
      have het : entTree stc id = t := by simp [entTree, ht]
      have hpres : t.getPath (sch.childPath (updTarget (absSt sch stc) s id)) = true := by
        rw [← hasChild_viewC, he, (upd_route hm s p chk).1]; exact hhc
      rw [← (upd_route hm s p chk).2, ← he, ← viewC_persistC sch hw t _ _ chk hpres] at hents
      rw [het]
      exact ⟨congrArg _ (absSt_withIdx sch _ st' (hents.trans (mput_mapv (viewC sch) stc.trees id _))).symm,
        ok_mput stc hok id _ (persistC_ok sch t (hok id t ht) _ _ chk hpres) st'⟩

theorem deleteC_simulates (sch : Schema) (stc : StC) (hok : stc.OK) (s : Sel) (id : Id) :
    Simulates sch (deleteC sch stc s id) (deleteM (absSt sch stc) s id) := by
  unfold deleteC
  cases hc : deleteM (absSt sch stc) s id with
  | error e => rfl
  | ok st' =>
    simp only
    exact ⟨congrArg _ (absSt_withIdx sch _ st' ((deleteM_ents _ st' s id hc).trans (mdel_mapv (viewC sch) stc.trees id))).symm,
      ok_mdel stc hok id st'⟩

theorem deleteAllC_simulates (sch : Schema) (s : Sel) (l : List Id) (stc : StC) (hok : stc.OK) :
    Simulates sch (deleteAllC sch stc s l) (deleteAllWith deleteM (absSt sch stc) s l) := by
  induction l generalizing stc with
  | nil => exact ⟨rfl, hok⟩
  | cons id rest ih =>
    rcases (deleteC_simulates sch stc hok s id).cases with ⟨e, hc, ha⟩ | ⟨stc1, hc, ha, hok1⟩
    · simp only [deleteAllC, deleteAllWith, hc, ha]; exact rfl
    · simp only [deleteAllC, deleteAllWith, hc, ha]; exact ih stc1 hok1

theorem stepC_simulates (cfg : Cfg) (sch : Schema) (hw : sch.wellFormed = true) (stc : StC) (hok : stc.OK) (op : OpX) :
    Simulates sch (stepC cfg sch stc op) (stepOpX cfg (absSt sch stc) op) := by
  cases op with
  | create s id p => exact createC_simulates cfg sch hw stc hok s id p
  | update s id p chk => exact updateC_simulates sch hw stc hok s id p chk
  | delete s id => exact deleteC_simulates sch stc hok s id
  | deleteWhere s f => exact deleteAllC_simulates sch s _ stc hok

theorem stepOpsC_simulates (cfg : Cfg) (sch : Schema) (hw : sch.wellFormed = true) (ops : List OpX) (stc : StC)
    (hok : stc.OK) : Simulates sch (stepOpsC cfg sch stc ops) (stepOpsX cfg (absSt sch stc) ops) := by
  induction ops generalizing stc with
  | nil => exact ⟨rfl, hok⟩
  | cons op rest ih =>
    rcases (stepC_simulates cfg sch hw stc hok op).cases with ⟨e, hc, ha⟩ | ⟨stc1, hc, ha, hok1⟩
    · simp only [stepOpsC, stepOpsX, hc, ha]; exact rfl
    · simp only [stepOpsC, stepOpsX, hc, ha]; exact ih stc1 hok1

theorem stepTxC_simulates (cfg : Cfg) (sch : Schema) (hw : sch.wellFormed = true) (tx : List OpX) (stc : StC)
    (hok : stc.OK) :
    absSt sch (stepTxC cfg sch stc tx) = stepTxX cfg (absSt sch stc) tx ∧ (stepTxC cfg sch stc tx).OK := by
  unfold stepTxC stepTxX
  rcases (stepOpsC_simulates cfg sch hw tx stc hok).cases with ⟨e, hc, ha⟩ | ⟨stc1, hc, ha, hok1⟩
  · rw [hc, ha]; exact ⟨rfl, hok⟩
  · rw [hc, ha]; exact ⟨rfl, hok1⟩

theorem runC_simulates (cfg : Cfg) (sch : Schema) (hw : sch.wellFormed = true) (hist : List (List OpX)) (stc : StC)
    (hok : stc.OK) :
    absSt sch (runC cfg sch stc hist) = runX cfg (absSt sch stc) hist ∧ (runC cfg sch stc hist).OK :=
  List.foldl_rel (r := fun stc st => absSt sch stc = st ∧ stc.OK) ⟨rfl, hok⟩
    fun tx _ stc _ h => h.1 ▸ stepTxC_simulates cfg sch hw tx stc h.2

theorem StC.init_ok : StC.init.OK := by intro id t h; simp [StC.init] at h
theorem absSt_init (sch : Schema) : absSt sch StC.init = St.init := rfl

end StorageModel.C15
