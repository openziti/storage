import StorageModel.C15.Map
/-
  C15 — executable model of a parent store A ("things") with a plain child store A1 (path
  "ext1", field `code`, own nullable unique index) and an extended child store A2 (path
  "ext2", field `colour`), following boltz/store.go, store_crud.go, store_query.go,
  query_scanners.go, base.go and the index protocol of indexes.go branch by branch.

  Identifiers and field values are small natural numbers; `0` stands for the empty string
  (blank id / empty value: `len(value) == 0` in the index code, which is also what a nil
  `*string` evaluates to).

  bbolt state:
    u/things/<id>/{name, roles/…, ext1/{code}, ext2/{colour}}    `ents`
    u/indexes/things/name      value ↦ id                         `nameIdx`  (unique, not nullable)
    u/indexes/things/roles/<v>/<id>                               `rolesIdx` (set index)
    u/indexes/things/code      value ↦ id                         `codeIdx`  (A1's own index, nullable)
-/
namespace StorageModel.C15

abbrev Id := Nat
abbrev Val := Nat

inductive Err
  | blank      -- "cannot create/update … with blank id"
  | exists_    -- "an entity of type … already exists with id …"
  | notfound   -- entityNotFoundF
  | dupName    -- UniqueIndexDuplicateError on things.name
  | dupCode    -- UniqueIndexDuplicateError on things.code
  | nonnull    -- "index on things.name does not allow null or empty values"
  | invalidName   -- the parent entity strategy refuses the name (reported on the persist context's bucket)
  | invalidRoles  -- the parent entity strategy refuses the roles (more than three)
  deriving DecidableEq, Repr

/-- which store an operation is issued through -/
inductive Sel
  | A | A1 | A2
  deriving DecidableEq, Repr

/-- one entity bucket.  `c1` / `c2`: the child data bucket (`ext1` / `ext2`) if present, holding the
    child's `*string` field (`none` = nil). -/
structure Ent where
  name : Val
  roles : List Val
  c1 : Option (Option Val)
  c2 : Option (Option Val)
  deriving DecidableEq, Repr

/-- a freshly created, still empty entity bucket (`getOrCreateEntityBucket` on a new id):
    every symbol evaluates to nil -/
def Ent.empty : Ent := ⟨0, [], none, none⟩

/-- the entity handed to Create/Update (child field: `code` through A1, `colour` through A2,
    unused through A) -/
structure Payload where
  name : Val
  roles : List Val
  child : Option Val
  deriving DecidableEq, Repr

/-- FieldChecker (`IsUpdated`) for a patch; the letter `child` stands for both child field names -/
structure Checker where
  name : Bool
  roles : Bool
  child : Bool
  deriving DecidableEq, Repr

inductive Op
  | create (s : Sel) (id : Id) (p : Payload)
  | update (s : Sel) (id : Id) (p : Payload) (chk : Option Checker)
  | delete (s : Sel) (id : Id)
  deriving DecidableEq, Repr

structure St where
  ents : Map Id Ent
  nameIdx : Map Val Id
  rolesIdx : List (Val × Id)
  codeIdx : Map Val Id
  deriving DecidableEq, Repr

def St.init : St := ⟨[], [], [], []⟩

/-- how `Create` through a child store treats an already existing parent entity.
    `false`: `Create` before /repo 8269ce9 (no old values are captured: `AtomStates`/`SetStates` stay empty);
    `true`: `Create` since 8269ce9 (the parent's indexing context runs `ProcessBeforeUpdate` first).
    Which of the two the tree under test has is `Config.current`, read off the source on every run. -/
structure Cfg where
  childCreateCapturesOld : Bool
  deriving DecidableEq, Repr

/-! ## store.go / store_crud.go: buckets and presence -/

def Sel.isChildStore : Sel → Bool
  | .A => false
  | _ => true

def Sel.isExtended : Sel → Bool
  | .A2 => true
  | _ => false

/-- does the entity bucket contain the child store's sub-bucket (`entityBucket.GetPath(entityPath…)`) -/
def Ent.hasChild (e : Ent) : Sel → Bool
  | .A => true
  | .A1 => e.c1.isSome
  | .A2 => e.c2.isSome

/-- `GetEntityBucket(tx, id) != nil`, i.e. `IsEntityPresent` -/
def isEntityPresent (st : St) (s : Sel) (id : Id) : Bool :=
  match mget st.ents id with
  | none => false
  | some e => e.hasChild s

/-- `getEntityBucketForLoad`: the child bucket; for an extended store fall back to a typed bucket
    without underlying bbolt bucket whose parent is the parent entity bucket (child fields read nil) -/
def bucketForLoad (st : St) (s : Sel) (id : Id) : Option Ent :=
  match mget st.ents id with
  | none => none
  | some e => if e.hasChild s then some e else if s.isExtended then some e else none

/-- the child's own field as the store's entity strategy reads it (`bucket.GetString`) -/
def Ent.childField (e : Ent) : Sel → Option Val
  | .A => none
  | .A1 => match e.c1 with | some c => c | none => none
  | .A2 => match e.c2 with | some c => c | none => none

/-- `FindById` through store `s`: (name, roles, child field) -/
def findById (st : St) (s : Sel) (id : Id) : Option (Val × List Val × Option Val) :=
  match bucketForLoad st s id with
  | none => none
  | some e => some (e.name, e.roles, e.childField s)

/-! ## persisting (entity strategies + `PersistContext.GetParentContext`) -/

def proceed (chk : Option Checker) (f : Checker → Bool) : Bool :=
  match chk with
  | none => true
  | some c => f c

/-- the parent strategy's `PersistEntity` (through `GetParentContext` when called by a child):
    `SetString(name)`, `SetStringList(roles)` -/
def persistShared (e : Ent) (p : Payload) (chk : Option Checker) : Ent :=
  { e with name := if proceed chk (·.name) then p.name else e.name,
           roles := if proceed chk (·.roles) then canon p.roles else e.roles }

/-- the child strategy's own part, into the child bucket: `SetStringP(code|colour)`.
    `ensure`: the child bucket exists (created by `getOrCreateEntityBucket` on Create) -/
def persistChild (e : Ent) (s : Sel) (p : Payload) (chk : Option Checker) : Ent :=
  match s with
  | .A => e
  | .A1 => { e with c1 := some (if proceed chk (·.child) then p.child else e.childField .A1) }
  | .A2 => { e with c2 := some (if proceed chk (·.child) then p.child else e.childField .A2) }

/-! ## indexes.go: the index protocol -/

/-- `Eval` of the `code` symbol (store A1): nil bucket / nil value / empty string all have length 0 -/
def Ent.codeKey (e : Ent) : Val :=
  match e.c1 with
  | some (some v) => v
  | _ => 0

/-- `uniqueIndex.ProcessAfterUpdate` (old value from `AtomStates`, captured by ProcessBeforeUpdate) -/
def uniqAfter (nullable isCreate : Bool) (dup : Err) (idx : Map Val Id) (old new : Val) (id : Id) :
    Except Err (Map Val Id) :=
  if !isCreate && old == new then .ok idx
  else
    let idx1 := if old = 0 then idx else mdel idx old         -- `len(oldValue) > 0` ⇒ DeleteValue(oldValue)
    if new = 0 then                                           -- `len(newValue) > 0` fails
      if nullable then .ok idx1 else .error .nonnull
    else if (mget idx1 new).isSome then .error dup            -- `indexBucket.Get(newValue) != nil`
    else .ok (mput idx1 new id)

/-- `setIndex.ProcessAfterUpdate` (old values from `SetStates`) -/
def setAfter (idx : List (Val × Id)) (old new : List Val) (id : Id) : List (Val × Id) :=
  if old == new then idx          -- `changed == false`
  else
    let idx1 := old.foldl (fun acc r => prem acc (r, id)) idx   -- DeleteListEntry (+ deleteIndexKey when empty)
    new.foldl (fun acc r => padd acc (r, id)) idx1              -- SetListEntry

/-- `uniqueIndex.ProcessBeforeDelete` -/
def uniqBeforeDelete (idx : Map Val Id) (v : Val) : Map Val Id :=
  if v = 0 then idx else mdel idx v

/-- `setIndex.ProcessBeforeDelete` -/
def setBeforeDelete (idx : List (Val × Id)) (roles : List Val) (id : Id) : List (Val × Id) :=
  roles.foldl (fun acc r => prem acc (r, id)) idx

/-- `IndexingContext.ProcessAfterUpdate` along the chain built by `newIndexingContext`: first the
    parent's constraints (unique `name`, set `roles`), then the child's own (`code`, store A1
    only).  The shared error holder makes every later constraint a no-op after the first error.
    `old` is what `ProcessBeforeUpdate` captured (nothing on Create). -/
def indexAfter (s : Sel) (isCreate : Bool) (st : St) (id : Id) (old new : Ent) : Except Err St := do
  let n ← uniqAfter false isCreate .dupName st.nameIdx old.name new.name id
  let r := setAfter st.rolesIdx old.roles new.roles id
  let c ← match s with
    | .A1 => uniqAfter true isCreate .dupCode st.codeIdx old.codeKey new.codeKey id
    | _ => pure st.codeIdx
  pure { ents := mput st.ents id new, nameIdx := n, rolesIdx := r, codeIdx := c }

/-- `IndexingContext.ProcessBeforeDelete` along the chain of store `s` (parent first) -/
def indexBeforeDelete (s : Sel) (st : St) (id : Id) (e : Ent) : St :=
  { st with nameIdx := uniqBeforeDelete st.nameIdx e.name,
            rolesIdx := setBeforeDelete st.rolesIdx e.roles id,
            codeIdx := match s with
              | .A1 => uniqBeforeDelete st.codeIdx e.codeKey
              | _ => st.codeIdx }

/-! ## store_crud.go: Create / Update / DeleteById -/

/-- `BaseStore.Create` through store `s` -/
def createM (cfg : Cfg) (st : St) (s : Sel) (id : Id) (p : Payload) : Except Err St :=
  if id = 0 then .error .blank
  else if isEntityPresent st s id then .error .exists_     -- checks the *child* bucket only
  else
    -- getOrCreateEntityBucket: the parent's entity bucket may already exist
    let base := (mget st.ents id).getD Ent.empty
    let e' := persistChild (persistShared base p none) s p none
    -- newIndexingContext(isCreate = true): no ProcessBeforeUpdate, so the old values are nil …
    let old := if cfg.childCreateCapturesOld then base else Ent.empty
    indexAfter s true st id old e'

/-- `BaseStore.Update` through a child store (no child strategies of its own) -/
def updateChildM (st : St) (s : Sel) (id : Id) (p : Payload) (chk : Option Checker) : Except Err St :=
  if id = 0 then .error .blank
  else
    match bucketForLoad st s id with            -- store.FindById
    | none => .error .notfound
    | some e =>
      if !e.hasChild s then .error .notfound     -- store.GetEntityBucket == nil (extended store, parent-only id)
      else
        let e' := persistChild (persistShared e p chk) s p chk
        indexAfter s false st id e e'              -- ProcessBeforeUpdate captured `e`

/-- `BaseStore.Update` through store `s` -/
def updateM (st : St) (s : Sel) (id : Id) (p : Payload) (chk : Option Checker) : Except Err St :=
  match s with
  | .A =>
    -- childStoreStrategies, in registration order; the mapper says "has child data" and hands the
    -- child store its stored entity with the shared fields replaced
    if isEntityPresent st .A1 id then
      match findById st .A1 id with
      | some (_, _, c) => updateChildM st .A1 id { p with child := c } chk
      | none => .error .notfound
    else if isEntityPresent st .A2 id then
      match findById st .A2 id with
      | some (_, _, c) => updateChildM st .A2 id { p with child := c } chk
      | none => .error .notfound
    else if id = 0 then .error .blank
    else
      match mget st.ents id with
      | none => .error .notfound
      | some e => indexAfter .A false st id e (persistShared e p chk)
  | s => updateChildM st s id p chk

/-- `processDeleteConstraints` of store `s`: nothing unless `FindById` through `s` finds the entity -/
def processDeleteConstraints (st : St) (s : Sel) (id : Id) : St :=
  match bucketForLoad st s id with
  | none => st
  | some e => indexBeforeDelete s st id e

/-- `BaseStore.DeleteById`: a child store hands over to its parent; the parent fans out -/
def deleteM (st : St) (_s : Sel) (id : Id) : Except Err St :=
  match mget st.ents id with                    -- parent FindById
  | none => .error .notfound
  | some _ =>
    let st1 := processDeleteConstraints st .A1 id
    let st2 := processDeleteConstraints st1 .A2 id
    let st3 := processDeleteConstraints st2 .A id
    .ok { st3 with ents := mdel st3.ents id }    -- DeleteEntity: the whole entity bucket

def stepOp (cfg : Cfg) (st : St) : Op → Except Err St
  | .create s id p => createM cfg st s id p
  | .update s id p chk => updateM st s id p chk
  | .delete s id => deleteM st s id

/-- one `Db.Update` transaction: operations in order; the first error rolls everything back -/
def stepOps (cfg : Cfg) (st : St) : List Op → Except Err St
  | [] => .ok st
  | op :: rest => do
    let st' ← stepOp cfg st op
    stepOps cfg st' rest

def stepTx (cfg : Cfg) (st : St) (tx : List Op) : St :=
  match stepOps cfg st tx with
  | .ok st' => st'
  | .error _ => st

def run (cfg : Cfg) (st : St) (hist : List (List Op)) : St := hist.foldl (stepTx cfg) st

/-! ## entity events (store.go `fireParentEvent` / `fireEvents`, DeleteById's change flows) -/

inductive EvKind
  | created | updated | deleted
  deriving DecidableEq, Repr

/-- an entity event delivered to the listeners of one store after commit -/
structure Ev where
  store : Sel
  kind : EvKind
  id : Id
  deriving DecidableEq, Repr

/-- the events a *successful* operation queues, in delivery order: a child store first raises
    the parent's event (`fireParentEvent`), then its own; the parent's `Update` raises whatever
    the store it delegated to raises; `DeleteById` raises the parent's event and then one per
    child store whose `FindById` finds the entity (the extended store finds every parent entity) -/
def eventsOf (st : St) : Op → List Ev
  | .create .A id _ => [⟨.A, .created, id⟩]
  | .create s id _ => [⟨.A, .created, id⟩, ⟨s, .created, id⟩]
  | .update .A id _ _ =>
    if isEntityPresent st .A1 id then [⟨.A, .updated, id⟩, ⟨.A1, .updated, id⟩]
    else if isEntityPresent st .A2 id then [⟨.A, .updated, id⟩, ⟨.A2, .updated, id⟩]
    else [⟨.A, .updated, id⟩]
  | .update s id _ _ => [⟨.A, .updated, id⟩, ⟨s, .updated, id⟩]
  | .delete _ id =>
    [⟨.A, .deleted, id⟩] ++ (if (bucketForLoad st .A1 id).isSome then [⟨.A1, .deleted, id⟩] else []) ++
      (if (bucketForLoad st .A2 id).isSome then [⟨.A2, .deleted, id⟩] else [])

/-! ## query_scanners.go / store_query.go -/

inductive Filter
  | tt
  | nameEq (v : Val)
  | hasRole (r : Val)
  deriving DecidableEq, Repr

def Filter.eval : Filter → Ent → Bool
  | .tt, _ => true
  | .nameEq v, e => e.name == v
  | .hasRole r, e => e.roles.contains r

/-- the loop shared by `uniqueIndexScanner.Next`, `.nextUnpaged` and `sortingScanner.ScanCursor`:
    walk the *parent's* entities bucket in key order; skip a row iff
    `IsChildStore ∧ ¬IsEntityPresent ∧ ¬IsExtended`; then evaluate the filter -/
def scanLoop (st : St) (s : Sel) (f : Filter) : List Id → List Id
  | [] => []
  | id :: rest =>
    if s.isChildStore && !isEntityPresent st s id && !s.isExtended then scanLoop st s f rest
    else
      match mget st.ents id with
      | some e => if f.eval e then id :: scanLoop st s f rest else scanLoop st s f rest
      | none => scanLoop st s f rest

/-- the cursor over the entities bucket: ids in key order -/
def idsInOrder (st : St) : List Id := canon (mkeys st.ents)

/-- `QueryIds` without sort (uniqueIndexScanner), also `IterateIds` -/
def queryIds (st : St) (s : Sel) (f : Filter) : List Id := scanLoop st s f (idsInOrder st)

/-- `IterateValidIds`: for an extended store additionally skip ids without extension data -/
def iterateValidIds (st : St) (s : Sel) (f : Filter) : List Id :=
  if s.isExtended then (queryIds st s f).filter (fun id => isEntityPresent st s id)
  else queryIds st s f

/-- row comparator `sort by name` (+ implicit `id`) -/
def rowLe (st : St) (a b : Id) : Bool :=
  let na := ((mget st.ents a).map (·.name)).getD 0
  let nb := ((mget st.ents b).map (·.name)).getD 0
  na < nb || (na == nb && a ≤ b)

def insRow (st : St) (x : Id) : List Id → List Id
  | [] => [x]
  | y :: t => if rowLe st x y then x :: y :: t else y :: insRow st x t

/-- `QueryIds` with `sort by name` (sortingScanner: insert every matching row into the ordered tree) -/
def querySorted (st : St) (s : Sel) (f : Filter) : List Id :=
  (queryIds st s f).foldl (fun acc id => insRow st id acc) []

end StorageModel.C15
