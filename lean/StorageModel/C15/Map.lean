/-
  C15 — association-list maps, pair sets and canonical (sorted, duplicate free) lists.

  A bbolt bucket is modelled as a finite map; everything the model and the proofs need is
  phrased through `mget` (lookup).
-/
namespace StorageModel.C15

/-- association-list map (the head binding wins) -/
abbrev Map (K V : Type) := List (K × V)

section map
variable {K V : Type} [DecidableEq K]

def mget : Map K V → K → Option V
  | [], _ => none
  | (k', v) :: t, k => if k' = k then some v else mget t k

def mdel : Map K V → K → Map K V
  | [], _ => []
  | (k', v) :: t, k => if k' = k then mdel t k else (k', v) :: mdel t k

def mput (m : Map K V) (k : K) (v : V) : Map K V := (k, v) :: mdel m k

def mkeys (m : Map K V) : List K := m.map Prod.fst

@[simp] theorem mget_nil (k : K) : mget ([] : Map K V) k = none := rfl

@[simp] theorem mget_mdel (m : Map K V) (k k' : K) :
    mget (mdel m k) k' = if k = k' then none else mget m k' := by
  induction m with
  | nil => simp [mdel, mget]
  | cons p t ih =>
    obtain ⟨a, b⟩ := p
    by_cases h : a = k
    · subst h
      simp only [mdel, if_true, ih, mget]
      by_cases h2 : a = k' <;> simp [h2]
    · simp only [mdel, h, if_false, mget, ih]
      by_cases h2 : a = k'
      · subst h2
        have : ¬ k = a := fun e => h e.symm
        simp [this]
      · simp [h2]

@[simp] theorem mget_mput (m : Map K V) (k k' : K) (v : V) :
    mget (mput m k v) k' = if k = k' then some v else mget m k' := by
  by_cases h : k = k' <;> simp [mput, mget, h]

theorem mem_mkeys (m : Map K V) (k : K) : k ∈ mkeys m ↔ ∃ v, mget m k = some v := by
  induction m with
  | nil => simp [mkeys]
  | cons p t ih =>
    obtain ⟨a, b⟩ := p
    by_cases h : a = k
    · subst h; simp [mkeys, mget]
    · have ih' : k ∈ List.map Prod.fst t ↔ ∃ v, mget t k = some v := ih
      have hne : ¬ k = a := fun e => h e.symm
      simp [mkeys, mget, h, hne, ih']

theorem mget_mem (m : Map K V) (k : K) (v : V) (h : mget m k = some v) :
    (k, v) ∈ m := by
  induction m with
  | nil => simp at h
  | cons p t ih =>
    obtain ⟨a, b⟩ := p
    simp only [mget] at h
    by_cases hk : a = k
    · simp only [hk, if_true, Option.some.injEq] at h
      subst hk; subst h; exact List.mem_cons_self
    · simp only [hk, if_false] at h
      exact List.mem_cons_of_mem _ (ih h)

theorem mem_mget (m : Map K V) (k : K) (v : V) (h : (k, v) ∈ m) :
    ∃ v', mget m k = some v' := by
  induction m with
  | nil => cases h
  | cons p t ih =>
    obtain ⟨a, b⟩ := p
    by_cases hk : a = k
    · exact ⟨b, by simp [mget, hk]⟩
    · simp only [mget, hk, if_false]
      rcases List.mem_cons.1 h with h' | h'
      · cases h'; exact absurd rfl hk
      · exact ih h'

end map

/-! ### sets of pairs (the set index: value ↦ bucket of ids) -/
section pairs
variable {P : Type} [DecidableEq P]

def padd (l : List P) (p : P) : List P := if p ∈ l then l else p :: l
def prem (l : List P) (p : P) : List P := l.filter (fun q => !(q == p))

@[simp] theorem mem_padd (l : List P) (p q : P) : q ∈ padd l p ↔ q = p ∨ q ∈ l := by
  unfold padd
  by_cases h : p ∈ l
  · simp only [h, if_true]
    constructor
    · exact Or.inr
    · rintro (rfl | h') <;> assumption
  · simp [h]

@[simp] theorem mem_prem (l : List P) (p q : P) : q ∈ prem l p ↔ q ≠ p ∧ q ∈ l := by
  simp [prem, and_comm]

end pairs

/-! ### canonical lists: what a bbolt bucket of keys looks like (sorted, no duplicates) -/

def insSorted (x : Nat) : List Nat → List Nat
  | [] => [x]
  | y :: t => if x < y then x :: y :: t else if x = y then y :: t else y :: insSorted x t

def canon (l : List Nat) : List Nat := l.foldr insSorted []

@[simp] theorem mem_insSorted (x a : Nat) (l : List Nat) : a ∈ insSorted x l ↔ a = x ∨ a ∈ l := by
  induction l with
  | nil => simp [insSorted]
  | cons y t ih =>
    unfold insSorted
    split
    · simp
    · split
      · next h => subst h; simp
      · simp only [List.mem_cons, ih]
        constructor
        · rintro (h | h | h) <;> simp [h]
        · rintro (h | h | h) <;> simp [h]

@[simp] theorem mem_canon (a : Nat) (l : List Nat) : a ∈ canon l ↔ a ∈ l := by
  induction l with
  | nil => simp [canon]
  | cons y t ih =>
    have : canon (y :: t) = insSorted y (canon t) := rfl
    rw [this, mem_insSorted, ih]; simp

theorem insSorted_pairwise (x : Nat) (l : List Nat) (h : l.Pairwise (· < ·)) :
    (insSorted x l).Pairwise (· < ·) := by
  induction l with
  | nil => simp [insSorted]
  | cons y t ih =>
    obtain ⟨hy, ht⟩ := List.pairwise_cons.1 h
    unfold insSorted
    split
    · next hxy =>
      refine List.pairwise_cons.2 ⟨?_, h⟩
      intro a ha
      rcases List.mem_cons.1 ha with rfl | ha
      · exact hxy
      · exact Nat.lt_trans hxy (hy a ha)
    · split
      · exact h
      · next h1 h2 =>
        refine List.pairwise_cons.2 ⟨?_, ih ht⟩
        intro a ha
        rcases (mem_insSorted x a t).1 ha with rfl | ha
        · omega
        · exact hy a ha

theorem canon_pairwise (l : List Nat) : (canon l).Pairwise (· < ·) := by
  induction l with
  | nil => simp [canon]
  | cons y t ih =>
    have : canon (y :: t) = insSorted y (canon t) := rfl
    rw [this]; exact insSorted_pairwise y _ ih

theorem dropWhile_lt_of_all_ge (l : List Nat) (v : Nat) (h : ∀ a ∈ l, ¬ a < v) :
    l.dropWhile (· < v) = l := by
  cases l with
  | nil => rfl
  | cons x t =>
    have := h x (by simp)
    simp [this]

/-- on a sorted list, seeking in the filtered list = filtering from where the seek lands -/
theorem filter_dropWhile_comm (p : Nat → Bool) (v : Nat) (l : List Nat) (hs : l.Pairwise (· < ·)) :
    (l.filter p).dropWhile (· < v) = (l.dropWhile (· < v)).filter p := by
  induction l with
  | nil => rfl
  | cons x t ih =>
    obtain ⟨hx, ht⟩ := List.pairwise_cons.1 hs
    by_cases hxv : x < v
    · cases hp : p x <;> simp [hp, hxv, ih ht]
    · have hall : ∀ a ∈ t, ¬ a < v := fun a ha => by have := hx a ha; omega
      cases hp : p x with
      | true => simp [hp, hxv]
      | false =>
        have h1 : List.filter p (x :: t) = List.filter p t := by simp [hp]
        have h2 : List.dropWhile (fun a => decide (a < v)) (x :: t) = x :: t := by simp [hxv]
        rw [h1, h2, h1]
        exact dropWhile_lt_of_all_ge _ v (fun a ha => hall a (List.mem_filter.1 ha).1)

end StorageModel.C15
