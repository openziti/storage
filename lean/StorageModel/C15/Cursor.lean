import StorageModel.C15.Query
/-
  C15 — the id cursors a store hands out, as state machines driven by Next / Seek.

  boltz/query_bolt_cursors.go  ForwardBoltCursor over the *parent's* entities bucket  `BoltCur`
  boltz/query_scanners.go      uniqueIndexScanner used as a cursor (newFilteredCursor:
                               Next, Seek through the seekable wrapped cursor)        `ScanCur`
  boltz/store_query.go         IterateIds, IterateValidIds, ValidIdsCursors
                               (Seek / Next with their skip loops)                    `IdCur`
  boltz/store_query.go         QueryWithCursorC → Scanner.ScanCursor over a provider  `queryWithCursor`

  The specification of a cursor is a position in a list (`ListCur`): the list of the ids the
  store owns (`ownedIds`), `Next` = drop the head, `Seek v` = the first owned id ≥ v counted from
  the start of the list (bbolt's `Seek` is absolute), invalid = exhausted.
-/
namespace StorageModel.C15

/-- `ForwardBoltCursor`: `keys` = the bucket's keys in byte order (fixed while the read
    transaction lasts), `rest` = from the current key on (`[]` ⇔ `key == nil`) -/
structure BoltCur where
  keys : List Id
  rest : List Id
  deriving DecidableEq, Repr

/-- `NewForwardBoltCursor`: `cursor.First()` -/
def BoltCur.first (keys : List Id) : BoltCur := ⟨keys, keys⟩
/-- `ForwardBoltCursor.Next`: `cursor.Next()` (stays nil once exhausted) -/
def BoltCur.next (c : BoltCur) : BoltCur := { c with rest := c.rest.tail }
/-- `ForwardBoltCursor.Seek`: bbolt's `Seek` — the first key ≥ `v` of the whole bucket -/
def BoltCur.seek (c : BoltCur) (v : Id) : BoltCur := { c with rest := c.keys.dropWhile (· < v) }

/-- the loop of `uniqueIndexScanner.Next` (no paging: `newFilteredCursor` sets offset 0 and limit
    MaxInt64) over what is left of the wrapped cursor: take `Current()`, advance, skip the row iff
    `IsChildStore ∧ ¬IsEntityPresent ∧ ¬IsExtended`, evaluate the filter, stop at the first match.
    Result: (what is left of the wrapped cursor, `scanner.current`).  Same rule and same shape as
    `scanLoop` (the keys of the entities bucket always have an entity, so the `none` branch is
    never taken). -/
def scanNext (st : St) (s : Sel) (f : Filter) : List Id → List Id × Option Id
  | [] => ([], none)
  | id :: rest =>
    if s.isChildStore && !isEntityPresent st s id && !s.isExtended then scanNext st s f rest
    else
      match mget st.ents id with
      | some e => if f.eval e then (rest, some id) else scanNext st s f rest
      | none => scanNext st s f rest

/-- `uniqueIndexScanner` as handed out by `newFilteredCursor`: the wrapped bolt cursor is always
    one step ahead of `current` -/
structure ScanCur where
  under : BoltCur
  current : Option Id
  deriving DecidableEq, Repr

def ScanCur.isValid (c : ScanCur) : Bool := c.current.isSome

/-- `uniqueIndexScanner.Next` -/
def ScanCur.next (st : St) (s : Sel) (f : Filter) (c : ScanCur) : ScanCur :=
  let r := scanNext st s f c.under.rest
  ⟨{ c.under with rest := r.1 }, r.2⟩

/-- `uniqueIndexScanner.Seek`, wrapped cursor seekable: `seekableCursor.Seek(val); scanner.Next()` -/
def ScanCur.seek (st : St) (s : Sel) (f : Filter) (c : ScanCur) (v : Id) : ScanCur :=
  ScanCur.next st s f ⟨c.under.seek v, c.current⟩

/-- `IterateIds`: `newFilteredCursor(tx, store, entitiesBucket.OpenSeekableCursor(), filter)`,
    which ends with `result.Next()` -/
def iterateIdsCur (st : St) (s : Sel) (f : Filter) : ScanCur :=
  ScanCur.next st s f ⟨BoltCur.first (idsInOrder st), none⟩

/-- `ValidIdsCursors.IsExtendedDataPresent` (only evaluated behind `IsValid() &&`) -/
def extPresent (st : St) (s : Sel) (c : ScanCur) : Bool :=
  match c.current with
  | some id => isEntityPresent st s id
  | none => false

/-- `for cursor.IsValid() && !cursor.IsExtendedDataPresent() { cursor.wrapped.Next() }`.
    The Go loop has no bound; every `wrapped.Next()` consumes at least one key of the wrapped
    bolt cursor or makes the scanner invalid, so `skipFuel` iterations are enough
    (`skipLoop_spec`: the result is invalid or rests on an id with extension data). -/
def skipLoop (st : St) (s : Sel) (f : Filter) : Nat → ScanCur → ScanCur
  | 0, c => c
  | n + 1, c =>
    if c.isValid && !extPresent st s c then skipLoop st s f n (c.next st s f) else c

def skipFuel (c : ScanCur) : Nat := c.under.rest.length + 1

/-- `ValidIdsCursors.Next`: `wrapped.Next()`, then the skip loop -/
def validNext (st : St) (s : Sel) (f : Filter) (c : ScanCur) : ScanCur :=
  let c' := c.next st s f
  skipLoop st s f (skipFuel c') c'

/-- `ValidIdsCursors.Seek`: `wrapped.Seek(bytes)`, then the skip loop -/
def validSeek (st : St) (s : Sel) (f : Filter) (c : ScanCur) (v : Id) : ScanCur :=
  let c' := c.seek st s f v
  skipLoop st s f (skipFuel c') c'

/-- what `IterateIds` / `IterateValidIds` return: the scanner itself, or `ValidIdsCursors{wrapped}` -/
inductive IdCur
  | plain (c : ScanCur)
  | valid (c : ScanCur)
  deriving DecidableEq, Repr

/-- `IterateValidIds`: for an extended store wrap the scanner; a first row without extension data
    is left with one `validIdsCursor.Next()` (which loops) -/
def iterateValidIdsCur (st : St) (s : Sel) (f : Filter) : IdCur :=
  let c := iterateIdsCur st s f
  if s.isExtended then
    if c.isValid && !extPresent st s c then .valid (validNext st s f c) else .valid c
  else .plain c

/-- `IsValid()` / `Current()`: `none` = invalid -/
def IdCur.current : IdCur → Option Id
  | .plain c => c.current
  | .valid c => c.current

inductive Step
  | next
  | seek (v : Id)
  deriving DecidableEq, Repr

def IdCur.step (st : St) (s : Sel) (f : Filter) : IdCur → Step → IdCur
  | .plain c, .next => .plain (c.next st s f)
  | .plain c, .seek v => .plain (c.seek st s f v)
  | .valid c, .next => .valid (validNext st s f c)
  | .valid c, .seek v => .valid (validSeek st s f c v)

/-- what the caller sees: `Current()` (or invalid) right after the cursor was opened and after
    every call of the script -/
def IdCur.trace (st : St) (s : Sel) (f : Filter) : IdCur → List Step → List (Option Id)
  | c, [] => [c.current]
  | c, x :: xs => c.current :: IdCur.trace st s f (c.step st s f x) xs

/-- `QueryWithCursorC` without sort: `uniqueIndexScanner.ScanCursor` over the ids the caller's
    cursor provider enumerates (ids of existing entities, e.g. the entries of an index) -/
def queryWithCursor (st : St) (s : Sel) (f : Filter) (provided : List Id) : List Id :=
  scanLoop st s f provided

/-- `QueryWithCursorC` with `sort by name`: `sortingScanner.ScanCursor` (provider without repeats) -/
def queryWithCursorSorted (st : St) (s : Sel) (f : Filter) (provided : List Id) : List Id :=
  (scanLoop st s f provided).foldl (fun acc id => insRow st id acc) []

/-- the cursor over one key of the parent's set index on `roles` (`OpenValueCursor`) -/
def rolesIndexIds (st : St) (r : Val) : List Id :=
  canon ((st.rolesIdx.filter (·.1 == r)).map (·.2))

structure ListCur where
  all : List Id
  rest : List Id
  deriving DecidableEq, Repr

def ListCur.start (l : List Id) : ListCur := ⟨l, l⟩
def ListCur.current (c : ListCur) : Option Id := c.rest.head?

def ListCur.step (c : ListCur) : Step → ListCur
  | .next => { c with rest := c.rest.tail }
  | .seek v => { c with rest := c.all.dropWhile (· < v) }

def ListCur.trace : ListCur → List Step → List (Option Id)
  | c, [] => [c.current]
  | c, x :: xs => c.current :: ListCur.trace (c.step x) xs

theorem scanNext_cons (st : St) (s : Sel) (f : Filter) (x : Id) (t : List Id) :
    scanNext st s f (x :: t) = if ownedPred st.ents s false f x then (t, some x) else scanNext st s f t :=
  scanRow_eq_ownedPred st s f x _ _

/-- the rows a scanner cursor still has to deliver, its current one first -/
def ScanCur.abs (st : St) (s : Sel) (f : Filter) (c : ScanCur) : List Id :=
  match c.current with
  | none => []
  | some id => id :: c.under.rest.filter (ownedPred st.ents s false f)

/-- invariant of the scanner cursor: it wraps the entities bucket of `st`, and it is invalid only
    once the wrapped cursor is exhausted (`scanNext` gives up on `[]` alone) — without `done`, `Next`
    on an invalid cursor could revive it and `abs` would not be what is still to come -/
structure ScanCur.Good (st : St) (c : ScanCur) : Prop where
  keys : c.under.keys = idsInOrder st
  done : c.current = none → c.under.rest = []

theorem ScanCur.current_eq_head (st : St) (s : Sel) (f : Filter) (c : ScanCur) :
    c.current = (c.abs st s f).head? := by
  unfold ScanCur.abs; cases c.current <;> rfl

theorem ScanCur.next_abs (st : St) (s : Sel) (f : Filter) (c : ScanCur) (hk : c.under.keys = idsInOrder st) :
    (c.next st s f).Good st ∧ (c.next st s f).abs st s f = c.under.rest.filter (ownedPred st.ents s false f) := by
  suffices h : ∀ l, (ScanCur.mk ⟨c.under.keys, (scanNext st s f l).1⟩ (scanNext st s f l).2).abs st s f =
        l.filter (ownedPred st.ents s false f) ∧ ((scanNext st s f l).2 = none → (scanNext st s f l).1 = []) from
    ⟨⟨hk, (h _).2⟩, (h _).1⟩
  intro l
  induction l with
  | nil => exact ⟨rfl, fun _ => rfl⟩
  | cons x t ih =>
    rw [scanNext_cons, List.filter_cons]
    cases ownedPred st.ents s false f x with
    | true => exact ⟨rfl, fun h => nomatch h⟩
    | false => exact ih

theorem ScanCur.next_spec (st : St) (s : Sel) (f : Filter) (c : ScanCur) (h : c.Good st) :
    (c.next st s f).Good st ∧ (c.next st s f).abs st s f = (c.abs st s f).tail := by
  obtain ⟨h1, h2⟩ := c.next_abs st s f h.keys
  refine ⟨h1, h2.trans ?_⟩
  unfold ScanCur.abs
  cases hc : c.current with
  | none => simp [h.done hc]
  | some id => rfl

theorem BoltCur.seek_owned (st : St) (s : Sel) (f : Filter) (u : BoltCur) (v : Id) (hk : u.keys = idsInOrder st) :
    (u.seek v).rest.filter (ownedPred st.ents s false f) = (ownedIds st.ents s false f).dropWhile (· < v) := by
  rw [ownedIds, filter_dropWhile_comm _ _ _ (canon_pairwise _), ← idsInOrder, ← hk]
  rfl

theorem ScanCur.seek_spec (st : St) (s : Sel) (f : Filter) (c : ScanCur) (v : Id) (h : c.Good st) :
    (c.seek st s f v).Good st ∧
    (c.seek st s f v).abs st s f = (ownedIds st.ents s false f).dropWhile (· < v) := by
  obtain ⟨h1, h2⟩ := ScanCur.next_abs st s f ⟨c.under.seek v, c.current⟩ h.keys
  exact ⟨h1, h2.trans (BoltCur.seek_owned st s f c.under v h.keys)⟩

theorem iterateIdsCur_spec (st : St) (s : Sel) (f : Filter) :
    (iterateIdsCur st s f).Good st ∧
    (iterateIdsCur st s f).abs st s f = ownedIds st.ents s false f :=
  ScanCur.next_abs st s f ⟨BoltCur.first (idsInOrder st), none⟩ rfl

theorem plain_trace (st : St) (s : Sel) (f : Filter) (script : List Step) (c : ScanCur) (hg : c.Good st) :
    IdCur.trace st s f (.plain c) script = ListCur.trace ⟨ownedIds st.ents s false f, c.abs st s f⟩ script := by
  induction script generalizing c with
  | nil => simp [IdCur.trace, ListCur.trace, IdCur.current, ListCur.current, ScanCur.current_eq_head st s f c]
  | cons x xs ih =>
    have hcur : (IdCur.plain c).current = (ListCur.mk (ownedIds st.ents s false f) (c.abs st s f)).current := by
      simp [IdCur.current, ListCur.current, ScanCur.current_eq_head st s f c]
    simp only [IdCur.trace, ListCur.trace, hcur]
    congr 1
    cases x with
    | next =>
      obtain ⟨g, a⟩ := ScanCur.next_spec st s f c hg
      exact (ih (c.next st s f) g).trans (by rw [a]; rfl)
    | seek v =>
      obtain ⟨g, a⟩ := ScanCur.seek_spec st s f c v hg
      exact (ih (c.seek st s f v) g).trans (by rw [a]; rfl)

theorem abs_length_le_fuel (st : St) (s : Sel) (f : Filter) (c : ScanCur) :
    (c.abs st s f).length ≤ skipFuel c := by
  unfold ScanCur.abs skipFuel
  cases c.current with
  | none => simp
  | some id =>
    have := List.length_filter_le (ownedPred st.ents s false f) c.under.rest
    simp only [List.length_cons]; omega

/-- invariant of `ValidIdsCursors`: the wrapped scanner is good and never rests on a row
    without extension data -/
structure ValidGood (st : St) (s : Sel) (c : ScanCur) : Prop where
  good : c.Good st
  present : ∀ id, c.current = some id → isEntityPresent st s id = true

/-- the rows a `ValidIdsCursors` still has to deliver -/
def validAbs (st : St) (s : Sel) (f : Filter) (c : ScanCur) : List Id :=
  (c.abs st s f).filter (fun id => isEntityPresent st s id)

theorem valid_current_eq_head (st : St) (s : Sel) (f : Filter) (c : ScanCur) (h : ValidGood st s c) :
    c.current = (validAbs st s f c).head? := by
  unfold validAbs ScanCur.abs
  cases hc : c.current with
  | none => rfl
  | some id => simp [h.present id hc]

theorem skipLoop_spec (st : St) (s : Sel) (f : Filter) (n : Nat) (c : ScanCur) (hg : c.Good st)
    (hn : (c.abs st s f).length ≤ n) :
    ValidGood st s (skipLoop st s f n c) ∧ validAbs st s f (skipLoop st s f n c) = validAbs st s f c := by
  induction n generalizing c with
  | zero =>
    have hcur : c.current = none := by
      cases hc : c.current with
      | none => rfl
      | some id => simp [ScanCur.abs, hc] at hn
    exact ⟨⟨hg, fun id (h : c.current = some id) => by rw [hcur] at h; cases h⟩, rfl⟩
  | succ n ih =>
    unfold skipLoop
    cases hc : c.current with
    | none =>
      simp only [ScanCur.isValid, hc, Option.isSome_none, Bool.false_and, Bool.false_eq_true, if_false]
      exact ⟨⟨hg, fun id h => by rw [hc] at h; cases h⟩, trivial⟩
    | some id =>
      cases hp : isEntityPresent st s id with
      | true =>
        simp only [ScanCur.isValid, hc, extPresent, hp, Option.isSome_some, Bool.not_true, Bool.and_false,
          Bool.false_eq_true, if_false]
        exact ⟨⟨hg, fun j hj => by rw [hc] at hj; cases hj; exact hp⟩, trivial⟩
      | false =>
        simp only [ScanCur.isValid, hc, extPresent, hp, Option.isSome_some, Bool.not_false, Bool.and_true, if_true]
        have habs : c.abs st s f = id :: c.under.rest.filter (ownedPred st.ents s false f) := by simp [ScanCur.abs, hc]
        obtain ⟨g, a⟩ := ScanCur.next_spec st s f c hg
        obtain ⟨vg, va⟩ := ih (c.next st s f) g (by rw [a, List.length_tail]; omega)
        refine ⟨vg, va.trans ?_⟩
        -- the row left behind has no extension data
        rw [validAbs, validAbs, a, habs, List.tail_cons, List.filter_cons_of_neg (by simp [hp])]

theorem validNext_spec (st : St) (s : Sel) (f : Filter) (c : ScanCur) (h : ValidGood st s c) :
    ValidGood st s (validNext st s f c) ∧ validAbs st s f (validNext st s f c) = (validAbs st s f c).tail := by
  obtain ⟨g, a⟩ := ScanCur.next_spec st s f c h.good
  obtain ⟨vg, va⟩ := skipLoop_spec st s f _ (c.next st s f) g (abs_length_le_fuel st s f _)
  refine ⟨vg, ?_⟩
  have : validNext st s f c = skipLoop st s f (skipFuel (c.next st s f)) (c.next st s f) := rfl
  rw [this, va]
  unfold validAbs
  rw [a]
  unfold ScanCur.abs
  cases hc : c.current with
  | none => simp
  | some id => simp [h.present id hc]

theorem validSeek_spec (st : St) (s : Sel) (f : Filter) (c : ScanCur) (v : Id) (h : ValidGood st s c) :
    ValidGood st s (validSeek st s f c v) ∧
    validAbs st s f (validSeek st s f c v) =
      (ownedIds st.ents s true f).dropWhile (· < v) := by
  obtain ⟨g, a⟩ := ScanCur.seek_spec st s f c v h.good
  obtain ⟨vg, va⟩ := skipLoop_spec st s f _ (c.seek st s f v) g (abs_length_le_fuel st s f _)
  refine ⟨vg, ?_⟩
  have : validSeek st s f c v = skipLoop st s f (skipFuel (c.seek st s f v)) (c.seek st s f v) := rfl
  rw [this, va]
  unfold validAbs
  rw [a, ← ownedIds_valid]
  exact (filter_dropWhile_comm _ v _ (ownedIds_pairwise ..)).symm

theorem valid_trace (st : St) (s : Sel) (f : Filter) (script : List Step) (c : ScanCur) (hg : ValidGood st s c) :
    IdCur.trace st s f (.valid c) script = ListCur.trace ⟨ownedIds st.ents s true f, validAbs st s f c⟩ script := by
  induction script generalizing c with
  | nil => simp [IdCur.trace, ListCur.trace, IdCur.current, ListCur.current, valid_current_eq_head st s f c hg]
  | cons x xs ih =>
    have hcur : (IdCur.valid c).current = (ListCur.mk (ownedIds st.ents s true f) (validAbs st s f c)).current := by
      simp [IdCur.current, ListCur.current, valid_current_eq_head st s f c hg]
    simp only [IdCur.trace, ListCur.trace, hcur]
    congr 1
    cases x with
    | next =>
      obtain ⟨g, a⟩ := validNext_spec st s f c hg
      exact (ih (validNext st s f c) g).trans (by rw [a]; rfl)
    | seek v =>
      obtain ⟨g, a⟩ := validSeek_spec st s f c v hg
      exact (ih (validSeek st s f c v) g).trans (by rw [a]; rfl)

/-- the cursor `IterateValidIds` hands out for an extended store starts as the list of the rows
    with extension data: its first-element skip is one more round of the skip loop -/
theorem iterateValidIdsCur_extended (st : St) (s : Sel) (f : Filter) (hs : s.isExtended = true) :
    ∃ c, iterateValidIdsCur st s f = .valid c ∧ ValidGood st s c ∧
      validAbs st s f c = ownedIds st.ents s true f := by
  obtain ⟨g, a⟩ := iterateIdsCur_spec st s f
  have hn : ((iterateIdsCur st s f).abs st s f).length ≤ skipFuel ((iterateIdsCur st s f).next st s f) + 1 := by
    have := abs_length_le_fuel st s f ((iterateIdsCur st s f).next st s f)
    rw [(ScanCur.next_spec st s f _ g).2, List.length_tail] at this
    omega
  obtain ⟨vg, va⟩ := skipLoop_spec st s f _ _ g hn
  refine ⟨_, ?_, vg, by rw [va, validAbs, a, ownedIds_valid]⟩
  simp only [iterateValidIdsCur, hs, if_true, skipLoop]
  split <;> rfl

theorem ListCur.trace_mem (lc : ListCur) (script : List Step) (hsub : ∀ a ∈ lc.rest, a ∈ lc.all)
    (id : Id) (h : some id ∈ lc.trace script) : id ∈ lc.all := by
  induction script generalizing lc with
  | nil =>
    simp only [ListCur.trace, ListCur.current, List.mem_singleton] at h
    exact hsub id (List.mem_of_mem_head? h.symm)
  | cons x xs ih =>
    simp only [ListCur.trace, List.mem_cons] at h
    rcases h with h | h
    · exact hsub id (List.mem_of_mem_head? (by simpa [ListCur.current] using h.symm))
    · cases x with
      | next => exact ih (lc.step .next) (fun a ha => hsub a (List.mem_of_mem_tail ha)) h
      | seek v => exact ih (lc.step (.seek v)) (fun a ha => (List.dropWhile_sublist _).mem ha) h

end StorageModel.C15
