import StorageModel.C15.Proofs
/-
  C15 — every operation of the engine model, through any of the three stores, refines the table
  specification and keeps the invariant (`Refines`).  `Create` and `Update` are, on both sides, the
  same pre-checks followed by the index protocol / the constraint check (`createM_eq`, …);
  `Update` through any store is the update of the store it ends up in (`updateM_eq`).
-/
namespace StorageModel.C15

def Refines (m : Except Err St) (sp : Except Err Ents) : Prop :=
  match sp with
  | .error e => m = .error e
  | .ok ents' => ∃ st', m = .ok st' ∧ st'.ents = ents' ∧ Inv st'

theorem Refines.cases {m : Except Err St} {sp : Except Err Ents} (h : Refines m sp) :
    (∃ e, m = .error e ∧ sp = .error e) ∨ ∃ st', m = .ok st' ∧ sp = .ok st'.ents ∧ Inv st' := by
  cases sp with
  | error e => exact Or.inl ⟨e, h, rfl⟩
  | ok ents' => obtain ⟨st', h1, h2, h3⟩ := h; exact Or.inr ⟨st', h1, by rw [h2], h3⟩

theorem Refines.inv_of_ok {m : Except Err St} {sp : Except Err Ents} (h : Refines m sp) {st' : St}
    (hm : m = .ok st') : Inv st' := by
  rcases h.cases with ⟨e, h1, _⟩ | ⟨st1, h1, _, h3⟩
  · rw [h1] at hm; cases hm
  · rw [h1] at hm; cases hm; exact h3

/-- the same verdict of a pre-check in front of both sides: the shape `createM_eq` / `specCreate_eq`,
    `updateChildM_eq` / `specUpdate_eq` and `createV` / `specCreateV` put model and specification in -/
theorem Refines.guard (pre : Option Err) {m : Except Err St} {sp : Except Err Ents} (h : pre = none → Refines m sp) :
    Refines (match (generalizing := false) pre with | some e => .error e | none => m)
      (match (generalizing := false) pre with | some e => .error e | none => sp) := by
  cases pre with
  | some e => rfl
  | none => exact h rfl

theorem indexAfter_ents {s : Sel} {isCreate : Bool} {st st' : St} {id : Id} {old new : Ent}
    (h : indexAfter s isCreate st id old new = .ok st') : st'.ents = mput st.ents id new := by
  unfold indexAfter at h
  cases h1 : uniqAfter false isCreate .dupName st.nameIdx old.name new.name id with
  | error e => simp [h1, bind, Except.bind] at h
  | ok n =>
    simp only [h1, bind, Except.bind] at h
    cases s with
    | A1 =>
      simp only at h
      cases h2 : uniqAfter true isCreate .dupCode st.codeIdx old.codeKey new.codeKey id with
      | error e => simp [h2] at h
      | ok c => simp only [h2, pure, Except.pure] at h; cases h; rfl
    | A => simp only [pure, Except.pure] at h; cases h; rfl
    | A2 => simp only [pure, Except.pure] at h; cases h; rfl

/-- the index protocol against the constraint check, the old values being those of the entity bucket
    (`getOrCreateEntityBucket` on Create: the existing bucket, or an empty one) -/
theorem indexAfter_refines (s : Sel) (isCreate : Bool) (st : St) (hinv : Inv st) (id : Id) (new : Ent)
    (hcode : s ≠ .A1 → new.codeKey = ((mget st.ents id).getD Ent.empty).codeKey)
    (hex : isCreate = false → ∃ e, mget st.ents id = some e) :
    Refines (indexAfter s isCreate st id ((mget st.ents id).getD Ent.empty) new)
      (match specCheck st.ents id isCreate ((mget st.ents id).getD Ent.empty) new with
       | .error e => .error e
       | .ok _ => .ok (mput st.ents id new)) := by
  have h1 := uniqAfter_refines (id := id) (new := new) false isCreate .dupName hinv.name rfl
  unfold Refines specCheck indexAfter
  cases hv1 : uniqViolation st.ents id false .dupName (·.name)
      (isCreate || ((mget st.ents id).getD Ent.empty).name != new.name) new.name with
  | some e => rw [hv1] at h1; rw [h1]; rfl
  | none =>
    rw [hv1] at h1
    obtain ⟨n', hn', hmir⟩ := h1
    have hroles := setAfter_mirror (id := id) (new := new) hinv.roles
    have hname : ∀ j e, mget (mput st.ents id new) j = some e → e.name ≠ 0 := by
      intro j e he
      rw [mget_mput] at he
      split at he
      · cases he
        cases hch : (isCreate || ((mget st.ents id).getD Ent.empty).name != new.name) with
        | true => rw [hch] at hv1; exact uniqViolation_nonnull hv1
        | false =>
          obtain ⟨hic, heq⟩ : isCreate = false ∧ ((mget st.ents id).getD Ent.empty).name = new.name := by
            simpa using hch
          obtain ⟨e0, h0⟩ := hex hic
          rw [← heq, h0]; exact hinv.name_ne _ _ h0
      · exact hinv.name_ne _ _ he
    simp only [hn', bind, Except.bind]
    by_cases hs : s = .A1
    · subst hs
      have h2 := uniqAfter_refines (id := id) (new := new) true isCreate .dupCode hinv.code rfl
      cases hv2 : uniqViolation st.ents id true .dupCode (·.codeKey)
          (isCreate || ((mget st.ents id).getD Ent.empty).codeKey != new.codeKey) new.codeKey with
      | some e => rw [hv2] at h2; simp only [h2]
      | none =>
        rw [hv2] at h2
        obtain ⟨c', hc', hmirc⟩ := h2
        simp only [hc']
        exact ⟨_, rfl, rfl, hmir, hroles, hmirc, hname⟩
    · have h2 := uniq_untouched (id := id) (new := new) isCreate .dupCode hinv.code rfl (hcode hs)
      rw [h2.1]
      cases s with
      | A1 => exact absurd rfl hs
      | _ => exact ⟨_, rfl, rfl, hmir, hroles, h2.2, hname⟩

theorem codeKey_persist (e : Ent) (s : Sel) (p : Payload) (chk chk' : Option Checker) (hs : s ≠ .A1) :
    (persistChild (persistShared e p chk) s p chk').codeKey = e.codeKey := by
  cases s <;> first | rfl | exact absurd rfl hs

/-- the checks of `BaseStore.Create` before anything is persisted -/
def createPre (ents : Ents) (s : Sel) (id : Id) : Option Err :=
  if id = 0 then some .blank
  else
    match mget ents id with
    | some e => if e.hasChild s then some .exists_ else none
    | none => none

/-- the checks of `BaseStore.Update` (through `s`, or through the child store the parent
    delegates to) before anything is persisted -/
def updatePre (ents : Ents) (s : Sel) (id : Id) : Option Err :=
  if id = 0 then some .blank
  else
    match mget ents id with
    | none => some .notfound
    | some e => if e.hasChild s then none else some .notfound

theorem createPre_eq_none {ents : Ents} {s : Sel} {id : Id} :
    createPre ents s id = none ↔ id ≠ 0 ∧ ∀ b, mget ents id = some b → b.hasChild s = false := by
  unfold createPre
  by_cases hid : id = 0
  · simp [hid]
  · cases mget ents id <;> simp [hid]

theorem updatePre_eq_none {ents : Ents} {s : Sel} {id : Id} :
    updatePre ents s id = none ↔ id ≠ 0 ∧ ∃ e, mget ents id = some e ∧ e.hasChild s = true := by
  unfold updatePre
  by_cases hid : id = 0
  · simp [hid]
  · cases mget ents id <;> simp [hid]

theorem createM_eq (cfg : Cfg) (st : St) (s : Sel) (id : Id) (p : Payload) :
    createM cfg st s id p =
      match createPre st.ents s id with
      | some e => .error e
      | none =>
        indexAfter s true st id (if cfg.childCreateCapturesOld then (mget st.ents id).getD Ent.empty else Ent.empty)
          (persistChild (persistShared ((mget st.ents id).getD Ent.empty) p none) s p none) := by
  unfold createM createPre isEntityPresent
  split
  · rfl
  · cases mget st.ents id with
    | none => rfl
    | some b => by_cases hc : b.hasChild s = true <;> simp [hc]

theorem specCreate_eq (ents : Ents) (s : Sel) (id : Id) (p : Payload) :
    specCreate ents s id p =
      match createPre ents s id with
      | some e => .error e
      | none =>
        let base := (mget ents id).getD Ent.empty
        let e' := persistChild (persistShared base p none) s p none
        match specCheck ents id true base e' with
        | .error e => .error e
        | .ok _ => .ok (mput ents id e') := by
  unfold specCreate createPre
  split
  · rfl
  · cases mget ents id with
    | none => rfl
    | some b => by_cases hc : b.hasChild s = true <;> simp [hc] <;> rfl

theorem updateChildM_eq (st : St) (s : Sel) (id : Id) (p : Payload) (chk : Option Checker) :
    updateChildM st s id p chk =
      match updatePre st.ents s id with
      | some e => .error e
      | none =>
        indexAfter s false st id ((mget st.ents id).getD Ent.empty)
          (persistChild (persistShared ((mget st.ents id).getD Ent.empty) p chk) s p chk) := by
  unfold updateChildM updatePre bucketForLoad
  split
  · rfl
  · cases mget st.ents id with
    | none => rfl
    | some b => by_cases hc : b.hasChild s = true <;> cases s.isExtended <;> simp [hc]

theorem specUpdate_eq (ents : Ents) (s : Sel) (id : Id) (p : Payload) (chk : Option Checker) :
    specUpdate ents s id p chk =
      match updatePre ents s id with
      | some e => .error e
      | none =>
        let base := (mget ents id).getD Ent.empty
        let e' := persistChild (persistShared base p chk) s p chk
        match specCheck ents id false base e' with
        | .error e => .error e
        | .ok _ => .ok (mput ents id e') := by
  unfold specUpdate updatePre
  split
  · rfl
  · cases mget ents id with
    | none => rfl
    | some b => by_cases hc : b.hasChild s = true <;> simp [hc] <;> rfl

theorem createM_refines (cfg : Cfg) (st : St) (hinv : Inv st) (s : Sel) (id : Id) (p : Payload)
    (hff : cfg.childCreateCapturesOld = true ∨ findingOp st.ents (.create s id p) = false) :
    Refines (createM cfg st s id p) (specCreate st.ents s id p) := by
  rw [createM_eq, specCreate_eq]
  refine Refines.guard _ fun hp => ?_
  -- the old values the parent's indexing context holds are the entity's: nothing to capture on
  -- a new id, and over an existing parent entity only the repaired `Create` gets here
  have hold : (if cfg.childCreateCapturesOld = true then (mget st.ents id).getD Ent.empty else Ent.empty)
      = (mget st.ents id).getD Ent.empty := by
    cases hm : mget st.ents id with
    | none => split <;> rfl
    | some b =>
      rcases hff with h | h
      · rw [if_pos h]
      · obtain ⟨hid, hb⟩ := createPre_eq_none.1 hp
        have hc := hb b hm
        cases s with
        | A => cases hc
        | _ => simp [findingOp, Sel.isChildStore, hm, hid, hc] at h
  simp only [hold]
  exact indexAfter_refines s true st hinv id _ (codeKey_persist _ _ _ _ _) (fun h => nomatch h)

theorem createM_ents (cfg : Cfg) (st st' : St) (s : Sel) (id : Id) (p : Payload)
    (h : createM cfg st s id p = .ok st') :
    st'.ents = mput st.ents id (persistChild (persistShared ((mget st.ents id).getD Ent.empty) p none) s p none) := by
  rw [createM_eq] at h
  split at h
  · cases h
  · exact indexAfter_ents h

theorem updateChildM_refines (st : St) (hinv : Inv st) (s : Sel) (id : Id) (p : Payload) (chk : Option Checker) :
    Refines (updateChildM st s id p chk) (specUpdate st.ents s id p chk) := by
  rw [updateChildM_eq, specUpdate_eq]
  exact Refines.guard _ fun hp =>
    indexAfter_refines s false st hinv id _ (codeKey_persist _ _ _ _ _)
      (fun _ => (updatePre_eq_none.1 hp).2.imp fun _ h => h.1)

theorem updateChildM_ents (st st' : St) (s : Sel) (id : Id) (p : Payload) (chk : Option Checker)
    (h : updateChildM st s id p chk = .ok st') :
    ∃ e, mget st.ents id = some e ∧ e.hasChild s = true ∧
      st'.ents = mput st.ents id (persistChild (persistShared e p chk) s p chk) := by
  rw [updateChildM_eq] at h
  split at h
  · cases h
  · next hp =>
    obtain ⟨_, e, hm, hc⟩ := updatePre_eq_none.1 hp
    rw [hm] at h
    exact ⟨e, hm, hc, indexAfter_ents h⟩

/-- which store's strategy persists an `Update` issued through `s` (the parent delegates to the
    first registered child store that has data), and with which payload -/
def updTarget (st : St) (s : Sel) (id : Id) : Sel :=
  match s with
  | .A => if isEntityPresent st .A1 id then .A1 else if isEntityPresent st .A2 id then .A2 else .A
  | s => s

def updPayload (st : St) (s : Sel) (id : Id) (p : Payload) : Payload :=
  match s with
  | .A =>
    match mget st.ents id with
    | some e =>
      if e.hasChild .A1 then { p with child := e.childField .A1 }
      else if e.hasChild .A2 then { p with child := e.childField .A2 } else p
    | none => p
  | _ => p

/-- `BaseStore.Update` through any store is the update of the store it ends up in; for the parent
    store without child data that is its own pass, which reads like a child store's -/
theorem updateM_eq (st : St) (s : Sel) (id : Id) (p : Payload) (chk : Option Checker) :
    updateM st s id p chk = updateChildM st (updTarget st s id) id (updPayload st s id p) chk := by
  cases s with
  | A1 => rfl
  | A2 => rfl
  | A =>
    unfold updateM updTarget updPayload
    cases hm : mget st.ents id with
    | none => simp [isEntityPresent, hm, updateChildM, bucketForLoad]
    | some e =>
      simp only [isEntityPresent, hm, findById, bucketForLoad]
      cases h1 : e.hasChild .A1 with
      | true => simp
      | false =>
        cases h2 : e.hasChild .A2 with
        | true => simp
        | false => simp [updateChildM, bucketForLoad, hm, Ent.hasChild, persistChild]

/-- the entity with the data bucket of store `s` present and holding `c` (the parent has no data
    bucket of its own) -/
def Ent.setChild (e : Ent) : Sel → Option Val → Ent
  | .A, _ => e
  | .A1, c => { e with c1 := some c }
  | .A2, c => { e with c2 := some c }

theorem persistChild_eq (e : Ent) (s : Sel) (p : Payload) (chk : Option Checker) :
    persistChild e s p chk = e.setChild s (if proceed chk (·.child) then p.child else e.childField s) := by
  cases s <;> rfl

theorem Ent.setChild_self (e : Ent) (s : Sel) (h : e.hasChild s = true) : e.setChild s (e.childField s) = e := by
  obtain ⟨n, r, c1, c2⟩ := e
  cases s with
  | A => rfl
  | A1 => cases c1 with
    | none => cases h
    | some c => rfl
  | A2 => cases c2 with
    | none => cases h
    | some c => rfl

theorem persist_delegate (e : Ent) (s : Sel) (p : Payload) (chk : Option Checker) (h : e.hasChild s = true) :
    persistChild (persistShared e { p with child := e.childField s } chk) s { p with child := e.childField s } chk
      = persistShared e p chk := by
  rw [persistChild_eq]
  exact (ite_self _).symm ▸ Ent.setChild_self (persistShared e p chk) s h

/-- what the delegation comes to for a present entity: the store an `Update` ends up in has the
    entity's data exactly when the store it was issued through has, and its strategy writes the
    entity that store's own strategy would write -/
theorem upd_route {st : St} {id : Id} {e : Ent} (hm : mget st.ents id = some e) (s : Sel) (p : Payload)
    (chk : Option Checker) :
    e.hasChild (updTarget st s id) = e.hasChild s ∧
    persistChild (persistShared e (updPayload st s id p) chk) (updTarget st s id) (updPayload st s id p) chk =
      persistChild (persistShared e p chk) s p chk := by
  cases s with
  | A =>
    simp only [updTarget, updPayload, isEntityPresent, hm]
    by_cases h1 : e.hasChild .A1 = true
    · simp only [h1, if_true]; exact ⟨rfl, persist_delegate e .A1 p chk h1⟩
    · simp only [h1, Bool.false_eq_true, if_false]
      by_cases h2 : e.hasChild .A2 = true
      · simp only [h2, if_true]; exact ⟨rfl, persist_delegate e .A2 p chk h2⟩
      · simp only [h2, Bool.false_eq_true, if_false, and_self]
  | _ => exact ⟨rfl, rfl⟩

theorem updateM_ents (st st' : St) (s : Sel) (id : Id) (p : Payload) (chk : Option Checker)
    (h : updateM st s id p chk = .ok st') :
    ∃ e, mget st.ents id = some e ∧ e.hasChild s = true ∧
      st'.ents = mput st.ents id (persistChild (persistShared e p chk) s p chk) := by
  obtain ⟨e, hm, hc, hents⟩ := updateChildM_ents st st' _ id _ chk (updateM_eq st s id p chk ▸ h)
  exact ⟨e, hm, (upd_route hm s p chk).1 ▸ hc, (upd_route hm s p chk).2 ▸ hents⟩

theorem specUpdate_delegate (st : St) (s : Sel) (id : Id) (p : Payload) (chk : Option Checker) :
    specUpdate st.ents (updTarget st s id) id (updPayload st s id p) chk = specUpdate st.ents s id p chk := by
  unfold specUpdate
  cases hm : mget st.ents id with
  | none => rfl
  | some e => simp only [upd_route hm s p chk]

theorem updateM_refines (st : St) (hinv : Inv st) (s : Sel) (id : Id) (p : Payload) (chk : Option Checker) :
    Refines (updateM st s id p chk) (specUpdate st.ents s id p chk) := by
  rw [updateM_eq, ← specUpdate_delegate]
  exact updateChildM_refines st hinv _ id _ chk

theorem processDeleteConstraints_ents (st : St) (s : Sel) (id : Id) :
    (processDeleteConstraints st s id).ents = st.ents := by
  unfold processDeleteConstraints
  split <;> rfl

/-- a store's pass of `ProcessBeforeDelete` over a present entity: skipped only by the plain child
    store without data -/
theorem processDeleteConstraints_some (st : St) (s : Sel) (id : Id) (e : Ent) (hm : mget st.ents id = some e) :
    processDeleteConstraints st s id =
      if e.hasChild s || s.isExtended then indexBeforeDelete s st id e else st := by
  unfold processDeleteConstraints bucketForLoad
  simp only [hm]
  cases e.hasChild s <;> cases s.isExtended <;> rfl

/-- closed form of the fan-out: the child stores' passes and the parent's pass of
    `ProcessBeforeDelete` read the same, still present, entity bucket -/
theorem deleteM_some (st : St) (s : Sel) (id : Id) (e : Ent) (hm : mget st.ents id = some e) :
    ∃ st', deleteM st s id = .ok st' ∧ st'.ents = mdel st.ents id ∧
      (∀ k, mget st'.nameIdx k = if e.name ≠ 0 ∧ e.name = k then none else mget st.nameIdx k) ∧
      (∀ q, q ∈ st'.rolesIdx ↔ q ∈ st.rolesIdx ∧ ¬ (q.2 = id ∧ q.1 ∈ e.roles)) ∧
      (∀ k, mget st'.codeIdx k = if e.codeKey ≠ 0 ∧ e.codeKey = k then none else mget st.codeIdx k) := by
  have hst : processDeleteConstraints (processDeleteConstraints (processDeleteConstraints st .A1 id) .A2 id) .A id =
      indexBeforeDelete .A (indexBeforeDelete .A2
        (if e.hasChild .A1 then indexBeforeDelete .A1 st id e else st) id e) id e := by
    have h1 := processDeleteConstraints_some st .A1 id e hm
    rw [show Sel.A1.isExtended = false from rfl, Bool.or_false] at h1
    have hm1 : mget (processDeleteConstraints st .A1 id).ents id = some e := by
      rw [processDeleteConstraints_ents]; exact hm
    rw [processDeleteConstraints_some _ .A id e (by rw [processDeleteConstraints_ents]; exact hm1),
      processDeleteConstraints_some _ .A2 id e hm1, h1, show Sel.A2.isExtended = true from rfl, Bool.or_true,
      if_pos rfl]
    exact if_pos rfl
  -- without A1 data there is no `code` to remove: A1's pass would have read the same
  have hcode : e.hasChild .A1 = false → e.codeKey = 0 := fun h1 => by
    obtain ⟨n, r, c1, c2⟩ := e; cases c1 <;> first | rfl | cases h1
  refine ⟨_, by simp only [deleteM, hm]; rfl, ?_⟩
  rw [hst]
  cases h1 : e.hasChild .A1 with
  | true =>
    refine ⟨rfl, fun k => ?_, fun q => ?_, fun k => ?_⟩
    · simp only [if_true, indexBeforeDelete, mget_uniqBeforeDelete]
      split <;> rfl
    · simp only [if_true, indexBeforeDelete, mem_setBeforeDelete]
      exact ⟨fun h => h.1.1, fun h => ⟨⟨h, h.2⟩, h.2⟩⟩
    · simp only [if_true, indexBeforeDelete, mget_uniqBeforeDelete]
  | false =>
    refine ⟨rfl, fun k => ?_, fun q => ?_, fun k => ?_⟩
    · simp only [Bool.false_eq_true, if_false, indexBeforeDelete, mget_uniqBeforeDelete]
      split <;> rfl
    · simp only [Bool.false_eq_true, if_false, indexBeforeDelete, mem_setBeforeDelete]
      exact ⟨fun h => h.1, fun h => ⟨h, h.2⟩⟩
    · simp [indexBeforeDelete, hcode h1]

theorem deleteM_ents (st st' : St) (s : Sel) (id : Id) (h : deleteM st s id = .ok st') :
    st'.ents = mdel st.ents id := by
  unfold deleteM at h
  split at h
  · cases h
  · cases h; simp only [processDeleteConstraints_ents]

theorem deleteM_refines (st : St) (hinv : Inv st) (s : Sel) (id : Id) :
    Refines (deleteM st s id) (specDelete st.ents id) := by
  unfold specDelete
  cases hm : mget st.ents id with
  | none => simp only [deleteM, hm]; exact rfl
  | some e =>
    obtain ⟨st', h1, h2, h3, h4, h5⟩ := deleteM_some st s id e hm
    refine ⟨st', h1, h2, ?_⟩
    constructor
    · rw [h2]; exact umirror_delete hinv.name hm h3
    · rw [h2]; exact smirror_delete hinv.roles hm h4
    · rw [h2]; exact umirror_delete hinv.code hm h5
    · intro j e' he'
      rw [h2, mget_mdel] at he'
      split at he'
      · cases he'
      · exact hinv.name_ne _ _ he'

theorem stepOp_refines (cfg : Cfg) (st : St) (hinv : Inv st) (op : Op)
    (hff : cfg.childCreateCapturesOld = true ∨ findingOp st.ents op = false) :
    Refines (stepOp cfg st op) (specOp st.ents op) := by
  cases op with
  | create s id p => exact createM_refines cfg st hinv s id p hff
  | update s id p chk => exact updateM_refines st hinv s id p chk
  | delete s id => exact deleteM_refines st hinv s id

theorem stepOps_refines (cfg : Cfg) (ops : List Op) (st : St) (hinv : Inv st)
    (hff : cfg.childCreateCapturesOld = true ∨ findingFreeOps st.ents ops = true) :
    Refines (stepOps cfg st ops) (specOps st.ents ops) := by
  induction ops generalizing st with
  | nil => exact ⟨st, rfl, rfl, hinv⟩
  | cons op rest ih =>
    have hop : cfg.childCreateCapturesOld = true ∨ findingOp st.ents op = false :=
      hff.imp_right fun h => by
        simp only [findingFreeOps, Bool.and_eq_true, Bool.not_eq_true'] at h; exact h.1
    rcases (stepOp_refines cfg st hinv op hop).cases with ⟨e, hm, hs⟩ | ⟨st1, hm, hs, hinv1⟩
    · simp only [stepOps, specOps, hm, hs]; exact rfl
    · have hrest : cfg.childCreateCapturesOld = true ∨ findingFreeOps st1.ents rest = true :=
        hff.imp_right fun h => by
          simp only [findingFreeOps, hs, Bool.and_eq_true] at h; exact h.2
      simp only [stepOps, specOps, hm, hs]
      exact ih st1 hinv1 hrest

theorem stepTx_refines (cfg : Cfg) (tx : List Op) (st : St) (hinv : Inv st)
    (hff : cfg.childCreateCapturesOld = true ∨ findingFreeOps st.ents tx = true) :
    (stepTx cfg st tx).ents = specTx st.ents tx ∧ Inv (stepTx cfg st tx) := by
  unfold stepTx specTx
  rcases (stepOps_refines cfg tx st hinv hff).cases with ⟨e, hm, hs⟩ | ⟨st1, hm, hs, hinv1⟩
  · rw [hm, hs]; exact ⟨rfl, hinv⟩
  · rw [hm, hs]; exact ⟨rfl, hinv1⟩

theorem run_refines (cfg : Cfg) (hist : List (List Op)) (st : St) (hinv : Inv st)
    (hff : cfg.childCreateCapturesOld = true ∨ findingFree st.ents hist = true) :
    (run cfg st hist).ents = specRun st.ents hist ∧ Inv (run cfg st hist) := by
  induction hist generalizing st with
  | nil => exact ⟨rfl, hinv⟩
  | cons tx rest ih =>
    have hff' : cfg.childCreateCapturesOld = true ∨
        (findingFreeOps st.ents tx = true ∧ findingFree (specTx st.ents tx) rest = true) :=
      hff.imp_right fun h => by simpa only [findingFree, Bool.and_eq_true] using h
    obtain ⟨h1, h2⟩ := stepTx_refines cfg tx st hinv (hff'.imp_right (·.1))
    have := ih (stepTx cfg st tx) h2 (hff'.imp_right fun h => by rw [h1]; exact h.2)
    rw [h1] at this
    exact this

end StorageModel.C15
