import StorageModel.C15.Cursor
/-
  C15 — paged walks: the filter handed to `IterateIds` / `IterateValidIds` is a compiled
  `ast.Query` carrying `skip` / `limit`.

  boltz/query_scanners.go  scanner.setPaging (targetOffset, targetLimit), newFilteredCursor
                           (`if query, ok := filter.(ast.Query); ok { result.setPaging(query) }`),
                           uniqueIndexScanner.Next with its offset / collected accounting   `pscanNext`, `PScanCur`
                           uniqueIndexScanner.ScanCursor (QueryIds: nextUnpaged + the paging
                           of the caller's loop, count = every matching row)                `pageLoop`, `queryIdsPaged`

  The specification (`PListCur`) is a position in the list of the ids the store OWNS together with
  the two budgets of the page: `skip` is used up by owned rows only, `limit` counts rows handed out.
  For a walk without seeks that is the list cursor over `(owned.drop skip).take limit`
  (`PListCur.trace_nexts`), the list `QueryIds` returns for the same query (`queryIdsPaged_spec`).
-/
namespace StorageModel.C15

/-- `setPaging`: `targetOffset` (negative ⇒ 0) and `targetLimit` (`none` = absent or negative ⇒ MaxInt64) -/
structure Page where
  skip : Nat
  limit : Option Nat
  deriving DecidableEq, Repr

/-- `scanner.collected >= scanner.targetLimit` -/
def Page.full (pg : Page) (collected : Nat) : Bool :=
  match pg.limit with
  | some l => decide (l ≤ collected)
  | none => false

/-- the loop of `uniqueIndexScanner.Next`, paging included, over what is left of the wrapped
    cursor; arguments `scanner.offset`, `scanner.collected`.
    Result: (what is left of the wrapped cursor, `scanner.current`, offset, collected).
    Order of the Go loop: wrapped cursor exhausted ⇒ nil; limit reached ⇒ nil (the wrapped cursor
    is not advanced); take the key, advance; child-store rule; filter; a matching row uses up
    the offset first, otherwise it is handed out and counted. -/
def pscanNext (st : St) (s : Sel) (f : Filter) (pg : Page) :
    Nat → Nat → List Id → List Id × Option Id × Nat × Nat
  | off, col, [] => ([], none, off, col)
  | off, col, id :: rest =>
    if pg.full col then (id :: rest, none, off, col)
    else if s.isChildStore && !isEntityPresent st s id && !s.isExtended then pscanNext st s f pg off col rest
    else
      match mget st.ents id with
      | some e =>
        if f.eval e then
          if off < pg.skip then pscanNext st s f pg (off + 1) col rest
          else (rest, some id, off, col + 1)
        else pscanNext st s f pg off col rest
      | none => pscanNext st s f pg off col rest

/-- `uniqueIndexScanner` handed out by `newFilteredCursor` for an `ast.Query` -/
structure PScanCur where
  under : BoltCur
  current : Option Id
  offset : Nat
  collected : Nat
  deriving DecidableEq, Repr

/-- `uniqueIndexScanner.Next` -/
def PScanCur.next (st : St) (s : Sel) (f : Filter) (pg : Page) (c : PScanCur) : PScanCur :=
  let r := pscanNext st s f pg c.offset c.collected c.under.rest
  ⟨{ c.under with rest := r.1 }, r.2.1, r.2.2.1, r.2.2.2⟩

/-- `uniqueIndexScanner.Seek` (seekable wrapped cursor): `Seek(val); Next()` — offset and collected
    are the scanner's, they survive the seek -/
def PScanCur.seek (st : St) (s : Sel) (f : Filter) (pg : Page) (c : PScanCur) (v : Id) : PScanCur :=
  PScanCur.next st s f pg { c with under := c.under.seek v }

/-- `IterateIds(tx, query)`; `IterateValidIds` of a store that is not extended returns this cursor -/
def iterateIdsPaged (st : St) (s : Sel) (f : Filter) (pg : Page) : PScanCur :=
  PScanCur.next st s f pg ⟨BoltCur.first (idsInOrder st), none, 0, 0⟩

def PScanCur.step (st : St) (s : Sel) (f : Filter) (pg : Page) (c : PScanCur) : Step → PScanCur
  | .next => c.next st s f pg
  | .seek v => c.seek st s f pg v

def PScanCur.trace (st : St) (s : Sel) (f : Filter) (pg : Page) : PScanCur → List Step → List (Option Id)
  | c, [] => [c.current]
  | c, x :: xs => c.current :: PScanCur.trace st s f pg (c.step st s f pg x) xs

/-- the caller's loop of `uniqueIndexScanner.ScanCursor` over the rows `nextUnpaged` delivers -/
def pageLoop (pg : Page) : Nat → Nat → List Id → List Id
  | _, _, [] => []
  | off, col, id :: rows =>
    if off < pg.skip then pageLoop pg (off + 1) col rows
    else if !pg.full col then id :: pageLoop pg off (col + 1) rows
    else pageLoop pg off col rows

/-- `QueryIds(query)` without sort: (ids of the page, `count` = every row of the store matching) -/
def queryIdsPaged (st : St) (s : Sel) (f : Filter) (pg : Page) : List Id × Nat :=
  let rows := queryIds st s f
  (pageLoop pg 0 0 rows, rows.length)

def Page.of (pg : Page) (l : List Id) : List Id :=
  match pg.limit with
  | some n => (l.drop pg.skip).take n
  | none => l.drop pg.skip

/-- move on inside the rows still to come: nothing left ⇒ invalid; limit used up ⇒ invalid;
    otherwise drop as many rows as the skip budget still asks for and rest on the next one.
    Result: (current, rows after it, skip budget left, rows handed out) -/
def padvance (pg : Page) (skipLeft col : Nat) (rows : List Id) : Option Id × List Id × Nat × Nat :=
  match rows with
  | [] => (none, [], skipLeft, col)
  | _ :: _ =>
    if pg.full col then (none, rows, skipLeft, col)
    else
      match rows.drop skipLeft with
      | [] => (none, [], skipLeft - rows.length, col)
      | x :: r => (some x, r, 0, col + 1)

structure PListCur where
  all : List Id
  cur : Option Id
  rows : List Id
  skipLeft : Nat
  col : Nat
  deriving DecidableEq, Repr

def PListCur.adv (pg : Page) (c : PListCur) (rows : List Id) : PListCur :=
  let r := padvance pg c.skipLeft c.col rows
  { c with cur := r.1, rows := r.2.1, skipLeft := r.2.2.1, col := r.2.2.2 }

def PListCur.start (pg : Page) (l : List Id) : PListCur :=
  PListCur.adv pg ⟨l, none, l, pg.skip, 0⟩ l

def PListCur.step (pg : Page) (c : PListCur) : Step → PListCur
  | .next => c.adv pg c.rows
  | .seek v => c.adv pg (c.all.dropWhile (· < v))

def PListCur.trace (pg : Page) : PListCur → List Step → List (Option Id)
  | c, [] => [c.cur]
  | c, x :: xs => c.cur :: PListCur.trace pg (c.step pg x) xs

theorem padvance_skip_cons (pg : Page) (k col : Nat) (x : Id) (rows : List Id) (hf : pg.full col = false) :
    padvance pg (k + 1) col (x :: rows) = padvance pg k col rows := by
  cases rows with
  | nil => simp [padvance, hf]
  | cons y t =>
    simp only [padvance, hf, Bool.false_eq_true, if_false, List.drop_succ_cons, List.length_cons]
    cases hd : List.drop k (y :: t) with
    | nil =>
      simp only [Prod.mk.injEq, true_and, and_true]
      omega
    | cons a b => rfl

theorem pscanNext_cons (st : St) (s : Sel) (f : Filter) (pg : Page) (off col : Nat) (x : Id) (t : List Id) :
    pscanNext st s f pg off col (x :: t) =
      if pg.full col then (x :: t, none, off, col)
      else if ownedPred st.ents s false f x then
        if off < pg.skip then pscanNext st s f pg (off + 1) col t else (t, some x, off, col + 1)
      else pscanNext st s f pg off col t :=
  congrArg (fun r => if pg.full col then (x :: t, none, off, col) else r) (scanRow_eq_ownedPred st s f x _ _)

theorem pscanNext_owned {st : St} {s : Sel} {f : Filter} {pg : Page} {off col : Nat} {l : List Id} {x : Id}
    (h : (pscanNext st s f pg off col l).2.1 = some x) : ownedPred st.ents s false f x = true := by
  induction l generalizing off with
  | nil => cases h
  | cons y t ih =>
    rw [pscanNext_cons] at h
    split at h
    · cases h
    · split at h
      · next hy =>
        split at h
        · exact ih h
        · cases h; exact hy
      · exact ih h

/-- every move of the paged scanner ends in `pscanNext`, so whatever the script it rests only on
    rows that passed the row rule -/
theorem PScanCur.trace_owned (st : St) (s : Sel) (f : Filter) (pg : Page) (script : List Step) (c : PScanCur) (id : Id)
    (h : some id ∈ (c.next st s f pg).trace st s f pg script) : ownedPred st.ents s false f id = true := by
  induction script generalizing c with
  | nil => exact pscanNext_owned (List.mem_singleton.1 h).symm
  | cons x xs ih =>
    rcases List.mem_cons.1 h with h | h
    · exact pscanNext_owned h.symm
    · cases x <;> exact ih _ h

theorem pscanNext_spec (st : St) (s : Sel) (f : Filter) (pg : Page) (off col : Nat) (l : List Id) :
    let r := pscanNext st s f pg off col l
    (r.2.1, r.1.filter (ownedPred st.ents s false f), pg.skip - r.2.2.1, r.2.2.2) =
      padvance pg (pg.skip - off) col (l.filter (ownedPred st.ents s false f)) := by
  induction l generalizing off col with
  | nil => simp [pscanNext, padvance]
  | cons x t ih =>
    rw [pscanNext_cons]
    cases hfull : pg.full col with
    | true =>
      simp only [if_true]
      cases hrows : List.filter (ownedPred st.ents s false f) (x :: t) with
      | nil => simp [padvance]
      | cons a b => simp [padvance, hfull]
    | false =>
      simp only [Bool.false_eq_true, if_false, List.filter_cons]
      cases ownedPred st.ents s false f x with
      | false => exact ih off col
      | true =>
        simp only [if_true]
        by_cases ho : off < pg.skip
        · simp only [ho, if_true]
          have hk : pg.skip - off = (pg.skip - (off + 1)) + 1 := by omega
          rw [hk, padvance_skip_cons pg _ col x _ hfull]
          exact ih (off + 1) col
        · simp only [ho, if_false]
          have hk : pg.skip - off = 0 := by omega
          simp [hk, padvance, hfull]

/-- the simulation between the paged scanner and the budgeted list cursor: the list cursor's rows are
    the owned ones among the keys the wrapped cursor has left, and its skip budget is what the
    scanner's `offset` has not used up yet (`pscanNext_spec` is one move under this reading) -/
structure PSim (st : St) (s : Sel) (f : Filter) (pg : Page) (c : PScanCur) (lc : PListCur) : Prop where
  keys : c.under.keys = idsInOrder st
  all : lc.all = ownedIds st.ents s false f
  cur : lc.cur = c.current
  rows : lc.rows = c.under.rest.filter (ownedPred st.ents s false f)
  skip : lc.skipLeft = pg.skip - c.offset
  col : lc.col = c.collected

theorem PSim.adv {st : St} {s : Sel} {f : Filter} {pg : Page} {c : PScanCur} {lc : PListCur}
    (h : PSim st s f pg c lc) (u : BoltCur) (hu : u.keys = idsInOrder st) :
    PSim st s f pg (PScanCur.next st s f pg { c with under := u })
      (lc.adv pg (u.rest.filter (ownedPred st.ents s false f))) := by
  have hs := pscanNext_spec st s f pg c.offset c.collected u.rest
  simp only at hs
  -- the list cursor's four components are `padvance` on its budgets, which `hs` reads off the scanner
  refine ⟨hu, h.all, ?_, ?_, ?_, ?_⟩ <;> simp only [PListCur.adv, PScanCur.next, h.skip, h.col, ← hs]

theorem PSim.step {st : St} {s : Sel} {f : Filter} {pg : Page} {c : PScanCur} {lc : PListCur}
    (h : PSim st s f pg c lc) (x : Step) : PSim st s f pg (c.step st s f pg x) (lc.step pg x) := by
  cases x with
  | next =>
    have := h.adv c.under h.keys
    simpa [PScanCur.step, PListCur.step, h.rows] using this
  | seek v =>
    have := h.adv (c.under.seek v) (by simp [BoltCur.seek, h.keys])
    rw [BoltCur.seek_owned st s f c.under v h.keys, ← h.all] at this
    exact this

theorem PSim.start (st : St) (s : Sel) (f : Filter) (pg : Page) :
    PSim st s f pg (iterateIdsPaged st s f pg) (PListCur.start pg (ownedIds st.ents s false f)) := by
  have h0 : PSim st s f pg ⟨BoltCur.first (idsInOrder st), none, 0, 0⟩
      ⟨ownedIds st.ents s false f, none, ownedIds st.ents s false f, pg.skip, 0⟩ :=
    ⟨rfl, rfl, rfl, rfl, by simp, rfl⟩
  exact h0.adv (BoltCur.first (idsInOrder st)) rfl

theorem PSim.trace {st : St} {s : Sel} {f : Filter} {pg : Page} (script : List Step) {c : PScanCur} {lc : PListCur}
    (h : PSim st s f pg c lc) : c.trace st s f pg script = lc.trace pg script := by
  induction script generalizing c lc with
  | nil => simp [PScanCur.trace, PListCur.trace, h.cur]
  | cons x xs ih =>
    simp only [PScanCur.trace, PListCur.trace, h.cur]
    congr 1
    exact ih (h.step x)

theorem iterateIdsPaged_trace (st : St) (s : Sel) (f : Filter) (pg : Page) (script : List Step) :
    (iterateIdsPaged st s f pg).trace st s f pg script =
      (PListCur.start pg (ownedIds st.ents s false f)).trace pg script :=
  (PSim.start st s f pg).trace script

theorem Page.full_some {pg : Page} {l col : Nat} (hl : pg.limit = some l) : pg.full col = decide (l ≤ col) := by
  simp [Page.full, hl]

/-- the rows of the page a cursor with these budgets still has before it -/
def pageTail (pg : Page) (skipLeft col : Nat) (rows : List Id) : List Id :=
  match pg.limit with
  | some l => (rows.drop skipLeft).take (l - col)
  | none => rows.drop skipLeft

theorem pageTail_nil (pg : Page) (k col : Nat) : pageTail pg k col [] = [] := by
  unfold pageTail; cases pg.limit <;> simp

theorem pageTail_full (pg : Page) (k col : Nat) (rows : List Id) (h : pg.full col = true) :
    pageTail pg k col rows = [] := by
  unfold pageTail
  cases hl : pg.limit with
  | none => simp [Page.full, hl] at h
  | some l =>
    rw [Page.full_some hl] at h
    have : l - col = 0 := by have := of_decide_eq_true h; omega
    simp [this]

theorem pageTail_cons (pg : Page) (col : Nat) (x : Id) (t : List Id) (h : pg.full col = false) :
    pageTail pg 0 col (x :: t) = x :: pageTail pg 0 (col + 1) t := by
  unfold pageTail
  cases hl : pg.limit with
  | none => rfl
  | some n =>
    rw [Page.full_some hl] at h
    have hk : n - col = (n - (col + 1)) + 1 := by have := of_decide_eq_false h; omega
    show List.take (n - col) (x :: t) = x :: List.take (n - (col + 1)) t
    rw [hk]; rfl

theorem pageLoop_eq_pageTail (pg : Page) (off col : Nat) (l : List Id) :
    pageLoop pg off col l = pageTail pg (pg.skip - off) col l := by
  induction l generalizing off col with
  | nil => rw [pageTail_nil]; rfl
  | cons x t ih =>
    unfold pageLoop
    by_cases ho : off < pg.skip
    · have hk : pg.skip - off = (pg.skip - (off + 1)) + 1 := by omega
      rw [if_pos ho, ih, hk]; rfl
    · have hk : pg.skip - off = 0 := by omega
      rw [if_neg ho, hk]
      cases hfull : pg.full col with
      | false => rw [if_pos (by decide : (!false) = true), pageTail_cons pg col x t hfull, ih, hk]
      | true => rw [if_neg (by decide : ¬ (!true) = true), ih, pageTail_full pg _ _ _ hfull, pageTail_full pg _ _ _ hfull]

theorem pageLoop_eq_page (pg : Page) (l : List Id) : pageLoop pg 0 0 l = pg.of l :=
  pageLoop_eq_pageTail pg 0 0 l

theorem queryIdsPaged_spec (st : St) (s : Sel) (f : Filter) (pg : Page) :
    queryIdsPaged st s f pg = (pg.of (ownedIds st.ents s false f), (ownedIds st.ents s false f).length) := by
  unfold queryIdsPaged
  simp only [pageLoop_eq_page, queryIds_eq_owned]

/-- `padvance` in closed form: it rests on the first row of the page still to come, and what is then
    still to come is the rest of that page -/
theorem padvance_pageTail (pg : Page) (k col : Nat) (rows : List Id) :
    (padvance pg k col rows).1 = (pageTail pg k col rows).head? ∧
    pageTail pg (padvance pg k col rows).2.2.1 (padvance pg k col rows).2.2.2 (padvance pg k col rows).2.1 =
      (pageTail pg k col rows).tail := by
  cases rows with
  | nil => simp only [padvance, pageTail_nil]; exact ⟨rfl, rfl⟩
  | cons y t =>
    cases hfull : pg.full col with
    | true => simp only [padvance, hfull, if_true, pageTail_full pg _ _ _ hfull]; exact ⟨rfl, rfl⟩
    | false =>
      simp only [padvance, hfull, Bool.false_eq_true, if_false]
      rw [show pageTail pg k col (y :: t) = pageTail pg 0 col ((y :: t).drop k) from rfl]
      cases hd : List.drop k (y :: t) with
      | nil => simp only [pageTail_nil]; exact ⟨rfl, rfl⟩
      | cons x r => rw [pageTail_cons pg _ x r hfull]; exact ⟨rfl, rfl⟩

/-- a `Next`-only walk from any cursor that has just moved (`adv`): `Next` moves on inside its own rows -/
theorem PListCur.trace_nexts_adv (pg : Page) (n : Nat) (c : PListCur) (rows : List Id) (lc : ListCur)
    (hrest : lc.rest = pageTail pg c.skipLeft c.col rows) :
    PListCur.trace pg (c.adv pg rows) (List.replicate n .next) = lc.trace (List.replicate n .next) := by
  induction n generalizing c rows lc with
  | zero => simp [PListCur.trace, ListCur.trace, ListCur.current, hrest, PListCur.adv, padvance_pageTail]
  | succ n ih =>
    obtain ⟨hcur, htail⟩ := padvance_pageTail pg c.skipLeft c.col rows
    simp only [List.replicate_succ, PListCur.trace, ListCur.trace, ListCur.current, hrest]
    rw [show (c.adv pg rows).cur = _ from hcur]
    congr 1
    exact ih (c.adv pg rows) (c.adv pg rows).rows (lc.step .next) (by simp [ListCur.step, hrest, PListCur.adv, htail])

theorem PListCur.trace_nexts (pg : Page) (l : List Id) (n : Nat) :
    PListCur.trace pg (PListCur.start pg l) (List.replicate n .next) =
      (ListCur.start (pg.of l)).trace (List.replicate n .next) :=
  PListCur.trace_nexts_adv pg n _ l _ rfl

end StorageModel.C15
