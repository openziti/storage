import StorageModel.C15.Spec
/- C15 — what the scanners return: the rows the store owns (`ownedPred`), in key order. -/
namespace StorageModel.C15

/-- does store `s` own the entity — the parent: every entity; a plain child: the entities with its
    child data; an extended child: every parent entity for queries and `IterateIds`, the entities
    with extension data for `IterateValidIds` (`validOnly`) -/
def ownsEnt (s : Sel) (validOnly : Bool) (e : Ent) : Bool :=
  if s.isExtended && !validOnly then true else e.hasChild s

def ownedPred (ents : Ents) (s : Sel) (validOnly : Bool) (f : Filter) (id : Id) : Bool :=
  match mget ents id with
  | some e => ownsEnt s validOnly e && f.eval e
  | none => false

def ownedIds (ents : Ents) (s : Sel) (validOnly : Bool) (f : Filter) : List Id :=
  (canon (mkeys ents)).filter (ownedPred ents s validOnly f)

/-- the child-store rule of the scanners, read positively -/
theorem ownsEnt_false (s : Sel) (e : Ent) :
    ownsEnt s false e = !(s.isChildStore && !e.hasChild s && !s.isExtended) := by
  cases s <;> simp [ownsEnt, Sel.isChildStore, Sel.isExtended, Ent.hasChild]

theorem ownsEnt_true (s : Sel) (e : Ent) : ownsEnt s true e = e.hasChild s := by
  simp [ownsEnt]

/-- the decision every scanner loop (`scanLoop`, `scanNext`, `pscanNext`) takes on one row: the
    child-store rule, the lookup and the filter together say "the store owns the row and it matches" -/
theorem scanRow_eq_ownedPred {α : Type} (st : St) (s : Sel) (f : Filter) (x : Id) (hit skip : α) :
    (if s.isChildStore && !isEntityPresent st s x && !s.isExtended then skip
     else match mget st.ents x with
       | some e => if f.eval e then hit else skip
       | none => skip) = if ownedPred st.ents s false f x then hit else skip := by
  unfold ownedPred isEntityPresent
  cases mget st.ents x with
  | none => simp
  | some e =>
    simp only [ownsEnt_false]
    cases s.isChildStore && !e.hasChild s && !s.isExtended <;> cases f.eval e <;> rfl

theorem scanLoop_cons (st : St) (s : Sel) (f : Filter) (x : Id) (t : List Id) :
    scanLoop st s f (x :: t) =
      if ownedPred st.ents s false f x then x :: scanLoop st s f t else scanLoop st s f t :=
  scanRow_eq_ownedPred st s f x _ _

theorem scanLoop_eq_filter (st : St) (s : Sel) (f : Filter) (l : List Id) :
    scanLoop st s f l = l.filter (ownedPred st.ents s false f) := by
  induction l with
  | nil => rfl
  | cons x t ih => rw [scanLoop_cons, ih, List.filter_cons]

theorem queryIds_eq_owned (st : St) (s : Sel) (f : Filter) : queryIds st s f = ownedIds st.ents s false f :=
  scanLoop_eq_filter st s f _

theorem ownedPred_iff (ents : Ents) (s : Sel) (v : Bool) (f : Filter) (id : Id) :
    ownedPred ents s v f id = true ↔ ∃ e, mget ents id = some e ∧ ownsEnt s v e = true ∧ f.eval e = true := by
  unfold ownedPred
  cases mget ents id <;> simp

theorem mem_ownedIds (ents : Ents) (s : Sel) (validOnly : Bool) (f : Filter) (id : Id) :
    id ∈ ownedIds ents s validOnly f ↔
      ∃ e, mget ents id = some e ∧ ownsEnt s validOnly e = true ∧ f.eval e = true := by
  unfold ownedIds
  rw [List.mem_filter, mem_canon, mem_mkeys, ownedPred_iff]
  exact ⟨fun h => h.2, fun ⟨e, he, h⟩ => ⟨⟨e, he⟩, e, he, h⟩⟩

theorem ownedIds_pairwise (ents : Ents) (s : Sel) (v : Bool) (f : Filter) :
    (ownedIds ents s v f).Pairwise (· < ·) := (canon_pairwise _).filter _

theorem mem_queryIds (st : St) (s : Sel) (f : Filter) (id : Id) :
    id ∈ queryIds st s f ↔ ∃ e, mget st.ents id = some e ∧ ownsEnt s false e = true ∧ f.eval e = true := by
  rw [queryIds_eq_owned, mem_ownedIds]

/-- an extended store's `IterateValidIds` keeps the rows it has data of; any other store owns no others -/
theorem ownedPred_valid (st : St) (s : Sel) (f : Filter) (id : Id) :
    ownedPred st.ents s true f id = (ownedPred st.ents s false f id && isEntityPresent st s id) := by
  unfold ownedPred ownsEnt isEntityPresent
  cases mget st.ents id with
  | none => rfl
  | some e => cases s <;> simp [Sel.isExtended, Ent.hasChild] <;> cases f.eval e <;> simp

theorem ownedIds_valid (st : St) (s : Sel) (f : Filter) :
    (ownedIds st.ents s false f).filter (fun id => isEntityPresent st s id) = ownedIds st.ents s true f := by
  unfold ownedIds
  rw [List.filter_filter]
  exact List.filter_congr fun id _ => by rw [ownedPred_valid, Bool.and_comm]

theorem ownedIds_validOnly_irrelevant (ents : Ents) (s : Sel) (f : Filter) (hs : s.isExtended = false) :
    ownedIds ents s true f = ownedIds ents s false f := by
  unfold ownedIds ownedPred ownsEnt
  simp [hs]

theorem iterateValidIds_eq_owned (st : St) (s : Sel) (f : Filter) :
    iterateValidIds st s f = ownedIds st.ents s true f := by
  unfold iterateValidIds
  rw [queryIds_eq_owned]
  split
  · exact ownedIds_valid st s f
  · next hs => exact (ownedIds_validOnly_irrelevant _ s f (by simpa using hs)).symm

theorem mem_iterateValidIds (st : St) (s : Sel) (f : Filter) (id : Id) :
    id ∈ iterateValidIds st s f ↔ ∃ e, mget st.ents id = some e ∧ ownsEnt s true e = true ∧ f.eval e = true := by
  rw [iterateValidIds_eq_owned, mem_ownedIds]

theorem mem_insRow (st : St) (x a : Id) (l : List Id) : a ∈ insRow st x l ↔ a = x ∨ a ∈ l := by
  induction l with
  | nil => simp [insRow]
  | cons y t ih =>
    unfold insRow
    split
    · simp
    · simp only [List.mem_cons, ih]
      constructor
      · rintro (h | h | h) <;> simp [h]
      · rintro (h | h | h) <;> simp [h]

theorem mem_foldl_insRow (st : St) (l acc : List Id) (a : Id) :
    a ∈ l.foldl (fun acc id => insRow st id acc) acc ↔ a ∈ l ∨ a ∈ acc := by
  induction l generalizing acc with
  | nil => simp
  | cons x t ih =>
    simp only [List.foldl_cons, ih, mem_insRow, List.mem_cons]
    constructor
    · rintro (h | h | h) <;> simp [h]
    · rintro ((h | h) | h) <;> simp [h]

theorem mem_querySorted (st : St) (s : Sel) (f : Filter) (id : Id) :
    id ∈ querySorted st s f ↔ id ∈ queryIds st s f := by
  simp [querySorted, mem_foldl_insRow]

end StorageModel.C15
