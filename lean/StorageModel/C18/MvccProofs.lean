/-
  C18 — invariant of the MVCC model: the committed state is the serial execution of the committed transactions, every
  pin and observation is tagged with the version it was made on, and a read transaction is seen at one version only.
-/
import StorageModel.C18.Mvcc
namespace StorageModel.C18

section
variable {V Op Q A : Type} (apply : V → Op → V) (eval : Q → V → A)

theorem versionAt_append_le (v0 : V) (txs : List (List Op)) (t : List Op) (k : Nat) (h : k ≤ txs.length) :
    versionAt apply v0 (txs ++ [t]) k = versionAt apply v0 txs k := by
  simp [versionAt, List.take_append_of_le_length h]

theorem versionAt_append_full (v0 : V) (txs : List (List Op)) (t : List Op) :
    versionAt apply v0 (txs ++ [t]) (txs.length + 1) = applyTx apply (versionAt apply v0 txs txs.length) t := by
  have h1 : (txs ++ [t]).take (txs.length + 1) = txs ++ [t] := by
    apply List.take_of_length_le; simp
  simp [versionAt, h1, List.foldl_append]

theorem applyTx_snoc (v : V) (ops : List Op) (o : Op) :
    applyTx apply v (ops ++ [o]) = apply (applyTx apply v ops) o := by
  simp [applyTx, List.foldl_append]

theorem findPin_some {r : Nat} {pins : List (Pin V)} {p : Pin V} (h : findPin r pins = some p) :
    p ∈ pins ∧ p.reader = r := by
  induction pins with
  | nil => simp [findPin] at h
  | cons a t ih =>
    simp only [findPin] at h
    split at h
    · next hr => cases h; exact ⟨by simp, hr⟩
    · obtain ⟨h1, h2⟩ := ih h; exact ⟨by simp [h1], h2⟩

/-- read transaction `r` is seen at version `t`: an open pin or a logged observation carries the pair -/
def Sees (pins : List (Pin V)) (log : List (Obs Q A)) (r t : Nat) : Prop :=
  (∃ p ∈ pins, p.rtx = r ∧ p.tag = t) ∨ (∃ o ∈ log, o.rtx = r ∧ o.tag = t)

namespace Sees
variable {pins : List (Pin V)} {log : List (Obs Q A)} {p : Pin V} {o : Obs Q A} {r t : Nat}

theorem pin (h : p ∈ pins) : Sees pins log p.rtx p.tag := Or.inl ⟨p, h, rfl, rfl⟩

theorem obs (h : o ∈ log) : Sees pins log o.rtx o.tag := Or.inr ⟨o, h, rfl, rfl⟩

theorem cons_pin (h : Sees (p :: pins) log r t) : (p.rtx = r ∧ p.tag = t) ∨ Sees pins log r t := by
  rcases h with ⟨p', hp, h⟩ | h
  · rcases List.mem_cons.mp hp with rfl | hp
    · exact Or.inl h
    · exact Or.inr (Or.inl ⟨p', hp, h⟩)
  · exact Or.inr (Or.inr h)

theorem filter {f : Pin V → Bool} (h : Sees (pins.filter f) log r t) : Sees pins log r t :=
  h.imp (fun ⟨p, hp, h⟩ => ⟨p, (List.mem_filter.mp hp).1, h⟩) id

theorem of_cons_obs (hp : p ∈ pins) (hr : o.rtx = p.rtx) (ht : o.tag = p.tag) (h : Sees pins (o :: log) r t) :
    Sees pins log r t := by
  rcases h with h | ⟨o', ho, h1, h2⟩
  · exact Or.inl h
  · rcases List.mem_cons.mp ho with rfl | ho
    · exact Or.inl ⟨p, hp, hr ▸ h1, ht ▸ h2⟩
    · exact Or.inr ⟨o', ho, h1, h2⟩

end Sees

structure Inv (s : St V Op Q A) : Prop where
  cur : s.cur = versionAt apply s.v0 s.txs s.txs.length
  wc : ∀ w ops, s.wcopy = some (w, ops) → w = applyTx apply s.cur ops
  pins : ∀ p ∈ s.pins, p.v = versionAt apply s.v0 s.txs p.tag
  log : ∀ o ∈ s.log, o.a = eval o.q (versionAt apply s.v0 s.txs o.tag)
  bound : ∀ r t, Sees s.pins s.log r t → t ≤ s.txs.length ∧ r < s.nextRtx
  one : ∀ r t t', Sees s.pins s.log r t → Sees s.pins s.log r t' → t = t'

theorem Inv_init (v0 : V) : Inv apply eval (St.init v0 : St V Op Q A) :=
  have unseen : ∀ r t, ¬ Sees ([] : List (Pin V)) ([] : List (Obs Q A)) r t := fun _ _ h =>
    h.elim (fun ⟨_, hp, _⟩ => absurd hp List.not_mem_nil) (fun ⟨_, ho, _⟩ => absurd ho List.not_mem_nil)
  ⟨rfl, fun _ _ h => (nomatch h), fun _ hp => absurd hp List.not_mem_nil, fun _ ho => absurd ho List.not_mem_nil,
   fun r t h => (unseen r t h).elim, fun r t _ h => (unseen r t h).elim⟩

theorem step_v0 (s : St V Op Q A) (e : Ev Op Q) : (step apply eval s e).v0 = s.v0 := by
  cases e with
  | wbegin | wop | wcommit => unfold step; rcases s.wcopy with _ | ⟨_, _⟩ <;> rfl
  | rread r q => simp only [step]; split <;> rfl
  | wabort | rbegin | rend => rfl

theorem Inv_step (s : St V Op Q A) (e : Ev Op Q) (hi : Inv apply eval s) : Inv apply eval (step apply eval s e) := by
  have ⟨hcur, hwc, hpins, hlog, hb, hone⟩ := hi
  cases e with
  | wbegin =>
    simp only [step]
    split
    · exact ⟨hcur, fun _ _ h => by cases h; rfl, hpins, hlog, hb, hone⟩
    · exact hi
  | wop o =>
    simp only [step]
    split
    · next w ops hw =>
      exact ⟨hcur, fun _ _ h => by cases h; rw [applyTx_snoc, ← hwc w ops hw], hpins, hlog, hb, hone⟩
    · exact hi
  | wcommit =>
    simp only [step]
    split
    · next w ops hw =>
      -- the versions up to a tag that was within the committed transactions are not touched by one more
      refine ⟨?_, fun _ _ h => (nomatch h), ?_, ?_, ?_, hone⟩
      · rw [List.length_append, List.length_singleton, versionAt_append_full, ← hcur, hwc w ops hw]
      · intro p hp
        rw [versionAt_append_le apply _ _ _ _ (hb _ _ (Sees.pin hp)).1]; exact hpins p hp
      · intro o ho
        rw [versionAt_append_le apply _ _ _ _ (hb _ _ (Sees.obs ho)).1]; exact hlog o ho
      · intro r t h
        rw [List.length_append]
        exact ⟨Nat.le_add_right_of_le (hb r t h).1, (hb r t h).2⟩
    · exact hi
  | wabort =>
    simp only [step]
    exact ⟨hcur, fun _ _ h => (nomatch h), hpins, hlog, hb, hone⟩
  | rbegin r =>
    -- the new pin carries a serial number no pair seen so far has
    simp only [step]
    refine ⟨hcur, hwc, ?_, hlog, ?_, ?_⟩
    · intro p hp
      rcases List.mem_cons.mp hp with rfl | hp
      · exact hcur
      · exact hpins p (List.mem_filter.mp hp).1
    · intro r' t h
      rcases h.cons_pin with ⟨rfl, rfl⟩ | h
      · exact ⟨Nat.le_refl _, Nat.lt_succ_self _⟩
      · exact ⟨(hb _ _ h.filter).1, Nat.lt_succ_of_lt (hb _ _ h.filter).2⟩
    · intro r' t t' h h'
      rcases h.cons_pin with ⟨rfl, rfl⟩ | h <;> rcases h'.cons_pin with ⟨hr, rfl⟩ | h'
      · rfl
      · exact absurd (hb _ _ h'.filter).2 (Nat.lt_irrefl _)
      · subst hr; exact absurd (hb _ _ h.filter).2 (Nat.lt_irrefl _)
      · exact hone _ _ _ h.filter h'.filter
  | rread r q =>
    simp only [step]
    split
    · next p hf =>
      obtain ⟨hpm, _⟩ := findPin_some hf
      refine ⟨hcur, hwc, hpins, ?_, fun r' t h => hb _ _ (h.of_cons_obs hpm rfl rfl),
        fun r' t t' h h' => hone _ _ _ (h.of_cons_obs hpm rfl rfl) (h'.of_cons_obs hpm rfl rfl)⟩
      intro o ho
      rcases List.mem_cons.mp ho with rfl | ho
      · exact congrArg (eval q) (hpins p hpm)
      · exact hlog o ho
    · exact hi
  | rend r =>
    simp only [step]
    exact ⟨hcur, hwc, fun p hp => hpins p (List.mem_filter.mp hp).1, hlog, fun r' t h => hb _ _ h.filter,
      fun r' t t' h h' => hone _ _ _ h.filter h'.filter⟩

theorem Inv_run (s : St V Op Q A) (es : List (Ev Op Q)) (hi : Inv apply eval s) : Inv apply eval (run apply eval s es) := by
  induction es generalizing s with
  | nil => exact hi
  | cons e es ih => exact ih _ (Inv_step apply eval s e hi)

theorem run_v0 (s : St V Op Q A) (es : List (Ev Op Q)) : (run apply eval s es).v0 = s.v0 := by
  induction es generalizing s with
  | nil => rfl
  | cons e es ih => simp only [run]; rw [ih, step_v0]

end
end StorageModel.C18
