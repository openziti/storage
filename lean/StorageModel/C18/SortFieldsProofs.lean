import StorageModel.C18.SortFields
/- C18 — the slice model of SortFields.lean: a call that builds its slice by appends from nil owns the array it ends in
   (`Own`), so what earlier holders see is never written. -/
namespace StorageModel.C18.SortFields

theorem take_set_succ (a : List Nat) (n x : Nat) (h : n < a.length) : (a.set n x).take (n + 1) = a.take n ++ [x] := by
  induction a generalizing n with
  | nil => simp at h
  | cons y r ih =>
    cases n with
    | zero => simp
    | succ m => simp at h; simp [ih m h]

/-- the slice `s` is one this call built itself: nothing yet, or it lives in an array allocated after `h0` -/
def Own (h0 h : Heap) (s : Slice) (fs : List Nat) : Prop :=
  (∃ extra, h = h0 ++ extra) ∧ view h s = fs ∧ fs.length = s.len ∧
    ((s.cap = 0 ∧ s.len = 0) ∨ (h0.length ≤ s.arr ∧ Valid h s))

theorem goAppend_own (h0 h : Heap) (s : Slice) (fs : List Nat) (x : Nat) (o : Own h0 h s fs) :
    Own h0 (goAppend h s x).1 (goAppend h s x).2 (fs ++ [x]) ∧
      h0.length ≤ (goAppend h s x).2.arr ∧ Valid (goAppend h s x).1 (goAppend h s x).2 := by
  obtain ⟨⟨extra, he⟩, hv, hl, hc⟩ := o
  -- in both cases the result is a valid slice in an array allocated after `h0`; `Own` follows from that
  suffices hw : (∃ extra, (goAppend h s x).1 = h0 ++ extra) ∧ view (goAppend h s x).1 (goAppend h s x).2 = fs ++ [x] ∧
      (goAppend h s x).2.len = s.len + 1 ∧ h0.length ≤ (goAppend h s x).2.arr ∧ Valid (goAppend h s x).1 (goAppend h s x).2 by
    obtain ⟨h1, h2, h3, h4, h5⟩ := hw
    exact ⟨⟨h1, h2, by rw [h3, List.length_append, hl]; rfl, .inr ⟨h4, h5⟩⟩, h4, h5⟩
  unfold goAppend
  by_cases hlt : s.len < s.cap
  · -- spare capacity: written in place, into an array this call allocated itself
    rw [if_pos hlt]
    rcases hc with ⟨h1, _⟩ | ⟨ha, hva, hvl, hvc⟩
    · omega
    · have hget : (h.set s.arr ((h.getD s.arr []).set s.len x)).getD s.arr [] = (h.getD s.arr []).set s.len x := by
        simp [List.getD_eq_getElem?_getD, hva]
      refine ⟨⟨extra.set (s.arr - h0.length) ((h.getD s.arr []).set s.len x), ?_⟩, ?_, rfl, ha, ?_, Nat.succ_le_of_lt hlt, ?_⟩
      · rw [he, List.set_append_right _ _ ha]
      · show ((h.set s.arr ((h.getD s.arr []).set s.len x)).getD s.arr []).take (s.len + 1) = fs ++ [x]
        rw [hget, take_set_succ _ _ _ (hvc ▸ hlt), ← hv]; rfl
      · show s.arr < (h.set _ _).length
        rw [List.length_set]; exact hva
      · show ((h.set s.arr ((h.getD s.arr []).set s.len x)).getD s.arr []).length = s.cap
        rw [hget, List.length_set]; exact hvc
  · -- full (or nil): a new array at the end of the heap receives the copy
    rw [if_neg hlt]
    have hvl : (view h s).length = s.len := by rw [hv, hl]
    have hgetn : ∀ (v : List Nat), (h ++ [v]).getD h.length [] = v := by
      intro v; simp [List.getD_eq_getElem?_getD]
    have hle : h0.length ≤ h.length := by rw [he, List.length_append]; exact Nat.le_add_right _ _
    have hn : s.len + 1 ≤ (if s.cap = 0 then 1 else 2 * s.cap) := by
      have hcap : s.len = s.cap := by
        rcases hc with ⟨h1, h2⟩ | ⟨_, _, h2, _⟩
        · rw [h1, h2]
        · exact Nat.le_antisymm h2 (Nat.le_of_not_lt hlt)
      rw [hcap]
      split
      · next h0 => rw [h0]; exact Nat.le_refl 1
      · next hne => rw [Nat.two_mul]; exact Nat.add_le_add_left (Nat.pos_of_ne_zero hne) _
    -- from here on only `hn` is known of the new capacity
    generalize (if s.cap = 0 then 1 else 2 * s.cap) = ncap at hn ⊢
    refine ⟨⟨extra ++ [_], by subst he; exact List.append_assoc _ _ _⟩, ?_, rfl, hle, ?_, hn, ?_⟩
    · show ((h ++ [_]).getD h.length []).take (s.len + 1) = fs ++ [x]
      rw [hgetn, ← hv, ← hvl]; simp [List.take_append]
      exact List.take_of_length_le (by omega)
    · show h.length < (h ++ [_]).length
      rw [List.length_append]; exact Nat.lt_succ_self _
    · show ((h ++ [_]).getD h.length []).length = ncap
      rw [hgetn, List.length_append, List.length_cons, List.length_replicate, hvl]
      clear hc hv hl hvl
      omega

theorem foldl_own (h0 : Heap) (fields : List Nat) : ∀ (st : Heap × Slice) (fs : List Nat), Own h0 st.1 st.2 fs →
    Own h0 (fields.foldl (fun st f => goAppend st.1 st.2 f) st).1 (fields.foldl (fun st f => goAppend st.1 st.2 f) st).2
      (fs ++ fields) := by
  induction fields with
  | nil => intro st fs o; simpa using o
  | cons f r ih =>
    intro st fs o
    have := ih (goAppend st.1 st.2 f) (fs ++ [f]) (goAppend_own h0 st.1 st.2 fs f o).1
    simpa using this

theorem getFresh_own (h0 : Heap) (fields : List Nat) :
    Own h0 (getFresh h0 fields).1 (getFresh h0 fields).2 fields := by
  have := foldl_own h0 fields (h0, nilSlice) [] ⟨⟨[], by simp⟩, by simp [view, nilSlice], by simp [nilSlice], Or.inl ⟨rfl, rfl⟩⟩
  simpa [getFresh] using this

theorem scan_spec (h0 : Heap) (fields : List Nat) (x : Nat) :
    (∃ extra, (scan h0 fields x).1 = h0 ++ extra) ∧ h0.length ≤ (scan h0 fields x).2.arr ∧
      (scan h0 fields x).2.arr < (scan h0 fields x).1.length ∧
      view (scan h0 fields x).1 (scan h0 fields x).2 = fields ++ [x] := by
  have := goAppend_own h0 _ _ fields x (getFresh_own h0 fields)
  exact ⟨this.1.1, this.2.1, this.2.2.1, this.1.2.1⟩

theorem view_frame (h0 extra : Heap) (t : Slice) (ht : t.arr < h0.length) : view (h0 ++ extra) t = view h0 t := by
  simp [view, List.getD_eq_getElem?_getD, List.getElem?_append_left ht]

theorem scans_fold (fields : List Nat) : ∀ (xs : List Nat) (h : Heap) (held : List Slice), (∀ t ∈ held, t.arr < h.length) →
    ((xs.foldl (fun (st : Heap × List Slice) x => let c := scan st.1 fields x; (c.1, st.2 ++ [c.2])) (h, held)).2.map
      (view (xs.foldl (fun (st : Heap × List Slice) x => let c := scan st.1 fields x; (c.1, st.2 ++ [c.2])) (h, held)).1)) =
      held.map (view h) ++ xs.map (fun x => fields ++ [x]) := by
  intro xs
  induction xs with
  | nil => intro h held _; simp
  | cons x r ih =>
    intro h held hh
    obtain ⟨⟨extra, he⟩, _, hlt, hv⟩ := scan_spec h fields x
    have hlen : h.length ≤ (scan h fields x).1.length := by rw [he]; simp
    have := ih (scan h fields x).1 (held ++ [(scan h fields x).2]) (by
      intro t ht
      rcases List.mem_append.1 ht with h1 | h1
      · exact Nat.lt_of_lt_of_le (hh t h1) hlen
      · simp at h1; rw [h1]; exact hlt)
    simp only [List.foldl_cons]
    rw [this, List.map_append, List.map_cons, List.map_nil, hv, List.map_cons, List.append_assoc]
    congr 1
    apply List.map_congr_left
    intro t ht
    rw [he]; exact view_frame h extra t (hh t ht)

theorem scans_see_their_own (fields xs : List Nat) : scansSee fields xs = xs.map (fun x => fields ++ [x]) := by
  have := scans_fold fields xs [] [] (by simp)
  simpa [scansSee] using this

theorem two_callers_keep_their_own (k : Nat) : twoCallers k = [k + 1, 1, k + 1, 1] := by
  simp [twoCallers, scans_see_their_own]

end StorageModel.C18.SortFields
