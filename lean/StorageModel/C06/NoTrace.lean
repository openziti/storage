import StorageModel.C06.Inv
/-
  C06: in a consistent state, an id that is not an entity of either store does not occur anywhere
  in the bucket dump; in particular not after a committed delete.
-/
namespace StorageModel.C06
open StorageModel
open StorageModel.C03 (Map Id UI Line typed nilField bU bIndexes bThings bRoles)

/-- `x` could be mistaken for the id: equal to it, to its typed form, or its typed form equals the id -/
def Clash (id x : Bytes) : Prop := x = id ∨ x = typed id ∨ typed x = id

/-- the id is not confusable with any bucket name, stored value or other entity id of the state
    (`boltz.ValidateDeleted` compares raw bytes, so this is the side condition under which "no
    trace" is meaningful) -/
structure NoClash (nm : Names) (id : Id) (s : State) : Prop where
  ne : id ≠ []
  reserved : ∀ x, x ∈ reserved nm → ¬ Clash id x
  nil : ¬ Clash id nilField
  aIds : ∀ j e, s.a.lookup j = some e → j ≠ id → ¬ Clash id j
  bIds : ∀ j e, s.b.lookup j = some e → j ≠ id → ¬ Clash id j
  name : ∀ j e, s.a.lookup j = some e → ¬ Clash id e.name
  alias : ∀ j e a, s.a.lookup j = some e → e.alias = some a → ¬ Clash id a
  roles : ∀ j e r, s.a.lookup j = some e → r ∈ e.roles → ¬ Clash id r
  /-- the stored form of an empty string (a lone type byte) is not the id -/
  empty : ¬ Clash id []
  /-- the id is not an encoded link count (5 bytes starting with the int32 type byte) -/
  counts : ∀ n, ¬ Clash id (encCount n)
  code : ∀ j e c, s.a.lookup j = some e → e.code = some c → ¬ Clash id c
  colour : ∀ j e c, s.a.lookup j = some e → e.colour = some c → ¬ Clash id c
  label : ∀ j e l, s.b.lookup j = some e → e.label = some l → ¬ Clash id l
  /-- the stored form of a typed field (its `FieldType` byte, then the raw bytes) is not the id -/
  aliasT : ∀ j e a, s.a.lookup j = some e → e.alias = some a → tagged nm.aliasTy a ≠ id
  codeT : ∀ j e c, s.a.lookup j = some e → e.code = some c → tagged nm.codeTy c ≠ id
  colourT : ∀ j e c, s.a.lookup j = some e → e.colour = some c → tagged nm.colourTy c ≠ id
  labelT : ∀ j e l, s.b.lookup j = some e → e.label = some l → tagged nm.labelTy l ≠ id

/-- `x` is neither of the two byte strings `Mentions id` looks for in a path, key or value -/
def Safe (id x : Bytes) : Prop := x ≠ id ∧ x ≠ typed id

theorem safe_of_not_clash {id x : Bytes} (h : ¬ Clash id x) : Safe id x :=
  ⟨fun e => h (Or.inl e), fun e => h (Or.inr (Or.inl e))⟩

theorem safe_typed {id x : Bytes} (h : ¬ Clash id x) : Safe id (typed x) :=
  ⟨fun e => h (Or.inr (Or.inr e)), fun e => h (Or.inl (by simpa [typed] using e))⟩

theorem safe_tagged {id x : Bytes} {t : UInt8} (h : ¬ Clash id x) (ht : tagged t x ≠ id) : Safe id (tagged t x) :=
  ⟨ht, fun e => h (Or.inl (by simp only [tagged, typed, List.cons.injEq] at e; exact e.2))⟩

theorem safe_optFieldT {id : Bytes} {t : UInt8} {o : Option Bytes} (hn : ¬ Clash id nilField)
    (h : ∀ v, o = some v → ¬ Clash id v) (ht : ∀ v, o = some v → tagged t v ≠ id) : Safe id (optFieldT t o) := by
  cases o with
  | none => exact safe_of_not_clash hn
  | some v => exact safe_tagged (h v rfl) (ht v rfl)

theorem safe_nil {id : Bytes} (h : id ≠ []) : Safe id [] := ⟨fun e => h e.symm, by simp [typed]⟩

theorem safe_optField {id : Bytes} {o : Option Bytes} (hn : ¬ Clash id nilField) (h : ∀ v, o = some v → ¬ Clash id v) :
    Safe id (optField o) := by
  cases o with
  | none => exact safe_of_not_clash hn
  | some v => exact safe_typed (h v rfl)

theorem not_mentions_bucket {id : Bytes} {path : List Bytes} (h : ∀ x, x ∈ path → Safe id x) :
    ¬ Mentions id (.bucket path) := by
  rintro (h1 | h1)
  · exact (h _ h1).1 rfl
  · exact (h _ h1).2 rfl

theorem not_mentions_kv {id : Bytes} {path : List Bytes} {k v : Bytes} (h : ∀ x, x ∈ path → Safe id x)
    (hk : Safe id k) (hv : Safe id v) : ¬ Mentions id (.kv path k v) := by
  rintro (h1 | h1 | h1 | h1 | h1 | h1)
  · exact (h _ h1).1 rfl
  · exact (h _ h1).2 rfl
  · exact hk.1 h1
  · exact hk.2 h1
  · exact hv.1 h1
  · exact hv.2 h1

theorem not_mentions_listBucket {id : Bytes} {path keys : List Bytes} (hne : id ≠ []) (h : ∀ x, x ∈ path → Safe id x)
    (hk : ∀ k, k ∈ keys → ¬ Clash id k) : ∀ l, l ∈ listBucket path keys → ¬ Mentions id l := by
  intro l hl
  simp only [listBucket, List.mem_cons, List.mem_map] at hl
  rcases hl with rfl | ⟨k, hk', rfl⟩
  · exact not_mentions_bucket h
  · exact not_mentions_kv h (safe_typed (hk k hk')) (safe_nil hne)

theorem not_mentions_countBucket {id : Bytes} {path : List Bytes} {c : Counts} (h : ∀ x, x ∈ path → Safe id x)
    (hk : ∀ k n, c.lookup k = some n → ¬ Clash id k) (hv : ∀ n, ¬ Clash id (encCount n)) :
    ∀ l, l ∈ countBucket path c → ¬ Mentions id l := by
  intro l hl
  simp only [countBucket, List.mem_cons, List.mem_map, Prod.exists, Map.mem_entries_iff] at hl
  rcases hl with rfl | ⟨k, n, hkn, rfl⟩
  · exact not_mentions_bucket h
  · exact not_mentions_kv h (safe_typed (hk k n hkn)) (safe_of_not_clash (hv n))

theorem mem_optBucket {α : Type} {f : α → List Line} {o : Option α} {l : Line} :
    l ∈ optBucket f o ↔ ∃ x, o = some x ∧ l ∈ f x := by
  cases o <;> simp [optBucket]

theorem safe_path_nil {id : Bytes} : ∀ x, x ∈ ([] : List Bytes) → Safe id x := nofun

theorem safe_path_cons {id a : Bytes} {p : List Bytes} (ha : Safe id a) (hp : ∀ x, x ∈ p → Safe id x) :
    ∀ x, x ∈ a :: p → Safe id x := by
  intro x hx
  cases hx with
  | head => exact ha
  | tail _ h => exact hp x h

theorem safe_path_snoc {id a : Bytes} {p : List Bytes} (hp : ∀ x, x ∈ p → Safe id x) (ha : Safe id a) :
    ∀ x, x ∈ p ++ [a] → Safe id x := by
  intro x hx
  rcases List.mem_append.1 hx with h | h
  · exact hp x h
  · cases List.mem_singleton.1 h; exact ha

theorem UI_some {E : Type} {g : E → Option Bytes} {ents : Map Id E} {idx : Map Bytes Id} {k : Bytes} {i : Id}
    (h : UI (fun e => (g e).getD []) ents idx) (hk : idx.lookup k = some i) : ∃ e, ents.lookup i = some e ∧ g e = some k := by
  obtain ⟨hne, e, he, hv⟩ := (h k i).1 hk
  refine ⟨e, he, ?_⟩
  simp only at hv
  cases hg : g e with
  | none => rw [hg] at hv; exact absurd hv.symm hne
  | some a => rw [hg] at hv; exact congrArg some hv

/-- an entry of a unique index over the field `g`: its key is a stored value, its id an entity -/
theorem not_mentions_unique {id : Id} {E : Type} {g : E → Option Bytes} {ents : Map Id E} {idx : Map Bytes Id} {path : List Bytes}
    (hui : UI (fun e => (g e).getD []) ents idx) (hp : ∀ x, x ∈ path → Safe id x)
    (hv : ∀ i e a, ents.lookup i = some e → g e = some a → ¬ Clash id a) (hid : ∀ i e, ents.lookup i = some e → ¬ Clash id i)
    {v : Bytes} {i : Id} (h : idx.lookup v = some i) : ∀ l, l ∈ renderUnique path (v, i) → ¬ Mentions id l := by
  intro l hl
  simp only [renderUnique, List.mem_singleton] at hl; subst hl
  obtain ⟨e, he, hg⟩ := UI_some hui h
  exact not_mentions_kv hp (safe_of_not_clash (hv i e v he hg)) (safe_of_not_clash (hid i e he))

theorem mem_Render {nm : Names} {s : State} {l : Line} :
    l ∈ Render nm s ↔
      ((((((((((l ∈ fixedLines nm ∨ l ∈ (if s.hasA then [Line.bucket [bU, bThings]] else [])) ∨
        l ∈ (if s.hasB then [Line.bucket [bU, bOwners]] else [])) ∨
        ∃ j e, s.a.lookup j = some e ∧ l ∈ renderA nm s (j, e)) ∨
        ∃ j e, s.b.lookup j = some e ∧ l ∈ renderB nm s (j, e)) ∨
        ∃ v i, s.uName.lookup v = some i ∧ l ∈ renderUnique (idxPathA nm.nameSym) (v, i)) ∨
        ∃ v i, s.uAlias.lookup v = some i ∧ l ∈ renderUnique (idxPathA nm.aliasSym) (v, i)) ∨
        ∃ v i, s.uCode.lookup v = some i ∧ l ∈ renderUnique (idxPathA bCode) (v, i)) ∨
        ∃ v i, s.uColour.lookup v = some i ∧ l ∈ renderUnique (idxPathA bColour) (v, i)) ∨
        ∃ v i, s.uLabel.lookup v = some i ∧ l ∈ renderUnique (idxPathB bLabel) (v, i)) ∨
        ∃ v ids, s.sRoles.lookup v = some ids ∧ l ∈ renderSetKey (idxPathA bRoles) (v, ids)) := by
  simp only [Render, List.mem_append, List.mem_flatMap, Prod.exists, Map.mem_entries_iff]

/-- **No trace of an absent id.**  In a consistent state every line of the bucket dump is made of
    bucket names, values and ids of *existing* entities only. -/
theorem no_trace_of_absent {nm : Names} {s : State} {id : Id} (hi : Inv s) (hc : NoClash nm id s)
    (hna : s.a.lookup id = none) (hnb : s.b.lookup id = none) :
    ∀ l, l ∈ Render nm s → ¬ Mentions id l := by
  have aId : ∀ j e, s.a.lookup j = some e → ¬ Clash id j := fun j e hj =>
    hc.aIds j e hj (by rintro rfl; rw [hna] at hj; cases hj)
  have bId : ∀ j e, s.b.lookup j = some e → ¬ Clash id j := fun j e hj =>
    hc.bIds j e hj (by rintro rfl; rw [hnb] at hj; cases hj)
  -- every bucket and field name of the schema, in the order of `reserved`
  have hs : ∀ x, x ∈ reserved nm → Safe id x := fun x hx => safe_of_not_clash (hc.reserved x hx)
  simp only [reserved, List.forall_mem_cons] at hs
  obtain ⟨sU, sI, sT, sO, sN, sNk, sA, sAk, sR, sOw, sD, sBo, sCh, sG, sE, sC, sE2, sCo, sL, sM, sP, sPO, sRB, sRA, sPe, sMo,
    sMe, -⟩ := hs
  have aEx' : ∀ j, s.aEx j = true → ¬ Clash id j := by
    intro j hj; cases hl : s.a.lookup j with
    | none => simp [State.aEx, hl] at hj
    | some e => exact aId j e hl
  have bEx' : ∀ j, s.bEx j = true → ¬ Clash id j := by
    intro j hj; cases hl : s.b.lookup j with
    | none => simp [State.bEx, hl] at hj
    | some e => exact bId j e hl
  have cEx' : ∀ j, s.cEx j = true → ¬ Clash id j := by
    intro j hj; cases hl : s.a.lookup j with
    | none => simp [State.cEx, hl] at hj
    | some e => exact aId j e hl
  -- a stored reference (owner, dep, boss, chief) is empty or names an existing entity: never the absent id
  have ref : ∀ {ex : Id → Bool}, (∀ j, ex j = true → ¬ Clash id j) → ∀ (o : Option Bytes),
      (o.getD [] ≠ [] → ex (o.getD []) = true) → Safe id (optField o) := by
    intro ex hex o h
    refine safe_optField hc.nil fun v hv => ?_
    subst hv
    by_cases hz : v = []
    · subst hz; exact hc.empty
    · exact hex v (h hz)
  have pIdx : ∀ x, x ∈ [bU, bIndexes] → Safe id x := safe_path_cons sU (safe_path_cons sI safe_path_nil)
  have pIdxA : ∀ f, Safe id f → ∀ x, x ∈ idxPathA f → Safe id x := fun f hf =>
    safe_path_cons sU (safe_path_cons sI (safe_path_cons sT (safe_path_cons hf safe_path_nil)))
  have pIdxB : ∀ f, Safe id f → ∀ x, x ∈ idxPathB f → Safe id x := fun f hf =>
    safe_path_cons sU (safe_path_cons sI (safe_path_cons sO (safe_path_cons hf safe_path_nil)))
  intro l hl
  rw [mem_Render] at hl
  rcases hl with (((((((((hl | hl) | hl) | ⟨j, e, hj, hl⟩) | ⟨j, e, hj, hl⟩) | ⟨v, i, hv, hl⟩) | ⟨v, i, hv, hl⟩) |
    ⟨v, i, hv, hl⟩) | ⟨v, i, hv, hl⟩) | ⟨v, i, hv, hl⟩) | ⟨v, ids, hv, hl⟩
  · simp only [fixedLines, List.mem_cons, List.mem_nil_iff, or_false] at hl
    rcases hl with rfl | rfl | rfl | rfl | rfl | rfl | rfl | rfl | rfl | rfl
    · exact not_mentions_bucket (safe_path_cons sU safe_path_nil)
    · exact not_mentions_bucket pIdx
    · exact not_mentions_bucket (safe_path_snoc pIdx sT)
    · exact not_mentions_bucket (safe_path_snoc pIdx sO)
    · exact not_mentions_bucket (pIdxA _ sN)
    · exact not_mentions_bucket (pIdxA _ sA)
    · exact not_mentions_bucket (pIdxA _ sR)
    · exact not_mentions_bucket (pIdxA _ sC)
    · exact not_mentions_bucket (pIdxA _ sCo)
    · exact not_mentions_bucket (pIdxB _ sL)
  · split at hl
    · cases List.mem_singleton.1 hl
      exact not_mentions_bucket (safe_path_cons sU (safe_path_cons sT safe_path_nil))
    · cases hl
  · split at hl
    · cases List.mem_singleton.1 hl
      exact not_mentions_bucket (safe_path_cons sU (safe_path_cons sO safe_path_nil))
    · cases hl
  · have hp : ∀ x, x ∈ pathA j → Safe id x :=
      safe_path_cons sU (safe_path_cons sT (safe_path_cons (safe_of_not_clash (aId j e hj)) safe_path_nil))
    simp only [renderA, List.mem_append, List.mem_cons, List.mem_nil_iff, or_false, mem_optBucket] at hl
    rcases hl with ((((((((rfl | rfl | rfl | rfl | rfl | rfl | rfl) | hl) | ⟨gs, hg, hl⟩) | ⟨c, hrc, hl⟩) | ⟨ps, hpe, hl⟩) |
      ⟨ms, hmo, hl⟩) | ⟨ms, hme, hl⟩) | hl) | hl
    · exact not_mentions_bucket hp
    · exact not_mentions_kv hp sNk (safe_typed (hc.name j e hj))
    · exact not_mentions_kv hp sAk (safe_optFieldT hc.nil (fun a ha => hc.alias j e a hj ha) (fun a ha => hc.aliasT j e a hj ha))
    · exact not_mentions_kv hp sOw (ref bEx' e.owner (hi.ownerExists j e hj))
    · exact not_mentions_kv hp sD (ref bEx' e.dep (hi.depExists j e hj))
    · exact not_mentions_kv hp sBo (ref aEx' e.boss (fun hne => hi.boss.boss j e hj hne (by simp)))
    · exact not_mentions_kv hp sCh (ref aEx' e.chief (fun hne => hi.boss.chief j e hj hne))
    · exact not_mentions_listBucket hc.ne (safe_path_snoc hp sR) (fun r hr => hc.roles j e r hj hr) l hl
    · exact not_mentions_listBucket hc.ne (safe_path_snoc hp sG) (fun g hgm => bEx' g (hi.g.fwd_target hg hgm)) l hl
    · exact not_mentions_countBucket (safe_path_snoc hp sRB) (fun k n hkn => bEx' k (hi.rc.fwd_target hrc hkn)) hc.counts l hl
    · exact not_mentions_listBucket hc.ne (safe_path_snoc hp sPe) (fun k hkm => aEx' k (hi.pe.member hpe hkm)) l hl
    · exact not_mentions_listBucket hc.ne (safe_path_snoc hp sMo) (fun k hkm => aEx' k (hi.mt.fwd_target hmo hkm)) l hl
    · exact not_mentions_listBucket hc.ne (safe_path_snoc hp sMe) (fun k hkm => aEx' k (hi.mt.bwd_source hme hkm)) l hl
    · cases hcd : e.code with
      | none => simp [hcd] at hl
      | some c =>
        simp only [hcd, List.mem_append, List.mem_cons, List.mem_nil_iff, or_false, mem_optBucket] at hl
        rcases hl with (rfl | rfl) | ⟨ps, hps, hl⟩
        · exact not_mentions_bucket (safe_path_snoc hp sE)
        · exact not_mentions_kv (safe_path_snoc hp sE) sC (safe_tagged (hc.code j e c hj hcd) (hc.codeT j e c hj hcd))
        · exact not_mentions_listBucket hc.ne (fun x hx => safe_path_snoc (safe_path_snoc hp sE) sP x hx)
            (fun g hgm => bEx' g (hi.p.fwd_target hps hgm)) l hl
    · cases hcd : e.colour with
      | none => simp [hcd] at hl
      | some c =>
        simp only [hcd, List.mem_cons, List.mem_nil_iff, or_false] at hl
        rcases hl with rfl | rfl
        · exact not_mentions_bucket (safe_path_snoc hp sE2)
        · exact not_mentions_kv (safe_path_snoc hp sE2) sCo (safe_tagged (hc.colour j e c hj hcd) (hc.colourT j e c hj hcd))
  · have hp : ∀ x, x ∈ pathB j → Safe id x :=
      safe_path_cons sU (safe_path_cons sO (safe_path_cons (safe_of_not_clash (bId j e hj)) safe_path_nil))
    simp only [renderB, List.mem_append, List.mem_cons, List.mem_nil_iff, or_false, mem_optBucket] at hl
    rcases hl with ((((rfl | rfl) | ⟨ms, hm, hl⟩) | ⟨ps, hps, hl⟩) | ⟨c, hrc, hl⟩) | ⟨ts, ht, hl⟩
    · exact not_mentions_bucket hp
    · exact not_mentions_kv hp sL (safe_optFieldT hc.nil (fun l hl => hc.label j e l hj hl) (fun l hl => hc.labelT j e l hj hl))
    · exact not_mentions_listBucket hc.ne (safe_path_snoc hp sM) (fun m hmm => aEx' m (hi.g.bwd_source hm hmm)) l hl
    · exact not_mentions_listBucket hc.ne (safe_path_snoc hp sPO) (fun m hmm => cEx' m (hi.p.bwd_source hps hmm)) l hl
    · exact not_mentions_countBucket (safe_path_snoc hp sRA) (fun k n hkn => aEx' k (hi.rc.bwd_source hrc hkn)) hc.counts l hl
    · refine not_mentions_listBucket hc.ne (safe_path_snoc hp sT) (fun t htm => ?_) l hl
      obtain ⟨_, ea, ha, _⟩ := (hi.br j t).1 (by simp [ht, htm])
      exact aId t ea ha
  · exact not_mentions_unique (g := fun e => some e.name) hi.uName (pIdxA _ sN) (fun i e a he ha => by cases ha; exact hc.name i e he)
      aId hv l hl
  · exact not_mentions_unique hi.uAlias (pIdxA _ sA) hc.alias aId hv l hl
  · exact not_mentions_unique hi.uCode (pIdxA _ sC) hc.code aId hv l hl
  · exact not_mentions_unique hi.uColour (pIdxA _ sCo) hc.colour aId hv l hl
  · exact not_mentions_unique hi.uLabel (pIdxB _ sL) hc.label bId hv l hl
  · -- set index on roles: a key is a role of some entity, the members are entities
    obtain ⟨i0, hi0⟩ := List.exists_mem_of_ne_nil ids (hi.nek v ids hv)
    obtain ⟨e0, he0, hr0⟩ := (hi.sRoles v i0).1 (by simp [hv, hi0])
    refine not_mentions_listBucket hc.ne (safe_path_snoc (pIdxA _ sR) (safe_of_not_clash (hc.roles i0 e0 v he0 hr0))) (fun i hii => ?_) l hl
    obtain ⟨e, he, _⟩ := (hi.sRoles v i).1 (by simp [hv, hii])
    exact aId i e he

instance (id x : Bytes) : Decidable (Clash id x) := by unfold Clash; exact inferInstance

/-- executable sufficient check for `NoClash` (used for the non-vacuity examples) -/
def noClashCheck (nm : Names) (id : Id) (s : State) : Bool :=
  decide (id ≠ []) && decide (id.length < 5) && (reserved nm).all (fun x => decide (¬ Clash id x)) && decide (¬ Clash id nilField) &&
  decide (¬ Clash id []) &&
  s.a.entries.all (fun p =>
    (decide (p.1 = id) || decide (¬ Clash id p.1)) && decide (¬ Clash id p.2.name) &&
    (match p.2.alias with | some a => decide (¬ Clash id a ∧ tagged nm.aliasTy a ≠ id) | none => true) &&
    p.2.roles.all (fun r => decide (¬ Clash id r)) &&
    (match p.2.code with | some c => decide (¬ Clash id c ∧ tagged nm.codeTy c ≠ id) | none => true) &&
    (match p.2.colour with | some c => decide (¬ Clash id c ∧ tagged nm.colourTy c ≠ id) | none => true)) &&
  s.b.entries.all (fun p =>
    (decide (p.1 = id) || decide (¬ Clash id p.1)) &&
    (match p.2.label with | some l => decide (¬ Clash id l ∧ tagged nm.labelTy l ≠ id) | none => true))

theorem counts_no_clash {id : Id} (h : id.length < 5) (n : Nat) : ¬ Clash id (encCount n) := by
  rintro (h1 | h1 | h1)
  · rw [← h1] at h; simp [encCount] at h
  · simp [encCount, typed] at h1
  · rw [← h1] at h; simp [encCount, typed] at h

theorem noClash_of_check {nm : Names} {id : Id} {s : State} (h : noClashCheck nm id s = true) : NoClash nm id s := by
  simp only [noClashCheck, Bool.and_eq_true, decide_eq_true_eq, List.all_eq_true, Bool.or_eq_true, Prod.forall,
    Map.mem_entries_iff] at h
  obtain ⟨⟨⟨⟨⟨⟨h1, h0⟩, h2⟩, h3⟩, h6⟩, h4⟩, h5⟩ := h
  refine ⟨h1, h2, h3, ?_, ?_, ?_, ?_, ?_, h6, counts_no_clash h0, ?_, ?_, ?_, ?_, ?_, ?_, ?_⟩
  · intro j e hj hne
    rcases (h4 j e hj).1.1.1.1.1 with h | h
    · exact absurd h hne
    · exact h
  · intro j e hj hne
    rcases (h5 j e hj).1 with h | h
    · exact absurd h hne
    · exact h
  · intro j e hj; exact (h4 j e hj).1.1.1.1.2
  · intro j e a hj ha; have := (h4 j e hj).1.1.1.2; simp only [ha, decide_eq_true_eq] at this; exact this.1
  · intro j e r hj hr; exact (h4 j e hj).1.1.2 r hr
  · intro j e c hj hc; have := (h4 j e hj).1.2; simp only [hc, decide_eq_true_eq] at this; exact this.1
  · intro j e c hj hc; have := (h4 j e hj).2; simp only [hc, decide_eq_true_eq] at this; exact this.1
  · intro j e l hj hl; have := (h5 j e hj).2; simp only [hl, decide_eq_true_eq] at this; exact this.1
  · intro j e a hj ha; have := (h4 j e hj).1.1.1.2; simp only [ha, decide_eq_true_eq] at this; exact this.2
  · intro j e c hj hc; have := (h4 j e hj).1.2; simp only [hc, decide_eq_true_eq] at this; exact this.2
  · intro j e c hj hc; have := (h4 j e hj).2; simp only [hc, decide_eq_true_eq] at this; exact this.2
  · intro j e l hj hl; have := (h5 j e hj).2; simp only [hl, decide_eq_true_eq] at this; exact this.2

end StorageModel.C06
