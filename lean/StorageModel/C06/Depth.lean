import StorageModel.C06.Model
/-
  C06, layering depth: the delete orchestration of `BaseStore.DeleteById` over a TREE of stores of any
  depth, as the code has it:

  * `DeleteById` of a child store hands over to its parent, up to the root (`rootOf`);
  * the root fans out over ITS OWN `childStoreStrategies` only (`visited`: the stores registered with the
    root for which `changeFlow.init` finds the entity - own data, or the parent's data for an extended
    store - and then the root itself);
  * `processDeleteConstraints` of a visited store runs `ProcessBeforeDelete` of its indexing context, which
    is chained to its parent's, up to the root (`chain`), then `cleanupLinks` of the visited store only;
  * `DeleteEntity` of the root bucket removes every nested data bucket (`dropData`).

  State: the data buckets `(store, id) ↦ Vals` and ONE table of index-like entries
  `(kind, declaring store, key, id)`: unique index `value ↦ id`, set index `value / id`, far side of a link
  collection `owner / id`, back-reference of an fk index `owner / id`.

  Proved below the model: over `Sound` entries, with every declaring store in the root's fan-out, a committed delete
  leaves `NoTrace` and `Sound` again (`delete_no_trace_reachable`, `sound_after_delete`).
-/
namespace StorageModel.C06.Depth
open StorageModel
open StorageModel.C03 (Id Err Line setOf typed bU bIndexes)

inductive Kind | u | s | l | f
  deriving DecidableEq, Repr

structure StoreCfg where
  parent : Option Nat := none
  /-- the stores whose `childStoreStrategies` contain this store -/
  regWith : List Nat := []
  extended : Bool := false
  /-- entity path below the entity bucket -/
  path : List Bytes := []
  tag : UInt8 := 48
  uniq : Bool := false
  set : Bool := false
  link : Bool := false
  fk : Bool := false
  deriving DecidableEq, Repr

instance : Inhabited StoreCfg := ⟨{}⟩

abbrev Cfg := List StoreCfg

def getC (cfg : Cfg) (j : Nat) : StoreCfg := cfg.getD j {}

def StoreCfg.declares (c : StoreCfg) : Kind → Bool
  | .u => c.uniq | .s => c.set | .l => c.link | .f => c.fk

def StoreCfg.declaresAny (c : StoreCfg) : Bool := c.uniq || c.set || c.link || c.fk

structure Vals where
  u : Option Bytes := none
  s : List Bytes := []
  l : List Id := []
  f : Option Bytes := none
  deriving DecidableEq, Repr

structure Entry where
  kind : Kind
  store : Nat
  key : Bytes
  id : Id
  deriving DecidableEq, Repr

structure DState where
  data : List (Nat × Id × Vals) := []
  idx : List Entry := []
  deriving DecidableEq, Repr

def lookupData (s : DState) (j : Nat) (id : Id) : Option Vals :=
  (s.data.find? (fun d => d.1 == j && d.2.1 == id)).map (·.2.2)

def hasData (s : DState) (j : Nat) (id : Id) : Bool := (lookupData s j id).isSome

def chainAux (cfg : Cfg) : Nat → Nat → List Nat
  | 0, k => [k]
  | fuel + 1, k =>
    match (getC cfg k).parent with
    | none => [k]
    | some p => k :: chainAux cfg fuel p

/-- the store and its ancestors, the store first: the stores of its chained `IndexingContext` -/
def chain (cfg : Cfg) (k : Nat) : List Nat := chainAux cfg cfg.length k

def rootOf (cfg : Cfg) (k : Nat) : Nat := (chain cfg k).getLast?.getD k

/-- `FindById` / `changeFlow.init`: own data, or - extended store - the parent's -/
def found (cfg : Cfg) (s : DState) (j : Nat) (id : Id) : Bool :=
  hasData s j id ||
    ((getC cfg j).extended && match (getC cfg j).parent with
      | some p => hasData s p id
      | none => false)

/-- does the entry hold because of the stored values `v` -/
def holds (v : Vals) (k : Kind) (key : Bytes) : Bool :=
  match k with
  | .u => v.u == some key && !key.isEmpty
  | .s => v.s.contains key
  | .l => v.l.contains key
  | .f => v.f == some key && !key.isEmpty

/-- what `ProcessBeforeDelete` (kinds u s f) resp. `EntityDeleted` (kind l) of store `j` removes for row
    `id` with stored values `v`.  A unique index deletes the KEY, whichever id it maps to. -/
def kills (cfg : Cfg) (j : Nat) (id : Id) (v : Vals) (ks : List Kind) (e : Entry) : Bool :=
  e.store == j && ks.contains e.kind && (getC cfg j).declares e.kind && holds v e.kind e.key &&
    (e.kind == .u || e.id == id)

def removeFor (cfg : Cfg) (ks : List Kind) (id : Id) (s : DState) (j : Nat) : DState :=
  match lookupData s j id with
  | none => s
  | some v => { s with idx := s.idx.filter (fun e => !kills cfg j id v ks e) }

inductive Act
  | strip (j : Nat)   -- the constraints of store j: ProcessBeforeDelete
  | clean (j : Nat)   -- cleanupLinks of store j
  deriving DecidableEq, Repr

def runAct (cfg : Cfg) (id : Id) (s : DState) : Act → DState
  | .strip j => removeFor cfg [.u, .s, .f] id s j
  | .clean j => removeFor cfg [.l] id s j

/-- the stores whose `processDeleteConstraints` runs: the root's registered strategies, then the root -/
def visited (cfg : Cfg) (s : DState) (r : Nat) (id : Id) : List Nat :=
  (List.range cfg.length).filter (fun j => (getC cfg j).regWith.contains r && found cfg s j id) ++ [r]

def actsOf (cfg : Cfg) (v : Nat) : List Act := (chain cfg v).map Act.strip ++ [Act.clean v]

def plan (cfg : Cfg) (s : DState) (r : Nat) (id : Id) : List Act := (visited cfg s r id).flatMap (actsOf cfg)

def dropData (s : DState) (id : Id) : DState := { s with data := s.data.filter (fun d => d.2.1 != id) }

/-- `DeleteById` through store `k` -/
def deleteById (cfg : Cfg) (s : DState) (k : Nat) (id : Id) : Except Err DState :=
  let r := rootOf cfg k
  if hasData s r id then .ok (dropData ((plan cfg s r id).foldl (runAct cfg id) s) id)
  else .error .notFound

def addE (e : Entry) (l : List Entry) : List Entry := if l.contains e then l else l ++ [e]

def bytesOf (o : Option Bytes) : Bytes := o.getD []

/-- index maintenance of store `j` (`ProcessAfterUpdate` of its constraints) and `SetLinks`:
    `old` = the values captured by `ProcessBeforeUpdate` (none: nothing captured), `cur` = what is stored,
    `nw` = what is stored afterwards -/
def reindex (cfg : Cfg) (isCreate : Bool) (j : Nat) (id : Id) (old cur : Option Vals) (nw : Vals)
    (idx : List Entry) : Except Err (List Entry) := do
  let c := getC cfg j
  let ou := bytesOf (old.bind (·.u))
  let nu := bytesOf nw.u
  let idx ←
    if c.uniq && (isCreate || ou != nu) then
      let i1 := if ou.isEmpty then idx else idx.filter (fun e => !(e.kind == .u && e.store == j && e.key == ou))
      if nu.isEmpty then pure i1
      else if i1.any (fun e => e.kind == .u && e.store == j && e.key == nu) then throw Err.dup
      else pure (i1 ++ [⟨.u, j, nu, id⟩])
    else pure idx
  let os := (old.map (·.s)).getD []
  let idx :=
    if c.set && os != nw.s then
      let i1 := idx.filter (fun e => !(e.kind == .s && e.store == j && e.id == id && os.contains e.key))
      nw.s.foldl (fun acc x => addE ⟨.s, j, x, id⟩ acc) i1
    else idx
  let of' := bytesOf (old.bind (·.f))
  let nf := bytesOf nw.f
  let idx :=
    if c.fk && (isCreate || of' != nf) then
      let i1 := if of'.isEmpty then idx else idx.filter (fun e => !(e == ⟨.f, j, of', id⟩))
      if nf.isEmpty then i1 else addE ⟨.f, j, nf, id⟩ i1
    else idx
  let cl := (cur.map (·.l)).getD []
  let idx :=
    if c.link then
      let i1 := idx.filter (fun e => !(e.kind == .l && e.store == j && e.id == id && cl.contains e.key && !nw.l.contains e.key))
      nw.l.foldl (fun acc o => if cl.contains o then acc else addE ⟨.l, j, o, id⟩ acc) i1
    else idx
  pure idx

/-- field checker: which fields of which store proceed -/
abbrev Chk := Nat → Kind → Bool

def merge (c : StoreCfg) (j : Nat) (chk : Chk) (cur : Option Vals) (nw : Vals) : Vals :=
  let cv := cur.getD {}
  { u := if chk j .u then nw.u else cv.u
    s := if chk j .s then setOf nw.s else cv.s
    l := if c.link then (if chk j .l then setOf nw.l else cv.l) else []
    f := if chk j .f then nw.f else cv.f }

def setData (s : DState) (j : Nat) (id : Id) (v : Vals) : DState :=
  { s with data := s.data.filter (fun d => !(d.1 == j && d.2.1 == id)) ++ [(j, id, v)] }

def writeLevels (cfg : Cfg) (isCreate : Bool) (id : Id) (captured : Nat → Bool) (chk : Chk) (vs : Nat → Vals) :
    List Nat → DState → Except Err DState
  | [], s => .ok s
  | j :: rest, s => do
    let cur := lookupData s j id
    let old := if captured j then cur else none
    let nw := merge (getC cfg j) j chk cur (vs j)
    let idx ← reindex cfg isCreate j id old cur nw s.idx
    writeLevels cfg isCreate id captured chk vs rest (setData { s with idx := idx } j id nw)

/-- `Create` through store `k`: only `k`'s own data is checked for existence; the old values of the
    ancestors are captured iff the IMMEDIATE parent has data (fix 8269ce9) -/
def createThrough (cfg : Cfg) (s : DState) (k : Nat) (id : Id) (vs : Nat → Vals) : Except Err DState :=
  if hasData s k id then .error .exists
  else
    let parentExists := match (getC cfg k).parent with
      | some p => hasData s p id
      | none => false
    writeLevels cfg true id (fun j => j != k && parentExists) (fun _ _ => true) vs (chain cfg k) s

/-- `Update` through store `k` -/
def updateThrough (cfg : Cfg) (s : DState) (k : Nat) (id : Id) (vs : Nat → Vals) (chk : Chk) : Except Err DState :=
  if !found cfg s k id || !hasData s k id then .error .notFound
  else writeLevels cfg false id (fun _ => true) chk vs (chain cfg k) s

inductive Op
  | create (k : Nat) (id : Id) (vs : List Vals)
  | update (k : Nat) (id : Id) (vs : List Vals) (chk : Option (List Nat))
  | delete (k : Nat) (id : Id)
  deriving Repr

def opStep (cfg : Cfg) (s : DState) : Op → Except Err DState
  | .create k id vs => createThrough cfg s k id (fun j => vs.getD j {})
  | .update k id vs chk =>
    let kindNo : Kind → Nat
      | .u => 0 | .s => 1 | .l => 2 | .f => 3
    updateThrough cfg s k id (fun j => vs.getD j {})
      (match chk with
       | none => fun _ _ => true
       | some l => fun j kd => l.contains (4 * j + kindNo kd))
  | .delete k id => deleteById cfg s k id

def applyOps (cfg : Cfg) : DState → List Op → Nat → Except (Nat × Err) DState
  | s, [], _ => .ok s
  | s, op :: rest, i =>
    match opStep cfg s op with
    | .ok s' => applyOps cfg s' rest (i + 1)
    | .error e => .error (i, e)

/-- a transaction: all of its operations or none -/
def txStep (cfg : Cfg) (s : DState) (ops : List Op) : DState × Option (Nat × Err) :=
  match applyOps cfg s ops 0 with
  | .ok s' => (s', none)
  | .error e => (s, some e)

def bNodes : Bytes := [110, 111, 100, 101, 115]
def bOwnersD : Bytes := [111, 119, 110, 101, 114, 115]

def fieldName (c : UInt8) (tag : UInt8) : Bytes := [c, tag]

/-- the key/value lines of the database and the entity / data bucket lines (the harness drops the other
    bucket lines: they never contain an entity id that these lines do not contain) -/
def Render (cfg : Cfg) (s : DState) : List Line :=
  s.data.flatMap (fun d =>
    let c := getC cfg d.1
    let p := [bU, bNodes, d.2.1] ++ c.path
    let v := d.2.2
    [Line.bucket p, Line.kv p (fieldName 117 c.tag) (C06.optField v.u), Line.kv p (fieldName 102 c.tag) (C06.optField v.f)] ++
    v.s.map (fun x => Line.kv (p ++ [fieldName 115 c.tag]) (typed x) []) ++
    v.l.map (fun o => Line.kv (p ++ [fieldName 108 c.tag]) (typed o) [])) ++
  s.idx.map (fun e =>
    let t := (getC cfg e.store).tag
    match e.kind with
    | .u => Line.kv [bU, bIndexes, bNodes, fieldName 117 t] e.key e.id
    | .s => Line.kv [bU, bIndexes, bNodes, fieldName 115 t, e.key] (typed e.id) []
    | .l => Line.kv [bU, bOwnersD, e.key, fieldName 109 t] (typed e.id) []
    | .f => Line.kv [bU, bOwnersD, e.key, fieldName 114 t] (typed e.id) [])

/-- every entry is there because of a stored value of its id in its declaring store -/
def justified (cfg : Cfg) (s : DState) (e : Entry) : Bool :=
  (getC cfg e.store).declares e.kind &&
    match lookupData s e.store e.id with
    | some v => holds v e.kind e.key
    | none => false

def Sound (cfg : Cfg) (s : DState) : Prop := ∀ e ∈ s.idx, justified cfg s e = true

instance (cfg : Cfg) (s : DState) : Decidable (Sound cfg s) := by unfold Sound; exact inferInstance

/-- no data bucket of any store and no index / link / back-reference entry belongs to the id -/
def NoTrace (s : DState) (id : Id) : Prop := (∀ d ∈ s.data, d.2.1 ≠ id) ∧ (∀ e ∈ s.idx, e.id ≠ id)

instance (s : DState) (id : Id) : Decidable (NoTrace s id) := by unfold NoTrace; exact inferInstance

/-- every store that declares an index / link collection / fk index is the root (store 0) or registered
    with the root: the root's fan-out reaches it -/
def AllDeclaringStoresReachable (cfg : Cfg) : Prop :=
  ∀ j, (getC cfg j).declaresAny = true → j = 0 ∨ 0 ∈ (getC cfg j).regWith

def reachableB (cfg : Cfg) : Bool :=
  (List.range cfg.length).all (fun j => !(getC cfg j).declaresAny || j == 0 || (getC cfg j).regWith.contains 0)

/-- everything of the id removed from the state -/
def purge (s : DState) (id : Id) : DState :=
  { data := s.data.filter (fun d => d.2.1 != id), idx := s.idx.filter (fun e => e.id != id) }

theorem declaresAny_lt {cfg : Cfg} {j : Nat} (h : (getC cfg j).declaresAny = true) : j < cfg.length := by
  rcases Nat.lt_or_ge j cfg.length with hl | hl
  · exact hl
  · have : getC cfg j = {} := by unfold getC; simp [List.getD, List.getElem?_eq_none hl]
    rw [this] at h; simp [StoreCfg.declaresAny] at h

theorem declaresAny_of {c : StoreCfg} {k : Kind} (h : c.declares k = true) : c.declaresAny = true := by
  cases k <;> simp [StoreCfg.declares] at h <;> simp [StoreCfg.declaresAny, h]

def Act.store : Act → Nat
  | .strip j => j
  | .clean j => j

def Act.kinds : Act → List Kind
  | .strip _ => [.u, .s, .f]
  | .clean _ => [.l]

/-- what an action leaves of the table: a filter that reads the data buckets only -/
def spares (cfg : Cfg) (id : Id) (s : DState) (a : Act) (e : Entry) : Bool :=
  (lookupData s a.store id).all fun v => !kills cfg a.store id v a.kinds e

theorem removeFor_eq (cfg : Cfg) (ks : List Kind) (id : Id) (s : DState) (j : Nat) :
    removeFor cfg ks id s j =
      { s with idx := s.idx.filter fun e => (lookupData s j id).all fun v => !kills cfg j id v ks e } := by
  symm; cases s; unfold removeFor; split <;> simp [*]

theorem runAct_eq (cfg : Cfg) (id : Id) (s : DState) (a : Act) :
    runAct cfg id s a = { s with idx := s.idx.filter (spares cfg id s a) } := by
  cases a <;> exact removeFor_eq ..

/-- the plan as one filter: no action touches the data buckets, so each decides as it would have at the start -/
theorem foldl_runAct (cfg : Cfg) (id : Id) (l : List Act) (s : DState) :
    l.foldl (runAct cfg id) s = { s with idx := s.idx.filter fun e => l.all fun a => spares cfg id s a e } := by
  induction l generalizing s with
  | nil => symm; cases s; simp
  | cons a t ih =>
    rw [List.foldl_cons, ih, runAct_eq]
    simp only [List.filter_filter, List.all_cons, Bool.and_comm]
    rfl

theorem mem_chain_self (cfg : Cfg) (k : Nat) : k ∈ chain cfg k := by
  unfold chain
  cases cfg.length with
  | zero => simp [chainAux]
  | succ n => unfold chainAux; split <;> simp

theorem not_spares {cfg : Cfg} {s : DState} {e : Entry} {v : Vals} {a : Act}
    (hl : lookupData s e.store e.id = some v) (hd : (getC cfg e.store).declares e.kind = true)
    (hh : holds v e.kind e.key = true) (hs : a.store = e.store) (hk : e.kind ∈ a.kinds) : spares cfg e.id s a e = false := by
  simp [spares, hs, hl, kills, hd, hh, hk]

theorem deleteById_ok {cfg : Cfg} {s s' : DState} {k : Nat} {id : Id} (hd : deleteById cfg s k id = .ok s') :
    s' = dropData
      { s with idx := s.idx.filter fun e => (plan cfg s (rootOf cfg k) id).all fun a => spares cfg id s a e } id := by
  simp only [deleteById] at hd
  split at hd
  · cases hd; rw [foldl_runAct]
  · cases hd

/-- **No trace after a committed delete, any depth**, for every configuration in which every declaring store
    is reachable from the root's fan-out.  `Sound` is the direction of the index invariant that matters here
    (entries only for stored values); `rootOf cfg k = 0`: the chain of the store the delete goes through ends
    in the root. -/
theorem delete_no_trace_reachable {cfg : Cfg} {s s' : DState} {k : Nat} {id : Id}
    (hr : AllDeclaringStoresReachable cfg) (h0 : rootOf cfg k = 0) (hs : Sound cfg s)
    (hd : deleteById cfg s k id = .ok s') : NoTrace s' id := by
  rw [deleteById_ok hd, h0]
  refine ⟨fun d hd' => by simpa using (List.mem_filter.mp hd').2, fun e he heq => ?_⟩
  obtain ⟨he0, hsp⟩ := List.mem_filter.mp he
  have hj := hs e he0
  unfold justified at hj
  rw [Bool.and_eq_true] at hj
  obtain ⟨hdecl, hv⟩ := hj
  split at hv
  · rename_i v hl
    subst heq
    have hvis : e.store ∈ visited cfg s 0 e.id := by
      unfold visited
      rcases hr e.store (declaresAny_of hdecl) with h | h
      · simp [h]
      · apply List.mem_append_left
        refine List.mem_filter.mpr ⟨List.mem_range.mpr (declaresAny_lt (declaresAny_of hdecl)), ?_⟩
        have hf : found cfg s e.store e.id = true := by
          unfold found hasData; rw [hl]; simp
        simp [h, hf]
    -- the action that removes the entry is in the plan
    have hacts : ∀ a, a ∈ actsOf cfg e.store → spares cfg e.id s a e = true := fun a h =>
      List.all_eq_true.mp hsp a (List.mem_flatMap.mpr ⟨e.store, hvis, h⟩)
    by_cases hkind : e.kind = .l
    · have := hacts (.clean e.store) (by simp [actsOf])
      rw [not_spares hl hdecl hv rfl (by simp [Act.kinds, hkind])] at this
      cases this
    · have := hacts (.strip e.store) (by simp [actsOf, mem_chain_self])
      rw [not_spares hl hdecl hv rfl (by cases hk : e.kind <;> simp_all [Act.kinds])] at this
      cases this
  · cases hv

theorem lookup_dropData {s : DState} {id i : Id} (j : Nat) (h : i ≠ id) :
    lookupData (dropData s id) j i = lookupData s j i := by
  unfold lookupData dropData
  simp only
  congr 1
  induction s.data with
  | nil => rfl
  | cons d t ih =>
    simp only [List.filter_cons]
    by_cases h1 : d.2.1 = id
    · have h3 : (id == i) = false := by simp; exact fun h' => h h'.symm
      simp [h1, h3, ih]
    · simp [h1, List.find?_cons, ih]

theorem sound_after_delete {cfg : Cfg} {s s' : DState} {k : Nat} {id : Id}
    (hr : AllDeclaringStoresReachable cfg) (h0 : rootOf cfg k = 0) (hs : Sound cfg s)
    (hd : deleteById cfg s k id = .ok s') : Sound cfg s' := by
  have hnt := delete_no_trace_reachable hr h0 hs hd
  rw [deleteById_ok hd] at hnt ⊢
  intro e he
  have hj := hs e (List.mem_filter.mp he).1
  unfold justified at hj ⊢
  rw [Bool.and_eq_true] at hj ⊢
  refine ⟨hj.1, ?_⟩
  rw [lookup_dropData _ (hnt.2 e he)]; exact hj.2

theorem purge_of_noTrace {s : DState} {id : Id} (h : NoTrace s id) : purge s id = s := by
  cases s with
  | mk data idx =>
    unfold purge
    simp only [DState.mk.injEq]
    constructor
    · apply List.filter_eq_self.mpr; intro d hd; simpa using h.1 d hd
    · apply List.filter_eq_self.mpr; intro e he; simpa using h.2 e he

theorem reachable_of_B {cfg : Cfg} (h : reachableB cfg = true) : AllDeclaringStoresReachable cfg := by
  intro j hj
  have := List.all_eq_true.mp h j (List.mem_range.mpr (declaresAny_lt hj))
  simpa [hj] using this

def okB : Except Err DState → Bool
  | .ok _ => true
  | .error _ => false

end StorageModel.C06.Depth
