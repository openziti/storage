import StorageModel.C06.Model
import StorageModel.C03.Inv
/-
  C06: invariants of the link-collection components (plain `LinkInv`, ref-counted `RcInv`, a store
  linked with itself through one symbol `SelfInv`), each independent of the rest of the state.  One guarded bucket
  rewrite, `cleanStep`, is the step of all their `EntityDeleted` loops and the far-side write of `unlink`, `selfUnlink`
  and `dec`.  The `Except` helpers of the area (`guard_ok`, `bind_ok_iff`) are here too; `bind_ok` is `C03.bind_ok` (C03/Inv).
-/
namespace StorageModel.C06
open StorageModel
open StorageModel.C03 (Map Id Err setInsert setErase)

theorem guard_ok {α : Type} {c : Prop} [Decidable c] {e : Err} {k : Except Err α} {a : α}
    (h : (if c then .error e else k) = .ok a) : ¬ c ∧ k = .ok a := by
  by_cases hc : c
  · rw [if_pos hc] at h; cases h
  · rw [if_neg hc] at h; exact ⟨hc, h⟩

theorem bind_congr_ok {α β : Type} {x : Except Err α} {f g : α → Except Err β} (h : ∀ a, x = .ok a → f a = g a) :
    x >>= f = x >>= g := by
  cases x with
  | error e => rfl
  | ok a => exact h a rfl

theorem bind_ok_iff {α β : Type} {x : Except Err α} {f : α → Except Err β} {P Q : Prop}
    (hx : (∃ a, x = .ok a) ↔ P) (hf : ∀ a, x = .ok a → ((∃ b, f a = .ok b) ↔ Q)) :
    (∃ b, x >>= f = .ok b) ↔ P ∧ Q := by
  cases x with
  | error e => exact ⟨fun ⟨_, h⟩ => (nomatch h), fun ⟨hp, _⟩ => by obtain ⟨_, h⟩ := hx.2 hp; cases h⟩
  | ok a => exact ⟨fun hb => ⟨hx.1 ⟨a, rfl⟩, (hf a rfl).1 hb⟩, fun ⟨_, hq⟩ => (hf a rfl).2 hq⟩

theorem bind_noPanic {α β : Type} {x : Except Err α} {f : α → Except Err β} (hx : x ≠ .error .panic)
    (hf : ∀ a, x = .ok a → f a ≠ .error .panic) : x >>= f ≠ .error .panic := by
  cases x with
  | error e => exact fun h => hx (by cases h; rfl)
  | ok a => exact hf a rfl

theorem mem_bucket_erase (m : Map Id (List Id)) (k x b j : Id) :
    j ∈ ((m.insert k (setErase x ((m.lookup k).getD []))).lookup b).getD [] ↔
      j ∈ (m.lookup b).getD [] ∧ ¬ (b = k ∧ j = x) := by
  rw [Map.lookup_insert]
  by_cases hb : b = k
  · subst hb; simp [and_comm]
  · simp [hb]

theorem mem_bucket_insert (m : Map Id (List Id)) (k x b j : Id) :
    j ∈ ((m.insert k (setInsert x ((m.lookup k).getD []))).lookup b).getD [] ↔
      j ∈ (m.lookup b).getD [] ∨ (b = k ∧ j = x) := by
  rw [Map.lookup_insert]
  by_cases hb : b = k
  · subst hb; simp [or_comm]
  · simp [hb]

/-- `getFieldBucket`: creating a bucket changes no reading -/
theorem getD_touch {β : Type} (m : Map Id β) (d : β) (a x : Id) :
    ((m.insert a ((m.lookup a).getD d)).lookup x).getD d = (m.lookup x).getD d := by
  rw [Map.lookup_insert]; split
  · next h => subst h; rfl
  · rfl

theorem lookup_none_of_dom {β : Type} {m : Map Id β} {ex : Id → Bool} {id : Id}
    (hdom : ∀ k v, m.lookup k = some v → ex k = true) (hid : ex id = false) : m.lookup id = none := by
  cases h : m.lookup id with
  | none => rfl
  | some v => rw [hdom id v h] at hid; cases hid

/-- a write to the far side of a link (`RemoveLink`, one step of an `EntityDeleted` loop): the bucket of `k`,
    if `k` is an entity that has one, is rewritten by `f` -/
def cleanStep {β : Type} (ex : Id → Bool) (f : β → β) (m : Map Id β) (k : Id) : Map Id β :=
  match ex k, m.lookup k with
  | true, some v => m.insert k (f v)
  | _, _ => m

section
variable {β : Type} {ex : Id → Bool} {f : β → β} {m : Map Id β}

/-- read with a default that `f` fixes, a step that finds no bucket is a write all the same -/
theorem getD_cleanStep {d : β} (hdom : ∀ b v, m.lookup b = some v → ex b = true) (hd : f d = d) (k b : Id) :
    ((cleanStep ex f m k).lookup b).getD d = ((m.insert k (f ((m.lookup k).getD d))).lookup b).getD d := by
  unfold cleanStep
  split
  · next hv => rw [hv]; rfl
  · next hn =>
    cases hv : m.lookup k with
    | some v => exact absurd hv (hn v (hdom k v hv))
    | none =>
      rw [Map.lookup_insert]; split
      · next h => subst h; rw [hv]; exact hd.symm
      · rfl

theorem dom_cleanStep (hdom : ∀ b v, m.lookup b = some v → ex b = true) (k : Id) :
    ∀ b v, (cleanStep ex f m k).lookup b = some v → ex b = true := by
  unfold cleanStep
  split
  · next hk _ => exact Map.forall_lookup_insert hk hdom
  · exact hdom

theorem dom_foldl_cleanStep (ks : List Id) (hdom : ∀ b v, m.lookup b = some v → ex b = true) :
    ∀ b v, (ks.foldl (cleanStep ex f) m).lookup b = some v → ex b = true :=
  List.foldlRecOn (motive := fun (m : Map Id β) => ∀ b v, m.lookup b = some v → ex b = true) ks _ hdom
    fun _ hm k _ => dom_cleanStep hm k

/-- a key may be listed several times: `f` is idempotent -/
theorem getD_foldl_cleanStep {d : β} (hf : ∀ v, f (f v) = f v) (hd : f d = d) (ks : List Id)
    (hdom : ∀ b v, m.lookup b = some v → ex b = true) (b : Id) :
    ((ks.foldl (cleanStep ex f) m).lookup b).getD d = if b ∈ ks then f ((m.lookup b).getD d) else (m.lookup b).getD d := by
  induction ks generalizing m with
  | nil => simp
  | cons k rest ih =>
    rw [List.foldl_cons, ih (dom_cleanStep hdom k), getD_cleanStep hdom hd, Map.lookup_insert]
    by_cases hbk : b = k <;> by_cases hbr : b ∈ rest <;> simp [hbk, hbr, hf]

end

theorem setErase_idem (a : Id) (l : List Id) : setErase a (setErase a l) = setErase a l := by
  simp [setErase, List.filter_filter]

theorem mem_cleanStep {ex : Id → Bool} {m : Map Id (List Id)} (hdom : ∀ b l, m.lookup b = some l → ex b = true)
    (id k b j : Id) :
    j ∈ ((cleanStep ex (setErase id) m k).lookup b).getD [] ↔ j ∈ (m.lookup b).getD [] ∧ ¬ (b = k ∧ j = id) := by
  rw [getD_cleanStep hdom rfl, mem_bucket_erase]

theorem mem_foldl_cleanStep {ex : Id → Bool} {m : Map Id (List Id)} (id : Id) (ks : List Id)
    (hdom : ∀ b l, m.lookup b = some l → ex b = true) (b j : Id) :
    j ∈ ((ks.foldl (cleanStep ex (setErase id)) m).lookup b).getD [] ↔ (j ∈ (m.lookup b).getD [] ∧ ¬ (j = id ∧ b ∈ ks)) := by
  rw [getD_foldl_cleanStep (setErase_idem id) rfl ks hdom]
  split <;> simp [*, and_comm]

/-- link buckets are symmetric and live only inside existing entities -/
structure LinkInv (p : LinkPair) (aEx bEx : Id → Bool) : Prop where
  sym : ∀ j b, b ∈ (p.fwd.lookup j).getD [] ↔ j ∈ (p.bwd.lookup b).getD []
  bwdDom : ∀ b l, p.bwd.lookup b = some l → bEx b = true
  fwdDom : ∀ j l, p.fwd.lookup j = some l → aEx j = true

theorem LinkInv.empty (aEx bEx : Id → Bool) : LinkInv LinkPair.empty aEx bEx := by
  constructor <;> simp [LinkPair.empty]

theorem LinkInv.mono {p : LinkPair} {aEx bEx aEx' bEx' : Id → Bool} (h : LinkInv p aEx bEx)
    (ha : ∀ j, aEx j = true → aEx' j = true) (hb : ∀ j, bEx j = true → bEx' j = true) : LinkInv p aEx' bEx' :=
  ⟨h.sym, fun b l hl => hb b (h.bwdDom b l hl), fun j l hl => ha j (h.fwdDom j l hl)⟩

namespace LinkPair

theorem unlink_eq (p : LinkPair) (bEx : Id → Bool) (a b : Id) :
    p.unlink bEx a b = ⟨p.fwd.insert a (setErase b ((p.fwd.lookup a).getD [])), cleanStep bEx (setErase a) p.bwd b⟩ := by
  unfold unlink cleanStep; simp only; cases bEx b <;> cases p.bwd.lookup b <;> rfl

theorem unlink_pres {p : LinkPair} {aEx bEx : Id → Bool} {a b : Id} (hi : LinkInv p aEx bEx) (ha : aEx a = true) :
    LinkInv (p.unlink bEx a b) aEx bEx := by
  rw [unlink_eq]
  refine ⟨fun j b' => ?_, dom_cleanStep hi.bwdDom b, Map.forall_lookup_insert ha hi.fwdDom⟩
  show b' ∈ ((p.fwd.insert a _).lookup j).getD [] ↔ j ∈ ((cleanStep bEx (setErase a) p.bwd b).lookup b').getD []
  rw [mem_bucket_erase, mem_cleanStep hi.bwdDom, hi.sym j b']
  exact and_congr_right fun _ => not_congr and_comm

theorem link_pres {p p' : LinkPair} {aEx bEx : Id → Bool} {a b : Id} (hi : LinkInv p aEx bEx) (ha : aEx a = true)
    (h : p.link bEx a b = .ok p') : LinkInv p' aEx bEx := by
  unfold link at h
  simp only at h
  split at h
  · next hb =>
    cases h
    refine ⟨fun j b' => ?_, Map.forall_lookup_insert hb hi.bwdDom, Map.forall_lookup_insert ha hi.fwdDom⟩
    show _ ↔ j ∈ ((p.bwd.insert b (setInsert a ((p.bwd.lookup b).getD []))).lookup b').getD []
    rw [mem_bucket_insert, mem_bucket_insert, hi.sym j b']
    exact or_congr_right and_comm
  · cases h

theorem unlink_fold_pres {aEx bEx : Id → Bool} (a : Id) (ks : List Id) {p : LinkPair} (hi : LinkInv p aEx bEx)
    (ha : aEx a = true) : LinkInv (ks.foldl (fun p k => p.unlink bEx a k) p) aEx bEx :=
  List.foldlRecOn (motive := fun p => LinkInv p aEx bEx) ks _ hi fun _ hp _ _ => unlink_pres hp ha

theorem linkAll_pres {aEx bEx : Id → Bool} (a : Id) (ks : List Id) {p p' : LinkPair} (hi : LinkInv p aEx bEx)
    (ha : aEx a = true) (h : linkAll bEx a ks p = .ok p') : LinkInv p' aEx bEx := by
  induction ks generalizing p with
  | nil => simp only [linkAll] at h; cases h; exact hi
  | cons k rest ih =>
    simp only [linkAll] at h
    cases hk : p.link bEx a k with
    | error e => simp [hk] at h
    | ok p1 => simp only [hk] at h; exact ih (link_pres hi ha hk) h

theorem touch_pres {p : LinkPair} {aEx bEx : Id → Bool} {a : Id} (hi : LinkInv p aEx bEx) (ha : aEx a = true) :
    LinkInv { p with fwd := p.fwd.insert a ((p.fwd.lookup a).getD []) } aEx bEx :=
  ⟨fun j b => by rw [← hi.sym j b, getD_touch], hi.bwdDom, Map.forall_lookup_insert ha hi.fwdDom⟩

theorem setLinks_pres {p p' : LinkPair} {aEx bEx : Id → Bool} {a : Id} {req : List Id} (hi : LinkInv p aEx bEx)
    (ha : aEx a = true) (h : p.setLinks bEx a req = .ok p') : LinkInv p' aEx bEx :=
  linkAll_pres a _ (unlink_fold_pres a _ (touch_pres hi ha) ha) ha h

theorem cleanFwd_eq (p : LinkPair) (bEx : Id → Bool) (id : Id) :
    p.cleanFwd bEx id = { p with bwd := ((p.fwd.lookup id).getD []).foldl (cleanStep bEx (setErase id)) p.bwd } :=
  List.foldl_hom (fun m => ({ p with bwd := m } : LinkPair)) fun m k => by
    unfold cleanFwdStep cleanStep; cases bEx k <;> cases m.lookup k <;> rfl

theorem cleanBwd_eq (p : LinkPair) (aEx : Id → Bool) (id : Id) :
    p.cleanBwd aEx id = { p with fwd := ((p.bwd.lookup id).getD []).foldl (cleanStep aEx (setErase id)) p.fwd } :=
  List.foldl_hom (fun m => ({ p with fwd := m } : LinkPair)) fun m k => by
    unfold cleanBwdStep cleanStep; cases aEx k <;> cases m.lookup k <;> rfl

theorem cleanFwd_of_none {p : LinkPair} {bEx : Id → Bool} {id : Id} (h : p.fwd.lookup id = none) :
    p.cleanFwd bEx id = p := by
  simp [cleanFwd, h]

/-- `cleanFwd`, then `DeleteEntity` takes the owner's bucket along (the tail of `deleteA`) -/
theorem cleanFwd_drop_inv {p : LinkPair} {aEx bEx aEx' : Id → Bool} {id : Id} (hi : LinkInv p aEx bEx)
    (ha : ∀ j, aEx j = true → j ≠ id → aEx' j = true) :
    LinkInv { fwd := (p.cleanFwd bEx id).fwd.erase id, bwd := (p.cleanFwd bEx id).bwd } aEx' bEx := by
  rw [cleanFwd_eq]
  refine ⟨fun j b => ?_, dom_foldl_cleanStep _ hi.bwdDom,
    Map.forall_lookup_erase _ fun j l hne hl => ha j (hi.fwdDom j l hl) hne⟩
  show b ∈ ((p.fwd.erase id).lookup j).getD [] ↔ _
  rw [mem_foldl_cleanStep id _ hi.bwdDom, Map.lookup_erase, ← hi.sym j b]
  by_cases hj : j = id
  · subst hj; simp
  · simp [hj]

/-- the same collection seen from the other store -/
def swap (p : LinkPair) : LinkPair := ⟨p.bwd, p.fwd⟩

theorem _root_.StorageModel.C06.LinkInv.swap {p : LinkPair} {aEx bEx : Id → Bool} (h : LinkInv p aEx bEx) :
    LinkInv p.swap bEx aEx := ⟨fun b j => (h.sym j b).symm, h.fwdDom, h.bwdDom⟩

theorem cleanBwd_swap (p : LinkPair) (aEx : Id → Bool) (id : Id) : p.cleanBwd aEx id = (p.swap.cleanFwd aEx id).swap := by
  rw [cleanBwd_eq, cleanFwd_eq]; rfl

theorem cleanBwd_drop_inv {p : LinkPair} {aEx bEx bEx' : Id → Bool} {id : Id} (hi : LinkInv p aEx bEx)
    (hb : ∀ j, bEx j = true → j ≠ id → bEx' j = true) :
    LinkInv { fwd := (p.cleanBwd aEx id).fwd, bwd := (p.cleanBwd aEx id).bwd.erase id } aEx bEx' := by
  rw [cleanBwd_swap]; exact (cleanFwd_drop_inv hi.swap hb).swap

/-- both loops done and both buckets of `id` dropped: left are the links among the others, provided each loop
    visits every bucket (other than `id`'s own) that holds `id` -/
theorem clean_erase_inv {p : LinkPair} {ex ex' : Id → Bool} {id : Id} (ks₁ ks₂ : List Id) (hi : LinkInv p ex ex)
    (he : ∀ j, ex j = true → j ≠ id → ex' j = true)
    (h₁ : ∀ j, j ≠ id → j ∈ (p.bwd.lookup id).getD [] → j ∈ ks₁)
    (h₂ : ∀ b, b ≠ id → b ∈ (p.fwd.lookup id).getD [] → b ∈ ks₂) :
    LinkInv ⟨(ks₁.foldl (cleanStep ex (setErase id)) p.fwd).erase id,
      (ks₂.foldl (cleanStep ex (setErase id)) p.bwd).erase id⟩ ex' ex' := by
  refine ⟨fun j b => ?_, Map.forall_lookup_erase _ fun b l hne hl => he b (dom_foldl_cleanStep _ hi.bwdDom b l hl) hne,
    Map.forall_lookup_erase _ fun j l hne hl => he j (dom_foldl_cleanStep _ hi.fwdDom j l hl) hne⟩
  have hs := hi.sym j b
  simp only [Map.lookup_erase]
  by_cases hj : j = id <;> by_cases hbb : b = id
  · simp [hj, hbb]
  · subst hj
    simp only [if_true, Option.getD_none, List.not_mem_nil, hbb, if_false, false_iff]
    rw [mem_foldl_cleanStep j _ hi.bwdDom]; exact fun ⟨h1, h2⟩ => h2 ⟨rfl, h₂ b hbb (hs.2 h1)⟩
  · subst hbb
    simp only [if_true, Option.getD_none, List.not_mem_nil, hj, if_false, iff_false]
    rw [mem_foldl_cleanStep b _ hi.fwdDom]; exact fun ⟨h1, h2⟩ => h2 ⟨rfl, h₁ j hj (hs.1 h1)⟩
  · simp only [hj, hbb, if_false]
    rw [mem_foldl_cleanStep id _ hi.fwdDom j b, mem_foldl_cleanStep id _ hi.bwdDom b j, hs]
    simp [hj, hbb]

/-- deleting an entity of a collection that links a store with itself through TWO symbols: both of
    its buckets are cleaned (`EntityDeleted` of either collection) and dropped -/
theorem cleanBoth_drop_inv {p : LinkPair} {ex ex' : Id → Bool} {id : Id} (hi : LinkInv p ex ex)
    (he : ∀ j, ex j = true → j ≠ id → ex' j = true) :
    LinkInv { fwd := ((p.cleanFwd ex id).cleanBwd ex id).fwd.erase id,
              bwd := ((p.cleanFwd ex id).cleanBwd ex id).bwd.erase id } ex' ex' := by
  rw [cleanBwd_eq, cleanFwd_eq]
  -- the second loop runs over the bucket the first has cleaned: `id` itself may be missing from it
  exact clean_erase_inv _ _ hi he (fun j hj h => (mem_foldl_cleanStep id _ hi.bwdDom id j).2 ⟨h, fun hh => hj hh.1⟩)
    fun _ _ h => h

end LinkPair

theorem LinkInv.fwd_target {p : LinkPair} {aEx bEx : Id → Bool} (h : LinkInv p aEx bEx) {j b : Id} {l : List Id}
    (hl : p.fwd.lookup j = some l) (hb : b ∈ l) : bEx b = true := by
  have h1 := (h.sym j b).1 (by simp [hl, hb])
  cases hm : p.bwd.lookup b with
  | none => simp [hm] at h1
  | some ms => exact h.bwdDom b ms hm

theorem LinkInv.bwd_source {p : LinkPair} {aEx bEx : Id → Bool} (h : LinkInv p aEx bEx) {j b : Id} {l : List Id}
    (hl : p.bwd.lookup b = some l) (hj : j ∈ l) : aEx j = true :=
  h.swap.fwd_target hl hj

/-- the count stored for `y` in the bucket of `x` -/
def cnt (m : Map Id Counts) (x y : Id) : Option Nat := ((m.lookup x).getD []).lookup y

theorem cnt_insert (m : Map Id Counts) (a : Id) (c : Counts) (x y : Id) :
    cnt (m.insert a c) x y = if x = a then c.lookup y else cnt m x y := by
  unfold cnt; rw [Map.lookup_insert]; split <;> rfl

/-- both sides hold the same count for every pair; buckets live only inside existing entities -/
structure RcInv (r : RcPair) (aEx bEx : Id → Bool) : Prop where
  agree : ∀ a b, cnt r.fwd a b = cnt r.bwd b a
  fwdDom : ∀ a c, r.fwd.lookup a = some c → aEx a = true
  bwdDom : ∀ b c, r.bwd.lookup b = some c → bEx b = true

theorem RcInv.empty (aEx bEx : Id → Bool) : RcInv RcPair.empty aEx bEx := by
  constructor <;> simp [RcPair.empty, cnt]

theorem RcInv.mono {r : RcPair} {aEx bEx aEx' bEx' : Id → Bool} (h : RcInv r aEx bEx)
    (ha : ∀ j, aEx j = true → aEx' j = true) (hb : ∀ j, bEx j = true → bEx' j = true) : RcInv r aEx' bEx' :=
  ⟨h.agree, fun a c hl => ha a (h.fwdDom a c hl), fun b c hl => hb b (h.bwdDom b c hl)⟩

def incVal : Option Nat → Nat
  | some v => v + 1
  | none => 1

def decVal : Option Nat → Option Nat
  | none => none
  | some v => if v - 1 > 0 then some (v - 1) else none

def decRes : Option Nat → Int
  | none => -1
  | some v => (v : Int) - 1

theorem lookup_bInc (c : Counts) (k k' : Id) :
    (bInc c k).1.lookup k' = if k' = k then some (incVal (c.lookup k)) else c.lookup k' := by
  unfold bInc incVal
  simp only [Map.lookup_insert]
  cases c.lookup k <;> rfl

theorem lookup_bDec (c : Counts) (k k' : Id) :
    (bDec c k).1.lookup k' = if k' = k then decVal (c.lookup k) else c.lookup k' := by
  unfold bDec decVal
  cases h : c.lookup k with
  | none => simp only; split
            · next hk => subst hk; exact h
            · rfl
  | some v =>
    simp only
    split
    · simp only [Map.lookup_insert]
    · simp only [Map.lookup_erase]

theorem snd_bDec (c : Counts) (k : Id) : (bDec c k).2 = decRes (c.lookup k) := by
  unfold bDec decRes
  cases c.lookup k with
  | none => rfl
  | some v => simp only; split <;> rfl

theorem lookup_bSet (c : Counts) (k k' : Id) (n : Nat) :
    (bSet c k n).lookup k' = if k' = k then (if n = 0 then none else some n) else c.lookup k' := by
  unfold bSet
  by_cases hn : n = 0
  · simp only [hn, if_true]
    cases h : (c.lookup k).isSome with
    | true => simp only [if_true, Map.lookup_erase]
    | false =>
      simp only [Bool.false_eq_true, if_false]
      split
      · next hk => subst hk; simpa using h
      · rfl
  · simp only [hn, if_false, Map.lookup_insert]

theorem agree_update {r : RcPair} (hag : ∀ a b, cnt r.fwd a b = cnt r.bwd b a) {a b : Id} {fa fb : Counts}
    {v : Option Nat} (hfa : ∀ y, fa.lookup y = if y = b then v else cnt r.fwd a y)
    (hfb : ∀ x, fb.lookup x = if x = a then v else cnt r.bwd b x) :
    ∀ a' b', cnt (r.fwd.insert a fa) a' b' = cnt (r.bwd.insert b fb) b' a' := by
  intro a' b'
  rw [cnt_insert, cnt_insert, hfa, hfb]
  by_cases h1 : a' = a <;> by_cases h2 : b' = b <;> simp [h1, h2, hag]

theorem cnt_touch (m : Map Id Counts) (a : Id) (x y : Id) :
    cnt (m.insert a ((m.lookup a).getD [])) x y = cnt m x y := by
  unfold cnt; rw [getD_touch]

namespace RcPair

theorem inc_pres {r r' : RcPair} {aEx bEx : Id → Bool} {a b : Id} (hi : RcInv r aEx bEx)
    (h : r.inc aEx bEx a b = .ok r') : RcInv r' aEx bEx := by
  unfold inc at h
  obtain ⟨ha, h⟩ := guard_ok h
  obtain ⟨hb, h⟩ := guard_ok h
  obtain ⟨_, h⟩ := guard_ok h
  cases h
  refine ⟨?_, Map.forall_lookup_insert (by simpa using ha) hi.fwdDom, Map.forall_lookup_insert (by simpa using hb) hi.bwdDom⟩
  apply agree_update hi.agree (v := some (incVal (cnt r.fwd a b)))
  · intro y; rw [lookup_bInc]; rfl
  · intro x; rw [lookup_bInc, hi.agree]; rfl

theorem set_pres {r r' : RcPair} {aEx bEx : Id → Bool} {a b : Id} {n : Nat} (hi : RcInv r aEx bEx)
    (h : r.set aEx bEx a b n = .ok r') : RcInv r' aEx bEx := by
  unfold set at h
  obtain ⟨ha, h⟩ := guard_ok h
  obtain ⟨hb, h⟩ := guard_ok h
  cases h
  refine ⟨?_, Map.forall_lookup_insert (by simpa using ha) hi.fwdDom, Map.forall_lookup_insert (by simpa using hb) hi.bwdDom⟩
  apply agree_update hi.agree (v := if n = 0 then none else some n)
  · intro y; rw [lookup_bSet]; rfl
  · intro x; rw [lookup_bSet]; rfl

theorem cnt_cleanStep {ex : Id → Bool} {f : Counts → Counts} {m : Map Id Counts}
    (hdom : ∀ b c, m.lookup b = some c → ex b = true) (hd : f [] = []) (k x y : Id) :
    cnt (cleanStep ex f m k) x y = cnt (m.insert k (f ((m.lookup k).getD []))) x y := by
  unfold cnt; rw [getD_cleanStep hdom hd]

/-- an accepted `dec`, the two comparisons of the answers left out -/
theorem dec_ok {r r' : RcPair} {aEx bEx : Id → Bool} {a b : Id} (h : r.dec aEx bEx a b = .ok r') :
    aEx a = true ∧ r' = ⟨r.fwd.insert a (bDec ((r.fwd.lookup a).getD []) b).1,
      cleanStep bEx (fun c => (bDec c a).1) r.bwd b⟩ := by
  unfold dec at h
  obtain ⟨ha, h⟩ := guard_ok h
  refine ⟨by simpa using ha, ?_⟩
  unfold cleanStep
  simp only at h
  cases hb : bEx b <;> cases hl : r.bwd.lookup b <;> simp only [hb, hl] at h ⊢ <;> split at h <;> cases h <;> rfl

/-- both sides have the entry, or neither: the two decrements agree -/
theorem dec_pres {r r' : RcPair} {aEx bEx : Id → Bool} {a b : Id} (hi : RcInv r aEx bEx)
    (h : r.dec aEx bEx a b = .ok r') : RcInv r' aEx bEx := by
  obtain ⟨ha, rfl⟩ := dec_ok h
  refine ⟨fun a' b' => ?_, Map.forall_lookup_insert ha hi.fwdDom, dom_cleanStep hi.bwdDom b⟩
  show _ = cnt (cleanStep _ _ r.bwd b) b' a'
  rw [cnt_cleanStep hi.bwdDom rfl]
  revert a' b'
  apply agree_update hi.agree (v := decVal (cnt r.fwd a b))
  · intro y; rw [lookup_bDec]; rfl
  · intro x; rw [lookup_bDec, hi.agree]; rfl

theorem erase_idem (id : Id) (c : Counts) : Map.erase (Map.erase c id) id = Map.erase c id := by
  simp [Map.erase, List.filter_filter]

theorem cnt_erase (m : Map Id Counts) (id x y : Id) : cnt (m.erase id) x y = if x = id then none else cnt m x y := by
  unfold cnt; rw [Map.lookup_erase]; split <;> rfl

theorem cnt_foldl_cleanStep {ex : Id → Bool} {m : Map Id Counts} (id : Id) (ks : List Id)
    (hdom : ∀ b c, m.lookup b = some c → ex b = true) (b j : Id) :
    cnt (ks.foldl (cleanStep ex (fun c => Map.erase c id)) m) b j = if j = id ∧ b ∈ ks then none else cnt m b j := by
  unfold cnt
  rw [getD_foldl_cleanStep (erase_idem id) rfl ks hdom]
  split <;> simp [*]

theorem cleanFwd_eq (r : RcPair) (bEx : Id → Bool) (id : Id) :
    r.cleanFwd bEx id =
      { r with bwd := (Map.keys ((r.fwd.lookup id).getD [])).foldl (cleanStep bEx (fun c => Map.erase c id)) r.bwd } :=
  List.foldl_hom (fun m => ({ r with bwd := m } : RcPair)) fun m k => by
    unfold cleanFwdStep cleanStep; cases bEx k <;> cases m.lookup k <;> rfl

theorem cleanBwd_eq (r : RcPair) (aEx : Id → Bool) (id : Id) :
    r.cleanBwd aEx id =
      { r with fwd := (Map.keys ((r.bwd.lookup id).getD [])).foldl (cleanStep aEx (fun c => Map.erase c id)) r.fwd } :=
  List.foldl_hom (fun m => ({ r with fwd := m } : RcPair)) fun m k => by
    unfold cleanBwdStep cleanStep; cases aEx k <;> cases m.lookup k <;> rfl

theorem cleanFwd_drop_inv {r : RcPair} {aEx bEx aEx' : Id → Bool} {id : Id} (hi : RcInv r aEx bEx)
    (ha : ∀ j, aEx j = true → j ≠ id → aEx' j = true) :
    RcInv { fwd := (r.cleanFwd bEx id).fwd.erase id, bwd := (r.cleanFwd bEx id).bwd } aEx' bEx := by
  rw [cleanFwd_eq]
  refine ⟨fun a b => ?_, Map.forall_lookup_erase _ fun a c hne hl => ha a (hi.fwdDom a c hl) hne,
    dom_foldl_cleanStep _ hi.bwdDom⟩
  · show cnt (r.fwd.erase id) a b = _
    rw [cnt_foldl_cleanStep id _ hi.bwdDom, ← hi.agree a b, cnt_erase]
    by_cases hj : a = id
    · subst hj
      by_cases hk : b ∈ Map.keys ((r.fwd.lookup a).getD [])
      · simp [hk]
      · rw [if_pos rfl, if_neg fun h => hk h.2]
        rw [Map.mem_keys_iff] at hk
        unfold cnt
        cases hl : ((r.fwd.lookup a).getD []).lookup b with
        | none => rfl
        | some v => simp [hl] at hk
    · simp [hj]

def swap (r : RcPair) : RcPair := ⟨r.bwd, r.fwd⟩

theorem _root_.StorageModel.C06.RcInv.swap {r : RcPair} {aEx bEx : Id → Bool} (h : RcInv r aEx bEx) :
    RcInv r.swap bEx aEx := ⟨fun b a => (h.agree a b).symm, h.bwdDom, h.fwdDom⟩

theorem cleanBwd_swap (r : RcPair) (aEx : Id → Bool) (id : Id) : r.cleanBwd aEx id = (r.swap.cleanFwd aEx id).swap := by
  rw [cleanBwd_eq, cleanFwd_eq]; rfl

theorem cleanBwd_drop_inv {r : RcPair} {aEx bEx bEx' : Id → Bool} {id : Id} (hi : RcInv r aEx bEx)
    (hb : ∀ j, bEx j = true → j ≠ id → bEx' j = true) :
    RcInv { fwd := (r.cleanBwd aEx id).fwd, bwd := (r.cleanBwd aEx id).bwd.erase id } aEx bEx' := by
  rw [cleanBwd_swap]; exact (cleanFwd_drop_inv hi.swap hb).swap

end RcPair

theorem RcInv.fwd_target {r : RcPair} {aEx bEx : Id → Bool} (h : RcInv r aEx bEx) {a b : Id} {c : Counts} {n : Nat}
    (hc : r.fwd.lookup a = some c) (hn : c.lookup b = some n) : bEx b = true := by
  have h1 : cnt r.bwd b a = some n := by rw [← h.agree]; simp [cnt, hc, hn]
  cases hm : r.bwd.lookup b with
  | none => simp [cnt, hm] at h1
  | some cb => exact h.bwdDom b cb hm

theorem RcInv.bwd_source {r : RcPair} {aEx bEx : Id → Bool} (h : RcInv r aEx bEx) {a b : Id} {c : Counts} {n : Nat}
    (hc : r.bwd.lookup b = some c) (hn : c.lookup a = some n) : aEx a = true :=
  h.swap.fwd_target hc hn

structure SelfInv (m : SelfMap) (ex : Id → Bool) : Prop where
  sym : ∀ a b, b ∈ (m.lookup a).getD [] ↔ a ∈ (m.lookup b).getD []
  dom : ∀ a l, m.lookup a = some l → ex a = true

theorem SelfInv.empty (ex : Id → Bool) : SelfInv ([] : SelfMap) ex := by constructor <;> simp

theorem SelfInv.mono {m : SelfMap} {ex ex' : Id → Bool} (h : SelfInv m ex) (he : ∀ j, ex j = true → ex' j = true) :
    SelfInv m ex' := ⟨h.sym, fun a l hl => he a (h.dom a l hl)⟩

/-- the one family of buckets is both sides of a collection; only the operations differ (they read what they wrote) -/
theorem SelfInv.pair {m : SelfMap} {ex : Id → Bool} (h : SelfInv m ex) : LinkInv ⟨m, m⟩ ex ex := ⟨h.sym, h.dom, h.dom⟩

theorem SelfInv.member {m : SelfMap} {ex : Id → Bool} (h : SelfInv m ex) {a b : Id} {l : List Id}
    (hl : m.lookup a = some l) (hb : b ∈ l) : ex b = true :=
  h.pair.fwd_target hl hb

theorem selfUnlink_eq (m : SelfMap) (ex : Id → Bool) (a b : Id) :
    selfUnlink m ex a b = cleanStep ex (setErase a) (m.insert a (setErase b ((m.lookup a).getD []))) b := by
  unfold selfUnlink cleanStep; simp only; cases ex b <;> cases Map.lookup _ b <;> rfl

theorem mem_selfUnlink {m : SelfMap} {ex : Id → Bool} {a b : Id} (hdom : ∀ x l, m.lookup x = some l → ex x = true)
    (ha : ex a = true) (x j : Id) :
    j ∈ ((selfUnlink m ex a b).lookup x).getD [] ↔
      j ∈ (m.lookup x).getD [] ∧ ¬ (x = a ∧ j = b) ∧ ¬ (j = a ∧ x = b) := by
  rw [selfUnlink_eq, mem_cleanStep (Map.forall_lookup_insert ha hdom), mem_bucket_erase, and_assoc, @and_comm (x = b)]

theorem selfUnlink_pres {m : SelfMap} {ex : Id → Bool} {a b : Id} (hi : SelfInv m ex) (ha : ex a = true) :
    SelfInv (selfUnlink m ex a b) ex := by
  refine ⟨fun j b' => ?_, ?_⟩
  · rw [mem_selfUnlink hi.dom ha, mem_selfUnlink hi.dom ha, hi.sym j b']
    exact and_congr_right fun _ => and_comm
  · rw [selfUnlink_eq]; exact dom_cleanStep (Map.forall_lookup_insert ha hi.dom) b

theorem mem_selfLink {m m' : SelfMap} {ex : Id → Bool} {a b : Id} (h : selfLink m ex a b = .ok m') (x j : Id) :
    j ∈ (m'.lookup x).getD [] ↔ j ∈ (m.lookup x).getD [] ∨ (x = a ∧ j = b) ∨ (j = a ∧ x = b) := by
  unfold selfLink at h
  simp only at h
  split at h
  · cases h; rw [mem_bucket_insert, mem_bucket_insert, or_assoc, @and_comm (x = b)]
  · cases h

theorem selfLink_pres {m m' : SelfMap} {ex : Id → Bool} {a b : Id} (hi : SelfInv m ex) (ha : ex a = true)
    (h : selfLink m ex a b = .ok m') : SelfInv m' ex := by
  refine ⟨fun j b' => ?_, ?_⟩
  · rw [mem_selfLink h, mem_selfLink h, hi.sym j b']
    exact or_congr_right or_comm
  · unfold selfLink at h
    simp only at h
    split at h
    · next hb => cases h; exact Map.forall_lookup_insert hb (Map.forall_lookup_insert ha hi.dom)
    · cases h

theorem selfTouch_pres {m : SelfMap} {ex : Id → Bool} {a : Id} (hi : SelfInv m ex) (ha : ex a = true) :
    SelfInv (selfTouch m a) ex :=
  ⟨fun j b => by unfold selfTouch; rw [getD_touch, getD_touch, hi.sym j b], Map.forall_lookup_insert ha hi.dom⟩

theorem selfUnlink_fold_pres {ex : Id → Bool} (a : Id) (ks : List Id) {m : SelfMap} (hi : SelfInv m ex) (ha : ex a = true) :
    SelfInv (ks.foldl (fun m k => selfUnlink m ex a k) m) ex :=
  List.foldlRecOn (motive := fun m => SelfInv m ex) ks _ hi fun _ hm _ _ => selfUnlink_pres hm ha

theorem selfLinkAll_pres {ex : Id → Bool} (a : Id) (ks : List Id) {m m' : SelfMap} (hi : SelfInv m ex) (ha : ex a = true)
    (h : selfLinkAll ex a ks m = .ok m') : SelfInv m' ex := by
  induction ks generalizing m with
  | nil => simp only [selfLinkAll] at h; cases h; exact hi
  | cons k rest ih =>
    simp only [selfLinkAll] at h
    cases hk : selfLink m ex a k with
    | error e => simp [hk] at h
    | ok m1 => simp only [hk] at h; exact ih (selfLink_pres hi ha hk) h

theorem selfAdd_pres {m m' : SelfMap} {ex : Id → Bool} {a : Id} {ks : List Id} (hi : SelfInv m ex)
    (h : selfAdd m ex a ks = .ok m') : SelfInv m' ex := by
  obtain ⟨ha, h⟩ := guard_ok h
  have ha : ex a = true := by simpa using ha
  exact selfLinkAll_pres a ks (selfTouch_pres hi ha) ha h

theorem selfRemove_pres {m m' : SelfMap} {ex : Id → Bool} {a : Id} {ks : List Id} (hi : SelfInv m ex)
    (h : selfRemove m ex a ks = .ok m') : SelfInv m' ex := by
  obtain ⟨ha, h⟩ := guard_ok h
  have ha : ex a = true := by simpa using ha
  cases h; exact selfUnlink_fold_pres a ks (selfTouch_pres hi ha) ha

theorem selfSet_pres {m m' : SelfMap} {ex : Id → Bool} {a : Id} {req : List Id} (hi : SelfInv m ex)
    (h : selfSet m ex a req = .ok m') : SelfInv m' ex := by
  obtain ⟨ha, h⟩ := guard_ok h
  have ha : ex a = true := by simpa using ha
  exact selfLinkAll_pres a _ (selfUnlink_fold_pres a _ (selfTouch_pres hi ha) ha) ha h

theorem selfClean_drop_inv {m : SelfMap} {ex ex' : Id → Bool} {id : Id} (hi : SelfInv m ex)
    (he : ∀ j, ex j = true → j ≠ id → ex' j = true) : SelfInv ((selfClean m ex id).erase id) ex' := by
  have hstep : selfCleanStep ex id = cleanStep ex (setErase id) := by
    funext m k; unfold selfCleanStep cleanStep; cases ex k <;> cases m.lookup k <;> rfl
  unfold selfClean
  rw [hstep]
  have h := LinkPair.clean_erase_inv _ _ hi.pair he (fun _ _ h => h) fun _ _ h => h
  exact ⟨h.sym, h.fwdDom⟩
end StorageModel.C06
