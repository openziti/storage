import StorageModel.Base.Lists
import StorageModel.C06.Inv
/-
  C06: the cascading delete terminates within its fuel.  Running out of fuel is reported as `panic` (the
  stack overflow of the code before fix bda5470).  Entities only disappear during a delete, so every entity
  marked as in progress is one of the table `m0` the outermost delete started from: with a fuel larger than
  the number of entities of `m0` not in progress `deleteA` never answers `panic`, hence neither does
  `deleteATop`, which supplies `|A| + 1`.
-/
namespace StorageModel.C06
open StorageModel
open StorageModel.C03 (Map Id Err setBeforeDelete)

/-- the number of entities whose delete is not in progress -/
def liveCnt (busy : List Id) (m : Map Id EntA) : Nat := (m.filter (fun p => !busy.contains p.1)).length

theorem liveCnt_le_length (busy : List Id) (m : Map Id EntA) : liveCnt busy m ≤ m.length :=
  List.length_filter_le _ _

theorem liveCnt_mark {busy : List Id} {m : Map Id EntA} {id : Id} (hl : (m.lookup id).isSome = true)
    (hn : id ∉ busy) : liveCnt (markBusy busy id) m < liveCnt busy m := by
  obtain ⟨x, hx, rfl⟩ := List.mem_map.1 ((Map.mem_keys_iff m id).2 hl)
  unfold liveCnt
  refine List.length_filter_lt_of_imp (fun y hy => ?_) hx ?_ ?_
  · simp only [Bool.not_eq_true', List.contains_eq_mem, decide_eq_false_iff_not] at hy ⊢
    exact fun hm => hy ((mem_markBusy busy x.1 y.1).2 (Or.inr hm))
  · simpa using hn
  · have : x.1 ∈ markBusy busy x.1 := (mem_markBusy busy x.1 x.1).2 (Or.inl rfl)
    simpa using this

theorem beforeDeleteA_noPanic {s : State} {id : Id} (h : [] ∉ evRoles (s.a.lookup id)) :
    beforeDeleteA s id ≠ .error .panic := by
  unfold beforeDeleteA
  refine bind_noPanic ?_ fun sr _ => ?_
  · rw [C03.setBeforeDelete_eq h]; nofun
  · unfold fkBeforeDelete backrefDel
    split
    · split <;> nofun
    · nofun

theorem chiefCheck_noPanic {s : State} {id : Id} : chiefCheck s id ≠ .error .panic := by
  rcases chiefCheck_cases s id with ⟨h, -⟩ | ⟨h, -⟩ <;> rw [h] <;> nofun

/-- in the delete proper only `setBeforeDelete` of `roles` can answer `panic`, and only over an empty role -/
theorem deleteA0_noPanic {s : State} {id : Id} {e : EntA} (hold : s.a.lookup id = some e) (hr : [] ∉ e.roles) :
    deleteA0 s id ≠ .error .panic := by
  have round : ∀ {t : State}, t.a = s.a → beforeDeleteA t id ≠ .error .panic := fun ht =>
    beforeDeleteA_noPanic (by rw [ht, hold]; exact hr)
  unfold deleteA0 deleteA0Tail
  split
  · nofun
  · simp only [hold]
    cases e.code with
    | none =>
      simp only [Option.isSome_none, Bool.false_eq_true, if_false, pure_bind]
      exact bind_noPanic (round rfl) fun tx htx =>
        bind_noPanic (round (show tx.a = s.a from beforeDeleteA_a htx)) fun _ _ => nofun
    | some c =>
      simp only [Option.isSome_some, if_true, bind_assoc, pure_bind]
      exact bind_noPanic (round rfl) fun t ht =>
        bind_noPanic (round (show t.a = s.a from beforeDeleteA_a ht)) fun tx htx =>
          bind_noPanic (round (show tx.a = s.a from (beforeDeleteA_a htx).trans (show t.a = s.a from beforeDeleteA_a ht)))
            fun _ _ => nofun

theorem cascadeLoop_noPanic {del : State → Id → Except Err State} {busy : List Id} {m0 : Map Id EntA}
    (hd : ∀ s j s', InvCore s → BossOK busy s → del s j = .ok s' → DelPost busy s s' j)
    (hnp : ∀ s j, InvCore s → BossOK busy s → j ∉ busy → (∀ k e, s.a.lookup k = some e → (m0.lookup k).isSome = true) →
      del s j ≠ .error .panic)
    (l : List Id) {s : State} (hi : InvCore s) (hb : BossOK busy s)
    (hs : ∀ k e, s.a.lookup k = some e → (m0.lookup k).isSome = true) : cascadeLoop del busy l s ≠ .error .panic := by
  induction l generalizing s with
  | nil => simp [cascadeLoop]
  | cons j rest ih =>
    rw [cascadeLoop_cons]
    split
    · exact ih hi hb hs
    · next hskip =>
      refine bind_noPanic (hnp s j hi hb (fun hm => hskip (Or.inl hm)) hs) fun s1 hdj => ?_
      have p := hd s j s1 hi hb hdj
      exact ih p.core p.boss fun k e hk => hs k e (p.sub k e hk)

theorem deleteA_noPanic {m0 : Map Id EntA} (fuel : Nat) : ∀ (busy : List Id) (s : State) (id : Id), InvCore s → BossOK busy s →
    id ∉ busy → (∀ k e, s.a.lookup k = some e → (m0.lookup k).isSome = true) → liveCnt busy m0 < fuel →
    deleteA fuel busy s id ≠ .error .panic := by
  induction fuel with
  | zero => intro busy s id _ _ _ _ h; omega
  | succ fuel ih =>
    intro busy s id hi hb hnb hs hc
    by_cases hid : id = []
    · unfold deleteA; simp [hid]
    cases hold : s.a.lookup id with
    | none => unfold deleteA; simp [hid, hold]
    | some e =>
      -- every nested delete starts with one more entity of `m0` in progress
      have hc' : liveCnt (markBusy busy id) m0 < fuel := by
        have := liveCnt_mark (hs id e hold) hnb
        omega
      rw [deleteA_eq (deleteA_spec fuel) hi hb hid hold]
      refine bind_noPanic chiefCheck_noPanic fun _ _ => bind_noPanic ?_ fun s0 hcb => ?_
      · unfold cascadeBoss
        exact cascadeLoop_noPanic (deleteA_spec fuel _) (fun t j ht hbt hj hst => ih _ t j ht hbt hj hst hc') _ hi (hb.mark id) hs
      · exact deleteA0_noPanic ((cascadeBoss_spec (deleteA_spec fuel) hi hb hcb).2.1.trans hold) (hi.rolesNonEmpty id e hold)

theorem deleteATop_noPanic {s : State} (id : Id) (hi : InvCore s) (hb : BossOK [] s) :
    deleteATop s id ≠ .error .panic :=
  deleteA_noPanic _ [] s id hi hb (by simp) (fun k e hk => by rw [hk]; rfl) (Nat.lt_succ_of_le (liveCnt_le_length [] s.a))

end StorageModel.C06
