import StorageModel.C03.Model
/-
  C06 engine model: the universe that combines every index / constraint / link kind with
  parent / child layering (see /verif/harness/c06.go for the wiring):

    store A "things":  name (unique), alias (nullable unique), roles (set index),
                       owner (nullable fk index → B.things), dep (nullable fk constraint → B,
                       cascade delete), boss (nullable fk constraint → A itself, cascade delete:
                       deleting an entity deletes its transitive referrers, cycles included),
                       chief (nullable fk constraint → A itself, RESTRICT: an entity some `chief` names —
                       its own included — cannot be deleted),
                       groups (link collection ↔ B.members), rcB (ref-counted link collection ↔ B.rcA),
                       peers (link collection of A WITH ITSELF through one symbol), mentors ↔ mentees
                       (link collection of A with itself through two symbols)
    store A1:          plain child of A (`ext1`), code (unique, non-nullable),
                       pals (link collection owned by the CHILD store ↔ B.palsOf)
    store A2:          EXTENDED child of A (`ext2`), colour (nullable unique index of its own);
                       creates, updates and deletes through it
    store B "owners":  label (nullable unique), things (back-references), members / palsOf / rcA

  Follows boltz/store_crud.go (Create / Update / DeleteById / processDeleteConstraints /
  cleanupLinks), boltz/indexes.go (uniqueIndex, setIndex, fkIndex, fkDeleteConstraint,
  fkConstraint, fkDeleteCascadeConstraint), boltz/link_collection.go and
  boltz/link_collection_rc.go.  Unique / set index steps are the ones of the C03 model.

  Every bucket is an explicit map.  Link, ref-count and back-reference buckets live in maps of
  their own keyed by the owning entity's id; `lookup = none` means the bucket does not exist.
-/
namespace StorageModel.C06
open StorageModel
open StorageModel.C03 (Map Id Err setInsert setErase setOf uniqueAfter uniqueBeforeDelete setAfter setBeforeDelete
  Line typed nilField bU bIndexes bThings bName bAlias bRoles)

/-! ### a plain link collection: two families of list buckets -/

structure LinkPair where
  /-- owner id (declaring side) → keys of its link bucket -/
  fwd : Map Id (List Id)
  /-- other side's id → keys of its link bucket -/
  bwd : Map Id (List Id)
  deriving Repr

namespace LinkPair

def empty : LinkPair := ⟨[], []⟩

/-- `unlink`: local `DeleteListEntry`, then `otherField.RemoveLink` (silently nothing when the
    other entity or its bucket is missing) -/
def unlink (p : LinkPair) (bEx : Id → Bool) (a b : Id) : LinkPair :=
  let p1 := { p with fwd := p.fwd.insert a (setErase b ((p.fwd.lookup a).getD [])) }
  match bEx b, p1.bwd.lookup b with
  | true, some ms => { p1 with bwd := p1.bwd.insert b (setErase a ms) }
  | _, _ => p1

/-- `link`: local `SetListEntry`, then `otherField.AddLink` (not-found when the other entity is missing) -/
def link (p : LinkPair) (bEx : Id → Bool) (a b : Id) : Except Err LinkPair :=
  let p1 := { p with fwd := p.fwd.insert a (setInsert b ((p.fwd.lookup a).getD [])) }
  if bEx b then .ok { p1 with bwd := p1.bwd.insert b (setInsert a ((p1.bwd.lookup b).getD [])) }
  else .error .notFound

def linkAll (bEx : Id → Bool) (a : Id) : List Id → LinkPair → Except Err LinkPair
  | [], p => .ok p
  | b :: rest, p => match p.link bEx a b with
    | .ok p' => linkAll bEx a rest p'
    | .error e => .error e

/-- `SetLinks` by its effect: entries not requested are removed, requested ones not yet present
    are added (removals first); the sorted-merge loop itself is C05's subject -/
def setLinks (p : LinkPair) (bEx : Id → Bool) (a : Id) (req : List Id) : Except Err LinkPair :=
  let cur := (p.fwd.lookup a).getD []
  let want := setOf req
  let toRemove := cur.filter (fun k => !want.contains k)
  let toAdd := want.filter (fun k => !cur.contains k)
  -- getFieldBucket creates the bucket
  let p0 := { p with fwd := p.fwd.insert a cur }
  linkAll bEx a toAdd (toRemove.foldl (fun p k => p.unlink bEx a k) p0)

/-- one step of `EntityDeleted` for the owner of a `fwd` bucket -/
def cleanFwdStep (bEx : Id → Bool) (id : Id) (p : LinkPair) (b : Id) : LinkPair :=
  match bEx b, p.bwd.lookup b with
  | true, some ms => { p with bwd := p.bwd.insert b (setErase id ms) }
  | _, _ => p

/-- `EntityDeleted` on the declaring side: the other side of every link is removed; the local
    bucket goes with the entity -/
def cleanFwd (p : LinkPair) (bEx : Id → Bool) (id : Id) : LinkPair :=
  ((p.fwd.lookup id).getD []).foldl (cleanFwdStep bEx id) p

def cleanBwdStep (aEx : Id → Bool) (id : Id) (p : LinkPair) (a : Id) : LinkPair :=
  match aEx a, p.fwd.lookup a with
  | true, some gs => { p with fwd := p.fwd.insert a (setErase id gs) }
  | _, _ => p

/-- `EntityDeleted` of the collection declared by the other store -/
def cleanBwd (p : LinkPair) (aEx : Id → Bool) (id : Id) : LinkPair :=
  ((p.bwd.lookup id).getD []).foldl (cleanBwdStep aEx id) p

end LinkPair

/-! ### a link collection of a store WITH ITSELF through one symbol (`AddLinkCollection(sym, sym)`):
    one family of list buckets; both ends of a link are written into it -/

abbrev SelfMap := Map Id (List Id)

/-- `unlink`: local `DeleteListEntry`, then `otherField.RemoveLink` — on the same family of buckets -/
def selfUnlink (m : SelfMap) (ex : Id → Bool) (a b : Id) : SelfMap :=
  let m1 := m.insert a (setErase b ((m.lookup a).getD []))
  match ex b, m1.lookup b with
  | true, some ms => m1.insert b (setErase a ms)
  | _, _ => m1

/-- `link`: local `SetListEntry`, then `otherField.AddLink` (not-found when the other entity is missing) -/
def selfLink (m : SelfMap) (ex : Id → Bool) (a b : Id) : Except Err SelfMap :=
  let m1 := m.insert a (setInsert b ((m.lookup a).getD []))
  if ex b then .ok (m1.insert b (setInsert a ((m1.lookup b).getD []))) else .error .notFound

def selfLinkAll (ex : Id → Bool) (a : Id) : List Id → SelfMap → Except Err SelfMap
  | [], m => .ok m
  | b :: rest, m => match selfLink m ex a b with
    | .ok m' => selfLinkAll ex a rest m'
    | .error e => .error e

/-- `getFieldBucket`: the link bucket of the entity is created -/
def selfTouch (m : SelfMap) (a : Id) : SelfMap := m.insert a ((m.lookup a).getD [])

/-- `AddLinks(id, keys…)` -/
def selfAdd (m : SelfMap) (ex : Id → Bool) (a : Id) (ks : List Id) : Except Err SelfMap :=
  if !ex a then .error .other else selfLinkAll ex a ks (selfTouch m a)

/-- `RemoveLinks(id, keys…)` -/
def selfRemove (m : SelfMap) (ex : Id → Bool) (a : Id) (ks : List Id) : Except Err SelfMap :=
  if !ex a then .error .other else .ok (ks.foldl (fun m k => selfUnlink m ex a k) (selfTouch m a))

/-- `SetLinks(id, keys)` by its effect (removals first) -/
def selfSet (m : SelfMap) (ex : Id → Bool) (a : Id) (req : List Id) : Except Err SelfMap :=
  if !ex a then .error .other
  else
    let cur := (m.lookup a).getD []
    let want := setOf req
    let toRemove := cur.filter (fun k => !want.contains k)
    let toAdd := want.filter (fun k => !cur.contains k)
    selfLinkAll ex a toAdd (toRemove.foldl (fun m k => selfUnlink m ex a k) (selfTouch m a))

def selfCleanStep (ex : Id → Bool) (id : Id) (m : SelfMap) (k : Id) : SelfMap :=
  match ex k, m.lookup k with
  | true, some ms => m.insert k (setErase id ms)
  | _, _ => m

/-- `EntityDeleted`: the keys of the entity's bucket are collected first (fix b23d525), then the id is
    removed from the bucket of each of them — its own included when the entity is linked to itself -/
def selfClean (m : SelfMap) (ex : Id → Bool) (id : Id) : SelfMap :=
  ((m.lookup id).getD []).foldl (selfCleanStep ex id) m

/-! ### a ref-counted link collection: two families of count buckets -/

abbrev Counts := Map Id Nat

/-- `TypedBucket.IncrementLinkCount` -/
def bInc (c : Counts) (k : Id) : Counts × Int :=
  let n := match c.lookup k with
    | some v => v + 1
    | none => 1
  (c.insert k n, n)

/-- `TypedBucket.DecrementLinkCount`: -1 when there is no entry; the entry goes when the count
    reaches zero -/
def bDec (c : Counts) (k : Id) : Counts × Int :=
  match c.lookup k with
  | none => (c, -1)
  | some v => if v - 1 > 0 then (c.insert k (v - 1), (v : Int) - 1) else (c.erase k, (v : Int) - 1)

/-- `TypedBucket.SetLinkCount` (counts ≥ 0) -/
def bSet (c : Counts) (k : Id) (n : Nat) : Counts :=
  if n = 0 then (if (c.lookup k).isSome then c.erase k else c) else c.insert k n

structure RcPair where
  fwd : Map Id Counts
  bwd : Map Id Counts
  deriving Repr

namespace RcPair

def empty : RcPair := ⟨[], []⟩

/-- `IncrementLinkCount(a, b)` on the declaring side's collection -/
def inc (r : RcPair) (aEx bEx : Id → Bool) (a b : Id) : Except Err RcPair :=
  if !aEx a then .error .other                                    -- "… not found with id …"
  else
    let x := bInc ((r.fwd.lookup a).getD []) b
    let r1 := { r with fwd := r.fwd.insert a x.1 }
    if !bEx b then .error .notFound
    else
      let y := bInc ((r1.bwd.lookup b).getD []) a
      if x.2 ≠ y.2 then .error .other                             -- "unexpected mismatch …"
      else .ok { r1 with bwd := r1.bwd.insert b y.1 }

def dec (r : RcPair) (aEx bEx : Id → Bool) (a b : Id) : Except Err RcPair :=
  if !aEx a then .error .other
  else
    let x := bDec ((r.fwd.lookup a).getD []) b
    let r1 := { r with fwd := r.fwd.insert a x.1 }
    match bEx b, r1.bwd.lookup b with
    | true, some cb =>
      let y := bDec cb a
      if x.2 ≠ y.2 then .error .other else .ok { r1 with bwd := r1.bwd.insert b y.1 }
    | _, _ => if x.2 ≠ -1 then .error .other else .ok r1

def set (r : RcPair) (aEx bEx : Id → Bool) (a b : Id) (n : Nat) : Except Err RcPair :=
  if !aEx a then .error .other
  else
    let r1 := { r with fwd := r.fwd.insert a (bSet ((r.fwd.lookup a).getD []) b n) }
    if !bEx b then .error .notFound
    else .ok { r1 with bwd := r1.bwd.insert b (bSet ((r1.bwd.lookup b).getD []) a n) }

/-- `RefCountedLinkedSetSymbol.unlink`, for every key of the deleted entity's bucket -/
def cleanFwdStep (bEx : Id → Bool) (id : Id) (r : RcPair) (b : Id) : RcPair :=
  match bEx b, r.bwd.lookup b with
  | true, some cb => { r with bwd := r.bwd.insert b (cb.erase id) }
  | _, _ => r

def cleanFwd (r : RcPair) (bEx : Id → Bool) (id : Id) : RcPair :=
  (Map.keys ((r.fwd.lookup id).getD [])).foldl (cleanFwdStep bEx id) r

def cleanBwdStep (aEx : Id → Bool) (id : Id) (r : RcPair) (a : Id) : RcPair :=
  match aEx a, r.fwd.lookup a with
  | true, some ca => { r with fwd := r.fwd.insert a (ca.erase id) }
  | _, _ => r

def cleanBwd (r : RcPair) (aEx : Id → Bool) (id : Id) : RcPair :=
  (Map.keys ((r.bwd.lookup id).getD [])).foldl (cleanBwdStep aEx id) r

end RcPair

/-! ### entities and state -/

/-- an A entity's own fields (`u/things/<id>`), plus the child-store data -/
structure EntA where
  name : Bytes
  alias : Option Bytes
  roles : List Bytes
  owner : Option Bytes
  dep : Option Bytes
  /-- self reference (fk constraint → A, cascade delete) -/
  boss : Option Bytes
  /-- self reference (fk constraint → A, RESTRICT: `CascadeNone`) -/
  chief : Option Bytes
  /-- `ext1/code` (`none`: the entity has no child-store data) -/
  code : Option Bytes
  /-- `ext2/colour` (`none`: no data of the extended child store) -/
  colour : Option Bytes
  deriving DecidableEq, Repr

structure EntB where
  label : Option Bytes
  deriving DecidableEq, Repr

structure State where
  hasA : Bool
  hasB : Bool
  a : Map Id EntA
  b : Map Id EntB
  /-- A.groups ↔ B.members -/
  g : LinkPair
  /-- A1.pals (inside `ext1`) ↔ B.palsOf -/
  p : LinkPair
  /-- A.rcB ↔ B.rcA -/
  rc : RcPair
  /-- B id → keys of its `things` bucket (back-references of A.owner) -/
  thg : Map Id (List Id)
  uName : Map Bytes Id
  uAlias : Map Bytes Id
  uCode : Map Bytes Id
  uLabel : Map Bytes Id
  sRoles : Map Bytes (List Id)
  /-- `u/indexes/things/colour`: the extended child store's own unique index -/
  uColour : Map Bytes Id
  /-- A.peers ↔ A.peers: store A linked with itself through one symbol -/
  pe : SelfMap
  /-- A.mentors ↔ A.mentees: store A linked with itself through two symbols -/
  mt : LinkPair
  deriving Repr

def State.empty : State := ⟨false, false, [], [], .empty, .empty, .empty, [], [], [], [], [], [], [], [], .empty⟩

/-- the entity exists in store A / B / has child-store data -/
def State.aEx (s : State) (j : Id) : Bool := (s.a.lookup j).isSome
def State.bEx (s : State) (j : Id) : Bool := (s.b.lookup j).isSome
def State.cEx (s : State) (j : Id) : Bool := ((s.a.lookup j).bind (·.code)).isSome
def State.xEx (s : State) (j : Id) : Bool := ((s.a.lookup j).bind (·.colour)).isSome

structure ValsA where
  name : Bytes
  alias : Option Bytes
  roles : List Bytes
  owner : Option Bytes
  dep : Option Bytes
  groups : List Id
  boss : Option Bytes
  chief : Option Bytes
  deriving Repr

structure ChkA where
  name : Bool
  alias : Bool
  roles : Bool
  owner : Bool
  dep : Bool
  groups : Bool
  boss : Bool
  chief : Bool
  deriving Repr

inductive Op
  | createA (id : Id) (v : ValsA)
  | updateA (id : Id) (v : ValsA) (chk : Option ChkA)
  /-- `A.DeleteById`, or `A1.DeleteById` which delegates to the parent -/
  | deleteA (id : Id)
  /-- `A1.Create`: parent fields through the parent context, then the child's field and links -/
  | createA1 (id : Id) (v : ValsA) (code : Bytes) (pals : List Id)
  /-- `A2.Create` (extended child store) -/
  | createA2 (id : Id) (v : ValsA) (colour : Bytes)
  /-- `A2.Update`: parent fields and `colour` through the child store; `cc`: the checker selects `colour` -/
  | updateA2 (id : Id) (v : ValsA) (colour : Bytes) (chk : Option ChkA) (cc : Bool)
  | createB (id : Id) (label : Option Bytes)
  /-- `chk`: none = nil checker, some b = checker selecting `label` iff b -/
  | updateB (id : Id) (label : Option Bytes) (chk : Option Bool)
  | deleteB (id : Id)
  | rcInc (a b : Id)
  | rcDec (a b : Id)
  | rcSet (a b : Id) (n : Nat)
  /-- `AddLinks / RemoveLinks / SetLinks` on the collection A.peers ↔ A.peers -/
  | addPeers (id : Id) (ks : List Id)
  | removePeers (id : Id) (ks : List Id)
  | setPeers (id : Id) (ks : List Id)
  /-- `SetLinks` on the collection A.mentors ↔ A.mentees -/
  | setMentors (id : Id) (ks : List Id)
  deriving Repr

def proceed (chk : Option ChkA) (f : ChkA → Bool) : Bool :=
  match chk with
  | none => true
  | some c => f c

/-- the field setters of A's PersistEntity (the link field is handled by `setLinks`) -/
def persistFields (old : EntA) (v : ValsA) (chk : Option ChkA) : EntA :=
  { old with
    name := if proceed chk (·.name) then v.name else old.name
    alias := if proceed chk (·.alias) then v.alias else old.alias
    roles := if proceed chk (·.roles) then setOf v.roles else old.roles
    owner := if proceed chk (·.owner) then v.owner else old.owner
    dep := if proceed chk (·.dep) then v.dep else old.dep
    boss := if proceed chk (·.boss) then v.boss else old.boss
    chief := if proceed chk (·.chief) then v.chief else old.chief }

/-! ### fkIndex A.owner → B.things -/

/-- `getIndexBucket(b)` (GetOrCreatePath on the target entity) then DeleteListEntry / SetListEntry -/
def backrefDel (s : State) (b : Bytes) (id : Id) : Except Err State :=
  match s.b.lookup b with
  | none => .error .notFound
  | some _ => .ok { s with thg := s.thg.insert b (setErase id ((s.thg.lookup b).getD [])) }

def backrefAdd (s : State) (b : Bytes) (id : Id) : Except Err State :=
  match s.b.lookup b with
  | none => .error .notFound
  | some _ => .ok { s with thg := s.thg.insert b (setInsert id ((s.thg.lookup b).getD [])) }

/-- `fkIndex.ProcessAfterUpdate` (nullable) -/
def fkAfter (isCreate : Bool) (old new : Bytes) (id : Id) (s : State) : Except Err State :=
  if !isCreate && old == new then .ok s
  else do
    let s1 ← if old ≠ [] then backrefDel s old id else pure s
    if new ≠ [] then backrefAdd s1 new id else pure s1

/-- `fkIndex.ProcessBeforeDelete`; the back-reference removal is skipped when the target is already
    gone (fix 001d2d2) -/
def fkBeforeDelete (val : Bytes) (id : Id) (s : State) : Except Err State :=
  if val ≠ [] ∧ s.bEx val = true then backrefDel s val id else pure s

/-- `fkConstraint.ProcessAfterUpdate` (nullable): the target must exist; nothing is written -/
def depAfter (isCreate : Bool) (old new : Bytes) (s : State) : Except Err State :=
  if !isCreate && old == new then .ok s
  else if new ≠ [] then (if s.bEx new then .ok s else .error .notFound)
  else .ok s

/-- `fkConstraint.ProcessAfterUpdate` of the self reference A.boss → A (nullable): the target must be
    an entity of store A (the entity being written already is one); nothing is written -/
def bossAfter (isCreate : Bool) (old new : Bytes) (s : State) : Except Err Unit :=
  if !isCreate && old == new then .ok ()
  else if new ≠ [] then (if s.aEx new then .ok () else .error .notFound)
  else .ok ()

/-- the restrict check of `chief` (`fkDeleteCascadeConstraint.ProcessBeforeDelete` with `CascadeNone`):
    any entity whose `chief` is the id — the entity itself included — refuses the delete -/
def chiefCheck (s : State) (id : Id) : Except Err Unit :=
  if s.a.entries.any (fun p => decide (p.2.chief.getD [] = id)) then .error .refExists else .ok ()

/-! ### IndexingContext for A (constraints in registration order: chief (fk constraint, then its
    restrict check), boss (fk constraint, then its cascade), name, alias, roles, owner, dep) -/

structure Captured where
  name : Bytes
  alias : Bytes
  roles : List Bytes
  owner : Bytes
  dep : Bytes
  boss : Bytes
  chief : Bytes

def Captured.none : Captured := ⟨[], [], [], [], [], [], []⟩

def evName : Option EntA → Bytes
  | some e => e.name
  | none => []
def evAlias : Option EntA → Bytes
  | some e => e.alias.getD []
  | none => []
def evRoles : Option EntA → List Bytes
  | some e => e.roles
  | none => []
def evOwner : Option EntA → Bytes
  | some e => e.owner.getD []
  | none => []
def evDep : Option EntA → Bytes
  | some e => e.dep.getD []
  | none => []
def evBoss : Option EntA → Bytes
  | some e => e.boss.getD []
  | none => []
def evChief : Option EntA → Bytes
  | some e => e.chief.getD []
  | none => []
def evCode : Option EntA → Bytes
  | some e => e.code.getD []
  | none => []
def evColour : Option EntA → Bytes
  | some e => e.colour.getD []
  | none => []

def captureA (s : State) (id : Id) : Captured :=
  let e := s.a.lookup id
  ⟨evName e, evAlias e, evRoles e, evOwner e, evDep e, evBoss e, evChief e⟩

def afterUpdateA (isCreate : Bool) (cap : Captured) (s : State) (id : Id) : Except Err State := do
  let e := s.a.lookup id
  let _ ← bossAfter isCreate cap.chief (evChief e) s   -- the same fk-constraint code for `chief`
  let _ ← bossAfter isCreate cap.boss (evBoss e) s
  let un ← uniqueAfter isCreate false cap.name (evName e) id s.uName
  let ua ← uniqueAfter isCreate true cap.alias (evAlias e) id s.uAlias
  let sr ← setAfter cap.roles (evRoles e) id s.sRoles
  let s1 ← fkAfter isCreate cap.owner (evOwner e) id { s with uName := un, uAlias := ua, sRoles := sr }
  depAfter isCreate cap.dep (evDep e) s1

def beforeDeleteA (s : State) (id : Id) : Except Err State := do
  let e := s.a.lookup id
  let un := uniqueBeforeDelete (evName e) s.uName
  let ua := uniqueBeforeDelete (evAlias e) s.uAlias
  let sr ← setBeforeDelete (evRoles e) id s.sRoles
  fkBeforeDelete (evOwner e) id { s with uName := un, uAlias := ua, sRoles := sr }

/-! ### operations -/

/-- `SetLinkedIds("groups", …)` -/
def setGroups (s : State) (id : Id) (req : List Id) : Except Err State := do
  let g ← s.g.setLinks s.bEx id req
  pure { s with g := g }

/-- `SetLinkedIds("pals", …)` on the child store's collection -/
def setPals (s : State) (id : Id) (req : List Id) : Except Err State := do
  let p ← s.p.setLinks s.bEx id req
  pure { s with p := p }

def createA (s : State) (id : Id) (v : ValsA) : Except Err State :=
  if id = [] then .error .other
  else if (s.a.lookup id).isSome then .error .exists
  else do
    let e : EntA := ⟨v.name, v.alias, setOf v.roles, v.owner, v.dep, v.boss, v.chief, none, none⟩
    let s1 := { s with hasA := true, a := s.a.insert id e }
    let s2 ← setGroups s1 id v.groups                      -- an error stops the create
    afterUpdateA true Captured.none s2 id

def updateA (s : State) (id : Id) (v : ValsA) (chk : Option ChkA) : Except Err State :=
  if id = [] then .error .other
  else match s.a.lookup id with
    | none => .error .notFound
    | some old => do
      let cap := captureA s id
      let s1 := { s with a := s.a.insert id (persistFields old v chk) }
      let s2 ← if proceed chk (·.groups) then setGroups s1 id v.groups else pure s1
      afterUpdateA false cap s2 id

/-- `A1.Create`.  Only *child* data is checked for existence.  When the parent entity already
    exists, the parent indexing context's `ProcessBeforeUpdate` runs first (fix 8269ce9), so the
    parent's indexed values are captured and its index entries are replaced; the contexts are
    still create contexts (`IsCreate`), i.e. the equal-value shortcut does not apply. -/
def createA1 (s : State) (id : Id) (v : ValsA) (code : Bytes) (pals : List Id) : Except Err State :=
  if id = [] then .error .other
  else if s.cEx id then .error .exists
  else do
    let cap := if (s.a.lookup id).isSome then captureA s id else Captured.none
    -- data of the other child store stays in the entity bucket
    let e : EntA := ⟨v.name, v.alias, setOf v.roles, v.owner, v.dep, v.boss, v.chief, some code, (s.a.lookup id).bind (·.colour)⟩
    let s1 := { s with hasA := true, a := s.a.insert id e }
    let s2 ← setGroups s1 id v.groups
    let s2' ← setPals s2 id pals
    let s3 ← afterUpdateA true cap s2' id                  -- parent context first
    let uc ← uniqueAfter true false [] code id s3.uCode   -- then the child's own index
    pure { s3 with uCode := uc }

/-- `A2.Create`: like `A1.Create` (only the extended child's own data is checked for existence; over an
    existing parent the parent's indexed values are captured first), then the child's own unique index -/
def createA2 (s : State) (id : Id) (v : ValsA) (colour : Bytes) : Except Err State :=
  if id = [] then .error .other
  else if s.xEx id then .error .exists
  else do
    let cap := if (s.a.lookup id).isSome then captureA s id else Captured.none
    let e : EntA := ⟨v.name, v.alias, setOf v.roles, v.owner, v.dep, v.boss, v.chief, (s.a.lookup id).bind (·.code), some colour⟩
    let s1 := { s with hasA := true, a := s.a.insert id e }
    let s2 ← setGroups s1 id v.groups
    let s3 ← afterUpdateA true cap s2 id                   -- parent context first
    let uc ← uniqueAfter true true [] colour id s3.uColour -- then the child's own index (nullable)
    pure { s3 with uColour := uc }

/-- `SetString("colour", …)` under the checker -/
def newColour (chk : Option ChkA) (cc : Bool) (colour oc : Bytes) : Bytes :=
  if (match chk with | none => true | some _ => cc) then colour else oc

/-- `A2.Update`.  `FindById` of an extended store falls back to the parent's bucket, but the update
    needs the child's own bucket: without `ext2` data it is not-found.  Parent fields are written
    through the parent context under the same checker; parent constraints first, then the child's. -/
def updateA2 (s : State) (id : Id) (v : ValsA) (colour : Bytes) (chk : Option ChkA) (cc : Bool) : Except Err State :=
  if id = [] then .error .other
  else match s.a.lookup id with
    | none => .error .notFound
    | some old => match old.colour with
      | none => .error .notFound
      | some oc => do
        let cap := captureA s id
        let s1 := { s with a := s.a.insert id { persistFields old v chk with colour := some (newColour chk cc colour oc) } }
        let s2 ← if proceed chk (·.groups) then setGroups s1 id v.groups else pure s1
        let s3 ← afterUpdateA false cap s2 id
        let uc ← uniqueAfter false true oc (newColour chk cc colour oc) id s3.uColour
        pure { s3 with uColour := uc }

/-- the rounds of the extended child store and of the parent store, then `DeleteEntity` -/
def deleteA0Tail (s1 : State) (e : EntA) (id : Id) : Except Err State := do
  -- the extended child store: its `FindById` finds the parent entity, so this round always runs
  let tx ← beforeDeleteA s1 id
  let s1x := { tx with uColour := uniqueBeforeDelete (evColour (some e)) tx.uColour }
  -- then the parent's own processDeleteConstraints and cleanupLinks
  let s2 ← beforeDeleteA s1x id
  let s3 := { s2 with g := s2.g.cleanFwd s2.bEx id, rc := s2.rc.cleanFwd s2.bEx id,
                      pe := selfClean s2.pe s2.aEx id, mt := (s2.mt.cleanFwd s2.aEx id).cleanBwd s2.aEx id }
  -- DeleteEntity: the entity bucket with everything in it
  pure { s3 with a := s3.a.erase id, g := { s3.g with fwd := s3.g.fwd.erase id },
                 p := { s3.p with fwd := s3.p.fwd.erase id }, rc := { s3.rc with fwd := s3.rc.fwd.erase id },
                 pe := s3.pe.erase id, mt := { fwd := s3.mt.fwd.erase id, bwd := s3.mt.bwd.erase id } }

/-- `DeleteById` on store A when the cascade loops of `boss` find nothing (left) to delete -/
def deleteA0 (s : State) (id : Id) : Except Err State :=
  if id = [] then .error .notFound
  else match s.a.lookup id with
    | none => .error .notFound
    | some e => do
      -- child store first: its indexing context runs the parent's constraints, then its own, then
      -- the child store's cleanupLinks
      let s1 ← if e.code.isSome then (do
          let t ← beforeDeleteA s id
          pure { t with uCode := uniqueBeforeDelete (evCode (some e)) t.uCode, p := t.p.cleanFwd t.bEx id })
        else pure s
      deleteA0Tail s1 e id

/-! ### the cascading delete of `boss` referrers (`fkDeleteCascadeConstraint.ProcessBeforeDelete`) -/

/-- the entities whose `boss` is the id, in key order (`IterateValidIds` with the referrer filter) -/
def minions (s : State) (id : Id) : List Id :=
  setOf ((s.a.entries.filter (fun p => decide (p.2.boss.getD [] = id))).map (·.1))

/-- the cursor loop: a referrer whose own cascading delete is in progress is skipped (fix bda5470);
    the cursor is re-positioned with `Seek` after every delete, so a referrer that is gone by the
    time its turn comes is not visited; an error stops the loop -/
def cascadeLoop (del : State → Id → Except Err State) (busy : List Id) : List Id → State → Except Err State
  | [], s => .ok s
  | j :: rest, s =>
    if busy.contains j || !s.aEx j then cascadeLoop del busy rest s
    else match del s j with
      | .ok s' => cascadeLoop del busy rest s'
      | .error e => .error e

/-- the in-progress set while the referrers of `id` are cascaded (`inProgress[self]`, removed again
    by the deferred `delete` unless the call is nested in a delete of the same id) -/
def markBusy (busy : List Id) (id : Id) : List Id := if busy.contains id then busy else id :: busy

def cascadeBoss (del : List Id → State → Id → Except Err State) (busy : List Id) (s : State) (id : Id) :
    Except Err State :=
  cascadeLoop (del (markBusy busy id)) (markBusy busy id) (minions s id) s

/-- `A.DeleteById` (also reached from `A1.DeleteById` and from the cascades).  `busy`: the ids whose
    cascading delete is in progress in this mutate context.  The recursion is bounded by `fuel`
    (every nested call adds an existing entity to `busy`); running out of it is the stack overflow
    of the code before fix bda5470 and is reported as `panic`. -/
def deleteA : Nat → List Id → State → Id → Except Err State
  | 0, _, _, _ => .error .panic
  | fuel + 1, busy, s, id =>
    if id = [] then .error .notFound
    else match s.a.lookup id with
      | none => .error .notFound
      | some e => do
        -- child store first: its indexing context runs the parent's constraints (the cascade of
        -- `boss` referrers is the first of them to act), then its own, then the child store's cleanupLinks
        let s1 ← if e.code.isSome then (do
            let _ ← chiefCheck s id
            let t0 ← cascadeBoss (deleteA fuel) busy s id
            let t ← beforeDeleteA t0 id
            pure { t with uCode := uniqueBeforeDelete (evCode (some e)) t.uCode, p := t.p.cleanFwd t.bEx id })
          else pure s
        -- the extended child store: its `FindById` finds the parent entity, so this round always runs
        let _ ← chiefCheck s1 id
        let tx0 ← cascadeBoss (deleteA fuel) busy s1 id
        let tx ← beforeDeleteA tx0 id
        let s1x := { tx with uColour := uniqueBeforeDelete (evColour (some e)) tx.uColour }
        -- then the parent's own processDeleteConstraints and cleanupLinks
        let _ ← chiefCheck s1x id
        let s1' ← cascadeBoss (deleteA fuel) busy s1x id
        let s2 ← beforeDeleteA s1' id
        let s3 := { s2 with g := s2.g.cleanFwd s2.bEx id, rc := s2.rc.cleanFwd s2.bEx id,
                            pe := selfClean s2.pe s2.aEx id, mt := (s2.mt.cleanFwd s2.aEx id).cleanBwd s2.aEx id }
        -- DeleteEntity: the entity bucket with everything in it
        pure { s3 with a := s3.a.erase id, g := { s3.g with fwd := s3.g.fwd.erase id },
                       p := { s3.p with fwd := s3.p.fwd.erase id }, rc := { s3.rc with fwd := s3.rc.fwd.erase id },
                       pe := s3.pe.erase id, mt := { fwd := s3.mt.fwd.erase id, bwd := s3.mt.bwd.erase id } }

/-- a delete issued by the caller: nothing is in progress; the fuel covers every entity -/
def deleteATop (s : State) (id : Id) : Except Err State := deleteA (s.a.length + 1) [] s id

/-- the cursor loop of `dep`'s cascade on store B: a dependant that an earlier iteration's own
    cascade (through `boss`) already removed is not visited any more -/
def deleteAll : List Id → State → Except Err State
  | [], s => .ok s
  | id :: rest, s =>
    if !s.aEx id then deleteAll rest s
    else match deleteATop s id with
      | .ok s' => deleteAll rest s'
      | .error e => .error e

def createB (s : State) (id : Id) (label : Option Bytes) : Except Err State :=
  if id = [] then .error .other
  else if (s.b.lookup id).isSome then .error .exists
  else do
    let ul ← uniqueAfter true true [] (label.getD []) id s.uLabel
    pure { s with hasB := true, b := s.b.insert id ⟨label⟩, uLabel := ul }

def updateB (s : State) (id : Id) (label : Option Bytes) (chk : Option Bool) : Except Err State :=
  if id = [] then .error .other
  else match s.b.lookup id with
    | none => .error .notFound
    | some old => do
      let new : EntB := if chk.getD true then ⟨label⟩ else old
      let ul ← uniqueAfter false true (old.label.getD []) (new.label.getD []) id s.uLabel
      pure { s with b := s.b.insert id new, uLabel := ul }

/-- the referrers a cascading delete removes: the A entities whose `dep` is the id, in key order -/
def dependants (s : State) (id : Id) : List Id :=
  setOf ((s.a.entries.filter (fun p => decide (p.2.dep.getD [] = id))).map (·.1))

def deleteB (s : State) (id : Id) : Except Err State :=
  if id = [] then .error .notFound
  else match s.b.lookup id with
    | none => .error .notFound
    | some e =>
      let ul := uniqueBeforeDelete (e.label.getD []) s.uLabel
      -- fkDeleteConstraint: still referenced through `owner` → refused
      if (s.thg.lookup id).getD [] ≠ [] then .error .refExists
      else do
        -- fkDeleteCascadeConstraint: every dependant is deleted through its own store
        let s1 ← deleteAll (dependants s id) { s with uLabel := ul }
        -- cleanupLinks: members, palsOf, rcA
        let s2 := { s1 with g := s1.g.cleanBwd s1.aEx id, p := s1.p.cleanBwd s1.cEx id, rc := s1.rc.cleanBwd s1.aEx id }
        pure { s2 with b := s2.b.erase id, thg := s2.thg.erase id, g := { s2.g with bwd := s2.g.bwd.erase id },
                       p := { s2.p with bwd := s2.p.bwd.erase id }, rc := { s2.rc with bwd := s2.rc.bwd.erase id } }

def rcOp (s : State) (f : RcPair → Except Err RcPair) : Except Err State := do
  let r ← f s.rc
  pure { s with rc := r }

def peersOp (s : State) (f : SelfMap → Except Err SelfMap) : Except Err State := do
  let m ← f s.pe
  pure { s with pe := m }

/-- `SetLinks` on A.mentors (the owner must exist: `getFieldBucket`) -/
def setMentors (s : State) (id : Id) (ks : List Id) : Except Err State :=
  if !s.aEx id then .error .other
  else do
    let m ← s.mt.setLinks s.aEx id ks
    pure { s with mt := m }

def stepRaw (s : State) : Op → Except Err State
  | .createA id v => createA s id v
  | .updateA id v chk => updateA s id v chk
  | .deleteA id => deleteATop s id
  | .createA1 id v code pals => createA1 s id v code pals
  | .createA2 id v colour => createA2 s id v colour
  | .updateA2 id v colour chk cc => updateA2 s id v colour chk cc
  | .createB id l => createB s id l
  | .updateB id l chk => updateB s id l chk
  | .deleteB id => deleteB s id
  | .rcInc a b => rcOp s (fun r => r.inc s.aEx s.bEx a b)
  | .rcDec a b => rcOp s (fun r => r.dec s.aEx s.bEx a b)
  | .rcSet a b n => rcOp s (fun r => r.set s.aEx s.bEx a b n)
  | .addPeers id ks => peersOp s (fun m => selfAdd m s.aEx id ks)
  | .removePeers id ks => peersOp s (fun m => selfRemove m s.aEx id ks)
  | .setPeers id ks => peersOp s (fun m => selfSet m s.aEx id ks)
  | .setMentors id ks => setMentors s id ks

def applyOps : State → List Op → Nat → Except (Nat × Err) State
  | s, [], _ => .ok s
  | s, op :: rest, i =>
    match stepRaw s op with
    | .ok s' => applyOps s' rest (i + 1)
    | .error e => .error (i, e)

inductive Res
  | ok
  | err (e : Err)
  deriving DecidableEq, Repr

def txStep (s : State) (ops : List Op) : State × Res :=
  match applyOps s ops 0 with
  | .ok s' => (s', .ok)
  | .error (_, e) => (s, .err e)

def step (s : State) (op : Op) : State × Res := txStep s [op]

def run (txs : List (List Op)) : State := txs.foldl (fun s ops => (txStep s ops).1) State.empty

/-! ### Render -/

def bOwners : Bytes := [111, 119, 110, 101, 114, 115]
def bOwner : Bytes := [111, 119, 110, 101, 114]
def bDep : Bytes := [100, 101, 112]
def bBoss : Bytes := [98, 111, 115, 115]
def bChief : Bytes := [99, 104, 105, 101, 102]
def bGroups : Bytes := [103, 114, 111, 117, 112, 115]
def bExt1 : Bytes := [101, 120, 116, 49]
def bCode : Bytes := [99, 111, 100, 101]
def bExt2 : Bytes := [101, 120, 116, 50]
def bColour : Bytes := [99, 111, 108, 111, 117, 114]
def bLabel : Bytes := [108, 97, 98, 101, 108]
def bMembers : Bytes := [109, 101, 109, 98, 101, 114, 115]
def bPals : Bytes := [112, 97, 108, 115]
def bPalsOf : Bytes := [112, 97, 108, 115, 79, 102]
def bRcB : Bytes := [114, 99, 66]
def bRcA : Bytes := [114, 99, 65]
def bPeers : Bytes := [112, 101, 101, 114, 115]
def bMentors : Bytes := [109, 101, 110, 116, 111, 114, 115]
def bMentees : Bytes := [109, 101, 110, 116, 101, 101, 115]

/-- naming variant of the schema.  For the two string fields of A that carry a unique index: the
    symbol's name (`symbol.GetName()`, last element of the index path) and the key the entity strategy
    stores the value under (`AddSymbolWithKey`).  The third name of a field — the one the caller's
    `FieldChecker` knows it by (`PersistContext.WithFieldOverrides`) — does not reach the model: an
    update's checker is given as "which stored fields proceed" (`ChkA`), the harness translates. -/
structure Names where
  nameSym : Bytes
  nameKey : Bytes
  aliasSym : Bytes
  aliasKey : Bytes
  /-- the `FieldType` byte the entity strategy stores `alias` / `code` / `colour` / `label` with
      (`SetString` 5, `SetInt64` 3, `SetInt32` 2, `SetFloat64` 4, …): the symbol's node type.  A field's
      value in the model is its *raw stored bytes* (what `symbol.Eval` returns: the stored value without
      the type byte); every unique index is keyed by exactly these bytes (`uniqueIndex.ProcessAfterUpdate`
      puts, `ProcessBeforeDelete` deletes under `Eval`'s bytes — the index code never looks at the type),
      so the four unique indexes over these fields are indexes over symbols of any scalar type. -/
  aliasTy : UInt8 := 5
  codeTy : UInt8 := 5
  colourTy : UInt8 := 5
  labelTy : UInt8 := 5
  deriving Repr

/-- symbol = key = `name` / `alias` -/
def Names.std : Names := { nameSym := bName, nameKey := bName, aliasSym := bAlias, aliasKey := bAlias }
/-- symbols `title` / `nick`, keys `nm` / `aka` -/
def Names.alt : Names :=
  { nameSym := [116, 105, 116, 108, 101], nameKey := [110, 109], aliasSym := [110, 105, 99, 107], aliasKey := [97, 107, 97] }
/-- the typed variant: `alias` an int64 symbol, `code` int32, `colour` float64, `label` int32 — unique
    indexes over non-string symbols (keys = the little-endian encodings, 8 / 4 / 8 / 4 bytes) -/
def Names.typedV : Names := { Names.std with aliasTy := 3, codeTy := 2, colourTy := 4, labelTy := 2 }

/-- every bucket / field name of the schema -/
def reserved (nm : Names) : List Bytes :=
  [bU, bIndexes, bThings, bOwners, nm.nameSym, nm.nameKey, nm.aliasSym, nm.aliasKey, bRoles, bOwner, bDep, bBoss, bChief, bGroups, bExt1, bCode, bExt2, bColour, bLabel, bMembers,
   bPals, bPalsOf, bRcB, bRcA, bPeers, bMentors, bMentees]

def idxPathA (field : Bytes) : List Bytes := [bU, bIndexes, bThings, field]
def idxPathB (field : Bytes) : List Bytes := [bU, bIndexes, bOwners, field]
def pathA (id : Id) : List Bytes := [bU, bThings, id]
def pathB (id : Id) : List Bytes := [bU, bOwners, id]

def optField : Option Bytes → Bytes
  | none => nilField
  | some v => typed v

/-- `PrependFieldType(t, v)`: the stored form of a field of type `t` with raw bytes `v` -/
def tagged (t : UInt8) (v : Bytes) : Bytes := t :: v

/-- a nullable field of type `t` -/
def optFieldT (t : UInt8) : Option Bytes → Bytes
  | none => nilField
  | some v => tagged t v

/-- little-endian fixed-width form of a short byte string (`SetInt64` / `SetInt32` / `SetFloat64` of the
    number whose little-endian digits are `v`): how the typed schema variant turns a case's value into
    the raw stored bytes -/
def padTo (n : Nat) (v : Bytes) : Bytes := v ++ List.replicate (n - v.length) 0

/-- `Int32ToBytes`: type byte 2 and four little-endian bytes -/
def encCount (n : Nat) : Bytes :=
  [2, UInt8.ofNat (n % 256), UInt8.ofNat (n / 256 % 256), UInt8.ofNat (n / 65536 % 256), UInt8.ofNat (n / 16777216 % 256)]

/-- a bucket whose keys are typed ids / typed values with empty values -/
def listBucket (path : List Bytes) (keys : List Bytes) : List Line :=
  .bucket path :: keys.map (fun k => .kv path (typed k) [])

/-- a ref-count bucket: typed id → encoded count -/
def countBucket (path : List Bytes) (c : Counts) : List Line :=
  .bucket path :: c.entries.map (fun kv => .kv path (typed kv.1) (encCount kv.2))

def optBucket {α : Type} (f : α → List Line) : Option α → List Line
  | some x => f x
  | none => []

def renderA (nm : Names) (s : State) (p : Id × EntA) : List Line :=
  [ .bucket (pathA p.1),
    .kv (pathA p.1) nm.nameKey (typed p.2.name),
    .kv (pathA p.1) nm.aliasKey (optFieldT nm.aliasTy p.2.alias),
    .kv (pathA p.1) bOwner (optField p.2.owner),
    .kv (pathA p.1) bDep (optField p.2.dep),
    .kv (pathA p.1) bBoss (optField p.2.boss),
    .kv (pathA p.1) bChief (optField p.2.chief) ] ++
  listBucket (pathA p.1 ++ [bRoles]) p.2.roles ++
  optBucket (listBucket (pathA p.1 ++ [bGroups])) (s.g.fwd.lookup p.1) ++
  optBucket (countBucket (pathA p.1 ++ [bRcB])) (s.rc.fwd.lookup p.1) ++
  optBucket (listBucket (pathA p.1 ++ [bPeers])) (s.pe.lookup p.1) ++
  optBucket (listBucket (pathA p.1 ++ [bMentors])) (s.mt.fwd.lookup p.1) ++
  optBucket (listBucket (pathA p.1 ++ [bMentees])) (s.mt.bwd.lookup p.1) ++
  (match p.2.code with
   | some c => [ .bucket (pathA p.1 ++ [bExt1]), .kv (pathA p.1 ++ [bExt1]) bCode (tagged nm.codeTy c) ] ++
               optBucket (listBucket (pathA p.1 ++ [bExt1, bPals])) (s.p.fwd.lookup p.1)
   | none => []) ++
  (match p.2.colour with
   | some c => [ .bucket (pathA p.1 ++ [bExt2]), .kv (pathA p.1 ++ [bExt2]) bColour (tagged nm.colourTy c) ]
   | none => [])

def renderB (nm : Names) (s : State) (p : Id × EntB) : List Line :=
  [ .bucket (pathB p.1), .kv (pathB p.1) bLabel (optFieldT nm.labelTy p.2.label) ] ++
  optBucket (listBucket (pathB p.1 ++ [bMembers])) (s.g.bwd.lookup p.1) ++
  optBucket (listBucket (pathB p.1 ++ [bPalsOf])) (s.p.bwd.lookup p.1) ++
  optBucket (countBucket (pathB p.1 ++ [bRcA])) (s.rc.bwd.lookup p.1) ++
  optBucket (listBucket (pathB p.1 ++ [bThings])) (s.thg.lookup p.1)

def renderUnique (path : List Bytes) (p : Bytes × Id) : List Line := [ .kv path p.1 p.2 ]

def renderSetKey (path : List Bytes) (p : Bytes × List Id) : List Line := listBucket (path ++ [p.1]) p.2

def fixedLines (nm : Names) : List Line :=
  [ .bucket [bU], .bucket [bU, bIndexes], .bucket [bU, bIndexes, bThings], .bucket [bU, bIndexes, bOwners],
    .bucket (idxPathA nm.nameSym), .bucket (idxPathA nm.aliasSym), .bucket (idxPathA bRoles), .bucket (idxPathA bCode),
    .bucket (idxPathA bColour), .bucket (idxPathB bLabel) ]

def Render (nm : Names) (s : State) : List Line :=
  fixedLines nm ++
  (if s.hasA then [Line.bucket [bU, bThings]] else []) ++
  (if s.hasB then [Line.bucket [bU, bOwners]] else []) ++
  s.a.entries.flatMap (renderA nm s) ++
  s.b.entries.flatMap (renderB nm s) ++
  s.uName.entries.flatMap (renderUnique (idxPathA nm.nameSym)) ++
  s.uAlias.entries.flatMap (renderUnique (idxPathA nm.aliasSym)) ++
  s.uCode.entries.flatMap (renderUnique (idxPathA bCode)) ++
  s.uColour.entries.flatMap (renderUnique (idxPathA bColour)) ++
  s.uLabel.entries.flatMap (renderUnique (idxPathB bLabel)) ++
  s.sRoles.entries.flatMap (renderSetKey (idxPathA bRoles))

/-- the id occurs in a dump line: as a path element, key or value, plain or with the string type
    byte in front (the notion of `boltz.ValidateDeleted`, extended to path elements) -/
def Mentions (id : Id) : Line → Prop
  | .bucket path => id ∈ path ∨ typed id ∈ path
  | .kv path key val => id ∈ path ∨ typed id ∈ path ∨ key = id ∨ key = typed id ∨ val = id ∨ val = typed id

instance (id : Id) (l : Line) : Decidable (Mentions id l) := by
  cases l <;> unfold Mentions <;> exact inferInstance

end StorageModel.C06
