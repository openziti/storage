import StorageModel.Tx.Lemmas
/-
  Tx/Events — observation functions on what a committed transaction ran (deliveries of one listener slot, post-commit
  calls of one constraint, commit-action goroutines, tx-complete calls).  Each is a `filterMap` of the list
  (`*_eq_filterMap`), so one lemma, `filterMap_commitList`, reads any of them off `commitList`.  For Properties/C08.lean.
-/
namespace StorageModel.Tx

/-- the entity handed to a listener: final state for create / update, last state for delete -/
def payload (fl : Flow) : Option EntView :=
  match fl.kind with
  | .deleted => fl.initial
  | _ => fl.final

/-- what listener registration `reg` on store σ received through the `slot`-th of its change types:
    (asynchronously?, change kind, entity), in order -/
def deliveriesTo (σ : StoreId) (reg slot : Nat) : List Fired → List (Bool × Kind × Option EntView)
  | [] => []
  | .listener σ' r s a k e :: rest =>
    if σ' = σ ∧ r = reg ∧ s = slot then (a, k, e) :: deliveriesTo σ reg slot rest
    else deliveriesTo σ reg slot rest
  | _ :: rest => deliveriesTo σ reg slot rest

/-- the ProcessPostCommit calls constraint registration `reg` on store σ received -/
def postsTo (σ : StoreId) (reg : Nat) : List Fired → List Flow
  | [] => []
  | .post σ' r fl :: rest => if σ' = σ ∧ r = reg then fl :: postsTo σ reg rest else postsTo σ reg rest
  | _ :: rest => postsTo σ reg rest

def commitActionRuns : List Fired → List (List Nat)
  | [] => []
  | .commitActions tags :: rest => tags :: commitActionRuns rest
  | _ :: rest => commitActionRuns rest

def txCompleteRuns : List Fired → List Nat
  | [] => []
  | .txComplete i :: rest => i :: txCompleteRuns rest
  | _ :: rest => txCompleteRuns rest

def delSel (σ : StoreId) (reg slot : Nat) : Fired → Option (Bool × Kind × Option EntView)
  | .listener σ' r s a k e => if σ' = σ ∧ r = reg ∧ s = slot then some (a, k, e) else none
  | _ => none

def postSel (σ : StoreId) (reg : Nat) : Fired → Option Flow
  | .post σ' r fl => if σ' = σ ∧ r = reg then some fl else none
  | _ => none

def actSel : Fired → Option (List Nat)
  | .commitActions tags => some tags
  | _ => none

def txcSel : Fired → Option Nat
  | .txComplete i => some i
  | _ => none

theorem deliveriesTo_eq_filterMap (σ : StoreId) (reg slot : Nat) (l : List Fired) :
    deliveriesTo σ reg slot l = l.filterMap (delSel σ reg slot) := by
  induction l with
  | nil => rfl
  | cons x rest ih =>
    cases x <;> simp only [deliveriesTo, delSel, List.filterMap_cons, ih]
    split <;> rfl

theorem postsTo_eq_filterMap (σ : StoreId) (reg : Nat) (l : List Fired) :
    postsTo σ reg l = l.filterMap (postSel σ reg) := by
  induction l with
  | nil => rfl
  | cons x rest ih =>
    cases x <;> simp only [postsTo, postSel, List.filterMap_cons, ih]
    split <;> rfl

theorem commitActionRuns_eq_filterMap (l : List Fired) : commitActionRuns l = l.filterMap actSel := by
  induction l with
  | nil => rfl
  | cons x rest ih => cases x <;> simp [commitActionRuns, actSel, List.filterMap_cons, ih]

theorem txCompleteRuns_eq_filterMap (l : List Fired) : txCompleteRuns l = l.filterMap txcSel := by
  induction l with
  | nil => rfl
  | cons x rest ih => cases x <;> simp [txCompleteRuns, txcSel, List.filterMap_cons, ih]

theorem deliveriesTo_append (σ : StoreId) (reg slot : Nat) (a b : List Fired) :
    deliveriesTo σ reg slot (a ++ b) = deliveriesTo σ reg slot a ++ deliveriesTo σ reg slot b := by
  simp only [deliveriesTo_eq_filterMap, List.filterMap_append]

theorem postsTo_append (σ : StoreId) (reg : Nat) (a b : List Fired) :
    postsTo σ reg (a ++ b) = postsTo σ reg a ++ postsTo σ reg b := by
  simp only [postsTo_eq_filterMap, List.filterMap_append]

theorem commitActionRuns_append (a b : List Fired) : commitActionRuns (a ++ b) = commitActionRuns a ++ commitActionRuns b := by
  simp only [commitActionRuns_eq_filterMap, List.filterMap_append]

theorem txCompleteRuns_append (a b : List Fired) : txCompleteRuns (a ++ b) = txCompleteRuns a ++ txCompleteRuns b := by
  simp only [txCompleteRuns_eq_filterMap, List.filterMap_append]

theorem deliveriesTo_flatMap {α : Type} (σ : StoreId) (reg slot : Nat) (g : α → List Fired) (l : List α) :
    deliveriesTo σ reg slot (l.flatMap g) = l.flatMap fun x => deliveriesTo σ reg slot (g x) := by
  simp only [deliveriesTo_eq_filterMap, List.filterMap_flatMap]

theorem postsTo_flatMap {α : Type} (σ : StoreId) (reg : Nat) (g : α → List Fired) (l : List α) :
    postsTo σ reg (l.flatMap g) = l.flatMap fun x => postsTo σ reg (g x) := by
  simp only [postsTo_eq_filterMap, List.filterMap_flatMap]

theorem commitActionRuns_flatMap {α : Type} (g : α → List Fired) (l : List α) :
    commitActionRuns (l.flatMap g) = l.flatMap fun x => commitActionRuns (g x) := by
  simp only [commitActionRuns_eq_filterMap, List.filterMap_flatMap]

theorem txCompleteRuns_flatMap {α : Type} (g : α → List Fired) (l : List α) :
    txCompleteRuns (l.flatMap g) = l.flatMap fun x => txCompleteRuns (g x) := by
  simp only [txCompleteRuns_eq_filterMap, List.filterMap_flatMap]

theorem filterMap_cons_toList {α β : Type} (sel : α → Option β) (x : α) (l : List α) :
    (x :: l).filterMap sel = (sel x).toList ++ l.filterMap sel := by
  rw [List.filterMap_cons]
  cases sel x <;> rfl

theorem filterMap_commitList {β : Type} (sel : Fired → Option β) (env : Env) (ctx : Ctx) (flows : List Flow) (txc : Bool) :
    (commitList env ctx flows txc).filterMap sel =
      (sel (.commitActions ctx.commitActions)).toList
        ++ flows.flatMap (fun fl => (postCommit fl (indexed (env.regs fl.store))).filterMap sel)
        ++ (if txc then (List.range env.txListeners).filterMap (fun i => sel (.txComplete i)) else []) := by
  unfold commitList
  cases txc <;> simp [List.filterMap_flatMap, filterMap_cons_toList, Function.comp_def]

theorem indexFrom_sel {α β : Type} (f : Nat × α → List β) (j : Nat) (hf : ∀ p, p.1 ≠ j → f p = [])
    (k : Nat) (l : List α) :
    (indexFrom k l).flatMap f =
      if k ≤ j then (match l[j - k]? with | some a => f (j, a) | none => []) else [] := by
  induction l generalizing k with
  | nil => simp [indexFrom]
  | cons a rest ih =>
    simp only [indexFrom, List.flatMap_cons, ih (k + 1)]
    by_cases hkj : k = j
    · subst hkj
      simp [show ¬ k + 1 ≤ k by omega]
    · rw [hf (k, a) hkj]
      by_cases hle : k + 1 ≤ j
      · simp [hle, show k ≤ j by omega, show j - k = (j - (k + 1)) + 1 by omega]
      · simp [hle, show ¬ k ≤ j by omega]

theorem indexed_sel {α β : Type} (f : Nat × α → List β) (j : Nat) (hf : ∀ p, p.1 ≠ j → f p = []) (l : List α) :
    (indexed l).flatMap f = match l[j]? with | some a => f (j, a) | none => [] := by
  simpa [indexed] using indexFrom_sel f j hf 0 l

theorem filterMap_deliver {β : Type} (sel : Fired → Option β) (fl : Flow) (reg : Nat) (ps : List (Nat × EvType)) :
    (deliver fl reg ps).filterMap sel = ps.flatMap fun p =>
      if p.2.kind = fl.kind then (sel (.listener fl.store reg p.1 p.2.async fl.kind (payload fl))).toList else [] := by
  induction ps with
  | nil => rfl
  | cons p rest ih =>
    obtain ⟨s, t⟩ := p
    simp only [deliver, List.flatMap_cons, ← ih]
    split
    · exact filterMap_cons_toList sel _ _
    · rfl

theorem filterMap_postCommit {β : Type} (sel : Fired → Option β) (fl : Flow) (ps : List (Nat × Reg)) :
    (postCommit fl ps).filterMap sel = ps.flatMap fun p =>
      match p.2 with
      | .listener _ types => (deliver fl p.1 (indexed types)).filterMap sel
      | .constraint _ _ => (sel (.post fl.store p.1 fl)).toList := by
  induction ps with
  | nil => rfl
  | cons p rest ih =>
    obtain ⟨i, r⟩ := p
    cases r with
    | listener _ types => simp only [postCommit, List.filterMap_append, List.flatMap_cons, ih]
    | constraint _ _ => simp only [postCommit, filterMap_cons_toList, List.flatMap_cons, ih]

theorem filterMap_deliver_nil {β : Type} (sel : Fired → Option β) (fl : Flow) (reg : Nat)
    (h : ∀ s a, sel (.listener fl.store reg s a fl.kind (payload fl)) = none) (ps : List (Nat × EvType)) :
    (deliver fl reg ps).filterMap sel = [] := by
  rw [filterMap_deliver, List.flatMap_eq_nil_iff]
  intro p _
  simp [h]

theorem filterMap_postCommit_nil {β : Type} (sel : Fired → Option β) (fl : Flow)
    (hl : ∀ i s a, sel (.listener fl.store i s a fl.kind (payload fl)) = none)
    (hp : ∀ i, sel (.post fl.store i fl) = none) (ps : List (Nat × Reg)) :
    (postCommit fl ps).filterMap sel = [] := by
  rw [filterMap_postCommit, List.flatMap_eq_nil_iff]
  intro p _
  cases p.2 with
  | listener _ types => exact filterMap_deliver_nil sel fl p.1 (hl p.1) _
  | constraint _ _ => simp [hp]

theorem postCommit_deliveries (env : Env) (σ : StoreId) (reg slot : Nat) (style : Style) (types : List EvType) (t : EvType)
    (hreg : (env.regs σ)[reg]? = some (.listener style types)) (hslot : types[slot]? = some t) (fl : Flow) :
    (postCommit fl (indexed (env.regs fl.store))).filterMap (delSel σ reg slot) =
      if fl.store = σ ∧ fl.kind = t.kind then [(t.async, fl.kind, payload fl)] else [] := by
  by_cases hs : fl.store = σ
  · subst hs
    rw [filterMap_postCommit, indexed_sel _ reg]
    · simp only [hreg]
      rw [filterMap_deliver, indexed_sel _ slot]
      · simp [hslot, delSel, eq_comm]
      · intro p hp
        simp [delSel, hp]
    · intro p hp
      cases p.2 with
      | listener _ types => exact filterMap_deliver_nil _ fl p.1 (by simp [delSel, hp]) _
      | constraint _ _ => rfl
  · rw [filterMap_postCommit_nil _ fl (by simp [delSel, hs]) (fun _ => rfl)]
    simp [hs]

theorem postCommit_posts (env : Env) (σ : StoreId) (reg : Nat) (typed : Bool) (vetoes : List (Kind × String))
    (hreg : (env.regs σ)[reg]? = some (.constraint typed vetoes)) (fl : Flow) :
    (postCommit fl (indexed (env.regs fl.store))).filterMap (postSel σ reg) = if fl.store = σ then [fl] else [] := by
  by_cases hs : fl.store = σ
  · subst hs
    rw [filterMap_postCommit, indexed_sel _ reg]
    · simp [hreg, postSel]
    · intro p hp
      cases p.2 with
      | listener _ types => exact filterMap_deliver_nil _ fl p.1 (fun _ _ => rfl) _
      | constraint _ _ => simp [postSel, hp]
  · rw [filterMap_postCommit_nil _ fl (fun _ _ _ => rfl) (by simp [postSel, hs])]
    simp [hs]

theorem flatMap_ite_singleton {α β : Type} (c : α → Prop) [DecidablePred c] (g : α → β) (l : List α) :
    (l.flatMap fun x => if c x then [g x] else []) = (l.filter fun x => c x).map g := by
  induction l with
  | nil => rfl
  | cons x rest ih =>
    rw [List.flatMap_cons, ih, List.filter_cons]
    by_cases hc : c x <;> simp [hc]

theorem deliveries_of_commitList (env : Env) (ctx : Ctx) (flows : List Flow) (txc : Bool)
    (σ : StoreId) (reg slot : Nat) (style : Style) (types : List EvType) (t : EvType)
    (hreg : (env.regs σ)[reg]? = some (.listener style types)) (hslot : types[slot]? = some t) :
    deliveriesTo σ reg slot (commitList env ctx flows txc) =
      (flows.filter (fun fl => fl.store = σ ∧ fl.kind = t.kind)).map (fun fl => (t.async, fl.kind, payload fl)) := by
  rw [deliveriesTo_eq_filterMap, filterMap_commitList]
  simp [postCommit_deliveries env σ reg slot style types t hreg hslot, flatMap_ite_singleton, delSel]

theorem posts_of_commitList (env : Env) (ctx : Ctx) (flows : List Flow) (txc : Bool)
    (σ : StoreId) (reg : Nat) (typed : Bool) (vetoes : List (Kind × String))
    (hreg : (env.regs σ)[reg]? = some (.constraint typed vetoes)) :
    postsTo σ reg (commitList env ctx flows txc) = flows.filter (fun fl => fl.store = σ) := by
  rw [postsTo_eq_filterMap, filterMap_commitList]
  simp [postCommit_posts env σ reg typed vetoes hreg, flatMap_ite_singleton, postSel]

theorem actions_of_commitList (env : Env) (ctx : Ctx) (flows : List Flow) :
    commitActionRuns (commitList env ctx flows true) = [ctx.commitActions] ∧
    txCompleteRuns (commitList env ctx flows true) = List.range env.txListeners := by
  rw [commitActionRuns_eq_filterMap, txCompleteRuns_eq_filterMap, filterMap_commitList, filterMap_commitList]
  simp only [filterMap_postCommit_nil actSel _ (fun _ _ _ => rfl) (fun _ => rfl),
    filterMap_postCommit_nil txcSel _ (fun _ _ _ => rfl) (fun _ => rfl)]
  simp [actSel, txcSel]

end StorageModel.Tx
