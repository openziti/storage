import StorageModel.Tx.Spec
/-
  Tx/Stages — the stages of a store operation (Tx/Store.lean) under the expected return table, each as a `Triple`:
  errors are only added (`Grows`), it goes through iff the spec's condition holds, and then only database and queue
  have changed as expected (`Passes`); an operation is its stages put together by `Triple.stop` / `andThen` / `seq`.
  Injected faults: the model counts calls, the spec gives call counts per
  operation; the two meet in windows of call numbers (`hitsAfter`).
-/
namespace StorageModel.Tx
open StorageModel.Tx.Spec

def Cnt.advance (c : Cnt) (lp lc pp pc : Nat) : Cnt := ⟨c.fillP + lp, c.fillC + lc, c.persP + pp, c.persC + pc⟩

def inWindow (base len n : Nat) : Bool := base < n && n ≤ base + len

theorem inWindow_iff (base len n : Nat) : inWindow base len n = true ↔ (base < n ∧ n ≤ base + len) := by
  simp [inWindow]

theorem inWindow_zero (len n : Nat) : inWindow 0 len n = decide (1 ≤ n ∧ n ≤ len) := by
  rw [Bool.eq_iff_iff, inWindow_iff, decide_eq_true_iff]
  omega

theorem inWindow_add (base l l' n : Nat) :
    inWindow base (l + l') n = (inWindow base l n || inWindow (base + l) l' n) := by
  rw [Bool.eq_iff_iff, Bool.or_eq_true, inWindow_iff, inWindow_iff, inWindow_iff]
  omega

theorem inWindow_none (base n : Nat) : inWindow base 0 n = false := by
  rw [← Bool.not_eq_true, inWindow_iff]
  omega

theorem inWindow_one (base n : Nat) : inWindow base 1 n = decide (n = base + 1) := by
  rw [Bool.eq_iff_iff, inWindow_iff, decide_eq_true_iff]
  omega

/-- the spec's "call number as seen `a` calls later, 0 if already past" is truncated subtraction -/
theorem shift_eq (n a : Nat) : (if n > a then n - a else 0) = n - a := by split <;> omega

theorem inWindow_shift (base len n : Nat) :
    inWindow base len n = decide (1 ≤ (if n > base then n - base else 0) ∧ (if n > base then n - base else 0) ≤ len) := by
  rw [shift_eq, Bool.eq_iff_iff, inWindow_iff, decide_eq_true_iff]
  omega

/-- the fault strikes one of the next `lp` / `lc` FillEntity or `pp` / `pc` PersistEntity calls made after the
    counters `c` (`faultHits` is the case of an operation that starts counting at zero) -/
def hitsAfter (fault : Fault) (c : Cnt) (lp lc pp pc : Nat) : Bool :=
  match fault with
  | .load .P n => inWindow c.fillP lp n
  | .load .C n => inWindow c.fillC lc n
  | .persist .P n => inWindow c.persP pp n
  | .persist .C n => inWindow c.persC pc n
  | _ => false

theorem hitsAfter_zero (fault : Fault) (lp lc pp pc : Nat) :
    hitsAfter fault Cnt.zero lp lc pp pc = faultHits fault lp lc pp pc := by
  cases fault with
  | none => rfl
  | load σ n =>
    cases σ with
    | P => exact inWindow_zero _ n
    | C => exact inWindow_zero _ n
    | D => rfl
  | persist σ n =>
    cases σ with
    | P => exact inWindow_zero _ n
    | C => exact inWindow_zero _ n
    | D => rfl

theorem hitsAfter_shift (fault : Fault) (c : Cnt) (lp lc : Nat) :
    hitsAfter fault c lp lc 0 0 = faultHits (shiftFault fault c.fillP c.fillC) lp lc 0 0 := by
  cases fault with
  | none => rfl
  | load σ n =>
    cases σ with
    | P => exact inWindow_shift _ _ n
    | C => exact inWindow_shift _ _ n
    | D => rfl
  | persist σ n =>
    -- no PersistEntity call in the window: neither side strikes
    cases σ with
    | P => exact (inWindow_none _ n).trans (decide_eq_false (p := 1 ≤ n ∧ n ≤ 0) (by omega)).symm
    | C => exact (inWindow_none _ n).trans (decide_eq_false (p := 1 ≤ n ∧ n ≤ 0) (by omega)).symm
    | D => rfl

theorem hitsAfter_add (fault : Fault) (c : Cnt) (lp lc pp pc lp' lc' pp' pc' : Nat) :
    hitsAfter fault c (lp + lp') (lc + lc') (pp + pp') (pc + pc') =
      (hitsAfter fault c lp lc pp pc || hitsAfter fault (c.advance lp lc pp pc) lp' lc' pp' pc') := by
  cases fault with
  | none => rfl
  | load σ n =>
    cases σ with
    | P => exact inWindow_add _ _ _ n
    | C => exact inWindow_add _ _ _ n
    | D => rfl
  | persist σ n =>
    cases σ with
    | P => exact inWindow_add _ _ _ n
    | C => exact inWindow_add _ _ _ n
    | D => rfl

theorem hitsAfter_one (fault : Fault) (c : Cnt) :
    hitsAfter fault c 0 0 0 0 = false ∧
    hitsAfter fault c 1 0 0 0 = decide (fault = .load .P (c.fillP + 1)) ∧
    hitsAfter fault c 1 1 0 0 = decide (fault = .load .P (c.fillP + 1) ∨ fault = .load .C (c.fillC + 1)) ∧
    hitsAfter fault c 0 0 1 0 = decide (fault = .persist .P (c.persP + 1)) ∧
    hitsAfter fault c 0 0 1 1 = decide (fault = .persist .P (c.persP + 1) ∨ fault = .persist .C (c.persC + 1)) := by
  cases fault with
  | none => simp [hitsAfter]
  | load σ n => cases σ <;> simp [hitsAfter, inWindow_none, inWindow_one]
  | persist σ n => cases σ <;> simp [hitsAfter, inWindow_none, inWindow_one]

/-- FillEntity calls a FindById through store σ makes on the parent strategy: one if σ holds the entity (`view`);
    through C, the strategy of C is called as often (`ifC`) -/
def loads (σ : StoreId) (db : Db) (id : String) : Nat := if (view σ db id).isSome then 1 else 0

theorem findById_eq (fault : Fault) (σ : StoreId) (c : Cnt) (db : Db) (id : String) :
    findById fault σ c db id =
      (c.advance (loads σ db id) (ifC σ (loads σ db id)) 0 0,
       hitsAfter fault c (loads σ db id) (ifC σ (loads σ db id)) 0 0,
       if hitsAfter fault c (loads σ db id) (ifC σ (loads σ db id)) 0 0 then none else view σ db id) := by
  obtain ⟨h0, h1, h2, _, _⟩ := hitsAfter_one fault c
  have hz : ifC σ 0 = 0 := by cases σ <;> rfl
  unfold findById loads view
  cases db.get id with
  | none => simp [hz, h0, Cnt.advance]
  | some e =>
    cases σ with
    | P =>
      simp only [Option.isSome_some, if_true, ifC, h1, Cnt.advance]
      split <;> simp [*]
    | C =>
      cases hc : e.child with
      | none => simp [hc, ifC, h0, Cnt.advance]
      | some r =>
        simp only [hc, Option.map_some, Option.isSome_some, if_true, ifC, h2, Cnt.advance]
        split <;> simp [*]
    | D =>
      cases hc : e.child2 with
      | none => simp [hc, ifC, h0, Cnt.advance]
      | some r =>
        simp only [hc, Option.map_some, Option.isSome_some, if_true, ifC, h1, Cnt.advance]
        split <;> simp [*]

theorem findById_none (σ : StoreId) (c : Cnt) (db : Db) (id : String) :
    (findById .none σ c db id).2 = (false, view σ db id) := by
  rw [findById_eq]
  rfl

theorem persist_eq (fault : Fault) (σ : StoreId) (c : Cnt) (f : PFields) :
    persist fault σ c f =
      (c.advance 0 0 1 (ifC σ 1),
       (valueErr f).or (if hitsAfter fault c 0 0 1 (ifC σ 1) then some .persist else none)) := by
  obtain ⟨_, _, _, h3, h4⟩ := hitsAfter_one fault c
  unfold persist
  cases σ <;> simp [ifC, h3, h4, Cnt.advance]

/-- whatever the result of a stage: the context is untouched and errors are only added to the record -/
structure Grows (a b : TxSt) : Prop where
  ctx : b.ctx = a.ctx
  raised : ∃ more, b.raised = a.raised ++ more

theorem Grows.refl (a : TxSt) : Grows a a := ⟨rfl, [], (List.append_nil _).symm⟩

theorem Grows.trans {a b c : TxSt} (h1 : Grows a b) (h2 : Grows b c) : Grows a c := by
  obtain ⟨m1, e1⟩ := h1.raised
  obtain ⟨m2, e2⟩ := h2.raised
  exact ⟨h2.ctx.trans h1.ctx, m1 ++ m2, by rw [e2, e1, List.append_assoc]⟩

theorem Grows.raise (a : TxSt) (e : Err) : Grows a (a.raise e) := ⟨rfl, [e], rfl⟩

theorem Grows.raiseOpt (a : TxSt) (o : Option Err) : Grows a (raiseOpt a o) := by
  cases o with
  | none => exact Grows.refl a
  | some e => exact ⟨rfl, [e], rfl⟩

/-- agreement on the fields `Passes` fixes outright (record and queue it states relative to the start) -/
structure SameCore (a b : TxSt) : Prop where
  db : a.db = b.db
  ctx : a.ctx = b.ctx
  inexact : a.inexact = b.inexact

/-- `b` is `a` after stages that went through: database `db`, `flows` queued, nothing else changed -/
structure Passes (a b : TxSt) (db : Db) (flows : List Flow) : Prop where
  core : SameCore b { a with db := db }
  raised : b.raised = a.raised
  queue : b.queue = a.queue ++ flows.map .post

theorem Passes.refl (a : TxSt) : Passes a a a.db [] := ⟨⟨rfl, rfl, rfl⟩, rfl, (List.append_nil _).symm⟩

theorem Passes.seq {a b c : TxSt} {db1 db2 : Db} {f1 f2 : List Flow}
    (h1 : Passes a b db1 f1) (h2 : Passes b c db2 f2) : Passes a c db2 (f1 ++ f2) :=
  ⟨⟨h2.core.db, h2.core.ctx.trans h1.core.ctx, h2.core.inexact.trans h1.core.inexact⟩,
    h2.raised.trans h1.raised, by rw [h2.queue, h1.queue, List.map_append, List.append_assoc]⟩

theorem Passes.enqueue {a b : TxSt} {db : Db} {flows : List Flow} (h : Passes a b db flows) (fl : Flow) :
    Passes a (b.enqueue (.post fl)) db (flows ++ [fl]) :=
  ⟨⟨h.core.db, h.core.ctx, h.core.inexact⟩, h.raised, by simp [TxSt.enqueue, h.queue]⟩

theorem Grows.rebase {a a' b : TxSt} (h : Grows a' b) (hc : a'.ctx = a.ctx) (hr : a'.raised = a.raised) :
    Grows a b := ⟨h.ctx.trans hc, hr ▸ h.raised⟩

/-- the stage that took `a` to `b` went through (`ok`) iff `C`, and then left database `db` and queued `flows` -/
structure Triple (a b : TxSt) (ok C : Prop) (db : Db) (flows : List Flow) : Prop where
  grows : Grows a b
  iff : ok ↔ C
  passes : ok → Passes a b db flows

namespace Triple
variable {a a' b c : TxSt} {ok ok' C C' : Prop} {db db' : Db} {f f' : List Flow}

theorem skip (h : ok ↔ C) : Triple a a ok C a.db [] := ⟨Grows.refl a, h, fun _ => Passes.refl a⟩

/-- a stage that did not go through ends the operation: the result is not `ok'`, whatever else `C'` asks for -/
theorem stop (s : Triple a b ok C db f) (hno : ¬ok) (hno' : ¬ok') (hC : C' → C) : Triple a b ok' C' db' f' :=
  ⟨s.grows, ⟨fun h => absurd h hno', fun h => absurd (s.iff.mpr (hC h)) hno⟩, fun h => absurd h hno'⟩

/-- what follows a stage whose going through `ok'` presupposes (the index stage of a write: the error it records is returned
    only at the end, after the events have fired); the last write counts -/
theorem seq (s : Triple a b ok C db f) (hok : ok' → ok) (s' : Triple b c ok' C' db' f') :
    Triple a c ok' (C ∧ C') db' (f ++ f') :=
  ⟨s.grows.trans s'.grows, ⟨fun h => ⟨s.iff.mp (hok h), s'.iff.mp h⟩, fun h => s'.iff.mpr h.2⟩,
    fun h => (s.passes (hok h)).seq (s'.passes h)⟩

/-- what follows a stage that went through -/
theorem andThenWrite (s : Triple a b ok C db f) (hok : ok) (s' : Triple b c ok' C' db' f') :
    Triple a c ok' (C ∧ C') db' (f ++ f') := s.seq (fun _ => hok) s'

/-- what follows a stage that went through, when it writes nothing -/
theorem andThen (s : Triple a b ok C db f) (hok : ok) (s' : Triple b c ok' C' b.db f') :
    Triple a c ok' (C ∧ C') db (f ++ f') :=
  (show b.db = db from (s.passes hok).core.db) ▸ s.andThenWrite hok s'

/-- a triple looks at context, record, exactness and queue of the state the stage starts from: a state that differs from it
    elsewhere (the call log, a database about to be overwritten) will do -/
theorem rebase (s : Triple a' b ok C db f) (hc : a'.ctx = a.ctx) (hr : a'.raised = a.raised)
    (hi : a'.inexact = a.inexact) (hq : a'.queue = a.queue) : Triple a b ok C db f :=
  ⟨s.grows.rebase hc hr, s.iff, fun h =>
    ⟨⟨(s.passes h).core.db, (s.passes h).core.ctx.trans hc, (s.passes h).core.inexact.trans hi⟩,
      (s.passes h).raised.trans hr, hq ▸ (s.passes h).queue⟩⟩

/-- the same condition in other words; database and flows need only agree when it holds -/
theorem congr (s : Triple a b ok C db f) (hC : C ↔ C') (h : C' → db' = db ∧ f' = f) : Triple a b ok C' db' f' :=
  ⟨s.grows, s.iff.trans hC, fun hok => by
    obtain ⟨e1, e2⟩ := h ((s.iff.trans hC).mp hok)
    exact e1 ▸ e2 ▸ s.passes hok⟩

theorem of_iff (s : Triple a b ok C db f) (hC : C ↔ C') : Triple a b ok C' db f := s.congr hC fun _ => ⟨rfl, rfl⟩
end Triple

theorem preCommitLoop_spec (t : CrudReturns) (ht : t.preCommitLoop = .propagate) (fl : Flow)
    (k : Nat) (l : List Reg) (st : TxSt) :
    Triple st (preCommitLoop t fl (indexFrom k l) st).1 ((preCommitLoop t fl (indexFrom k l) st).2 = none)
      ((l.any fun | .constraint _ vs => vs.contains (fl.kind, fl.id) | .listener _ _ => false) = false) st.db [] := by
  induction l generalizing k st with
  | nil => exact .skip (by simp [indexFrom, preCommitLoop])
  | cons r rest ih =>
    cases r with
    | listener s ts => simpa [indexFrom, preCommitLoop] using ih (k + 1) st
    | constraint ty vs =>
      cases hv : vs.contains (fl.kind, fl.id) with
      | true =>
        simp only [indexFrom, preCommitLoop, hv, if_true, ht, List.any_cons, Bool.true_or]
        exact ⟨⟨rfl, [_], rfl⟩, by simp, nofun⟩
      | false =>
        -- the call is logged; the log is none of the fields a triple speaks of
        have s := (ih (k + 1) { st with preLog := st.preLog ++ [.pre ⟨fl.store, k, fl.kind, fl.id, fl.parentEvent⟩] }).rebase
          (a := st) rfl rfl rfl rfl
        simpa only [indexFrom, preCommitLoop, hv, Bool.false_eq_true, if_false, List.any_cons, Bool.false_or] using s

@[simp] theorem act_propagate (e : Err) : Ret.act .propagate e = .ret (.err e) := rfl

theorem fireEvents_spec (env : Env) (h : env.t = expectedReturns) (fl : Flow) (st : TxSt) :
    Triple st (fireEvents env fl st).1 ((fireEvents env fl st).2 = none) (vetoed env fl.store fl.kind fl.id = false)
      st.db [fl] := by
  have s : Triple st _ _ (vetoed env fl.store fl.kind fl.id = false) st.db [] :=
    preCommitLoop_spec expectedReturns rfl fl 0 (env.regs fl.store) st
  unfold fireEvents indexed
  simp only [h, exp_queueAfterVeto, exp_fireEventsVeto, if_true]
  cases hr : (preCommitLoop expectedReturns fl (indexFrom 0 (env.regs fl.store)) st).2 with
  | some err => exact s.stop (by simp [hr]) nofun id
  | none => exact ⟨⟨s.grows.ctx, s.grows.raised⟩, ⟨fun _ => s.iff.mp hr, fun _ => rfl⟩, fun _ => (s.passes hr).enqueue fl⟩

/-- the flows an accepted write announces: the parent store first when the entity lives in a child store -/
def flowsOf (fl : Flow) : List Flow :=
  (match fl.store with
    | .P => []
    | _ => [parentFlow fl]) ++ [fl]

theorem fireParentEvent_spec (env : Env) (h : env.t = expectedReturns) (fl : Flow) (st : TxSt) :
    Triple st (fireParentEvent env fl st).1 ((fireParentEvent env fl st).2 = none)
      (fl.store = .P ∨ vetoed env .P fl.kind fl.id = false) st.db (match fl.store with | .P => [] | _ => [parentFlow fl]) := by
  have s : Triple st (fireEvents env (parentFlow fl) st).1 ((fireEvents env (parentFlow fl) st).2 = none)
      (vetoed env .P fl.kind fl.id = false) st.db [parentFlow fl] := fireEvents_spec env h (parentFlow fl) st
  unfold fireParentEvent
  cases hs : fl.store
  case P => exact .skip (by simp)
  all_goals
    simp only [h, exp_parentEventReturn, reduceCtorEq, false_or]
    cases hr : (fireEvents env (parentFlow fl) st).2 with
    | some err => exact s.stop (by simp [hr]) nofun id
    | none => exact ⟨s.grows, ⟨fun _ => s.iff.mp hr, fun _ => hr⟩, fun _ => s.passes hr⟩

theorem finishWrite_spec (env : Env) (h : env.t = expectedReturns) (fault : Fault) (fl : Flow)
    (holder : Option Err) (c : Cnt) (st : TxSt) :
    Triple st (finishWrite env fault .propagate .propagate .propagate true fl holder c st).1
      ((finishWrite env fault .propagate .propagate .propagate true fl holder c st).2 = .ok)
      (hitsAfter fault c (loads fl.store st.db fl.id) (ifC fl.store (loads fl.store st.db fl.id)) 0 0 = false ∧
       (fl.store = .P ∨ vetoed env .P fl.kind fl.id = false) ∧
       vetoed env fl.store fl.kind fl.id = false ∧ holder = none)
      st.db (flowsOf { fl with final := view fl.store st.db fl.id }) := by
  simp only [finishWrite, findById_eq, act_propagate]
  cases hitsAfter fault c (loads fl.store st.db fl.id) (ifC fl.store (loads fl.store st.db fl.id)) 0 0 with
  | true => exact ⟨Grows.raise st _, by simp, nofun⟩
  | false =>
    simp only [Bool.false_eq_true, if_false, true_and]
    have s1 := fireParentEvent_spec env h { fl with final := view fl.store st.db fl.id } st
    cases hp : (fireParentEvent env { fl with final := view fl.store st.db fl.id } st).2 with
    | some err => exact s1.stop (by simp [hp]) nofun And.left
    | none =>
      have s2 := fireEvents_spec env h { fl with final := view fl.store st.db fl.id }
        (fireParentEvent env { fl with final := view fl.store st.db fl.id } st).1
      cases ho : (fireEvents env { fl with final := view fl.store st.db fl.id }
          (fireParentEvent env { fl with final := view fl.store st.db fl.id } st).1).2 with
      | some err => exact s1.andThen hp (s2.stop (by simp [ho]) nofun And.left)
      | none =>
        -- the final `return bucket.Err`
        exact s1.andThen hp (s2.andThen ho (.skip (by cases holder <;> simp [holderRes])))

@[simp] theorem raiseOpt_none (st : TxSt) : raiseOpt st none = st := rfl

theorem raiseOpt_db (st : TxSt) (o : Option Err) : (raiseOpt st o).db = st.db := by cases o <;> rfl

theorem ixLoop_spec (σ : StoreId) (stage : Stage) (id : String) (isCreate : Bool)
    (k : Nat) (l : List IxReg) (h : Option Err) (st : TxSt) :
    Triple st (ixLoop σ stage id isCreate (indexFrom k l) h st).1 ((ixLoop σ stage id isCreate (indexFrom k l) h st).2 = none)
      (h = none ∧ (l.any fun vs => vs.contains (stage, id)) = false) st.db [] := by
  induction l generalizing k h st with
  | nil => exact .skip (by simp [indexFrom, ixLoop])
  | cons vs rest ih =>
    cases hv : vs.contains (stage, id) with
    | true =>
      -- the holder keeps the first error it was given: it is not empty from here on
      have s := ih (k + 1) (h.or (some (.ixVeto σ k)))
        ({ st with preLog := st.preLog ++ [LogItem.ix ⟨σ, k, stage, id, isCreate⟩] }.raise (.ixVeto σ k))
      have hne : ¬(h.or (some (Err.ixVeto σ k)) = none) := by cases h <;> simp
      simp only [indexFrom, ixLoop, hv, if_true, List.any_cons, Bool.true_or]
      exact ⟨((Grows.raise _ _).trans s.grows).rebase rfl rfl, ⟨fun hn => absurd (s.iff.mp hn).1 hne, fun hx => by cases hx.2⟩,
        fun hn => absurd (s.iff.mp hn).1 hne⟩
    | false =>
      have s := (ih (k + 1) h { st with preLog := st.preLog ++ [LogItem.ix ⟨σ, k, stage, id, isCreate⟩] }).rebase (a := st) rfl rfl rfl rfl
      simpa only [indexFrom, ixLoop, hv, Bool.false_eq_true, if_false, List.any_cons, Bool.false_or] using s

theorem ixStage_some (env : Env) (σ : StoreId) (stage : Stage) (id : String) (isCreate : Bool)
    (builtin : Option Err) (e : Err) (st : TxSt) :
    ixStage env σ stage id isCreate builtin (some e) st = (st, some e) := by
  unfold ixStage
  cases σ <;> rfl

theorem ixVetoedFor_false (env : Env) (σ : StoreId) (stage : Stage) (id : String) :
    ixVetoedFor env σ stage id = false ↔
      (ixVetoed env .P stage id = false ∧ (σ ≠ .P → ixVetoed env σ stage id = false)) := by
  unfold ixVetoedFor
  cases σ <;> simp

theorem ixStage_spec (env : Env) (σ : StoreId) (stage : Stage) (id : String) (isCreate : Bool)
    (builtin : Option Err) (st : TxSt) :
    Triple st (ixStage env σ stage id isCreate builtin none st).1 ((ixStage env σ stage id isCreate builtin none st).2 = none)
      (builtin = none ∧ ixVetoedFor env σ stage id = false) st.db [] := by
  have sP : Triple st (ixLoop .P stage id isCreate (indexFrom 0 env.ixP) builtin (raiseOpt st builtin)).1
      ((ixLoop .P stage id isCreate (indexFrom 0 env.ixP) builtin (raiseOpt st builtin)).2 = none)
      (builtin = none ∧ ixVetoed env .P stage id = false) st.db [] := by
    have s := ixLoop_spec .P stage id isCreate 0 env.ixP builtin (raiseOpt st builtin)
    refine ⟨(Grows.raiseOpt st builtin).trans s.grows, s.iff, fun hn => ?_⟩
    obtain rfl := (s.iff.mp hn).1
    exact s.passes hn
  -- a child store's level runs only while the holder is empty
  have hchild : ∀ τ : StoreId, τ ≠ .P →
      let r : TxSt × Option Err :=
        match (ixLoop .P stage id isCreate (indexFrom 0 env.ixP) builtin (raiseOpt st builtin)).2 with
        | some e => ((ixLoop .P stage id isCreate (indexFrom 0 env.ixP) builtin (raiseOpt st builtin)).1, some e)
        | none => ixLoop τ stage id isCreate (indexFrom 0 (env.ix τ)) none
            (ixLoop .P stage id isCreate (indexFrom 0 env.ixP) builtin (raiseOpt st builtin)).1
      Triple st r.1 (r.2 = none) (builtin = none ∧ ixVetoedFor env τ stage id = false) st.db [] := by
    intro τ hτ
    have hC : ((builtin = none ∧ ixVetoed env .P stage id = false) ∧ ixVetoed env τ stage id = false) ↔
        (builtin = none ∧ ixVetoedFor env τ stage id = false) := by
      rw [ixVetoedFor_false]
      exact ⟨fun hx => ⟨hx.1.1, hx.1.2, fun _ => hx.2⟩, fun hx => ⟨⟨hx.1, hx.2.1⟩, hx.2.2 hτ⟩⟩
    refine Triple.of_iff ?_ hC
    cases hp : (ixLoop .P stage id isCreate (indexFrom 0 env.ixP) builtin (raiseOpt st builtin)).2 with
    | some e => exact sP.stop (by simp [hp]) nofun And.left
    | none =>
      have s := ixLoop_spec τ stage id isCreate 0 (env.ix τ) none
        (ixLoop .P stage id isCreate (indexFrom 0 env.ixP) builtin (raiseOpt st builtin)).1
      exact sP.andThen hp (s.of_iff (by simp [ixVetoed]))
  unfold ixStage indexed
  cases σ with
  | P => exact sP.of_iff (by rw [ixVetoedFor_false]; simp)
  | C => exact hchild .C (by decide)
  | D => exact hchild .D (by decide)

/-! The checks of the storage and index layer are chains of `if … then some e else …` (the first error wins): the
    result is `none` iff every test fails.  The spec states the same tests as one Boolean. -/

theorem ite_some_eq_none {α : Type} {c : Prop} [Decidable c] (e : α) (r : Option α) :
    (if c then some e else r) = none ↔ ¬c ∧ r = none := by
  split <;> simp [*]

theorem ite_none_eq_none {α : Type} {c : Prop} [Decidable c] (r : Option α) :
    (if c then none else r) = none ↔ c ∨ r = none := by
  split <;> simp [*]

theorem tagsErr_none (tags : List TagEntry) : tagsErr tags = none ↔ tagsRejected tags = false := by
  unfold tagsErr tagsRejected
  simp only [ite_some_eq_none, List.any_eq_true, Bool.or_eq_true, List.any_eq_false]
  constructor
  · intro ⟨h1, h2, _⟩ e he hx
    exact hx.elim (fun hu => h1 ⟨e, he, hu⟩) (fun hk => h2 ⟨e, he, hk⟩)
  · intro h
    exact ⟨fun ⟨e, he, hu⟩ => h e he (.inl hu), fun ⟨e, he, hk⟩ => h e he (.inr hk), trivial⟩

theorem linksErr_none (links : List String) : linksErr links = none ↔ linksRejected links = false := by
  unfold linksErr linksRejected
  rw [ite_some_eq_none]
  simp

theorem valueErr_none (f : PFields) : valueErr f = none ↔ keyRejected f = false := by
  unfold valueErr keyRejected
  rw [Option.or_eq_none_iff, Option.or_eq_none_iff, ite_some_eq_none, tagsErr_none, linksErr_none]
  simp [and_assoc]

theorem persist_none (σ : StoreId) (c : Cnt) (f : PFields) :
    ((persist .none σ c f).2 = none) ↔ keyRejected f = false := by
  rw [← valueErr_none]
  unfold persist
  cases σ <;> cases h : valueErr f <;> simp

theorem uniqueErr_none (isCreate : Bool) (db : Db) (id : String) (old : Option PFields) (f : PFields) :
    uniqueErr isCreate db id old f = none ↔ nameRejected isCreate db id old f = false := by
  unfold uniqueErr nameRejected
  rw [ite_none_eq_none, ite_some_eq_none, ite_some_eq_none, ite_some_eq_none, bne]
  generalize db.any (fun p => p.2.f.name == f.name && !(p.1 == id)) = dup
  generalize (old.map (·.name) == some f.name) = same
  cases isCreate <;> cases same <;> cases dup <;> simp

theorem setErr_none (old : Option PFields) (f : PFields) : setErr old f = none ↔ rolesRejected old f = false := by
  unfold setErr rolesRejected
  simp only [ite_none_eq_none, ite_some_eq_none, bne]
  generalize ((old.map (·.roles)).getD [] == normRoles f.roles) = same
  cases same <;> simp

theorem fkErr_none (isCreate : Bool) (db' : Db) (old : Option PFields) (f : PFields) :
    fkErr isCreate db' old f = none ↔ refRejected isCreate db' old f = false := by
  unfold fkErr refRejected
  simp only [ite_none_eq_none, ite_some_eq_none, bne]
  generalize refBytes (old.bind (·.ref)) = o
  generalize refBytes f.ref = n
  generalize (db'.get o).isNone = a
  generalize (db'.get n).isNone = b
  generalize (o == n) = same
  cases isCreate <;> cases same <;> simp

theorem indexErr_none (isCreate : Bool) (db db' : Db) (id : String) (old : Option PFields) (f : PFields) :
    indexErr isCreate db db' id old f = none ↔
      (nameRejected isCreate db id old f = false ∧ rolesRejected old f = false ∧ refRejected isCreate db' old f = false) := by
  unfold indexErr
  rw [Option.or_eq_none_iff, Option.or_eq_none_iff, uniqueErr_none, setErr_none, fkErr_none]

theorem persistErr_none (fault : Fault) (c : Cnt) (k : Nat) (f : PFields) :
    (valueErr f).or (if hitsAfter fault c 0 0 1 k then some Err.persist else none) = none ↔
      (keyRejected f = false ∧ hitsAfter fault c 0 0 1 k = false) := by
  rw [Option.or_eq_none_iff, valueErr_none, ite_some_eq_none]
  simp

theorem passVetoes_all (env : Env) (flows : List Flow) (h : (passVetoes env flows).2 = true) :
    (passVetoes env flows).1 = flows := by
  induction flows with
  | nil => rfl
  | cons fl rest ih =>
    unfold passVetoes at h ⊢
    by_cases hv : vetoed env fl.store fl.kind fl.id = true
    · simp [hv] at h
    · simp only [hv, Bool.false_eq_true, if_false] at h ⊢
      rw [ih h]

theorem passVetoes_cons (env : Env) (fl : Flow) (rest : List Flow) :
    (passVetoes env (fl :: rest)).2 = true ↔
      (vetoed env fl.store fl.kind fl.id = false ∧ (passVetoes env rest).2 = true) := by
  rw [passVetoes]
  split <;> simp [*]

theorem passVetoes_ok_iff (env : Env) (flows : List Flow) :
    (passVetoes env flows).2 = true ↔ ∀ fl ∈ flows, vetoed env fl.store fl.kind fl.id = false := by
  induction flows with
  | nil => simp [passVetoes]
  | cons fl rest ih => rw [passVetoes_cons, ih, List.forall_mem_cons]

theorem view_child_toParent (σ : StoreId) (db : Db) (id : String) (h : (view σ db id).isSome = true) :
    (view σ db id).map EntView.toParent = view .P db id := by
  unfold view at *
  cases hg : db.get id with
  | none => simp [hg] at h
  | some e =>
    simp only [hg] at h ⊢
    cases σ with
    | P => simp [EntView.toParent]
    | C =>
      cases hc : e.child with
      | none => simp [hc] at h
      | some r => simp [EntView.toParent]
    | D =>
      cases hc : e.child2 with
      | none => simp [hc] at h
      | some r => simp [EntView.toParent]

theorem view_C_toParent (db : Db) (id : String) (h : (view .C db id).isSome = true) :
    (view .C db id).map EntView.toParent = view .P db id := view_child_toParent .C db id h

theorem view_C_some_P (db : Db) (id : String) (h : (view .C db id).isSome = true) : (view .P db id).isSome = true := by
  rw [← view_C_toParent db id h, Option.isSome_map]
  exact h

theorem view_put_same (σ : StoreId) (db : Db) (id : String) (e : Ent) :
    view σ (db.put id e) id = (match σ with
      | .P => some (.parent id e.f)
      | .C => e.child.map fun r => .child id e.f r
      | .D => e.child2.map fun g => .child2 id e.f g) := by
  unfold view
  rw [Db.get_put_same]
  cases σ <;> rfl

theorem view_created_some (σ : StoreId) (db : Db) (id : String) (f : PFields) (rank : String) :
    (view σ (db.put id (writtenEnt σ db id f rank)) id).isSome = true := by
  rw [view_put_same]
  cases σ <;> simp [writtenEnt]

/-- what Create and Update share once the holder is known to be empty before PersistEntity: the write (which
    records `pe`), ProcessAfterUpdate, loadFinalState, events, final return -/
theorem writeTail_spec (env : Env) (h : env.t = expectedReturns) (fault : Fault) (σ : StoreId) (id : String)
    (isCreate : Bool) (builtin pe : Option Err) (k : Kind) (ini : Option EntView) (c : Cnt) (st : TxSt) (db' : Db)
    (hv : (view σ db' id).isSome = true) (r : TxSt × Res)
    (hr : r = finishWrite env fault .propagate .propagate .propagate true ⟨σ, k, id, ini, none, false⟩
      (ixStage env σ .afterUpdate id isCreate builtin pe (raiseOpt { st with db := db' } pe)).2 c
      (ixStage env σ .afterUpdate id isCreate builtin pe (raiseOpt { st with db := db' } pe)).1) :
    Triple st r.1 (r.2 = .ok)
      (pe = none ∧ builtin = none ∧ ixVetoedFor env σ .afterUpdate id = false ∧
       hitsAfter fault c 1 (ifC σ 1) 0 0 = false ∧ (σ = .P ∨ vetoed env .P k id = false) ∧ vetoed env σ k id = false)
      db' (flowsOf ⟨σ, k, id, ini, view σ db' id, false⟩) := by
  subst hr
  cases pe with
  | some e =>
    simp only [ixStage_some]
    have sf := finishWrite_spec env h fault ⟨σ, k, id, ini, none, false⟩ (some e) c
      (raiseOpt { st with db := db' } (some e))
    exact ⟨((Grows.raiseOpt { st with db := db' } (some e)).rebase (a := st) rfl rfl).trans sf.grows,
      ⟨fun hok => (nomatch (sf.iff.mp hok).2.2.2), fun hx => (nomatch hx.1)⟩, fun hok => (nomatch (sf.iff.mp hok).2.2.2)⟩
  | none =>
    simp only [raiseOpt_none]
    have si := (ixStage_spec env σ .afterUpdate id isCreate builtin { st with db := db' }).rebase (a := st) rfl rfl rfl rfl
    generalize ixStage env σ .afterUpdate id isCreate builtin none { st with db := db' } = IX at si ⊢
    have sf := finishWrite_spec env h fault ⟨σ, k, id, ini, none, false⟩ IX.2 c IX.1
    have hdb : (builtin = none ∧ ixVetoedFor env σ .afterUpdate id = false) → IX.2 = none ∧ IX.1.db = db' :=
      fun hi => ⟨si.iff.mpr hi, (si.passes (si.iff.mpr hi)).core.db⟩
    -- the error the index stage recorded is returned only after the events have fired
    refine (si.seq (fun hok => (sf.iff.mp hok).2.2.2) sf).congr ?_ fun hx => ?_
    · constructor
      · intro ⟨hi, hh, hp, ho, _⟩
        rw [(hdb hi).2, loads, hv] at hh
        exact ⟨trivial, hi.1, hi.2, hh, hp, ho⟩
      · intro ⟨_, hb, hx, hh, hp, ho⟩
        refine ⟨⟨hb, hx⟩, ?_, hp, ho, (hdb ⟨hb, hx⟩).1⟩
        rw [(hdb ⟨hb, hx⟩).2, loads, hv]
        exact hh
    · rw [(hdb ⟨hx.2.1, hx.2.2.1⟩).2]
      exact ⟨rfl, rfl⟩

def deleteFlow (σ : StoreId) (id : String) (init : EntView) : Flow :=
  { store := σ, kind := .deleted, id := id, initial := some init, final := none, parentEvent := false }

/-- what the delete-constraints pass of store τ, started at the call counters `c`, asks of the database -/
def roundOk (env : Env) (fault : Fault) (τ : StoreId) (db : Db) (id : String) (c : Cnt) : Prop :=
  hitsAfter fault c (loads τ db id) (ifC τ (loads τ db id)) 0 0 = false ∧
    ((view τ db id).isSome = true → deleteConstraintErr db id = none ∧ ixVetoedFor env τ .beforeDelete id = false)

theorem pdc_spec (env : Env) (h : env.t = expectedReturns) (fault : Fault) (σ : StoreId) (id : String)
    (c : Cnt) (st : TxSt) (db : Db) (hdb : st.db = db) :
    (processDeleteConstraints env fault σ id c st).2.1 = c.advance (loads σ db id) (ifC σ (loads σ db id)) 0 0 ∧
    Triple st (processDeleteConstraints env fault σ id c st).1 ((processDeleteConstraints env fault σ id c st).2.2.2 = none)
      (roundOk env fault σ db id c) db [] ∧
    ((processDeleteConstraints env fault σ id c st).2.2.2 = none →
      (processDeleteConstraints env fault σ id c st).2.2.1 = (view σ db id).map (deleteFlow σ id)) := by
  subst hdb
  unfold processDeleteConstraints roundOk
  simp only [findById_eq, h, exp_pdcInit, exp_pdcFinalHolder, if_true]
  cases hitsAfter fault c (loads σ st.db id) (ifC σ (loads σ st.db id)) 0 0 with
  | true => exact ⟨rfl, ⟨Grows.raise st _, by simp, nofun⟩, nofun⟩
  | false =>
    simp only [Bool.false_eq_true, if_false, true_and]
    cases hv : view σ st.db id with
    | none => exact ⟨rfl, .skip (by simp), fun _ => rfl⟩
    | some init =>
      have si := ixStage_spec env σ .beforeDelete id false (deleteConstraintErr st.db id) st
      generalize ixStage env σ .beforeDelete id false (deleteConstraintErr st.db id) none st = IX at si ⊢
      simp only [Option.isSome_some, forall_const]
      cases hix : IX.2 with
      | some e => exact ⟨trivial, ⟨⟨si.grows.ctx, si.grows.raised⟩, by simp [← si.iff, hix], nofun⟩, nofun⟩
      | none => exact ⟨trivial, ⟨si.grows, by simp [← si.iff, hix], fun _ => si.passes hix⟩, fun _ => rfl⟩

theorem fireAll_spec (env : Env) (h : env.t = expectedReturns) (flows : List Flow) (st : TxSt) :
    Triple st (fireAll env .propagate flows st).1 ((fireAll env .propagate flows st).2 = .ok)
      ((passVetoes env flows).2 = true) st.db flows := by
  induction flows generalizing st with
  | nil => exact .skip (by simp [fireAll, passVetoes])
  | cons fl rest ih =>
    have s := fireEvents_spec env h fl st
    refine Triple.of_iff ?_ (passVetoes_cons env fl rest).symm
    simp only [fireAll, act_propagate]
    cases hr : (fireEvents env fl st).2 with
    | some err => exact s.stop (by simp [hr]) nofun And.left
    | none => exact s.andThen hr (ih _)

end StorageModel.Tx
