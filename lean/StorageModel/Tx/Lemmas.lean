import StorageModel.Tx.Ops
/-
  Tx/Lemmas — transaction bodies (`runSteps_refines`; `specStep`: the spec's reading of one step), whole transactions (Db.Update, Db.Batch with
  its re-run, a context around a transaction got elsewhere) and histories against the spec of Tx/Spec.lean
  (`runTx_agree`, `runCase_agree`).
-/
namespace StorageModel.Tx
open StorageModel.Tx.Spec

/-- the caller hands every operation error on (the reading of "a store operation is rejected" in C07) -/
def Step.propagates : Step → Bool
  | .op _ _ swallow => !swallow
  | _ => true

def Propagating (body : List Step) : Prop := ∀ s ∈ body, s.propagates = true

/-- one step of a body as the spec reads it; `none`: the step is rejected and the body ends there -/
def specStep (env : Env) (s : Step) (b : Body) : Option Body :=
  match s with
  | .op o fault swallow =>
    let v := specOp env fault o b.db
    if v.accepted then some { b with db := v.db, flows := b.flows ++ v.flows }
    else if swallow then some { b with db := v.db, flows := b.flows ++ v.flows, specified := b.specified && v.exact }
    else none
  | .fail _ => none
  | .fail1 _ => none
  | .link op id ts =>
    match (linkStep op id ts b.db).1 with
    | some _ => none
    | none => some { b with db := (linkStep op id ts b.db).2 }
  | .addCommit tag => some { b with ctx := { b.ctx with commitActions := b.ctx.commitActions ++ [tag] } }
  | .addPre tag fails => some { b with ctx := { b.ctx with preActions := b.ctx.preActions ++ [(tag, fails)] } }
  | _ => some b

theorem specSteps_cons (env : Env) (s : Step) (rest : List Step) (b : Body) :
    specSteps env (s :: rest) b =
      match specStep env s b with
      | none => { b with accepted := false }
      | some b' => specSteps env rest b' := by
  cases s with
  | op o fault swallow =>
    simp only [specSteps, specStep]
    cases (specOp env fault o b.db).accepted <;> cases swallow <;> rfl
  | link op id ts =>
    simp only [specSteps, specStep]
    cases (linkStep op id ts b.db).1 <;> rfl
  | _ => rfl

/-- the running transaction has done what the spec's reading `b` of the body so far says: `b` is accepted, database
    and context are those of `b`, and the flows of `b` are queued behind `Q` -/
structure Tracks (Q : List QItem) (st : TxSt) (b : Body) : Prop where
  accepted : b.accepted = true
  db : st.db = b.db
  ctx : st.ctx = b.ctx
  queue : st.queue = Q ++ b.flows.map .post

theorem runSteps_refines (env : Env) (h : env.t = expectedReturns) (body : List Step) (hp : Propagating body)
    (Q : List QItem) (st : TxSt) (b : Body) (ht : Tracks Q st b) :
    (runSteps env body st).1.ctx = (specSteps env body b).ctx ∧
    ((runSteps env body st).2 = .ok ↔ (specSteps env body b).accepted = true) ∧
    (specSteps env body b).specified = b.specified ∧
    ((runSteps env body st).2 = .ok →
      Tracks Q (runSteps env body st).1 (specSteps env body b) ∧
      (runSteps env body st).1.raised = st.raised ∧ (runSteps env body st).1.inexact = st.inexact) := by
  induction body generalizing st b with
  | nil => exact ⟨ht.ctx, by simp [runSteps, specSteps, ht.accepted], rfl, fun _ => ⟨ht, rfl, rfl⟩⟩
  | cons s rest ih =>
    have hs := hp s (List.mem_cons_self ..)
    replace ih := ih fun x hx => hp x (List.mem_cons_of_mem _ hx)
    -- where the spec rejects the step the run ends in an error, with the context as it was; every other step leaves
    -- a state that tracks the spec's next reading, and `ih` goes on from there
    cases s with
    | op o fault swallow =>
      cases swallow with
      | true => cases hs
      | false =>
        obtain ⟨rg, riff, rok⟩ := runOp_refines env h fault o st
        rw [ht.db] at riff rok
        simp only [runSteps, specSteps, Bool.false_eq_true, if_false]
        generalize specOp env fault o b.db = v at riff rok ⊢
        cases hr : (runOp env fault o st).2 with
        | err e =>
          rw [if_neg fun ha => by rw [riff.mpr ha] at hr; cases hr]
          exact ⟨rg.ctx.trans ht.ctx, ⟨nofun, nofun⟩, rfl, nofun⟩
        | ok =>
          rw [if_pos (riff.mp hr)]
          obtain ⟨i1, i2, i3, i4⟩ := ih (runOp env fault o st).1 { b with db := v.db, flows := b.flows ++ v.flows }
            ⟨ht.accepted, (rok hr).core.db, rg.ctx.trans ht.ctx,
              by rw [(rok hr).queue, ht.queue, List.map_append, List.append_assoc]⟩
          exact ⟨i1, i2, i3, fun ho => ⟨(i4 ho).1, (i4 ho).2.1.trans (rok hr).raised, (i4 ho).2.2.trans (rok hr).core.inexact⟩⟩
    | fail tag | fail1 tag => exact ⟨ht.ctx, ⟨nofun, nofun⟩, rfl, nofun⟩
    | link op id ts =>
      simp only [runSteps, specSteps, ← ht.db]
      cases (linkStep op id ts st.db).1 with
      | some e => exact ⟨ht.ctx, ⟨nofun, nofun⟩, rfl, nofun⟩
      | none => exact ih _ _ ⟨ht.accepted, rfl, ht.ctx, ht.queue⟩
    | addCommit tag | addPre tag fails => exact ih _ _ ⟨ht.accepted, ht.db, by rw [ht.ctx], ht.queue⟩
    | nestedBegin | nestedEnd | useSystemCtx => exact ih _ _ ht

theorem runPre_spec (acts : List (Nat × Bool)) :
    ((runPre acts).2 = none ↔ acts.all (fun p => !p.2) = true) ∧
    (∀ e, (runPre acts).2 = some e → ∃ tag, e = .preCommit tag) := by
  induction acts with
  | nil => simp [runPre]
  | cons p rest ih =>
    obtain ⟨tag, fails⟩ := p
    cases fails with
    | true => simp [runPre]
    | false =>
      simp only [runPre, Bool.false_eq_true, if_false, List.all_cons, Bool.not_false, Bool.true_and]
      exact ih

def specBody (env : Env) (db : Db) (ctx : Ctx) (body : List Step) : Body :=
  specSteps env body { accepted := true, db := db, flows := [], ctx := ctx, specified := true }

def preOk (ctx : Ctx) : Bool := ctx.preActions.all fun p => !p.2

/-- what a committed transaction runs, in bbolt's OnCommit order -/
def commitList (env : Env) (ctx : Ctx) (flows : List Flow) (txComplete : Bool) : List Fired :=
  [Fired.commitActions ctx.commitActions]
    ++ flows.flatMap (fun fl => postCommit fl (indexed (env.regs fl.store)))
    ++ (if txComplete then (List.range env.txListeners).map Fired.txComplete else [])

theorem enqueue_if (c : Prop) [Decidable c] (st : TxSt) (q : QItem) :
    (if c then st.enqueue q else st) = { st with queue := st.queue ++ if c then [q] else [] } := by
  split <;> simp [TxSt.enqueue]

/-- the OnCommit queue of a transaction that is about to commit, run: `handleCommit`, the accepted flows, and the
    tx-complete entry, which is registered only when there are listeners -/
theorem commitList_of_queue (env : Env) (ctx : Ctx) (flows : List Flow) (c : Prop) [Decidable c] (txc : Bool)
    (hc : c ↔ (txc = true ∧ env.txListeners > 0)) :
    (([QItem.handleCommit] ++ flows.map QItem.post) ++ if c then [QItem.txComplete] else []).flatMap (commitItem env ctx) =
      commitList env ctx flows txc := by
  rw [List.flatMap_append, List.flatMap_append, List.flatMap_map]
  unfold commitList
  congr 1
  by_cases hcc : c
  · simp [hcc, (hc.mp hcc).1, commitItem]
  · cases txc with
    | false => simp [hcc]
    | true =>
      have : env.txListeners = 0 := by
        have := mt hc.mpr hcc
        simp at this
        exact this
      simp [hcc, this]

theorem body_refines (env : Env) (h : env.t = expectedReturns) (db : Db) (ctx : Ctx) (body : List Step)
    (hp : Propagating body) :
    (runSteps env body (beginTx db ctx)).1.ctx = (specBody env db ctx body).ctx ∧
    ((runSteps env body (beginTx db ctx)).2 = .ok ↔ (specBody env db ctx body).accepted = true) ∧
    (specBody env db ctx body).specified = true ∧
    ((runSteps env body (beginTx db ctx)).2 = .ok →
      (runSteps env body (beginTx db ctx)).1.db = (specBody env db ctx body).db ∧
      (runSteps env body (beginTx db ctx)).1.queue = [.handleCommit] ++ (specBody env db ctx body).flows.map .post ∧
      (runSteps env body (beginTx db ctx)).1.raised = [] ∧ (runSteps env body (beginTx db ctx)).1.inexact = false) := by
  obtain ⟨r1, r2, r3, r4⟩ := runSteps_refines env h body hp [.handleCommit] (beginTx db ctx)
    { accepted := true, db := db, flows := [], ctx := ctx, specified := true } ⟨rfl, rfl, rfl, rfl⟩
  exact ⟨r1, r2, r3, fun hok => ⟨(r4 hok).1.db, (r4 hok).1.queue, (r4 hok).2.1, (r4 hok).2.2⟩⟩

theorem attempt_refines (env : Env) (h : env.t = expectedReturns) (txc : Bool) (db : Db) (ctx : Ctx)
    (body : List Step) (hp : Propagating body) :
    (attempt env txc db ctx body).st.ctx = (specBody env db ctx body).ctx ∧
    ((attempt env txc db ctx body).res = .ok ↔
      ((specBody env db ctx body).accepted && preOk (specBody env db ctx body).ctx) = true) ∧
    (specBody env db ctx body).specified = true ∧
    ((attempt env txc db ctx body).res = .ok →
      (attempt env txc db ctx body).st.db = (specBody env db ctx body).db ∧
      (attempt env txc db ctx body).st.inexact = false ∧
      (attempt env txc db ctx body).st.raised = [] ∧
      (attempt env txc db ctx body).st.queue.flatMap (commitItem env (attempt env txc db ctx body).st.ctx) =
        commitList env (specBody env db ctx body).ctx (specBody env db ctx body).flows txc) := by
  obtain ⟨r1, r2, r3, r4⟩ := body_refines env h db ctx body hp
  have p1 : (runPre (runSteps env body (beginTx db ctx)).1.ctx.preActions).2 = none ↔
      preOk (specBody env db ctx body).ctx = true := by
    rw [← r1]
    exact (runPre_spec _).1
  simp only [attempt]
  cases hres : (runSteps env body (beginTx db ctx)).2 with
  | err e =>
    have hna : ¬(specBody env db ctx body).accepted = true := by
      rw [← r2, hres]
      nofun
    exact ⟨r1, ⟨nofun, fun hx => absurd (Bool.and_eq_true_iff.mp hx).1 hna⟩, r3, nofun⟩
  | ok =>
    obtain ⟨q1, q2, q3, q4⟩ := r4 hres
    cases hpre : (runPre (runSteps env body (beginTx db ctx)).1.ctx.preActions).2 with
    | some e =>
      have hno : ¬preOk (specBody env db ctx body).ctx = true := by
        rw [← p1, hpre]
        nofun
      exact ⟨r1, ⟨nofun, fun hx => absurd (Bool.and_eq_true_iff.mp hx).2 hno⟩, r3, nofun⟩
    | none =>
      rw [enqueue_if]
      refine ⟨r1, ⟨fun _ => Bool.and_eq_true_iff.mpr ⟨r2.mp hres, p1.mp hpre⟩, fun _ => rfl⟩, r3, fun _ => ⟨q1, q4, q3, ?_⟩⟩
      rw [q2, r1]
      exact commitList_of_queue env _ _ _ txc (by simp)

/-- the changes a transaction announces when it commits (spec level) -/
def txFlows (env : Env) (db : Db) (prevCtx : Ctx) (tx : TxSpec) : List Flow :=
  let ctx := if tx.reuseCtx then prevCtx else Ctx.empty
  match tx.mode with
  | .update => (specBody env db ctx tx.body).flows
  | .batch =>
    let a := specBody env db ctx tx.body
    if a.accepted && preOk a.ctx then a.flows else (specBody env.later db a.ctx (laterBody tx.body)).flows
  | .raw => (specBody env db Ctx.empty tx.body).flows

structure TxAgree (env : Env) (o : TxOut) (s : SpecOut) (flows : List Flow) (txc : Bool) : Prop where
  res : o.res = .ok ↔ s.ok = true
  db : o.db = s.db
  ctx : o.ctx = s.ctx
  specified : s.specified = true
  exact : o.inexact = false
  fired_ok : o.res = .ok → o.fired = commitList env s.ctx flows txc
  fired_err : o.res ≠ .ok → o.fired = []

theorem specTxWith_eq (env : Env) (txc : Bool) (db : Db) (ctx : Ctx) (body : List Step) :
    specTxWith env txc db ctx body =
      if (specBody env db ctx body).accepted && preOk (specBody env db ctx body).ctx then
        { ok := true, db := (specBody env db ctx body).db,
          fired := [Fired.commitActions (specBody env db ctx body).ctx.commitActions]
            ++ announceTo .P (specBody env db ctx body).flows (indexed env.regsP)
            ++ announceTo .C (specBody env db ctx body).flows (indexed env.regsC)
            ++ announceTo .D (specBody env db ctx body).flows (indexed env.regsD)
            ++ (if txc then (List.range env.txListeners).map Fired.txComplete else []),
          ctx := (specBody env db ctx body).ctx, specified := (specBody env db ctx body).specified }
      else { ok := false, db := db, fired := [], ctx := (specBody env db ctx body).ctx,
             specified := (specBody env db ctx body).specified } := rfl

theorem TxAgree.commit {env : Env} {a : Attempt} {s : SpecOut} {flows : List Flow} {txc : Bool} {runs : Nat}
    {pl : List LogItem} {pr : List Nat} {ra : List Err} (hok : s.ok = true) (hdb : a.st.db = s.db)
    (hctx : a.st.ctx = s.ctx) (hsp : s.specified = true) (hin : a.st.inexact = false)
    (hf : a.st.queue.flatMap (commitItem env a.st.ctx) = commitList env s.ctx flows txc) :
    TxAgree env (commit env a runs pl pr ra) s flows txc :=
  ⟨⟨fun _ => hok, fun _ => rfl⟩, hdb, hctx, hsp, hin, fun _ => hf, fun hne => absurd rfl hne⟩

theorem TxAgree.rollback {env : Env} {db : Db} {a : Attempt} {e : Err} {s : SpecOut} {flows : List Flow} {txc : Bool}
    {runs : Nat} {pl : List LogItem} {pr : List Nat} {ra : List Err} (hok : s.ok = false) (hdb : s.db = db)
    (hctx : a.st.ctx = s.ctx) (hsp : s.specified = true) :
    TxAgree env (rollback db a e runs pl pr ra) s flows txc :=
  ⟨⟨nofun, fun h => by rw [hok] at h; cases h⟩, hdb.symm, hctx, hsp, rfl, nofun, fun _ => rfl⟩

theorem attempt_agree (env : Env) (h : env.t = expectedReturns) (txc : Bool) (db : Db) (ctx : Ctx)
    (body : List Step) (hp : Propagating body) (runs : Nat) (pl : List LogItem)
    (pr : List Nat) (ra : List Err) :
    TxAgree env
      (match (attempt env txc db ctx body).res with
        | .ok => commit env (attempt env txc db ctx body) runs pl pr ra
        | .err e => rollback db (attempt env txc db ctx body) e runs pl pr ra)
      (specTxWith env txc db ctx body) (specBody env db ctx body).flows txc := by
  obtain ⟨a1, a2, a3, a4⟩ := attempt_refines env h txc db ctx body hp
  rw [specTxWith_eq]
  cases hres : (attempt env txc db ctx body).res with
  | ok =>
    obtain ⟨b1, b2, _, b3⟩ := a4 hres
    rw [if_pos (a2.mp hres)]
    exact .commit rfl b1 a1 a3 b2 b3
  | err e =>
    rw [if_neg (fun hx => by rw [← a2, hres] at hx; cases hx)]
    exact .rollback rfl rfl a1 a3

theorem dbUpdate_agree (env : Env) (h : env.t = expectedReturns) (db : Db) (ctx : Ctx)
    (body : List Step) (hp : Propagating body) :
    TxAgree env (dbUpdate env db ctx body) (specTxWith env true db ctx body) (specBody env db ctx body).flows true := by
  unfold dbUpdate
  exact attempt_agree env h true db ctx body hp 1 [] [] []

theorem specTxWith_ok (env : Env) (txc : Bool) (db : Db) (ctx : Ctx) (body : List Step) :
    (specTxWith env txc db ctx body).ok = ((specBody env db ctx body).accepted && preOk (specBody env db ctx body).ctx) ∧
    (specTxWith env txc db ctx body).ctx = (specBody env db ctx body).ctx := by
  rw [specTxWith_eq]
  cases hx : ((specBody env db ctx body).accepted && preOk (specBody env db ctx body).ctx) <;> simp

theorem dbUpdate_ok_iff (env : Env) (h : env.t = expectedReturns) (db : Db) (ctx : Ctx)
    (body : List Step) (hp : Propagating body) :
    (dbUpdate env db ctx body).res = .ok ↔
      ((specBody env db ctx body).accepted = true ∧ preOk (specBody env db ctx body).ctx = true) := by
  rw [(dbUpdate_agree env h db ctx body hp).res, (specTxWith_ok env true db ctx body).1, Bool.and_eq_true]

theorem TxAgree.of_same {env : Env} {o : TxOut} {s s' : SpecOut} {flows : List Flow} {txc : Bool}
    (h : TxAgree env o s flows txc) (hok : s'.ok = s.ok) (hdb : s'.db = s.db) (hctx : s'.ctx = s.ctx)
    (hsp : s'.specified = s.specified) : TxAgree env o s' flows txc :=
  ⟨by rw [hok]; exact h.res, by rw [hdb]; exact h.db, by rw [hctx]; exact h.ctx, by rw [hsp]; exact h.specified,
    h.exact, by rw [hctx]; exact h.fired_ok, h.fired_err⟩

theorem specTxWith_txc (env : Env) (txc txc' : Bool) (db : Db) (ctx : Ctx) (body : List Step) :
    (specTxWith env txc db ctx body).ok = (specTxWith env txc' db ctx body).ok ∧
    (specTxWith env txc db ctx body).db = (specTxWith env txc' db ctx body).db ∧
    (specTxWith env txc db ctx body).ctx = (specTxWith env txc' db ctx body).ctx ∧
    (specTxWith env txc db ctx body).specified = (specTxWith env txc' db ctx body).specified := by
  rw [specTxWith_eq, specTxWith_eq]
  cases hx : ((specBody env db ctx body).accepted && preOk (specBody env db ctx body).ctx) <;> simp

theorem later_t (env : Env) : env.later.t = env.t := rfl
theorem later_txListeners (env : Env) : env.later.txListeners = env.txListeners := rfl

theorem later_regs (env : Env) (σ : StoreId) : env.later.regs σ = spendAt (env.once σ) 0 (env.regs σ) := by
  cases σ <;> rfl

/-- spent vetoes do not change what runs at commit: same registrations at the same positions -/
theorem postCommit_spendAt (fl : Flow) (once : List Nat) (k : Nat) (l : List Reg) :
    postCommit fl (indexFrom k (spendAt once k l)) = postCommit fl (indexFrom k l) := by
  induction l generalizing k with
  | nil => rfl
  | cons r rest ih =>
    simp only [spendAt, indexFrom]
    cases r with
    | listener st types => simp only [Reg.spent, ite_self, postCommit, ih]
    | constraint ty vs =>
      by_cases hc : once.contains k = true
      · simp only [hc, if_true, Reg.spent, postCommit, ih]
      · simp only [hc, Bool.false_eq_true, if_false, postCommit, ih]

theorem flatMap_congr_mem {α β : Type} {l : List α} {f g : α → List β} (h : ∀ a ∈ l, f a = g a) :
    l.flatMap f = l.flatMap g := by
  rw [List.flatMap_def, List.flatMap_def, List.map_congr_left h]

theorem commitList_later (env : Env) (ctx : Ctx) (flows : List Flow) (txc : Bool) :
    commitList env.later ctx flows txc = commitList env ctx flows txc := by
  unfold commitList
  rw [later_txListeners, flatMap_congr_mem fun fl _ =>
    show postCommit fl (indexed (env.later.regs fl.store)) = postCommit fl (indexed (env.regs fl.store)) from
      later_regs env fl.store ▸ postCommit_spendAt fl _ 0 _]

theorem laterBody_propagating (body : List Step) (hp : Propagating body) : Propagating (laterBody body) := by
  intro s hs
  unfold laterBody at hs
  exact hp s (List.mem_filter.mp hs).1

theorem TxAgree.of_later {env : Env} {o : TxOut} {s : SpecOut} {flows : List Flow} {txc : Bool}
    (h : TxAgree env.later o s flows txc) : TxAgree env o s flows txc :=
  ⟨h.res, h.db, h.ctx, h.specified, h.exact, fun hok => by rw [← commitList_later]; exact h.fired_ok hok, h.fired_err⟩

/-- Db.Batch (since cb70ebf it registers the tx-complete listeners exactly as Db.Update does)
    against the spec of a transaction: a first attempt that fails is run again — with whatever fails
    only the first time spent — and a second attempt that is accepted commits -/
theorem dbBatch_agree (env : Env) (h : env.t = expectedReturns) (db : Db) (ctx : Ctx)
    (body : List Step) (hp : Propagating body) :
    TxAgree env (dbBatch env db ctx body)
      (if (specTxWith env true db ctx body).ok then specTxWith env true db ctx body
        else specTxWith env.later true db (specTxWith env true db ctx body).ctx (laterBody body))
      (if (specBody env db ctx body).accepted && preOk (specBody env db ctx body).ctx then (specBody env db ctx body).flows
        else (specBody env.later db (specBody env db ctx body).ctx (laterBody body)).flows) true := by
  obtain ⟨a1, a2, _, _⟩ := attempt_refines env h true db ctx body hp
  obtain ⟨s1, s2⟩ := specTxWith_ok env true db ctx body
  have first := attempt_agree env h true db ctx body hp 1 [] [] []
  simp only [dbBatch]
  cases hres : (attempt env true db ctx body).res with
  | ok =>
    rw [hres] at first
    simp only [s1, a2.mp hres, if_true]
    exact first
  | err e =>
    have hn' : ((specBody env db ctx body).accepted && preOk (specBody env db ctx body).ctx) = false :=
      Bool.eq_false_iff.mpr fun hx => by rw [← a2, hres] at hx; cases hx
    simp only [s1, hn', Bool.false_eq_true, if_false, s2]
    rw [← a1]
    exact TxAgree.of_later
      (attempt_agree env.later (by rw [later_t]; exact h) true db (attempt env true db ctx body).st.ctx
        (laterBody body) (laterBody_propagating body hp) 2 _ _ _)

theorem dbRaw_agree (env : Env) (h : env.t = expectedReturns) (db : Db) (body : List Step) (hp : Propagating body) :
    TxAgree env (dbRaw env db body) (specRawTx env db body) (specBody env db Ctx.empty body).flows true := by
  obtain ⟨r1, r2, r3, r4⟩ := body_refines env h db Ctx.empty body hp
  simp only [dbRaw, specRawTx, specBody] at r1 r2 r3 r4 ⊢
  cases hres : (runSteps env body (beginTx db Ctx.empty)).2 with
  | err e =>
    rw [if_neg (c := (specSteps env body ⟨true, db, [], Ctx.empty, true⟩).accepted = true)
      (fun hx => by rw [← r2, hres] at hx; cases hx)]
    exact .rollback rfl rfl r1 r3
  | ok =>
    obtain ⟨q1, q2, _, q4⟩ := r4 hres
    rw [if_pos (c := (specSteps env body ⟨true, db, [], Ctx.empty, true⟩).accepted = true) (r2.mp hres), enqueue_if]
    refine .commit rfl q1 r1 r3 q4 ?_
    rw [q2, r1]
    exact commitList_of_queue env _ _ _ true (by simp)

/-- the caller hands every operation error on (injected storage faults are allowed) -/
def TxSpec.wellBehaved (tx : TxSpec) : Prop := Propagating tx.body

theorem runTx_agree (env : Env) (h : env.t = expectedReturns) (db : Db) (prevCtx : Ctx) (tx : TxSpec)
    (hw : tx.wellBehaved) :
    TxAgree env (runTx env db prevCtx tx) (specTx env db prevCtx tx) (txFlows env db prevCtx tx)
      true := by
  unfold runTx specTx txFlows
  cases hm : tx.mode with
  | update => exact dbUpdate_agree env h db _ tx.body hw
  | batch => exact dbBatch_agree env h db _ tx.body hw
  | raw => exact dbRaw_agree env h db tx.body hw

inductive CaseAgree (env : Env) : List TxOut → List SpecOut → Prop
  | nil : CaseAgree env [] []
  | cons {o : TxOut} {s : SpecOut} {os : List TxOut} {ss : List SpecOut} (flows : List Flow) (txc : Bool) :
      TxAgree env o s flows txc → CaseAgree env os ss → CaseAgree env (o :: os) (s :: ss)

theorem runCase_agree (env : Env) (h : env.t = expectedReturns) (txs : List TxSpec)
    (hw : ∀ tx ∈ txs, tx.wellBehaved) (db : Db) (ctx : Ctx) :
    CaseAgree env (runCase env txs db ctx) (specCase env txs db ctx) := by
  induction txs generalizing db ctx with
  | nil => exact .nil
  | cons tx rest ih =>
    have ha := runTx_agree env h db ctx tx (hw tx (List.mem_cons_self ..))
    unfold runCase specCase
    refine .cons _ _ ha ?_
    rw [ha.db, ha.ctx]
    exact ih (fun t ht => hw t (List.mem_cons_of_mem _ ht)) _ _

end StorageModel.Tx
