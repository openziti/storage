/-
  Tx/Types — data of the transaction / entity-event model shared by C07 and C08.

  Universe (wired for real in /verif/harness/c07_c08_*.go):
    store P  "things"  (base path ["u"]): name (non-nullable unique index), roles (set index),
                        ref (nullable fk index P.ref -> P.backrefs, restrict on delete)
    store C  plain child of P (path ["ext"]): rank
    store D  second plain child of P (path ["ext2"]): grade — registered after C; an entity may have data
             in C, in D, in both or in neither
    custom boltz.Constraint implementations registered with AddConstraint on P and on C (after the
    built-in indexes), which veto chosen (stage, id) pairs through ctx.ErrHolder.SetError
  The database is abstracted to the entity table; every index is a function of it (that the real
  index buckets are, is the subject of C03/C04 — here the harness compares the leaf dump of the real
  database with the rendering of this table after every committed transaction).
-/
namespace StorageModel.Tx

inductive StoreId | P | C | D
  deriving DecidableEq, Repr, Inhabited

/-- EntityCreated / EntityUpdated / EntityDeleted (the change type of an EntityChangeState) -/
inductive Kind | created | updated | deleted
  deriving DecidableEq, Repr, Inhabited

/-- the six EntityEventType values: a kind, synchronous or asynchronous -/
structure EvType where
  kind : Kind
  async : Bool
  deriving DecidableEq, Repr

/-- one step into the entity's `tags` value (a map[string]interface{} persisted with SetMap): a map key
    or a list index -/
inductive Seg
  | key (k : String)
  | idx (i : Nat)
  deriving DecidableEq, Repr

/-- what sits at the end of a path of the `tags` value.  `unsupported`: a Go value of a type
    TypedBucket.setMarshaled has no case for (uint16, []string, …) -/
inductive Leaf
  | str (s : String)
  | bool (b : Bool)
  | nil
  | unsupported (flavour : Nat)
  | emptyMap
  | emptyList
  deriving DecidableEq, Repr

def Leaf.isUnsupported : Leaf → Bool
  | .unsupported _ => true
  | _ => false

/-- the `tags` value, flattened: one entry per leaf (or empty container), with the path leading to it
    from the top-level map (so the first segment is a key) -/
structure TagEntry where
  path : List Seg
  leaf : Leaf
  deriving DecidableEq, Repr

structure PFields where
  name : String
  roles : List String
  ref : Option String
  /-- `tags map[string]interface{}`, persisted by the parent strategy with ctx.SetMap("tags", …) after the
      other fields -/
  tags : List TagEntry := []
  /-- `groups []string`: ids of entities of the second root store Q ("groups"), persisted by the parent
      strategy with ctx.SetLinkedIds("groups", …) (link collection things.groups ↔ groups.members) after
      the other fields -/
  links : List String := []
  deriving DecidableEq, Repr

structure Ent where
  f : PFields
  /-- `some rank` iff the entity has data in the child store C's bucket -/
  child : Option String
  /-- `some grade` iff the entity has data in the second child store D's bucket -/
  child2 : Option String := none
  deriving DecidableEq, Repr

abbrev Db := List (String × Ent)

namespace Db
def get (db : Db) (id : String) : Option Ent := (db.find? (fun p => p.1 == id)).map (·.2)
def del (db : Db) (id : String) : Db := db.filter (fun p => !(p.1 == id))
def put (db : Db) (id : String) (e : Ent) : Db := (id, e) :: del db id
def ids (db : Db) : List String := db.map (·.1)

@[simp] theorem get_nil (id : String) : get [] id = none := rfl

theorem get_del_same (db : Db) (id : String) : get (del db id) id = none := by
  induction db with
  | nil => rfl
  | cons p t ih =>
    unfold del at *
    simp only [List.filter]
    by_cases h : p.1 == id
    · simp [h, ih]
    · simp only [h, Bool.not_false]
      simp only [get, List.find?, h] at *
      exact ih

theorem get_del_other (db : Db) (id id' : String) (h : id' ≠ id) : get (del db id) id' = get db id' := by
  induction db with
  | nil => rfl
  | cons p t ih =>
    unfold del at *
    simp only [List.filter]
    by_cases h1 : p.1 == id
    · have : (p.1 == id') = false := by
        have := eq_of_beq h1
        simp [this, Ne.symm h]
      simp only [h1, Bool.not_true, get, List.find?, this] at *
      exact ih
    · simp only [h1, Bool.not_false]
      by_cases h2 : p.1 == id'
      · simp [get, List.find?, h2]
      · simp only [get, List.find?, h2] at *
        exact ih

@[simp] theorem get_put_same (db : Db) (id : String) (e : Ent) : get (put db id e) id = some e := by
  simp [put, get]

theorem get_put_other (db : Db) (id id' : String) (e : Ent) (h : id' ≠ id) :
    get (put db id e) id' = get db id' := by
  have : (id == id') = false := by simp [Ne.symm h]
  simp only [put, get, List.find?, this]
  exact get_del_other db id id' h
end Db

/-- what an entity listener / constraint gets to see -/
inductive EntView
  | parent (id : String) (f : PFields)
  | child (id : String) (f : PFields) (rank : String)
  | child2 (id : String) (f : PFields) (grade : String)
  deriving DecidableEq, Repr

/-- the store definition's ParentMapper (`&child.Thing`) -/
def EntView.toParent : EntView → EntView
  | .parent id f => .parent id f
  | .child id f _ => .parent id f
  | .child2 id f _ => .parent id f

def EntView.id : EntView → String
  | .parent id _ => id
  | .child id _ _ => id
  | .child2 id _ _ => id

/-- the data an entity has in a store's own bucket path (the parent store: none of its own to look for) -/
def Ent.data (e : Ent) : StoreId → Option String
  | .P => none
  | .C => e.child
  | .D => e.child2

/-- `GetEntityBucket != nil`: for the child store, the entity must have the child path -/
def present (σ : StoreId) (db : Db) (id : String) : Bool :=
  match db.get id with
  | none => false
  | some e => match σ with
    | .P => true
    | .C => e.child.isSome
    | .D => e.child2.isSome

/-- FindById's view (when the load does not fail) -/
def view (σ : StoreId) (db : Db) (id : String) : Option EntView :=
  match db.get id with
  | none => none
  | some e => match σ with
    | .P => some (.parent id e.f)
    | .C => e.child.map fun r => .child id e.f r
    | .D => e.child2.map fun g => .child2 id e.f g

/-- the three calls an Indexer makes on its constraints (boltz.Constraint) -/
inductive Stage | beforeUpdate | afterUpdate | beforeDelete
  deriving DecidableEq, Repr, Inhabited

/-- a custom boltz.Constraint registered with `store.AddConstraint` (appended to the store's
    Indexer.constraints, i.e. after the built-in indexes): in ProcessBeforeUpdate / ProcessAfterUpdate /
    ProcessBeforeDelete it calls `ctx.ErrHolder.SetError` for the listed (stage, row id) pairs -/
abbrev IxReg := List (Stage × String)

inductive Err
  | blankId | alreadyExists | notFound | dup | nullName | key | fkMissing | refExists
  | veto (store : StoreId) (reg : Nat)
  /-- raised through the IndexingContext's error holder by the custom index-stage constraint `reg` of `store` -/
  | ixVeto (store : StoreId) (reg : Nat)
  | caller (tag : Nat)
  | preCommit (tag : Nat)
  | parse | load | persist
  /-- TypedBucket.setMarshaled: "unsupported type … in map" -/
  | unsupported
  /-- LinkedSetSymbol.AddLink: the link target has no entity bucket (RecordNotFoundError) -/
  | linkMissing
  deriving DecidableEq, Repr

inductive Res | ok | err (e : Err)
  deriving DecidableEq, Repr

def Res.isOk : Res → Bool
  | .ok => true
  | _ => false

theorem Res.isOk_iff (r : Res) : r.isOk = true ↔ r = .ok := by
  cases r <;> simp [Res.isOk]

/-- how the Go code treats the error tested at one `if err != nil` site -/
inductive Ret
  | propagate   -- `return err`
  | returnNil   -- `return nil`
  | ignore      -- the error is not tested (or dropped) and execution continues
  deriving DecidableEq, Repr

/-- The return paths of boltz/store_crud.go and boltz/store.go, one field per site.  Regenerated by
    /verif/extract/returns.go into Generated/CrudReturns.lean on every run. -/
structure CrudReturns where
  /-- false when the extractor met a shape it has no reading for (the driver then answers
      `model-unknown` and the table obligation fails) -/
  recognised : Bool
  createValidate : Ret
  createPersist : Ret
  createLoad : Ret
  createParentEvent : Ret
  createOwnEvent : Ret
  createFinalHolder : Bool
  updateDelegate : Ret
  updateValidate : Ret
  updateFind : Ret
  updateNotFound : Ret
  updateLoad : Ret
  updateParentEvent : Ret
  updateOwnEvent : Ret
  updateFinalHolder : Bool
  deleteDelegate : Ret
  deleteFind : Ret
  deleteNotFound : Ret
  deleteChildConstraints : Ret
  deleteOwnConstraints : Ret
  deleteFireEvents : Ret
  deleteWhereQuery : Ret
  deleteWhereDelete : Ret
  /-- processDeleteConstraints: `if err != nil { return nil, err }` after init -/
  pdcInit : Ret
  /-- processDeleteConstraints ends with `return changeFlow, errHolder.Err` -/
  pdcFinalHolder : Bool
  /-- fireEvents: `if err := self.processPreCommit(); err != nil { return err }` -/
  fireEventsVeto : Ret
  /-- fireEvents registers processPostCommit with tx.OnCommit only after the veto check -/
  queueAfterVeto : Bool
  /-- processPreCommit: `if err := constraint.ProcessPreCommit(self); err != nil { return err }` -/
  preCommitLoop : Ret
  /-- fireParentEvent: `return parentEntityChangeFlow.fireEvents()` -/
  parentEventReturn : Ret
  /-- PersistContext.GetParentContext: `result.Bucket.ErrorHolderImpl = ctx.Bucket.ErrorHolderImpl` (the
      parent bucket records into the holder of the child bucket, which already carries whatever
      ProcessBeforeUpdate recorded).  false: the assignment is the other way round — the child bucket
      adopts the fresh holder of the parent bucket and what was recorded before is dropped -/
  persistSharesHolder : Bool
  deriving DecidableEq, Repr

/-- the table the property needs: every tested error is returned, final returns hand back the
    shared error holder, post-commit work is queued only after the veto check -/
def expectedReturns : CrudReturns :=
  { recognised := true
    createValidate := .propagate, createPersist := .propagate, createLoad := .propagate,
    createParentEvent := .propagate, createOwnEvent := .propagate, createFinalHolder := true,
    updateDelegate := .propagate, updateValidate := .propagate, updateFind := .propagate,
    updateNotFound := .propagate, updateLoad := .propagate, updateParentEvent := .propagate,
    updateOwnEvent := .propagate, updateFinalHolder := true,
    deleteDelegate := .propagate, deleteFind := .propagate, deleteNotFound := .propagate,
    deleteChildConstraints := .propagate, deleteOwnConstraints := .propagate,
    deleteFireEvents := .propagate,
    deleteWhereQuery := .propagate, deleteWhereDelete := .propagate,
    pdcInit := .propagate, pdcFinalHolder := true,
    fireEventsVeto := .propagate, queueAfterVeto := true, preCommitLoop := .propagate,
    parentEventReturn := .propagate, persistSharesHolder := true }

/-! field values of the expected table (so that proofs never unfold the structure literal) -/
@[simp] theorem exp_createValidate : expectedReturns.createValidate = .propagate := rfl
@[simp] theorem exp_createPersist : expectedReturns.createPersist = .propagate := rfl
@[simp] theorem exp_createLoad : expectedReturns.createLoad = .propagate := rfl
@[simp] theorem exp_createParentEvent : expectedReturns.createParentEvent = .propagate := rfl
@[simp] theorem exp_createOwnEvent : expectedReturns.createOwnEvent = .propagate := rfl
@[simp] theorem exp_updateDelegate : expectedReturns.updateDelegate = .propagate := rfl
@[simp] theorem exp_updateValidate : expectedReturns.updateValidate = .propagate := rfl
@[simp] theorem exp_updateFind : expectedReturns.updateFind = .propagate := rfl
@[simp] theorem exp_updateNotFound : expectedReturns.updateNotFound = .propagate := rfl
@[simp] theorem exp_updateLoad : expectedReturns.updateLoad = .propagate := rfl
@[simp] theorem exp_updateParentEvent : expectedReturns.updateParentEvent = .propagate := rfl
@[simp] theorem exp_updateOwnEvent : expectedReturns.updateOwnEvent = .propagate := rfl
@[simp] theorem exp_deleteDelegate : expectedReturns.deleteDelegate = .propagate := rfl
@[simp] theorem exp_deleteFind : expectedReturns.deleteFind = .propagate := rfl
@[simp] theorem exp_deleteNotFound : expectedReturns.deleteNotFound = .propagate := rfl
@[simp] theorem exp_deleteChildConstraints : expectedReturns.deleteChildConstraints = .propagate := rfl
@[simp] theorem exp_deleteOwnConstraints : expectedReturns.deleteOwnConstraints = .propagate := rfl
@[simp] theorem exp_deleteFireEvents : expectedReturns.deleteFireEvents = .propagate := rfl
@[simp] theorem exp_deleteWhereQuery : expectedReturns.deleteWhereQuery = .propagate := rfl
@[simp] theorem exp_deleteWhereDelete : expectedReturns.deleteWhereDelete = .propagate := rfl
@[simp] theorem exp_pdcInit : expectedReturns.pdcInit = .propagate := rfl
@[simp] theorem exp_fireEventsVeto : expectedReturns.fireEventsVeto = .propagate := rfl
@[simp] theorem exp_preCommitLoop : expectedReturns.preCommitLoop = .propagate := rfl
@[simp] theorem exp_parentEventReturn : expectedReturns.parentEventReturn = .propagate := rfl
@[simp] theorem exp_createFinalHolder : expectedReturns.createFinalHolder = true := rfl
@[simp] theorem exp_updateFinalHolder : expectedReturns.updateFinalHolder = true := rfl
@[simp] theorem exp_pdcFinalHolder : expectedReturns.pdcFinalHolder = true := rfl
@[simp] theorem exp_queueAfterVeto : expectedReturns.queueAfterVeto = true := rfl
@[simp] theorem exp_recognised : expectedReturns.recognised = true := rfl
@[simp] theorem exp_persistSharesHolder : expectedReturns.persistSharesHolder = true := rfl

inductive Style | typed | func | untyped | idOnly
  deriving DecidableEq, Repr

/-- one entry of a store's `entityConstraints` list -/
inductive Reg
  /-- AddEntityEventListener / AddEntityEventListenerF / AddListener / AddEntityIdListener with
      the given change types (in registration order, duplicates allowed) -/
  | listener (style : Style) (types : List EvType)
  /-- AddEntityConstraint (typed) / AddUntypedEntityConstraint whose ProcessPreCommit fails for the
      listed (change kind, entity id) pairs -/
  | constraint (typed : Bool) (vetoes : List (Kind × String))
  deriving DecidableEq, Repr

structure Env where
  regsP : List Reg
  regsC : List Reg
  /-- number of Db.AddTxCompleteListener registrations -/
  txListeners : Nat
  t : CrudReturns
  /-- custom index-stage constraints (AddConstraint) of the parent / the child store, in registration order -/
  ixP : List IxReg := []
  ixC : List IxReg := []
  /-- registrations and custom index-stage constraints of the second child store -/
  regsD : List Reg := []
  ixD : List IxReg := []
  /-- positions (per store) of entity constraints whose vetoes apply only while the body runs for the
      first time (a veto that depends on state outside the database) -/
  onceP : List Nat := []
  onceC : List Nat := []
  onceD : List Nat := []
  deriving Repr

def Env.regs (env : Env) : StoreId → List Reg
  | .P => env.regsP
  | .C => env.regsC
  | .D => env.regsD

def Env.once (env : Env) : StoreId → List Nat
  | .P => env.onceP
  | .C => env.onceC
  | .D => env.onceD

/-- a registration as it behaves once its first-run-only vetoes are spent -/
def Reg.spent : Reg → Reg
  | .constraint typed _ => .constraint typed []
  | r => r

def spendAt (once : List Nat) : Nat → List Reg → List Reg
  | _, [] => []
  | k, r :: rest => (if once.contains k then r.spent else r) :: spendAt once (k + 1) rest

/-- the environment a body meets when it runs again (bbolt's Batch re-running the function): same
    registrations at the same positions; the first-run-only vetoes no longer apply -/
def Env.later (env : Env) : Env :=
  { env with regsP := spendAt env.onceP 0 env.regsP, regsC := spendAt env.onceC 0 env.regsC,
             regsD := spendAt env.onceD 0 env.regsD }

def Env.ix (env : Env) : StoreId → List IxReg
  | .P => env.ixP
  | .C => env.ixC
  | .D => env.ixD

/-- EntityChangeState -/
structure Flow where
  store : StoreId
  kind : Kind
  id : String
  initial : Option EntView
  final : Option EntView
  parentEvent : Bool
  deriving DecidableEq, Repr

/-- a ProcessPreCommit call seen by a constraint (inside the transaction) -/
structure PreCall where
  store : StoreId
  reg : Nat
  kind : Kind
  id : String
  parentEvent : Bool
  deriving DecidableEq, Repr

/-- a ProcessBeforeUpdate / ProcessAfterUpdate / ProcessBeforeDelete call seen by a custom index-stage
    constraint (inside the transaction) -/
structure IxCall where
  store : StoreId
  reg : Nat
  stage : Stage
  id : String
  isCreate : Bool
  deriving DecidableEq, Repr

/-- what the registered constraints see inside the transaction, in call order -/
inductive LogItem
  | pre (c : PreCall)
  | ix (c : IxCall)
  deriving DecidableEq, Repr

/-- entries of the bbolt transaction's OnCommit list -/
inductive QItem
  | handleCommit
  | post (fl : Flow)
  | txComplete
  deriving DecidableEq, Repr

/-- things that run because a transaction committed -/
inductive Fired
  /-- a listener callback; `slot` is the position in its change-type list that matched -/
  | listener (store : StoreId) (reg : Nat) (slot : Nat) (async : Bool) (kind : Kind) (ent : Option EntView)
  /-- a constraint's ProcessPostCommit -/
  | post (store : StoreId) (reg : Nat) (fl : Flow)
  /-- the goroutine started by mutateContext.handleCommit: all commit actions of the context -/
  | commitActions (tags : List Nat)
  | txComplete (i : Nat)
  deriving DecidableEq, Repr

/-- mutateContext: deferred actions belong to the context, not to the transaction -/
structure Ctx where
  preActions : List (Nat × Bool)
  commitActions : List Nat
  deriving DecidableEq, Repr

def Ctx.empty : Ctx := ⟨[], []⟩

inductive Query
  | all
  | nameEq (n : String)
  | bad
  deriving DecidableEq, Repr

inductive Op
  | create (σ : StoreId) (id : String) (f : PFields) (rank : String)
  | update (σ : StoreId) (id : String) (f : PFields) (rank : String)
  | delete (σ : StoreId) (id : String)
  | deleteWhere (σ : StoreId) (q : Query)
  deriving DecidableEq, Repr

/-- injected storage error: the n-th FillEntity / PersistEntity call (1-based, counted per store
    strategy within the operation, the child-store mappers' lookups not counted) fails.  Injection points
    are the strategies of P and of C; the strategy of D is not instrumented itself (`load .D` / `persist .D`
    never strike) but calls the parent's strategy, which is. -/
inductive Fault
  | none
  | load (σ : StoreId) (n : Nat)
  | persist (σ : StoreId) (n : Nat)
  deriving DecidableEq, Repr

/-- the entities of the second root store Q: created when the database is set up, never touched by
    the modelled operations (so Q.members is a function of the parent entities' links) -/
def qIds : List String := ["q1", "q2"]

/-- LinkCollection.AddLinks / RemoveLinks / SetLinks called by the transaction function itself -/
inductive LinkOp | add | remove | set
  deriving DecidableEq, Repr

inductive Step
  | op (o : Op) (fault : Fault) (swallow : Bool)
  | fail (tag : Nat)
  /-- the caller returns an error the FIRST time the body executes this step and goes on afterwards (the
      flag lives in the caller's closure, not in the database): a Db.Batch whose first attempt fails this
      way succeeds when bbolt runs the function again -/
  | fail1 (tag : Nat)
  /-- `parent.GetLinkCollection("groups").AddLinks / RemoveLinks / SetLinks(ctx.Tx(), id, targets…)`; the
      caller hands its error on -/
  | link (op : LinkOp) (id : String) (targets : List String)
  | addCommit (tag : Nat)
  | addPre (tag : Nat) (fails : Bool)
  /-- begin / end of a nested `db.Update(ctx, …)` whose context already has a transaction: the
      nested call just runs its body -/
  | nestedBegin
  | nestedEnd
  /-- from here on the body works with `ctx.GetSystemContext()`: the wrapper hands every call to the
      wrapped context, so nothing changes for the model -/
  | useSystemCtx
  deriving DecidableEq, Repr

/-- state of a running transaction -/
structure TxSt where
  db : Db
  queue : List QItem
  preLog : List LogItem
  /-- ghost: every error raised by a validation, the storage layer, an index, a constraint — whether
      or not the Go code hands it on -/
  raised : List Err
  ctx : Ctx
  /-- the model's table is no longer exact (an operation went on after a partial write) -/
  inexact : Bool
  deriving Repr

def TxSt.raise (st : TxSt) (e : Err) : TxSt := { st with raised := st.raised ++ [e] }
def TxSt.enqueue (st : TxSt) (q : QItem) : TxSt := { st with queue := st.queue ++ [q] }

/-- bbolt.MaxKeySize -/
def maxKeySize : Nat := 32768

def leStr (a b : String) : Bool := decide (a ≤ b)

/-- a string list is stored as the key set of a bucket: sorted, duplicate-free -/
def normRoles (rs : List String) : List String := (rs.mergeSort leStr).eraseDups

def PFields.norm (f : PFields) : PFields := { f with roles := normRoles f.roles, links := normRoles f.links }

end StorageModel.Tx
