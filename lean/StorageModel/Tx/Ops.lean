import StorageModel.Tx.Stages
/-
  Tx/Ops — each operation of Tx/Store.lean against its spec in Tx/Spec.lean, under the expected return table and
  any injected fault: Create, Update, DeleteById, DeleteWhere; `runOp_refines` sums them up.
-/
namespace StorageModel.Tx
open StorageModel.Tx.Spec

theorem createFlows_eq (σ : StoreId) (db : Db) (id : String) (f : PFields) (rank : String) :
    writeFlows σ .created db (db.put id (writtenEnt σ db id f rank)) id =
      flowsOf { store := σ, kind := .created, id := id, initial := none,
                final := view σ (db.put id (writtenEnt σ db id f rank)) id, parentEvent := false } := by
  have hv := view_child_toParent σ _ id (view_created_some σ db id f rank)
  cases σ <;> simp [flowsOf, writeFlows, parentFlow, hv]

/-- the calls of a create: PersistEntity, then FillEntity for the final state -/
theorem create_hits (fault : Fault) (σ : StoreId) :
    faultHits fault 1 (ifC σ 1) 1 (ifC σ 1) =
      (hitsAfter fault Cnt.zero 0 0 1 (ifC σ 1) ||
        hitsAfter fault (Cnt.zero.advance 0 0 1 (ifC σ 1)) 1 (ifC σ 1) 0 0) := by
  rw [← hitsAfter_add, hitsAfter_zero]
  simp

theorem createWrite_spec (env : Env) (h : env.t = expectedReturns) (fault : Fault) (σ : StoreId) (id : String)
    (f : PFields) (rank : String) (old : Option PFields) (st : TxSt) :
    Triple st (createWrite env fault σ id f rank old st).1 ((createWrite env fault σ id f rank old st).2 = .ok)
      (keyRejected f = false ∧ faultHits fault 1 (ifC σ 1) 1 (ifC σ 1) = false ∧
       indexErr true st.db (st.db.put id (writtenEnt σ st.db id f rank)) id old f = none ∧
       ixVetoedFor env σ .afterUpdate id = false ∧
       (σ = .P ∨ vetoed env .P .created id = false) ∧ vetoed env σ .created id = false)
      (st.db.put id (writtenEnt σ st.db id f rank))
      (writeFlows σ .created st.db (st.db.put id (writtenEnt σ st.db id f rank)) id) := by
  unfold createWrite
  rw [persist_eq, create_hits, Bool.or_eq_false_iff, createFlows_eq]
  simp only [h, exp_createPersist, exp_createLoad, exp_createParentEvent, exp_createOwnEvent,
    exp_createFinalHolder, act_propagate]
  have hpe := persistErr_none fault Cnt.zero (ifC σ 1) f
  cases hp : (valueErr f).or (if hitsAfter fault Cnt.zero 0 0 1 (ifC σ 1) then some Err.persist else none) with
  | some e =>
    rw [hp] at hpe
    exact ⟨⟨rfl, [e], rfl⟩, ⟨nofun, fun hx => (nomatch hpe.mpr ⟨hx.1, hx.2.1.1⟩)⟩, nofun⟩
  | none =>
    rw [hp] at hpe
    refine (writeTail_spec env h fault σ id true
      (indexErr true st.db (st.db.put id (writtenEnt σ st.db id f rank)) id old f) none .created none
      (Cnt.zero.advance 0 0 1 (ifC σ 1)) st _ (view_created_some σ st.db id f rank) _ rfl).of_iff ?_
    simp only [(hpe.mp rfl).1, (hpe.mp rfl).2, true_and]
    exact ⟨fun ⟨a, b, c, d, e⟩ => ⟨c, a, b, d, e⟩, fun ⟨c, a, b, d, e⟩ => ⟨a, b, c, d, e⟩⟩

theorem create_spec (env : Env) (h : env.t = expectedReturns) (fault : Fault) (σ : StoreId) (id : String)
    (f : PFields) (rank : String) (st : TxSt) :
    Triple st (create env fault σ id f rank st).1 ((create env fault σ id f rank st).2 = .ok)
      (id ≠ "" ∧ present σ st.db id = false ∧ createOverVetoed env σ st.db id = false ∧
       keyRejected f = false ∧ faultHits fault 1 (ifC σ 1) 1 (ifC σ 1) = false ∧
       indexErr true st.db (st.db.put id (writtenEnt σ st.db id f rank)) id (createOld σ st.db id) f = none ∧
       ixVetoedFor env σ .afterUpdate id = false ∧
       (σ = .P ∨ vetoed env .P .created id = false) ∧ vetoed env σ .created id = false)
      (st.db.put id (writtenEnt σ st.db id f rank))
      (writeFlows σ .created st.db (st.db.put id (writtenEnt σ st.db id f rank)) id) := by
  unfold create
  simp only [h, exp_createValidate, exp_createPersist, exp_persistSharesHolder, act_propagate, Bool.true_eq_false,
    and_false, if_false]
  by_cases hid : id = ""
  · exact ⟨by simpa [hid] using Grows.raise st _, by simp [hid], by simp [hid]⟩
  · simp only [hid, if_false]
    by_cases hp : present σ st.db id = true
    · exact ⟨by simpa [hp] using Grows.raise st _, by simp [hp], by simp [hp]⟩
    · have hp' : present σ st.db id = false := by simpa using hp
      simp only [hp', Bool.false_eq_true, if_false, ne_eq, hid, not_false_eq_true, true_and]
      cases ho : (createOld σ st.db id).isSome with
      | false =>
        have hcv : createOverVetoed env σ st.db id = false := by simp [createOverVetoed, ho]
        simp only [Bool.false_eq_true, if_false, hcv, true_and]
        exact createWrite_spec env h fault σ id f rank (createOld σ st.db id) st
      | true =>
        have sb := (ixStage_spec env .P .beforeUpdate id true none st).of_iff
          (C' := createOverVetoed env σ st.db id = false) (by simp [createOverVetoed, ho, ixVetoedFor])
        simp only [if_true]
        cases hbu : (ixStage env .P .beforeUpdate id true none none st).2 with
        | some e =>
          exact ⟨⟨sb.grows.ctx, sb.grows.raised⟩, ⟨nofun, fun hx => absurd (sb.iff.mpr hx.1) (by simp [hbu])⟩, nofun⟩
        | none =>
          have sw := createWrite_spec env h fault σ id f rank (createOld σ st.db id)
            (ixStage env .P .beforeUpdate id true none none st).1
          rw [show (ixStage env .P .beforeUpdate id true none none st).1.db = st.db from (sb.passes hbu).core.db] at sw
          exact sb.andThenWrite hbu sw

theorem updateFlows_eq (σ : StoreId) (db : Db) (id : String) (f : PFields) (rank : String) (base : EntView)
    (hb : view σ db id = some base) :
    writeFlows σ .updated db (db.put id (writtenEnt σ db id f rank)) id =
      flowsOf { store := σ, kind := .updated, id := id, initial := some base,
                final := view σ (db.put id (writtenEnt σ db id f rank)) id, parentEvent := false } := by
  have h0 := view_child_toParent σ db id (by rw [hb]; rfl)
  have h1 := view_child_toParent σ _ id (view_created_some σ db id f rank)
  rw [hb] at h0
  cases σ <;> simp [flowsOf, writeFlows, parentFlow, hb, h1, ← h0]

/-- the calls of an update: FillEntity (FindById), PersistEntity, FillEntity for the final state -/
theorem update_hits (fault : Fault) (σ : StoreId) :
    faultHits fault 2 (ifC σ 2) 1 (ifC σ 1) =
      (hitsAfter fault Cnt.zero 1 (ifC σ 1) 0 0 ||
        hitsAfter fault (Cnt.zero.advance 1 (ifC σ 1) 0 0) 0 0 1 (ifC σ 1) ||
        hitsAfter fault ((Cnt.zero.advance 1 (ifC σ 1) 0 0).advance 0 0 1 (ifC σ 1)) 1 (ifC σ 1) 0 0) := by
  calc faultHits fault 2 (ifC σ 2) 1 (ifC σ 1)
      = hitsAfter fault Cnt.zero (1 + 0 + 1) (ifC σ 1 + 0 + ifC σ 1) (0 + 1 + 0) (0 + ifC σ 1 + 0) := by
        rw [hitsAfter_zero]
        cases σ <;> rfl
    _ = _ := by rw [hitsAfter_add, hitsAfter_add]; cases σ <;> rfl

theorem updateLocal_spec (env : Env) (h : env.t = expectedReturns) (fault : Fault) (σ : StoreId) (id : String)
    (f : PFields) (rank : String) (st : TxSt) :
    Triple st (updateLocal env fault σ id f rank st).1 ((updateLocal env fault σ id f rank st).2 = .ok)
      (id ≠ "" ∧ (view σ st.db id).isSome = true ∧ keyRejected f = false ∧
       faultHits fault 2 (ifC σ 2) 1 (ifC σ 1) = false ∧ ixVetoedFor env σ .beforeUpdate id = false ∧
       indexErr false st.db (st.db.put id (writtenEnt σ st.db id f rank)) id ((st.db.get id).map (·.f)) f = none ∧
       ixVetoedFor env σ .afterUpdate id = false ∧
       (σ = .P ∨ vetoed env .P .updated id = false) ∧ vetoed env σ .updated id = false)
      (st.db.put id (writtenEnt σ st.db id f rank))
      (writeFlows σ .updated st.db (st.db.put id (writtenEnt σ st.db id f rank)) id) := by
  rw [update_hits, Bool.or_eq_false_iff, Bool.or_eq_false_iff]
  unfold updateLocal
  simp only [findById_eq, persist_eq, raiseOpt_db, h, exp_updateValidate, exp_updateFind, exp_updateNotFound, exp_updateLoad, exp_updateParentEvent,
    exp_updateOwnEvent, exp_updateFinalHolder, exp_persistSharesHolder, act_propagate, Bool.true_eq_false,
    and_false, if_false]
  by_cases hid : id = ""
  · simp only [hid, if_true]
    exact ⟨Grows.raise st _, by simp, nofun⟩
  simp only [hid, if_false, ne_eq, not_false_eq_true, true_and]
  cases hv : view σ st.db id with
  | none =>
    have hl : loads σ st.db id = 0 := by simp [loads, hv]
    have hz : ifC σ 0 = 0 := by cases σ <;> rfl
    simp only [hl, hz, (hitsAfter_one fault Cnt.zero).1, Bool.false_eq_true, if_false]
    exact ⟨Grows.raise st _, by simp, nofun⟩
  | some base =>
    have hl : loads σ st.db id = 1 := by simp [loads, hv]
    simp only [hl, Option.isSome_some, true_and]
    cases hh : hitsAfter fault Cnt.zero 1 (ifC σ 1) 0 0 with
    | true => exact ⟨Grows.raise st _, by simp, nofun⟩
    | false =>
      simp only [Bool.false_eq_true, if_false, true_and]
      have sb := (ixStage_spec env σ .beforeUpdate id false none st).of_iff
        (C' := ixVetoedFor env σ .beforeUpdate id = false) (by simp)
      generalize ixStage env σ .beforeUpdate id false none none st = BU at sb ⊢
      cases hbu : BU.2 with
      | some e =>
        -- nothing is written while the holder has an error, and the error is returned after the events have fired
        have sf := finishWrite_spec env h fault ⟨σ, .updated, id, some base, none, false⟩ (some e)
          ((Cnt.zero.advance 1 (ifC σ 1) 0 0).advance 0 0 1 (ifC σ 1)) BU.1
        exact ⟨sb.grows.trans sf.grows, ⟨fun hok => (nomatch (sf.iff.mp hok).2.2.2),
          fun hx => absurd (sb.iff.mpr hx.2.2.1) (by simp [hbu])⟩, fun hok => (nomatch (sf.iff.mp hok).2.2.2)⟩
      | none =>
        have sw := writeTail_spec env h fault σ id false
          (indexErr false st.db (st.db.put id (writtenEnt σ st.db id f rank)) id ((st.db.get id).map (·.f)) f)
          ((valueErr f).or (if hitsAfter fault (Cnt.zero.advance 1 (ifC σ 1) 0 0) 0 0 1 (ifC σ 1) then some Err.persist else none))
          .updated (some base) ((Cnt.zero.advance 1 (ifC σ 1) 0 0).advance 0 0 1 (ifC σ 1)) BU.1 _
          (view_created_some σ st.db id f rank) _ rfl
        rw [persistErr_none] at sw
        refine (sb.andThenWrite hbu sw).congr ?_ fun _ => ⟨rfl, updateFlows_eq σ st.db id f rank base hv⟩
        exact ⟨fun ⟨e, ⟨a, b⟩, c, d, f, g, h⟩ => ⟨a, ⟨b, f⟩, e, c, d, g, h⟩,
          fun ⟨a, ⟨b, f⟩, e, c, d, g, h⟩ => ⟨e, ⟨a, b⟩, c, d, f, g, h⟩⟩

theorem deleteChildRound_eq (env : Env) (h : env.t = expectedReturns) (fault : Fault) (σ : StoreId) (id : String)
    (c : Cnt) (st : TxSt) :
    deleteChildRound env fault σ id c st =
      ((processDeleteConstraints env fault σ id c st).1, (processDeleteConstraints env fault σ id c st).2.1,
       (processDeleteConstraints env fault σ id c st).2.2.2.map Res.err,
       (processDeleteConstraints env fault σ id c st).2.2.1.toList) := by
  simp only [deleteChildRound, childFlowList, h, exp_deleteChildConstraints]
  generalize processDeleteConstraints env fault σ id c st = r
  obtain ⟨s, n, fl, e⟩ := r
  cases e <;> cases fl <;> rfl

theorem deleteFlows_eq (db : Db) (id : String) (pv : EntView) (hpv : view .P db id = some pv) :
    deleteFlows db id =
      markedFlows (deleteFlow .P id pv)
        (((view .C db id).map (deleteFlow .C id)).toList ++ ((view .D db id).map (deleteFlow .D id)).toList) := by
  unfold deleteFlows markedFlows
  simp only [hpv]
  cases view .C db id <;> cases view .D db id <;> simp [deleteFlow]

theorem hasChild_eq_view_isSome (db : Db) (id : String) : hasChild db id = (view .C db id).isSome := by
  unfold hasChild view
  cases hg : db.get id with
  | none => rfl
  | some e => cases hc : e.child <;> simp

theorem hasChild2_eq_view_isSome (db : Db) (id : String) : hasChild2 db id = (view .D db id).isSome := by
  unfold hasChild2 view
  cases hg : db.get id with
  | none => rfl
  | some e => cases hc : e.child2 <;> simp

theorem delCounts_eq (db : Db) (id : String) :
    delCounts db id = (1 + loads .C db id + loads .D db id + 1, loads .C db id) := by
  unfold delCounts loads
  rw [hasChild_eq_view_isSome, hasChild2_eq_view_isSome]
  cases (view .C db id).isSome <;> cases (view .D db id).isSome <;> rfl

theorem Cnt.advance_advance (c : Cnt) (a b p q a' b' p' q' : Nat) :
    (c.advance a b p q).advance a' b' p' q' = c.advance (a + a') (b + b') (p + p') (q + q') := by
  simp [Cnt.advance, Nat.add_assoc]

/-- the calls of a delete: FindById, one init per child store that holds the entity, the parent's init -/
theorem delete_hits (fault : Fault) (c : Cnt) (db : Db) (id : String) :
    hitsAfter fault c (delCounts db id).1 (delCounts db id).2 0 0 =
      (hitsAfter fault c 1 0 0 0 ||
        hitsAfter fault (c.advance 1 0 0 0) (loads .C db id) (loads .C db id) 0 0 ||
        hitsAfter fault ((c.advance 1 0 0 0).advance (loads .C db id) (loads .C db id) 0 0) (loads .D db id) 0 0 0 ||
        hitsAfter fault (((c.advance 1 0 0 0).advance (loads .C db id) (loads .C db id) 0 0).advance
          (loads .D db id) 0 0 0) 1 0 0 0) := by
  simp only [Cnt.advance_advance]
  rw [← hitsAfter_add, ← hitsAfter_add, ← hitsAfter_add, delCounts_eq]
  simp only [Nat.zero_add, Nat.add_zero]

theorem ixVetoedDel_false (env : Env) (db : Db) (id : String) :
    ixVetoedDel env db id = false ↔
      (ixVetoed env .P .beforeDelete id = false ∧
        ((view .C db id).isSome = true → ixVetoed env .C .beforeDelete id = false) ∧
        ((view .D db id).isSome = true → ixVetoed env .D .beforeDelete id = false)) := by
  unfold ixVetoedDel
  rw [hasChild_eq_view_isSome, hasChild2_eq_view_isSome]
  simp only [Bool.or_eq_false_iff, Bool.and_eq_false_imp, and_assoc]

theorem deleteParent_spec (env : Env) (h : env.t = expectedReturns) (fault : Fault) (id : String)
    (c : Cnt) (st : TxSt) :
    Triple st (deleteParent env fault id c st).1 ((deleteParent env fault id c st).2.2 = .ok)
      ((view .P st.db id).isSome = true ∧
       hitsAfter fault c (delCounts st.db id).1 (delCounts st.db id).2 0 0 = false ∧
       deleteConstraintErr st.db id = none ∧ ixVetoedDel env st.db id = false ∧
       (passVetoes env (deleteFlows st.db id)).2 = true)
      (st.db.del id) (deleteFlows st.db id) ∧
    ((deleteParent env fault id c st).2.2 = .ok →
      (deleteParent env fault id c st).2.1 = c.advance (delCounts st.db id).1 (delCounts st.db id).2 0 0) := by
  cases hpv : view .P st.db id with
  | none =>
    have hl : loads .P st.db id = 0 := by simp [loads, hpv]
    unfold deleteParent
    simp only [findById_eq, h, exp_deleteFind, exp_deleteNotFound, act_propagate, hl, hpv, ifC,
      (hitsAfter_one fault c).1, Bool.false_eq_true, if_false]
    exact ⟨⟨Grows.raise st _, by simp, nofun⟩, nofun⟩
  | some pv =>
    have hl : loads .P st.db id = 1 := by simp [loads, hpv]
    -- the result occurs four times in the goal, where unfolding it is slow to check: it is named, and the model unfolded once, in an
    -- equation about it
    generalize hR : deleteParent env fault id c st = R
    unfold deleteParent at hR
    simp only [findById_eq, deleteChildRound_eq env h, h, exp_deleteFind, exp_deleteNotFound,
      exp_deleteOwnConstraints, exp_deleteFireEvents, act_propagate, hl, hpv, ifC] at hR
    cases hh : hitsAfter fault c 1 0 0 0 with
    | true =>
      simp only [hh, if_true] at hR
      subst hR
      exact ⟨⟨Grows.raise st _, by simp [delete_hits, hh], nofun⟩, nofun⟩
    | false =>
      simp only [hh, Bool.false_eq_true, if_false] at hR
      -- the conditions of the stages, in the order they run, are the spec's
      have hC : (roundOk env fault .C st.db id (c.advance 1 0 0 0) ∧
          roundOk env fault .D st.db id ((c.advance 1 0 0 0).advance (loads .C st.db id) (loads .C st.db id) 0 0) ∧
          roundOk env fault .P st.db id (((c.advance 1 0 0 0).advance (loads .C st.db id) (loads .C st.db id) 0 0).advance
            (loads .D st.db id) 0 0 0) ∧
          (passVetoes env (deleteFlows st.db id)).2 = true) ↔
          ((some pv).isSome = true ∧ hitsAfter fault c (delCounts st.db id).1 (delCounts st.db id).2 0 0 = false ∧
            deleteConstraintErr st.db id = none ∧ ixVetoedDel env st.db id = false ∧
            (passVetoes env (deleteFlows st.db id)).2 = true) := by
        rw [delete_hits, ixVetoedDel_false, hh]
        simp only [roundOk, ifC, hl, hpv, ixVetoedFor_false, Option.isSome_some, true_and, Bool.or_eq_false_iff, ne_eq,
          not_true_eq_false, reduceCtorEq, not_false_eq_true, forall_const, false_implies, and_true]
        exact ⟨fun ⟨⟨b, hc⟩, ⟨c', hd⟩, ⟨d, r, p⟩, v⟩ => ⟨⟨⟨b, c'⟩, d⟩, r, ⟨p, fun x => (hc x).2.2, fun x => (hd x).2.2⟩, v⟩,
          fun ⟨⟨⟨b, c'⟩, d⟩, r, ⟨p, hc, hd⟩, v⟩ => ⟨⟨b, fun x => ⟨r, p, hc x⟩⟩, ⟨c', fun x => ⟨r, p, hd x⟩⟩, ⟨d, r, p⟩, v⟩⟩
      refine And.imp_left (Triple.of_iff (hC := hC)) ?_
      obtain ⟨nC, sC, fC⟩ := pdc_spec env h fault .C id (c.advance 1 0 0 0) st st.db rfl
      generalize processDeleteConstraints env fault .C id (c.advance 1 0 0 0) st = RC at nC sC fC hR
      simp only [ifC] at nC
      cases hrC : RC.2.2.2 with
      | some e =>
        simp only [hrC, Option.map_some] at hR
        subst hR
        exact ⟨sC.stop (by simp [hrC]) nofun And.left, nofun⟩
      | none =>
        simp only [hrC, Option.map_none] at hR
        obtain ⟨nD, sD, fD⟩ := pdc_spec env h fault .D id RC.2.1 RC.1 st.db (sC.passes hrC).core.db
        generalize processDeleteConstraints env fault .D id RC.2.1 RC.1 = RD at nD sD fD hR
        simp only [nC, ifC] at nD
        rw [nC] at sD
        cases hrD : RD.2.2.2 with
        | some e =>
          simp only [hrD, Option.map_some] at hR
          subst hR
          exact ⟨sC.andThenWrite hrC (sD.stop (by simp [hrD]) nofun And.left), nofun⟩
        | none =>
          simp only [hrD, Option.map_none] at hR
          obtain ⟨nP, sP, fP⟩ := pdc_spec env h fault .P id RD.2.1 RD.1 st.db (sD.passes hrD).core.db
          generalize processDeleteConstraints env fault .P id RD.2.1 RD.1 = RP at nP sP fP hR
          simp only [nD, ifC, hl] at nP
          rw [nD] at sP
          cases hrP : RP.2.2.2 with
          | some e =>
            simp only [hrP] at hR
            subst hR
            exact ⟨sC.andThenWrite hrC (sD.andThenWrite hrD (sP.stop (by simp [hrP]) nofun And.left)), nofun⟩
          | none =>
            have hdb : RP.1.db = st.db := (sP.passes hrP).core.db
            simp only [hrP, fP hrP, fD hrD, fC hrC, hpv, hdb, Option.map_some, ← deleteFlows_eq st.db id pv hpv] at hR
            subst hR
            refine ⟨sC.andThenWrite hrC (sD.andThenWrite hrD (sP.andThenWrite hrP
              ((fireAll_spec env h (deleteFlows st.db id) { RP.1 with db := st.db.del id }).rebase rfl rfl rfl rfl))), fun _ => ?_⟩
            rw [nP, delCounts_eq]
            simp only [Cnt.advance_advance, Nat.zero_add, Nat.add_zero]

theorem faultHits_none (a b c d : Nat) : faultHits .none a b c d = false := rfl

theorem writeRejected_false (isCreate : Bool) (db db' : Db) (id : String) (old : Option PFields) (f : PFields) :
    writeRejected isCreate db db' id old f = false ↔
      (keyRejected f = false ∧ indexErr isCreate db db' id old f = none) := by
  rw [indexErr_none]
  unfold writeRejected
  simp [Bool.or_eq_false_iff, and_assoc]

/-- the spec's verdicts are chains of `if … then reject… else …`: accepted iff no test strikes -/
theorem ite_rejectClean {c : Prop} [Decidable c] (db : Db) (v : Verdict) :
    (if c then rejectClean db else v).accepted = true ↔ (¬c ∧ v.accepted = true) := by
  split <;> simp [rejectClean, *]

theorem ite_rejectDirty {c : Prop} [Decidable c] (db : Db) (v : Verdict) :
    (if c then rejectDirty db else v).accepted = true ↔ (¬c ∧ v.accepted = true) := by
  split <;> simp [rejectDirty, *]

theorem passVetoes_writeFlows (env : Env) (σ : StoreId) (k : Kind) (db db' : Db) (id : String) :
    (passVetoes env (writeFlows σ k db db' id)).2 = true ↔
      ((σ = .P ∨ vetoed env .P k id = false) ∧ vetoed env σ k id = false) := by
  have hnil : (passVetoes env []).2 = true := rfl
  cases σ <;> simp [writeFlows, passVetoes_cons, hnil]

theorem writeFlows_mem (σe : StoreId) (k : Kind) (db db' : Db) (id : String) :
    ∀ fl ∈ writeFlows σe k db db' id, (fl.store = .P ∨ fl.store = σe) ∧ fl.kind = k ∧ fl.id = id ∧
      fl.initial = (match k with | .created => none | _ => view fl.store db id) ∧
      fl.final = (match k with | .deleted => none | _ => view fl.store db' id) := by
  intro fl hfl
  cases σe
  case P =>
    obtain rfl := List.mem_singleton.mp hfl
    exact ⟨.inl rfl, rfl, rfl, rfl, rfl⟩
  all_goals
    rcases List.mem_cons.mp hfl with rfl | hfl
    · exact ⟨.inl rfl, rfl, rfl, rfl, rfl⟩
    · obtain rfl := List.mem_singleton.mp hfl
      exact ⟨.inr rfl, rfl, rfl, rfl, rfl⟩

theorem specCreate_accepted_iff (env : Env) (fault : Fault) (σ : StoreId) (id : String) (f : PFields) (rank : String)
    (db : Db) :
    (specCreate env fault σ id f rank db).accepted = true ↔
      ((id ≠ "" ∧ present σ db id = false) ∧
       (writeRejected true db (db.put id (writtenEnt σ db id f rank)) id (createOld σ db id) f = false ∧
         faultHits fault 1 (ifC σ 1) 1 (ifC σ 1) = false) ∧
       (createOverVetoed env σ db id = false ∧ ixVetoedFor env σ .afterUpdate id = false) ∧
       (passVetoes env (writeFlows σ .created db (db.put id (writtenEnt σ db id f rank)) id)).2 = true) := by
  unfold specCreate
  simp only [ite_rejectClean, ite_rejectDirty, finish, Bool.not_eq_true, Bool.or_eq_false_iff,
    decide_eq_false_iff_not, ne_eq]

theorem specCreate_accepted (env : Env) (fault : Fault) (σ : StoreId) (id : String) (f : PFields) (rank : String) (db : Db)
    (h : (specCreate env fault σ id f rank db).accepted = true) :
    (specCreate env fault σ id f rank db).db = db.put id (writtenEnt σ db id f rank) ∧
    (specCreate env fault σ id f rank db).flows =
      writeFlows σ .created db (db.put id (writtenEnt σ db id f rank)) id := by
  obtain ⟨⟨h1, h2⟩, ⟨h3, h4⟩, ⟨h5, h6⟩, h7⟩ := (specCreate_accepted_iff env fault σ id f rank db).mp h
  simp [specCreate, h1, h2, h3, h4, h5, h6, finish, passVetoes_all env _ h7]

theorem create_refines (env : Env) (h : env.t = expectedReturns) (fault : Fault) (σ : StoreId) (id : String)
    (f : PFields) (rank : String) (st : TxSt) :
    Triple st (create env fault σ id f rank st).1 ((create env fault σ id f rank st).2 = .ok)
      ((specCreate env fault σ id f rank st.db).accepted = true)
      (specCreate env fault σ id f rank st.db).db (specCreate env fault σ id f rank st.db).flows := by
  refine (create_spec env h fault σ id f rank st).congr ?_ (specCreate_accepted env fault σ id f rank st.db)
  rw [specCreate_accepted_iff, writeRejected_false, passVetoes_writeFlows]
  exact ⟨fun ⟨a, b, c, d, e, f, g, h⟩ => ⟨⟨a, b⟩, ⟨⟨d, f⟩, e⟩, ⟨c, g⟩, h⟩,
    fun ⟨⟨a, b⟩, ⟨⟨d, f⟩, e⟩, ⟨c, g⟩, h⟩ => ⟨a, b, c, d, e, f, g, h⟩⟩

/-- the rank / grade written by the store that really performs an update (`Spec.updateStore`): an
    update handed on by the parent store keeps the child store's own field -/
def effRank (σ : StoreId) (db : Db) (id : String) (rank : String) : String :=
  match σ with
  | .P =>
    match (db.get id).bind (·.child) with
    | some r => r
    | none => ((db.get id).bind (·.child2)).getD rank
  | _ => rank

theorem update_eq (env : Env) (h : env.t = expectedReturns) (fault : Fault) (σ : StoreId) (id : String)
    (f : PFields) (rank : String) (st : TxSt) :
    update env fault σ id f rank st =
      updateLocal env fault (updateStore σ st.db id) id f (effRank σ st.db id rank) st := by
  unfold update updateStore effRank hasChild hasChild2
  cases σ with
  | C => rfl
  | D => rfl
  | P =>
    cases hc : (st.db.get id).bind (·.child) with
    | some r => simp [h]
    | none =>
      cases hd : (st.db.get id).bind (·.child2) with
      | some g => simp [h]
      | none => simp

theorem writtenEnt_eff (σ : StoreId) (db : Db) (id : String) (f : PFields) (rank : String) :
    writtenEnt (updateStore σ db id) db id f (effRank σ db id rank) = writtenEnt σ db id f rank := by
  unfold writtenEnt updateStore effRank hasChild hasChild2
  cases σ with
  | C => rfl
  | D => rfl
  | P =>
    cases hc : (db.get id).bind (·.child) with
    | some r => simp
    | none =>
      cases hd : (db.get id).bind (·.child2) with
      | some g => simp
      | none => simp

theorem specUpdate_accepted_iff (env : Env) (fault : Fault) (σ : StoreId) (id : String) (f : PFields) (rank : String)
    (db : Db) :
    (specUpdate env fault σ id f rank db).accepted = true ↔
      ((id ≠ "" ∧ (view (updateStore σ db id) db id).isSome = true) ∧
       (writeRejected false db (db.put id (writtenEnt σ db id f rank)) id ((db.get id).map (·.f)) f = false ∧
         faultHits fault 2 (ifC (updateStore σ db id) 2) 1 (ifC (updateStore σ db id) 1) = false) ∧
       (ixVetoedFor env (updateStore σ db id) .beforeUpdate id = false ∧
         ixVetoedFor env (updateStore σ db id) .afterUpdate id = false) ∧
       (passVetoes env (writeFlows (updateStore σ db id) .updated db (db.put id (writtenEnt σ db id f rank)) id)).2 = true) := by
  have hrc : (rejectClean db).accepted = false := rfl
  unfold specUpdate
  cases hv : view (updateStore σ db id) db id <;>
    simp only [hv, ite_rejectClean, ite_rejectDirty, finish, Bool.not_eq_true, Bool.or_eq_false_iff, ne_eq,
      hrc, Option.isSome_none, Option.isSome_some, Bool.false_eq_true, and_false, false_and, and_true]

theorem specUpdate_accepted (env : Env) (fault : Fault) (σ : StoreId) (id : String) (f : PFields) (rank : String) (db : Db)
    (h : (specUpdate env fault σ id f rank db).accepted = true) :
    (specUpdate env fault σ id f rank db).db = db.put id (writtenEnt σ db id f rank) ∧
    (specUpdate env fault σ id f rank db).flows =
      writeFlows (updateStore σ db id) .updated db (db.put id (writtenEnt σ db id f rank)) id := by
  obtain ⟨⟨h1, h2⟩, ⟨h3, h4⟩, ⟨h5, h6⟩, h7⟩ := (specUpdate_accepted_iff env fault σ id f rank db).mp h
  obtain ⟨base, hb⟩ := Option.isSome_iff_exists.mp h2
  simp [specUpdate, h1, hb, h3, h4, h5, h6, finish, passVetoes_all env _ h7]

theorem update_refines (env : Env) (h : env.t = expectedReturns) (fault : Fault) (σ : StoreId) (id : String)
    (f : PFields) (rank : String) (st : TxSt) :
    Triple st (update env fault σ id f rank st).1 ((update env fault σ id f rank st).2 = .ok)
      ((specUpdate env fault σ id f rank st.db).accepted = true)
      (specUpdate env fault σ id f rank st.db).db (specUpdate env fault σ id f rank st.db).flows := by
  rw [update_eq env h]
  have s := updateLocal_spec env h fault (updateStore σ st.db id) id f (effRank σ st.db id rank) st
  rw [writtenEnt_eff] at s
  refine s.congr ?_ (specUpdate_accepted env fault σ id f rank st.db)
  rw [specUpdate_accepted_iff, writeRejected_false, passVetoes_writeFlows]
  exact ⟨fun ⟨a, b, c, d, e, f, g, h⟩ => ⟨⟨a, b⟩, ⟨⟨c, f⟩, d⟩, ⟨e, g⟩, h⟩,
    fun ⟨⟨a, b⟩, ⟨⟨c, f⟩, d⟩, ⟨e, g⟩, h⟩ => ⟨a, b, c, d, e, f, g, h⟩⟩

theorem deleteById_eq (env : Env) (h : env.t = expectedReturns) (fault : Fault) (σ : StoreId) (id : String)
    (c : Cnt) (st : TxSt) : deleteById env fault σ id c st = deleteParent env fault id c st := by
  unfold deleteById
  cases σ with
  | P => rfl
  | C => simp [h]
  | D => simp [h]

theorem specDelete_accepted_iff (env : Env) (fault : Fault) (id : String) (db : Db) :
    (specDelete env fault id db).accepted = true ↔
      ((view .P db id).isSome = true ∧
       faultHits fault (delCounts db id).1 (delCounts db id).2 0 0 = false ∧
       deleteConstraintErr db id = none ∧ ixVetoedDel env db id = false ∧
       (passVetoes env (deleteFlows db id)).2 = true) := by
  have hrc : (rejectClean db).accepted = false := rfl
  unfold specDelete view deleteConstraintErr
  cases db.get id <;>
    simp only [ite_rejectDirty, ite_some_eq_none, finish, Bool.not_eq_true, hrc, Option.isSome_none,
      Option.isSome_some, Bool.false_eq_true, false_and, true_and, and_true]

theorem specDelete_accepted (env : Env) (fault : Fault) (id : String) (db : Db)
    (h : (specDelete env fault id db).accepted = true) :
    (∃ e, db.get id = some e) ∧
    (specDelete env fault id db).db = db.del id ∧
    (specDelete env fault id db).flows = deleteFlows db id := by
  obtain ⟨h1, h2, h3, h4, h5⟩ := (specDelete_accepted_iff env fault id db).mp h
  unfold view at h1
  unfold deleteConstraintErr at h3
  rw [ite_some_eq_none] at h3
  cases hg : db.get id with
  | none => simp [hg] at h1
  | some e => exact ⟨⟨e, rfl⟩, by simp [specDelete, hg, h2, h3.1, h4, finish, passVetoes_all env _ h5]⟩

/-- a delete started with the call counters `c` behaves like one started from zero under the fault
    shifted by `c` -/
theorem delete_refines (env : Env) (h : env.t = expectedReturns) (fault : Fault) (σ : StoreId) (id : String)
    (c : Cnt) (st : TxSt) :
    Triple st (deleteById env fault σ id c st).1 ((deleteById env fault σ id c st).2.2 = .ok)
      ((specDelete env (shiftFault fault c.fillP c.fillC) id st.db).accepted = true)
      (specDelete env (shiftFault fault c.fillP c.fillC) id st.db).db
      (specDelete env (shiftFault fault c.fillP c.fillC) id st.db).flows ∧
    ((deleteById env fault σ id c st).2.2 = .ok →
      (deleteById env fault σ id c st).2.1 = c.advance (delCounts st.db id).1 (delCounts st.db id).2 0 0) := by
  rw [deleteById_eq env h]
  refine And.imp_left (fun s => s.congr ?_ fun hacc => (specDelete_accepted env _ id st.db hacc).2)
    (deleteParent_spec env h fault id c st)
  rw [hitsAfter_shift, ← specDelete_accepted_iff]

theorem shiftFault_none (a b : Nat) : shiftFault .none a b = .none := rfl

theorem shiftFault_zero (fault : Fault) : shiftFault fault 0 0 = fault := by
  cases fault with
  | none => rfl
  | persist σ n => rfl
  | load σ n => cases σ <;> simp only [shiftFault, shift_eq] <;> rfl

theorem shiftFault_add (fault : Fault) (a b a' b' : Nat) :
    shiftFault (shiftFault fault a b) a' b' = shiftFault fault (a + a') (b + b') := by
  cases fault with
  | none => rfl
  | persist σ n => rfl
  | load σ n => cases σ <;> simp only [shiftFault, shift_eq] <;> rw [Nat.sub_sub]

theorem specDeleteMany_acc (env : Env) (fault : Fault) (ids : List String) (db : Db) (acc : List Flow) :
    (specDeleteMany env fault ids db acc).accepted = (specDeleteMany env fault ids db []).accepted ∧
    (specDeleteMany env fault ids db acc).db = (specDeleteMany env fault ids db []).db ∧
    (specDeleteMany env fault ids db acc).flows = acc ++ (specDeleteMany env fault ids db []).flows := by
  induction ids generalizing fault db acc with
  | nil => simp [specDeleteMany]
  | cons id rest ih =>
    unfold specDeleteMany
    by_cases ha : (specDelete env fault id db).accepted = true
    · simp only [ha, if_true]
      obtain ⟨a1, a2, a3⟩ := ih (shiftFault fault (delCounts db id).1 (delCounts db id).2)
        (specDelete env fault id db).db (acc ++ (specDelete env fault id db).flows)
      obtain ⟨b1, b2, b3⟩ := ih (shiftFault fault (delCounts db id).1 (delCounts db id).2)
        (specDelete env fault id db).db ([] ++ (specDelete env fault id db).flows)
      refine ⟨by rw [a1, b1], by rw [a2, b2], ?_⟩
      rw [a3, b3]
      simp
    · simp [ha]

theorem deleteLoop_refines (env : Env) (h : env.t = expectedReturns) (fault : Fault) (σ : StoreId) (ids : List String)
    (c : Cnt) (st : TxSt) :
    Triple st (deleteLoop env fault σ ids c st).1 ((deleteLoop env fault σ ids c st).2 = .ok)
      ((specDeleteMany env (shiftFault fault c.fillP c.fillC) ids st.db []).accepted = true)
      (specDeleteMany env (shiftFault fault c.fillP c.fillC) ids st.db []).db
      (specDeleteMany env (shiftFault fault c.fillP c.fillC) ids st.db []).flows := by
  induction ids generalizing c st with
  | nil => exact .skip (by simp [deleteLoop, specDeleteMany])
  | cons id rest ih =>
    obtain ⟨sd, hcnt⟩ := delete_refines env h fault σ id c st
    unfold deleteLoop specDeleteMany
    simp only [h, exp_deleteWhereDelete, act_propagate]
    cases hd : (deleteById env fault σ id c st).2.2 with
    | err e =>
      have hna : ¬(specDelete env (shiftFault fault c.fillP c.fillC) id st.db).accepted = true :=
        fun ha => by simp [sd.iff.mpr ha] at hd
      exact sd.stop (by simp [hd]) nofun (by simp [hna])
    | ok =>
      have si := ih (c.advance (delCounts st.db id).1 (delCounts st.db id).2 0 0) (deleteById env fault σ id c st).1
      rw [show (deleteById env fault σ id c st).1.db = _ from (sd.passes hd).core.db,
        show shiftFault fault (c.advance (delCounts st.db id).1 (delCounts st.db id).2 0 0).fillP
            (c.advance (delCounts st.db id).1 (delCounts st.db id).2 0 0).fillC = _
          from (shiftFault_add fault c.fillP c.fillC _ _).symm] at si
      obtain ⟨a1, a2, a3⟩ := specDeleteMany_acc env
        (shiftFault (shiftFault fault c.fillP c.fillC) (delCounts st.db id).1 (delCounts st.db id).2)
        rest (specDelete env (shiftFault fault c.fillP c.fillC) id st.db).db
        (specDelete env (shiftFault fault c.fillP c.fillC) id st.db).flows
      simp only [sd.iff.mp hd, if_true, hcnt hd, List.nil_append]
      rw [a1, a2, a3]
      exact (sd.andThenWrite hd si).of_iff (and_iff_right (sd.iff.mp hd))

theorem runOp_refines (env : Env) (h : env.t = expectedReturns) (fault : Fault) (o : Op) (st : TxSt) :
    Triple st (runOp env fault o st).1 ((runOp env fault o st).2 = .ok) ((specOp env fault o st.db).accepted = true)
      (specOp env fault o st.db).db (specOp env fault o st.db).flows := by
  cases o with
  | create σ id f rank => exact create_refines env h fault σ id f rank st
  | update σ id f rank => exact update_refines env h fault σ id f rank st
  | delete σ id =>
    have s := (delete_refines env h fault σ id Cnt.zero st).1
    simp only [Cnt.zero, shiftFault_zero] at s
    exact s
  | deleteWhere σ q =>
    unfold runOp deleteWhere specOp
    cases q with
    | bad => exact ⟨by simpa [h] using Grows.raise st _, by simp [h, rejectClean], by simp [h]⟩
    | all =>
      have := deleteLoop_refines env h fault σ (matching σ .all st.db) Cnt.zero st
      simpa only [Cnt.zero, shiftFault_zero] using this
    | nameEq n =>
      have := deleteLoop_refines env h fault σ (matching σ (.nameEq n) st.db) Cnt.zero st
      simpa only [Cnt.zero, shiftFault_zero] using this

end StorageModel.Tx
