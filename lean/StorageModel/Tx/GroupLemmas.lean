import StorageModel.Tx.Lemmas
import StorageModel.Tx.Group
/-
  Tx/GroupLemmas — the invariant `GInv` of the batch-group machine (Tx/Group.lean), kept by every step of every
  schedule under any runner: the batch, the members told to try solo and the returned calls stay disjoint, a call
  returns nil iff exactly one committed transaction invoked it, every logged transaction is well formed (`TxWf`).
  For the code's runner (`modelRunner`), an accepted invocation registers `commitList` of its accepted changes.
-/
namespace StorageModel.Tx

/-- taking the failing call out of the batch keeps every other call, each once (the last one moves into the gap) -/
theorem swapRemove_perm (pre : List Nat) (k : Nat) (rest : List Nat) :
    (swapRemove (pre ++ k :: rest) pre.length).Perm (pre ++ rest) := by
  unfold swapRemove
  rw [List.set_append]
  simp only [Nat.lt_irrefl, if_false, Nat.sub_self, List.set_cons_zero]
  cases rest with
  | nil => simp
  | cons r rs =>
    have hl : (pre ++ k :: r :: rs).getLastD 0 = (r :: rs).getLast (by simp) := by
      rw [List.getLastD_eq_getLast?]
      simp [List.getLast?_eq_some_getLast]
    rw [List.dropLast_append_of_ne_nil (by simp), hl, List.dropLast_cons_of_ne_nil (by simp)]
    refine List.Perm.append_left pre ?_
    have h2 := (List.perm_append_singleton ((r :: rs).getLast (by simp)) (r :: rs).dropLast).symm
    rwa [List.dropLast_concat_getLast] at h2

/-- the invocation is the member's function, for that invocation number, on that database and context -/
def PartFrom (run : Runner) (specs : Nat → Member) (p : Part) : Prop :=
  p.out = run p.inv p.dbIn p.ctxIn p.body ∧ p.body = (specs p.member).bodyAt p.inv

/-- every invocation succeeded and worked on the database its predecessor left inside the transaction -/
def chainOk : Db → List Part → Db → Prop
  | db, [], db' => db' = db
  | db, p :: ps, db' => p.dbIn = db ∧ p.out.ok = true ∧ chainOk p.out.db ps db'

theorem roundGo_spec (run : Runner) (specs : Nat → Member) (l : List Nat) (db : Db) (cx : Nat → Ctx) (iv : Nat → Nat)
    (r : RoundRes) (hr : r = roundGo run specs l db cx iv) :
    (∀ p ∈ r.parts, PartFrom run specs p) ∧
    match r.failed with
    | none => r.parts.map (·.member) = l ∧ chainOk db r.parts r.db
    | some k => ∃ pre rest, l = pre ++ k :: rest ∧ r.failIdx = pre.length ∧ r.parts.map (·.member) = pre ++ [k] := by
  subst hr
  fun_induction roundGo run specs l db cx iv with
  | case1 db cx iv => exact ⟨fun _ hp => (nomatch hp), rfl, rfl⟩
  | case2 k rest db cx iv n body o p hok r ih =>
    -- member `k` went through; `r` is the rest of the round
    obtain ⟨ip, ir⟩ := ih
    refine ⟨fun q hq => (List.mem_cons.mp hq).elim (fun e => e ▸ ⟨rfl, rfl⟩) (ip q), ?_⟩
    show match r.failed with | none => _ | some k => _
    cases hf : r.failed with
    | none =>
      rw [hf] at ir
      exact ⟨congrArg (k :: ·) ir.1, rfl, hok, ir.2⟩
    | some j =>
      rw [hf] at ir
      obtain ⟨pre, rs, e1, e2, e3⟩ := ir
      exact ⟨k :: pre, rs, congrArg (k :: ·) e1, congrArg (· + 1) e2, congrArg (k :: ·) e3⟩
  | case3 k rest db cx iv n body o p hok =>
    -- member `k` failed
    exact ⟨fun q hq => List.mem_singleton.mp hq ▸ ⟨rfl, rfl⟩, [], rest, rfl, rfl, rfl⟩

structure TxWf (run : Runner) (specs : Nat → Member) (t : GTx) : Prop where
  parts : ∀ p ∈ t.parts, PartFrom run specs p
  chain : t.committed = true → chainOk t.dbBefore t.parts t.dbAfter
  rolled : t.committed = false → t.dbAfter = t.dbBefore
  nodup : t.invoked.Nodup

/-- the transactions of the group follow one another on the database -/
inductive Linked : Db → List GTx → Db → Prop
  | nil (db : Db) : Linked db [] db
  | snoc {db0 : Db} {txs : List GTx} {db : Db} (t : GTx) :
      Linked db0 txs db → t.dbBefore = db → Linked db0 (txs ++ [t]) t.dbAfter

/-- number of committed transactions of the group that invoked member k -/
def committedWith (k : Nat) (txs : List GTx) : Nat :=
  (txs.filter fun t => t.committed && t.invoked.contains k).length

theorem committedWith_snoc (k : Nat) (txs : List GTx) (t : GTx) :
    committedWith k (txs ++ [t]) = committedWith k txs + (if (t.committed && t.invoked.contains k) = true then 1 else 0) := by
  simp only [committedWith, ← List.countP_eq_length_filter, List.countP_append, List.countP_singleton]

theorem committedWith_pos (k : Nat) (txs : List GTx) (h : committedWith k txs ≠ 0) :
    ∃ t ∈ txs, t.committed = true ∧ k ∈ t.invoked := by
  obtain ⟨t, ht, hp⟩ := List.length_filter_pos_iff.mp (Nat.pos_of_ne_zero h)
  simp only [Bool.and_eq_true, List.contains_iff_mem] at hp
  exact ⟨t, ht, hp⟩

structure GInv (run : Runner) (specs : Nat → Member) (db0 : Db) (arrival : List Nat) (s : GState) : Prop where
  nodup : (s.calls ++ s.solo).Nodup
  pending : ∀ k, k ∈ s.calls ∨ k ∈ s.solo → s.result k = none
  covered : ∀ k ∈ arrival, k ∈ s.calls ∨ k ∈ s.solo ∨ (s.result k).isSome = true
  count : ∀ k, committedWith k s.txs = if s.result k = some .ok then 1 else 0
  wf : ∀ t ∈ s.txs, TxWf run specs t
  linked : Linked db0 s.txs s.db

theorem gInit_inv (run : Runner) (specs : Nat → Member) (db : Db) (ctxs : Nat → Ctx) (arrival : List Nat)
    (hn : arrival.Nodup) : GInv run specs db arrival (gInit db ctxs arrival) := by
  refine ⟨by simpa [gInit] using hn, fun k _ => rfl, fun k hk => Or.inl hk, fun k => by simp [gInit, committedWith],
    fun t ht => by simp [gInit] at ht, Linked.nil db⟩

/-- what `GInv` says of the calls still waiting (in the batch or told to try solo, `w`) and the returned ones -/
structure Waiting (arrival w : List Nat) (result : Nat → Option Res) : Prop where
  nodup : w.Nodup
  pending : ∀ k ∈ w, result k = none
  covered : ∀ k ∈ arrival, k ∈ w ∨ (result k).isSome = true

theorem GInv.waiting {run specs db0 arrival s} (h : GInv run specs db0 arrival s) :
    Waiting arrival (s.calls ++ s.solo) s.result :=
  ⟨h.nodup, fun k hk => h.pending k (List.mem_append.mp hk),
    fun k hk => (h.covered k hk).elim (fun x => .inl (List.mem_append_left _ x))
      (fun x => x.elim (fun y => .inl (List.mem_append_right _ y)) .inr)⟩

/-- a failed round only moves a call from the batch to those told to try solo -/
theorem Waiting.perm {arrival w w' : List Nat} {r : Nat → Option Res} (h : Waiting arrival w r) (p : w'.Perm w) :
    Waiting arrival w' r :=
  ⟨p.nodup_iff.mpr h.nodup, fun k hk => h.pending k (p.mem_iff.mp hk),
    fun k hk => (h.covered k hk).imp p.mem_iff.mpr id⟩

/-- calls return — the whole batch after a round that went through, one member after its solo re-run: those of the waiting
    calls that `P` singles out get a result, the others go on waiting -/
theorem Waiting.returned {arrival w w' : List Nat} {r : Nat → Option Res} (h : Waiting arrival w r) (P : Nat → Prop)
    [DecidablePred P] (ρ : Nat → Res) (hs : w'.Sublist w) (hP : ∀ j ∈ w, j ∈ w' ↔ ¬P j) :
    Waiting arrival w' (fun j => if P j then some (ρ j) else r j) :=
  ⟨h.nodup.sublist hs,
    fun k hk => (if_neg ((hP k (hs.subset hk)).mp hk)).trans (h.pending k (hs.subset hk)),
    fun k hk => (Decidable.em (P k)).elim (fun hp => .inr (by rw [if_pos hp]; rfl))
      fun hp => (h.covered k hk).imp (fun hw => (hP k hw).mpr hp) (by rw [if_neg hp]; exact id)⟩

/-- every enabled step appends one transaction `t`; what is left to show is `t`'s own well-formedness and what the step does
    to the waiting calls and to the results -/
theorem GInv.snoc {run specs db0 arrival} {s s' : GState} (h : GInv run specs db0 arrival s) (t : GTx)
    (htx : s'.txs = s.txs ++ [t]) (hb : t.dbBefore = s.db) (ha : s'.db = t.dbAfter) (hwf : TxWf run specs t)
    (hw : Waiting arrival (s'.calls ++ s'.solo) s'.result)
    (hc : ∀ k, (if s.result k = some .ok then 1 else 0) + (if (t.committed && t.invoked.contains k) = true then 1 else 0) =
      if s'.result k = some .ok then 1 else 0) : GInv run specs db0 arrival s' where
  nodup := hw.nodup
  pending k hk := hw.pending k (List.mem_append.mpr hk)
  covered k hk := (hw.covered k hk).elim (fun x => (List.mem_append.mp x).elim .inl (.inr ∘ .inl)) (.inr ∘ .inr)
  count k := by rw [htx, committedWith_snoc, h.count k, hc k]
  wf u hu := by
    rw [htx] at hu
    rcases List.mem_append.mp hu with hu | hu
    · exact h.wf u hu
    · exact List.mem_singleton.mp hu ▸ hwf
  linked := by
    rw [htx, ha]
    exact Linked.snoc t h.linked hb

theorem gStep_inv (run : Runner) (specs : Nat → Member) (db0 : Db) (arrival : List Nat) (s : GState)
    (h : GInv run specs db0 arrival s) (tok : Sched) : GInv run specs db0 arrival (gStep run specs s tok) := by
  fun_cases gStep run specs s tok with
  | case1 | case5 => exact h
  | case2 he r hf =>
    -- every call succeeded: `for _, c := range b.calls { c.err <- err }`
    obtain ⟨hpf, hr⟩ := roundGo_spec run specs _ _ _ _ r rfl
    rw [hf] at hr
    obtain ⟨hm, hc⟩ := hr
    obtain ⟨nd1, _, nd3⟩ := List.nodup_append.mp h.nodup
    refine h.snoc _ rfl rfl rfl ⟨hpf, fun _ => hc, nofun, by simpa [GTx.invoked, hm] using nd1⟩
      (h.waiting.returned (fun j => s.calls.contains j = true) (fun _ => .ok) (List.sublist_append_right _ _) fun j hj => ?_)
      (fun j => ?_)
    · simp only [List.nil_append, List.contains_iff_mem]
      exact ⟨fun hs hc' => nd3 j hc' j hs rfl, (List.mem_append.mp hj).resolve_left⟩
    · simp only [GTx.invoked, hm, Bool.true_and]
      by_cases hc' : j ∈ s.calls
      · simp [hc', h.pending j (Or.inl hc')]
      · simp [hc']
  | case3 he r k hf =>
    -- call k failed: the transaction is rolled back, k is taken out of the batch and told to try solo, the others stay
    obtain ⟨hpf, hr⟩ := roundGo_spec run specs _ _ _ _ r rfl
    rw [hf] at hr
    obtain ⟨pre, rest, e1, e2, e3⟩ := hr
    have hnd := h.nodup
    rw [e1] at hnd
    refine h.snoc _ rfl rfl rfl ⟨hpf, nofun, fun _ => rfl, ?_⟩ (h.waiting.perm ?_) (fun j => by simp)
    · -- the members invoked, `pre ++ [k]`, are the front of the batch
      rw [GTx.invoked, e3]
      exact (List.nodup_append.mp hnd).1.sublist (List.Sublist.append_left (List.singleton_sublist.mpr (List.mem_cons_self ..)) pre)
    · show (swapRemove s.calls _ ++ (s.solo ++ [k])).Perm (s.calls ++ s.solo)
      rw [e2, e1]
      refine ((swapRemove_perm pre k rest).append_right _).trans ?_
      simp only [List.append_assoc, List.cons_append]
      refine List.Perm.append_left pre ?_
      rw [← List.append_assoc]
      exact List.perm_append_singleton k _
  | case4 k hk' n body o p db' =>
    -- member k, told trySolo, runs db.Update(fn): its result goes to its caller
    have hk : k ∈ s.solo := by simpa using hk'
    have hkc : ¬ k ∈ s.calls := fun hc => (List.nodup_append.mp h.nodup).2.2 k hc k hk rfl
    refine h.snoc _ rfl rfl rfl ⟨fun q hq => ?_, fun hc => ?_, fun hc => ?_, by simp [GTx.invoked]⟩
      (h.waiting.returned (· = k) (fun _ => o.res) (List.Sublist.append_left List.filter_sublist _) fun j hj => ?_) (fun j => ?_)
    · rw [List.mem_singleton.mp hq]
      exact ⟨rfl, rfl⟩
    · simp only at hc
      simp only [chainOk, db', hc, if_true, and_true, p]
    · simp only at hc
      simp [db', hc]
    · simp only [List.mem_append, List.mem_filter, bne_iff_ne, ne_eq]
      exact ⟨fun hj' e => hj'.elim (fun x => hkc (e ▸ x)) (·.2 e), fun hjk => (List.mem_append.mp hj).imp_right (⟨·, hjk⟩)⟩
    · simp only [GTx.invoked, List.map_cons, List.map_nil]
      by_cases hjk : j = k
      · subst hjk
        simp only [h.pending j (Or.inr hk), upd, if_true]
        cases hr : o.res <;> simp [Invocation.ok, hr, Res.isOk, p]
      · simp [upd, hjk, p]

theorem runGroup_inv (run : Runner) (specs : Nat → Member) (db : Db) (ctxs : Nat → Ctx) (arrival : List Nat)
    (hn : arrival.Nodup) (sched : List Sched) :
    GInv run specs db arrival (runGroup run specs db ctxs arrival sched) :=
  List.foldlRecOn sched (gStep run specs) (gInit_inv run specs db ctxs arrival hn)
    fun s hs tok _ => gStep_inv run specs db arrival s hs tok

theorem envAt_t (env : Env) (n : Nat) : (envAt env n).t = env.t := by
  unfold envAt
  split <;> rfl

theorem commitList_envAt (env : Env) (n : Nat) (ctx : Ctx) (flows : List Flow) (txc : Bool) :
    commitList (envAt env n) ctx flows txc = commitList env ctx flows txc := by
  unfold envAt
  split
  · rfl
  · exact commitList_later env ctx flows txc

/-- a member whose function hands operation errors on does so in every invocation (the injected fault is an
    error the function returns itself) -/
theorem bodyAt_propagating (m : Member) (hp : Propagating m.body) (n : Nat) : Propagating (m.bodyAt n) := by
  have hbase : Propagating (if n ≤ 1 then m.body else laterBody m.body) := by
    split
    · exact hp
    · exact laterBody_propagating _ hp
  unfold Member.bodyAt
  simp only
  split
  · intro s hs
    rcases List.mem_append.mp hs with hs | hs
    · exact hbase s (List.mem_of_mem_take hs)
    · simp only [List.mem_singleton] at hs
      subst hs
      rfl
  · exact hbase

/-- the spec's reading of an invocation: the body on the database it found, with the member's context -/
def Part.spec (env : Env) (p : Part) : Spec.Body := specBody (envAt env p.inv) p.dbIn p.ctxIn p.body

/-- the spec accepts the invocation: no step rejected, no pre-commit action fails -/
def Part.accepted (env : Env) (p : Part) : Bool := (p.spec env).accepted && preOk (p.spec env).ctx

theorem part_model (env : Env) (h : env.t = expectedReturns) (specs : Nat → Member) (p : Part)
    (hf : PartFrom (modelRunner env) specs p) (hp : Propagating p.body) :
    p.out.ctx = (p.spec env).ctx ∧
    (p.out.ok = true ↔ p.accepted env = true) ∧
    (p.out.ok = true →
      p.out.db = (p.spec env).db ∧ p.out.fired = commitList env (p.spec env).ctx (p.spec env).flows true) := by
  obtain ⟨a1, a2, _, a4⟩ := attempt_refines (envAt env p.inv) (by rw [envAt_t]; exact h) true p.dbIn p.ctxIn p.body hp
  rw [hf.1]
  unfold Part.accepted Part.spec
  simp only [modelRunner, Invocation.ok, Res.isOk_iff]
  refine ⟨a1, a2, ?_⟩
  intro hok
  obtain ⟨b1, _, _, b3⟩ := a4 hok
  refine ⟨b1, ?_⟩
  rw [b3, commitList_envAt]

theorem chainOk_all_ok (db : Db) (ps : List Part) (db' : Db) (h : chainOk db ps db') : ∀ p ∈ ps, p.out.ok = true := by
  induction ps generalizing db with
  | nil =>
    intro p hp
    cases hp
  | cons q qs ih =>
    obtain ⟨_, h2, h3⟩ := h
    intro p hp
    rcases List.mem_cons.mp hp with rfl | hp
    · exact h2
    · exact ih _ h3 p hp

theorem PartFrom.propagating {run : Runner} {specs : Nat → Member} {p : Part} (hf : PartFrom run specs p)
    (hw : ∀ k, Propagating (specs k).body) : Propagating p.body := by
  rw [hf.2]
  exact bodyAt_propagating _ (hw _) _

theorem TxWf.committed_part {env : Env} {specs : Nat → Member} {t : GTx} (hwf : TxWf (modelRunner env) specs t)
    (h : env.t = expectedReturns) (hw : ∀ k, Propagating (specs k).body) (hc : t.committed = true) (p : Part)
    (hp : p ∈ t.parts) :
    p.accepted env = true ∧ p.out.ctx = (p.spec env).ctx ∧
    p.out.fired = commitList env (p.spec env).ctx (p.spec env).flows true := by
  have hok := chainOk_all_ok _ _ _ (hwf.chain hc) p hp
  obtain ⟨m1, m2, m3⟩ := part_model env h specs p (hwf.parts p hp) ((hwf.parts p hp).propagating hw)
  exact ⟨m2.mp hok, m1, (m3 hok).2⟩

theorem TxWf.fired_committed {env : Env} {specs : Nat → Member} {t : GTx} (hwf : TxWf (modelRunner env) specs t)
    (h : env.t = expectedReturns) (hw : ∀ k, Propagating (specs k).body) (hc : t.committed = true) :
    t.fired = t.parts.flatMap fun p => commitList env (p.spec env).ctx (p.spec env).flows true := by
  rw [GTx.fired, if_pos hc]
  exact flatMap_congr_mem fun p hp => (hwf.committed_part h hw hc p hp).2.2

/-- the accepted changes of a transaction of the group, member after member -/
def GTx.flows (env : Env) (t : GTx) : List Flow := t.parts.flatMap fun p => (p.spec env).flows

/-- the spec's reading of a committed transaction: every invocation accepted, each on the database the one before
    it produced -/
def specChain (env : Env) : Db → List Part → Db → Prop
  | db, [], db' => db' = db
  | db, p :: ps, db' => p.dbIn = db ∧ p.accepted env = true ∧ specChain env (p.spec env).db ps db'

theorem chainOk_specChain (env : Env) (h : env.t = expectedReturns) (specs : Nat → Member)
    (hw : ∀ k, Propagating (specs k).body) (db : Db) (ps : List Part) (db' : Db)
    (hf : ∀ p ∈ ps, PartFrom (modelRunner env) specs p) (hc : chainOk db ps db') : specChain env db ps db' := by
  induction ps generalizing db with
  | nil => exact hc
  | cons q qs ih =>
    obtain ⟨h1, h2, h3⟩ := hc
    have hq := hf q (List.mem_cons_self ..)
    obtain ⟨_, m2, m3⟩ := part_model env h specs q hq (hq.propagating hw)
    refine ⟨h1, m2.mp h2, ?_⟩
    rw [← (m3 h2).1]
    exact ih _ (fun p hp => hf p (List.mem_cons_of_mem _ hp)) h3

theorem runDefault_is_schedule (run : Runner) (specs : Nat → Member) (fuel : Nat) (s : GState) :
    (runDefault run specs fuel s).1 = (runDefault run specs fuel s).2.foldl (gStep run specs) s := by
  fun_induction runDefault run specs fuel s with
  | case1 | case3 => rfl
  -- a token is taken: `foldl` makes the same step first, the rest is the induction hypothesis
  | case2 | case4 => assumption

/-- whatever order is used, a group inside a history is `runGroup` under SOME schedule — so every theorem stated
    for all schedules speaks about it -/
theorem runGroupSpec_is_runGroup (run : Runner) (g : GroupSpec) (db : Db) (ctx : Ctx) :
    ∃ sched, runGroupSpec run g db ctx =
      runGroup run g.specs db (groupCtxs g ctx) (List.range g.members.length) sched := by
  unfold runGroupSpec runGroup
  cases g.sched with
  | some sched => exact ⟨sched, rfl⟩
  | none => exact ⟨_, runDefault_is_schedule run g.specs _ _⟩

/-- a group of one under any runner: one round; if the invocation fails, the solo re-run decides -/
theorem runGroup_single (run : Runner) (m : Member) (db : Db) (ctx : Ctx) :
    let s := runGroup run (fun _ => m) db (fun _ => ctx) [0] [.round, .solo 0]
    let o1 := run 1 db ctx (m.bodyAt 1)
    let o2 := run 2 db o1.ctx (m.bodyAt 2)
    if o1.ok then
      s.result 0 = some .ok ∧ s.db = o1.db ∧ s.ctxOf 0 = o1.ctx ∧ s.txs.flatMap GTx.fired = o1.fired ∧ s.invs 0 = 1
    else
      s.result 0 = some o2.res ∧ s.db = (if o2.ok then o2.db else db) ∧ s.ctxOf 0 = o2.ctx ∧
        s.txs.flatMap GTx.fired = (if o2.ok then o2.fired else []) ∧ s.invs 0 = 2 := by
  intro s o1 o2
  have hround : roundGo run (fun _ => m) [0] db (fun _ => ctx) (fun _ => 0) =
      if o1.ok then
        { parts := [⟨0, 1, db, ctx, m.bodyAt 1, o1⟩], failed := none, failIdx := 1, db := o1.db,
          ctxOf := upd (fun _ => ctx) 0 o1.ctx, invs := upd (fun _ => 0) 0 1 }
      else
        { parts := [⟨0, 1, db, ctx, m.bodyAt 1, o1⟩], failed := some 0, failIdx := 0, db := db,
          ctxOf := upd (fun _ => ctx) 0 o1.ctx, invs := upd (fun _ => 0) 0 1 } := by
    simp only [roundGo]
    split <;> rfl
  cases h1 : o1.ok with
  | true =>
    simp only [h1, if_true] at hround ⊢
    simp [s, runGroup, gInit, gStep, hround, upd, GTx.fired]
  | false =>
    simp only [h1, Bool.false_eq_true, if_false] at hround ⊢
    cases h2 : o2.ok <;>
    simp [s, runGroup, gInit, gStep, hround, upd, GTx.fired, swapRemove, o2, o1, h2]

/-- histories without groups are the histories of `runCase` / `specCase` (about which `history_refines_spec` speaks) -/
theorem runHist_of_txs (env : Env) (txs : List TxSpec) (db : Db) (ctx : Ctx) :
    runHist env (txs.map .tx) db ctx = (runCase env txs db ctx).map .tx := by
  induction txs generalizing db ctx with
  | nil => rfl
  | cons t rest ih => simp [runHist, runCase, ih]

theorem specHist_of_txs (env : Env) (txs : List TxSpec) (db : Db) (ctx : Ctx) :
    specHist env (txs.map .tx) db ctx = (Spec.specCase env txs db ctx).map .tx := by
  induction txs generalizing db ctx with
  | nil => rfl
  | cons t rest ih => simp [specHist, Spec.specCase, ih]

end StorageModel.Tx
