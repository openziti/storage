import StorageModel.Tx.Lemmas
/-
  Tx/Failures — the failure kinds of C07 as conditions on the database an operation meets (`OpFails`); the spec
  rejects each of them (`opFails_rejected`).  How the spec's verdict on a body splits at a step
  (`specSteps_append_accepted`): with it Properties/C07.lean shows that a body with a rejected step is not accepted.
-/
namespace StorageModel.Tx
open StorageModel.Tx.Spec

/-- the failure kinds of C07, stated on the database the operation meets (no stages, no tables) -/
inductive OpFails (env : Env) (db : Db) : Op → Prop
  | createBlankId (σ f rank) : OpFails env db (.create σ "" f rank)
  | createExists (σ id f rank) : present σ db id = true → OpFails env db (.create σ id f rank)
  | createUnusableKey (σ id f rank) : keyRejected f = true → OpFails env db (.create σ id f rank)
  /-- unpersistable field value: the tags map holds, at any depth, a value of an unsupported type or an
      unusable key (no injection: the typed-bucket setters reject the value itself) -/
  | createUnpersistableValue (σ id f rank) : tagsRejected f.tags = true → OpFails env db (.create σ id f rank)
  /-- a linked id (persisted with SetLinkedIds) names an entity the linked store does not have — real, not
      injected -/
  | createMissingLinkTarget (σ id f rank) : linksRejected f.links = true → OpFails env db (.create σ id f rank)
  | createName (σ id f rank) : nameRejected true db id (createOld σ db id) f = true → OpFails env db (.create σ id f rank)
  | createEmptyRole (σ id f rank) : rolesRejected (createOld σ db id) f = true → OpFails env db (.create σ id f rank)
  | createMissingFk (σ id f rank) :
      refRejected true (db.put id (writtenEnt σ db id f rank)) (createOld σ db id) f = true → OpFails env db (.create σ id f rank)
  | createVetoParentFlow (σ id f rank) : σ ≠ .P → vetoed env .P .created id = true → OpFails env db (.create σ id f rank)
  | createVetoOwnFlow (σ id f rank) : vetoed env σ .created id = true → OpFails env db (.create σ id f rank)
  /-- index-stage veto on create, parent flow: a custom constraint of the parent store objects after the write -/
  | createIxVetoParent (σ id f rank) : ixVetoed env .P .afterUpdate id = true → OpFails env db (.create σ id f rank)
  /-- index-stage veto on create, child flow: a custom constraint of the child store objects after the write -/
  | createIxVetoChild (σ id f rank) : σ ≠ .P → ixVetoed env σ .afterUpdate id = true → OpFails env db (.create σ id f rank)
  /-- child data created over an existing parent entity: a custom constraint of the parent store objects "before update" -/
  | createIxVetoOverParent (σ id f rank) : σ ≠ .P → (db.get id).isSome = true → ixVetoed env .P .beforeUpdate id = true →
      OpFails env db (.create σ id f rank)
  | updateBlankId (σ f rank) : OpFails env db (.update σ "" f rank)
  | updateNotFound (σ id f rank) : view (updateStore σ db id) db id = none → OpFails env db (.update σ id f rank)
  | updateUnusableKey (σ id f rank) : keyRejected f = true → OpFails env db (.update σ id f rank)
  | updateUnpersistableValue (σ id f rank) : tagsRejected f.tags = true → OpFails env db (.update σ id f rank)
  | updateMissingLinkTarget (σ id f rank) : linksRejected f.links = true → OpFails env db (.update σ id f rank)
  | updateName (σ id f rank) : nameRejected false db id ((db.get id).map (·.f)) f = true → OpFails env db (.update σ id f rank)
  | updateEmptyRole (σ id f rank) : rolesRejected ((db.get id).map (·.f)) f = true → OpFails env db (.update σ id f rank)
  | updateMissingFk (σ id f rank) :
      refRejected false (db.put id (writtenEnt σ db id f rank)) ((db.get id).map (·.f)) f = true →
      OpFails env db (.update σ id f rank)
  | updateVetoParentFlow (σ id f rank) : vetoed env .P .updated id = true → OpFails env db (.update σ id f rank)
  | updateVetoChildFlow (σ id f rank) : updateStore σ db id ≠ .P → vetoed env (updateStore σ db id) .updated id = true →
      OpFails env db (.update σ id f rank)
  /-- index-stage veto on update, parent flow: before the write (nothing is written) or after it -/
  | updateIxVetoParent (σ id f rank) (stage : Stage) : stage ≠ .beforeDelete → ixVetoed env .P stage id = true →
      OpFails env db (.update σ id f rank)
  /-- index-stage veto on update, child flow (entity with child data, through either store) -/
  | updateIxVetoChild (σ id f rank) (stage : Stage) : stage ≠ .beforeDelete → updateStore σ db id ≠ .P →
      ixVetoed env (updateStore σ db id) stage id = true → OpFails env db (.update σ id f rank)
  | deleteNotFound (σ id) : db.get id = none → OpFails env db (.delete σ id)
  | deleteReferenced (σ id) : db.any (fun p => !(p.1 == id) && refBytes p.2.f.ref == id) = true →
      OpFails env db (.delete σ id)
  | deleteVetoParentFlow (σ id) : vetoed env .P .deleted id = true → OpFails env db (.delete σ id)
  /-- an entity constraint of a child store τ (C or D) that holds the entity vetoes the delete, whichever
      store the delete is invoked on -/
  | deleteVetoChildFlow (σ τ id) : τ ≠ .P → (view τ db id).isSome = true → vetoed env τ .deleted id = true →
      OpFails env db (.delete σ id)
  /-- index-stage veto on delete, parent flow -/
  | deleteIxVetoParent (σ id) : ixVetoed env .P .beforeDelete id = true → OpFails env db (.delete σ id)
  /-- index-stage veto on delete, child flow: the entity has child data and a custom constraint registered
      on the child store itself objects (through either store) -/
  | deleteIxVetoChild (σ τ id) : τ ≠ .P → (view τ db id).isSome = true → ixVetoed env τ .beforeDelete id = true →
      OpFails env db (.delete σ id)
  | badQuery (σ) : OpFails env db (.deleteWhere σ .bad)

theorem deleteFlows_mem (db : Db) (id : String) (τ : StoreId) (h : (view τ db id).isSome = true) :
    ∃ fl ∈ deleteFlows db id, fl.store = τ ∧ fl.kind = .deleted ∧ fl.id = id := by
  have hP : (view .P db id).isSome = true := by
    rw [← view_child_toParent τ db id h, Option.isSome_map]
    exact h
  obtain ⟨pv, hpv⟩ := Option.isSome_iff_exists.mp hP
  obtain ⟨v, hv⟩ := Option.isSome_iff_exists.mp h
  unfold deleteFlows
  simp only [hpv]
  cases τ with
  | P => exact ⟨_, List.mem_cons_self .., rfl, rfl, rfl⟩
  | C =>
    refine ⟨{ store := .C, kind := .deleted, id := id, initial := some v, final := none, parentEvent := false }, ?_, rfl, rfl, rfl⟩
    simp [hv]
  | D =>
    refine ⟨{ store := .D, kind := .deleted, id := id, initial := some v, final := none, parentEvent := false }, ?_, rfl, rfl, rfl⟩
    simp [hv]

/-! An accepted operation passes every test of its spec; each failure kind contradicts one of them. -/

theorem specCreate_rejects (env : Env) (fault : Fault) (db : Db) (σ : StoreId) (id : String) (f : PFields) (rank : String)
    (hf : OpFails env db (.create σ id f rank)) : (specCreate env fault σ id f rank db).accepted = false := by
  refine Bool.eq_false_iff.mpr fun hacc => ?_
  obtain ⟨⟨hid, hpr⟩, ⟨hw, _⟩, ⟨hov, hix⟩, hv⟩ := (specCreate_accepted_iff env fault σ id f rank db).mp hacc
  obtain ⟨hvp, hvo⟩ := (passVetoes_writeFlows ..).mp hv
  obtain ⟨hixP, hixC⟩ := (ixVetoedFor_false ..).mp hix
  cases hf with
  | createBlankId => exact hid rfl
  | createExists _ _ _ _ hp => simp [hp] at hpr
  | createUnusableKey _ _ _ _ hk | createName _ _ _ _ hk | createEmptyRole _ _ _ _ hk | createMissingFk _ _ _ _ hk =>
    simp [writeRejected, hk] at hw
  | createUnpersistableValue _ _ _ _ hk | createMissingLinkTarget _ _ _ _ hk => simp [writeRejected, keyRejected, hk] at hw
  | createVetoParentFlow _ _ _ _ hσ hk => simp [hσ, hk] at hvp
  | createVetoOwnFlow _ _ _ _ hk => simp [hk] at hvo
  | createIxVetoParent _ _ _ _ hk => simp [hk] at hixP
  | createIxVetoChild _ _ _ _ hσ hk => simp [hixC hσ] at hk
  | createIxVetoOverParent _ _ _ _ hσ hg hk => cases σ <;> simp [createOverVetoed, createOld, hg, hk] at hov hσ

theorem specUpdate_rejects (env : Env) (fault : Fault) (db : Db) (σ : StoreId) (id : String) (f : PFields) (rank : String)
    (hf : OpFails env db (.update σ id f rank)) : (specUpdate env fault σ id f rank db).accepted = false := by
  refine Bool.eq_false_iff.mpr fun hacc => ?_
  obtain ⟨⟨hid, hvw⟩, ⟨hw, _⟩, ⟨hixB, hixA⟩, hv⟩ := (specUpdate_accepted_iff env fault σ id f rank db).mp hacc
  obtain ⟨hvp, hvo⟩ := (passVetoes_writeFlows ..).mp hv
  obtain ⟨hbP, hbC⟩ := (ixVetoedFor_false ..).mp hixB
  obtain ⟨haP, haC⟩ := (ixVetoedFor_false ..).mp hixA
  cases hf with
  | updateBlankId => exact hid rfl
  | updateNotFound _ _ _ _ hn => simp [hn] at hvw
  | updateUnusableKey _ _ _ _ hk | updateName _ _ _ _ hk | updateEmptyRole _ _ _ _ hk | updateMissingFk _ _ _ _ hk =>
    simp [writeRejected, hk] at hw
  | updateUnpersistableValue _ _ _ _ hk | updateMissingLinkTarget _ _ _ _ hk => simp [writeRejected, keyRejected, hk] at hw
  | updateVetoParentFlow _ _ _ _ hk =>
    rcases hvp with hs | hp
    · simp [hs, hk] at hvo
    · simp [hk] at hp
  | updateVetoChildFlow _ _ _ _ _ hk => simp [hk] at hvo
  | updateIxVetoParent _ _ _ _ stage hst hk =>
    cases stage with
    | beforeUpdate => simp [hk] at hbP
    | afterUpdate => simp [hk] at haP
    | beforeDelete => exact hst rfl
  | updateIxVetoChild _ _ _ _ stage hst hs hk =>
    cases stage with
    | beforeUpdate => simp [hbC hs] at hk
    | afterUpdate => simp [haC hs] at hk
    | beforeDelete => exact hst rfl

theorem specDelete_rejects (env : Env) (fault : Fault) (db : Db) (σ : StoreId) (id : String)
    (hf : OpFails env db (.delete σ id)) : (specDelete env fault id db).accepted = false := by
  refine Bool.eq_false_iff.mpr fun hacc => ?_
  obtain ⟨hP, _, href, hix, hv⟩ := (specDelete_accepted_iff env fault id db).mp hacc
  obtain ⟨hxP, hxC, hxD⟩ := (ixVetoedDel_false env db id).mp hix
  have hveto : ∀ τ, (view τ db id).isSome = true → vetoed env τ .deleted id = false := fun τ hc => by
    obtain ⟨fl, hm, h1, h2, h3⟩ := deleteFlows_mem db id τ hc
    rw [← h1, ← h2, ← h3]
    exact (passVetoes_ok_iff env _).mp hv fl hm
  cases hf with
  | deleteNotFound _ _ hn => simp [view, hn] at hP
  | deleteReferenced _ _ hr => simp [deleteConstraintErr, hr] at href
  | deleteVetoParentFlow _ _ hk => simp [hveto .P hP] at hk
  | deleteVetoChildFlow _ τ _ _ hc hk => simp [hveto τ hc] at hk
  | deleteIxVetoParent _ _ hk => simp [hk] at hxP
  | deleteIxVetoChild _ τ _ hτ hc hk =>
    cases τ with
    | P => exact hτ rfl
    | C => simp [hxC hc] at hk
    | D => simp [hxD hc] at hk

theorem opFails_rejected (env : Env) (fault : Fault) (db : Db) (o : Op) (hf : OpFails env db o) :
    (specOp env fault o db).accepted = false := by
  cases o with
  | create σ id f rank => exact specCreate_rejects env fault db σ id f rank hf
  | update σ id f rank => exact specUpdate_rejects env fault db σ id f rank hf
  | delete σ id => exact specDelete_rejects env fault db σ id hf
  | deleteWhere σ q =>
    cases hf
    rfl

theorem specStep_some (env : Env) (s : Step) (b b' : Body) (h : specStep env s b = some b') :
    b'.accepted = b.accepted ∧ ∀ x ∈ b.ctx.preActions, x ∈ b'.ctx.preActions := by
  cases s with
  | op o fault swallow =>
    simp only [specStep] at h
    split at h
    · cases h
      exact ⟨rfl, fun _ hx => hx⟩
    · split at h
      · cases h
        exact ⟨rfl, fun _ hx => hx⟩
      · cases h
  | link op id ts =>
    simp only [specStep] at h
    split at h
    · cases h
    · cases h
      exact ⟨rfl, fun _ hx => hx⟩
  | addPre tag fails =>
    cases h
    exact ⟨rfl, fun _ hx => List.mem_append_left _ hx⟩
  | fail _ => cases h
  | fail1 _ => cases h
  | _ =>
    cases h
    exact ⟨rfl, fun _ hx => hx⟩

theorem specSteps_frame (env : Env) (body : List Step) (b : Body) :
    (b.accepted = false → (specSteps env body b).accepted = false) ∧
    ∀ x ∈ b.ctx.preActions, x ∈ (specSteps env body b).ctx.preActions := by
  induction body generalizing b with
  | nil => exact ⟨id, fun _ hx => hx⟩
  | cons s rest ih =>
    rw [specSteps_cons]
    cases hs : specStep env s b with
    | none => exact ⟨fun _ => rfl, fun _ hx => hx⟩
    | some b' =>
      obtain ⟨h1, h2⟩ := specStep_some env s b b' hs
      exact ⟨fun hb => (ih b').1 (h1.trans hb), fun x hx => (ih b').2 x (h2 x hx)⟩

theorem specSteps_append_accepted (env : Env) (l1 l2 : List Step) (b : Body) :
    (specSteps env (l1 ++ l2) b).accepted =
      ((specSteps env l1 b).accepted && (specSteps env l2 (specSteps env l1 b)).accepted) := by
  induction l1 generalizing b with
  | nil =>
    cases hb : b.accepted
    · simp [specSteps, hb, (specSteps_frame env l2 b).1 hb]
    · simp [specSteps, hb]
  | cons s rest ih =>
    rw [List.cons_append, specSteps_cons, specSteps_cons]
    cases specStep env s b with
    | none => rfl
    | some b' => exact ih b'

end StorageModel.Tx
