import StorageModel.Tx.Db
/-
  Tx/Spec — what C07 and C08 demand, stated without stages, return tables, error holders or an
  OnCommit queue:

  * an operation is either accepted (its whole effect is applied) or rejected; the reasons for a
    rejection are listed declaratively;
  * a custom index-stage constraint (boltz.Constraint registered with AddConstraint on the parent or on
    the child store) that objects — before the update, after the write of a create / update, before
    the delete — rejects the operation, whichever store the operation was invoked on;
  * a transaction succeeds iff no step of its body is rejected (and the caller did not return an
    error, and no pre-commit action of the context fails); otherwise nothing changes and nothing runs;
  * a committed transaction announces, to every listener registered for kind k on store σ, exactly
    the accepted changes of kind k on σ (a change through / of an entity with child data is a change
    on the parent store too, marked as parent event), runs the context's commit actions once and
    every tx-complete listener once.
-/
namespace StorageModel.Tx.Spec
open StorageModel.Tx

/-- some constraint registered on store σ refuses the change (kind, id) -/
def vetoed (env : Env) (σ : StoreId) (k : Kind) (id : String) : Bool :=
  (env.regs σ).any fun r => match r with
    | .constraint _ vs => vs.contains (k, id)
    | .listener _ _ => false

/-- the entity has data in the first child store C -/
def hasChild (db : Db) (id : String) : Bool := ((db.get id).bind (·.child)).isSome

/-- the entity has data in the second child store D -/
def hasChild2 (db : Db) (id : String) : Bool := ((db.get id).bind (·.child2)).isSome

/-- calls made on the (instrumented) strategy of the child store C: none when another store does the work -/
def ifC (σ : StoreId) (n : Nat) : Nat := match σ with | .C => n | _ => 0

/-- some custom index-stage constraint registered on store σ objects to (stage, id) -/
def ixVetoed (env : Env) (σ : StoreId) (stage : Stage) (id : String) : Bool :=
  (env.ix σ).any fun vs => vs.contains (stage, id)

/-- a write performed by store σe (the parent store, or a child store for an entity with data there)
    consults the constraints of the parent store and, for a child store, its own -/
def ixVetoedFor (env : Env) (σe : StoreId) (stage : Stage) (id : String) : Bool :=
  ixVetoed env .P stage id || (match σe with | .P => false | σ => ixVetoed env σ stage id)

/-- a delete consults the parent store's constraints and those of every child store the entity has data in -/
def ixVetoedDel (env : Env) (db : Db) (id : String) : Bool :=
  ixVetoed env .P .beforeDelete id || (hasChild db id && ixVetoed env .C .beforeDelete id)
    || (hasChild2 db id && ixVetoed env .D .beforeDelete id)

/-- does an injected storage fault strike an operation that performs `lp` / `lc` FillEntity and
    `pp` / `pc` PersistEntity calls on the parent / child strategy? -/
def faultHits (fault : Fault) (lp lc pp pc : Nat) : Bool :=
  match fault with
  | .none => false
  | .load .P n => decide (1 ≤ n ∧ n ≤ lp)
  | .load .C n => decide (1 ≤ n ∧ n ≤ lc)
  | .persist .P n => decide (1 ≤ n ∧ n ≤ pp)
  | .persist .C n => decide (1 ≤ n ∧ n ≤ pc)
  -- the strategy of the second child store is not an injection point
  | .load .D _ => false
  | .persist .D _ => false

/-- the `tags` value cannot be persisted: somewhere in it (directly in the map, in a list, in a nested
    map or list at any depth) sits a value of a type the bucket encoding has no representation for, or
    a map key that cannot be a bolt key (empty, above the key size) -/
def tagsRejected (tags : List TagEntry) : Bool :=
  tags.any fun e => e.leaf.isUnsupported || e.path.any badKey

/-- a linked id names an entity the linked store does not have -/
def linksRejected (links : List String) : Bool := links.any fun t => !qIds.contains t

/-- the entity's value cannot be persisted (a link target that does not exist included): a role is stored as a list key (type byte + value) and bbolt
    refuses keys above its key size; or the tags value is unpersistable -/
def keyRejected (f : PFields) : Bool :=
  f.roles.any (fun r => r.utf8ByteSize + 1 > maxKeySize) || tagsRejected f.tags || linksRejected f.links

/-- name: non-nullable unique index — a create (from scratch, or of child data over an existing plain
    parent entity) always writes its entry, an update only when the name changes: the name must then be
    non-empty, fit in a key and not be taken by another entity (`old` = stored parent fields, if any) -/
def nameRejected (isCreate : Bool) (db : Db) (id : String) (old : Option PFields) (f : PFields) : Bool :=
  (isCreate || old.map (·.name) != some f.name) &&
    (f.name == "" || f.name.utf8ByteSize > maxKeySize
      || db.any (fun p => p.2.f.name == f.name && !(p.1 == id)))

/-- roles: set index — an empty element would need an index bucket with an empty name -/
def rolesRejected (old : Option PFields) (f : PFields) : Bool :=
  ((old.map (·.roles)).getD [] != normRoles f.roles) && (normRoles f.roles).contains ""

/-- ref: nullable fk index — old and new target must exist -/
def refRejected (isCreate : Bool) (dbAfter : Db) (old : Option PFields) (f : PFields) : Bool :=
  (isCreate || refBytes (old.bind (·.ref)) != refBytes f.ref) &&
    ((refBytes (old.bind (·.ref)) != "" && (dbAfter.get (refBytes (old.bind (·.ref)))).isNone)
      || (refBytes f.ref != "" && (dbAfter.get (refBytes f.ref)).isNone))

/-- storage and index rules for writing fields `f` to entity `id` -/
def writeRejected (isCreate : Bool) (db dbAfter : Db) (id : String) (old : Option PFields) (f : PFields) : Bool :=
  keyRejected f || nameRejected isCreate db id old f || rolesRejected old f || refRejected isCreate dbAfter old f

structure Verdict where
  accepted : Bool
  /-- database after the operation -/
  db : Db
  /-- changes to announce when the transaction commits, in order -/
  flows : List Flow
  /-- false: rejected in the middle of its writes — only a rollback makes sense afterwards -/
  exact : Bool
  deriving Repr

def rejectClean (db : Db) : Verdict := { accepted := false, db := db, flows := [], exact := true }
/-- also: rejected by an index-stage constraint — the transaction must fail; what a caller that goes on
    regardless finds is not specified -/
def rejectDirty (db : Db) : Verdict := { accepted := false, db := db, flows := [], exact := false }

/-- flows are vetoed one after the other; the ones before the first vetoed flow went through -/
def passVetoes (env : Env) : List Flow → List Flow × Bool
  | [] => ([], true)
  | fl :: rest =>
    if vetoed env fl.store fl.kind fl.id then ([], false)
    else let r := passVetoes env rest; (fl :: r.1, r.2)

def finish (env : Env) (fault : Fault) (db' : Db) (flows : List Flow) : Verdict :=
  let pv := passVetoes env flows
  { accepted := pv.2, db := db', flows := pv.1, exact := fault == .none }

def writeFlows (σe : StoreId) (k : Kind) (db db' : Db) (id : String) : List Flow :=
  let init (σ : StoreId) : Option EntView := match k with | .created => none | _ => view σ db id
  let fin (σ : StoreId) : Option EntView := match k with | .deleted => none | _ => view σ db' id
  match σe with
  | .P => [{ store := .P, kind := k, id := id, initial := init .P, final := fin .P, parentEvent := false }]
  | σ => [{ store := .P, kind := k, id := id, initial := init .P, final := fin .P, parentEvent := true },
          { store := σ, kind := k, id := id, initial := init σ, final := fin σ, parentEvent := false }]

/-- what a delete announces: the parent store's flow (marked as parent event iff some child store holds
    the entity), then one flow per child store that holds it, in registration order -/
def deleteFlows (db : Db) (id : String) : List Flow :=
  match view .P db id with
  | none => []
  | some pv =>
    let one (σ : StoreId) : List Flow :=
      match view σ db id with
      | none => []
      | some v => [{ store := σ, kind := .deleted, id := id, initial := some v, final := none, parentEvent := false }]
    let cs := one .C ++ one .D
    { store := .P, kind := .deleted, id := id, initial := some pv, final := none, parentEvent := !cs.isEmpty } :: cs

/-- FillEntity calls of a delete on the parent / on C's strategy: FindById, one init per child store that
    holds the entity (each loads the parent part), the parent's init -/
def delCounts (db : Db) (id : String) : Nat × Nat :=
  (2 + (if hasChild db id then 1 else 0) + (if hasChild2 db id then 1 else 0), if hasChild db id then 1 else 0)

/-- a create of child data over an existing parent entity first asks the parent store's index-stage
    constraints "before update" -/
def createOverVetoed (env : Env) (σ : StoreId) (db : Db) (id : String) : Bool :=
  (createOld σ db id).isSome && ixVetoed env .P .beforeUpdate id

def specCreate (env : Env) (fault : Fault) (σ : StoreId) (id : String) (f : PFields) (rank : String) (db : Db) : Verdict :=
  if id = "" || present σ db id then rejectClean db
  else
    -- the parent fields (roles as a set) and, through the child store, the rank
    let db' := db.put id (writtenEnt σ db id f rank)
    if writeRejected true db db' id (createOld σ db id) f || faultHits fault 1 (ifC σ 1) 1 (ifC σ 1) then rejectDirty db'
    else if createOverVetoed env σ db id || ixVetoedFor env σ .afterUpdate id then rejectDirty db
    else finish env fault db' (writeFlows σ .created db db' id)

/-- an entity with child data is updated through a child store, whichever store was asked: the parent
    store hands the update to the first of its child stores (C, then D) that holds the entity -/
def updateStore (σ : StoreId) (db : Db) (id : String) : StoreId :=
  match σ with
  | .P => if hasChild db id then .C else if hasChild2 db id then .D else .P
  | σ => σ

def specUpdate (env : Env) (fault : Fault) (σ : StoreId) (id : String) (f : PFields) (rank : String) (db : Db) : Verdict :=
  let σe : StoreId := updateStore σ db id
  if id = "" then rejectClean db
  else match view σe db id with
    | none => rejectClean db
    | some _ =>
      let old := (db.get id).map (·.f)
      -- the parent store leaves the rank alone
      let db' := db.put id (writtenEnt σ db id f rank)
      if writeRejected false db db' id old f || faultHits fault 2 (ifC σe 2) 1 (ifC σe 1) then rejectDirty db'
      else if ixVetoedFor env σe .beforeUpdate id || ixVetoedFor env σe .afterUpdate id then rejectDirty db
      else finish env fault db' (writeFlows σe .updated db db' id)

/-- deleting through any store deletes the whole entity -/
def specDelete (env : Env) (fault : Fault) (id : String) (db : Db) : Verdict :=
  match db.get id with
  | none => rejectClean db
  | some _ =>
    if faultHits fault (delCounts db id).1 (delCounts db id).2 0 0 then rejectDirty db
    -- restrict: another entity still refers to this one
    else if db.any (fun p => !(p.1 == id) && refBytes p.2.f.ref == id) then rejectDirty db
    -- a custom constraint of the parent store or of a child store that holds the entity objects
    else if ixVetoedDel env db id then rejectDirty db
    else finish env fault (db.del id) (deleteFlows db id)

/-- the fault as seen by an operation that starts after `lp` / `lc` FillEntity calls were made (a
    call number that is already past becomes 0, which never strikes) -/
def shiftFault (fault : Fault) (lp lc : Nat) : Fault :=
  match fault with
  | .load .P n => .load .P (if n > lp then n - lp else 0)
  | .load .C n => .load .C (if n > lc then n - lc else 0)
  | f => f

/-- DeleteWhere: the matching entities are deleted in id order; the first rejection stops it -/
def specDeleteMany (env : Env) : Fault → List String → Db → List Flow → Verdict
  | _, [], db, acc => { accepted := true, db := db, flows := acc, exact := true }
  | fault, id :: rest, db, acc =>
    let v := specDelete env fault id db
    if v.accepted then
      specDeleteMany env (shiftFault fault (delCounts db id).1 (delCounts db id).2) rest v.db (acc ++ v.flows)
    else { v with flows := acc ++ v.flows }

def specOp (env : Env) (fault : Fault) (o : Op) (db : Db) : Verdict :=
  match o with
  | .create σ id f rank => specCreate env fault σ id f rank db
  | .update σ id f rank => specUpdate env fault σ id f rank db
  | .delete _ id => specDelete env fault id db
  | .deleteWhere σ q =>
    match q with
    | .bad => rejectClean db
    | _ => specDeleteMany env fault (matching σ q db) db []

structure Body where
  accepted : Bool
  db : Db
  flows : List Flow
  ctx : Ctx
  /-- false once the body went on after a rejection in the middle of a write -/
  specified : Bool
  deriving Repr

def specSteps (env : Env) : List Step → Body → Body
  | [], b => b
  | .op o fault swallow :: rest, b =>
    let v := specOp env fault o b.db
    if v.accepted then specSteps env rest { b with db := v.db, flows := b.flows ++ v.flows }
    else if swallow then
      specSteps env rest { b with db := v.db, flows := b.flows ++ v.flows, specified := b.specified && v.exact }
    else { b with accepted := false }
  | .fail _ :: _, b => { b with accepted := false }
  | .fail1 _ :: _, b => { b with accepted := false }
  -- a link operation of the caller: rejected when the entity does not exist or a target to be linked does
  -- not; otherwise the entity's link set changes (no event: the entity stores are not involved)
  | .link op id ts :: rest, b =>
    match (linkStep op id ts b.db).1 with
    | some _ => { b with accepted := false }
    | none => specSteps env rest { b with db := (linkStep op id ts b.db).2 }
  | .addCommit tag :: rest, b => specSteps env rest { b with ctx := { b.ctx with commitActions := b.ctx.commitActions ++ [tag] } }
  | .addPre tag fails :: rest, b => specSteps env rest { b with ctx := { b.ctx with preActions := b.ctx.preActions ++ [(tag, fails)] } }
  | .nestedBegin :: rest, b => specSteps env rest b
  | .nestedEnd :: rest, b => specSteps env rest b
  | .useSystemCtx :: rest, b => specSteps env rest b

/-- listener-major: every registered (listener, change type) is handed exactly the flows of that
    kind on its store -/
def deliveriesOf (σ : StoreId) (flows : List Flow) (reg : Nat) : List (Nat × EvType) → List Fired
  | [] => []
  | (slot, t) :: rest =>
    ((flows.filter fun fl => fl.store = σ ∧ fl.kind = t.kind).map fun fl =>
      Fired.listener σ reg slot t.async fl.kind (match fl.kind with | .deleted => fl.initial | _ => fl.final))
    ++ deliveriesOf σ flows reg rest

def announceTo (σ : StoreId) (flows : List Flow) : List (Nat × Reg) → List Fired
  | [] => []
  | (i, .listener _ types) :: rest => deliveriesOf σ flows i (indexed types) ++ announceTo σ flows rest
  | (i, .constraint _ _) :: rest =>
    ((flows.filter fun fl => fl.store = σ).map fun fl => Fired.post σ i fl) ++ announceTo σ flows rest

structure SpecOut where
  ok : Bool
  db : Db
  /-- as a multiset: the spec does not order deliveries of different listeners -/
  fired : List Fired
  ctx : Ctx
  specified : Bool
  deriving Repr

/-- `txComplete`: do the tx-complete listeners run?  The property says: once per committed
    transaction, for Db.Update and Db.Batch alike (`specTx` passes `true` in both modes; see
    `commit_actions_once` in Properties/C08.lean) -/
def specTxWith (env : Env) (txComplete : Bool) (db : Db) (ctx : Ctx) (body : List Step) : SpecOut :=
  let b := specSteps env body { accepted := true, db := db, flows := [], ctx := ctx, specified := true }
  let preOk := b.ctx.preActions.all fun p => !p.2
  if b.accepted && preOk then
    { ok := true, db := b.db,
      fired := [Fired.commitActions b.ctx.commitActions]
        ++ announceTo .P b.flows (indexed env.regsP) ++ announceTo .C b.flows (indexed env.regsC)
        ++ announceTo .D b.flows (indexed env.regsD)
        ++ (if txComplete then (List.range env.txListeners).map Fired.txComplete else []),
      ctx := b.ctx, specified := b.specified }
  -- once the body went on after a rejection the spec says nothing about (see `Verdict.exact`), whether
  -- a later step is rejected is judged on a database the spec does not know: not specified either
  else { ok := false, db := db, fired := [], ctx := b.ctx, specified := b.specified }

/-- a transaction worked on through a context from NewTxMutateContext: succeeds iff no step of its
    body is rejected; then the commit actions registered on that context run once, every accepted
    change is announced once and the tx-complete listeners run once; pre-commit actions registered on such
    a context are nobody's business (never run, cannot fail the transaction — the code's behaviour); on
    failure nothing changes and nothing runs -/
def specRawTx (env : Env) (db : Db) (body : List Step) : SpecOut :=
  let b := specSteps env body { accepted := true, db := db, flows := [], ctx := Ctx.empty, specified := true }
  if b.accepted then
    { ok := true, db := b.db,
      fired := [Fired.commitActions b.ctx.commitActions]
        ++ announceTo .P b.flows (indexed env.regsP) ++ announceTo .C b.flows (indexed env.regsC)
        ++ announceTo .D b.flows (indexed env.regsD)
        ++ (List.range env.txListeners).map Fired.txComplete,
      ctx := b.ctx, specified := b.specified }
  else { ok := false, db := db, fired := [], ctx := b.ctx, specified := b.specified }

/-- The context outlives the transaction; a Batch whose body fails registers everything a second
    time (the body is re-run), which matters only if the context is used again. -/
def specTx (env : Env) (db : Db) (prevCtx : Ctx) (tx : TxSpec) : SpecOut :=
  let ctx := if tx.reuseCtx then prevCtx else Ctx.empty
  match tx.mode with
  | .update => specTxWith env true db ctx tx.body
  | .batch =>
    -- the function is executed again: what fails only the first time (Step.fail1, Env.once) is spent, and
    -- a second execution that is accepted commits and announces everything exactly once
    let a := specTxWith env true db ctx tx.body
    if a.ok then a else specTxWith env.later true db a.ctx (laterBody tx.body)
  | .raw => specRawTx env db tx.body

def specCase (env : Env) : List TxSpec → Db → Ctx → List SpecOut
  | [], _, _ => []
  | tx :: rest, db, ctx =>
    let o := specTx env db ctx tx
    o :: specCase env rest o.db o.ctx

end StorageModel.Tx.Spec
