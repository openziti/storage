import StorageModel.Universe.Schema
/-
  Universe stream — the ORACLE: given a schema and a whole-database dump it decides the state predicates
  that the store-level properties establish, by theorem, for every reachable state of THEIR models:

  | predicate (this file)        | established for the property's model by                                   | class |
  |------------------------------|----------------------------------------------------------------------------|-------|
  | `uniqueExact` / `notNull`    | C03 `unique_index_exact`, `nullable_unique_index_exact`, `empty_rejected`  | C03   |
  | `setExact`                   | C03 `set_index_exact`                                                      | C03   |
  | `noEmptyKeys`                | C03 `no_empty_keys` (no empty value bucket, no plain key in a set index)   | C03   |
  | `fkExact`                    | C04 `fk_inv_reachable` (`FullInv`: back-references = referrers, targets    | C04   |
  |                              | exist, no nil in a non-nullable reference), `fk_target_exists`             |       |
  | `linksSymmetric`             | C05 `schema_links_symmetric`, `schema_links_point_to_existing`             | C05   |
  | `rcAgree`                    | C05 `schema_rc_agree` (same count on both sides, 0 < count), `schema_coherent` | C05 |
  | `noTrace` / `explained`      | C06 `tx_removed_no_trace`, `absent_no_trace` (no line of the dump mentions | C06   |
  |                              | an absent id), `no_fk_names_absent`                                        |       |
  | `parentCovers` (attribution) | C15 `invariant_for_every_path`, `parent_constraints_apply_to_child_entities`, | C15 |
  |                              | `parent_and_child_parts_disjoint`, C03 `child_data_inside_entity`          |       |
  | `noSystem`                   | C16 `ordinary_history_preserves_system`: a history of ordinary contexts    | C16   |
  |                              | leaves no system entity (every context of the stream is ordinary)          |       |
  | `inconsistencies = []`       | C09 `check_sound` / `check_clean_iff` / `layered_check_sound`: on such a    | C09   |
  |                              | state `CheckIntegrity(fix=false)` reports nothing (`check_readonly`: and   |       |
  |                              | writes nothing) — compared with the REAL checker's answer by checks/universe.py |   |

  The index / back-reference / link predicates are not re-invented: the dump is read into the generic
  state of the integrity model (`C09.St`), the schema into a `C09.Schema`, and the predicates are the
  members of `C09.inconsistencies` — the symmetric difference between every unique index / set index /
  back-reference set / link set and the image of the entity table (C09/Spec.lean).  A child store is one
  more store name whose table is the entities that have its data bucket (`C09.PSt.view`, Layered.lean).
  Added here: ref-counted collections (the integrity checker does not visit them), "nothing in the dump is
  unexplained", the byte-level scan for absent ids, and the attribution of a discrepancy to the properties.
-/
namespace StorageModel.Universe
open StorageModel StorageModel.C09

/-! ### reading the dump as a state of the integrity model -/

/-- the ids of a store: sub-buckets of the family's entities bucket (a child store: those that contain its
    data path) -/
def storeIds (S : USchema) (d : Dump) (st : UStore) : List Id :=
  let ep := S.entitiesPath st
  (d.subBuckets ep).filter fun id => st.parent.isNone || d.hasBucket (ep ++ [id] ++ bsl st.path)

/-- names and bucket locations (inside the store's area) of the list-like symbols of a store: string-list
    fields, fk back-reference sets, ends of PLAIN link collections -/
def listSyms (S : USchema) (st : UStore) : List (Name × List Name) :=
  ((S.fields.filter fun f => f.store == st.name && f.isList).map fun f => (f.sym, f.pre ++ [f.key]))
  ++ ((S.backs.filter fun b => b.store == st.name).map fun b => (b.sym, [b.sym]))
  ++ (S.links.filter fun l => !l.rc).flatMap fun l =>
      (if l.a.store == st.name then [(l.a.sym, l.a.pre ++ [l.a.key])] else [])
      ++ (if l.b.store == st.name && !l.selfSame then [(l.b.sym, l.b.pre ++ [l.b.key])] else [])

def readEnt (S : USchema) (d : Dump) (st : UStore) (id : Id) : Id × Ent :=
  let dir := S.entitiesPath st ++ [id] ++ bsl st.area
  let fields := (S.fields.filter fun f => f.store == st.name && !f.isList).map fun f =>
    (f.sym, fvalOf (d.get (dir ++ bsl f.pre) (bs f.key)))
  let sets := (listSyms S st).map fun (n, loc) => (n, (d.kvs (dir ++ bsl loc)).map fun kv => untype kv.1)
  (id, mkEnt fields sets)

def uniqueIdxs (S : USchema) : List (Name × Name) :=
  S.cons.filterMap fun c => match c with
    | .ux st f _ => some (st, f)
    | _ => none

def setIdxs (S : USchema) : List (Name × Name) :=
  S.cons.filterMap fun c => match c with
    | .sx st f => some (st, f)
    | _ => none

def readSetx (d : Dump) (p : Path) : List (Bytes × SVal) :=
  ((d.subBuckets p).map fun k => (k, SVal.ids ((d.kvs (p ++ [k])).map fun kv => untype kv.1)))
  ++ (d.kvs p).map fun kv => (kv.1, SVal.junk)

/-- **the state of the integrity model that the dump denotes** -/
def readSt (S : USchema) (d : Dump) : St :=
  let ents := S.stores.map fun st => (st.name, (storeIds S d st).map (readEnt S d st))
  let uniq := (uniqueIdxs S).filterMap fun (st, f) =>
    (S.store? st).map fun s => ((st, f), d.kvs (S.indexPath s f))
  let setx := (setIdxs S).filterMap fun (st, f) =>
    (S.store? st).map fun s => ((st, f), readSetx d (S.indexPath s f))
  mkSt ents uniq setx

/-- **the schema as the integrity model's schema** (`BaseStore.CheckIntegrity`: link collections, then the
    constraints in registration order) -/
def toC09 (S : USchema) : C09.Schema :=
  S.stores.map fun st =>
    { name := st.name
      links := (S.links.filter fun l => !l.rc).flatMap fun l =>
        (if l.a.store == st.name then [⟨l.a.store, l.a.sym, l.b.store, l.b.sym⟩] else [])
        ++ (if l.b.store == st.name && !l.selfSame then [⟨l.b.store, l.b.sym, l.a.store, l.a.sym⟩] else [])
      constraints := S.cons.filterMap fun c => match c with
        | .ux s f n => if s == st.name then some (.unique s f n) else none
        | .sx s f => if s == st.name then some (.setIdx s f) else none
        | .fi s f n _ tgt back => if s == st.name then some (.fkIndex s f n tgt back) else none
        | .fc s f n _ tgt => if s == st.name then some (.fkCons s f n tgt) else none }

/-! ### failures and their attribution -/

structure Fail where
  cls : List String
  pred : String
  detail : String
  deriving Repr

def hx (b : Bytes) : String := Bytes.toWire b

def isChild (S : USchema) (st : Name) : Bool :=
  match S.store? st with
  | some s => s.parent.isSome
  | none => false

/-- does the root entity `id` of `st`'s family carry data of some child store -/
def hasChildData (S : USchema) (s : St) (st : Name) (id : Id) : Bool :=
  match S.store? st with
  | some u => (S.childrenOf (S.rootOf u)).any fun c => s.present c.name id
  | none => false

/-- C15 takes part when the discrepancy is about a child store's own constraint, or about a parent-store
    constraint on an entity that has child data ("parent indexes cover child entities") -/
def c15 (S : USchema) (s : St) (st : Name) (id : Id) : List String :=
  if isChild S st || hasChildData S s st id then ["C15"] else []

/-- an emptied value bucket names no entity; in a family with child stores the double delete pass of an entity
    with child data is one way to leave it behind (C15 `delete_fans_out_to_every_child_store`), so C15 takes part -/
def famHasChildren (S : USchema) (st : Name) : Bool :=
  match S.store? st with
  | some u => !(S.childrenOf (S.rootOf u)).isEmpty
  | none => false

/-- C06 takes part when the discrepancy mentions an id that is no entity ("a trace") -/
def c06 (s : St) (st : Name) (id : Id) : List String := if s.present st id then [] else ["C06"]

def consKind (S : USchema) (st f : Name) : String :=
  match S.cons.find? (fun c => match c with
    | .ux s g _ => s == st && g == f
    | .sx s g => s == st && g == f
    | .fi s g _ _ _ _ => s == st && g == f
    | .fc s g _ _ _ => s == st && g == f) with
  | some (.ux ..) => "C03"
  | some (.sx ..) => "C03"
  | _ => "C04"

/-- one member of `C09.inconsistencies` as a failed predicate of the owning properties:

    * `uqExtra` / `uqMissing` — **uniqueExact**: C03 `unique_index_exact`, `nullable_unique_index_exact` (index entry
      `v ↦ id` iff `v ≠ ""` and entity `id` holds `v`); two holders of one value show as a missing entry (`uniq_injective`);
    * `sxExtra` / `sxMissing` — **setExact**: C03 `set_index_exact`;
    * `sxEmptyKey` / `sxJunkKey` — **noEmptyKeys**: C03 `no_empty_keys`;
    * `fkBackExtra` / `fkBackMissing` / `fkDangling` — **fkExact**: C04 `fk_inv_reachable` (`FullInv`), `fk_target_exists`,
      `delete_clears_all_backrefs`, `restrict_never_orphans`, `cascade_exact`;
    * `null` — **notNull**: C03 `empty_rejected` (unique index) / C04 `null_rejected_when_not_nullable` (fk);
    * `lkDangling` / `lkOneSided` — **linksSymmetric**: C05 `schema_links_symmetric`, `schema_self_links_symmetric`,
      `schema_links_point_to_existing`, `schema_delete_unlinks`;
    * every one of them, on a child store's constraint or about an entity with child data — **parentCovers**: C15
      `parent_constraints_apply_to_child_entities`, `invariant_for_every_path`;
    * every one of them that names an id that is no entity — also a trace: C06 `tx_removed_no_trace`. -/
def discFail (S : USchema) (s : St) : Disc → Fail
  | .uqExtra st f k id => ⟨["C03"] ++ c15 S s st id ++ c06 s st id, "uniqueExact", s!"stale {st}.{f} {hx k}->{hx id}"⟩
  | .uqMissing st f v id => ⟨["C03"] ++ c15 S s st id, "uniqueExact", s!"missing {st}.{f} {hx v}->{hx id}"⟩
  | .sxExtra st f k id => ⟨["C03"] ++ c15 S s st id ++ c06 s st id, "setExact", s!"stale {st}.{f} {hx k}:{hx id}"⟩
  | .sxMissing st f v id => ⟨["C03"] ++ c15 S s st id, "setExact", s!"missing {st}.{f} {hx v}:{hx id}"⟩
  | .sxEmptyKey st f k => ⟨["C03"] ++ (if famHasChildren S st then ["C15"] else []), "noEmptyKeys", s!"empty value bucket {st}.{f} {hx k}"⟩
  | .sxJunkKey st f k => ⟨["C03"], "noEmptyKeys", s!"plain key in set index {st}.{f} {hx k}"⟩
  | .fkBackExtra st f t src => ⟨["C04"] ++ c15 S s st src ++ c06 s st src, "fkExact", s!"stale back-reference {st}.{f} {hx t}<-{hx src}"⟩
  | .fkBackMissing st f src t => ⟨["C04"] ++ c15 S s st src, "fkExact", s!"missing back-reference {st}.{f} {hx src}->{hx t}"⟩
  | .fkDangling st f src t => ⟨["C04", "C06"] ++ c15 S s st src, "fkExact", s!"dangling {st}.{f} {hx src}->{hx t}"⟩
  | .null st f id => ⟨[consKind S st f] ++ c15 S s st id, "notNull", s!"nil or empty in non-nullable {st}.{f} of {hx id}"⟩
  | .lkDangling st f id l => ⟨["C05", "C06"] ++ c15 S s st id, "linksSymmetric", s!"dangling link {st}.{f} {hx id}->{hx l}"⟩
  | .lkOneSided st f id l => ⟨["C05"] ++ c15 S s st id, "linksSymmetric", s!"one-sided link {st}.{f} {hx id}->{hx l}"⟩
  | .lkNoInverse st f => ⟨["C05"], "linksSymmetric", s!"no inverse collection for {st}.{f}"⟩

/-! ### ref-counted collections — **rcAgree**: C05 `schema_rc_agree` (`rcOf … (.A, a) b = rcOf … (.B, b) a`, `0 < c`),
    `schema_coherent` (counts only inside existing entities), `schema_delete_unlinks_rc` -/

/-- little-endian int32 behind the type byte 2 (`Int32ToBytes`) -/
def int32Of (v : Bytes) : Option Int :=
  match v with
  | [2, a, b, c, e] =>
    let n : Nat := a.toNat + 256 * b.toNat + 65536 * c.toNat + 16777216 * e.toNat
    some (if n < 2147483648 then (n : Int) else (n : Int) - 4294967296)
  | _ => none

def rcMap (S : USchema) (d : Dump) (e : UEnd) (id : Id) : List (Id × Option Int) :=
  match S.store? e.store with
  | some st =>
    (d.kvs (S.entitiesPath st ++ [id] ++ bsl (st.area ++ e.pre ++ [e.key]))).map fun kv => (untype kv.1, int32Of kv.2)
  | none => []

def rcSide (S : USchema) (d : Dump) (s : St) (l : ULink) (me other : UEnd) : List Fail :=
  (s.ids me.store).flatMap fun id =>
    (rcMap S d me id).filterMap fun (k, n) =>
      let cls := ["C05"] ++ c15 S s me.store id
      match n with
      | none => some ⟨cls, "rcAgree", s!"{l.name} {me.store}.{me.sym} {hx id}->{hx k}: not a count"⟩
      | some c =>
        if c ≤ 0 then some ⟨cls, "rcAgree", s!"{l.name} {me.store}.{me.sym} {hx id}->{hx k}: count {c} not positive"⟩
        else if !s.present other.store k then
          some ⟨cls ++ ["C06"], "rcAgree", s!"{l.name} {me.store}.{me.sym} {hx id}->{hx k}: counted entity does not exist"⟩
        else match (rcMap S d other k).lookup id with
          | some (some c') =>
            if c' = c then none
            else some ⟨cls, "rcAgree", s!"{l.name} {me.store}.{me.sym} {hx id}->{hx k}: {c} here, {c'} on the other side"⟩
          | _ => some ⟨cls, "rcAgree", s!"{l.name} {me.store}.{me.sym} {hx id}->{hx k}: {c} here, nothing on the other side"⟩

def rcFails (S : USchema) (d : Dump) (s : St) : List Fail :=
  (S.links.filter (·.rc)).flatMap fun l => rcSide S d s l l.a l.b ++ rcSide S d s l l.b l.a

/-! ### **explained**: nothing unexplained — the dump is what `Render` of the entity tables would print, empty buckets
    aside (C06 `absent_no_trace` speaks about every line of `Render`; C15 `parent_and_child_parts_disjoint`,
    `layering_shape_irrelevant`: shared fields in the entity bucket, child fields in the child's data bucket, nothing in
    the intermediate buckets of a multi-segment data path; C03 `index_paths_distinct`, `index_paths_off_entities`) -/

def isPrefix : Path → Path → Bool
  | [], _ => true
  | _ :: _, [] => false
  | a :: as, b :: bs => a == b && isPrefix as bs

/-- bucket locations inside a ROOT entity bucket of the family that hold list entries (any key) -/
def famListLocs (S : USchema) (root : UStore) : List Path :=
  (S.family root).flatMap fun st =>
    ((listSyms S st).map fun (_, loc) => bsl (st.area ++ loc))
    ++ (S.links.filter (·.rc)).flatMap fun l =>
        (if l.a.store == st.name then [bsl (st.area ++ l.a.pre ++ [l.a.key])] else [])
        ++ (if l.b.store == st.name then [bsl (st.area ++ l.b.pre ++ [l.b.key])] else [])

/-- (bucket, key) locations of the scalar fields -/
def famScalarLocs (S : USchema) (root : UStore) : List (Path × Bytes) :=
  (if S.sys.contains root.name then [([], bs "isSystem")] else [])
  ++ (S.family root).flatMap fun st =>
    (S.fields.filter fun f => f.store == st.name && !f.isList).map fun f => (bsl (st.area ++ f.pre), bs f.key)

/-- every bucket path that may exist inside a root entity bucket -/
def famDirs (S : USchema) (root : UStore) : List Path :=
  famListLocs S root ++ (famScalarLocs S root).map (·.1) ++ (S.childrenOf root).map fun c => bsl c.path

def underChildPath (S : USchema) (root : UStore) (rel : Path) : Bool :=
  (S.childrenOf root).any fun c => match (bsl c.path).head?, rel.head? with
    | some a, some b => a == b
    | _, _ => false

def famIndexPaths (S : USchema) (root : UStore) : List (Path × Bool) :=
  (S.family root).flatMap fun st =>
    S.cons.filterMap fun c => match c with
      | .ux s f _ => if s == st.name then some (S.indexPath st f, false) else none
      | .sx s f => if s == st.name then some (S.indexPath st f, true) else none
      | _ => none

/-- why an entry is unexplained (`none`: it is explained by the schema) -/
def unexplained (S : USchema) (e : Entry) : Option Fail :=
  let roots := S.roots
  let within := fun (r : UStore) (p : Path) => isPrefix (S.entitiesPath r) p && p.length > (S.entitiesPath r).length
  match e with
  | .bucket p =>
    if roots.any (fun r => isPrefix p (S.entitiesPath r) || (famIndexPaths S r).any fun ip => isPrefix p ip.1) then none
    else match roots.find? (fun r => within r p) with
      | some r =>
        let rel := p.drop ((S.entitiesPath r).length + 1)
        if rel.isEmpty || (famDirs S r).any (fun q => isPrefix rel q) then none
        else some ⟨if underChildPath S r rel then ["C15", "C06"] else ["C06"], "explained",
          s!"bucket {".".intercalate (p.map hx)} inside an entity of {r.name} is not of the schema"⟩
      | none =>
        if roots.any (fun r => (famIndexPaths S r).any fun ip => ip.2 && p.dropLast == ip.1) then none
        else some ⟨["C03"], "explained", s!"bucket {".".intercalate (p.map hx)} is not of the schema"⟩
  | .kv dir k _ =>
    match roots.find? (fun r => within r dir) with
    | some r =>
      let rel := dir.drop ((S.entitiesPath r).length + 1)
      if (famListLocs S r).contains rel || (famScalarLocs S r).contains (rel, k) then none
      else some ⟨if underChildPath S r rel then ["C15", "C06"] else ["C06"], "explained",
        s!"key {hx k} in {".".intercalate (dir.map hx)} inside an entity of {r.name} is not of the schema"⟩
    | none =>
      if roots.any (fun r => (famIndexPaths S r).any fun ip =>
          (!ip.2 && dir == ip.1) || (ip.2 && (dir == ip.1 || dir.dropLast == ip.1))) then none
      else some ⟨["C03"], "explained", s!"key {hx k} in {".".intercalate (dir.map hx)} is not of the schema"⟩

/-! ### **noTrace**: no path element, key or value — plain or behind a type byte — is an absent id (C06
    `tx_removed_no_trace`, `absent_no_trace`, `delete_no_trace`, `boss_cascade_no_trace`; `Mentions` of C06/NoTrace.lean
    is this comparison; `NoClash` holds by construction: pool ids differ from every name, value and path segment) -/

def mentions (id : Bytes) : Entry → Bool
  | .bucket p => p.any fun x => x == id || untype x == id
  | .kv dir k v => dir.any (fun x => x == id || untype x == id) || k == id || untype k == id || v == id || untype v == id

/-- the ids of the pools that are entities of no family whose pool lists them -/
def absentIds (S : USchema) (s : St) : List Bytes :=
  let all := (S.ids.flatMap (·.2)).eraseDups
  all.filter fun id => S.ids.all fun (root, pool) => !pool.contains id || !s.present root id

def traceFails (S : USchema) (d : Dump) (s : St) : List Fail :=
  (absentIds S s).filterMap fun id =>
    (d.find? (mentions id)).map fun e =>
      ⟨["C06"], "noTrace", s!"absent id {hx id} is mentioned: " ++ (match e with
        | .bucket p => "bucket " ++ ".".intercalate (p.map hx)
        | .kv dir k v => ".".intercalate (dir.map hx) ++ " " ++ hx k ++ "=" ++ hx v)⟩

/-! ### no system entity (C16): every context of the stream is an ordinary one -/

def systemFails (S : USchema) (d : Dump) (s : St) : List Fail :=
  S.sys.flatMap fun r =>
    match S.store? r with
    | some st => (s.ids r).filterMap fun id =>
        -- `SetBool`: type byte 1, value byte 1
        if d.get (S.entitiesPath st ++ [id]) (bs "isSystem") == some [1, 1] then
          some ⟨["C16"] ++ c15 S s r id, "noSystem", s!"{r} {hx id} is a system entity"⟩
        else none
    | none => []

/-! ### the verdict -/

structure Verdict where
  /-- members of `C09.inconsistencies` — what the integrity checker has to report, by `check_complete`, and
      the only thing it may report, by `check_sound_reports` -/
  inc : Nat
  fails : List Fail

def judge (S : USchema) (d : Dump) : Verdict :=
  let s := readSt S d
  let discs := inconsistencies (toC09 S) s
  { inc := discs.length
    fails := discs.map (discFail S s) ++ rcFails S d s ++ d.filterMap (unexplained S) ++ traceFails S d s
      ++ systemFails S d s }

def renderVerdict (v : Verdict) : String :=
  if v.fails.isEmpty then s!"ok inc={v.inc}"
  else s!"FAIL inc={v.inc} | " ++ " | ".intercalate ((v.fails.take 12).map fun f =>
    ",".intercalate f.cls.eraseDups ++ " " ++ f.pred ++ " " ++ f.detail)

end StorageModel.Universe
