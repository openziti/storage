import StorageModel.Query.PagingProofs
import StorageModel.Query.Objectz
/-
  The scanner lemmas of Query/PagingProofs.lean at store level.  Each strategy `NewScanner` can pick is exact over a
  bucket in key order: the index scanner (and the paged cursor of `IterateIds`, the same walk) because the bucket cursor,
  in either direction, already walks the rows in the comparator's order (`index_cursor_eq_sort`).  The entry points see
  a query's paging through `targetOf` alone (`queryIdsCP_target`, `iterate_target`): what the history theorems need,
  since every execution rewrites the paging fields.  An objectz cursor gives a filter the same typed reads as the bolt
  row cursor (`typedView`, `TypedLocal`, `obj_eval_eq_bolt`), typed nil pointers inside the interface included.
-/
namespace StorageModel.Query
open StorageModel

/-- bbolt keeps the entities bucket in ascending key order -/
def BucketOrdered (rows : List Row) : Prop := rows.Pairwise (fun a b => cmpBytes a.id b.id = .lt)

theorem BucketOrdered.distinct {rows : List Row} (h : BucketOrdered rows) : DistinctIds rows := by
  refine List.Pairwise.imp ?_ h
  intro a b hab heq
  rw [heq, cmpBytes_refl] at hab
  cases hab

theorem index_strategy_cmp {schema : Schema} {sort : List SortField} {c : Cmp Row} {fwd : Bool}
    (hid : HasIdSymbol schema) (hs : newScanner sort = .index fwd) (hc : newRowComparator schema sort = .ok c)
    {a b : Row} (hab : cmpBytes a.id b.id ≠ .eq) : c a b = dir fwd (cmpBytes a.id b.id) := by
  have hne : symCmp .string "id" fwd a b ≠ .eq := by rw [symCmp_id, Ne, dir_eq_eq]; exact hab
  rw [newRowComparator_closed hid hc]
  rcases newScanner_index hs with ⟨rfl, rfl⟩ | ⟨rest, rfl⟩
  · rw [List.map_nil, List.nil_append, chain_cons_ne hne, symCmp_id]
  · rw [List.map_cons, List.cons_append, hid.tyOf, chain_cons_ne hne, symCmp_id]

theorem bucketCursor_perm (rows : List Row) (fwd : Bool) : (bucketCursor rows fwd).Perm rows := by
  cases fwd <;> simp [bucketCursor, List.reverse_perm]

theorem index_cursor_eq_sort {schema : Schema} {fs : List SortField} {c : Cmp Row} {fwd : Bool}
    (hid : HasIdSymbol schema) (hs : newScanner fs = .index fwd) (hc : newRowComparator schema fs = .ok c)
    {rows : List Row} (hord : BucketOrdered rows) (env : ScanEnv Row) :
    matching env (bucketCursor rows fwd) = sort c (matching env rows) := by
  have hm : BucketOrdered (matching env rows) := List.Pairwise.sublist List.filter_sublist hord
  refine sort_unique (newRowComparator_strict hid hc hord.distinct) (fun a ha => (List.mem_filter.1 ha).1)
    (matching_perm env (bucketCursor_perm rows fwd)) ?_
  cases fwd with
  | true =>
    refine List.Pairwise.imp (fun {a b} hab => ?_) hm
    rw [index_strategy_cmp hid hs hc (by rw [hab]; decide), hab]; rfl
  | false =>
    simp only [bucketCursor, Bool.false_eq_true, if_false, matching_reverse]
    refine List.pairwise_reverse.2 (List.Pairwise.imp (fun {a b} hab => ?_) hm)
    have hba : cmpBytes b.id a.id = .gt := by rw [cmpBytes_swap, hab]; rfl
    rw [index_strategy_cmp hid hs hc (by rw [hba]; decide), hba]; rfl

theorem matching_env (st : BoltStore) (f : Filter) (rows : List Row) :
    matching (st.env f) rows = rows.filter fun r => !st.childSkip r && sat r f := by
  simp only [matching, BoltStore.env, bolt_eval_sat]
  congr 1

theorem sortScan_rows_exact {schema : Schema} {sort : List SortField} {c : Cmp Row} (hid : HasIdSymbol schema)
    (hc : newRowComparator schema sort = .ok c) {rows : List Row} (hd : DistinctIds rows) (env : ScanEnv Row)
    (paging : Paging) (hq : paging.InRange) (hlen : (rows.length : Int) ≤ maxI64) :
    sortScan expectedPaging c env paging (some rows) =
      (page c paging.skip paging.limit (matching env rows), total (matching env rows)) :=
  sortScan_spec (newRowComparator_strict hid hc hd) env paging rows hq (fun _ ha => ha) hd.nodup
    (matching_length_le env hlen)

theorem idxScan_bucket_exact {schema : Schema} {fs : List SortField} {c : Cmp Row} {fwd : Bool}
    (hid : HasIdSymbol schema) (hs : newScanner fs = .index fwd) (hc : newRowComparator schema fs = .ok c)
    {rows : List Row} (hord : BucketOrdered rows) (env : ScanEnv Row)
    (paging : Paging) (hq : paging.InRange) (hlen : (rows.length : Int) ≤ maxI64) :
    idxScan expectedPaging env paging (some (bucketCursor rows fwd)) =
      (page c paging.skip paging.limit (matching env rows), total (matching env rows)) := by
  have hmlen := matching_length_le env hlen
  have heq := index_cursor_eq_sort hid hs hc hord env
  rw [idxScan_spec _ _ _ hq (by rw [heq, length_sort]; exact hmlen), page_eq_target c paging _ hmlen, heq]
  simp only [total, length_sort]

/-- the cursor API over a bucket in key order: a filtered cursor cannot sort, it pages in id order -/
theorem iterate_bucket_exact {schema : Schema} {c : Cmp Row} (hid : HasIdSymbol schema)
    (hc : newRowComparator schema [] = .ok c) {rows : List Row} (hord : BucketOrdered rows) (env : ScanEnv Row)
    (paging : Paging) (hq : paging.InRange) (hlen : (rows.length : Int) ≤ maxI64) :
    iterate expectedPaging env (some paging) rows = page c paging.skip paging.limit (matching env rows) := by
  rw [iterate_spec _ _ _ hq, page_eq_target c _ _ (matching_length_le _ hlen),
    ← index_cursor_eq_sort hid newScanner_nil hc hord]
  rfl

/-- `sub` stands for any cursor provider that yields a sub-sequence of the bucket in key order (reversed when opened in
    reverse) -/
theorem scanCursorP_exact (st : BoltStore) (ev : Symbols → Bool) {sort : List SortField} {c : Cmp Row} {sub : List Row}
    (paging : Paging) (hord : BucketOrdered sub) (hid : HasIdSymbol st.schema)
    (hc : newRowComparator st.schema sort = .ok c) (hq : paging.InRange) (hlen : (sub.length : Int) ≤ maxI64) :
    scanCursorP expectedPaging st ev sort paging (fun fwd => some (bucketCursor sub fwd)) =
      .ok (page c paging.skip paging.limit (matching (st.envP ev) sub), total (matching (st.envP ev) sub)) := by
  unfold scanCursorP
  cases hs : newScanner sort with
  | index fwd => exact congrArg _ (idxScan_bucket_exact hid hs hc hord _ _ hq hlen)
  | sorting => simp only [hc]; exact congrArg _ (sortScan_rows_exact hid hc hord.distinct _ _ hq hlen)

theorem queryIdsCP_target (st : BoltStore) (ev : Symbols → Bool) (sort : List SortField) {p p' : Paging}
    (ht : targetOf p = targetOf p') :
    queryIdsCP expectedPaging st ev sort p = queryIdsCP expectedPaging st ev sort p' := by
  simp only [queryIdsCP, scanCursorP, idxScan, sortScan, setPaging_target, ht]

theorem iterate_target {ρ : Type} (env : ScanEnv ρ) {p p' : Paging} (ht : targetOf p = targetOf p') (cur : List ρ) :
    iterate expectedPaging env (some p) cur = iterate expectedPaging env (some p') cur := by
  simp only [iterate, openPaged, setPaging_target, ht]

/-- the value `r` holds under `name` has the symbol's declared type (an int32 also under an int64 symbol) or is nil:
    then the typed pointer the objectz symbol returns is nil exactly when the bolt field is TypeNil, and the typed
    reads agree -/
def WellTypedAt (symbols : List (String × SymType)) (r : Row) (name : String) : Prop :=
  match symbols.lookup name, evalSym name r with
  | some .bool, .bool _ | some .bool, .nil => True
  | some .string, .string _ | some .string, .nil => True
  | some .int64, .int64 _ | some .int64, .int32 _ | some .int64, .nil => True
  | some .float64, .float64 _ _ | some .float64, .nil => True
  | some .datetime, .time _ | some .datetime, .nil => True
  | _, _ => False

/-- every atom of the filter compares a symbol with a constant of the symbol's declared type (or
    tests a symbol of a scalar type for null) -/
def FilterTyped (symbols : List (String × SymType)) : Filter → Prop
  | .tt => True
  | .cmpBool n _ _ => symbols.lookup n = some .bool
  | .cmpInt n _ _ => symbols.lookup n = some .int64
  | .cmpFloat n _ _ => symbols.lookup n = some .float64
  | .cmpStr n _ _ => symbols.lookup n = some .string
  | .cmpTime n _ _ => symbols.lookup n = some .datetime
  | .isNull n | .notNull n => ∃ t, symbols.lookup n = some t ∧ t ≠ .other
  | .and a b | .or a b => FilterTyped symbols a ∧ FilterTyped symbols b
  | .not a => FilterTyped symbols a

/-- what an `ast` node learns about a symbol from an `ast.Symbols` when it calls the accessor of the
    symbol's declared type — as `BoolSymbolNode`, `StringSymbolNode`, `Int64SymbolNode` (also for its
    `EvalString`), `Float64SymbolNode`, `DatetimeSymbolNode` all do — and `IsNil` -/
inductive TypedVal where
  | bool (v : Option Bool) | str (v : Option Bytes) | int (v : Option Int) | float (v : Option Nat) | time (v : Option Int)
  | none
  deriving DecidableEq

def typedView (decl : List (String × SymType)) (s : Symbols) (n : String) : TypedVal × Bool :=
  (match decl.lookup n with
   | some .bool => .bool (s.evalBool n)
   | some .string => .str (s.evalString n)
   | some .int64 => .int (s.evalInt64 n)
   | some .float64 => .float (s.evalFloat64 n)
   | some .datetime => .time (s.evalDatetime n)
   | _ => .none,
   s.isNil n)

/-- the evaluation of a filter is a function of the typed views of the symbols in `N` — true of every
    filter built from typed symbol nodes over those symbols (set functions, which open set cursors,
    are not of this kind) -/
def TypedLocal (decl : List (String × SymType)) (N : List String) (ev : Symbols → Bool) : Prop :=
  ∀ s1 s2, (∀ n ∈ N, typedView decl s1 n = typedView decl s2 n) → ev s1 = ev s2

theorem objSymbols_isNil {st : ObjStore} {r : Row} {n : String} (hw : WellTypedAt st.symbols r n) :
    (objSymbols st r).isNil n = (boltSymbols r).isNil n := by
  unfold WellTypedAt at hw
  simp only [objSymbols, objEval, boltSymbols]
  split at hw <;> try contradiction
  all_goals
    rename_i ht hv
    simp only [ht, hv, ifaceIsNil, fieldToBool, fieldToString, fieldToInt64, fieldToFloat64, fieldToDatetime]
    rfl

theorem typedView_obj_eq_bolt (st : ObjStore) (r : Row) (n : String) (hw : WellTypedAt st.symbols r n) :
    typedView st.symbols (objSymbols st r) n = typedView st.symbols (boltSymbols r) n := by
  unfold typedView
  rw [objSymbols_isNil hw]
  -- the accessor of the declared type reads the same coercion of the same stored value
  simp only [objSymbols, boltSymbols, objEval]
  cases st.symbols.lookup n with
  | none => rfl
  | some t => cases t <;> rfl

theorem evalFilter_typedLocal (decl : List (String × SymType)) (f : Filter) (hf : FilterTyped decl f) :
    TypedLocal decl f.symbols (fun s => evalFilter s f) := by
  intro s1 s2 h
  induction f with
  | and a b iha ihb | or a b iha ihb =>
    simp only [evalFilter, iha hf.1 fun n hn => h n (List.mem_append_left _ hn),
      ihb hf.2 fun n hn => h n (List.mem_append_right _ hn)]
  | not a iha => simp only [evalFilter, iha hf h]
  | tt => rfl
  | cmpBool n op v | cmpInt n op v | cmpFloat n op v | cmpStr n op v | cmpTime n op v =>
    -- a comparison reads its symbol through the accessor of the declared type only
    have hn := h n (List.mem_singleton_self n)
    unfold typedView at hn
    rw [show decl.lookup n = _ from hf] at hn
    injection hn with hn _
    injection hn with hn
    simp only [evalFilter, hn]
  | isNull n | notNull n => simp only [evalFilter, (Prod.mk.inj (h n (List.mem_singleton_self n))).2]

theorem obj_eval_eq_bolt (st : ObjStore) (r : Row) {N : List String} {ev : Symbols → Bool} (hloc : TypedLocal st.symbols N ev)
    (hw : ∀ n ∈ N, WellTypedAt st.symbols r n) : ev (objSymbols st r) = ev (boltSymbols r) :=
  hloc _ _ fun n hn => typedView_obj_eq_bolt st r n (hw n hn)

end StorageModel.Query
