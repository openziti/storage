import StorageModel.Query.TreeQueries
/-
  objectz over objects whose datetime fields are Go `time.Time` VALUES, not bare instants.

  A `time.Time` is a struct (wall, ext, loc): besides the instant it carries the `*Location` pointer and, when
  it stems from `time.Now()`, a monotonic clock reading.  One instant has many representations: the same moment
  in UTC / in a `FixedZone` / in `time.Local`, with or without the monotonic reading (`t.Round(0)`, or a round
  trip through any serialised form, strips it).  A bolt store keeps the instant only (`SetTime`); an object
  store hands the struct itself to `objectDatetimeSymbolComparator.compare`, which uses `Before` / `After`.
-/
namespace StorageModel.Query
open StorageModel

/-- what a `time.Time` carries besides its instant -/
structure TimeRep where
  /-- the monotonic clock reading, when `wall&hasMonotonic != 0` -/
  mono : Option Int := none
  /-- identity of the `*Location` pointer (0 = nil = UTC) -/
  loc : Nat := 0
  deriving Repr, DecidableEq, Inhabited

structure GoTime where
  /-- the instant: nanoseconds since the Unix epoch -/
  ns : Int
  mono : Option Int
  loc : Nat
  deriving Repr, DecidableEq, Inhabited

/-- `t.Before(u)`: `if t.wall&u.wall&hasMonotonic != 0 { return t.ext < u.ext }`, else by instant -/
def GoTime.before (t u : GoTime) : Bool :=
  match t.mono, u.mono with
  | some a, some b => decide (a < b)
  | _, _ => decide (t.ns < u.ns)

/-- `t.After(u)` -/
def GoTime.after (t u : GoTime) : Bool :=
  match t.mono, u.mono with
  | some a, some b => decide (b < a)
  | _, _ => decide (u.ns < t.ns)

/-- `objectDatetimeSymbolComparator.compare` on two non-nil keys:
    `else if s1.Before(*s2) { -1 } else if s1.After(*s2) { 1 }` -/
def objCmpTimeVal (t u : GoTime) : Ordering :=
  if t.before u then .lt else if t.after u then .gt else .eq

/-- the same with equality of the keys decided by Go's `==` on the struct (`*s1 != *s2`) and a single
    `Before` call: NOT what the code does; kept for the counter-example in Properties/C19.lean -/
def objCmpTimeValStructEq (t u : GoTime) : Ordering :=
  if t ≠ u then (if t.before u then .lt else .gt) else .eq

/-- an object: its field values (what a bolt store holding the same values keeps) and, per datetime symbol,
    how the `time.Time` the symbol function returns represents the instant -/
structure TObj where
  row : Row
  rep : String → TimeRep

/-- `symbol.EvalDatetime(entity)` -/
def objTime (name : String) (o : TObj) : Option GoTime :=
  (fieldToDatetime (evalSym name o.row)).map fun ns => ⟨ns, (o.rep name).mono, (o.rep name).loc⟩

/-- one objectz `objectXxxSymbolComparator.compare` including the direction flip; `tcmp` = the comparison of
    two non-nil datetime keys -/
def objSymCmpTW (tcmp : GoTime → GoTime → Ordering) (ty : SymType) (name : String) (fwd : Bool) : Cmp TObj := fun a b =>
  match ty with
  | .datetime => dir fwd (nullsFirst tcmp (objTime name a) (objTime name b))
  | _ => symCmp ty name fwd a.row b.row

def objSymCmpT := objSymCmpTW objCmpTimeVal

/-- objectz `newRowComparator` over such objects (same resolution as `resolveSort`) -/
def objResolveSortTW (tcmp : GoTime → GoTime → Ordering) (schema : Schema) : List SortField → Except SortErr (List (Cmp TObj))
  | [] => .ok []
  | f :: rest =>
    match schema.lookup f.name with
    | none => .error .noSuchField
    | some info =>
      if info.isSet then .error .invalidSetField
      else if info.ty = .other then .error .unsupportedType
      else match objResolveSortTW tcmp schema rest with
        | .error e => .error e
        | .ok cs => .ok (objSymCmpTW tcmp info.ty f.name f.asc :: cs)

def objNewRowComparatorTW (tcmp : GoTime → GoTime → Ordering) (schema : Schema) (sort : List SortField) :
    Except SortErr (Cmp TObj) :=
  match objResolveSortTW tcmp schema (sort ++ [⟨"id", true⟩]) with
  | .error e => .error e
  | .ok cs => .ok (chain cs)

def objNewRowComparatorT := objNewRowComparatorTW objCmpTimeVal

def ObjOutcome.mapRows {α β : Type} (f : α → β) : ObjOutcome (List α × Int) → ObjOutcome (List β × Int)
  | .ok (l, n) => .ok (l.map f, n)
  | .err e => .err e
  | .panic => .panic

/-- `QueryEntitiesC` over objects holding `time.Time` values; the filter is any node given by its evaluation on
    the object cursor (filter nodes use `Equal` / `Before` / `After` against constants without monotonic reading:
    they see the instant only) -/
def objQueryTPW (tcmp : GoTime → GoTime → Ordering) (scan : Cmp TObj → ScanEnv TObj → Paging → Option (List TObj) → List TObj × Int)
    (symbols : List (String × SymType)) (objs : Option (List TObj))
    (ev : Symbols → Bool) (sort : List SortField) (paging : Paging) : ObjOutcome (List TObj × Int) :=
  let st : ObjStore := ⟨symbols, none⟩
  match objNewRowComparatorTW tcmp st.schema sort with
  | .error e => .err e
  | .ok c =>
    match objs with
    | none => .ok ([], 0)
    | some objs => .ok (scan c { pred := fun o => ev (objSymbols st o.row) } paging (some objs))

def objQueryTP (pf : PagingFacts) := objQueryTPW objCmpTimeVal (sortScan pf)

/-- the same over the llrb port (cross-check in the driver) -/
def objQueryTPT (pf : PagingFacts) := objQueryTPW objCmpTimeVal (sortScanT pf)

/-- two `time.Time` values whose monotonic readings (if both have one) order like their instants: true of any
    two readings of one process unless the wall clock was stepped between them -/
def MonoAgrees (t u : GoTime) : Prop :=
  ∀ x y, t.mono = some x → u.mono = some y → ((x < y ↔ t.ns < u.ns) ∧ (y < x ↔ u.ns < t.ns))

def MonoConsistent (objs : List TObj) : Prop :=
  ∀ a ∈ objs, ∀ b ∈ objs, ∀ n t u, objTime n a = some t → objTime n b = some u → MonoAgrees t u

theorem objCmpTimeVal_eq_instant {t u : GoTime} (h : MonoAgrees t u) : objCmpTimeVal t u = cmpTimeVal t.ns u.ns := by
  unfold objCmpTimeVal GoTime.before GoTime.after cmpTimeVal cmpInt
  cases ht : t.mono with
  | none => simp
  | some x =>
    cases hu : u.mono with
    | none => simp
    | some y =>
      obtain ⟨h1, h2⟩ := h x y ht hu
      by_cases hlt : t.ns < u.ns
      · simp [hlt, h1.2 hlt]
      · by_cases hgt : u.ns < t.ns
        · have : ¬ x < y := fun hx => hlt (h1.1 hx)
          simp [hlt, hgt, this, h2.2 hgt]
        · have a1 : ¬ x < y := fun hx => hlt (h1.1 hx)
          have a2 : ¬ y < x := fun hx => hgt (h2.1 hx)
          simp [hlt, hgt, a1, a2]

theorem objSymCmpT_eq_row {a b : TObj} (h : ∀ n t u, objTime n a = some t → objTime n b = some u → MonoAgrees t u)
    (ty : SymType) (name : String) (fwd : Bool) :
    objSymCmpT ty name fwd a b = symCmp ty name fwd a.row b.row := by
  cases ty <;> try rfl
  simp only [objSymCmpT, objSymCmpTW, symCmp]
  congr 1
  have h' := h name
  unfold objTime at h' ⊢
  cases ha : fieldToDatetime (evalSym name a.row) <;> cases hb : fieldToDatetime (evalSym name b.row) <;>
    simp only [Option.map, nullsFirst]
  rw [ha, hb] at h'
  exact objCmpTimeVal_eq_instant (h' _ _ rfl rfl)

theorem objResolveSortTW_eq (tcmp : GoTime → GoTime → Ordering) (schema : Schema) (fs : List SortField) :
    objResolveSortTW tcmp schema fs =
      match fs.findSome? (fieldErr schema) with
      | some e => .error e
      | none => .ok (fs.map fun f => objSymCmpTW tcmp (tyOf schema f.name) f.name f.asc) := by
  induction fs with
  | nil => rfl
  | cons f rest ih =>
    simp only [objResolveSortTW, List.findSome?_cons, List.map_cons, ih]
    simp only [fieldErr, tyOf]
    cases schema.lookup f.name with
    | none => rfl
    | some info =>
      rcases info with ⟨ty, isSet⟩
      cases isSet with
      | true => rfl
      | false =>
        simp only [Bool.false_eq_true, if_false]
        split
        · rfl
        · cases rest.findSome? (fieldErr schema) <;> rfl

theorem objNewRowComparatorTW_eq (tcmp : GoTime → GoTime → Ordering) (schema : Schema) (sort : List SortField) :
    objNewRowComparatorTW tcmp schema sort =
      match (sort ++ [(⟨"id", true⟩ : SortField)]).findSome? (fieldErr schema) with
      | some e => .error e
      | none => .ok (chain ((sort ++ [(⟨"id", true⟩ : SortField)]).map fun f =>
          objSymCmpTW tcmp (tyOf schema f.name) f.name f.asc)) := by
  rw [objNewRowComparatorTW, objResolveSortTW_eq]
  cases (sort ++ [(⟨"id", true⟩ : SortField)]).findSome? (fieldErr schema) <;> rfl

/-! #### the bounded-tree scan commutes with a map that respects the comparator -/

section scanMap
variable {σ ρ : Type} (f : σ → ρ) (c' : Cmp σ) (c : Cmp ρ) (S : σ → Prop)

def evictOf (pf : PagingFacts) (count mr : Int) : Bool :=
  if pf.evictStrict then decide (count > mr) else decide (count ≥ mr)

theorem sortBody_def {τ : Type} (pf : PagingFacts) (c : Cmp τ) (mr : Int) (st : SortSt τ) (x : τ) :
    sortBody pf c mr st x =
      if evictOf pf (add64 st.count 1) mr then ⟨(tins c x st.tree).dropLast, add64 st.count 1⟩
      else ⟨tins c x st.tree, add64 st.count 1⟩ := rfl

theorem tins_map (h : ∀ a b, S a → S b → c' a b = c (f a) (f b)) {x : σ} {l : List σ} (hx : S x) (hl : ∀ y ∈ l, S y) :
    (tins c' x l).map f = tins c (f x) (l.map f) := by
  induction l with
  | nil => rfl
  | cons y t ih =>
    have hy := hl y (List.mem_cons_self ..)
    simp only [tins, List.map_cons, ← h x y hx hy]
    cases c' x y <;> simp only [List.map_cons]
    rw [ih fun z hz => hl z (List.mem_cons_of_mem _ hz)]

theorem walk_map (tOff : Int) (off : Int) (l : List σ) : (walk tOff off l).map f = walk tOff off (l.map f) := by
  induction l generalizing off with
  | nil => rfl
  | cons x t ih =>
    simp only [walk, List.map_cons]
    split
    · exact ih _
    · simp only [List.map_cons, ih]

theorem sortLoop_map (pf : PagingFacts) (h : ∀ a b, S a → S b → c' a b = c (f a) (f b)) (env : ScanEnv ρ) (mr : Int)
    (st : SortSt σ) (cur : List σ) (hst : ∀ y ∈ st.tree, S y) (hcur : ∀ y ∈ cur, S y) :
    let r := sortLoop pf c' { childSkip := fun o => env.childSkip (f o), pred := fun o => env.pred (f o) } mr st cur
    let r0 := sortLoop pf c env mr ⟨st.tree.map f, st.count⟩ (cur.map f)
    r.tree.map f = r0.tree ∧ r.count = r0.count := by
  induction cur generalizing st with
  | nil => simp [sortLoop]
  | cons x rest ih =>
    have hx := hcur x (List.mem_cons_self ..)
    have hrest : ∀ y ∈ rest, S y := fun y hy => hcur y (List.mem_cons_of_mem _ hy)
    simp only [sortLoop, List.map_cons, ScanEnv.admits]
    by_cases ha : (!env.childSkip (f x) && env.pred (f x)) = true
    · simp only [ha, if_true]
      have hbody : sortBody pf c mr ⟨st.tree.map f, st.count⟩ (f x) =
          ⟨(sortBody pf c' mr st x).tree.map f, (sortBody pf c' mr st x).count⟩ := by
        simp only [sortBody_def, ← tins_map f c' c S h hx hst]
        cases evictOf pf (add64 st.count 1) mr <;> simp [List.map_dropLast]
      rw [hbody]
      apply ih
      · intro y hy
        have hm : ∀ z ∈ tins c' x st.tree, S z := fun z hz => (mem_tins hz).elim (· ▸ hx) (hst z)
        rw [sortBody_def] at hy
        cases he : evictOf pf (add64 st.count 1) mr <;> simp only [he, if_true, if_false, Bool.false_eq_true] at hy
        · exact hm y hy
        · exact hm y (List.dropLast_subset _ hy)
      · exact hrest
    · simp only [ha, if_false, Bool.false_eq_true]
      exact ih st hst hrest

theorem sortScan_map (pf : PagingFacts) (h : ∀ a b, S a → S b → c' a b = c (f a) (f b)) (env : ScanEnv ρ) (q : Paging)
    (cur : List σ) (hcur : ∀ y ∈ cur, S y) :
    let r := sortScan pf c' { childSkip := fun o => env.childSkip (f o), pred := fun o => env.pred (f o) } q (some cur)
    (r.1.map f, r.2) = sortScan pf c env q (some (cur.map f)) := by
  have := sortLoop_map f c' c S pf h env (maxResultsOf pf (setPaging pf q).2) {} cur (by simp) hcur
  simp only [sortScan, walk_map]
  simp only [List.map_nil] at this
  rw [this.1, this.2]

end scanMap

/-- **the representation of a datetime field is invisible** to `QueryEntitiesC`: objects, order, count and error
    are those over the bare field values (Properties/C19.lean states it for the regenerated arithmetic) -/
theorem objQueryTP_map_row (pf : PagingFacts) (symbols : List (String × SymType)) (objs : List TObj)
    (ev : Symbols → Bool) (sort : List SortField) (paging : Paging) (hm : MonoConsistent objs) :
    (objQueryTP pf symbols (some objs) ev sort paging).mapRows (·.row) =
      objQueryP pf ⟨symbols, some (objs.map (·.row))⟩ ev sort paging := by
  have hsch : ObjStore.schema ⟨symbols, some (objs.map (·.row))⟩ = ObjStore.schema ⟨symbols, none⟩ := rfl
  unfold objQueryTP objQueryTPW objQueryP
  simp only [objNewRowComparatorTW_eq, newRowComparator_eq, hsch]
  -- both comparators are refused for the same field, or are chains that agree field by field
  cases (sort ++ [(⟨"id", true⟩ : SortField)]).findSome? (fieldErr (ObjStore.schema ⟨symbols, none⟩)) with
  | some e => rfl
  | none =>
    have := sortScan_map TObj.row _ _ (fun o => o ∈ objs) pf
      (fun a b ha hb => chain_map_congr TObj.row _ _ (sort ++ [⟨"id", true⟩]) fun f _ =>
        objSymCmpT_eq_row (fun n t u => hm a ha b hb n t u) (tyOf (ObjStore.schema ⟨symbols, none⟩) f.name) f.name f.asc)
      { pred := fun r => ev (objSymbols ⟨symbols, none⟩ r) } paging objs (fun _ h => h)
    simp only [ObjOutcome.mapRows]
    exact congrArg _ this

end StorageModel.Query
