import StorageModel.Query.Compare
/-
  The filter fragment the C02 / C19 checks use (the filter language as a whole belongs to
  C01): `true`, a comparison of a symbol with a constant of the symbol's own type, `= null`,
  `!= null`, and their closure under `and`, `or`, `not`.  Evaluation follows ast/node_expr.go (`Binary*ExprNode.EvalBool`, `IsNilExprNode`)
  over an `ast.Symbols` implementation, of which there are two: boltz `rowCursorImpl` and objectz
  `ObjectCursor`.
-/
namespace StorageModel.Query
open StorageModel

inductive CmpOp where
  | eq | ne | lt | le | gt | ge
  deriving Repr, DecidableEq, Inhabited

inductive Filter where
  | tt
  | cmpBool (name : String) (op : CmpOp) (v : Bool)
  | cmpInt (name : String) (op : CmpOp) (v : Int)
  | cmpFloat (name : String) (op : CmpOp) (bits : Nat)
  | cmpStr (name : String) (op : CmpOp) (v : Bytes)
  | cmpTime (name : String) (op : CmpOp) (ns : Int)
  | isNull (name : String)
  | notNull (name : String)
  | and (a b : Filter)
  | or (a b : Filter)
  | not (a : Filter)
  deriving Repr, DecidableEq, Inhabited

/-- `ast.Symbols`, the part these filters use -/
structure Symbols where
  evalBool : String → Option Bool
  evalString : String → Option Bytes
  evalInt64 : String → Option Int
  evalFloat64 : String → Option Nat
  evalDatetime : String → Option Int
  isNil : String → Bool

def fEq (a b : Nat) : Bool := !fIsNaN a && !fIsNaN b && decide (fOrd a = fOrd b)
def fLe (a b : Nat) : Bool := !fIsNaN a && !fIsNaN b && decide (fOrd a ≤ fOrd b)

/-- the `switch node.op` of the numeric / string / datetime binary nodes, both operands non-nil -/
def opOn {κ : Type} (eq lt le : κ → κ → Bool) (op : CmpOp) (l r : κ) : Bool :=
  match op with
  | .eq => eq l r
  | .ne => !eq l r
  | .lt => lt l r
  | .le => le l r
  | .gt => lt r l
  | .ge => le r l

/-- `if leftResult == nil || rightResult == nil { if op == NEQ { return leftResult != rightResult }; return false }`
    with a constant (never nil) on the right -/
def cmpNullable {κ : Type} (eq lt le : κ → κ → Bool) (op : CmpOp) (l : Option κ) (r : κ) : Bool :=
  match l with
  | none => op == .ne
  | some l => opOn eq lt le op l r

def evalFilter (s : Symbols) : Filter → Bool
  | .tt => true
  -- BinaryBoolExprNode over BoolSymbolNode (`result != nil && *result`) and BoolConstNode; only = and !=
  | .cmpBool name op v =>
    let l := (s.evalBool name).getD false
    match op with
    | .eq => l == v
    | .ne => l != v
    | _ => false
  | .cmpInt name op v => cmpNullable (fun a b => decide (a = b)) (fun a b => decide (a < b)) (fun a b => decide (a ≤ b)) op (s.evalInt64 name) v
  | .cmpFloat name op v => cmpNullable fEq fLt fLe op (s.evalFloat64 name) v
  | .cmpStr name op v =>
    cmpNullable (fun a b => cmpBytes a b == .eq) (fun a b => cmpBytes a b == .lt) (fun a b => cmpBytes a b != .gt) op (s.evalString name) v
  | .cmpTime name op v => cmpNullable (fun a b => decide (a = b)) (fun a b => decide (a < b)) (fun a b => decide (a ≤ b)) op (s.evalDatetime name) v
  | .isNull name => s.isNil name
  | .notNull name => !s.isNil name
  -- AndExprNode / OrExprNode / NotExprNode (short-circuit evaluation of pure operands)
  | .and a b => evalFilter s a && evalFilter s b
  | .or a b => evalFilter s a || evalFilter s b
  | .not a => !evalFilter s a

/-- boltz `rowCursorImpl` positioned on a row -/
def boltSymbols (r : Row) : Symbols where
  evalBool name := fieldToBool (evalSym name r)
  evalString name := fieldToString (evalSym name r)
  evalInt64 name := fieldToInt64 (evalSym name r)
  evalFloat64 name := fieldToFloat64 (evalSym name r)
  evalDatetime name := fieldToDatetime (evalSym name r)
  isNil name := evalSym name r == .nil          -- fieldType == TypeNil

/-- **specification**: what a filter of this fragment means for a row whose field has the given
    value (`none` = null).  Comparisons with null are false except `!=`; a null bool reads as false. -/
def satValue (f : Filter) (b : Option Bool) (i : Option Int) (x : Option Nat) (s : Option Bytes) (t : Option Int)
    (isNull : Bool) : Bool :=
  match f with
  | .tt => true
  | .cmpBool _ .eq v => b.getD false == v
  | .cmpBool _ .ne v => b.getD false != v
  | .cmpBool _ _ _ => false
  | .cmpInt _ op v => match i with | none => op == .ne | some l => opOn (fun a b => decide (a = b)) (fun a b => decide (a < b)) (fun a b => decide (a ≤ b)) op l v
  | .cmpFloat _ op v => match x with | none => op == .ne | some l => opOn fEq fLt fLe op l v
  | .cmpStr _ op v => match s with
    | none => op == .ne
    | some l => opOn (fun a b => cmpBytes a b == .eq) (fun a b => cmpBytes a b == .lt) (fun a b => cmpBytes a b != .gt) op l v
  | .cmpTime _ op v => match t with | none => op == .ne | some l => opOn (fun a b => decide (a = b)) (fun a b => decide (a < b)) (fun a b => decide (a ≤ b)) op l v
  | .isNull _ => isNull
  | .notNull _ => !isNull
  | .and _ _ | .or _ _ | .not _ => false     -- not atoms

def Filter.symbol : Filter → Option String
  | .tt | .and _ _ | .or _ _ | .not _ => none
  | .cmpBool n _ _ | .cmpInt n _ _ | .cmpFloat n _ _ | .cmpStr n _ _ | .cmpTime n _ _ | .isNull n | .notNull n => some n

def Filter.symbols : Filter → List String
  | .and a b | .or a b => a.symbols ++ b.symbols
  | .not a => a.symbols
  | .tt => []
  | .cmpBool n _ _ | .cmpInt n _ _ | .cmpFloat n _ _ | .cmpStr n _ _ | .cmpTime n _ _ | .isNull n | .notNull n => [n]

def satAtom (r : Row) (f : Filter) : Bool :=
  match f.symbol with
  | none => true
  | some n =>
    let v := evalSym n r
    satValue f (fieldToBool v) (fieldToInt64 v) (fieldToFloat64 v) (fieldToString v) (fieldToDatetime v) (v == .nil)

def sat (r : Row) : Filter → Bool
  | .and a b => sat r a && sat r b
  | .or a b => sat r a || sat r b
  | .not a => !sat r a
  | .tt => true
  | .cmpBool n op v => satAtom r (.cmpBool n op v)
  | .cmpInt n op v => satAtom r (.cmpInt n op v)
  | .cmpFloat n op v => satAtom r (.cmpFloat n op v)
  | .cmpStr n op v => satAtom r (.cmpStr n op v)
  | .cmpTime n op v => satAtom r (.cmpTime n op v)
  | .isNull n => satAtom r (.isNull n)
  | .notNull n => satAtom r (.notNull n)

theorem bolt_eval_sat (r : Row) (f : Filter) : evalFilter (boltSymbols r) f = sat r f := by
  induction f with
  | and a b iha ihb | or a b iha ihb => simp only [evalFilter, sat, iha, ihb]
  | not a iha => simp only [evalFilter, sat, iha]
  | tt => rfl
  | cmpBool n op v => simp only [evalFilter, sat, satAtom, Filter.symbol, satValue, boltSymbols]; cases op <;> rfl
  | cmpInt n op v | cmpFloat n op v | cmpStr n op v | cmpTime n op v =>
    simp only [evalFilter, sat, satAtom, Filter.symbol, satValue, boltSymbols, cmpNullable]
    -- both sides branch on the same typed read
    split <;> simp only [*]
  | isNull n | notNull n => simp only [evalFilter, sat, satAtom, Filter.symbol, satValue, boltSymbols]

end StorageModel.Query
