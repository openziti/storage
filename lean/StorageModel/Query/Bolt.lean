import StorageModel.Query.Paging
import StorageModel.Query.Filter
/-
  The query entry points of a bolt-backed store (boltz/store_query.go): `NewScanner`'s choice of
  strategy, `QueryIdsC` / `QueryWithCursorC` / `IterateIds`, and the part of the listener that turns
  `skip N` / `limit N|none` into the query's paging fields (ast/bolt_listener.go).
-/
namespace StorageModel.Query
open StorageModel

/-- a NUMBER token after `skip` / `limit`: `strconv.ParseInt` succeeded (int) or not (the token then
    becomes a float node) -/
inductive NumTok where
  | int (v : Int)
  | nonInt
  deriving Repr, DecidableEq, Inhabited

inductive LimitTok where
  | num (n : NumTok)
  | none_        -- `limit none` is pushed as Int64ConstNode{-1}
  deriving Repr, DecidableEq, Inhabited

inductive ParseErr where
  | skipNotInteger | limitNotInteger
  deriving Repr, DecidableEq

/-- ExitSkipExpr / ExitLimitExpr / ExitQueryStmt -/
def parsePaging (skip : Option NumTok) (limit : Option LimitTok) : Except ParseErr Paging :=
  match skip with
  | some .nonInt => .error .skipNotInteger
  | _ =>
    let s : Option Int := match skip with | some (.int v) => some v | _ => none
    match limit with
    | some (.num .nonInt) => .error .limitNotInteger
    | some (.num (.int v)) => .ok ⟨s, some v⟩
    | some .none_ => .ok ⟨s, some (-1)⟩
    | none => .ok ⟨s, none⟩

/-- what the query text asks for, read directly off the tokens: `skip N` / nothing, and `limit N`
    / `limit none` / nothing (`none` = no limit) -/
def tokSkip (skip : Option NumTok) : Option Int := match skip with | some (.int v) => some v | _ => none
def tokLimit (limit : Option LimitTok) : Option Int := match limit with | some (.num (.int v)) => some v | _ => none

inductive Strategy where
  | index (forward : Bool)     -- uniqueIndexScanner
  | sorting                    -- sortingScanner
  deriving Repr, DecidableEq, Inhabited

def sortMax : Nat := 5

def newScanner (sort : List SortField) : Strategy :=
  let sort := if sort.length > sortMax then sort.take sortMax else sort
  match sort with
  | [] => .index true
  | f :: _ =>
    if f.name = "id" then (if f.asc then .index true else .index false)
    else .sorting

theorem newScanner_nil : newScanner [] = .index true := rfl

/-- cutting the sort list to `sortMax` fields keeps the first one, the only one `NewScanner` looks at -/
theorem newScanner_cons (f : SortField) (rest : List SortField) :
    newScanner (f :: rest) = if f.name = "id" then .index f.asc else .sorting := by
  rcases f with ⟨name, asc⟩
  unfold newScanner
  split <;> cases asc <;> rfl

theorem newScanner_index {sort : List SortField} {fwd : Bool} (hs : newScanner sort = .index fwd) :
    sort = [] ∧ fwd = true ∨ ∃ rest, sort = ⟨"id", fwd⟩ :: rest := by
  cases sort with
  | nil => exact .inl ⟨rfl, (Strategy.index.inj hs).symm⟩
  | cons f rest =>
    rw [newScanner_cons] at hs
    split at hs
    · next hn => cases Strategy.index.inj hs; exact .inr ⟨rest, by rw [← hn]⟩
    · cases hs

structure BoltStore where
  schema : Schema
  /-- the entities bucket: `none` = the bucket does not exist yet; otherwise its rows in key order -/
  bucket : Option (List Row)
  /-- the child-store test of the scanners (false everywhere for a root store) -/
  childSkip : Row → Bool := fun _ => false

structure Query where
  filter : Filter
  sort : List SortField
  paging : Paging
  deriving Repr, Inhabited

def BoltStore.env (st : BoltStore) (f : Filter) : ScanEnv Row :=
  { childSkip := st.childSkip, pred := fun r => evalFilter (boltSymbols r) f }

/-- `TypedBucket.OpenCursor(tx, forward)` -/
def bucketCursor (rows : List Row) (forward : Bool) : List Row := if forward then rows else rows.reverse

/-- `scanner.ScanCursor(tx, cursorProvider, query)` for the scanner `NewScanner` returned -/
def scanCursor (pf : PagingFacts) (st : BoltStore) (q : Query) (provider : Bool → Option (List Row)) :
    Except SortErr (List Row × Int) :=
  match newScanner q.sort with
  | .index fwd => .ok (idxScan pf (st.env q.filter) q.paging (provider fwd))
  | .sorting =>
    match newRowComparator st.schema q.sort with
    | .error e => .error e
    | .ok c => .ok (sortScan pf c (st.env q.filter) q.paging (provider true))

/-- `QueryIdsC`: `scanner.Scan` returns nothing when the entities bucket does not exist -/
def queryIdsC (pf : PagingFacts) (st : BoltStore) (q : Query) : Except SortErr (List Row × Int) :=
  match st.bucket with
  | none => .ok ([], 0)
  | some rows => scanCursor pf st q (fun fwd => some (bucketCursor rows fwd))

/-- `QueryWithCursorC` -/
def queryWithCursorC (pf : PagingFacts) (st : BoltStore) (q : Query) (provider : Bool → Option (List Row)) :
    Except SortErr (List Row × Int) := scanCursor pf st q provider

/-! ### the same entry points for an arbitrary filter node, given by its evaluation on `ast.Symbols` -/

def BoltStore.envP (st : BoltStore) (ev : Symbols → Bool) : ScanEnv Row :=
  { childSkip := st.childSkip, pred := fun r => ev (boltSymbols r) }

def scanCursorP (pf : PagingFacts) (st : BoltStore) (ev : Symbols → Bool) (sort : List SortField) (paging : Paging)
    (provider : Bool → Option (List Row)) : Except SortErr (List Row × Int) :=
  match newScanner sort with
  | .index fwd => .ok (idxScan pf (st.envP ev) paging (provider fwd))
  | .sorting =>
    match newRowComparator st.schema sort with
    | .error e => .error e
    | .ok c => .ok (sortScan pf c (st.envP ev) paging (provider true))

def queryIdsCP (pf : PagingFacts) (st : BoltStore) (ev : Symbols → Bool) (sort : List SortField) (paging : Paging) :
    Except SortErr (List Row × Int) :=
  match st.bucket with
  | none => .ok ([], 0)
  | some rows => scanCursorP pf st ev sort paging (fun fwd => some (bucketCursor rows fwd))

theorem queryIdsC_eq_P (pf : PagingFacts) (st : BoltStore) (q : Query) :
    queryIdsC pf st q = queryIdsCP pf st (fun s => evalFilter s q.filter) q.sort q.paging := rfl

/-- `IterateIds(tx, query)` drained by the caller; the sort fields play no role -/
def iterateIds (pf : PagingFacts) (st : BoltStore) (q : Query) : List Row :=
  match st.bucket with
  | none => []                         -- ast.EmptyCursor
  | some rows => iterate pf (st.env q.filter) (some q.paging) rows

end StorageModel.Query
