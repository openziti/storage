import StorageModel.Query.Paging
/-
  A port of github.com/biogo/store/llrb (the tree the sorting scanners keep their rows in), mode
  BU23 (`const Mode = BU23`): `Tree.Insert`, `Tree.DeleteMax`, `Tree.Do` — node by node, rotation
  by rotation.

  The theorems of C02 / C19 see the tree through its in-order walk, a strictly sorted list
  (Query/Sorted.lean: `tins`, `dropLast`).  That view is exact when the row comparator orders the
  rows (ties allowed): `insert_inorder` below proves it for `Insert` (no balance invariant needed), and the
  drivers re-check `sortScanT = sortScan` on every generated case.  When the comparator is NOT an
  order — before 1532996 a NaN sort key made float comparison tie with everything
  (`cmpFloatValWith false`) — the result depends on the shape of the tree and therefore on the
  insertion order; this port follows the code there, which is what makes the NaN counter-example
  kept in Properties/C19.lean a statement about the code.
-/
namespace StorageModel.Query

variable {ρ : Type}

/-- `llrb.Node`; `black = false` is Red (the zero value: new nodes are red) -/
inductive LL (ρ : Type) where
  | nil
  | node (black : Bool) (l : LL ρ) (x : ρ) (r : LL ρ)
  deriving Repr

namespace LL

/-- `n.color() == Red` (a nil node is black) -/
def isRed : LL ρ → Bool
  | node false _ _ _ => true
  | _ => false

def left : LL ρ → LL ρ
  | node _ l _ _ => l
  | nil => nil

def right : LL ρ → LL ρ
  | node _ _ _ r => r
  | nil => nil

/-- `(a,c)b -rotL-> ((a,)b,)c`: the new root takes n's colour, n becomes red -/
def rotateLeft : LL ρ → LL ρ
  | node c l x (node _ rl rx rr) => node c (node false l x rl) rx rr
  | t => t

def rotateRight : LL ρ → LL ρ
  | node c (node _ ll lx lr) x r => node c ll lx (node false lr x r)
  | t => t

def flip1 : LL ρ → LL ρ
  | node c l x r => node (!c) l x r
  | nil => nil

/-- `flipColors`: n and both children change colour -/
def flipColors : LL ρ → LL ρ
  | node c l x r => node (!c) (flip1 l) x (flip1 r)
  | nil => nil

/-- the three rebalancing steps at the end of `Node.insert` (BU23) -/
def balanceInsert (n : LL ρ) : LL ρ :=
  let n := if isRed n.right && !isRed n.left then rotateLeft n else n
  let n := if isRed n.left && isRed n.left.left then rotateRight n else n
  if isRed n.left && isRed n.right then flipColors n else n

/-- `Node.insert`: `e.Compare(n.Elem)` = 0 replaces the element, < 0 goes left, > 0 goes right -/
def insert (c : Cmp ρ) (e : ρ) : LL ρ → LL ρ
  | nil => node false nil e nil
  | node col l x r =>
    balanceInsert (match c e x with
      | .eq => node col l e r
      | .lt => node col (insert c e l) x r
      | .gt => node col l x (insert c e r))

def setBlack : LL ρ → LL ρ
  | node _ l x r => node true l x r
  | nil => nil

/-- `Tree.Insert`: insert, then colour the root black -/
def Insert (c : Cmp ρ) (e : ρ) (t : LL ρ) : LL ρ := setBlack (insert c e t)

def moveRedRight (n : LL ρ) : LL ρ :=
  let n := flipColors n
  if isRed n.left.left then flipColors (rotateRight n) else n

def fixUp (n : LL ρ) : LL ρ :=
  let n := if isRed n.right then rotateLeft n else n
  let n := if isRed n.left && isRed n.left.left then rotateRight n else n
  if isRed n.left && isRed n.right then flipColors n else n

def size : LL ρ → Nat
  | nil => 0
  | node _ l _ r => size l + size r + 1

/-- `Node.deleteMax` (fuel: an upper bound of the recursion depth) -/
def deleteMax : Nat → LL ρ → LL ρ
  | 0, t => t
  | fuel + 1, n =>
    let n := if isRed n.left then rotateRight n else n
    match n with
    | nil => nil
    | node _ _ _ nil => nil
    | node col l x (node rc rl rx rr) =>
      let n := if !isRed (node rc rl rx rr) && !isRed rl then moveRedRight (node col l x (node rc rl rx rr))
               else node col l x (node rc rl rx rr)
      match n with
      | node col' l' x' r' => fixUp (node col' l' x' (deleteMax fuel r'))
      | nil => nil

/-- `Tree.DeleteMax` -/
def DeleteMax (t : LL ρ) : LL ρ := setBlack (deleteMax (size t + 1) t)

/-- `Tree.Do`: the in-order walk -/
def inorder : LL ρ → List ρ
  | nil => []
  | node _ l x r => inorder l ++ x :: inorder r

end LL

structure SortStT (ρ : Type) where
  tree : LL ρ := .nil
  count : Int := 0

def sortBodyT (pf : PagingFacts) (c : Cmp ρ) (maxResults : Int) (st : SortStT ρ) (x : ρ) : SortStT ρ :=
  let tree := LL.Insert c x st.tree
  let count := add64 st.count 1
  let evict := if pf.evictStrict then decide (count > maxResults) else decide (count ≥ maxResults)
  if evict then ⟨LL.DeleteMax tree, count⟩ else ⟨tree, count⟩

def sortLoopT (pf : PagingFacts) (c : Cmp ρ) (env : ScanEnv ρ) (maxResults : Int) (st : SortStT ρ) : List ρ → SortStT ρ
  | [] => st
  | x :: rest =>
    if env.admits x then sortLoopT pf c env maxResults (sortBodyT pf c maxResults st x) rest
    else sortLoopT pf c env maxResults st rest

/-- `sortingScanner.ScanCursor` / `memSortingScanner.Scan` with the llrb tree itself -/
def sortScanT (pf : PagingFacts) (c : Cmp ρ) (env : ScanEnv ρ) (q : Paging) (cur : Option (List ρ)) : List ρ × Int :=
  let tg := (setPaging pf q).2
  match cur with
  | none => ([], 0)
  | some cur =>
    let st := sortLoopT pf c env (maxResultsOf pf tg) {} cur
    (walk tg.offset 0 st.tree.inorder, st.count)

namespace LL

theorem inorder_rotateLeft (t : LL ρ) : inorder (rotateLeft t) = inorder t := by
  cases t with
  | nil => rfl
  | node c l x r =>
    cases r with
    | nil => rfl
    | node rc rl rx rr => simp [rotateLeft, inorder, List.append_assoc]

theorem inorder_rotateRight (t : LL ρ) : inorder (rotateRight t) = inorder t := by
  cases t with
  | nil => rfl
  | node c l x r =>
    cases l with
    | nil => rfl
    | node lc ll lx lr => simp [rotateRight, inorder, List.append_assoc]

theorem inorder_flip1 (t : LL ρ) : inorder (flip1 t) = inorder t := by cases t <;> rfl

theorem inorder_flipColors (t : LL ρ) : inorder (flipColors t) = inorder t := by
  cases t with
  | nil => rfl
  | node c l x r => simp [flipColors, inorder, inorder_flip1]

theorem inorder_setBlack (t : LL ρ) : inorder (setBlack t) = inorder t := by cases t <;> rfl

theorem inorder_balanceInsert (t : LL ρ) : inorder (balanceInsert t) = inorder t := by
  unfold balanceInsert
  simp only
  split <;> split <;> split <;>
    simp only [inorder_flipColors, inorder_rotateRight, inorder_rotateLeft]

/-- only the search path matters (the rebalancing steps keep the walk): no colour or balance invariant is needed -/
theorem insert_inorder {P : ρ → Prop} {c : Cmp ρ} (hc : WeakOrdOn P c) (e : ρ) (he : P e) :
    ∀ t : LL ρ, (∀ y ∈ inorder t, P y) → Sorted c (inorder t) → inorder (insert c e t) = tins c e (inorder t) := by
  intro t
  induction t with
  | nil => intro _ _; rfl
  | node col l x r ihl ihr =>
    intro hP hs
    have hx : P x := hP x (by simp [inorder])
    have hPl : ∀ y ∈ inorder l, P y := fun y hy => hP y (by simp [inorder, hy])
    have hPr : ∀ y ∈ inorder r, P y := fun y hy => hP y (by simp [inorder, hy])
    simp only [inorder] at hs
    have hsl : Sorted c (inorder l) := (List.pairwise_append.1 hs).1
    have hsr : Sorted c (inorder r) := (List.pairwise_cons.1 (List.pairwise_append.1 hs).2.1).2
    have hlx : ∀ y ∈ inorder l, c y x = .lt := fun y hy => (List.pairwise_append.1 hs).2.2 y hy x (List.mem_cons_self ..)
    -- everything left of x is below e as soon as e is not below x
    have hbelow : c e x ≠ .lt → ∀ y ∈ inorder l, c e y = .gt := by
      intro hne y hy
      have hyx := hlx y hy
      have hy' := hPl y hy
      cases hex : c e x with
      | lt => exact absurd hex hne
      | eq =>
        -- e ties with x, so it compares with y as x does
        have h1 := hc.eq_congr e x y he hx hy' hex
        rw [h1, hc.swap y x hy' hx, hyx]; rfl
      | gt =>
        have hxe : c x e = .lt := by rw [hc.swap e x he hx, hex]; rfl
        have := hc.trans_lt y x e hy' hx he hyx hxe
        rw [hc.swap y e hy' he, this]; rfl
    simp only [insert, inorder_balanceInsert, inorder]
    cases hex : c e x with
    | lt =>
      simp only [inorder, ihl hPl hsl]
      exact (tins_append_lt c e x _ _ hex).symm
    | eq => simp only [inorder, tins_append_of_gt c e _ _ (hbelow (by rw [hex]; decide)), tins, hex]
    | gt => simp only [inorder, ihr hPr hsr, tins_append_of_gt c e _ _ (hbelow (by rw [hex]; decide)), tins, hex]

theorem Insert_inorder {P : ρ → Prop} {c : Cmp ρ} (hc : WeakOrdOn P c) (e : ρ) (he : P e) (t : LL ρ)
    (hP : ∀ y ∈ inorder t, P y) (hs : Sorted c (inorder t)) : inorder (Insert c e t) = tins c e (inorder t) := by
  unfold Insert; rw [inorder_setBlack]; exact insert_inorder hc e he t hP hs

end LL

end StorageModel.Query
