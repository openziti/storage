import StorageModel.Query.BoltProofs
/-
  Which sort fields a bolt store accepts, and with which error it refuses the others.

  Two different symbol tables are consulted on the way of a sort field:

    * `ast.Parse` types the field through `Store.GetSymbolType` = `BaseStore.GetSymbol(name)`, which
      resolves registered symbols, **map elements** (`tags.k`, any depth) and **composite symbols
      through linked stores** (`owner.label`, `owner.id`) — `getSymbol` below;
    * `newRowComparator` looks the field up in `store.symbols` alone (`resolveSort`,
      Query/Compare.lean), where a dotted name is never found.

  So `sort by tags.k` and `sort by owner.label` parse, and then fail in the sorting scanner with
  "no such sort field" — unless `id` is the first sort field: `NewScanner` then picks the index
  scanner, which never builds a comparator (`index_scanner_needs_no_comparator`).

  At the end: what `IsSet` of a bolt store and of an object store answers the `SymbolValidator` for a set function
  `fn(sym)` (`set_function_rejected`, C19's remark that set functions are outside the class it compares).
-/
namespace StorageModel.Query
open StorageModel

/-- a store's symbol tables as `GetSymbol` consults them -/
structure SymTables where
  /-- `store.symbols`: what `AddSymbol`, `AddFkSymbol`, `AddSetSymbol`, `AddIdSymbol`, `GrantSymbols` registered -/
  symbols : Schema
  /-- `store.mapSymbols` (`AddMapSymbol`): key ↦ declared element type -/
  maps : List (String × SymType)
  /-- symbols with a linked store (`AddFkSymbol`, `AddFkSetSymbol`): symbol name ↦ name of that store -/
  links : List (String × String)
  deriving Inhabited

abbrev Stores := List (String × SymTables)

def dotted (parts : List String) : String := ".".intercalate parts

/-- `strings.Split(name, ".")` (structural, so that closed instances reduce) -/
def splitDotsAux : List Char → List Char → List (List Char)
  | acc, [] => [acc.reverse]
  | acc, c :: t => if c = '.' then acc.reverse :: splitDotsAux [] t else splitDotsAux (c :: acc) t

def splitDots (name : String) : List String := (splitDotsAux [] name.toList).map String.ofList

/-- `BaseStore.GetSymbol(name)` for `name = parts` joined by dots: type and set-ness of the symbol it
    returns.  A registered name wins; otherwise a map key in front makes an element symbol of the
    map's type, and a linked symbol in front makes a composite symbol of the type of the rest (set
    as soon as one link is a set). -/
def getSymbol (stores : Stores) : String → List String → Option SymInfo
  | _, [] => none
  | sn, p :: rest =>
    match stores.lookup sn with
    | none => none
    | some st =>
      match st.symbols.lookup (dotted (p :: rest)) with
      | some info => some info
      | none =>
        match rest with
        | [] => none
        | _ :: _ =>
          match st.maps.lookup p with
          | some ty => some ⟨ty, false⟩                    -- mapSymbol.createElementSymbol
          | none =>
            match st.symbols.lookup p, st.links.lookup p with
            | some first, some linked =>
              (getSymbol stores linked rest).map fun r => ⟨r.ty, first.isSet || r.isSet⟩
            | _, _ => none

/-- the symbol validation `ast.Parse` applies to a sort field: the symbol must resolve and must not
    be a set -/
def sortFieldParses (stores : Stores) (store : String) (f : SortField) : Bool :=
  match getSymbol stores store (splitDots f.name) with
  | some info => !info.isSet
  | none => false

/-- no registered symbol name contains a dot (true of every store built with the `Add…Symbol` calls
    and plain names) -/
def PlainNames (schema : Schema) : Prop := ∀ p ∈ schema, (splitDots p.1).length = 1

theorem dotted_field_noSuchField {schema : Schema} (hp : PlainNames schema) (f : SortField)
    (hd : (splitDots f.name).length ≠ 1) : fieldErr schema f = some .noSuchField := by
  unfold fieldErr
  cases hl : schema.lookup f.name with
  | none => rfl
  | some info =>
    obtain ⟨pre, post, hs, -⟩ := List.lookup_eq_some_iff.1 hl
    -- by `rw`: transporting the membership along `hs` with `▸` is very slow to check over `String` keys
    have hm : (f.name, info) ∈ schema := by rw [hs]; exact List.mem_append_right pre (List.mem_cons_self ..)
    exact absurd (hp _ hm) hd

/-- the index scanner never asks for a comparator: with `id` first (or no sort field) the query
    is answered — in id order — whatever the remaining sort fields are -/
theorem index_scanner_needs_no_comparator (pf : PagingFacts) (st : BoltStore) (q : Query) (fwd : Bool)
    (hs : newScanner q.sort = .index fwd) (sort' : List SortField) (hs' : newScanner sort' = .index fwd) :
    queryIdsC pf st q = queryIdsC pf st { q with sort := sort' } := by
  simp only [queryIdsC, scanCursor, hs, hs']

/-- `SymbolValidator` on `fn(sym)` (`VisitUntypedSymbolNode` inside the set function: not found → unknown
    symbol; `VisitSetFunctionNodeEnd`: found and not a set → "is not a set symbol"), given what
    `IsSet(sym)` answered -/
def setFunctionAccepted (isSetAnswer : Bool × Bool) : Bool := isSetAnswer.2 && isSetAnswer.1

/-- `BaseStore.IsSet(name)` -/
def boltIsSet (schema : Schema) (name : String) : Bool × Bool :=
  match schema.lookup name with
  | some info => (info.isSet, true)
  | none => (false, false)

/-- `ObjectStore.IsSet(name)`: `return false, true`, whatever the name -/
def objIsSet (_name : String) : Bool × Bool := (false, true)

theorem set_function_rejected (schema : Schema) (name : String)
    (h : ∀ info, schema.lookup name = some info → info.isSet = false) :
    setFunctionAccepted (boltIsSet schema name) = false ∧ setFunctionAccepted (objIsSet name) = false := by
  refine ⟨?_, rfl⟩
  unfold boltIsSet setFunctionAccepted
  cases hl : schema.lookup name with
  | none => rfl
  | some info => simp [h info hl]

end StorageModel.Query
