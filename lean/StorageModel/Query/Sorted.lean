import StorageModel.Query.Order
/-
  The llrb result tree of the sorting scanners, seen through its in-order walk: a list that is strictly sorted under the
  row comparator (`tins` = llrb.Tree.Insert, which replaces an element that compares equal; `dropLast` = DeleteMax), and
  the specification-side sort, which never drops anything.  `tins_take` is what makes the bounded tree work.
  A sorted list is determined by its rows (`sorted_ext`): the walk after any insertions is the `sort` of what went in.
-/
namespace StorageModel.Query

variable {ρ : Type}

/-- llrb `Insert` on the in-order list -/
def tins (c : Cmp ρ) (x : ρ) : List ρ → List ρ
  | [] => [x]
  | y :: t =>
    match c x y with
    | .lt => x :: y :: t
    | .eq => x :: t
    | .gt => y :: tins c x t

/-- specification-side ordered insert: never replaces -/
def oins (c : Cmp ρ) (x : ρ) : List ρ → List ρ
  | [] => [x]
  | y :: t =>
    match c x y with
    | .gt => y :: oins c x t
    | _ => x :: y :: t

def sort (c : Cmp ρ) (xs : List ρ) : List ρ := xs.foldr (oins c) []

def Sorted (c : Cmp ρ) (l : List ρ) : Prop := l.Pairwise (fun a b => c a b = .lt)

theorem tins_take (c : Cmp ρ) (x : ρ) (l : List ρ) (k : Nat) :
    (tins c x (l.take k)).take k = (tins c x l).take k := by
  induction l generalizing k with
  | nil => simp
  | cons y t ih =>
    cases k with
    | zero => simp
    | succ k =>
      simp only [List.take_succ_cons, tins]
      cases c x y with
      | lt =>
        simp only [List.take_succ_cons]
        congr 1
        cases k with
        | zero => simp
        | succ k => simp [List.take_take]
      | eq => simp [List.take_take]
      | gt => simp only [List.take_succ_cons, ih]

theorem bounded_fold (c : Cmp ρ) (K : Nat) (t : List ρ) (xs : List ρ) :
    xs.foldl (fun t x => (tins c x t).take K) (t.take K) = (xs.foldl (fun t x => tins c x t) t).take K := by
  induction xs generalizing t with
  | nil => rfl
  | cons x xs ih =>
    simp only [List.foldl_cons]
    rw [tins_take, ih]

theorem mem_tins {c : Cmp ρ} {x z : ρ} {l : List ρ} (h : z ∈ tins c x l) : z = x ∨ z ∈ l := by
  induction l with
  | nil => exact .inl (List.mem_singleton.1 h)
  | cons y t ih =>
    simp only [tins] at h
    split at h
    · exact List.mem_cons.1 h
    · exact (List.mem_cons.1 h).imp_right (List.mem_cons_of_mem y)
    · rcases List.mem_cons.1 h with rfl | h
      · exact .inr (List.mem_cons_self ..)
      · exact (ih h).imp_right (List.mem_cons_of_mem y)

theorem tins_eq_oins {c : Cmp ρ} {x : ρ} {l : List ρ} (h : ∀ y ∈ l, c x y ≠ .eq) : tins c x l = oins c x l := by
  induction l with
  | nil => rfl
  | cons y t ih =>
    have hy := h y (List.mem_cons_self ..)
    simp only [tins, oins]
    cases hc : c x y with
    | lt => rfl
    | eq => exact absurd hc hy
    | gt => simp only; rw [ih fun z hz => h z (List.mem_cons_of_mem _ hz)]

theorem tins_append_lt (c : Cmp ρ) (e x : ρ) (l r : List ρ) (h : c e x = .lt) :
    tins c e (l ++ x :: r) = tins c e l ++ x :: r := by
  induction l with
  | nil => simp [tins, h]
  | cons y t ih =>
    simp only [List.cons_append, tins]
    cases c e y <;> simp [ih]

theorem tins_append_of_gt (c : Cmp ρ) (e : ρ) (l r : List ρ) (hl : ∀ y ∈ l, c e y = .gt) :
    tins c e (l ++ r) = l ++ tins c e r := by
  induction l with
  | nil => rfl
  | cons y t ih =>
    simp only [List.cons_append, tins, hl y (List.mem_cons_self ..)]
    rw [ih (fun z hz => hl z (List.mem_cons_of_mem _ hz))]

theorem oins_perm (c : Cmp ρ) (x : ρ) (l : List ρ) : (oins c x l).Perm (x :: l) := by
  induction l with
  | nil => exact .refl _
  | cons y t ih =>
    simp only [oins]
    split
    · exact ((List.Perm.cons y ih).trans (List.Perm.swap x y t))
    · exact .refl _

theorem length_tins_noTie {c : Cmp ρ} {x : ρ} {l : List ρ} (h : ∀ y ∈ l, c x y ≠ .eq) :
    (tins c x l).length = l.length + 1 := by
  rw [tins_eq_oins h, (oins_perm c x l).length_eq]; rfl

theorem sort_perm (c : Cmp ρ) (xs : List ρ) : (sort c xs).Perm xs := by
  induction xs with
  | nil => exact .refl _
  | cons x xs ih =>
    show (oins c x (sort c xs)).Perm (x :: xs)
    exact (oins_perm c x _).trans (List.Perm.cons x ih)

theorem length_sort (c : Cmp ρ) (xs : List ρ) : (sort c xs).length = xs.length := (sort_perm c xs).length_eq

/-- the row that ties with the new one is replaced by it, and the new row stands to the others as the replaced one did -/
theorem tins_sorted {P : ρ → Prop} {c : Cmp ρ} (hc : WeakOrdOn P c) {x : ρ} {l : List ρ}
    (hx : P x) (hl : ∀ y ∈ l, P y) (hs : Sorted c l) : Sorted c (tins c x l) := by
  induction l with
  | nil => simp [tins, Sorted]
  | cons y t ih =>
    have hy := hl y (List.mem_cons_self ..)
    have ht : ∀ z ∈ t, P z := fun z hz => hl z (List.mem_cons_of_mem _ hz)
    obtain ⟨hyt, hs'⟩ := List.pairwise_cons.1 hs
    simp only [tins]
    cases hxy : c x y with
    | lt =>
      refine List.pairwise_cons.2 ⟨fun z hz => ?_, hs⟩
      rcases List.mem_cons.1 hz with rfl | hz
      · exact hxy
      · exact hc.trans_lt x y z hx hy (ht z hz) hxy (hyt z hz)
    | eq => exact List.pairwise_cons.2 ⟨fun z hz => hc.eq_congr x y z hx hy (ht z hz) hxy ▸ hyt z hz, hs'⟩
    | gt =>
      refine List.pairwise_cons.2 ⟨fun z hz => ?_, ih ht hs'⟩
      rcases mem_tins hz with rfl | hz
      · rw [hc.swap z y hx hy, hxy]; rfl
      · exact hyt z hz

theorem mem_tins_iff {P : ρ → Prop} {c : Cmp ρ} (hc : StrictTotalOn P c) {x : ρ} {l : List ρ}
    (hx : P x) (hl : ∀ y ∈ l, P y) (z : ρ) : z ∈ tins c x l ↔ z = x ∨ z ∈ l := by
  induction l with
  | nil => simp [tins]
  | cons y t ih =>
    have ih := ih fun z hz => hl z (List.mem_cons_of_mem _ hz)
    simp only [tins]
    cases hxy : c x y with
    | lt => simp
    | eq => cases hc.eq_imp x y hx (hl y (List.mem_cons_self ..)) hxy; simp
    | gt => simp only [List.mem_cons, ih]; exact or_left_comm

theorem foldl_tins_sorted_mem {P : ρ → Prop} {c : Cmp ρ} (hc : StrictTotalOn P c) :
    ∀ (xs t : List ρ), (∀ a ∈ xs, P a) → (∀ a ∈ t, P a) → Sorted c t →
      Sorted c (xs.foldl (fun t x => tins c x t) t) ∧ ∀ z, z ∈ xs.foldl (fun t x => tins c x t) t ↔ z ∈ xs ∨ z ∈ t := by
  intro xs
  induction xs with
  | nil => intro t _ _ hs; simp [hs]
  | cons x xs ih =>
    intro t hxs ht hs
    have hx := hxs x (List.mem_cons_self ..)
    have hm := mem_tins_iff hc hx ht
    obtain ⟨i1, i2⟩ := ih (tins c x t) (fun a ha => hxs a (List.mem_cons_of_mem _ ha))
      (fun a ha => ((hm a).1 ha).elim (· ▸ hx) (ht a)) (tins_sorted hc.toWeakOrdOn hx ht hs)
    refine ⟨i1, fun z => ?_⟩
    simp only [List.foldl_cons, i2 z, hm z, List.mem_cons]
    exact or_left_comm.trans or_assoc.symm

theorem sorted_nodup {P : ρ → Prop} {c : Cmp ρ} (hc : WeakOrdOn P c) {l : List ρ} (hP : ∀ a ∈ l, P a)
    (hs : Sorted c l) : l.Nodup :=
  List.Pairwise.imp_of_mem (fun {a b} ha _ hab e => by rw [← e, hc.refl a (hP a ha)] at hab; cases hab) hs

theorem sorted_ext {P : ρ → Prop} {c : Cmp ρ} (hc : WeakOrdOn P c) {l1 l2 : List ρ} (hP : ∀ a ∈ l1, P a)
    (h1 : Sorted c l1) (h2 : Sorted c l2) (hm : ∀ a, a ∈ l1 ↔ a ∈ l2) : l1 = l2 := by
  have hP2 : ∀ a ∈ l2, P a := fun a ha => hP a ((hm a).2 ha)
  refine List.Perm.eq_of_pairwise (le := fun a b => c a b = .lt) (fun a b ha hb hab hba => ?_) h1 h2
    ((List.perm_ext_iff_of_nodup (sorted_nodup hc hP h1) (sorted_nodup hc hP2 h2)).2 hm)
  rw [hc.swap a b (hP a ha) (hP2 b hb), hab] at hba
  cases hba

theorem sort_sorted {P : ρ → Prop} {c : Cmp ρ} (hc : StrictTotalOn P c) {xs : List ρ}
    (hP : ∀ a ∈ xs, P a) (hnd : xs.Nodup) : Sorted c (sort c xs) := by
  induction xs with
  | nil => simp [sort, Sorted]
  | cons x xs ih =>
    have hnd' := List.nodup_cons.1 hnd
    have hx := hP x (List.mem_cons_self ..)
    have hPs : ∀ y ∈ sort c xs, P y := fun y hy => hP y (List.mem_cons_of_mem _ ((sort_perm c xs).subset hy))
    show Sorted c (oins c x (sort c xs))
    -- no row of the tail ties with `x`, so the specification's insert is the tree's
    rw [← tins_eq_oins fun y hy heq => hnd'.1 (hc.eq_imp x y hx (hPs y hy) heq ▸ (sort_perm c xs).subset hy)]
    exact tins_sorted hc.toWeakOrdOn hx hPs (ih (fun a ha => hP a (List.mem_cons_of_mem _ ha)) hnd'.2)

/-- the specification does not depend on how the sorting is done -/
theorem sort_unique {P : ρ → Prop} {c : Cmp ρ} (hc : StrictTotalOn P c) {xs l : List ρ}
    (hP : ∀ a ∈ xs, P a) (hperm : l.Perm xs) (hs : Sorted c l) : l = sort c xs :=
  have hPl : ∀ a ∈ l, P a := fun a ha => hP a (hperm.subset ha)
  sorted_ext hc.toWeakOrdOn hPl hs (sort_sorted hc hP (hperm.nodup_iff.1 (sorted_nodup hc.toWeakOrdOn hPl hs)))
    fun _ => (hperm.trans (sort_perm c xs).symm).mem_iff

theorem foldl_tins_eq_sort {P : ρ → Prop} {c : Cmp ρ} (hc : StrictTotalOn P c) {xs : List ρ}
    (hP : ∀ a ∈ xs, P a) (hnd : xs.Nodup) :
    xs.foldl (fun t x => tins c x t) [] = sort c xs := by
  obtain ⟨hs, hm⟩ := foldl_tins_sorted_mem hc xs [] hP (fun _ h => nomatch h) List.Pairwise.nil
  have hP' : ∀ a ∈ xs.foldl (fun t x => tins c x t) [], P a := fun a ha => hP a (((hm a).1 ha).resolve_right (fun h => nomatch h))
  refine sort_unique hc hP ?_ hs
  exact (List.perm_ext_iff_of_nodup (sorted_nodup hc.toWeakOrdOn hP' hs) hnd).2 fun a => by simp [hm a]

end StorageModel.Query
