import StorageModel.Query.Compare
/-
  `float64(int64)` (Query/Compare.lean `intToF64Bits`: round to nearest, ties to even) never inverts
  an order: the float64 keys of integers a ≤ b compare ≤.  So a float64 symbol over int-stored
  fields sorts them numerically; integers that round to the same float64 tie and fall to the next
  sort field / the id.
-/
namespace StorageModel.Query

theorem log2_mono {a b : Nat} (ha : a ≠ 0) (h : a ≤ b) : a.log2 ≤ b.log2 := by
  have h1 := Nat.log2_self_le ha
  have h2 := Nat.lt_log2_self (n := b)
  have : 2 ^ a.log2 < 2 ^ (b.log2 + 1) := by omega
  have := (Nat.pow_lt_pow_iff_right (by decide : 1 < 2)).1 this
  omega

/-- `n / d` rounded to nearest, ties to even (`half = d / 2`) -/
def rne (n d half : Nat) : Nat :=
  if n % d > half ∨ (n % d = half ∧ n / d % 2 = 1) then n / d + 1 else n / d

theorem rne_bounds (n d half : Nat) : n / d ≤ rne n d half ∧ rne n d half ≤ n / d + 1 := by
  unfold rne; split <;> omega

theorem rne_mono {a b d : Nat} (half : Nat) (h : a ≤ b) : rne a d half ≤ rne b d half := by
  by_cases hq : a / d = b / d
  · -- same quotient: the remainders are ordered, so rounding `a` up forces rounding `b` up
    have hr : a % d ≤ b % d := by
      have ha := Nat.div_add_mod a d
      have hb := Nat.div_add_mod b d
      rw [hq] at ha
      omega
    unfold rne
    rw [hq]
    split <;> split <;> omega
  · have : a / d + 1 ≤ b / d := by have := Nat.div_le_div_right (c := d) h; omega
    exact Nat.le_trans (rne_bounds a d half).2 (Nat.le_trans this (rne_bounds b d half).1)

/-- the mantissa (with the hidden bit, in [2^52, 2^53]) the conversion gives `n` -/
def mant (n : Nat) : Nat :=
  if n.log2 ≤ 52 then n * 2 ^ (52 - n.log2) else rne n (2 ^ (n.log2 - 52)) (2 ^ (n.log2 - 52 - 1))

theorem pow_split {k m : Nat} (h : k ≤ m) : 2 ^ k * 2 ^ (m - k) = 2 ^ m := by
  rw [← Nat.pow_add, Nat.add_sub_cancel' h]

theorem mant_range {n : Nat} (h : n ≠ 0) : 2 ^ 52 ≤ mant n ∧ mant n ≤ 2 ^ 53 := by
  have h1 := Nat.log2_self_le h
  have h2 := Nat.lt_log2_self (n := n)
  unfold mant
  split
  · next he =>
    constructor
    · rw [← pow_split he]; exact Nat.mul_le_mul_right _ h1
    · have e : 2 ^ (n.log2 + 1) * 2 ^ (52 - n.log2) = 2 ^ 53 := by
        rw [show 52 - n.log2 = 53 - (n.log2 + 1) by omega]; exact pow_split (by omega)
      rw [← e]; exact Nat.le_of_lt (Nat.mul_lt_mul_of_pos_right h2 (Nat.pow_pos Nat.zero_lt_two))
  · next he =>
    have he' : 52 ≤ n.log2 := Nat.le_of_lt (Nat.not_le.1 he)
    have hp : 0 < 2 ^ (n.log2 - 52) := Nat.pow_pos (by decide)
    have q1 : 2 ^ 52 ≤ n / 2 ^ (n.log2 - 52) := by
      rw [Nat.le_div_iff_mul_le hp, pow_split he']; exact h1
    have q2 : n / 2 ^ (n.log2 - 52) < 2 ^ 53 := by
      rw [Nat.div_lt_iff_lt_mul hp, show n.log2 - 52 = n.log2 + 1 - 53 by omega, pow_split (by omega)]; exact h2
    have := rne_bounds n (2 ^ (n.log2 - 52)) (2 ^ (n.log2 - 52 - 1))
    exact ⟨Nat.le_trans q1 this.1, Nat.le_trans this.2 q2⟩

theorem natToF64Mag_eq {n : Nat} (h : n ≠ 0) : natToF64Mag n = (n.log2 + 1022) * 2 ^ 52 + mant n := by
  have hm := (mant_range h).1
  unfold natToF64Mag mant rne at *
  simp only [h, if_false] at *
  split
  · next he => simp only [he, if_true] at hm ⊢; omega
  · next he => simp only [he, if_false] at hm ⊢; omega

theorem mant_mono_same {a b : Nat} (he : a.log2 = b.log2) (h : a ≤ b) : mant a ≤ mant b := by
  unfold mant
  rw [he]
  split
  · exact Nat.mul_le_mul_right _ h
  · exact rne_mono _ h

theorem natToF64Mag_mono {a b : Nat} (h : a ≤ b) : natToF64Mag a ≤ natToF64Mag b := by
  by_cases ha : a = 0
  · subst ha; simp [natToF64Mag]
  · have hb : b ≠ 0 := by omega
    rw [natToF64Mag_eq ha, natToF64Mag_eq hb]
    have hl := log2_mono ha h
    have ra := mant_range ha
    have rb := mant_range hb
    by_cases he : a.log2 = b.log2
    · have := mant_mono_same he h
      rw [he]; omega
    · have hlt : a.log2 + 1 ≤ b.log2 := by omega
      omega

theorem clampInf_mono {a b : Nat} (h : a ≤ b) : clampInf a ≤ clampInf b := by
  unfold clampInf f64Inf; split <;> split <;> omega

theorem fOrd_intToF64Bits (v : Int) :
    fOrd (intToF64Bits v) =
      if v < 0 then -(clampInf (natToF64Mag v.natAbs) : Int) else clampInf (natToF64Mag v.natAbs) := by
  have := clampInf_le (natToF64Mag v.natAbs)
  unfold f64Inf at this
  unfold intToF64Bits fOrd
  split
  · rw [if_pos (by omega)]; omega
  · rw [if_neg (by omega)]; omega

theorem intToF64Bits_mono {a b : Int} (h : a ≤ b) : fOrd (intToF64Bits a) ≤ fOrd (intToF64Bits b) := by
  rw [fOrd_intToF64Bits, fOrd_intToF64Bits]
  by_cases ha : a < 0 <;> by_cases hb : b < 0 <;> simp only [ha, hb, if_true, if_false]
  · have := clampInf_mono (natToF64Mag_mono (show b.natAbs ≤ a.natAbs by omega)); omega
  · omega
  · omega
  · have := clampInf_mono (natToF64Mag_mono (show a.natAbs ≤ b.natAbs by omega)); omega

end StorageModel.Query
