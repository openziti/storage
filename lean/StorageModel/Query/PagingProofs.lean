import StorageModel.Query.Paging
import StorageModel.Query.Spec
/-
  Refinement lemmas: each scanner of Query/Paging.lean, run with the expected paging arithmetic,
  computes `page` / `total` of Query/Spec.lean.  The property theorems in Properties/C02.lean and
  Properties/C19.lean are instances of these.
-/
namespace StorageModel.Query

variable {ρ : Type}

/-- the query's skip and limit are int64 values -/
def Paging.InRange (q : Paging) : Prop :=
  (∀ s, q.skip = some s → InI64 s) ∧ (∀ l, q.limit = some l → InI64 l)

/-- what `setPaging` computes, in one line each -/
def targetOf (q : Paging) : Target :=
  ⟨max (q.skip.getD 0) 0, match q.limit with | none => maxI64 | some l => if l < 0 then maxI64 else l⟩

/-- a negative skip stays in the query object as it is: only the scanner's copy is clamped -/
theorem setPaging_expected (q : Paging) :
    setPaging expectedPaging q = (⟨some (q.skip.getD 0), some (targetOf q).limit⟩, targetOf q) := by
  rcases q with ⟨skip, limit⟩
  have hoff : ∀ s : Int, (if s < 0 then 0 else s) = max s 0 := fun s => by omega
  cases limit with
  | none =>
    cases skip <;> simp only [setPaging, targetOf, expectedPaging, Option.getD, Bool.true_and, decide_eq_true_eq, hoff]
  | some l =>
    by_cases h : l < 0 <;> cases skip <;>
      simp only [setPaging, targetOf, expectedPaging, Option.getD, Bool.true_and, decide_eq_true_eq, hoff, h, if_true,
        if_false]

theorem setPaging_target (q : Paging) : (setPaging expectedPaging q).2 = targetOf q := by
  rw [setPaging_expected]

theorem setPaging_writeback (q : Paging) :
    (setPaging expectedPaging q).1 = ⟨some (q.skip.getD 0), some (targetOf q).limit⟩ := by
  rw [setPaging_expected]

theorem targetOf_writeback (q : Paging) : targetOf (setPaging expectedPaging q).1 = targetOf q := by
  rcases q with ⟨skip, limit⟩
  simp only [setPaging_writeback, targetOf, Option.getD_some, Target.mk.injEq, true_and]
  cases limit with
  | none => rfl
  | some l => by_cases h : l < 0 <;> simp [h, maxI64]

theorem setPaging_idempotent (q : Paging) :
    setPaging expectedPaging (setPaging expectedPaging q).1 = setPaging expectedPaging q := by
  rw [setPaging_expected (setPaging expectedPaging q).1, targetOf_writeback, setPaging_expected]
  rfl

theorem targetOf_setSkip {p p' : Paging} (h : targetOf p = targetOf p') (v : Int) :
    targetOf { p with skip := some v } = targetOf { p' with skip := some v } :=
  congrArg (Target.mk (max v 0)) (congrArg Target.limit h)

theorem targetOf_setLimit {p p' : Paging} (h : targetOf p = targetOf p') (v : Int) :
    targetOf { p with limit := some v } = targetOf { p' with limit := some v } :=
  congrArg (Target.mk · (if v < 0 then maxI64 else v)) (congrArg Target.offset h)

theorem inRange_setSkip {p : Paging} (h : p.InRange) {v : Int} (hv : InI64 v) : Paging.InRange { p with skip := some v } :=
  ⟨fun _ hs => Option.some.inj hs ▸ hv, h.2⟩

theorem inRange_setLimit {p : Paging} (h : p.InRange) {v : Int} (hv : InI64 v) : Paging.InRange { p with limit := some v } :=
  ⟨h.1, fun _ hl => Option.some.inj hl ▸ hv⟩

theorem targetOf_range {q : Paging} (h : q.InRange) :
    0 ≤ (targetOf q).offset ∧ (targetOf q).offset ≤ maxI64 ∧ 0 ≤ (targetOf q).limit ∧ (targetOf q).limit ≤ maxI64 := by
  rcases q with ⟨skip, limit⟩
  obtain ⟨hs, hl⟩ := h
  simp only [targetOf]
  refine ⟨by omega, ?_, ?_, ?_⟩
  · cases skip with
    | none => simp [maxI64]
    | some s => have := hs s rfl; simp only [InI64, maxI64, minI64, Option.getD] at *; omega
  · cases limit with
    | none => simp [maxI64]
    | some l => by_cases h : l < 0 <;> simp [h, maxI64]; omega
  · cases limit with
    | none => simp
    | some l => have := hl l rfl; by_cases h : l < 0 <;> simp [h]; simp only [InI64, maxI64, minI64] at *; omega

theorem inRange_writeback {q : Paging} (h : q.InRange) : (setPaging expectedPaging q).1.InRange := by
  obtain ⟨-, -, r3, r4⟩ := targetOf_range h
  rw [setPaging_writeback]
  refine ⟨fun s hs => ?_, fun l hl => ?_⟩
  · cases Option.some.inj hs
    cases hsk : q.skip with
    | none => exact ⟨by decide, by decide⟩
    | some s => exact h.1 s hsk
  · cases Option.some.inj hl
    exact ⟨Int.le_trans (by decide) r3, r4⟩

theorem page_eq_target (c : Cmp ρ) (q : Paging) (xs : List ρ) (hlen : (xs.length : Int) ≤ maxI64) :
    page c q.skip q.limit xs = ((sort c xs).drop (targetOf q).offset.toNat).take (targetOf q).limit.toNat := by
  rcases q with ⟨skip, limit⟩
  have hl : (sort c xs).length = xs.length := length_sort c xs
  simp only [page, skipRows, targetOf]
  cases limit with
  | none =>
    simp only [limitRows]
    rw [List.take_of_length_le]
    simp only [List.length_drop, hl]; omega
  | some l =>
    by_cases h : l < 0
    · simp only [limitRows, h, if_true]
      rw [List.take_of_length_le]
      simp only [List.length_drop, hl]; omega
    · simp [limitRows, h]

theorem page_nil (c : Cmp ρ) (skip limit : Option Int) : page c skip limit [] = [] := by
  unfold page
  cases limitRows limit <;> simp [sort]

theorem matching_cons_pos {env : ScanEnv ρ} {x : ρ} (h : env.admits x = true) (rest : List ρ) :
    matching env (x :: rest) = x :: matching env rest := List.filter_cons_of_pos h

theorem matching_cons_neg {env : ScanEnv ρ} {x : ρ} (h : ¬ env.admits x = true) (rest : List ρ) :
    matching env (x :: rest) = matching env rest := List.filter_cons_of_neg h

theorem matching_length_le (env : ScanEnv ρ) {l : List ρ} {m : Int} (h : (l.length : Int) ≤ m) :
    ((matching env l).length : Int) ≤ m :=
  Int.le_trans (Int.ofNat_le.2 (List.length_filter_le ..)) h

theorem matching_reverse (env : ScanEnv ρ) (l : List ρ) :
    matching env l.reverse = (matching env l).reverse := by
  simp [matching, List.filter_reverse]

theorem matching_perm (env : ScanEnv ρ) {l l' : List ρ} (h : l.Perm l') :
    (matching env l).Perm (matching env l') := h.filter _

theorem foldl_count {σ : Type} (count : σ → Int) (body : σ → ρ → σ) (hb : ∀ st x, count (body st x) = add64 (count st) 1) :
    ∀ (xs : List ρ) (st : σ), 0 ≤ count st → count st + (xs.length : Int) ≤ maxI64 →
      count (xs.foldl body st) = count st + xs.length := by
  intro xs
  induction xs with
  | nil => intros; simp
  | cons x xs ih =>
    intro st h0 hl
    simp only [List.length_cons, Int.natCast_add, Int.natCast_one] at hl ⊢
    have hc : count (body st x) = count st + 1 := by rw [hb, add64_succ h0 (by omega)]
    rw [List.foldl_cons, ih _ (by omega) (by omega), hc]; omega

theorem nextGo_all (tg : Target) (env : ScanEnv ρ) (all rest : List ρ) (off col : Int) :
    (nextGo tg env all rest off col).all = all := by
  induction rest generalizing off col with
  | nil => rfl
  | cons x rest ih =>
    simp only [nextGo]
    split
    · rfl
    · split
      · split
        · exact ih _ _
        · rfl
      · exact ih _ _

theorem drain_next_spec (tg : Target) (env : ScanEnv ρ) (all : List ρ)
    (h1 : tg.offset ≤ maxI64) (h2 : tg.limit ≤ maxI64) :
    ∀ (rest : List ρ) (off col : Int) (fuel : Nat), 0 ≤ off → 0 ≤ col → rest.length + 1 ≤ fuel →
      drain tg env fuel (nextGo tg env all rest off col) =
        ((matching env rest).drop (tg.offset - off).toNat).take (tg.limit - col).toNat := by
  intro rest
  induction rest with
  | nil =>
    intro off col fuel _ _ hf
    cases fuel with
    | zero => omega
    | succ f => simp [nextGo, drain, matching]
  | cons x rest ih =>
    intro off col fuel a1 a2 hf
    cases fuel with
    | zero => omega
    | succ f =>
      simp only [List.length_cons] at hf
      simp only [nextGo]
      by_cases hcol : col ≥ tg.limit
      · have e : (tg.limit - col).toNat = 0 := by omega
        simp [hcol, drain, e]
      · simp only [hcol, if_false]
        by_cases hx : env.admits x
        · simp only [hx, if_true, matching_cons_pos hx]
          by_cases hoff : off < tg.offset
          · have e : (tg.offset - off).toNat = (tg.offset - (off + 1)).toNat + 1 := by omega
            simp only [hoff, if_true, add64_succ a1 (by omega : off < _)]
            rw [ih (off + 1) col (f + 1) (by omega) a2 (by omega), e, List.drop_succ_cons]
          · have e0 : (tg.offset - off).toNat = 0 := by omega
            have e : (tg.limit - col).toNat = (tg.limit - (col + 1)).toNat + 1 := by omega
            simp only [hoff, if_false, add64_succ a2 (by omega : col < _), drain, PagedCursor.next]
            rw [ih off (col + 1) f a1 (by omega) (by omega), e0, e]
            rfl
        · simp only [hx, matching_cons_neg hx]
          exact ih off col (f + 1) a1 a2 (by omega)

theorem iterate_spec (env : ScanEnv ρ) (q : Paging) (cur : List ρ) (hq : q.InRange) :
    iterate expectedPaging env (some q) cur =
      ((matching env cur).drop (targetOf q).offset.toNat).take (targetOf q).limit.toNat := by
  obtain ⟨-, r2, -, r4⟩ := targetOf_range hq
  simp only [iterate, openPaged, setPaging_target, PagedCursor.next]
  rw [drain_next_spec (targetOf q) env cur r2 r4 cur 0 0 _ (by omega) (by omega) (by omega)]
  simp

theorem drain_next_unpaged (env : ScanEnv ρ) (all rest : List ρ) (off col : Int) (fuel : Nat) (ho : 0 ≤ off) (hc : 0 ≤ col)
    (hf : rest.length + 1 ≤ fuel) (hlen : col + (rest.length : Int) ≤ maxI64) :
    drain ⟨0, maxI64⟩ env fuel (nextGo ⟨0, maxI64⟩ env all rest off col) = matching env rest := by
  rw [drain_next_spec ⟨0, maxI64⟩ env all (Int.le_of_lt (by decide)) (Int.le_refl _) rest off col fuel ho hc hf]
  have e : ((0 : Int) - off).toNat = 0 := by omega
  have := matching_length_le env (Int.le_refl (rest.length : Int))
  simp only [e, List.drop_zero]
  exact List.take_of_length_le (by omega)

theorem iterate_unpaged (env : ScanEnv ρ) (cur : List ρ) (hlen : (cur.length : Int) ≤ maxI64) :
    iterate expectedPaging env none cur = matching env cur :=
  drain_next_unpaged env cur cur 0 0 _ (Int.le_refl 0) (Int.le_refl 0) (Nat.le_refl _) (by omega)

theorem seek_spec (env : ScanEnv ρ) (before : ρ → Bool) (c : PagedCursor ρ)
    (ho : 0 ≤ c.offset) (hc : 0 ≤ c.collected) (hlen : c.collected + (c.all.length : Int) ≤ maxI64) :
    drain ⟨0, maxI64⟩ env (c.all.length + 1) (c.seek ⟨0, maxI64⟩ env before) =
      matching env (c.all.dropWhile before) := by
  have hle : (c.all.dropWhile before).length ≤ c.all.length := (List.dropWhile_sublist before).length_le
  exact drain_next_unpaged env c.all (c.all.dropWhile before) c.offset c.collected _ ho hc (by omega) (by omega)

theorem idxBody_count (tg : Target) (st : IdxSt ρ) (x : ρ) : (idxBody tg st x).count = add64 st.count 1 := by
  simp only [idxBody, apply_ite IdxSt.count, ite_self]

theorem idxLoop_eq_foldl (tg : Target) (env : ScanEnv ρ) (st : IdxSt ρ) (cur : List ρ) :
    idxLoop tg env st cur = (matching env cur).foldl (idxBody tg) st := by
  induction cur generalizing st with
  | nil => rfl
  | cons x rest ih =>
    by_cases hx : env.admits x
    · simp only [idxLoop, hx, if_true, matching_cons_pos hx, List.foldl_cons, ih]
    · simp only [idxLoop, hx, matching_cons_neg hx, ih]; rfl

theorem idxLoop_count (tg : Target) (env : ScanEnv ρ) (cur : List ρ) (hlen : ((matching env cur).length : Int) ≤ maxI64) :
    (idxLoop tg env {} cur).count = (matching env cur).length := by
  rw [idxLoop_eq_foldl, foldl_count IdxSt.count _ (idxBody_count tg) _ {} (Int.le_refl 0) (by simpa using hlen)]
  exact Int.zero_add _

theorem idxLoop_result_full (tg : Target) (env : ScanEnv ρ) {col : Int} (hcol : ¬ col < tg.limit) :
    ∀ (cur : List ρ) (off cnt : Int) (res : List ρ), (idxLoop tg env ⟨off, col, cnt, res⟩ cur).result = res := by
  intro cur
  induction cur with
  | nil => intros; rfl
  | cons x rest ih =>
    intro off cnt res
    simp only [idxLoop, idxBody, hcol, if_false]
    split
    · split <;> exact ih ..
    · exact ih ..

/-- **the scan and the cursor are the same walk**: `ScanCursor` collects exactly what a caller draining
    `Next` from the same position sees -/
theorem idxLoop_result_eq_drain (tg : Target) (env : ScanEnv ρ) (all : List ρ) :
    ∀ (cur : List ρ) (off col cnt : Int) (res : List ρ) (fuel : Nat), cur.length + 1 ≤ fuel →
      (idxLoop tg env ⟨off, col, cnt, res⟩ cur).result = res ++ drain tg env fuel (nextGo tg env all cur off col) := by
  intro cur
  induction cur with
  | nil =>
    intro off col cnt res fuel hf
    cases fuel with
    | zero => omega
    | succ f => simp [idxLoop, nextGo, drain]
  | cons x rest ih =>
    intro off col cnt res fuel hf
    cases fuel with
    | zero => omega
    | succ f =>
      simp only [List.length_cons] at hf
      simp only [nextGo]
      by_cases hcol : col ≥ tg.limit
      · simp only [hcol, if_true, drain, List.append_nil]
        exact idxLoop_result_full tg env (Int.not_lt.2 hcol) ..
      · simp only [hcol, if_false, idxLoop, idxBody, Int.not_le.1 hcol, if_true]
        by_cases hx : env.admits x
        · simp only [hx, if_true]
          by_cases hoff : off < tg.offset
          · simp only [hoff, if_true]
            exact ih _ _ _ _ (f + 1) (by omega)
          · simp only [hoff, if_false, drain, PagedCursor.next]
            rw [ih _ _ _ _ f (by omega), List.append_assoc]; rfl
        · simp only [hx]
          exact ih _ _ _ _ (f + 1) (by omega)

theorem idxScan_spec (env : ScanEnv ρ) (q : Paging) (cur : List ρ) (hq : q.InRange)
    (hlen : ((matching env cur).length : Int) ≤ maxI64) :
    idxScan expectedPaging env q (some cur) =
      (((matching env cur).drop (targetOf q).offset.toNat).take (targetOf q).limit.toNat, total (matching env cur)) := by
  obtain ⟨-, r2, -, r4⟩ := targetOf_range hq
  simp only [idxScan, setPaging_target]
  rw [idxLoop_count (targetOf q) env cur hlen, show ({} : IdxSt ρ) = ⟨0, 0, 0, []⟩ from rfl,
    idxLoop_result_eq_drain (targetOf q) env cur cur 0 0 0 [] _ (Nat.le_refl _),
    drain_next_spec (targetOf q) env cur r2 r4 cur 0 0 _ (Int.le_refl 0) (Int.le_refl 0) (Nat.le_refl _)]
  simp [total]

theorem sortLoop_eq_foldl (pf : PagingFacts) (c : Cmp ρ) (env : ScanEnv ρ) (mr : Int) (st : SortSt ρ) (cur : List ρ) :
    sortLoop pf c env mr st cur = (matching env cur).foldl (sortBody pf c mr) st := by
  induction cur generalizing st with
  | nil => rfl
  | cons x rest ih =>
    by_cases hx : env.admits x
    · simp only [sortLoop, hx, if_true, matching_cons_pos hx, List.foldl_cons, ih]
    · simp only [sortLoop, hx, matching_cons_neg hx, ih]; rfl

theorem sortBody_count (pf : PagingFacts) (c : Cmp ρ) (mr : Int) (st : SortSt ρ) (x : ρ) :
    (sortBody pf c mr st x).count = add64 st.count 1 := by
  simp only [sortBody, apply_ite SortSt.count, ite_self]

theorem sortLoop_count (pf : PagingFacts) (c : Cmp ρ) (env : ScanEnv ρ) (mr : Int) (cur : List ρ)
    (hlen : ((matching env cur).length : Int) ≤ maxI64) :
    (sortLoop pf c env mr {} cur).count = (matching env cur).length := by
  rw [sortLoop_eq_foldl, foldl_count SortSt.count _ (sortBody_count pf c mr) _ {} (Int.le_refl 0) (by simpa using hlen)]
  exact Int.zero_add _

/-- **the bounded tree**: inserting each matching row, counting, and deleting the maximum once the
    count exceeds `maxResults` leaves the first `maxResults` rows of the unbounded tree.  The no-tie hypotheses keep
    `count` the length of the unbounded tree (an insertion that replaced a row would count without growing it): the
    invariant is the state `⟨t.take k, t.length⟩`. -/
theorem sortBody_fold (c : Cmp ρ) (k : Nat) :
    ∀ (xs : List ρ) (t : List ρ), (t.length : Int) + xs.length ≤ maxI64 →
      (∀ x ∈ xs, ∀ y ∈ t, c x y ≠ .eq) → xs.Pairwise (fun a b => c b a ≠ .eq) →
      (xs.foldl (sortBody expectedPaging c k) ⟨t.take k, t.length⟩).tree = (xs.foldl (fun t x => tins c x t) t).take k := by
  intro xs
  induction xs with
  | nil => intros; rfl
  | cons x xs ih =>
    intro t hlen hne hpw
    simp only [List.length_cons, Int.natCast_add, Int.natCast_one] at hlen
    have hnt : ∀ y ∈ t, c x y ≠ .eq := hne x (List.mem_cons_self ..)
    have hl1 : (tins c x t).length = t.length + 1 := length_tins_noTie hnt
    have hstep : sortBody expectedPaging c k ⟨t.take k, t.length⟩ x = ⟨(tins c x t).take k, (tins c x t).length⟩ := by
      simp only [sortBody, expectedPaging, if_true, add64_succ (Int.natCast_nonneg _) (by omega : (t.length : Int) < _), hl1,
        Int.natCast_add, Int.natCast_one]
      by_cases hev : t.length + 1 > k
      · -- the tree was full: the new maximum goes
        have hl2 : (tins c x (t.take k)).length = k + 1 := by
          rw [length_tins_noTie fun y hy => hnt y (List.mem_of_mem_take hy), List.length_take,
            Nat.min_eq_left (by omega)]
        have hev' : (t.length : Int) + 1 > k := by omega
        simp only [hev', decide_true, if_true]
        rw [List.dropLast_eq_take, hl2, ← tins_take c x t k]; rfl
      · have hev' : ¬ (t.length : Int) + 1 > k := by omega
        simp only [hev', decide_false]
        rw [List.take_of_length_le (by omega : t.length ≤ k), List.take_of_length_le (by omega : (tins c x t).length ≤ k)]
        rfl
    have hpw' := List.pairwise_cons.1 hpw
    rw [List.foldl_cons, hstep, List.foldl_cons]
    refine ih (tins c x t) (by omega) (fun x' hx' y hy => ?_) hpw'.2
    rcases mem_tins hy with rfl | hy
    · exact hpw'.1 x' hx'
    · exact hne x' (List.mem_cons_of_mem _ hx') y hy

theorem walk_eq_drop {tOff : Int} (h : tOff ≤ maxI64) :
    ∀ (t : List ρ) (n : Nat) (off : Int), 0 ≤ off → off + n = tOff → walk tOff off t = t.drop n := by
  intro t
  induction t with
  | nil => intros; simp [walk]
  | cons x t ih =>
    intro n off h0 hn
    cases n with
    | zero => rw [walk, if_neg (by omega), ih 0 off h0 hn]; rfl
    | succ n => rw [walk, if_pos (by omega), add64_succ h0 (by omega), ih n (off + 1) (by omega) (by omega)]; rfl

theorem maxResultsOf_expected {tg : Target} (h1 : 0 ≤ tg.offset) (h2 : tg.offset ≤ maxI64) (h3 : 0 ≤ tg.limit)
    (h4 : tg.limit ≤ maxI64) : maxResultsOf expectedPaging tg = min (tg.offset + tg.limit) maxI64 := by
  have := add64_nonneg_overflow h1 h3 h2 h4
  simp only [maxResultsOf, expectedPaging, Bool.true_and, decide_eq_true_eq, Int.min_def]
  split <;> split <;> omega

theorem take_drop_window (l : List ρ) {off lim : Int} (h1 : 0 ≤ off) (h2 : 0 ≤ lim) (hlen : (l.length : Int) ≤ maxI64) :
    (l.take (min (off + lim) maxI64).toNat).drop off.toNat = (l.drop off.toNat).take lim.toNat := by
  rw [List.drop_take]
  by_cases hov : off + lim ≤ maxI64
  · rw [Int.min_eq_left hov, Int.toNat_add h1 h2, Nat.add_sub_cancel_left]
  · have hd : (l.drop off.toNat).length ≤ l.length - off.toNat := by rw [List.length_drop]; exact Nat.le_refl _
    rw [Int.min_eq_right (Int.le_of_lt (Int.not_le.1 hov)), List.take_of_length_le (by omega),
      List.take_of_length_le (by omega)]

theorem sortScan_spec {P : ρ → Prop} {c : Cmp ρ} (hc : StrictTotalOn P c) (env : ScanEnv ρ) (q : Paging)
    (cur : List ρ) (hq : q.InRange) (hP : ∀ a ∈ cur, P a) (hnd : cur.Nodup)
    (hlen : ((matching env cur).length : Int) ≤ maxI64) :
    sortScan expectedPaging c env q (some cur) =
      (page c q.skip q.limit (matching env cur), total (matching env cur)) := by
  obtain ⟨r1, r2, r3, r4⟩ := targetOf_range hq
  have hPm : ∀ a ∈ matching env cur, P a := fun a ha => hP a (List.mem_filter.1 ha).1
  have hndm : (matching env cur).Nodup := hnd.sublist List.filter_sublist
  have hmr := maxResultsOf_expected r1 r2 r3 r4
  have hmr0 : 0 ≤ maxResultsOf expectedPaging (targetOf q) := by rw [hmr]; omega
  have hpw : (matching env cur).Pairwise (fun a b => c b a ≠ .eq) := by
    refine List.Pairwise.imp_of_mem ?_ hndm
    intro a b ha hb hab heq
    exact hab (hc.eq_imp b a (hPm b hb) (hPm a ha) heq).symm
  have hfold := sortBody_fold c (maxResultsOf expectedPaging (targetOf q)).toNat (matching env cur) []
    (by simpa using hlen) (by simp) hpw
  simp only [Int.toNat_of_nonneg hmr0, List.take_nil, List.length_nil, Int.natCast_zero] at hfold
  have hsort := foldl_tins_eq_sort hc hPm hndm
  simp only [sortScan, setPaging_target]
  rw [sortLoop_count _ c env _ cur hlen, sortLoop_eq_foldl, hfold, hsort,
    walk_eq_drop r2 _ (targetOf q).offset.toNat 0 (Int.le_refl 0) (by omega), page_eq_target c q _ hlen, hmr]
  simp only [total]
  rw [take_drop_window _ r1 r3 (by rw [length_sort]; exact hlen)]

end StorageModel.Query
