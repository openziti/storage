/-
  Comparators as the Go code has them (`Compare` returning -1 / 0 / 1, here `Ordering`), the
  algebra the row comparator is built from (direction flip, nulls first, first-non-zero
  chaining) and what it means for such a comparator to order a set of rows.

  `WeakOrdOn P c`   : on rows satisfying `P`, `c` is a strict weak order (ties allowed)
  `StrictTotalOn P c`: additionally a tie means the two rows are the same row
-/
namespace StorageModel.Query

abbrev Cmp (ρ : Type) := ρ → ρ → Ordering

/-- `if c.forward { return result }; return -result` -/
def dir (fwd : Bool) (o : Ordering) : Ordering := if fwd then o else o.swap

theorem dir_eq_eq {fwd : Bool} {o : Ordering} : dir fwd o = .eq ↔ o = .eq := by
  cases fwd <;> cases o <;> decide

/-- the nil tests every symbol comparator starts with: nil before non-nil -/
def nullsFirst {κ : Type} (c : κ → κ → Ordering) : Option κ → Option κ → Ordering
  | none, none => .eq
  | none, some _ => .lt
  | some _, none => .gt
  | some a, some b => c a b

/-- `rowComparatorImpl.Compare`: the first comparator with a non-zero result decides -/
def chain {ρ : Type} : List (Cmp ρ) → Cmp ρ
  | [], _, _ => .eq
  | c :: rest, a, b =>
    match c a b with
    | .eq => chain rest a b
    | r => r

theorem chain_cons_eq {ρ : Type} {c : Cmp ρ} {cs : List (Cmp ρ)} {a b : ρ} (h : c a b = .eq) :
    chain (c :: cs) a b = chain cs a b := by simp only [chain, h]

theorem chain_cons_ne {ρ : Type} {c : Cmp ρ} {cs : List (Cmp ρ)} {a b : ρ} (h : c a b ≠ .eq) :
    chain (c :: cs) a b = c a b := by
  cases hc : c a b with
  | eq => exact absurd hc h
  | lt | gt => simp only [chain, hc]

theorem chain_eq_all {ρ : Type} {cs : List (Cmp ρ)} {a b : ρ} (h : chain cs a b = .eq) : ∀ c ∈ cs, c a b = .eq := by
  induction cs with
  | nil => exact fun _ hc => absurd hc List.not_mem_nil
  | cons c rest ih =>
    have hc : c a b = .eq := Decidable.byContradiction fun hc => hc (chain_cons_ne hc ▸ h)
    rw [chain_cons_eq hc] at h
    exact List.forall_mem_cons.2 ⟨hc, ih h⟩

theorem chain_all_eq {ρ : Type} (cs : List (Cmp ρ)) (c : Cmp ρ) (a b : ρ) (h : ∀ d ∈ cs, d a b = .eq) :
    chain (cs ++ [c]) a b = c a b := by
  induction cs with
  | nil => simp only [List.nil_append, chain]; cases c a b <;> rfl
  | cons d rest ih =>
    rw [List.cons_append, chain_cons_eq (h d (List.mem_cons_self ..))]
    exact ih fun e he => h e (List.mem_cons_of_mem _ he)

theorem chain_eq_iff {ρ : Type} (cs : List (Cmp ρ)) (a b : ρ) {o : Ordering} (ho : o ≠ .eq) :
    chain cs a b = o ↔ ∃ pre c post, cs = pre ++ c :: post ∧ (∀ d ∈ pre, d a b = .eq) ∧ c a b = o := by
  induction cs with
  | nil => simp [chain]; exact fun h => ho h.symm
  | cons c rest ih =>
    by_cases hc : c a b = .eq
    · rw [chain_cons_eq hc, ih]
      constructor
      · rintro ⟨pre, d, post, rfl, h2, h3⟩
        exact ⟨c :: pre, d, post, rfl, List.forall_mem_cons.2 ⟨hc, h2⟩, h3⟩
      · rintro ⟨pre, d, post, h1, h2, h3⟩
        cases pre with
        | nil => cases h1; exact absurd (hc ▸ h3).symm ho
        | cons e pre => cases h1; exact ⟨pre, d, post, rfl, fun x hx => h2 x (List.mem_cons_of_mem _ hx), h3⟩
    · rw [chain_cons_ne hc]
      constructor
      · exact fun h => ⟨[], c, rest, rfl, fun _ hd => absurd hd List.not_mem_nil, h⟩
      · rintro ⟨pre, d, post, h1, h2, h3⟩
        cases pre with
        | nil => cases h1; exact h3
        | cons e pre => cases h1; exact absurd (h2 _ (List.mem_cons_self ..)) hc

theorem chain_map_congr {σ ρ ι : Type} (f : σ → ρ) (g' : ι → Cmp σ) (g : ι → Cmp ρ) {a b : σ} (is : List ι)
    (h : ∀ i ∈ is, g' i a b = g i (f a) (f b)) : chain (is.map g') a b = chain (is.map g) (f a) (f b) := by
  induction is with
  | nil => rfl
  | cons i is ih =>
    simp only [List.map_cons, chain, h i (List.mem_cons_self ..), ih fun j hj => h j (List.mem_cons_of_mem _ hj)]

structure WeakOrdOn {ρ : Type} (P : ρ → Prop) (c : Cmp ρ) : Prop where
  swap : ∀ a b, P a → P b → c b a = (c a b).swap
  trans_lt : ∀ a b d, P a → P b → P d → c a b = .lt → c b d = .lt → c a d = .lt
  eq_congr : ∀ a b d, P a → P b → P d → c a b = .eq → c a d = c b d

structure StrictTotalOn {ρ : Type} (P : ρ → Prop) (c : Cmp ρ) : Prop extends WeakOrdOn P c where
  eq_imp : ∀ a b, P a → P b → c a b = .eq → a = b

theorem WeakOrdOn.refl {ρ : Type} {P : ρ → Prop} {c : Cmp ρ} (h : WeakOrdOn P c) (a : ρ) (ha : P a) :
    c a a = .eq := by
  have := h.swap a a ha ha
  cases hc : c a a <;> simp_all [Ordering.swap]

theorem WeakOrdOn.mono {ρ : Type} {P Q : ρ → Prop} {c : Cmp ρ} (h : WeakOrdOn P c) (hq : ∀ a, Q a → P a) :
    WeakOrdOn Q c :=
  ⟨fun a b ha hb => h.swap a b (hq a ha) (hq b hb),
   fun a b d ha hb hd => h.trans_lt a b d (hq a ha) (hq b hb) (hq d hd),
   fun a b d ha hb hd => h.eq_congr a b d (hq a ha) (hq b hb) (hq d hd)⟩

theorem WeakOrdOn.congr {ρ : Type} {P : ρ → Prop} {c c' : Cmp ρ} (h : WeakOrdOn P c)
    (e : ∀ a b, P a → P b → c' a b = c a b) : WeakOrdOn P c' :=
  ⟨fun a b ha hb => by rw [e b a hb ha, e a b ha hb]; exact h.swap a b ha hb,
   fun a b d ha hb hd => by rw [e a b ha hb, e b d hb hd, e a d ha hd]; exact h.trans_lt a b d ha hb hd,
   fun a b d ha hb hd => by rw [e a b ha hb, e a d ha hd, e b d hb hd]; exact h.eq_congr a b d ha hb hd⟩

theorem WeakOrdOn.flip {ρ : Type} {P : ρ → Prop} {c : Cmp ρ} (h : WeakOrdOn P c) : WeakOrdOn P (fun a b => c b a) :=
  ⟨fun a b ha hb => h.swap b a hb ha, fun a b d ha hb hd h1 h2 => h.trans_lt d b a hd hb ha h2 h1,
   fun a b d ha hb hd hab => by
    show c d a = c d b
    rw [h.swap a d ha hd, h.swap b d hb hd, h.eq_congr b a d hb ha hd hab]⟩

theorem strict_flip {ρ : Type} {P : ρ → Prop} {c : Cmp ρ} (hc : StrictTotalOn P c) :
    StrictTotalOn P (fun a b => c b a) :=
  ⟨hc.toWeakOrdOn.flip, fun a b ha hb h => (hc.eq_imp b a hb ha h).symm⟩

theorem WeakOrdOn.lt_of_lt_of_eq {ρ : Type} {P : ρ → Prop} {c : Cmp ρ} (h : WeakOrdOn P c) {a b d : ρ} (ha : P a) (hb : P b)
    (hd : P d) (hab : c a b = .lt) (hbd : c b d = .eq) : c a d = .lt := by
  rw [h.swap d a hd ha, ← h.eq_congr b d a hb hd ha hbd, h.swap a b ha hb, hab]; rfl

theorem weakOrd_const {ρ : Type} (P : ρ → Prop) : WeakOrdOn P (fun _ _ => Ordering.eq) :=
  ⟨fun _ _ _ _ => rfl, fun _ _ _ _ _ _ h _ => (by cases h), fun _ _ _ _ _ _ _ => rfl⟩

theorem weakOrd_lex {ρ : Type} {P : ρ → Prop} {c1 c2 : Cmp ρ} (h1 : WeakOrdOn P c1) (h2 : WeakOrdOn P c2) :
    WeakOrdOn P (fun a b => match c1 a b with | .eq => c2 a b | r => r) := by
  refine ⟨?_, ?_, ?_⟩
  · intro a b ha hb
    simp only [h1.swap a b ha hb, h2.swap a b ha hb]
    cases c1 a b <;> rfl
  · intro a b d ha hb hd hab hbd
    -- neither first comparison says `gt`; a strict one decides, and where both tie the second comparator does
    cases e1 : c1 a b <;> cases e2 : c1 b d <;> simp only [e1, e2, reduceCtorEq] at hab hbd
    · simp only [h1.trans_lt a b d ha hb hd e1 e2]
    · simp only [h1.lt_of_lt_of_eq ha hb hd e1 e2]
    · simp only [h1.eq_congr a b d ha hb hd e1, e2]
    · simp only [h1.eq_congr a b d ha hb hd e1, e2]
      exact h2.trans_lt a b d ha hb hd hab hbd
  · intro a b d ha hb hd hab
    cases e1 : c1 a b <;> simp only [e1, reduceCtorEq] at hab
    simp only [h1.eq_congr a b d ha hb hd e1, h2.eq_congr a b d ha hb hd hab]

theorem weakOrd_chain {ρ : Type} {P : ρ → Prop} (cs : List (Cmp ρ)) (h : ∀ c ∈ cs, WeakOrdOn P c) :
    WeakOrdOn P (chain cs) := by
  induction cs with
  | nil => exact weakOrd_const P
  | cons c rest ih =>
    exact weakOrd_lex (h c (List.mem_cons_self ..)) (ih fun c' hc' => h c' (List.mem_cons_of_mem _ hc'))

/-- descending is the comparator read backwards -/
theorem weakOrd_dir {ρ : Type} {P : ρ → Prop} {c : Cmp ρ} (fwd : Bool) (h : WeakOrdOn P c) :
    WeakOrdOn P (fun a b => dir fwd (c a b)) := by
  cases fwd
  · exact h.flip.congr fun a b ha hb => (h.swap a b ha hb).symm
  · exact h.congr fun _ _ _ _ => rfl

theorem weakOrd_pullback {ρ κ : Type} {base : κ → κ → Ordering} (k : ρ → κ) (h : WeakOrdOn (fun _ => True) base) :
    WeakOrdOn (fun _ => True) (fun a b => base (k a) (k b)) :=
  ⟨fun _ _ _ _ => h.swap _ _ trivial trivial, fun _ _ _ _ _ _ => h.trans_lt _ _ _ trivial trivial trivial,
   fun _ _ _ _ _ _ => h.eq_congr _ _ _ trivial trivial trivial⟩

theorem weakOrd_nullsFirst {κ : Type} {base : κ → κ → Ordering} (h : WeakOrdOn (fun _ => True) base) :
    WeakOrdOn (fun _ => True) (nullsFirst base) := by
  refine ⟨?_, ?_, ?_⟩
  · intro a b _ _
    cases a <;> cases b <;> simp only [nullsFirst, Ordering.swap]
    exact h.swap _ _ trivial trivial
  · intro a b d _ _ _ hab hbd
    cases a <;> cases b <;> cases d <;> simp only [nullsFirst] at hab hbd ⊢ <;> try contradiction
    exact h.trans_lt _ _ _ trivial trivial trivial hab hbd
  · intro a b d _ _ _ hab
    cases a <;> cases b <;> cases d <;> simp only [nullsFirst] at hab ⊢ <;> try contradiction
    exact h.eq_congr _ _ _ trivial trivial trivial hab

/-- integer comparison as every numeric comparator writes it (`<` → -1, `>` → 1, else 0) -/
def cmpInt (a b : Int) : Ordering := if a < b then .lt else if a > b then .gt else .eq

theorem cmpInt_lt {a b : Int} : cmpInt a b = .lt ↔ a < b := by
  unfold cmpInt; repeat' split
  all_goals simp; try omega

theorem cmpInt_eq {a b : Int} : cmpInt a b = .eq ↔ a = b := by
  unfold cmpInt; repeat' split
  all_goals simp; try omega

theorem cmpInt_gt {a b : Int} : cmpInt a b = .gt ↔ b < a := by
  unfold cmpInt; repeat' split
  all_goals simp; try omega

theorem StrictTotalOn.of {κ : Type} {c : κ → κ → Ordering}
    (swap : ∀ a b, c b a = (c a b).swap) (trans : ∀ a b d, c a b = .lt → c b d = .lt → c a d = .lt)
    (eq_imp : ∀ a b, c a b = .eq → a = b) : StrictTotalOn (fun _ => True) c :=
  ⟨⟨fun a b _ _ => swap a b, fun a b d _ _ _ => trans a b d,
    fun a b d _ _ _ h => by rw [eq_imp a b h]⟩, fun a b _ _ => eq_imp a b⟩

theorem cmpInt_strict : StrictTotalOn (fun _ => True) cmpInt := by
  refine .of (fun a b => ?_) (fun a b d h1 h2 => ?_) (fun a b => cmpInt_eq.1)
  · rcases Int.lt_trichotomy a b with h | rfl | h
    · rw [cmpInt_lt.2 h, cmpInt_gt.2 h]; rfl
    · rw [cmpInt_eq.2 rfl]; rfl
    · rw [cmpInt_lt.2 h, cmpInt_gt.2 h]; rfl
  · rw [cmpInt_lt] at *; omega

end StorageModel.Query
