import StorageModel.Query.BoltProofs
/-
  C19 — histories of calls on one `objectz.ObjectStore` object (and one bolt store): the same store answers query
  after query, callers keep a parsed `ast.Query`, hand it to `QueryEntitiesC` / `QueryIdsC` of one store after the
  other with `SetSkip` / `SetLimit` in between, and the collection behind the iterator function changes.

  Between calls the code keeps (objectz/object_store.go; Query/ObjStoreFacts.lean holds what the `objstore` extractor
  reads): the store object, whose `symbols` and `iteratorF` no query writes; the caller's collection; and the parsed
  query objects the caller holds, into which every execution writes the paging defaults back (`scanner.setPaging`;
  in boltz only when the entities bucket exists).  `step` / `history` follow exactly that.  `specStep` /
  `objSpecHistory` say that no call depends on an earlier one: only what the CALLER changed evolves, and every answer
  is the stand-alone answer of the call's request on the collection as it is then.

  `Text` and `parse` are arbitrary (`ast.Parse` is the subject of C10 / C12).
-/
namespace StorageModel.Query
open StorageModel

/-! ### filters with the string functions `contains` / `icontains` (C19 only; the base fragment is Query/Filter.lean) -/

inductive StrFn where
  | contains | icontains
  deriving Repr, DecidableEq, Inhabited

inductive XFilter where
  | base (f : Filter)
  /-- `name [not] contains "v"` / `name [not] icontains "v"` over a string symbol -/
  | strFn (name : String) (fn : StrFn) (neg : Bool) (v : Bytes)
  | and (a b : XFilter)
  | or (a b : XFilter)
  | not (a : XFilter)
  deriving Repr, Inhabited

/-- `strings.ToUpper` on ASCII text -/
def upperAscii (b : Bytes) : Bytes := b.map fun c => if 97 ≤ c.toNat ∧ c.toNat ≤ 122 then c - 32 else c

/-- `strings.Contains(hay, needle)` -/
def containsBytes : Bytes → Bytes → Bool
  | [], needle => needle.isEmpty
  | h :: t, needle => needle.isPrefixOf (h :: t) || containsBytes t needle

/-- `BinaryStringExprNode.EvalBool` for the (not) contains operators with a constant on the right: a nil left operand
    answers true exactly for the negated forms; `icontains` was rewritten by `handleCaseInsensitive` into `contains` over
    `toUpper(left)` (a `StringFuncNode`: nil stays nil) and the upper-cased constant -/
def strFnOn (fn : StrFn) (neg : Bool) (l : Option Bytes) (v : Bytes) : Bool :=
  match l with
  | none => neg
  | some l =>
    match fn with
    | .contains => containsBytes l v != neg
    | .icontains => containsBytes (upperAscii l) (upperAscii v) != neg

def evalX (s : Symbols) : XFilter → Bool
  | .base f => evalFilter s f
  | .strFn name fn neg v => strFnOn fn neg (s.evalString name) v
  | .and a b => evalX s a && evalX s b
  | .or a b => evalX s a || evalX s b
  | .not a => !evalX s a

/-- **specification**: the row satisfies the filter -/
def satX (r : Row) : XFilter → Bool
  | .base f => sat r f
  | .strFn name fn neg v => strFnOn fn neg (fieldToString (evalSym name r)) v
  | .and a b => satX r a && satX r b
  | .or a b => satX r a || satX r b
  | .not a => !satX r a

theorem bolt_evalX_sat (r : Row) (f : XFilter) : evalX (boltSymbols r) f = satX r f := by
  induction f with
  | base f => exact bolt_eval_sat r f
  | strFn n fn neg v => rfl
  | and a b iha ihb => simp only [evalX, satX, iha, ihb]
  | or a b iha ihb => simp only [evalX, satX, iha, ihb]
  | not a iha => simp only [evalX, satX, iha]

def XFilter.symbols : XFilter → List String
  | .base f => f.symbols
  | .strFn n _ _ _ => [n]
  | .and a b | .or a b => a.symbols ++ b.symbols
  | .not a => a.symbols

/-- what `ast.Parse` guarantees: base atoms typed as in `FilterTyped`, string functions over string symbols -/
def XTyped (decl : List (String × SymType)) : XFilter → Prop
  | .base f => FilterTyped decl f
  | .strFn n _ _ _ => decl.lookup n = some .string
  | .and a b | .or a b => XTyped decl a ∧ XTyped decl b
  | .not a => XTyped decl a

/-- the extended filters read every symbol through the accessor of its declared type: they are inside the class
    `objectz_eq_bolt_any_filter` speaks about -/
theorem evalX_typedLocal (decl : List (String × SymType)) (f : XFilter) (hf : XTyped decl f) :
    TypedLocal decl f.symbols (fun s => evalX s f) := by
  intro s1 s2 h
  induction f with
  | base f => exact evalFilter_typedLocal decl f hf s1 s2 h
  | strFn n fn neg v =>
    have hn := h n (List.mem_singleton_self n)
    simp only [typedView, show decl.lookup n = _ from hf, Prod.mk.injEq, TypedVal.str.injEq] at hn
    simp only [evalX, hn.1]
  | and a b iha ihb | or a b iha ihb =>
    simp only [evalX, iha hf.1 fun n hn => h n (List.mem_append_left _ hn),
      ihb hf.2 fun n hn => h n (List.mem_append_right _ hn)]
  | not a iha => simp only [evalX, iha hf h]

/-- a compiled query object (`ast.queryNode`: Predicate, SortBy, Skip, Limit); the predicate is given by its evaluation
    on an `ast.Symbols` -/
structure CQuery where
  ev : Symbols → Bool
  sort : List SortField
  paging : Paging

inductive StoreRef where
  | obj (k : Nat)      -- the k-th `ObjectStore` (several stores may share one collection)
  | bolt               -- the bolt store
  deriving Repr, DecidableEq, Inhabited

/-- the fixed part: the symbol tables of the object stores and of the bolt store (a root store) -/
structure HStores where
  osyms : Nat → List (String × SymType)
  schema : Schema

inductive Call (Text : Type) where
  /-- the collection changes: what the object stores' iterator yields from now on (`none` = a nil iterator), and the
      entities bucket of the bolt store (`none` = no bucket) -/
  | setData (objs : Option (List Row)) (bucket : Option (List Row))
  /-- `store.QueryEntities(text)` / `store.QueryIds(tx, text)` -/
  | text (t : StoreRef) (s : Text)
  /-- the caller parses a text and keeps the `ast.Query` in slot `k` -/
  | parse (k : Nat) (s : Text)
  /-- `store.QueryEntitiesC(q)` / `store.QueryIdsC(tx, q)` with the query object kept in slot `k` -/
  | exec (k : Nat) (t : StoreRef)
  /-- `q.SetSkip(v)` / `q.SetLimit(v)` on the object in slot `k` -/
  | setSkip (k : Nat) (v : Int)
  | setLimit (k : Nat) (v : Int)

inductive Answer where
  | obj (r : ObjOutcome (List Row × Int))
  | bolt (r : Except SortErr (List Row × Int))
  | parseError
  | noQuery            -- the slot holds no query object
  | done

/-- everything that exists between two calls.  There is no component for the `ObjectStore` object: its fields are
    fixed after set-up (`Generated.objectzStore = expectedObjStore`). -/
structure HState where
  objs : Option (List Row)
  bucket : Option (List Row)
  /-- the query objects the caller holds, as the code left them -/
  slots : Nat → Option CQuery

def setSlot (slots : Nat → Option CQuery) (k : Nat) (q : Option CQuery) : Nat → Option CQuery :=
  fun j => if j = k then q else slots j

def HStores.ostore (W : HStores) (k : Nat) (objs : Option (List Row)) : ObjStore := ⟨W.osyms k, objs⟩
def HStores.bstore (W : HStores) (bucket : Option (List Row)) : BoltStore := { schema := W.schema, bucket := bucket }

/-- one execution of a query object against a store: the answer, and the object as the execution leaves it
    (`setPaging` is the first statement of `memSortingScanner.Scan`; the boltz scanners run it unless `Scan` returned
    early because there is no entities bucket) -/
def runOn (opf bpf : PagingFacts) (W : HStores) (objs bucket : Option (List Row)) (t : StoreRef) (q : CQuery) :
    Answer × CQuery :=
  match t with
  | .obj k => (.obj (objQueryP opf (W.ostore k objs) q.ev q.sort q.paging), { q with paging := (setPaging opf q.paging).1 })
  | .bolt => (.bolt (queryIdsCP bpf (W.bstore bucket) q.ev q.sort q.paging),
              if bucket.isNone then q else { q with paging := (setPaging bpf q.paging).1 })

def withSkip (q : CQuery) (v : Int) : CQuery := { q with paging := { q.paging with skip := some v } }
def withLimit (q : CQuery) (v : Int) : CQuery := { q with paging := { q.paging with limit := some v } }

/-- **model**: one call, as the code performs it -/
def step {Text : Type} (parse : Text → Option CQuery) (opf bpf : PagingFacts) (W : HStores) (st : HState) :
    Call Text → HState × Answer
  | .setData o b => ({ st with objs := o, bucket := b }, .done)
  | .text t s =>
    match parse s with
    | none => (st, .parseError)
    | some q => (st, (runOn opf bpf W st.objs st.bucket t q).1)      -- the query object is dropped after the call
  | .parse k s =>
    match parse s with
    | none => ({ st with slots := setSlot st.slots k none }, .parseError)
    | some q => ({ st with slots := setSlot st.slots k (some q) }, .done)
  | .exec k t =>
    match st.slots k with
    | none => (st, .noQuery)
    | some q =>
      ({ st with slots := setSlot st.slots k (some (runOn opf bpf W st.objs st.bucket t q).2) },
       (runOn opf bpf W st.objs st.bucket t q).1)
  | .setSkip k v => ({ st with slots := setSlot st.slots k ((st.slots k).map (withSkip · v)) }, .done)
  | .setLimit k v => ({ st with slots := setSlot st.slots k ((st.slots k).map (withLimit · v)) }, .done)

def history {Text : Type} (parse : Text → Option CQuery) (opf bpf : PagingFacts) (W : HStores) :
    HState → List (Call Text) → List Answer
  | _, [] => []
  | st, c :: cs => (step parse opf bpf W st c).2 :: history parse opf bpf W (step parse opf bpf W st c).1 cs

/-- the answer of ONE call on stores that hold the given collection and have never been used -/
def standAlone (opf bpf : PagingFacts) (W : HStores) (objs bucket : Option (List Row)) (t : StoreRef) (q : CQuery) : Answer :=
  (runOn opf bpf W objs bucket t q).1

/-- what the caller's own calls make of the world: the collection, and in the slots the REQUESTS (the text parsed last,
    the skip / limit set last); an execution changes nothing -/
def specStep {Text : Type} (parse : Text → Option CQuery) (opf bpf : PagingFacts) (W : HStores) (st : HState) :
    Call Text → HState × Answer
  | .setData o b => ({ st with objs := o, bucket := b }, .done)
  | .text t s =>
    match parse s with
    | none => (st, .parseError)
    | some q => (st, standAlone opf bpf W st.objs st.bucket t q)
  | .parse k s =>
    match parse s with
    | none => ({ st with slots := setSlot st.slots k none }, .parseError)
    | some q => ({ st with slots := setSlot st.slots k (some q) }, .done)
  | .exec k t =>
    match st.slots k with
    | none => (st, .noQuery)
    | some q => (st, standAlone opf bpf W st.objs st.bucket t q)
  | .setSkip k v => ({ st with slots := setSlot st.slots k ((st.slots k).map (withSkip · v)) }, .done)
  | .setLimit k v => ({ st with slots := setSlot st.slots k ((st.slots k).map (withLimit · v)) }, .done)

def objSpecHistory {Text : Type} (parse : Text → Option CQuery) (opf bpf : PagingFacts) (W : HStores) :
    HState → List (Call Text) → List Answer
  | _, [] => []
  | st, c :: cs => (specStep parse opf bpf W st c).2 :: objSpecHistory parse opf bpf W (specStep parse opf bpf W st c).1 cs

/-- same predicate, same sort clause, pagings that `setPaging` turns into the same targets -/
structure Agrees (qm qs : CQuery) : Prop where
  ev : qm.ev = qs.ev
  sort : qm.sort = qs.sort
  target : (setPaging expectedPaging qm.paging).2 = (setPaging expectedPaging qs.paging).2

def AgreesOpt : Option CQuery → Option CQuery → Prop
  | none, none => True
  | some a, some b => Agrees a b
  | _, _ => False

theorem Agrees.refl (q : CQuery) : Agrees q q := ⟨rfl, rfl, rfl⟩

theorem agreesOpt_refl (q : Option CQuery) : AgreesOpt q q := by
  cases q with
  | none => trivial
  | some q => exact Agrees.refl q

/-- an execution answers through the targets only -/
theorem runOn_answer_congr (W : HStores) (objs bucket : Option (List Row)) (t : StoreRef) {qm qs : CQuery}
    (h : Agrees qm qs) :
    (runOn expectedPaging expectedPaging W objs bucket t qm).1 = (runOn expectedPaging expectedPaging W objs bucket t qs).1 := by
  obtain ⟨hev, hs, ht⟩ := h
  rcases qm with ⟨ev, sort, p⟩
  rcases qs with ⟨ev', sort', p'⟩
  simp only at hev hs ht
  subst hev hs
  cases t with
  | obj k =>
    simp only [runOn, objQueryP, sortScan, ht]
  | bolt =>
    simp only [runOn, queryIdsCP, scanCursorP, idxScan, sortScan, ht]

theorem Agrees.target_eq {qm qs : CQuery} (h : Agrees qm qs) : targetOf qm.paging = targetOf qs.paging := by
  simpa only [setPaging_target] using h.target

theorem Agrees.paging {qm qs : CQuery} (h : Agrees qm qs) {p p' : Paging} (ht : targetOf p = targetOf p') :
    Agrees { qm with paging := p } { qs with paging := p' } :=
  ⟨h.ev, h.sort, by simp only [setPaging_target]; exact ht⟩

theorem agrees_writeback (W : HStores) (objs bucket : Option (List Row)) (t : StoreRef) {qm qs : CQuery} (h : Agrees qm qs) :
    Agrees (runOn expectedPaging expectedPaging W objs bucket t qm).2 qs := by
  have hw : Agrees { qm with paging := (setPaging expectedPaging qm.paging).1 } qs :=
    h.paging (p' := qs.paging) ((targetOf_writeback _).trans h.target_eq)
  cases t with
  | obj k => exact hw
  | bolt =>
    simp only [runOn]
    split
    · exact h
    · exact hw

structure StateAgrees (sm ss : HState) : Prop where
  objs : sm.objs = ss.objs
  bucket : sm.bucket = ss.bucket
  slots : ∀ k, AgreesOpt (sm.slots k) (ss.slots k)

theorem agreesOpt_setSlot {s1 s2 : Nat → Option CQuery} (h : ∀ k, AgreesOpt (s1 k) (s2 k)) (k : Nat) {q1 q2 : Option CQuery}
    (hq : AgreesOpt q1 q2) : ∀ j, AgreesOpt (setSlot s1 k q1 j) (setSlot s2 k q2 j) := by
  intro j
  simp only [setSlot]
  split
  · exact hq
  · exact h j

theorem agreesOpt_map {q1 q2 : Option CQuery} (h : AgreesOpt q1 q2) (f : CQuery → CQuery)
    (hf : ∀ a b, Agrees a b → Agrees (f a) (f b)) : AgreesOpt (q1.map f) (q2.map f) := by
  cases q1 <;> cases q2 <;> simp only [AgreesOpt, Option.map] at h ⊢
  exact hf _ _ h

theorem step_spec {Text : Type} (parse : Text → Option CQuery) (W : HStores) {sm ss : HState} (h : StateAgrees sm ss)
    (c : Call Text) :
    (step parse expectedPaging expectedPaging W sm c).2 = (specStep parse expectedPaging expectedPaging W ss c).2 ∧
    StateAgrees (step parse expectedPaging expectedPaging W sm c).1 (specStep parse expectedPaging expectedPaging W ss c).1 := by
  obtain ⟨ho, hb, hs⟩ := h
  cases c with
  | setData o b => exact ⟨rfl, ⟨rfl, rfl, hs⟩⟩
  | text t s =>
    simp only [step, specStep]
    cases parse s with
    | none => exact ⟨rfl, ⟨ho, hb, hs⟩⟩
    | some q => exact ⟨by simp only [standAlone, ho, hb], ⟨ho, hb, hs⟩⟩
  | parse k s =>
    simp only [step, specStep]
    cases parse s with
    | none => exact ⟨rfl, ⟨ho, hb, agreesOpt_setSlot hs k (by trivial)⟩⟩
    | some q => exact ⟨rfl, ⟨ho, hb, agreesOpt_setSlot hs k (Agrees.refl q)⟩⟩
  | exec k t =>
    simp only [step, specStep]
    have hk := hs k
    cases hm : sm.slots k <;> cases hsp : ss.slots k <;> rw [hm, hsp] at hk
    · exact ⟨rfl, ho, hb, hs⟩
    · exact hk.elim
    · exact hk.elim
    · next qm qs =>
      have hk' : Agrees qm qs := hk
      refine ⟨?_, ho, hb, fun j => ?_⟩
      · simp only [standAlone, ← ho, ← hb]
        exact runOn_answer_congr W sm.objs sm.bucket t hk'
      · -- only slot `k` of the model state changed: it holds the object as the execution left it
        simp only [setSlot]
        split
        · next hj => rw [hj, hsp]; exact agrees_writeback W sm.objs sm.bucket t hk'
        · exact hs j
  | setSkip k v =>
    exact ⟨rfl, ⟨ho, hb, agreesOpt_setSlot hs k (agreesOpt_map (hs k) _ fun _ _ h => h.paging (targetOf_setSkip h.target_eq v))⟩⟩
  | setLimit k v =>
    exact ⟨rfl, ⟨ho, hb, agreesOpt_setSlot hs k (agreesOpt_map (hs k) _ fun _ _ h => h.paging (targetOf_setLimit h.target_eq v))⟩⟩

theorem stateAgrees_refl (st : HState) : StateAgrees st st := ⟨rfl, rfl, fun _ => agreesOpt_refl _⟩

/-- **every answer of a history is the stand-alone answer of its call** (with the arithmetic the theorems are proved for;
    `Properties/C19.lean` states it for the regenerated facts) -/
theorem history_eq_spec {Text : Type} (parse : Text → Option CQuery) (W : HStores) (calls : List (Call Text)) :
    ∀ sm ss : HState, StateAgrees sm ss →
      history parse expectedPaging expectedPaging W sm calls = objSpecHistory parse expectedPaging expectedPaging W ss calls := by
  induction calls with
  | nil => intros; rfl
  | cons c cs ih =>
    intro sm ss h
    simp only [history, objSpecHistory]
    have := step_spec parse W h c
    rw [this.1, ih _ _ this.2]

def liftBolt (r : Except SortErr (List Row × Int)) : ObjOutcome (List Row × Int) :=
  match r with
  | .ok r => .ok r
  | .error e => .err e

/-- forget which kind of store answered -/
def Answer.norm : Answer → Answer
  | .bolt r => .obj (liftBolt r)
  | a => a

def Call.toBolt {Text : Type} : Call Text → Call Text
  | .text _ s => .text StoreRef.bolt s
  | .exec k _ => .exec k StoreRef.bolt
  | c => c

/-- the hypotheses of `objectz_eq_bolt_any_filter` for one execution of `q` on the `k`-th object store: both stores hold
    the same rows (the object store in any iteration order), the sort symbols are declared alike, the comparator exists,
    the predicate reads its symbols through their declared types, the objects are well typed -/
def GoodExec (W : HStores) (st : HState) (k : Nat) (q : CQuery) : Prop :=
  ∃ (objs rows : List Row) (N : List String) (c : Cmp Row),
    st.objs = some objs ∧ st.bucket = some rows ∧ objs.Perm rows ∧ BucketOrdered rows ∧
    (W.osyms k).lookup "id" = some .string ∧
    (∀ f ∈ q.sort ++ [⟨"id", true⟩], W.schema.lookup f.name = (W.ostore k st.objs).schema.lookup f.name) ∧
    newRowComparator (W.ostore k st.objs).schema q.sort = .ok c ∧
    TypedLocal (W.osyms k) N q.ev ∧ (∀ r ∈ objs, ∀ n ∈ N, WellTypedAt (W.osyms k) r n) ∧
    q.paging.InRange ∧ (rows.length : Int) ≤ maxI64

/-- a call that executes a query on an object store does so under `GoodExec` (the request as it stands) -/
def GoodCall {Text : Type} (parse : Text → Option CQuery) (W : HStores) (st : HState) : Call Text → Prop
  | .text (.obj k) s => ∀ q, parse s = some q → GoodExec W st k q
  | .exec j (.obj k) => ∀ q, st.slots j = some q → GoodExec W st k q
  | _ => True

def GoodFrom {Text : Type} (parse : Text → Option CQuery) (opf bpf : PagingFacts) (W : HStores) :
    HState → List (Call Text) → Prop
  | _, [] => True
  | st, c :: cs => GoodCall parse W st c ∧ GoodFrom parse opf bpf W (specStep parse opf bpf W st c).1 cs

theorem specStep_toBolt_state {Text : Type} (parse : Text → Option CQuery) (opf bpf : PagingFacts) (W : HStores) (st : HState)
    (c : Call Text) : (specStep parse opf bpf W st c.toBolt).1 = (specStep parse opf bpf W st c).1 := by
  cases c with
  | text t s => simp only [Call.toBolt, specStep]; cases parse s <;> rfl
  | exec k t => simp only [Call.toBolt, specStep]; cases st.slots k <;> rfl
  | setData o b => rfl
  | parse k s => rfl
  | setSkip k v => rfl
  | setLimit k v => rfl

end StorageModel.Query
