import StorageModel.Base.Bytes
import StorageModel.Query.Order
/-
  Stored field values, the `FieldTo*` coercions the comparators read them through
  (boltz/typed_bucket.go), the five symbol comparators of boltz/query_sort.go (identical, line by
  line, to objectz/object_store_sort.go) and `newRowComparator` (boltz/store_query.go,
  objectz/object_store.go).
-/
namespace StorageModel.Query
open StorageModel

/-! ### byte strings: Go's `<` / `>` on strings is bytewise lexicographic -/

def cmpBytes : Bytes → Bytes → Ordering
  | [], [] => .eq
  | [], _ :: _ => .lt
  | _ :: _, [] => .gt
  | a :: s, b :: t => if a < b then .lt else if b < a then .gt else cmpBytes s t

theorem cmpBytes_spec (a b : Bytes) : (cmpBytes a b = .lt ↔ a < b) ∧ (cmpBytes a b = .gt ↔ b < a) := by
  induction a generalizing b with
  | nil =>
    cases b with
    | nil =>
      exact ⟨iff_of_false Ordering.noConfusion (List.lt_irrefl _), iff_of_false Ordering.noConfusion (List.lt_irrefl _)⟩
    | cons y t => exact ⟨iff_of_true rfl (List.nil_lt_cons ..), iff_of_false Ordering.noConfusion (List.not_lt_nil _)⟩
  | cons x s ih =>
    cases b with
    | nil => exact ⟨iff_of_false Ordering.noConfusion (List.not_lt_nil _), iff_of_true rfl (List.nil_lt_cons ..)⟩
    | cons y t =>
      have e : cmpBytes (x :: s) (y :: t) = if x < y then .lt else if y < x then .gt else cmpBytes s t := rfl
      by_cases h1 : x < y
      · have : x :: s < y :: t := List.cons_lt_cons_iff.2 (.inl h1)
        rw [e, if_pos h1]
        exact ⟨iff_of_true rfl this, iff_of_false Ordering.noConfusion (List.lt_asymm this)⟩
      · by_cases h2 : y < x
        · have : y :: t < x :: s := List.cons_lt_cons_iff.2 (.inl h2)
          rw [e, if_neg h1, if_pos h2]
          exact ⟨iff_of_false Ordering.noConfusion (List.lt_asymm this), iff_of_true rfl this⟩
        · cases UInt8.le_antisymm (UInt8.not_lt.1 h2) (UInt8.not_lt.1 h1)
          rw [e, if_neg h1, if_neg h1]
          exact ⟨(ih t).1.trans List.cons_lt_cons_self.symm, (ih t).2.trans List.cons_lt_cons_self.symm⟩

theorem cmpBytes_lt {a b : Bytes} : cmpBytes a b = .lt ↔ a < b := (cmpBytes_spec a b).1

theorem cmpBytes_trans {a b d : Bytes} (h1 : cmpBytes a b = .lt) (h2 : cmpBytes b d = .lt) : cmpBytes a d = .lt :=
  cmpBytes_lt.2 (List.lt_trans (cmpBytes_lt.1 h1) (cmpBytes_lt.1 h2))

theorem eq_of_cmpBytes_eq {a b : Bytes} (h : cmpBytes a b = .eq) : a = b :=
  List.le_antisymm (as := a) (bs := b) (fun h' => nomatch h.symm.trans ((cmpBytes_spec a b).2.2 h'))
    (fun h' => nomatch h.symm.trans ((cmpBytes_spec a b).1.2 h'))

theorem cmpBytes_swap (a b : Bytes) : cmpBytes b a = (cmpBytes a b).swap := by
  cases h : cmpBytes a b with
  | lt => exact (cmpBytes_spec b a).2.2 ((cmpBytes_spec a b).1.1 h)
  | gt => exact (cmpBytes_spec b a).1.2 ((cmpBytes_spec a b).2.1 h)
  | eq => cases eq_of_cmpBytes_eq h; exact h

theorem cmpBytes_refl (a : Bytes) : cmpBytes a a = .eq := by
  cases h : cmpBytes a a with
  | eq => rfl
  | lt => exact absurd ((cmpBytes_spec a a).1.1 h) (List.lt_irrefl a)
  | gt => exact absurd ((cmpBytes_spec a a).2.1 h) (List.lt_irrefl a)

theorem cmpBytes_strict : StrictTotalOn (fun _ => True) cmpBytes :=
  StrictTotalOn.of cmpBytes_swap (fun _ _ _ => cmpBytes_trans) (fun _ _ => eq_of_cmpBytes_eq)

/-- a field as it sits in the entity bucket: type byte + payload (boltz `FieldType`) -/
inductive Stored where
  | nil
  | bool (b : Bool)
  | int32 (v : Int)
  | int64 (v : Int)
  /-- IEEE 754 binary64 bit pattern, and the text `strconv.FormatFloat(x, 'f', -1, 64)` prints for it
      (shortest round-trip decimal: data that travels with the value — the harness supplies it; it is
      read only by `FieldToString`, and every theorem holds whatever it is) -/
  | float64 (bits : Nat) (text : Bytes)
  | string (s : Bytes)
  | time (ns : Int)           -- instant, nanoseconds since the Unix epoch
  deriving Repr, DecidableEq, Inhabited

/-- `ast.NodeType` of a symbol, restricted to the sortable ones plus "other" (set / any / unknown) -/
inductive SymType where
  | bool | datetime | float64 | int64 | string | other
  deriving Repr, DecidableEq, Inhabited

def fieldToBool : Stored → Option Bool
  | .bool b => some b
  | _ => none

def fieldToInt64 : Stored → Option Int
  | .int32 v => some v
  | .int64 v => some v
  | _ => none

/-! #### Go's `float64(int64)`: round to nearest, ties to even -/

def f64Inf : Nat := 0x7FF0000000000000

/-- magnitude bits (sign bit clear) of the float64 nearest to the natural number `n` -/
def natToF64Mag (n : Nat) : Nat :=
  if n = 0 then 0 else
  let e := n.log2
  if e ≤ 52 then (e + 1023) * 2 ^ 52 + (n * 2 ^ (52 - e) - 2 ^ 52)
  else
    let sh := e - 52
    let q := n / 2 ^ sh
    let rem := n % 2 ^ sh
    let half := 2 ^ (sh - 1)
    let q' := if rem > half ∨ (rem = half ∧ q % 2 = 1) then q + 1 else q
    -- a mantissa that rounds up to 2^53 carries into the exponent by itself
    (e + 1023) * 2 ^ 52 + (q' - 2 ^ 52)

/-- a magnitude beyond the float64 range would be +-Inf (an int64 never is; the clamp is what makes
    `intToF64Bits_not_nan` a one-line bound) -/
def clampInf (m : Nat) : Nat := if m ≤ f64Inf then m else f64Inf

theorem clampInf_le (m : Nat) : clampInf m ≤ f64Inf := by
  unfold clampInf; split
  · assumption
  · exact Nat.le_refl _

/-- `float64(v)` as a bit pattern: sign bit, then the magnitude bits -/
def intToF64Bits (v : Int) : Nat :=
  if v < 0 then 9223372036854775808 + clampInf (natToF64Mag v.natAbs) else clampInf (natToF64Mag v.natAbs)

/-- `FieldToFloat64`: a float64 field as it is, an int32 / int64 field converted with `float64(int64)`,
    anything else nil -/
def fieldToFloat64 : Stored → Option Nat
  | .float64 b _ => some b
  | .int32 v => some (intToF64Bits v)
  | .int64 v => some (intToF64Bits v)
  | _ => none

def fieldToDatetime : Stored → Option Int
  | .time ns => some ns
  | _ => none

def boolText (b : Bool) : Bytes := if b then Bytes.ofString "true" else Bytes.ofString "false"

def natDigits (fuel n : Nat) (acc : Bytes) : Bytes :=
  match fuel with
  | 0 => acc
  | fuel + 1 => if n < 10 then (UInt8.ofNat (48 + n)) :: acc else natDigits fuel (n / 10) (UInt8.ofNat (48 + n % 10) :: acc)

/-- `strconv.Itoa` -/
def intText (v : Int) : Bytes :=
  if v < 0 then 45 :: natDigits 25 v.natAbs [] else natDigits 25 v.natAbs []

/-! #### `time.Time.MarshalText` of a UTC instant (RFC 3339 with nanoseconds, trailing zeros trimmed) -/

def pad (w : Nat) (n : Nat) : Bytes :=
  let d := natDigits 25 n []
  List.replicate (w - d.length) 48 ++ d

/-- proleptic Gregorian (year, month, day) of a day number counted from 1970-01-01 -/
def civilFromDays (days : Int) : Int × Nat × Nat :=
  let z := days + 719468
  let era := z / 146097
  let doe := (z - era * 146097).toNat
  let yoe := (doe - doe / 1460 + doe / 36524 - doe / 146096) / 365
  let doy := doe - (365 * yoe + yoe / 4 - yoe / 100)
  let mp := (5 * doy + 2) / 153
  let d := doy - (153 * mp + 2) / 5 + 1
  let m := if mp < 10 then mp + 3 else mp - 9
  let y : Int := (yoe : Int) + era * 400
  (if m ≤ 2 then y + 1 else y, m, d)

def trimZeros (b : Bytes) : Bytes := (b.reverse.dropWhile (· == 48)).reverse

/-- `MarshalText`: `none` when the year is outside [0, 9999] (the Go function returns an error and
    `FieldToString` then yields nil) -/
def timeText (ns : Int) : Option Bytes :=
  let secs := ns / 1000000000
  let frac := (ns % 1000000000).toNat
  let days := secs / 86400
  let sod := (secs % 86400).toNat
  let (y, m, d) := civilFromDays days
  if y < 0 ∨ y > 9999 then none else
  let fracPart : Bytes := if frac = 0 then [] else 46 :: trimZeros (pad 9 frac)
  some (pad 4 y.toNat ++ [45] ++ pad 2 m ++ [45] ++ pad 2 d ++ [84] ++ pad 2 (sod / 3600) ++ [58] ++
    pad 2 (sod % 3600 / 60) ++ [58] ++ pad 2 (sod % 60) ++ fracPart ++ [90])

/-- `FieldToString`: strings as they are; bool, ints, floats and instants formatted
    (`strconv.FormatBool`, `strconv.Itoa`, `strconv.FormatFloat(x,'f',-1,64)`, `MarshalText`) -/
def fieldToString : Stored → Option Bytes
  | .string s => some s
  | .bool b => some (boolText b)
  | .int32 v => some (intText v)
  | .int64 v => some (intText v)
  | .float64 _ text => some text
  | .time ns => timeText ns
  | .nil => none

def fIsNaN (bits : Nat) : Bool := bits % 9223372036854775808 > 9218868437227405312

theorem intToF64Bits_not_nan (v : Int) : fIsNaN (intToF64Bits v) = false := by
  have hc := clampInf_le (natToF64Mag v.natAbs)
  unfold f64Inf at hc
  unfold fIsNaN intToF64Bits
  split <;> simp only [decide_eq_false_iff_not] <;> omega

/-- monotone image of a non-NaN float64 in the integers (−0 and +0 both map to 0) -/
def fOrd (bits : Nat) : Int :=
  if bits ≥ 9223372036854775808 then - ((bits % 9223372036854775808 : Nat) : Int) else ((bits % 9223372036854775808 : Nat) : Int)

/-- Go's `a < b` on float64: false as soon as one side is NaN -/
def fLt (a b : Nat) : Bool := !fIsNaN a && !fIsNaN b && decide (fOrd a < fOrd b)

def cmpBoolVal (a b : Bool) : Ordering := if !a && b then .lt else if a && !b then .gt else .eq
def cmpStrVal (a b : Bytes) : Ordering := cmpBytes a b
/-- `float64SymbolComparator.Compare` on two non-nil keys.  `nanFirst` = the branch
    `else if *s1 != *s1 || *s2 != *s2 { if *s1 == *s1 { 1 } else if *s2 == *s2 { -1 } }` is present (since
    1532996): NaN before every number, NaNs tie.  Without it (`nanFirst = false`, the comparator before
    1532996) NaN ties with everything, because `<` and `>` are both false. -/
def cmpFloatValWith (nanFirst : Bool) (a b : Nat) : Ordering :=
  if nanFirst && (fIsNaN a || fIsNaN b) then
    (if !fIsNaN a then .gt else if !fIsNaN b then .lt else .eq)
  else if fLt a b then .lt else if fLt b a then .gt else .eq

/-- the comparator of the code as it is (the `float_comparator_facts_expected` obligation pins the NaN branch) -/
def cmpFloatVal (a b : Nat) : Ordering := cmpFloatValWith true a b

/-- monotone integer image of EVERY float64: NaN below everything (fOrd is within ±2^63) -/
def fKey (bits : Nat) : Int := if fIsNaN bits then -18446744073709551616 else fOrd bits
/-- `Before` / `After` on instants -/
def cmpTimeVal (a b : Int) : Ordering := cmpInt a b

theorem cmpBoolVal_eq_cmpInt (a b : Bool) : cmpBoolVal a b = cmpInt (if a then 1 else 0) (if b then 1 else 0) := by
  cases a <;> cases b <;> decide

theorem cmpFloatVal_eq_ord {a b : Nat} (ha : fIsNaN a = false) (hb : fIsNaN b = false) :
    cmpFloatVal a b = cmpInt (fOrd a) (fOrd b) := by
  simp only [cmpFloatVal, cmpFloatValWith, fLt, ha, hb, cmpInt]
  by_cases h1 : fOrd a < fOrd b
  · simp [h1]
  · by_cases h2 : fOrd b < fOrd a
    · simp [h1, h2]
    · simp [h1, h2]

theorem fOrd_gt (bits : Nat) : -18446744073709551616 < fOrd bits := by
  unfold fOrd; split <;> omega

theorem cmpFloatVal_eq_key (a b : Nat) : cmpFloatVal a b = cmpInt (fKey a) (fKey b) := by
  have ga := fOrd_gt a
  have gb := fOrd_gt b
  cases ha : fIsNaN a <;> cases hb : fIsNaN b
  · rw [cmpFloatVal_eq_ord ha hb]; simp [fKey, ha, hb]
  · simp only [cmpFloatVal, cmpFloatValWith, fKey, ha, hb, cmpInt]
    have h1 : ¬ fOrd a < -18446744073709551616 := by omega
    simp [h1, ga]
  · simp only [cmpFloatVal, cmpFloatValWith, fKey, ha, hb, cmpInt]
    simp [gb]
  · simp [cmpFloatVal, cmpFloatValWith, fKey, ha, hb, cmpInt]

theorem weakOrd_int_image {κ : Type} {c : κ → κ → Ordering} (f : κ → Int) (h : ∀ a b, c a b = cmpInt (f a) (f b)) :
    WeakOrdOn (fun _ => True) c :=
  (weakOrd_pullback f cmpInt_strict.toWeakOrdOn).congr fun a b _ _ => h a b

theorem cmpBoolVal_weak : WeakOrdOn (fun _ => True) cmpBoolVal :=
  weakOrd_int_image (fun b => if b then 1 else 0) cmpBoolVal_eq_cmpInt

theorem cmpFloatVal_weak : WeakOrdOn (fun _ => True) cmpFloatVal :=
  weakOrd_int_image fKey cmpFloatVal_eq_key

/-- a row: the id (the bucket key / the object's id symbol) and its stored fields by name -/
structure Row where
  id : Bytes
  fields : List (String × Stored)
  deriving Repr, DecidableEq, Inhabited

def Row.get (r : Row) (name : String) : Stored := (r.fields.lookup name).getD .nil

/-- what the store knows about a symbol name -/
structure SymInfo where
  ty : SymType
  isSet : Bool := false
  deriving Repr, DecidableEq, Inhabited

abbrev Schema := List (String × SymInfo)

/-- `symbol.Eval(tx, rowId)`: the id symbol yields the row id as a string, any other symbol
    the stored field -/
def evalSym (name : String) (r : Row) : Stored := if name = "id" then .string r.id else r.get name

/-- one `xxxSymbolComparator.Compare` including the direction flip -/
def symCmp (ty : SymType) (name : String) (fwd : Bool) : Cmp Row := fun a b =>
  dir fwd <| match ty with
    | .bool => nullsFirst cmpBoolVal (fieldToBool (evalSym name a)) (fieldToBool (evalSym name b))
    | .datetime => nullsFirst cmpTimeVal (fieldToDatetime (evalSym name a)) (fieldToDatetime (evalSym name b))
    | .float64 => nullsFirst cmpFloatVal (fieldToFloat64 (evalSym name a)) (fieldToFloat64 (evalSym name b))
    | .int64 => nullsFirst cmpInt (fieldToInt64 (evalSym name a)) (fieldToInt64 (evalSym name b))
    | .string => nullsFirst cmpStrVal (fieldToString (evalSym name a)) (fieldToString (evalSym name b))
    | .other => .eq

structure SortField where
  name : String
  asc : Bool
  deriving Repr, DecidableEq, Inhabited

inductive SortErr where
  | noSuchField | invalidSetField | unsupportedType
  deriving Repr, DecidableEq

/-- `newRowComparator`: `id asc` appended, every field resolved, first failure returned -/
def resolveSort (schema : Schema) : List SortField → Except SortErr (List (Cmp Row))
  | [] => .ok []
  | f :: rest =>
    match schema.lookup f.name with
    | none => .error .noSuchField
    | some info =>
      if info.isSet then .error .invalidSetField
      else if info.ty = .other then .error .unsupportedType
      else match resolveSort schema rest with
        | .error e => .error e
        | .ok cs => .ok (symCmp info.ty f.name f.asc :: cs)

def newRowComparator (schema : Schema) (sort : List SortField) : Except SortErr (Cmp Row) :=
  match resolveSort schema (sort ++ [⟨"id", true⟩]) with
  | .error e => .error e
  | .ok cs => .ok (chain cs)

/-- the declared type of a symbol (`other` when the store does not know it) -/
def tyOf (schema : Schema) (name : String) : SymType := ((schema.lookup name).map (·.ty)).getD .other

/-- what `newRowComparator` says about one field (`none` = accepted) -/
def fieldErr (schema : Schema) (f : SortField) : Option SortErr :=
  match schema.lookup f.name with
  | none => some .noSuchField
  | some info => if info.isSet then some .invalidSetField else if info.ty = .other then some .unsupportedType else none

theorem resolveSort_cons (schema : Schema) (f : SortField) (rest : List SortField) :
    resolveSort schema (f :: rest) =
      match fieldErr schema f with
      | some e => .error e
      | none => (resolveSort schema rest).map (symCmp (tyOf schema f.name) f.name f.asc :: ·) := by
  simp only [resolveSort, fieldErr, tyOf]
  cases schema.lookup f.name with
  | none => rfl
  | some info =>
    rcases info with ⟨ty, isSet⟩
    cases isSet with
    | true => rfl
    | false =>
      simp only [Bool.false_eq_true, if_false]
      split
      · rfl
      · cases resolveSort schema rest <;> rfl

theorem resolveSort_eq (schema : Schema) (fs : List SortField) :
    resolveSort schema fs =
      match fs.findSome? (fieldErr schema) with
      | some e => .error e
      | none => .ok (fs.map fun f => symCmp (tyOf schema f.name) f.name f.asc) := by
  induction fs with
  | nil => rfl
  | cons f rest ih =>
    rw [resolveSort_cons, List.findSome?_cons, ih]
    cases fieldErr schema f with
    | some e => rfl
    | none => cases rest.findSome? (fieldErr schema) <;> rfl

theorem resolveSort_congr {s1 s2 : Schema} {fs : List SortField}
    (h : ∀ f ∈ fs, s1.lookup f.name = s2.lookup f.name) : resolveSort s1 fs = resolveSort s2 fs := by
  induction fs with
  | nil => rfl
  | cons f rest ih =>
    simp only [resolveSort, h f (List.mem_cons_self ..), ih fun g hg => h g (List.mem_cons_of_mem _ hg)]

/-- the store declares the id symbol as a plain string symbol (`AddIdSymbol("id", NodeTypeString)`) -/
def HasIdSymbol (schema : Schema) : Prop := schema.lookup "id" = some ⟨.string, false⟩

theorem HasIdSymbol.tyOf {schema : Schema} (h : HasIdSymbol schema) : tyOf schema "id" = .string := by
  rw [Query.tyOf, h]; rfl

theorem newRowComparator_eq (schema : Schema) (sort : List SortField) :
    newRowComparator schema sort =
      match (sort ++ [(⟨"id", true⟩ : SortField)]).findSome? (fieldErr schema) with
      | some e => .error e
      | none => .ok (chain ((sort ++ [(⟨"id", true⟩ : SortField)]).map fun f => symCmp (tyOf schema f.name) f.name f.asc)) := by
  rw [newRowComparator, resolveSort_eq]
  cases (sort ++ [(⟨"id", true⟩ : SortField)]).findSome? (fieldErr schema) <;> rfl

theorem newRowComparator_ok_iff (schema : Schema) (sort : List SortField) :
    (∃ c, newRowComparator schema sort = .ok c) ↔ ∀ f ∈ sort ++ [⟨"id", true⟩], fieldErr schema f = none := by
  rw [newRowComparator_eq, ← List.findSome?_eq_none_iff]
  cases (sort ++ [(⟨"id", true⟩ : SortField)]).findSome? (fieldErr schema) <;> simp

theorem newRowComparator_id_ok {schema : Schema} (hid : HasIdSymbol schema) (asc : Bool) :
    ∃ c, newRowComparator schema [⟨"id", asc⟩] = .ok c := by
  unfold HasIdSymbol at hid
  simp [newRowComparator, resolveSort, hid]

theorem newRowComparator_nil_ok {schema : Schema} (hid : HasIdSymbol schema) :
    ∃ c, newRowComparator schema [] = .ok c := by
  unfold HasIdSymbol at hid
  simp [newRowComparator, resolveSort, hid]

theorem newRowComparator_error_iff (schema : Schema) (sort : List SortField) (e : SortErr) :
    newRowComparator schema sort = .error e ↔
      ∃ pre f post, sort ++ [⟨"id", true⟩] = pre ++ f :: post ∧ (∀ g ∈ pre, fieldErr schema g = none) ∧
        fieldErr schema f = some e := by
  have : newRowComparator schema sort = .error e ↔
      (sort ++ [(⟨"id", true⟩ : SortField)]).findSome? (fieldErr schema) = some e := by
    rw [newRowComparator_eq]
    cases (sort ++ [(⟨"id", true⟩ : SortField)]).findSome? (fieldErr schema) <;> simp
  simp only [this, List.findSome?_eq_some_iff, and_comm]

theorem newRowComparator_closed {schema : Schema} {sort : List SortField} {c : Cmp Row} (hid : HasIdSymbol schema)
    (h : newRowComparator schema sort = .ok c) :
    c = chain ((sort.map fun f => symCmp (tyOf schema f.name) f.name f.asc) ++ [symCmp .string "id" true]) := by
  rw [newRowComparator_eq] at h
  split at h
  · cases h
  · cases h; rw [List.map_append, List.map_singleton, hid.tyOf]

theorem symCmp_id (fwd : Bool) (a b : Row) : symCmp .string "id" fwd a b = dir fwd (cmpBytes a.id b.id) := by
  simp [symCmp, evalSym, fieldToString, nullsFirst, cmpStrVal]

theorem weakOrd_nullableKey {κ : Type} {base : κ → κ → Ordering} (k : Row → Option κ) (h : WeakOrdOn (fun _ => True) base) :
    WeakOrdOn (fun _ => True) (fun a b => nullsFirst base (k a) (k b)) :=
  weakOrd_pullback k (weakOrd_nullsFirst h)

theorem symCmp_weak (ty : SymType) (name : String) (fwd : Bool) : WeakOrdOn (fun _ => True) (symCmp ty name fwd) := by
  unfold symCmp
  apply weakOrd_dir
  cases ty with
  | bool => exact weakOrd_nullableKey _ cmpBoolVal_weak
  | datetime => exact weakOrd_nullableKey (base := cmpTimeVal) _ cmpInt_strict.toWeakOrdOn
  | float64 => exact weakOrd_nullableKey _ cmpFloatVal_weak
  | int64 => exact weakOrd_nullableKey _ cmpInt_strict.toWeakOrdOn
  | string => exact weakOrd_nullableKey (base := cmpStrVal) _ cmpBytes_strict.toWeakOrdOn
  | other => exact weakOrd_const _

/-- rows of a bucket / collection have pairwise different ids -/
def DistinctIds (ds : List Row) : Prop := ds.Pairwise (fun a b => a.id ≠ b.id)

theorem DistinctIds.perm {a b : List Row} (h : a.Perm b) (hd : DistinctIds b) : DistinctIds a :=
  h.symm.pairwise hd fun h => Ne.symm h

theorem eq_of_id_eq {ds : List Row} (hd : DistinctIds ds) {a b : Row} (ha : a ∈ ds) (hb : b ∈ ds)
    (h : a.id = b.id) : a = b :=
  List.Pairwise.forall_of_forall_of_flip (R := fun a b => a.id = b.id → a = b) (fun _ _ _ => rfl)
    (hd.imp fun hne h => absurd h hne) (hd.imp fun hne h => absurd h.symm hne) ha hb h

theorem DistinctIds.nodup {ds : List Row} (hd : DistinctIds ds) : ds.Nodup :=
  List.Pairwise.imp (fun h e => h (congrArg Row.id e)) hd

theorem newRowComparator_strict {schema : Schema} {sort : List SortField} {c : Cmp Row} {ds : List Row}
    (hid : HasIdSymbol schema) (h : newRowComparator schema sort = .ok c)
    (hd : DistinctIds ds) : StrictTotalOn (fun r => r ∈ ds) c := by
  rw [newRowComparator_closed hid h]
  refine ⟨(weakOrd_chain _ fun d hd => ?_).mono (fun _ _ => trivial), fun a b ha hb heq => ?_⟩
  · rcases List.mem_append.1 hd with hd | hd
    · obtain ⟨f, _, rfl⟩ := List.mem_map.1 hd
      exact symCmp_weak ..
    · rw [List.mem_singleton.1 hd]
      exact symCmp_weak ..
  · have := chain_eq_all heq _ (List.mem_append_right _ (List.mem_singleton_self _))
    rw [symCmp_id, dir_eq_eq] at this
    exact eq_of_id_eq hd ha hb (eq_of_cmpBytes_eq this)

end StorageModel.Query
