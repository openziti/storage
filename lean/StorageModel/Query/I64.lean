/-
  Go `int64` arithmetic for the paging counters (C02 / C19).

  A Go int64 value is modelled as an `Int` in [minI64, maxI64]; `+` is `add64`, which wraps
  around exactly as two's complement addition does.  Nothing here saturates by itself: the
  overflow guard the scanners apply after `targetOffset + targetLimit` is part of the scanner
  model, so that the arithmetic the code performs is what the theorems talk about.
-/
namespace StorageModel.Query

def maxI64 : Int := 9223372036854775807
def minI64 : Int := -9223372036854775808

/-- two's complement wrap into [-2^63, 2^63) -/
def wrap64 (x : Int) : Int := (x + 9223372036854775808) % 18446744073709551616 - 9223372036854775808

/-- Go's `a + b` on int64 -/
def add64 (a b : Int) : Int := wrap64 (a + b)

def InI64 (x : Int) : Prop := minI64 ≤ x ∧ x ≤ maxI64

theorem wrap64_id {x : Int} (h : InI64 x) : wrap64 x = x := by
  unfold InI64 minI64 maxI64 at h; unfold wrap64; omega

theorem add64_noOverflow {a b : Int} (h : InI64 (a + b)) : add64 a b = a + b := wrap64_id h

theorem wrap64_inRange (x : Int) : InI64 (wrap64 x) := by
  unfold InI64 minI64 maxI64 wrap64; omega

theorem add64_nonneg_overflow {a b : Int} (ha : 0 ≤ a) (hb : 0 ≤ b) (ha' : a ≤ maxI64) (hb' : b ≤ maxI64) :
    (add64 a b < 0 ↔ maxI64 < a + b) ∧ (¬ add64 a b < 0 → add64 a b = a + b) := by
  unfold maxI64 at *; unfold add64 wrap64; omega

/-- `x++` on a counter that is below MaxInt64 -/
theorem add64_succ {a : Int} (h0 : 0 ≤ a) (h1 : a < maxI64) : add64 a 1 = a + 1 := by
  unfold maxI64 at h1; unfold add64 wrap64; omega

example : add64 maxI64 2 = minI64 + 1 := by decide
example : add64 2 maxI64 < 0 := by decide

end StorageModel.Query
