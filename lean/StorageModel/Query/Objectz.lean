import StorageModel.Query.Bolt
/-
  Model of objectz: `ObjectCursor.Eval*` / `IsNil` (symbol functions return typed pointers, which
  travel inside an `any`), `newRowComparator`, `memSortingScanner.Scan`, `QueryEntitiesC`.

  An object is modelled by the values its symbol functions return, held as a `Row` (name ↦ value);
  the symbol of declared type T applied to the object yields the typed pointer `FieldToT` of that
  value — so "an object store holding the same field values as a bolt store" is literally the same
  list of rows, in whatever order the iterator yields them.
-/
namespace StorageModel.Query
open StorageModel

/-- a Go `any` holding what an `ObjectSymbol.Eval` returned: always a typed pointer, possibly nil -/
inductive Iface where
  | untypedNil
  | boolPtr (p : Option Bool)
  | stringPtr (p : Option Bytes)
  | int64Ptr (p : Option Int)
  | float64Ptr (p : Option Nat)
  | timePtr (p : Option Int)
  deriving Repr, DecidableEq, Inhabited

structure ObjStore where
  /-- `store.symbols`: name ↦ declared type (Add*Symbol) -/
  symbols : List (String × SymType)
  /-- what `iteratorF()` yields, in its order (arbitrary: `IterateMap` ranges over a Go map);
      `none` = a nil iterator -/
  objs : Option (List Row)

inductive ObjOutcome (α : Type) where
  | ok (a : α)
  | err (e : SortErr)
  | panic
  deriving Repr

/-- `symbol.Eval(entity)` for the symbol registered under `name`; `none` = no such symbol (the Go
    code then calls a method on a nil interface: panic) -/
def objEval (st : ObjStore) (name : String) (r : Row) : Option Iface :=
  match st.symbols.lookup name with
  | none => none
  | some .bool => some (.boolPtr (fieldToBool (evalSym name r)))
  | some .string => some (.stringPtr (fieldToString (evalSym name r)))
  | some .int64 => some (.int64Ptr (fieldToInt64 (evalSym name r)))
  | some .float64 => some (.float64Ptr (fieldToFloat64 (evalSym name r)))
  | some .datetime => some (.timePtr (fieldToDatetime (evalSym name r)))
  | some .other => none

/-- `ObjectCursor.IsNil` as it is now: a typed nil pointer inside the interface counts as nil -/
def ifaceIsNil : Iface → Bool
  | .untypedNil => true
  | .boolPtr p | .stringPtr p | .int64Ptr p | .float64Ptr p | .timePtr p => p.isNone

/-- `ObjectCursor.IsNil` of the pinned tree: `nil == self.eval(name)` -/
def ifaceIsNilPinned : Iface → Bool
  | .untypedNil => true
  | _ => false

/-- `ObjectCursor` positioned on an object (`eval` of a registered symbol) -/
def objSymbols (st : ObjStore) (r : Row) : Symbols where
  evalBool name := match objEval st name r with | some (.boolPtr p) => p | _ => none
  evalString name := match objEval st name r with | some (.stringPtr p) => p | _ => none
  evalInt64 name := match objEval st name r with | some (.int64Ptr p) => p | _ => none
  evalFloat64 name := match objEval st name r with | some (.float64Ptr p) => p | _ => none
  evalDatetime name := match objEval st name r with | some (.timePtr p) => p | _ => none
  isNil name := match objEval st name r with | some i => ifaceIsNil i | none => true

def ObjStore.schema (st : ObjStore) : Schema := st.symbols.map fun (n, t) => (n, ⟨t, false⟩)

theorem ObjStore.schema_lookup (st : ObjStore) (n : String) :
    st.schema.lookup n = (st.symbols.lookup n).map (⟨·, false⟩) := by
  unfold ObjStore.schema
  induction st.symbols with
  | nil => rfl
  | cons p l ih =>
    simp only [List.map_cons, List.lookup]
    cases n == p.1 <;> simp only [ih, Option.map_some]

def ObjStore.env (st : ObjStore) (f : Filter) : ScanEnv Row :=
  { pred := fun r => evalFilter (objSymbols st r) f }

/-- `QueryEntitiesC` = `memSortingScanner.Scan`: always the sorting scheme -/
def objQuery (pf : PagingFacts) (st : ObjStore) (q : Query) : ObjOutcome (List Row × Int) :=
  match newRowComparator st.schema q.sort with
  | .error e => .err e
  | .ok c =>
    match st.objs with
    | none => .ok ([], 0)     -- `if cursor == nil { return nil, 0, nil }` (since bbcb51c before the cursor is used)
    | some objs => .ok (sortScan pf c (st.env q.filter) q.paging (some objs))

/-- `QueryEntitiesC` for an arbitrary filter node, given by its evaluation on `ast.Symbols` -/
def objQueryP (pf : PagingFacts) (st : ObjStore) (ev : Symbols → Bool) (sort : List SortField) (paging : Paging) :
    ObjOutcome (List Row × Int) :=
  match newRowComparator st.schema sort with
  | .error e => .err e
  | .ok c =>
    match st.objs with
    | none => .ok ([], 0)
    | some objs => .ok (sortScan pf c { pred := fun r => ev (objSymbols st r) } paging (some objs))

theorem objQuery_eq_P (pf : PagingFacts) (st : ObjStore) (q : Query) :
    objQuery pf st q = objQueryP pf st (fun s => evalFilter s q.filter) q.sort q.paging := rfl

end StorageModel.Query
