import StorageModel.Filter.Eval
/-
  C01 — the cursor state behind set functions and sub-queries, as the code keeps it.

  `Eval.lean` reads a set symbol as a list.  In the code that list is a walk over a stateful object: `GetSymbol` hands out
  a runtime copy of a set symbol, `rowCursorImpl.getSymbol` keeps it in the `symbolCache` of the row cursor,
  `OpenSetCursor` / `OpenSetCursorForQuery` re-position that one object, and the loops of the set functions and of
  `uniqueIndexScanner.Next` advance it while other nodes are evaluated in between.  Here the objects live in a heap keyed
  by (row cursor, symbol name); a sub-query scanner evaluates its rows with a row cursor of its own (`alloc`).
  The file holds the machine `Sk.run`, its list semantics `Sk.eval`, and what the two loops compute (`elemLoop_spec`,
  `scanLoopA_spec`).  That the walk over the heap computes the list semantics, also when the sub-query ranges over the
  entity type being scanned and its predicate opens the set symbol the sub-query iterates, is `run_fresh_eq_eval` in
  `CursorsAlloc.lean`.
-/
namespace StorageModel.Filter

variable {C F : Type}

/-- the position of one runtime set-symbol object: what is left of its bolt cursor, seen as elements
    (`Current()` / `Eval` of the element under the cursor) and as the rows a sub-query scanner takes from it -/
structure CurState (C F : Type) where
  elems : List (SVal F)
  rows : List C

/-- (row cursor, symbol name): one entry of one `symbolCache` -/
abbrev ObjKey := Nat × String
abbrev Heap (C F : Type) := ObjKey → CurState C F

def Heap.init : Heap C F := fun _ => ⟨[], []⟩
def Heap.set (h : Heap C F) (k : ObjKey) (v : CurState C F) : Heap C F := fun k' => if k' = k then v else h k'

/-- `setRowSymbol.OpenCursor(rs.tx, rs.currentRow)`: the object of `n` in row cursor `rc` is positioned at the
    first element of the set of row `c` (whatever it was positioned at before) -/
def openCur (w : World C F) (h : Heap C F) (rc : Nat) (c : C) (n : String) : Heap C F :=
  h.set (rc, n) ⟨w.elems c n, w.subRows c n⟩

/-- `cursor.Next()` -/
def nextElem (h : Heap C F) (k : ObjKey) : Heap C F := h.set k ⟨(h k).elems.tail, (h k).rows.tail⟩

/-- the loops of `AnyOfSetExprNode.EvalBool` (stop = predicate), `AllOfSetExprNode.EvalBool` (stop = ¬predicate)
    and `CountSetExprNode.EvalInt64` (never stops): `for cursor.IsValid() { if stop(element under the cursor) {
    return }; cursor.Next() }`, reading the object in the heap on every round.  Result: (rounds completed, stopped). -/
def elemLoop (stop : SVal F → Bool) (k : ObjKey) : Nat → Heap C F → (Nat × Bool) × Heap C F
  | 0, h => ((0, false), h)
  | fuel + 1, h =>
    match (h k).elems with
    | [] => ((0, false), h)
    | e :: _ =>
      if stop e then ((0, true), h)
      else ((((elemLoop stop k fuel (nextElem h k)).1.1 + 1), (elemLoop stop k fuel (nextElem h k)).1.2),
            (elemLoop stop k fuel (nextElem h k)).2)

/-- `scanner.collected >= scanner.targetLimit` -/
def limHit (lim : Option Nat) (collected : Nat) : Bool :=
  match lim with | some l => decide (collected ≥ l) | none => false

/-- `uniqueIndexScanner.Next`, called once by `newCursorScanner` and then by the loop of the set function, as one
    loop over the object `k` the scanner was given: `current = cursor.Current(); cursor.Next()` *before* the row is
    evaluated with the scanner's own row cursor (`runq`, which may open any object it can reach) -/
def scanLoop (runq : C → Heap C F → Bool × Heap C F) (nil : C → Bool) (k : ObjKey) (targetOffset : Nat)
    (lim : Option Nat) : Nat → Nat → Nat → Heap C F → Nat × Heap C F
  | 0, _, _, h => (0, h)
  | fuel + 1, offset, collected, h =>
    match (h k).rows with
    | [] => (0, h)
    | r :: _ =>
      if limHit lim collected then (0, h)
      else if nil r then scanLoop runq nil k targetOffset lim fuel offset collected (nextElem h k)
      else if (runq r (nextElem h k)).1 then
        (if offset < targetOffset then
           scanLoop runq nil k targetOffset lim fuel (offset + 1) collected (runq r (nextElem h k)).2
         else (1 + (scanLoop runq nil k targetOffset lim fuel offset (collected + 1) (runq r (nextElem h k)).2).1,
               (scanLoop runq nil k targetOffset lim fuel offset (collected + 1) (runq r (nextElem h k)).2).2))
      else scanLoop runq nil k targetOffset lim fuel offset collected (runq r (nextElem h k)).2

/-- the scan skeleton of a typed filter: where cursors are opened and walked.  `atom`: a part that opens no
    cursor; `anyOf` / `allOf`: the predicate reads the row's symbols and the element under the cursor
    (`runtime.Eval`); `count` / `countQ`: the continuation is the comparison the count is used in -/
inductive Sk (C F : Type) where
  | atom (p : C → Bool)
  | not (a : Sk C F)
  | and (a b : Sk C F)
  | or (a b : Sk C F)
  | anyOf (n : String) (p : C → SVal F → Bool)
  | allOf (n : String) (p : C → SVal F → Bool)
  | count (n : String) (k : Nat → Bool)
  | isEmpty (n : String)
  | countQ (n : String) (q : Sk C F) (skip limit : Option Int) (k : Nat → Bool)
  | isEmptyQ (n : String) (q : Sk C F) (skip limit : Option Int)

/-- the list semantics (what `evalBool` computes, see `skOf_eval`) -/
def Sk.eval (w : World C F) : Sk C F → C → Bool
  | .atom p, c => p c
  | .not a, c => !a.eval w c
  | .and a b, c => if !a.eval w c then false else b.eval w c
  | .or a b, c => if a.eval w c then true else b.eval w c
  | .anyOf n p, c => (w.elems c n).any (p c)
  | .allOf n p, c => (w.elems c n).all (p c)
  | .count n k, c => k (w.elems c n).length
  | .isEmpty n, c => (w.elems c n).isEmpty
  | .countQ n q skip limit k, c =>
    k (scanCount (fun c' => q.eval w c') w.nilRow (pagingOffset skip) (pagingLimit limit) (w.subRows c n) 0 0)
  | .isEmptyQ n q skip limit, c =>
    scanCount (fun c' => q.eval w c') w.nilRow (pagingOffset skip) (pagingLimit limit) (w.subRows c n) 0 0 == 0

/-- evaluation over the heap of runtime objects, by the row cursor `rc` positioned on row `c`.
    `alloc rc c n`: the row cursor of the scanner `OpenSetCursorForQuery(n, q)` creates. -/
def Sk.run (w : World C F) (alloc : Nat → C → String → Nat) : Sk C F → Nat → C → Heap C F → Bool × Heap C F
  | .atom p, _, c, h => (p c, h)
  | .not a, rc, c, h => (!(a.run w alloc rc c h).1, (a.run w alloc rc c h).2)
  | .and a b, rc, c, h =>
    if !(a.run w alloc rc c h).1 then (false, (a.run w alloc rc c h).2) else b.run w alloc rc c (a.run w alloc rc c h).2
  | .or a b, rc, c, h =>
    if (a.run w alloc rc c h).1 then (true, (a.run w alloc rc c h).2) else b.run w alloc rc c (a.run w alloc rc c h).2
  | .anyOf n p, rc, c, h =>
    ((elemLoop (p c) (rc, n) (w.elems c n).length (openCur w h rc c n)).1.2,
     (elemLoop (p c) (rc, n) (w.elems c n).length (openCur w h rc c n)).2)
  | .allOf n p, rc, c, h =>
    (!(elemLoop (fun e => !p c e) (rc, n) (w.elems c n).length (openCur w h rc c n)).1.2,
     (elemLoop (fun e => !p c e) (rc, n) (w.elems c n).length (openCur w h rc c n)).2)
  | .count n k, rc, c, h =>
    (k (elemLoop (fun _ => false) (rc, n) (w.elems c n).length (openCur w h rc c n)).1.1,
     (elemLoop (fun _ => false) (rc, n) (w.elems c n).length (openCur w h rc c n)).2)
  | .isEmpty n, rc, c, h => (((openCur w h rc c n) (rc, n)).elems.isEmpty, openCur w h rc c n)
  | .countQ n q skip limit k, rc, c, h =>
    (k (scanLoop (fun c' => q.run w alloc (alloc rc c n) c') w.nilRow (rc, n) (pagingOffset skip) (pagingLimit limit)
          (w.subRows c n).length 0 0 (openCur w h rc c n)).1,
     (scanLoop (fun c' => q.run w alloc (alloc rc c n) c') w.nilRow (rc, n) (pagingOffset skip) (pagingLimit limit)
          (w.subRows c n).length 0 0 (openCur w h rc c n)).2)
  | .isEmptyQ n q skip limit, rc, c, h =>
    ((scanLoop (fun c' => q.run w alloc (alloc rc c n) c') w.nilRow (rc, n) (pagingOffset skip) (pagingLimit limit)
          (w.subRows c n).length 0 0 (openCur w h rc c n)).1 == 0,
     (scanLoop (fun c' => q.run w alloc (alloc rc c n) c') w.nilRow (rc, n) (pagingOffset skip) (pagingLimit limit)
          (w.subRows c n).length 0 0 (openCur w h rc c n)).2)

theorem nextElem_same (h : Heap C F) (k : ObjKey) :
    (nextElem h k k).elems = (h k).elems.tail ∧ (nextElem h k k).rows = (h k).rows.tail := by
  simp [nextElem, Heap.set]

theorem nextElem_other (h : Heap C F) (k k' : ObjKey) (hk : k' ≠ k) : nextElem h k k' = h k' := by
  simp [nextElem, Heap.set, hk]

theorem elemLoop_spec (stop : SVal F → Bool) (k : ObjKey) :
    ∀ (fuel : Nat) (h : Heap C F) (es : List (SVal F)), (h k).elems = es → es.length ≤ fuel →
      (elemLoop stop k fuel h).1.2 = es.any stop ∧
      ((∀ e, stop e = false) → (elemLoop stop k fuel h).1.1 = es.length) ∧
      ∀ k', k' ≠ k → (elemLoop stop k fuel h).2 k' = h k' := by
  intro fuel
  induction fuel with
  | zero =>
    intro h es hE hl
    cases List.eq_nil_of_length_eq_zero (Nat.le_zero.mp hl)
    exact ⟨rfl, fun _ => rfl, fun _ _ => rfl⟩
  | succ fuel ih =>
    intro h es hE hl
    cases es with
    | nil => simp [elemLoop, hE]
    | cons e rest =>
      have hn : (nextElem h k k).elems = rest := by rw [(nextElem_same h k).1, hE]; rfl
      obtain ⟨h1, h2, h3⟩ := ih (nextElem h k) rest hn (Nat.le_of_succ_le_succ hl)
      by_cases hs : stop e = true
      · have hne : ¬∀ e, stop e = false := fun h0 => by rw [h0 e] at hs; cases hs
        simp [elemLoop, hE, hs, hne]
      · simp only [elemLoop, hE, hs, h1, Bool.false_eq_true, if_false, List.any_cons, Bool.false_or, List.length_cons,
          true_and]
        exact ⟨fun h0 => by rw [h2 h0], fun k' hk => by rw [h3 k' hk, nextElem_other h k k' hk]⟩

theorem scanCount_cons (m nil : C → Bool) (tOff : Nat) (lim : Option Nat) (r : C) (rest : List C) (offset collected : Nat) :
    scanCount m nil tOff lim (r :: rest) offset collected =
      if limHit lim collected then 0
      else if nil r then scanCount m nil tOff lim rest offset collected
      else if m r then
        (if offset < tOff then scanCount m nil tOff lim rest (offset + 1) collected
         else 1 + scanCount m nil tOff lim rest offset (collected + 1))
      else scanCount m nil tOff lim rest offset collected := by
  cases lim <;> simp [scanCount, limHit]

theorem key_ne_of_fst_ne (k' : ObjKey) (rc : Nat) (n : String) (h : k'.1 ≠ rc) : k' ≠ (rc, n) := by
  intro he; rw [he] at h; exact h rfl

/-- the objects, and how many row cursors `newRowCursor` has handed out -/
abbrev RtState (C F : Type) := Heap C F × Nat

/-- `uniqueIndexScanner.Next` as in `scanLoop`, over a state that also carries the allocation counter (a row
    predicate may hand out row cursors: `CursorsAlloc.lean`); the loop is analysed once, in this form -/
def scanLoopA (runq : C → RtState C F → Bool × RtState C F) (nil : C → Bool) (k : ObjKey) (targetOffset : Nat)
    (lim : Option Nat) : Nat → Nat → Nat → RtState C F → Nat × RtState C F
  | 0, _, _, s => (0, s)
  | fuel + 1, offset, collected, s =>
    match (s.1 k).rows with
    | [] => (0, s)
    | r :: _ =>
      if limHit lim collected then (0, s)
      else if nil r then scanLoopA runq nil k targetOffset lim fuel offset collected (nextElem s.1 k, s.2)
      else if (runq r (nextElem s.1 k, s.2)).1 then
        (if offset < targetOffset then
           scanLoopA runq nil k targetOffset lim fuel (offset + 1) collected (runq r (nextElem s.1 k, s.2)).2
         else (1 + (scanLoopA runq nil k targetOffset lim fuel offset (collected + 1) (runq r (nextElem s.1 k, s.2)).2).1,
               (scanLoopA runq nil k targetOffset lim fuel offset (collected + 1) (runq r (nextElem s.1 k, s.2)).2).2))
      else scanLoopA runq nil k targetOffset lim fuel offset collected (runq r (nextElem s.1 k, s.2)).2

/-- what a scan needs from the stateful row predicate, once `nx` row cursors exist: it answers `m`, never gives a row
    cursor back, and leaves the objects `P` alone -/
def FramesA (runq : C → RtState C F → Bool × RtState C F) (m : C → Bool) (P : ObjKey → Prop) (nx : Nat) : Prop :=
  ∀ r (s : RtState C F), nx ≤ s.2 →
    (runq r s).1 = m r ∧ s.2 ≤ (runq r s).2.2 ∧ ∀ k', P k' → (runq r s).2.1 k' = s.1 k'

theorem scanLoopA_spec (runq : C → RtState C F → Bool × RtState C F) (m nil : C → Bool) (k : ObjKey)
    (tOff : Nat) (lim : Option Nat) (P : ObjKey → Prop) (nx : Nat) (hk : P k) (hf : FramesA runq m P nx) (h₀ : Heap C F) :
    ∀ (fuel offset collected : Nat) (h : Heap C F) (x : Nat) (rows : List C), nx ≤ x →
      (∀ k', P k' → k' ≠ k → h k' = h₀ k') → (h k).rows = rows → rows.length ≤ fuel →
      (scanLoopA runq nil k tOff lim fuel offset collected (h, x)).1 = scanCount m nil tOff lim rows offset collected ∧
      nx ≤ (scanLoopA runq nil k tOff lim fuel offset collected (h, x)).2.2 ∧
      ∀ k', P k' → k' ≠ k →
        (scanLoopA runq nil k tOff lim fuel offset collected (h, x)).2.1 k' = h₀ k' := by
  -- the frame is stated against a fixed heap `h₀`, not the loop's own `h`: the hypotheses then hold again of the state a
  -- round leaves, and each way the round goes on is the induction hypothesis there
  intro fuel
  induction fuel with
  | zero =>
    intro offset collected h x rows hx hfr hE hl
    cases List.eq_nil_of_length_eq_zero (Nat.le_zero.mp hl)
    exact ⟨rfl, hx, hfr⟩
  | succ fuel ih =>
    intro offset collected h x rows hx hfr hE hl
    cases rows with
    | nil =>
      simp only [scanLoopA, hE, scanCount]
      exact ⟨trivial, hx, hfr⟩
    | cons r rest =>
      have hn : (nextElem h k k).rows = rest := by rw [(nextElem_same h k).2, hE]; rfl
      have hfr1 : ∀ k', P k' → k' ≠ k → nextElem h k k' = h₀ k' := fun k' hk' hne => by
        rw [nextElem_other h k k' hne, hfr k' hk' hne]
      have hq := hf r (nextElem h k, x) hx
      have ih1 := fun o c => ih o c (nextElem h k) x rest hx hfr1 hn (Nat.le_of_succ_le_succ hl)
      have ih2 := fun o c => ih o c (runq r (nextElem h k, x)).2.1 (runq r (nextElem h k, x)).2.2 rest
        (Nat.le_trans hx hq.2.1) (fun k' hk' hne => (hq.2.2 k' hk').trans (hfr1 k' hk' hne))
        ((congrArg CurState.rows (hq.2.2 k hk)).trans hn) (Nat.le_of_succ_le_succ hl)
      simp only [scanLoopA, hE, scanCount_cons, hq.1]
      by_cases hlim : limHit lim collected = true
      · simp only [hlim, if_true]
        exact ⟨trivial, hx, hfr⟩
      · simp only [hlim, Bool.false_eq_true, if_false]
        by_cases hnil : nil r = true
        · simp only [hnil, if_true]
          exact ih1 offset collected
        · simp only [hnil, Bool.false_eq_true, if_false]
          by_cases hm : m r = true
          · simp only [hm, if_true]
            by_cases ho : offset < tOff
            · simp only [ho, if_true]
              exact ih2 (offset + 1) collected
            · simp only [ho, if_false]
              exact ⟨by rw [(ih2 offset (collected + 1)).1], (ih2 offset (collected + 1)).2⟩
          · simp only [hm, Bool.false_eq_true, if_false]
            exact ih2 offset collected

theorem scanLoopA_counterfree (runq : C → Heap C F → Bool × Heap C F) (nil : C → Bool) (k : ObjKey) (tOff : Nat)
    (lim : Option Nat) (x : Nat) : ∀ (fuel offset collected : Nat) (h : Heap C F),
      scanLoopA (fun r s => ((runq r s.1).1, (runq r s.1).2, s.2)) nil k tOff lim fuel offset collected (h, x) =
        ((scanLoop runq nil k tOff lim fuel offset collected h).1, (scanLoop runq nil k tOff lim fuel offset collected h).2, x) := by
  intro fuel
  induction fuel with
  | zero => intro offset collected h; rfl
  | succ fuel ih =>
    intro offset collected h
    simp only [scanLoopA, scanLoop]
    cases (h k).rows with
    | nil => rfl
    | cons r rest =>
      -- the right side is the repackaging of one `if` tree: push it into the branches
      change _ = (fun p : Nat × Heap C F => (p.1, p.2, x)) _
      simp only [ih, apply_ite (fun p : Nat × Heap C F => (p.1, p.2, x))]

theorem openCur_same (w : World C F) (h : Heap C F) (rc : Nat) (c : C) (n : String) :
    (openCur w h rc c n (rc, n)).elems = w.elems c n ∧ (openCur w h rc c n (rc, n)).rows = w.subRows c n := by
  simp [openCur, Heap.set]

theorem openCur_other (w : World C F) (h : Heap C F) (rc : Nat) (c : C) (n : String) (k' : ObjKey) (hk : k' ≠ (rc, n)) :
    openCur w h rc c n k' = h k' := by
  simp [openCur, Heap.set, hk]

theorem elemLoop_open (w : World C F) (h : Heap C F) (rc : Nat) (c : C) (n : String) (stop : SVal F → Bool) :
    (elemLoop stop (rc, n) (w.elems c n).length (openCur w h rc c n)).1.2 = (w.elems c n).any stop ∧
    ((∀ e, stop e = false) → (elemLoop stop (rc, n) (w.elems c n).length (openCur w h rc c n)).1.1 = (w.elems c n).length) ∧
    ∀ k', k' ≠ (rc, n) → (elemLoop stop (rc, n) (w.elems c n).length (openCur w h rc c n)).2 k' = h k' := by
  have hs := elemLoop_spec (C := C) stop (rc, n) (w.elems c n).length (openCur w h rc c n) _
    (openCur_same w h rc c n).1 (Nat.le_refl _)
  exact ⟨hs.1, hs.2.1, fun k' hk => by rw [hs.2.2 k' hk, openCur_other w h rc c n k' hk]⟩

/-- `newCursorScanner(rs.tx, linkedType, setCursor, query)`: a new row cursor for every sub-query scan -/
def freshAlloc : Nat → C → String → Nat := fun rc _ _ => rc + 1

/-- where a typed filter opens cursors.  Set functions that sit inside other operand positions (a count inside
    `in [...]` / `between` / a string comparison, the seek form `anyOfS`) stay inside an atom: they are then read by
    the list semantics directly. -/
def skOf (w : World C F) (fo : FloatOps F) : TNode F → Sk C F
  | .not e => .not (skOf w fo e)
  | .and l r => .and (skOf w fo l) (skOf w fo r)
  | .or l r => .or (skOf w fo l) (skOf w fo r)
  | .isEmpty n => .isEmpty n
  | .isEmptyQ n q _ skip limit => .isEmptyQ n (skOf w fo q) skip limit
  | .anyOf n p => .anyOf n (fun c e => evalBool w fo c (bind (w.val c) n e) p)
  | .allOf n p => .allOf n (fun c e => evalBool w fo c (bind (w.val c) n e) p)
  | .binInt op (.count n) (.intC k) =>
    .count n (fun cnt => binOrdSem (· == ·) (· < ·) (· ≤ ·) op (some (cnt : Int)) (some k))
  | .binInt op (.countQ n q _ skip limit) (.intC k) =>
    .countQ n (skOf w fo q) skip limit (fun cnt => binOrdSem (· == ·) (· < ·) (· ≤ ·) op (some (cnt : Int)) (some k))
  | t => .atom (fun c => evalBool w fo c (w.val c) t)

theorem skOf_eval (w : World C F) (fo : FloatOps F) (t : TNode F) :
    ∀ c, (skOf w fo t).eval w c = evalBool w fo c (w.val c) t := by
  fun_induction skOf w fo t <;> intro c <;> simp only [Sk.eval, evalBool, evalInt, *]

/-- `queryNode.EvalBool` on a row, evaluated over the heap of runtime objects by row cursor `rc` -/
def evalRowS (w : World C F) (fo : FloatOps F) (alloc : Nat → C → String → Nat) (rc : Nat) (c : C) (t : TNode F)
    (h : Heap C F) : Bool × Heap C F :=
  (skOf w fo t).run w alloc rc c h

end StorageModel.Filter
