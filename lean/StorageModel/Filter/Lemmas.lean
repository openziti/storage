import StorageModel.Filter.Spec
/-
  C01 — lemmas behind the property theorems: byte order, the seek shortcut, the paging scanner of a
  sub-query, and `sort by` inside it.
-/
namespace StorageModel.Filter
variable {C F T : Type}

theorem bytesLt_irrefl : ∀ a : Bytes, bytesLt a a = false
  | [] => rfl
  | x :: xs => by
    have := bytesLt_irrefl xs
    simp [bytesLt, this]

/-- the contents of a bbolt bucket that holds only string elements: strictly increasing strings -/
def SortedStrs (es : List (SVal F)) : Prop :=
  ∃ ss : List Bytes, es = ss.map SVal.str ∧ ss.Pairwise (fun a b => bytesLt a b = true)

theorem seek_core (v : Bytes) (g : SVal F → Bool) (hg : ∀ s, g (.str s) = (s == v)) :
    ∀ ss : List Bytes, ss.Pairwise (fun a b => bytesLt a b = true) →
    (match (ss.map (SVal.str (F := F))).find? (keyGe v) with
     | some e => g e
     | none => false) = ss.any (· == v)
  | [], _ => rfl
  | s :: rest, h => by
    have hrest := (List.pairwise_cons.mp h).2
    have hhead := (List.pairwise_cons.mp h).1
    have ih := seek_core v g hg rest hrest
    by_cases hlt : bytesLt s v = true
    · have hne : (s == v) = false := by
        apply beq_eq_false_iff_ne.mpr
        intro e; subst e; simp [bytesLt_irrefl] at hlt
      simp only [List.map_cons, List.find?_cons, keyGe, hlt, Bool.not_true, List.any_cons, hne, Bool.false_or]
      exact ih
    · have hlt' : bytesLt s v = false := by simpa using hlt
      have htail : rest.any (· == v) = false := by
        apply List.any_eq_false.mpr
        intro x hx hxv
        have : x = v := by simpa using hxv
        subst this
        have := hhead x hx
        simp [this] at hlt'
      simp [keyGe, hlt', hg, htail]

theorem seek_any (v : Bytes) (g : SVal F → Bool) (hg : ∀ s, g (.str s) = (s == v)) (ss : List Bytes)
    (hss : ss.Pairwise (fun a b => bytesLt a b = true)) :
    (match seekTo (ss.map (SVal.str (F := F))) v with
     | some e => g e
     | none => false) = (ss.map SVal.str).any g := by
  simp only [List.any_map, Function.comp_def, hg]
  exact seek_core v g hg ss hss

theorem seek_sound (es : List (SVal F)) (v : Bytes) (g : SVal F → Bool)
    (h : (match seekTo es v with | some e => g e | none => false) = true) : es.any g = true := by
  unfold seekTo at h
  cases hf : es.find? (keyGe v) with
  | none => simp [hf] at h
  | some e =>
    simp only [hf] at h
    exact List.any_eq_true.mpr ⟨e, List.mem_of_find?_eq_some hf, h⟩

/-- the keys of a bbolt bucket that holds elements of several types, in key order: the type byte
    comes first, so bools / ints / floats (`lo`) precede the strings, datetimes and nils (`hi`) follow -/
def KeyOrdered (es : List (SVal F)) : Prop :=
  ∃ (lo : List (SVal F)) (ss : List Bytes) (hi : List (SVal F)),
    es = lo ++ ss.map SVal.str ++ hi ∧ ss.Pairwise (fun a b => bytesLt a b = true) ∧
    (∀ e ∈ lo, ∀ v, keyGe v e = false) ∧ (∀ e ∈ hi, ∀ v, keyGe v e = true) ∧ (∀ e ∈ hi, e.isStr = false)

/-- what the seek shortcut computes on a bucket of mixed types: whether the compared string is one
    of the *string* elements — unless no string element is ≥ it and the first datetime / nil element
    happens to render to it -/
theorem seek_typed (fo : FloatOps F) (v : Bytes) (lo : List (SVal F)) (ss : List Bytes) (hi : List (SVal F))
    (hss : ss.Pairwise (fun a b => bytesLt a b = true))
    (hlo : ∀ e ∈ lo, ∀ v, keyGe v e = false)
    (hv : ∀ e ∈ hi, e.toStr fo ≠ some v) :
    (match seekTo (lo ++ ss.map SVal.str ++ hi) v with
     | some e => e.toStr fo == some v
     | none => false) = ss.any (· == v) := by
  unfold seekTo
  rw [List.append_assoc, List.find?_append, List.find?_eq_none.2 fun e he => Bool.eq_false_iff.1 (hlo e he v),
    Option.none_or, List.find?_append]
  have core := seek_core v (fun e : SVal F => e.toStr fo == some v) (fun s => by simp [SVal.toStr]) ss hss
  cases hf : (ss.map (SVal.str (F := F))).find? (keyGe v) with
  | some e => simpa [hf] using core
  | none =>
    rw [hf] at core
    simp only [Option.none_or]
    rw [← core]
    cases hh : hi.find? (keyGe v) with
    | none => rfl
    | some e =>
      have := hv e (List.mem_of_find?_eq_some hh)
      simp [this]

theorem seek_eq_scan_typed (fo : FloatOps F) (v : Bytes) (lo : List (SVal F)) (ss : List Bytes) (hi : List (SVal F))
    (hss : ss.Pairwise (fun a b => bytesLt a b = true))
    (hlo : ∀ e ∈ lo, ∀ v, keyGe v e = false)
    (hv : ∀ e ∈ lo ++ hi, e.toStr fo ≠ some v) :
    (match seekTo (lo ++ ss.map SVal.str ++ hi) v with
     | some e => e.toStr fo == some v
     | none => false) = (lo ++ ss.map SVal.str ++ hi).any (fun e => e.toStr fo == some v) := by
  rw [seek_typed fo v lo ss hi hss hlo (fun e he => hv e (List.mem_append_right _ he))]
  have h1 : lo.any (fun e => e.toStr fo == some v) = false :=
    List.any_eq_false.mpr fun e he => by simpa using hv e (List.mem_append_left _ he)
  have h2 : hi.any (fun e => e.toStr fo == some v) = false :=
    List.any_eq_false.mpr fun e he => by simpa using hv e (List.mem_append_right _ he)
  have h3 : (ss.map (SVal.str (F := F))).any (fun e => e.toStr fo == some v) = ss.any (· == v) := by
    simp [List.any_map, Function.comp_def, SVal.toStr]
  rw [List.any_append, List.any_append, h1, h2, h3]
  simp

theorem TNode.eq_strSym_of_isStrSym (t : TNode F) (h : t.isStrSym = true) : ∃ n, t = .strSym n := by
  cases t <;> first | exact ⟨_, rfl⟩ | cases h

/-- what the rest of the limit keeps of `l` once `k` rows are collected -/
def limTake {α} (lim : Option Nat) (k : Nat) (l : List α) : List α :=
  match lim with
  | some n => l.take (n - k)
  | none => l

/-- the scanner's test `collected >= targetLimit` holds: nothing more is kept -/
theorem limTake_hit {α} {lim : Option Nat} {k : Nat} (l : List α)
    (h : (match lim with | some n => decide (k ≥ n) | none => false) = true) : limTake lim k l = [] := by
  cases lim with
  | none => cases h
  | some n => simp only [limTake, Nat.sub_eq_zero_of_le (of_decide_eq_true h), List.take_zero]

theorem limTake_cons {α} {lim : Option Nat} {k : Nat} (x : α) (l : List α)
    (h : ¬(match lim with | some n => decide (k ≥ n) | none => false) = true) :
    (limTake lim k (x :: l)).length = (limTake lim (k + 1) l).length + 1 := by
  cases lim with
  | none => rfl
  | some n =>
    have : n - k = (n - (k + 1)) + 1 := by simp only [decide_eq_true_eq] at h; omega
    simp only [limTake, this, List.take_succ_cons, List.length_cons]

theorem scanCount_eq (m nil : C → Bool) (off : Nat) (lim : Option Nat) (rows : List C) (o k : Nat) :
    scanCount m nil off lim rows o k =
      (limTake lim k (((rows.filter fun r => !nil r).filter m).drop (off - o))).length := by
  fun_induction scanCount m nil off lim rows o k with
  | case1 => cases lim <;> simp [limTake]
  | case2 r rest o k hit => rw [limTake_hit _ hit]; rfl
  | case3 r rest o k _ hr ih => rw [ih]; simp only [List.filter_cons, hr, Bool.not_true, Bool.false_eq_true, if_false]
  | case4 r rest o k _ hr hm hlt ih =>
    rw [ih, List.filter_cons_of_pos (by simpa using hr), List.filter_cons_of_pos hm,
      show off - o = (off - (o + 1)) + 1 by omega, List.drop_succ_cons]
  | case5 r rest o k hlim hr hm hlt ih =>
    rw [ih, List.filter_cons_of_pos (by simpa using hr), List.filter_cons_of_pos hm,
      show off - o = 0 by omega, List.drop_zero, List.drop_zero, limTake_cons _ _ hlim, Nat.add_comm]
  | case6 r rest o k _ hr hm ih =>
    rw [ih, List.filter_cons_of_pos (by simpa using hr), List.filter_cons_of_neg hm]

theorem scanCount_paged (m nil : C → Bool) (skip limit : Option Int) (rows : List C) :
    scanCount m nil (pagingOffset skip) (pagingLimit limit) rows 0 0 =
      (paged skip limit ((rows.filter fun r => !nil r).filter m)).length := by
  rw [scanCount_eq m nil _ _ rows 0 0]
  rfl

theorem insertBy_length {α} (le : α → α → Bool) (x : α) (l : List α) : (insertBy le x l).length = l.length + 1 := by
  induction l with
  | nil => rfl
  | cons y ys ih => simp only [insertBy]; split <;> simp [ih]

theorem sortBy_length {α} (le : α → α → Bool) (l : List α) : (sortBy le l).length = l.length := by
  induction l with
  | nil => rfl
  | cons x xs ih => simp [sortBy, insertBy_length, ih]

theorem insertBy_perm {α} (le : α → α → Bool) (x : α) (l : List α) : (insertBy le x l).Perm (x :: l) := by
  induction l with
  | nil => exact List.Perm.refl _
  | cons y ys ih =>
    simp only [insertBy]
    split
    · exact List.Perm.refl _
    · exact (List.Perm.cons y ih).trans (List.Perm.swap x y ys)

theorem sortBy_perm {α} (le : α → α → Bool) (l : List α) : (sortBy le l).Perm l := by
  induction l with
  | nil => exact List.Perm.refl _
  | cons x xs ih => exact (insertBy_perm le x _).trans (List.Perm.cons x ih)

theorem paged_length {α} (skip limit : Option Int) (l : List α) :
    (paged skip limit l).length =
      (match pagingLimit limit with
       | some k => min k (l.length - pagingOffset skip)
       | none => l.length - pagingOffset skip) := by
  unfold paged
  cases pagingLimit limit <;> simp

theorem paged_length_congr {α β} (skip limit : Option Int) (l₁ : List α) (l₂ : List β) (h : l₁.length = l₂.length) :
    (paged skip limit l₁).length = (paged skip limit l₂).length := by
  rw [paged_length, paged_length, h]

theorem scanCount_sorted (m nil : C → Bool) (le : C → C → Bool) (skip limit : Option Int) (rows : List C) :
    scanCount m nil (pagingOffset skip) (pagingLimit limit) rows 0 0 =
      (paged skip limit (sortBy le ((rows.filter fun r => !nil r).filter m))).length := by
  rw [scanCount_paged]
  exact paged_length_congr skip limit _ _ (sortBy_length le _).symm

end StorageModel.Filter
