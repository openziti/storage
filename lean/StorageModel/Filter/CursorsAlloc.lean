import StorageModel.Filter.Cursors
/-
  C01 — the cursor machine with the allocation of row cursors inside the model: the state carries the number of row
  cursors handed out (`RtState`; its scanner loop `scanLoopA` is analysed in `Cursors.lean`).  `newRowCursorPolicy` is the
  code (`OpenSetCursorForQuery` → `newCursorScanner` → `rowCursor: newRowCursor(store, tx)`, an empty `symbolCache` for
  every sub-query scan); `sharedCachePolicy` hands the scanning row cursor's cache to the sub-query scan.

  The machine is analysed once, for any policy with a `Discipline` (`exec_disciplined`).  A policy that hands out row
  cursors nobody holds has one (`freshDiscipline`: `exec_eq_eval`); so has `Sk.run`, which is `Sk.exec` under the policy
  that ignores the counter (`run_eq_exec`, `depthDiscipline`: `run_fresh_eq_eval`).
-/
namespace StorageModel.Filter

variable {C F : Type}

/-- what `OpenSetCursorForQuery` gives the scanner as its row cursor, from (the scanning row cursor, the allocation
    counter, the scanned row, the set symbol): (the scanner's row cursor, the counter afterwards) -/
abbrev RowCursorPolicy (C : Type) := Nat → Nat → C → String → Nat × Nat

/-- the code: `rowCursor: newRowCursor(store, tx)` -/
def newRowCursorPolicy : RowCursorPolicy C := fun _ nx _ _ => (nx, nx + 1)
/-- the scanning row cursor (and with it its `symbolCache`) handed to the sub-query scan -/
def sharedCachePolicy : RowCursorPolicy C := fun rc nx _ _ => (rc, nx)

/-- a policy that gives the scanner a row cursor nobody holds yet -/
def FreshPolicy (pol : RowCursorPolicy C) : Prop :=
  ∀ rc nx c n, nx ≤ (pol rc nx c n).1 ∧ (pol rc nx c n).1 < (pol rc nx c n).2

theorem newRowCursorPolicy_fresh : FreshPolicy (newRowCursorPolicy (C := C)) :=
  fun _ nx _ _ => ⟨Nat.le_refl nx, Nat.lt_succ_self nx⟩

/-- evaluation by the row cursor `rc` positioned on row `c`: `Sk.run` with the allocation of the sub-query scanner's
    row cursor (`pol`) threaded through the state -/
def Sk.exec (w : World C F) (pol : RowCursorPolicy C) : Sk C F → Nat → C → RtState C F → Bool × RtState C F
  | .atom p, _, c, s => (p c, s)
  | .not a, rc, c, s => (!(a.exec w pol rc c s).1, (a.exec w pol rc c s).2)
  | .and a b, rc, c, s =>
    if !(a.exec w pol rc c s).1 then (false, (a.exec w pol rc c s).2) else b.exec w pol rc c (a.exec w pol rc c s).2
  | .or a b, rc, c, s =>
    if (a.exec w pol rc c s).1 then (true, (a.exec w pol rc c s).2) else b.exec w pol rc c (a.exec w pol rc c s).2
  | .anyOf n p, rc, c, s =>
    ((elemLoop (p c) (rc, n) (w.elems c n).length (openCur w s.1 rc c n)).1.2,
     ((elemLoop (p c) (rc, n) (w.elems c n).length (openCur w s.1 rc c n)).2, s.2))
  | .allOf n p, rc, c, s =>
    (!(elemLoop (fun e => !p c e) (rc, n) (w.elems c n).length (openCur w s.1 rc c n)).1.2,
     ((elemLoop (fun e => !p c e) (rc, n) (w.elems c n).length (openCur w s.1 rc c n)).2, s.2))
  | .count n k, rc, c, s =>
    (k (elemLoop (fun _ => false) (rc, n) (w.elems c n).length (openCur w s.1 rc c n)).1.1,
     ((elemLoop (fun _ => false) (rc, n) (w.elems c n).length (openCur w s.1 rc c n)).2, s.2))
  | .isEmpty n, rc, c, s => (((openCur w s.1 rc c n) (rc, n)).elems.isEmpty, (openCur w s.1 rc c n, s.2))
  | .countQ n q skip limit k, rc, c, s =>
    (k (scanLoopA (fun c' => q.exec w pol (pol rc s.2 c n).1 c') w.nilRow (rc, n) (pagingOffset skip) (pagingLimit limit)
          (w.subRows c n).length 0 0 (openCur w s.1 rc c n, (pol rc s.2 c n).2)).1,
     (scanLoopA (fun c' => q.exec w pol (pol rc s.2 c n).1 c') w.nilRow (rc, n) (pagingOffset skip) (pagingLimit limit)
          (w.subRows c n).length 0 0 (openCur w s.1 rc c n, (pol rc s.2 c n).2)).2)
  | .isEmptyQ n q skip limit, rc, c, s =>
    ((scanLoopA (fun c' => q.exec w pol (pol rc s.2 c n).1 c') w.nilRow (rc, n) (pagingOffset skip) (pagingLimit limit)
          (w.subRows c n).length 0 0 (openCur w s.1 rc c n, (pol rc s.2 c n).2)).1 == 0,
     (scanLoopA (fun c' => q.exec w pol (pol rc s.2 c n).1 c') w.nilRow (rc, n) (pagingOffset skip) (pagingLimit limit)
          (w.subRows c n).length 0 0 (openCur w s.1 rc c n, (pol rc s.2 c n).2)).2)

/-- a row cursor per nesting depth, chosen by `alloc`; the counter is not used -/
def depthPolicy (alloc : Nat → C → String → Nat) : RowCursorPolicy C := fun rc nx c n => (alloc rc c n, nx)

theorem run_eq_exec (w : World C F) (alloc : Nat → C → String → Nat) (sk : Sk C F) : ∀ (rc : Nat) (c : C) (h : Heap C F) (x : Nat),
    sk.exec w (depthPolicy alloc) rc c (h, x) = ((sk.run w alloc rc c h).1, (sk.run w alloc rc c h).2, x) := by
  induction sk with
  | atom p => intro rc c h x; rfl
  | not a ih => intro rc c h x; simp only [Sk.exec, Sk.run, ih]
  | and a b iha ihb | or a b iha ihb =>
    intro rc c h x
    simp only [Sk.exec, Sk.run, iha, ihb]
    split <;> rfl
  | anyOf n p | allOf n p | count n k | isEmpty n => intro rc c h x; rfl
  | countQ n q skip limit k ih | isEmptyQ n q skip limit ih =>
    intro rc c h x
    have hq : (fun c' (s : RtState C F) => q.exec w (depthPolicy alloc) (alloc rc c n) c' s) =
        fun c' s => ((q.run w alloc (alloc rc c n) c' s.1).1, (q.run w alloc (alloc rc c n) c' s.1).2, s.2) :=
      funext fun c' => funext fun s => ih (alloc rc c n) c' s.1 s.2
    simp only [Sk.exec, Sk.run, depthPolicy, hq, scanLoopA_counterfree]

/-- what an evaluation may rely on under a policy: begun by row cursor `rc` when `x` row cursors are handed out
    (`ok rc x`), it leaves the objects `safe rc x` alone -/
structure Discipline (pol : RowCursorPolicy C) where
  ok : Nat → Nat → Prop
  safe : Nat → Nat → ObjKey → Prop
  own : ∀ {rc x k}, safe rc x k → k.1 ≠ rc
  mono : ∀ {rc x x'}, ok rc x → x ≤ x' → ok rc x' ∧ ∀ k, safe rc x k → safe rc x' k
  /-- the scanner's row cursor may be used from then on, and leaves alone what the scanning row cursor must and owns -/
  sub : ∀ {rc x c n x'}, ok rc x → (pol rc x c n).2 ≤ x' → x ≤ (pol rc x c n).2 ∧ ok (pol rc x c n).1 x' ∧
    ∀ k, safe rc x k ∨ k.1 = rc → safe (pol rc x c n).1 x' k

/-- row cursors taken from the counter: every object that exists is left alone, the evaluating row cursor's own apart -/
def freshDiscipline (pol : RowCursorPolicy C) (hp : FreshPolicy pol) : Discipline pol where
  ok rc x := rc < x
  safe rc x k := k.1 < x ∧ k.1 ≠ rc
  own h := h.2
  mono h hx := ⟨Nat.lt_of_lt_of_le h hx, fun _ hk => ⟨Nat.lt_of_lt_of_le hk.1 hx, hk.2⟩⟩
  sub {rc x c n x'} h hx := by
    have := hp rc x c n
    refine ⟨by omega, by omega, fun k hk => ?_⟩
    have : k.1 < x := by rcases hk with hk | hk <;> omega
    omega

/-- row cursors by nesting depth: the objects of the shallower row cursors are left alone -/
def depthDiscipline (alloc : Nat → C → String → Nat) (hfresh : ∀ rc c n, rc < alloc rc c n) :
    Discipline (depthPolicy alloc) where
  ok _ _ := True
  safe rc _ k := k.1 < rc
  own h := Nat.ne_of_lt h
  mono _ _ := ⟨trivial, fun _ hk => hk⟩
  sub {rc x c n x'} _ hx := ⟨Nat.le_refl _, trivial, fun k hk => by
    have := hfresh rc c n
    show k.1 < alloc rc c n
    rcases hk with hk | hk <;> omega⟩

theorem exec_disciplined (w : World C F) (pol : RowCursorPolicy C) (D : Discipline pol) (sk : Sk C F) :
    ∀ (rc : Nat) (c : C) (h : Heap C F) (x : Nat), D.ok rc x →
      (sk.exec w pol rc c (h, x)).1 = sk.eval w c ∧ x ≤ (sk.exec w pol rc c (h, x)).2.2 ∧
      ∀ k' : ObjKey, D.safe rc x k' → (sk.exec w pol rc c (h, x)).2.1 k' = h k' := by
  induction sk with
  | atom p => intro rc c h x hx; simp [Sk.exec, Sk.eval]
  | not a ih =>
    intro rc c h x hx
    simp only [Sk.exec, Sk.eval, (ih rc c h x hx).1]
    exact ⟨trivial, (ih rc c h x hx).2⟩
  | and a b iha ihb | or a b iha ihb =>
    intro rc c h x hx
    have h1 := iha rc c h x hx
    have hm := D.mono hx h1.2.1
    have h2 := ihb rc c (a.exec w pol rc c (h, x)).2.1 (a.exec w pol rc c (h, x)).2.2 hm.1
    simp only [Sk.exec, Sk.eval, h1.1]
    -- either the second operand is skipped, or it runs on the state the first one left
    by_cases ha : a.eval w c = true <;>
      simp only [ha, Bool.not_true, Bool.not_false, Bool.false_eq_true, if_false, if_true] <;>
      first
      | exact ⟨trivial, h1.2⟩
      | exact ⟨h2.1, Nat.le_trans h1.2.1 h2.2.1, fun k' hk => by rw [h2.2.2 k' (hm.2 k' hk), h1.2.2 k' hk]⟩
  | anyOf n p | allOf n p | count n k =>
    intro rc c h x hx
    simp only [Sk.exec, Sk.eval, (elemLoop_open w h rc c n _).1, (elemLoop_open w h rc c n _).2.1 fun _ => rfl,
      List.not_any_eq_all_not, Bool.not_not]
    exact ⟨trivial, Nat.le_refl _, fun k' hk => (elemLoop_open w h rc c n _).2.2 k' (key_ne_of_fst_ne k' rc n (D.own hk))⟩
  | isEmpty n =>
    intro rc c h x hx
    simp only [Sk.exec, Sk.eval, (openCur_same w h rc c n).1]
    exact ⟨trivial, Nat.le_refl _, fun k' hk => openCur_other w h rc c n k' (key_ne_of_fst_ne k' rc n (D.own hk))⟩
  | countQ n q skip limit k ih | isEmptyQ n q skip limit ih =>
    intro rc c h x hx
    -- the sub-query's predicate, run by the row cursor the policy hands out, respects the frame of this scan
    have hf : FramesA (fun c' => q.exec w pol (pol rc x c n).1 c') (fun c' => q.eval w c')
        (fun k' => D.safe rc x k' ∨ k'.1 = rc) (pol rc x c n).2 := fun r s hs =>
      have hi := ih (pol rc x c n).1 r s.1 s.2 (D.sub hx hs).2.1
      ⟨hi.1, hi.2.1, fun k' hk => hi.2.2 k' ((D.sub hx hs).2.2 k' hk)⟩
    have hs := scanLoopA_spec _ _ w.nilRow (rc, n) (pagingOffset skip) (pagingLimit limit) _ _ (.inr rfl) hf h
      (w.subRows c n).length 0 0 (openCur w h rc c n) _ _ (Nat.le_refl _) (fun k' _ hne => openCur_other w h rc c n k' hne)
      (openCur_same w h rc c n).2 (Nat.le_refl _)
    simp only [Sk.exec, Sk.eval, hs.1]
    exact ⟨trivial, Nat.le_trans (D.sub hx (Nat.le_refl _)).1 hs.2.1,
      fun k' hk => hs.2.2 k' (.inl hk) (key_ne_of_fst_ne k' rc n (D.own hk))⟩

theorem exec_eq_eval (w : World C F) (pol : RowCursorPolicy C) (hp : FreshPolicy pol) (sk : Sk C F)
    (rc : Nat) (c : C) (h : Heap C F) (x : Nat) (hx : rc < x) :
    (sk.exec w pol rc c (h, x)).1 = sk.eval w c ∧ x ≤ (sk.exec w pol rc c (h, x)).2.2 ∧
      ∀ k' : ObjKey, k'.1 < x → k'.1 ≠ rc → (sk.exec w pol rc c (h, x)).2.1 k' = h k' :=
  have := exec_disciplined w pol (freshDiscipline pol hp) sk rc c h x hx
  ⟨this.1, this.2.1, fun k' h1 h2 => this.2.2 k' ⟨h1, h2⟩⟩

theorem run_fresh_eq_eval (w : World C F) (alloc : Nat → C → String → Nat) (hfresh : ∀ rc c n, rc < alloc rc c n)
    (sk : Sk C F) (rc : Nat) (c : C) (h : Heap C F) :
    (sk.run w alloc rc c h).1 = sk.eval w c ∧ ∀ k' : ObjKey, k'.1 < rc → (sk.run w alloc rc c h).2 k' = h k' := by
  have := exec_disciplined w _ (depthDiscipline alloc hfresh) sk rc c h 0 trivial
  rw [run_eq_exec] at this
  exact ⟨this.1, this.2.2⟩

theorem evalRowS_fresh (w : World C F) (fo : FloatOps F) (alloc : Nat → C → String → Nat)
    (hfresh : ∀ rc c n, rc < alloc rc c n) (rc : Nat) (c : C) (t : TNode F) (h : Heap C F) :
    (evalRowS w fo alloc rc c t h).1 = evalRow w fo c t := by
  unfold evalRowS evalRow
  rw [(run_fresh_eq_eval w alloc hfresh (skOf w fo t) rc c h).1, skOf_eval]

/-- `queryNode.EvalBool` on a row by the scan's row cursor 0 (`ScanCursor`: `scanner.rowCursor = newRowCursor(store,
    tx)`), one row cursor allocated so far, over whatever the earlier rows left in the heap -/
def evalRowA (w : World C F) (fo : FloatOps F) (pol : RowCursorPolicy C) (c : C) (t : TNode F) (h : Heap C F) :
    Bool × RtState C F :=
  (skOf w fo t).exec w pol 0 c (h, 1)

theorem evalRowA_fresh (w : World C F) (fo : FloatOps F) (pol : RowCursorPolicy C) (hp : FreshPolicy pol) (c : C)
    (t : TNode F) (h : Heap C F) : (evalRowA w fo pol c t h).1 = evalRow w fo c t := by
  unfold evalRowA evalRow
  rw [(exec_eq_eval w pol hp (skOf w fo t) 0 c h 1 (Nat.lt_succ_self 0)).1, skOf_eval]

theorem evalRowA_code (w : World C F) (fo : FloatOps F) (c : C) (t : TNode F) (h : Heap C F) :
    (evalRowA w fo newRowCursorPolicy c t h).1 = evalRow w fo c t :=
  evalRowA_fresh w fo newRowCursorPolicy newRowCursorPolicy_fresh c t h

end StorageModel.Filter
