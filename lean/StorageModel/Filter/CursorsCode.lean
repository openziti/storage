import StorageModel.Filter.CursorsAlloc
import StorageModel.Generated.C01Cursors
/-
  C01 — the row-cursor policy of the cursor machine, read off the source (`extract/c01cursors.go` →
  `Generated/C01Cursors.lean`): `newRowCursorPolicy` exactly when

    * `newRowCursor` returns a row cursor with a new, empty `symbolCache`,
    * `rowCursorImpl.getSymbol` reads and fills the receiver's cache from the receiver's store,
    * `OpenSetCursorForQuery` opens the receiver's own symbol on the receiver's row and hands
      `(rs.tx, symbol.GetLinkedType(), setCursor, query)` to `newCursorScanner`,
    * `newCursorScanner` builds its scanner with `rowCursor: newRowCursor(store, tx)`,
    * `BaseStore.GetSymbol` hands out a runtime copy of a registered set symbol;

  otherwise (a shape the model has no reading for) the policy under which nothing is proved.
-/
namespace StorageModel.Filter
open StorageModel.Generated.C01Cursors

variable {C F : Type}

def cursorFactsOK : Bool :=
  newRowCursorHasOwnCache && getSymbolUsesOwnCache && openForQueryUsesOwnSymbol && subScanGetsNewRowCursor &&
    setSymbolsAreRuntimeCopies

/-- the policy the source denotes -/
def codePolicy : RowCursorPolicy C := if cursorFactsOK then newRowCursorPolicy else sharedCachePolicy

/-- the code as it is gives every sub-query scan a row cursor nobody holds (fails to check when the extractor no
    longer recognises one of the shapes) -/
theorem codePolicy_fresh : FreshPolicy (codePolicy (C := C)) := by
  have h : cursorFactsOK = true := by decide
  unfold codePolicy
  rw [if_pos h]
  exact newRowCursorPolicy_fresh

end StorageModel.Filter
