import StorageModel.Filter.Lemmas
/-
  C01 — the node class `getTypedExpr` / `inTypedExpr` / `betweenTypedExpr` chooses evaluates to the specification's
  comparison.  The two decision tables are matched once (`Join`, `cmpType_join`); the rest is said per comparison type for
  any left operand with the interfaces of that type (`Reads`: typed symbols and count nodes).
-/
namespace StorageModel.Filter
variable {C F T : Type}

/-- the typed symbol node `UntypedSymbolNode.TypeTransform` produces for a symbol of type `τ` -/
def symNode : NodeType → String → TNode F
  | .str, n => .strSym n | .bool, n => .boolSym n | .int, n => .intSym n
  | .float, n => .floatSym n | .time, n => .timeSym n | .any, n => .anySym n
  | .other, _ => .nullC

theorem typedSym_eq {sg : Sigma T} {t : T} {n : String} {τ : NodeType} {b : Bool}
    (h : sg.sym t n = some (τ, b)) (hτ : τ ≠ .other) : typedSym (F := F) sg t n = .ok (symNode τ n) := by
  cases τ <;> simp_all [typedSym, symNode]

theorem symNode_name (τ : NodeType) (n : String) (hτ : τ ≠ .other) :
    (symNode (F := F) τ n).symName? = some n := by
  cases τ <;> simp_all [symNode, TNode.symName?]

theorem splitSetFn_symNode (b : Bool) (τ : NodeType) (n : String) :
    splitSetFn b (symNode (F := F) τ n) = (symNode τ n, none) := by
  cases τ <;> rfl

/-- a count node: `CountSetExprNode` without or with a sub-query -/
def IsCountNode (s : TNode F) : Prop :=
  (∃ n, s = .count n) ∨ (∃ n q so sk li, s = .countQ n q so sk li)

/-- a literal with a string reading (`litStr`): string, integer or float -/
def Lit.isStrLit : Lit F → Bool
  | .str _ | .int _ | .float _ => true
  | _ => false

theorem isCmpOp_of_ne {op : Op} (h₁ : op ≠ .contains) (h₂ : op ≠ .ncontains) (h₃ : op ≠ .icontains)
    (h₄ : op ≠ .nicontains) : isCmpOp op = true := by
  cases op <;> first | rfl | contradiction

/-- the rows of the join table `cmpType`: which comparisons of a `τ`-typed operand with a literal are carried out,
    and at which type -/
inductive Join : NodeType → Op → Lit F → CTy → Prop
  | bool {τ op b} : τ = .bool ∨ τ = .any → op = .eq ∨ op = .ne → Join τ op (.bool b) .bool
  | time {τ op t} : τ = .time ∨ τ = .any → isCmpOp op = true → Join τ op (.time t) .time
  | int {τ op i} : τ = .int ∨ τ = .any → isCmpOp op = true → Join τ op (.int i) .int
  | float {τ op f} : τ = .float ∨ τ = .any → isCmpOp op = true → Join τ op (.float f) .float
  | floatInt {op i} : isCmpOp op = true → Join .float op (.int i) .float
  | intFloat {op f} : isCmpOp op = true → Join .int op (.float f) .float
  | str {τ op r} : τ = .str ∨ τ = .any ∧ (∃ s, r = .str s) → isCmpOp op = true → r.isStrLit = true → Join τ op r .str
  | sub {τ op r} : τ = .str ∨ τ = .int ∨ τ = .float ∨ τ = .any → op = .contains ∨ op = .ncontains →
      r.isStrLit = true → Join τ op r .str
  | isub {τ op s} : τ = .str ∨ τ = .any → op = .icontains ∨ op = .nicontains → Join τ op (.str s) .str

-- The table is read along its own alternatives (`split`); going through all triples of constructors is
-- slow to check.  Each surviving alternative is one row of `Join`.
theorem cmpType_join {τ : NodeType} {op : Op} {r : Lit F} {cty : CTy} (h : cmpType τ op r = some cty) :
    Join τ op r cty := by
  unfold cmpType at h
  split at h <;> split at h <;> first | cases h | skip
  -- the `if` of the bool rows
  any_goals (split at h <;> cases h)
  all_goals first
    | exact .bool (by decide) ‹_›
    | exact .sub (by decide) (by decide) rfl
    | exact .isub (by decide) (by decide)
    | exact .time (by decide) (isCmpOp_of_ne ‹_› ‹_› ‹_› ‹_›)
    | exact .int (by decide) (isCmpOp_of_ne ‹_› ‹_› ‹_› ‹_›)
    | exact .float (by decide) (isCmpOp_of_ne ‹_› ‹_› ‹_› ‹_›)
    | exact .floatInt (isCmpOp_of_ne ‹_› ‹_› ‹_› ‹_›)
    | exact .intFloat (isCmpOp_of_ne ‹_› ‹_› ‹_› ‹_›)
    | exact .str (.inl rfl) (isCmpOp_of_ne ‹_› ‹_› ‹_› ‹_›) rfl
    | exact .str (.inr ⟨rfl, _, rfl⟩) (isCmpOp_of_ne ‹_› ‹_› ‹_› ‹_›) rfl

theorem binOrdSem_eq_withNull {α} (eq lt le : α → α → Bool) {op : Op} (hop : isCmpOp op = true) (a b : Option α) :
    binOrdSem eq lt le op a b = withNull op a b (ordCmp eq lt le op) := by
  cases a <;> cases b <;> cases op <;> first | rfl | cases hop

theorem binStrSem_eq_withNull {op : Op} (h₁ : op ≠ .icontains) (h₂ : op ≠ .nicontains) (a b : Option Bytes) :
    binStrSem op a b = withNull op a b (strCmp op) := by
  cases a <;> cases b <;> cases op <;> first | rfl | exact absurd rfl h₁ | exact absurd rfl h₂

theorem binStrSem_upper (a b : Option Bytes) :
    binStrSem .contains (a.map toUpper) (b.map toUpper) = withNull .icontains a b (strCmp .icontains) ∧
    binStrSem .ncontains (a.map toUpper) (b.map toUpper) = withNull .nicontains a b (strCmp .nicontains) := by
  cases a <;> cases b <;> exact ⟨rfl, rfl⟩

theorem isCmpOp_not_sub {op : Op} (h : isCmpOp op = true) : ¬(op = .contains ∨ op = .ncontains) := by
  rintro (rfl | rfl) <;> cases h

theorem isCmpOp_not_isub {op : Op} (h : isCmpOp op = true) : op ≠ .icontains ∧ op ≠ .nicontains := by
  constructor <;> rintro rfl <;> cases h

section typing
variable (fo : FloatOps F) {op : Op} {l : TNode F}

theorem getTypedExpr_null {n : String} (hn : l.symName? = some n) (hop : op = .eq ∨ op = .ne) :
    getTypedExpr fo op l .nullC = .ok (.isNil n op) := by
  simp only [getTypedExpr, hn, hop, if_true]

theorem nodeType_eq {τ : NodeType} (r : TNode F) (hr : r.getType = τ) (ht : l.getType = τ ∨ l.getType = .any) :
    (if l.getType = .any then r.getType else l.getType) = τ := by
  rcases ht with h | h <;> simp [h, hr]

theorem getTypedExpr_bool (hop : op = .eq ∨ op = .ne) (ht : l.getType = .bool ∨ l.getType = .any)
    (hl : l.isBoolNode = true) (b : Bool) : getTypedExpr fo op l (.boolC b) = .ok (.binBool op l (.boolC b)) := by
  have hns : ¬(op = .contains ∨ op = .ncontains) := by rcases hop with rfl | rfl <;> decide
  simp only [getTypedExpr, hns, if_false, nodeType_eq (.boolC b) rfl ht, hl]
  simp [hop, TNode.getType, TNode.isBoolNode]

theorem getTypedExpr_time (hop : isCmpOp op = true) (ht : l.getType = .time ∨ l.getType = .any)
    (hl : l.isDatetimeNode = true) (t : Int) : getTypedExpr fo op l (.timeC t) = .ok (.binTime op l (.timeC t)) := by
  simp only [getTypedExpr, isCmpOp_not_sub hop, if_false, nodeType_eq (.timeC t) rfl ht, hl]
  simp [TNode.getType, TNode.isDatetimeNode]

theorem getTypedExpr_int (hop : isCmpOp op = true) (ht : l.getType = .int ∨ l.getType = .any)
    (hl : l.isInt64Node = true) (i : Int) : getTypedExpr fo op l (.intC i) = .ok (.binInt op l (.intC i)) := by
  simp only [getTypedExpr, isCmpOp_not_sub hop, if_false, nodeType_eq (.intC i) rfl ht, hl]
  simp [TNode.getType, TNode.isInt64Node]

theorem getTypedExpr_float (hop : isCmpOp op = true) (ht : l.getType = .float ∨ l.getType = .any)
    (hl : l.isFloat64Node = true) (f : F) : getTypedExpr fo op l (.floatC f) = .ok (.binFloat op l (.floatC f)) := by
  simp only [getTypedExpr, isCmpOp_not_sub hop, if_false, nodeType_eq (.floatC f) rfl ht, hl]
  simp [TNode.getType, TNode.isFloat64Node]

theorem getTypedExpr_float_int (hop : isCmpOp op = true) (ht : l.getType = .float) (hl : l.isFloat64Node = true)
    (i : Int) : getTypedExpr fo op l (.intC i) = .ok (.binFloat op l (.floatC (fo.ofInt i))) := by
  simp only [getTypedExpr, isCmpOp_not_sub hop, if_false, ht, hl]
  simp [TNode.getType, TNode.isInt64Node, toFloat64]

theorem getTypedExpr_int_float (hop : isCmpOp op = true) (ht : l.getType = .int) (hl : l.isInt64Node = true)
    (f : F) : getTypedExpr fo op l (.floatC f) = .ok (.binFloat op (toFloat64 fo l) (.floatC f)) := by
  simp only [getTypedExpr, isCmpOp_not_sub hop, if_false, ht, hl]
  simp [TNode.getType, TNode.isFloat64Node]

theorem handleStringOps_plain {r : TNode F} (h₁ : op ≠ .icontains) (h₂ : op ≠ .nicontains)
    (hl : l.isStringNode = true) (hr : r.isStringNode = true) :
    handleStringOps fo op l r = .ok (.binStr op l r) := by
  cases op <;> first | exact absurd rfl h₁ | exact absurd rfl h₂ | simp [handleStringOps, hl, hr]

theorem litNode_isStringNode {r : Lit F} (hr : r.isStrLit = true) : (litNode r).isStringNode = true := by
  cases r <;> cases hr <;> rfl

theorem getTypedExpr_str {r : Lit F} (h₁ : op ≠ .icontains) (h₂ : op ≠ .nicontains) (hr : r.isStrLit = true)
    (hl : l.isStringNode = true)
    (ht : ¬(op = .contains ∨ op = .ncontains) → (if l.getType = .any then (litNode r).getType else l.getType) = .str) :
    getTypedExpr fo op l (litNode r) = .ok (.binStr op l (litNode r)) := by
  rw [← handleStringOps_plain fo h₁ h₂ hl (litNode_isStringNode hr)]
  by_cases hs : op = .contains ∨ op = .ncontains
  · cases r <;> cases hr <;> simp only [getTypedExpr, litNode, hs, if_true]
  · have hty := ht hs
    cases r <;> cases hr <;> simp only [litNode] at hty ⊢ <;> simp only [getTypedExpr, hs, if_false, hty]

theorem getTypedExpr_istr (ht : l.getType = .str ∨ l.getType = .any) (hl : l.isStringNode = true) (s : Bytes) :
    getTypedExpr fo .icontains l (.strC s) = .ok (.binStr .contains (upperNode fo l) (.strC (toUpper s))) ∧
    getTypedExpr fo .nicontains l (.strC s) = .ok (.binStr .ncontains (upperNode fo l) (.strC (toUpper s))) := by
  constructor <;>
    simp only [getTypedExpr, nodeType_eq (.strC s) rfl ht, handleStringOps, hl] <;>
    simp [TNode.getType, TNode.isStringNode, upperNode]

end typing

section eval
variable {w : World C F} (fo : FloatOps F) {c : C} {lk : String → SVal F} {op : Op} {l : TNode F} {τ : NodeType}
  {sv : SVal F}

theorem evalBool_isNil (τ : NodeType) (n : String) (hop : op = .eq ∨ op = .ne) :
    evalBool w fo c lk (.isNil n op) = satCmp fo τ op (lk n) .null := by
  rcases hop with rfl | rfl <;> rfl

/-- `BinaryBoolExprNode` on a symbol and a constant: the symbol is a nil operand exactly when the stored
    value has no bool reading `x`, and then the null rule applies -/
theorem binBool_withNull (x : Option Bool) (b : Bool) (hop : op = .eq ∨ op = .ne) :
    (if (x.isNone || false) = true then (if op = .ne then x.isNone != false else false)
      else binBoolSem op (x == some true) b) =
    withNull op x (some b) (ordCmp (· == ·) (fun _ _ => false) (fun _ _ => false) op) := by
  rcases hop with rfl | rfl <;> rcases x with _ | v <;> first | rfl | (cases v <;> cases b <;> rfl)

theorem evalBool_binBool {n : String} {b : Bool} (hl : l = .boolSym n ∨ l = .anySym n) (hop : op = .eq ∨ op = .ne)
    (hc : cmpType τ op (.bool b : Lit F) = some .bool) :
    evalBool w fo c lk (.binBool op l (.boolC b)) = satCmp fo τ op (lk n) (.bool b) := by
  simp only [satCmp, hc, litBool]
  rcases hl with rfl | rfl <;> exact binBool_withNull (lk n).toBool b hop

theorem evalBool_binTime {t : Int} (hop : isCmpOp op = true) (hc : cmpType τ op (.time t : Lit F) = some .time)
    (he : evalTime w fo c lk l = sv.toTime) :
    evalBool w fo c lk (.binTime op l (.timeC t)) = satCmp fo τ op sv (.time t) := by
  simp only [evalBool, he, binOrdSem_eq_withNull _ _ _ hop]
  simp only [evalTime, satCmp, hc, litTime]

theorem evalBool_binInt {i : Int} (hop : isCmpOp op = true) (hc : cmpType τ op (.int i : Lit F) = some .int)
    (he : evalInt w fo c lk l = sv.toInt) :
    evalBool w fo c lk (.binInt op l (.intC i)) = satCmp fo τ op sv (.int i) := by
  simp only [evalBool, he, binOrdSem_eq_withNull _ _ _ hop]
  simp only [evalInt, satCmp, hc, litInt]

theorem evalBool_binFloat {r : Lit F} {f : F} (hop : isCmpOp op = true) (hc : cmpType τ op r = some .float)
    (hf : litFloat fo r = some f) (he : evalFloat w fo c lk l = readFloat fo τ sv) :
    evalBool w fo c lk (.binFloat op l (.floatC f)) = satCmp fo τ op sv r := by
  simp only [evalBool, he, binOrdSem_eq_withNull _ _ _ hop]
  cases r <;> cases hf <;> simp only [evalFloat, satCmp, hc, litFloat]

theorem evalStr_litNode {r : Lit F} (hr : r.isStrLit = true) : evalStr w fo c lk (litNode r) = litStr fo r := by
  cases r <;> cases hr <;> rfl

theorem satCmp_str {r : Lit F} (hr : r.isStrLit = true) (hc : cmpType τ op r = some .str) :
    satCmp fo τ op sv r = withNull op (readStr fo τ sv) (litStr fo r) (strCmp op) := by
  cases r <;> cases hr <;> simp only [satCmp, hc]

theorem evalBool_binStr {r : Lit F} (h₁ : op ≠ .icontains) (h₂ : op ≠ .nicontains) (hr : r.isStrLit = true)
    (hc : cmpType τ op r = some .str) (he : evalStr w fo c lk l = readStr fo τ sv) :
    evalBool w fo c lk (.binStr op l (litNode r)) = satCmp fo τ op sv r := by
  simp only [evalBool, he, evalStr_litNode fo hr, satCmp_str fo hr hc, binStrSem_eq_withNull h₁ h₂]

theorem evalBool_binStr_upper {s : Bytes} (he : evalStr w fo c lk l = readStr fo τ sv) :
    (cmpType τ .icontains (.str s : Lit F) = some .str →
      evalBool w fo c lk (.binStr .contains (.upper l) (.strC (toUpper s))) = satCmp fo τ .icontains sv (.str s)) ∧
    (cmpType τ .nicontains (.str s : Lit F) = some .str →
      evalBool w fo c lk (.binStr .ncontains (.upper l) (.strC (toUpper s))) = satCmp fo τ .nicontains sv (.str s)) := by
  constructor <;> intro hc <;> simp only [evalBool, evalStr, he, satCmp, hc, litStr]
  · exact (binStrSem_upper _ (some s)).1
  · exact (binStrSem_upper _ (some s)).2

end eval

/-- The operand node `l` has declared type `τ` and, in every context that `R` relates to a stored value `sv`,
    reads `sv` as the specification does: at each type at which a `τ`-typed operand can be compared, `l` has
    the node interface of that type and its `Eval*` there is the specification's reading of `sv`.  `nl`: the
    operand can be compared with `null`, and then it is a symbol whose value `sv` is. -/
structure Reads (C : Type) (fo : FloatOps F) (l : TNode F) (τ : NodeType) (nl : Bool)
    (R : World C F → C → (String → SVal F) → SVal F → Prop) : Prop where
  ty : l.getType = τ
  name : nl = true → ∃ n, l.symName? = some n ∧ ∀ {w c lk sv}, R w c lk sv → sv = lk n
  bool : τ = .bool ∨ τ = .any → l.isBoolNode = true ∧
    ∃ n, (l = .boolSym n ∨ l = .anySym n) ∧ ∀ {w c lk sv}, R w c lk sv → sv = lk n
  time : τ = .time ∨ τ = .any → l.isDatetimeNode = true ∧
    ∀ {w c lk sv}, R w c lk sv → evalTime w fo c lk l = sv.toTime
  /-- an integer operand is also read through its float64 form (`Int64Node.ToFloat64`) -/
  int : τ = .int ∨ τ = .any → l.isInt64Node = true ∧ ∀ {w c lk sv}, R w c lk sv →
    evalInt w fo c lk l = sv.toInt ∧ evalFloat w fo c lk (toFloat64 fo l) = readFloat fo τ sv
  float : τ = .float ∨ τ = .any → l.isFloat64Node = true ∧
    ∀ {w c lk sv}, R w c lk sv → evalFloat w fo c lk l = readFloat fo τ sv
  str : τ = .str ∨ τ = .int ∨ τ = .float ∨ τ = .any → l.isStringNode = true ∧
    ∀ {w c lk sv}, R w c lk sv → evalStr w fo c lk l = readStr fo τ sv
  upper : τ = .str ∨ τ = .any → upperNode fo l = .upper l
  /-- the interfaces are asked for in the order datetime, int64, float64, string -/
  only : (τ = .float ∨ τ = .str → l.isInt64Node = false) ∧ (τ = .str → l.isFloat64Node = false)
  seek : l.isConst = false ∧ (l.isStrSym = true → τ = .str)

theorem symNode_reads (fo : FloatOps F) {τ : NodeType} (hτ : τ ≠ .other) (n : String) :
    Reads C fo (symNode τ n) τ true (fun _ _ lk sv => sv = lk n) := by
  -- per type: a field about another type is vacuous, the others hold by computation
  cases τ <;> first | exact absurd rfl hτ | skip
  all_goals
    refine ⟨rfl, fun _ => ⟨n, rfl, fun h => h⟩, ?_, ?_, ?_, ?_, ?_, ?_, ⟨?_, ?_⟩, rfl, ?_⟩
    all_goals first
      | (intro h; first | (simp at h; done) | (cases h; done))
      | exact fun _ => ⟨rfl, n, .inl rfl, fun h => h⟩
      | exact fun _ => ⟨rfl, n, .inr rfl, fun h => h⟩
      | exact fun _ => ⟨rfl, fun h => by subst h; exact ⟨rfl, rfl⟩⟩
      | exact fun _ => ⟨rfl, fun h => by subst h; rfl⟩
      | exact fun _ => rfl

theorem countNode_reads (fo : FloatOps F) {s : TNode F} (hs : IsCountNode s) :
    Reads C fo s .int false (fun w c lk sv => ∃ k, evalInt w fo c lk s = some k ∧ sv = .int64 k) := by
  rcases hs with ⟨n, rfl⟩ | ⟨n, q, so, sk, li, rfl⟩
  all_goals
    refine ⟨rfl, nofun, by simp, by simp, fun _ => ⟨rfl, ?_⟩, by simp, fun _ => ⟨rfl, ?_⟩, by simp, by simp, rfl, nofun⟩
    all_goals
      rintro w c lk _ ⟨k, hk, rfl⟩
      simp only [evalInt, Option.some.injEq] at hk
      simp only [toFloat64, evalFloat, evalInt, evalStr, hk]
      first | exact ⟨rfl, rfl⟩ | rfl

/-- a `BinaryStringExprNode` takes the seek only for `=` with a constant right side, and then its left side reads
    the string value of `sv`; no other node takes it -/
def SeekClause (C : Type) (fo : FloatOps F) (R : World C F → C → (String → SVal F) → SVal F → Prop) : TNode F → Prop
  | .binStr op l r => isSeekableOp op l r = true →
    op = .eq ∧ ∃ v, ∀ {w c lk sv}, R w c lk sv → evalStr w fo c lk r = some v ∧ evalStr w fo c lk l = sv.toStr fo
  | _ => True

/-- typing the operand gave a BoolNode that evaluates to `P` of the value read and takes the seek only soundly -/
def Implements (C : Type) (fo : FloatOps F) (R : World C F → C → (String → SVal F) → SVal F → Prop)
    (typed : Outcome (TNode F)) (P : SVal F → Bool) : Prop :=
  ∃ p, typed = .ok p ∧ p.isBoolNode = true ∧ (∀ {w c lk sv}, R w c lk sv → evalBool w fo c lk p = P sv) ∧
    SeekClause C fo R p

section operand
variable (fo : FloatOps F) {l : TNode F} {τ : NodeType} {nl : Bool} {R : World C F → C → (String → SVal F) → SVal F → Prop}

theorem seekable_operand (hl : Reads C fo l τ nl R) {op : Op} {r : Lit F} (hr : r.isStrLit = true)
    (hs : isSeekableOp op l (litNode r) = true) :
    op = .eq ∧ ∃ v, ∀ {w c lk sv}, R w c lk sv →
      evalStr w fo c lk (litNode r) = some v ∧ evalStr w fo c lk l = sv.toStr fo := by
  obtain ⟨v, hv⟩ : ∃ v, litStr fo r = some v := by cases r <;> cases hr <;> exact ⟨_, rfl⟩
  have hrs : (litNode r).isStrSym = false := by cases r <;> rfl
  simp only [isSeekableOp, TNode.seekableStr, hl.seek.1, hrs, Bool.and_false, Bool.or_false,
    Bool.and_eq_true, decide_eq_true_eq] at hs
  obtain rfl := hl.seek.2 hs.2.2
  exact ⟨hs.1, v, fun hR => ⟨(evalStr_litNode fo hr).trans hv, (hl.str (.inl rfl)).2 hR⟩⟩

theorem cmp_operand (hl : Reads C fo l τ nl R) (op : Op) (r : Lit F) (h : okCmp τ nl op r = true) :
    Implements C fo R (getTypedExpr fo op l (litNode r)) (fun sv => satCmp fo τ op sv r) := by
  by_cases hr : r = .null
  · subst hr
    have hnl : nl = true ∧ (op = .eq ∨ op = .ne) := by simpa [okCmp] using h
    obtain ⟨n, hn, hrd⟩ := hl.name hnl.1
    exact ⟨_, getTypedExpr_null fo hn hnl.2, rfl,
      fun hR => by rw [hrd hR]; exact evalBool_isNil fo τ n hnl.2, trivial⟩
  obtain ⟨cty, hc⟩ : ∃ cty, cmpType τ op r = some cty := by
    cases r <;> first | exact absurd rfl hr | exact Option.isSome_iff_exists.mp h
  -- the plain string node, whatever made the comparison a string comparison
  have plain : r.isStrLit = true → (τ = .str ∨ τ = .int ∨ τ = .float ∨ τ = .any) → op ≠ .icontains → op ≠ .nicontains →
      (¬(op = .contains ∨ op = .ncontains) → (if τ = .any then (litNode r).getType else τ) = .str) →
      cmpType τ op r = some .str →
      Implements C fo R (getTypedExpr fo op l (litNode r)) (fun sv => satCmp fo τ op sv r) := fun hr' hτ' h₁ h₂ ht hc =>
    ⟨_, getTypedExpr_str fo h₁ h₂ hr' (hl.str hτ').1 (hl.ty.symm ▸ ht), rfl,
      fun hR => evalBool_binStr fo h₁ h₂ hr' hc ((hl.str hτ').2 hR),
      seekable_operand fo hl hr'⟩
  cases cmpType_join hc with
  | bool hτ' hop =>
    obtain ⟨hi, n, hsym, hrd⟩ := hl.bool hτ'
    exact ⟨_, getTypedExpr_bool fo hop (hl.ty.symm ▸ hτ') hi _, rfl,
      fun hR => by rw [hrd hR]; exact evalBool_binBool fo hsym hop hc, trivial⟩
  | time hτ' hop =>
    obtain ⟨hi, he⟩ := hl.time hτ'
    exact ⟨_, getTypedExpr_time fo hop (hl.ty.symm ▸ hτ') hi _, rfl,
      fun hR => evalBool_binTime fo hop hc (he hR), trivial⟩
  | int hτ' hop =>
    obtain ⟨hi, he⟩ := hl.int hτ'
    exact ⟨_, getTypedExpr_int fo hop (hl.ty.symm ▸ hτ') hi _, rfl,
      fun hR => evalBool_binInt fo hop hc (he hR).1, trivial⟩
  | float hτ' hop =>
    obtain ⟨hi, he⟩ := hl.float hτ'
    exact ⟨_, getTypedExpr_float fo hop (hl.ty.symm ▸ hτ') hi _, rfl,
      fun hR => evalBool_binFloat fo hop hc rfl (he hR), trivial⟩
  | floatInt hop =>
    obtain ⟨hi, he⟩ := hl.float (.inl rfl)
    exact ⟨_, getTypedExpr_float_int fo hop hl.ty hi _, rfl,
      fun hR => evalBool_binFloat fo hop hc rfl (he hR), trivial⟩
  | intFloat hop =>
    obtain ⟨hi, he⟩ := hl.int (.inl rfl)
    exact ⟨_, getTypedExpr_int_float fo hop hl.ty hi _, rfl,
      fun hR => evalBool_binFloat fo hop hc rfl (he hR).2, trivial⟩
  | str hτs hop hr' =>
    refine plain hr' (hτs.elim .inl fun h => .inr (.inr (.inr h.1))) (isCmpOp_not_isub hop).1 (isCmpOp_not_isub hop).2
      (fun _ => ?_) hc
    rcases hτs with rfl | ⟨rfl, s, rfl⟩ <;> rfl
  | sub hτ' hsub hr' =>
    exact plain hr' hτ' (by rcases hsub with rfl | rfl <;> decide) (by rcases hsub with rfl | rfl <;> decide)
      (absurd hsub) hc
  | @isub _ _ s hτi hic =>
    obtain ⟨hi, he⟩ := hl.str (hτi.elim .inl fun h => .inr (.inr (.inr h)))
    have ht := getTypedExpr_istr fo (hl.ty.symm ▸ hτi) hi s
    rw [hl.upper hτi] at ht
    rcases hic with rfl | rfl
    · exact ⟨_, ht.1, rfl, fun hR => (evalBool_binStr_upper fo (s := s) (he hR)).1 hc, nofun⟩
    · exact ⟨_, ht.2, rfl, fun hR => (evalBool_binStr_upper fo (s := s) (he hR)).2 hc, nofun⟩

end operand

theorem inSem_map {α β γ} (eq : α → γ → Bool) (f : β → γ) (a : Option α) (l : List β) :
    inSem eq a (l.map f) = inSem (fun x y => eq x (f y)) a l := by
  cases a <;> simp [inSem, List.any_map, Function.comp_def]

theorem numsAsConsts_int (fo : FloatOps F) (ns : List (Num F)) (is : List Int) (h : numsAllInt ns = some is) :
    numsAsConsts fo ns = is.map .int := by simp [numsAsConsts, h]
theorem numsAsConsts_float (fo : FloatOps F) (ns : List (Num F)) (h : numsAllInt ns = none) :
    numsAsConsts fo ns = (numsToFloat fo ns).map .float := by simp [numsAsConsts, h]

theorem numsToFloat_allInt (fo : FloatOps F) : ∀ (ns : List (Num F)) (is : List Int), numsAllInt ns = some is →
    numsToFloat fo ns = is.map fo.ofInt
  | [], is, h => by simp [numsAllInt] at h; subst h; rfl
  | .int i :: t, is, h => by
    simp only [numsAllInt, Option.map_eq_some_iff] at h
    obtain ⟨is', h1, rfl⟩ := h
    simp [numsToFloat, numsToFloat_allInt fo t is' h1]
  | .float _ :: _, _, h => by simp [numsAllInt] at h

theorem okIn_times {fo : FloatOps F} {τ : NodeType} {ts : List Int} (h : okIn fo τ (.times ts) = true) :
    τ = .time ∨ τ = .any := by
  cases τ <;> first | (simp; done) | cases h

theorem okIn_strs {fo : FloatOps F} {τ : NodeType} {ss : List Bytes} (h : okIn fo τ (.strs ss) = true) :
    τ = .str ∨ τ = .int ∨ τ = .float ∨ τ = .any := by
  cases τ <;> first | (simp; done) | cases h

theorem okIn_nums {fo : FloatOps F} {τ : NodeType} {ns : List (Num F)} (h : okIn fo τ (.nums ns) = true) :
    (τ = .int ∨ τ = .any) ∨ τ = .float ∨ τ = .str := by
  simp only [okIn, arrDen] at h
  cases hn : numsAllInt ns <;> rw [hn] at h <;> cases τ <;> first | (simp; done) | cases h

section typing
variable (fo : FloatOps F) {l : TNode F}

theorem inTypedExpr_times (hl : l.isDatetimeNode = true) (ts : List Int) :
    inTypedExpr fo l (.times ts) = .ok (.inTime l ts) := by
  simp only [inTypedExpr, hl, if_true]

theorem inTypedExpr_strs (hl : l.isStringNode = true) (ss : List Bytes) :
    inTypedExpr fo l (.strs ss) = .ok (.inStr l (ss.map .str)) := by
  simp only [inTypedExpr, hl, if_true, ite_self]

theorem inTypedExpr_ints (hl : l.isInt64Node = true) {ns : List (Num F)} {is : List Int} (hn : numsAllInt ns = some is) :
    inTypedExpr fo l (.nums ns) = .ok (.inInt l is) := by
  simp only [inTypedExpr, hl, hn, if_true, ite_self]

theorem inTypedExpr_int_floats (hl : l.isInt64Node = true) {ns : List (Num F)} (hn : numsAllInt ns = none) :
    inTypedExpr fo l (.nums ns) = .ok (.inFloat (toFloat64 fo l) (numsToFloat fo ns)) := by
  simp only [inTypedExpr, hl, hn, if_true, ite_self]

theorem inTypedExpr_floats (hi : l.isInt64Node = false) (hl : l.isFloat64Node = true) (ns : List (Num F)) :
    inTypedExpr fo l (.nums ns) = .ok (.inFloat l (numsToFloat fo ns)) := by
  simp only [inTypedExpr, hi, hl, if_true, ite_self, Bool.false_eq_true, if_false]

theorem inTypedExpr_str_nums (hi : l.isInt64Node = false) (hf : l.isFloat64Node = false) (hl : l.isStringNode = true)
    (ns : List (Num F)) : inTypedExpr fo l (.nums ns) = .ok (.inStr l (numsAsConsts fo ns)) := by
  simp only [inTypedExpr, hi, hf, hl, if_true, ite_self, Bool.false_eq_true, if_false]

end typing

section eval
variable {w : World C F} (fo : FloatOps F) {c : C} {lk : String → SVal F} {l : TNode F} {τ : NodeType} {sv : SVal F}

theorem evalBool_inTime (hτ : τ = .time ∨ τ = .any) (he : evalTime w fo c lk l = sv.toTime) (ts : List Int) :
    evalBool w fo c lk (.inTime l ts) = satIn fo τ sv (.times ts) := by
  rcases hτ with rfl | rfl <;> simp only [evalBool, he, satIn, arrDen] <;> cases sv.toTime <;> rfl

theorem evalBool_inInt (hτ : τ = .int ∨ τ = .any) (he : evalInt w fo c lk l = sv.toInt) {ns : List (Num F)}
    {is : List Int} (hn : numsAllInt ns = some is) :
    evalBool w fo c lk (.inInt l is) = satIn fo τ sv (.nums ns) := by
  simp only [evalBool, he, satIn, arrDen, hn]
  rcases hτ with rfl | rfl <;> cases sv.toInt <;> rfl

theorem evalBool_inFloat (hτ : τ = .int ∨ τ = .float ∨ τ = .any) (he : evalFloat w fo c lk l = readFloat fo τ sv)
    {ns : List (Num F)} (hn : numsAllInt ns = none) :
    evalBool w fo c lk (.inFloat l (numsToFloat fo ns)) = satIn fo τ sv (.nums ns) := by
  simp only [evalBool, he, satIn, arrDen, hn]
  rcases hτ with rfl | rfl | rfl <;> simp only <;> cases readFloat fo _ sv <;> rfl

/-- a float operand against integers: the specification converts each member, the code the whole array -/
theorem evalBool_inFloat_ints (he : evalFloat w fo c lk l = readFloat fo .float sv) {ns : List (Num F)}
    {is : List Int} (hn : numsAllInt ns = some is) :
    evalBool w fo c lk (.inFloat l (numsToFloat fo ns)) = satIn fo .float sv (.nums ns) := by
  simp only [evalBool, he, satIn, arrDen, hn, numsToFloat_allInt fo ns is hn, inSem_map]
  rfl

theorem evalBool_inStr (hτ : τ = .str ∨ τ = .int ∨ τ = .float ∨ τ = .any) (he : evalStr w fo c lk l = readStr fo τ sv)
    (ss : List Bytes) : evalBool w fo c lk (.inStr l (ss.map .str)) = satIn fo τ sv (.strs ss) := by
  have : satIn fo τ sv (.strs ss) = (match readStr fo τ sv with | some a => ss.any (a == ·) | none => false) := by
    rcases hτ with rfl | rfl | rfl | rfl <;> rfl
  simp only [evalBool, he, this, inSem_map]
  cases readStr fo τ sv <;> rfl

theorem evalBool_inStr_nums (he : evalStr w fo c lk l = readStr fo .str sv) (ns : List (Num F)) :
    evalBool w fo c lk (.inStr l (numsAsConsts fo ns)) = satIn fo .str sv (.nums ns) := by
  simp only [evalBool, he, satIn, arrDen]
  cases hn : numsAllInt ns with
  | some is =>
    rw [numsAsConsts_int fo ns is hn, inSem_map]
    cases readStr fo .str sv <;> rfl
  | none =>
    rw [numsAsConsts_float fo ns hn, inSem_map]
    cases readStr fo .str sv <;> rfl

end eval

theorem in_operand (fo : FloatOps F) {l : TNode F} {τ : NodeType} {nl : Bool}
    {R : World C F → C → (String → SVal F) → SVal F → Prop} (hl : Reads C fo l τ nl R) (arr : Arr F)
    (h : okIn fo τ arr = true) : Implements C fo R (inTypedExpr fo l arr) (fun sv => satIn fo τ sv arr) := by
  cases arr with
  | times ts =>
    obtain ⟨hi, he⟩ := hl.time (okIn_times h)
    exact ⟨_, inTypedExpr_times fo hi ts, rfl,
      fun hR => evalBool_inTime fo (okIn_times h) (he hR) ts, trivial⟩
  | strs ss =>
    obtain ⟨hi, he⟩ := hl.str (okIn_strs h)
    exact ⟨_, inTypedExpr_strs fo hi ss, rfl,
      fun hR => evalBool_inStr fo (okIn_strs h) (he hR) ss, trivial⟩
  | nums ns =>
    rcases okIn_nums h with hτ' | rfl | rfl
    · obtain ⟨hi, he⟩ := hl.int hτ'
      cases hn : numsAllInt ns with
      | some is =>
        exact ⟨_, inTypedExpr_ints fo hi hn, rfl,
          fun hR => evalBool_inInt fo hτ' (he hR).1 hn, trivial⟩
      | none =>
        exact ⟨_, inTypedExpr_int_floats fo hi hn, rfl,
          fun hR => evalBool_inFloat fo (hτ'.imp_right .inr) (he hR).2 hn, trivial⟩
    · obtain ⟨hi, he⟩ := hl.float (.inl rfl)
      refine ⟨_, inTypedExpr_floats fo (hl.only.1 (.inl rfl)) hi ns, rfl, fun hR => ?_, trivial⟩
      cases hn : numsAllInt ns with
      | some is => exact evalBool_inFloat_ints fo (he hR) hn
      | none => exact evalBool_inFloat fo (.inr (.inl rfl)) (he hR) hn
    · obtain ⟨hi, he⟩ := hl.str (.inl rfl)
      exact ⟨_, inTypedExpr_str_nums fo (hl.only.1 (.inr rfl)) (hl.only.2 rfl) hi ns, rfl,
        fun hR => evalBool_inStr_nums fo (he hR) ns, trivial⟩

theorem asFloat64Node_lit (fo : FloatOps F) {r : Lit F} (h : isNumLit r = true) :
    ∃ x, litFloat fo r = some x ∧ asFloat64Node fo (litNode r) = some (.floatC x) ∧
      (litNode r).isDatetimeNode = false := by
  cases r <;> first | exact ⟨_, rfl, rfl, rfl⟩ | cases h

section typing
variable (fo : FloatOps F) {l : TNode F}

theorem betweenTypedExpr_time (hl : l.isDatetimeNode = true) (a b : Int) :
    betweenTypedExpr fo l (.timeC a) (.timeC b) = .ok (.betTime l (.timeC a) (.timeC b)) := by
  unfold betweenTypedExpr
  rw [hl]
  rfl

theorem betweenTypedExpr_int (hl : l.isInt64Node = true) (a b : Int) :
    betweenTypedExpr fo l (.intC a) (.intC b) = .ok (.betInt l (.intC a) (.intC b)) := by
  have hd : (TNode.intC a : TNode F).isDatetimeNode = false := rfl
  have hi : ∀ i, (TNode.intC i : TNode F).isInt64Node = true := fun _ => rfl
  simp only [betweenTypedExpr, hd, hl, hi, Bool.and_false, Bool.false_and, Bool.false_eq_true, if_false, Bool.and_self,
    if_true]

theorem betweenTypedExpr_float {l' : TNode F} {lo hi : Lit F} {x y : F} (hl : asFloat64Node fo l = some l')
    (hlo : asFloat64Node fo (litNode lo) = some (.floatC x)) (hhi : asFloat64Node fo (litNode hi) = some (.floatC y))
    (hd : (litNode lo).isDatetimeNode = false)
    (hnot : (l.isInt64Node && (litNode lo).isInt64Node && (litNode hi).isInt64Node) = false) :
    betweenTypedExpr fo l (litNode lo) (litNode hi) = .ok (.betFloat l' (.floatC x) (.floatC y)) := by
  simp only [betweenTypedExpr, hl, hlo, hhi, hd, hnot, Bool.and_false, Bool.false_and, Bool.false_eq_true, if_false]

end typing

section eval
variable {w : World C F} (fo : FloatOps F) {c : C} {lk : String → SVal F} {l : TNode F} {τ : NodeType} {sv : SVal F}

theorem evalBool_betTime (hτ : τ = .time ∨ τ = .any) (he : evalTime w fo c lk l = sv.toTime) (a b : Int) :
    evalBool w fo c lk (.betTime l (.timeC a) (.timeC b)) = satBetween fo τ sv (.time a) (.time b) := by
  simp only [evalBool]
  rw [he]
  rcases hτ with rfl | rfl <;> simp only [evalTime, satBetween] <;> cases sv.toTime <;> rfl

theorem evalBool_betInt (hτ : τ = .int ∨ τ = .any) (he : evalInt w fo c lk l = sv.toInt) (a b : Int) :
    evalBool w fo c lk (.betInt l (.intC a) (.intC b)) = satBetween fo τ sv (.int a) (.int b) := by
  simp only [evalBool]
  rw [he]
  rcases hτ with rfl | rfl <;> simp only [evalInt, satBetween] <;> cases sv.toInt <;> rfl

theorem evalBool_betFloat {lo hi : Lit F} {x y : F} (hτ : τ = .int ∨ τ = .float ∨ τ = .any)
    (he : evalFloat w fo c lk l = readFloat fo τ sv) (hx : litFloat fo lo = some x) (hy : litFloat fo hi = some y)
    (hnot : τ = .float ∨ (∃ f, lo = .float f) ∨ (∃ f, hi = .float f)) :
    evalBool w fo c lk (.betFloat l (.floatC x) (.floatC y)) = satBetween fo τ sv lo hi := by
  have : satBetween fo τ sv lo hi = betSem fo.le fo.lt (readFloat fo τ sv) (some x) (some y) := by
    cases lo <;> cases hx <;> cases hi <;> cases hy <;> rcases hτ with rfl | rfl | rfl <;>
      first
      | (simp only [satBetween, litFloat]; cases readFloat fo _ sv <;> rfl)
      | (exfalso; rcases hnot with h | ⟨f, h⟩ | ⟨f, h⟩ <;> cases h)
  simp only [evalBool]
  rw [he, this]
  simp only [evalFloat]

end eval

theorem okBetween_cases {τ : NodeType} {lo hi : Lit F} (h : okBetween τ lo hi = true) :
    ((τ = .time ∨ τ = .any) ∧ ∃ a b, lo = .time a ∧ hi = .time b) ∨
      ((τ = .int ∨ τ = .float ∨ τ = .any) ∧ isNumLit lo = true ∧ isNumLit hi = true) := by
  unfold okBetween at h
  split at h
  · exact .inl ⟨.inl rfl, _, _, rfl, rfl⟩
  · exact .inl ⟨.inr rfl, _, _, rfl, rfl⟩
  · exact .inr ⟨.inl rfl, by simpa using h⟩
  · exact .inr ⟨.inr (.inl rfl), by simpa using h⟩
  · exact .inr ⟨.inr (.inr rfl), by simpa using h⟩
  · cases h

theorem numBounds_cases {lo hi : Lit F} (hlo : isNumLit lo = true) (hhi : isNumLit hi = true) :
    (∃ a b, lo = .int a ∧ hi = .int b) ∨ ((∃ f, lo = .float f) ∨ ∃ f, hi = .float f) := by
  cases lo <;> cases hlo <;> cases hi <;> cases hhi <;>
    first | exact .inl ⟨_, _, rfl, rfl⟩ | exact .inr (.inl ⟨_, rfl⟩) | exact .inr (.inr ⟨_, rfl⟩)

theorem bet_operand (fo : FloatOps F) {l : TNode F} {τ : NodeType} {nl : Bool}
    {R : World C F → C → (String → SVal F) → SVal F → Prop} (hl : Reads C fo l τ nl R) (lo hi : Lit F)
    (h : okBetween τ lo hi = true) :
    Implements C fo R (betweenTypedExpr fo l (litNode lo) (litNode hi)) (fun sv => satBetween fo τ sv lo hi) := by
  rcases okBetween_cases h with ⟨hτ', a, b, rfl, rfl⟩ | ⟨hτ', hlo, hhi⟩
  · obtain ⟨hi, he⟩ := hl.time hτ'
    exact ⟨_, betweenTypedExpr_time fo hi a b, rfl,
      fun hR => evalBool_betTime fo hτ' (he hR) a b, trivial⟩
  · have hint : τ ≠ .float → τ = .int ∨ τ = .any := fun hf => by
      rcases hτ' with h | h | h
      · exact .inl h
      · exact absurd h hf
      · exact .inr h
    -- all three operands as float64 nodes: the operand's float64 form reads the stored value as a float
    have float : τ = .float ∨ (∃ f, lo = .float f) ∨ (∃ f, hi = .float f) →
        Implements C fo R (betweenTypedExpr fo l (litNode lo) (litNode hi)) (fun sv => satBetween fo τ sv lo hi) := by
      intro hnot
      obtain ⟨x, hx, hax, hdx⟩ := asFloat64Node_lit fo hlo
      obtain ⟨y, hy, hay, -⟩ := asFloat64Node_lit fo hhi
      obtain ⟨l', hl', hni, he'⟩ : ∃ l', asFloat64Node fo l = some l' ∧ (τ = .float → l.isInt64Node = false) ∧
          ∀ {w c lk sv}, R w c lk sv → evalFloat w fo c lk l' = readFloat fo τ sv := by
        by_cases hf : τ = .float
        · obtain ⟨hi, he⟩ := hl.float (.inl hf)
          exact ⟨l, by simp only [asFloat64Node, hl.only.1 (.inl hf), hi, Bool.false_eq_true, if_false, if_true],
            fun _ => hl.only.1 (.inl hf), he⟩
        · obtain ⟨hi, he⟩ := hl.int (hint hf)
          exact ⟨_, by simp only [asFloat64Node, hi, if_true], fun h => absurd h hf, fun hR => (he hR).2⟩
      have hi64 : (l.isInt64Node && (litNode lo).isInt64Node && (litNode hi).isInt64Node) = false := by
        rcases hnot with hf | ⟨f, rfl⟩ | ⟨f, rfl⟩
        · rw [hni hf]; rfl
        · simp [litNode, TNode.isInt64Node]
        · simp [litNode, TNode.isInt64Node]
      exact ⟨_, betweenTypedExpr_float fo hl' hax hay hdx hi64, rfl,
        fun hR => evalBool_betFloat fo hτ' (he' hR) hx hy hnot, trivial⟩
    rcases numBounds_cases hlo hhi with ⟨a, b, rfl, rfl⟩ | hnot
    · -- integer bounds: compared as integers unless the operand is a float
      by_cases hf : τ = .float
      · exact float (.inl hf)
      · obtain ⟨hi, he⟩ := hl.int (hint hf)
        exact ⟨_, betweenTypedExpr_int fo hi a b, rfl,
          fun hR => evalBool_betInt fo (hint hf) (he hR).1 a b, trivial⟩
    · exact float (.inr hnot)

end StorageModel.Filter
