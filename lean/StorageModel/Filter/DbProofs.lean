import StorageModel.Filter.Db
/-
  C01 — the bolt-backed model against the path semantics.  The stacked cursor enumerates the path (`stacked_eq_flatMap`);
  what `compose` builds is the chain of the path (`compose_atoms`, `resolve_path`), so tables and reads agree on a resolved
  symbol and on its path (`sem_tables`, `sem_eq`), the two worlds agree on every name that satisfies `extNameOK`
  (`world_name_eq`), and `sat` is the same in both for a filter whose names do (`spec_typed`, `spec_refines`).  On schemas
  without custom symbols the provisos hold of every filter and the two symbol tables coincide (`extNamesOK_all`,
  `dbSigma_eq_spec`).
-/
namespace StorageModel.Filter
variable {F : Type}

theorem forEachKey_eq_flatMap (body : SVal F → List (SVal F)) (l : List (SVal F)) :
    forEachKey body l = l.flatMap body := by
  induction l with
  | nil => rfl
  | cons k ks ih => simp [forEachKey, ih]

theorem stackedFrom_eq (db : Db F) : ∀ (rest : List Atom) (a : Atom) (key : Option Bytes),
    stackedFrom db rest (levelVals db a key) = pathElems db (a :: rest) key
  | [], _, _ => rfl
  | b :: rest, a, key => by
    simp only [stackedFrom, forEachKey_eq_flatMap, stackedFrom_eq db rest b, pathElems]

theorem stacked_eq_flatMap (db : Db F) (chain : List Atom) (key : Option Bytes) :
    stackedElems db chain key = pathElems db chain key := by
  cases chain with
  | nil => rfl
  | cons a rest => exact stackedFrom_eq db rest a key

theorem splitLast_spec : ∀ (rest : List String) (q : String),
    (q :: rest).dropLast = (splitLast q rest).1 ∧ (q :: rest).getLast? = some (splitLast q rest).2
  | [], q => by simp [splitLast]
  | r :: rs, q => by
    have ih := splitLast_spec rs r
    simp only [splitLast]
    refine ⟨?_, ?_⟩
    · rw [List.dropLast_cons_cons, ih.1]
    · rw [List.getLast?_cons_cons, ih.2]

theorem elementSymbol_eq_path (st : Nat) (md : MapDef) (q : String) (rest : List String) :
    mapElemPath st md (q :: rest) = elementSymbol st md q rest := by
  have h := splitLast_spec rest q
  simp only [mapElemPath, elementSymbol]
  have hne : q :: rest ≠ [] := by simp
  rw [List.dropLast_append_of_ne_nil hne, List.getLast?_append, h.1, h.2]
  simp

theorem nodeAt_cons (kids : List (String × MNode F)) (p : String) (l : List String) (h : l ≠ []) :
    nodeAt kids (p :: l) =
      (match kids.lookup p with
       | some (.bucket kids') => nodeAt kids' l
       | _ => none) := by
  cases l with
  | nil => exact absurd rfl h
  | cons q ps => rfl

theorem getPath_getTyped (k : String) : ∀ (bp : List String) (kids : List (String × MNode F)),
    (match getPath kids bp with | some b => getTyped b k | none => .nil) = leafVal (nodeAt kids (bp ++ [k]))
  | [], kids => by
    simp only [getPath, getTyped, List.nil_append, nodeAt]
    cases kids.lookup k with
    | none => rfl
    | some n => cases n <;> rfl
  | p :: ps, kids => by
    rw [List.cons_append, nodeAt_cons kids p (ps ++ [k]) (by simp)]
    simp only [getPath]
    cases kids.lookup p with
    | none => rfl
    | some n =>
      cases n with
      | val v => rfl
      | bucket kids' => exact getPath_getTyped k ps kids'

/-- for a nil string result this holds since fce0761 (`ExtSrc.codeValPreFce0761` is the encoding before it) -/
theorem codeVal_eq_specVal (e : ExtSrc F) (id : Bytes) : e.codeVal id = e.specVal id := by
  cases e with
  | boolFn f => rfl
  | fn f => rfl
  | strFn g => simp only [ExtSrc.codeVal, ExtSrc.specVal]

/-- code and specification read a symbol alike, an external function behind a null link apart (the code calls it with
    the empty id) -/
theorem specAtomVal_eq (db : Db F) (a : Atom) (key : Option Bytes) (h : a.isExt = false ∨ key.isSome = true) :
    specAtomVal db a key = evalAtom db a key := by
  cases a with
  | id => rfl
  | field st k ty l => rfl
  | set st k ty l => rfl
  | mapElem st bp k ty =>
    simp only [specAtomVal, evalAtom]
    cases key.bind (findEntity db st) with
    | none => rfl
    | some e => exact (getPath_getTyped k bp e.maps).symm
  | custom st n ty l k =>
    cases k with
    | mapped k m => rfl
    | ext =>
      obtain ⟨id, rfl⟩ : ∃ id, key = some id := h.elim (nomatch ·) Option.isSome_iff_exists.mp
      simp only [specAtomVal, evalAtom, Option.getD_some, codeVal_eq_specVal]

/-- hence a path alike, unless an external function sits behind a link in it or is read without an entity -/
theorem specChain_eq (db : Db F) : ∀ (p : List Atom) (key : Option Bytes),
    noExt p = true ∨ pathExtOK p = true ∧ key.isSome = true → specChain db p key = evalChain db p key
  | [], _, _ => rfl
  | [a], key, h => specAtomVal_eq db a key (h.imp (by simpa [noExt] using ·) (·.2))
  | a :: b :: rest, key, h => by
    have h : noExt (a :: b :: rest) = true := h.elim id fun h => by simpa [pathExtOK] using h.1
    simp only [noExt, List.all_cons, Bool.and_eq_true, Bool.not_eq_eq_eq_not, Bool.not_true] at h
    simp only [specChain, evalChain, specAtomVal_eq db a key (.inl h.1)]
    exact specChain_eq db (b :: rest) _ (.inl (by simp [noExt, h.2.1, h.2.2]))

theorem specLevel_eq (db : Db F) (a : Atom) (h : a.isExt = false) (key : Option Bytes) :
    specLevel db a key = levelVals db a key := by
  cases a <;> simp [specLevel, levelVals, specAtomVal_eq db _ key (.inl h)]

theorem specElems_eq (db : Db F) : ∀ (p : List Atom) (key : Option Bytes),
    noExt p = true ∨ pathExtOK p = true ∧ pathIsSet p = true → specElems db p key = pathElems db p key
  | [], _, _ => rfl
  | [a], key, h =>
    specLevel_eq db a (h.elim (by simpa [noExt] using ·) fun h => by cases a <;> simp_all [pathIsSet, Atom.isSet, Atom.isExt]) key
  | a :: b :: rest, key, h => by
    have h : noExt (a :: b :: rest) = true := h.elim id fun h => by simpa [pathExtOK] using h.1
    simp only [noExt, List.all_cons, Bool.and_eq_true, Bool.not_eq_eq_eq_not, Bool.not_true] at h
    simp only [specElems, pathElems, specLevel_eq db a h.1]
    congr 1
    funext v
    exact specElems_eq db (b :: rest) _ (.inl (by simp [noExt, h.2.1, h.2.2]))

/-- what `compose` guarantees about its results -/
def WFR : RSym → Prop
  | .atom _ => True
  | .nonSetComp ch ty => ch.all (fun a => !a.isSet) = true ∧ 2 ≤ ch.length ∧ ty = pathTy ch ∧
      ch.dropLast.all Atom.iterable = true
  | .compSet iter last ty =>
    last.all (fun a => !a.isSet) = true ∧ iter ≠ [] ∧ pathIsSet iter = true ∧ 2 ≤ (iter ++ last).length ∧
      ty = pathTy (iter ++ last) ∧ iter.all Atom.iterable = true ∧ last.length ≤ 1 ∧
      last.all (fun a => !a.iterable) = true

theorem atoms_id (r : RSym) (h : WFR r) : r.atoms = [Atom.id] ↔ r = .atom .id := by
  cases r with
  | atom a => simp [RSym.atoms]
  | nonSetComp ch ty =>
    simp only [RSym.atoms]
    constructor
    · intro e; have := h.2.1; rw [e] at this; simp at this
    · intro e; cases e
  | compSet iter last ty =>
    simp only [RSym.atoms]
    constructor
    · intro e; have := h.2.2.2.1; rw [e] at this; simp at this
    · intro e; cases e

theorem not_iterable_not_set (a : Atom) (h : a.iterable = false) : a.isSet = false := by
  cases a <;> first | rfl | cases h

theorem composeSet_eq (ch : List Atom) (last : Atom) (ty : NodeType) (h : ch.all Atom.iterable = true) :
    composeSet (ch ++ [last]) ty =
      (if last.iterable then .compSet (ch ++ [last]) [] ty else .compSet ch [last] ty) := by
  have hl : (ch ++ [last]).getLast? = some last := by simp
  have hf : ch.filter Atom.iterable = ch := List.filter_eq_self.mpr (by simpa using h)
  simp only [composeSet, hl, List.filter_append, hf]
  by_cases hi : last.iterable = true
  · simp [hi]
  · have hi' : last.iterable = false := by simpa using hi
    simp [hi', not_iterable_not_set last hi']

theorem dropLast_append_getLast (l : List Atom) (h : l ≠ []) : ∃ init last, l = init ++ [last] ∧ l.dropLast = init :=
  ⟨l.dropLast, l.getLast h, (List.dropLast_concat_getLast h).symm, rfl⟩

theorem pathTy_append_singleton (ch : List Atom) (a : Atom) : pathTy (ch ++ [a]) = a.ty := by
  simp [pathTy]

theorem composeSet_chain (ch : List Atom) (last : Atom) (ty : NodeType) (hne : ch ≠ []) (hch : ch.all Atom.iterable = true)
    (hset : pathIsSet (ch ++ [last]) = true) (hty : ty = last.ty) :
    (composeSet (ch ++ [last]) ty).atoms = ch ++ [last] ∧ WFR (composeSet (ch ++ [last]) ty) := by
  have hlen : 2 ≤ (ch ++ [last]).length := by
    rw [List.length_append]; exact Nat.succ_le_succ (List.length_pos_iff.2 hne)
  rw [composeSet_eq ch last ty hch]
  by_cases hi : last.iterable = true
  · simp only [hi, if_true, RSym.atoms, List.append_nil, WFR]
    refine ⟨trivial, by simp, by simp, hset, hlen, ?_, ?_, by simp, by simp⟩
    · rw [hty, pathTy_append_singleton]
    · simp only [List.all_append, hch, Bool.true_and]; simp [hi]
  · have hi' : last.iterable = false := by simpa using hi
    have hs : last.isSet = false := not_iterable_not_set last hi'
    simp only [hi', Bool.false_eq_true, if_false, RSym.atoms, WFR]
    refine ⟨trivial, by simp [hs], hne, ?_, hlen, ?_, hch, by simp, by simp [hi']⟩
    · simpa [pathIsSet, List.any_append, hs] using hset
    · rw [hty, pathTy_append_singleton]

theorem compose_eq (first : Atom) (rest : RSym) (hid : rest ≠ .atom .id) :
    compose first rest = if !first.isSet && !rest.isSet then .nonSetComp (first :: rest.atoms) rest.ty
      else composeSet (first :: rest.atoms) rest.ty := by
  cases rest with
  | atom a => cases a <;> first | exact absurd rfl hid | rfl
  | nonSetComp ch ty => simp only [compose, RSym.isSet, RSym.atoms, RSym.ty, Bool.not_false, Bool.and_true]
  | compSet iter last ty =>
    simp only [compose, RSym.isSet, RSym.atoms, RSym.ty, Bool.not_true, Bool.and_false, Bool.false_eq_true, if_false]

theorem wfr_chain {r : RSym} (h : WFR r) : ∃ init last, r.atoms = init ++ [last] ∧ init.all Atom.iterable = true ∧
    r.ty = last.ty ∧ r.isSet = pathIsSet r.atoms := by
  cases r with
  | atom a => exact ⟨[], a, rfl, rfl, rfl, by simp [RSym.isSet, RSym.atoms, pathIsSet]⟩
  | nonSetComp ch ty =>
    obtain ⟨hall, hlen, hty, hit⟩ := h
    obtain ⟨init, last, hch, hdl⟩ := dropLast_append_getLast ch (by intro e; rw [e] at hlen; simp at hlen)
    refine ⟨init, last, hch, hdl ▸ hit, by show ty = _; rw [hty, hch, pathTy_append_singleton], ?_⟩
    exact (List.any_eq_false.mpr fun a ha => by simpa using List.all_eq_true.mp hall a ha).symm
  | compSet iter last ty =>
    obtain ⟨_, hne, hset, hlen, hty, hit, hl1, _⟩ := h
    obtain ⟨init, lst, hch, hdl⟩ := dropLast_append_getLast (iter ++ last) (by simp [hne])
    refine ⟨init, lst, hch, ?_, by show ty = _; rw [hty, hch, pathTy_append_singleton], ?_⟩
    · rw [← hdl]
      cases last with
      | nil =>
        rw [List.append_nil, List.all_eq_true] at *
        exact fun a ha => hit a ((List.dropLast_sublist _).subset ha)
      | cons x xs =>
        cases xs with
        | nil => rw [List.dropLast_concat]; exact hit
        | cons y ys => simp at hl1
    · simp only [RSym.isSet, RSym.atoms, pathIsSet, List.any_append] at hset ⊢
      simp [hset]

/-- composing a link `first` (an fk field or a link set: iterable) in front of a resolved symbol
    keeps every symbol of the chain (since 5f6f9bb also the non-iterable tail of `set.custom`) -/
theorem compose_atoms (first : Atom) (hfi : first.iterable = true) (rest : RSym) (hw : WFR rest) :
    (compose first rest).atoms = (if rest.atoms = [Atom.id] then [first] else first :: rest.atoms) ∧
    WFR (compose first rest) := by
  by_cases hid : rest = .atom .id
  · subst hid; simp [compose, RSym.atoms, WFR]
  obtain ⟨init, last, hch, hinit, hty, hset⟩ := wfr_chain hw
  rw [compose_eq first rest hid, if_neg (mt (atoms_id rest hw).1 hid)]
  by_cases hns : (!first.isSet && !rest.isSet) = true
  · rw [if_pos hns]
    simp only [Bool.and_eq_true, Bool.not_eq_eq_eq_not, Bool.not_true] at hns
    have hps : pathIsSet rest.atoms = false := hset ▸ hns.2
    refine ⟨rfl, by simpa [pathIsSet, hns.1] using hps, by rw [hch]; simp, ?_, ?_⟩
    · rw [hch, ← List.cons_append, pathTy_append_singleton]; exact hty
    · rw [hch, ← List.cons_append, List.dropLast_concat]; simp [hfi, hinit]
  · rw [if_neg hns, hch, ← List.cons_append]
    refine composeSet_chain (first :: init) last rest.ty (by simp) (by simp [hfi, hinit]) ?_ hty
    rw [List.cons_append, ← hch]
    cases hf : first.isSet
    · simpa [pathIsSet, hset, hf] using hns
    · simp [pathIsSet, hf]

/-- a resolved symbol is a symbol of the store, an element of a map symbol, or a link (an fk field or a link set)
    composed in front of a resolved symbol of the linked store -/
theorem resolve_ind (defs : List StoreDef) {motive : Nat → RSym → Prop}
    (single : ∀ st p a, lookupSym defs st p = some a → motive st (.atom a))
    (elem : ∀ st md q rest, motive st (.atom (elementSymbol st md q rest)))
    (link : ∀ st first st' x, first.iterable = true → motive st' x → motive st (compose first x))
    (st : Nat) (parts : List String) : ∀ r, resolve defs st parts = some r → motive st r := by
  fun_induction resolve defs st parts with
  | case2 st p => intro r h; obtain ⟨a, ha, rfl⟩ := Option.map_eq_some_iff.mp h; exact single st p a ha
  | case4 st p q rest d hd md hm => intro r h; cases h; exact elem st md q rest
  | case7 st p q rest d hd hm first hl st' hlk hid hcu ih =>
    intro r h
    obtain ⟨x, hx, rfl⟩ := Option.map_eq_some_iff.mp h
    refine link st first st' x ?_ (ih x hx)
    cases first <;> first | rfl | exact absurd rfl hid | exact (hcu _ _ _ _ _ rfl).elim | cases hlk
  | _ => exact fun _ h => nomatch h

theorem resolve_path (defs : List StoreDef) (parts : List String) (st : Nat) :
    specPath defs st parts = (resolve defs st parts).map RSym.atoms ∧
      (∀ r, resolve defs st parts = some r → WFR r) := by
  -- along the case tree of `resolve`, which is that of `specPath`
  fun_induction resolve defs st parts with
  | case2 st p =>
    rw [specPath]
    cases lookupSym defs st p with
    | none => exact ⟨rfl, fun _ h => nomatch h⟩
    | some a => exact ⟨rfl, fun r h => by cases h; trivial⟩
  | case4 st p q rest d hd md hm =>
    exact ⟨by simp only [specPath, hd, hm, elementSymbol_eq_path]; rfl, fun r h => by cases h; trivial⟩
  | case7 st p q rest d hd hm first hl st' hlk hid hcu ih =>
    -- a link: composed in front of what the rest of the name resolves to in the linked store
    have hfi : first.iterable = true := by
      cases first <;> first | rfl | exact absurd rfl hid | exact (hcu _ _ _ _ _ rfl).elim | cases hlk
    have hsp : specPath defs st (p :: q :: rest) = (specPath defs st' (q :: rest)).map fun tail =>
        if tail = [Atom.id] then [first] else first :: tail := by
      simp only [specPath, hd, hm, hl, hlk]
    rw [hsp, ih.1]
    cases hr : resolve defs st' (q :: rest) with
    | none => exact ⟨rfl, fun _ h => nomatch h⟩
    | some r =>
      have hc := compose_atoms first hfi r (ih.2 r hr)
      exact ⟨by simp [hc.1], fun r' hr' => by cases hr'; exact hc.2⟩
  | _ => exact ⟨by simp only [specPath, *, Option.map_none], fun _ h => nomatch h⟩

theorem levelVals_nonset (db : Db F) (a : Atom) (h : a.isSet = false) (key : Option Bytes) :
    levelVals db a key = [evalAtom db a key] := by
  cases a <;> simp_all [levelVals, Atom.isSet]

theorem pathElems_snoc (db : Db F) (x : Atom) (hx : x.isSet = false) : ∀ (iter : List Atom), iter ≠ [] → ∀ key,
    pathElems db (iter ++ [x]) key = (pathElems db iter key).map fun v => evalAtom db x (linkKey v)
  | [], h, _ => absurd rfl h
  | [a], _, key => by simp only [List.singleton_append, pathElems, levelVals_nonset db x hx, List.map_eq_flatMap]
  | a :: b :: rest, _, key => by
    simp only [List.cons_append, pathElems, List.map_flatMap]
    congr 1
    funext v
    exact pathElems_snoc db x hx (b :: rest) (by simp) (linkKey v)

theorem iterable_linked (a : Atom) (h : a.iterable = true) : a.linked = a.specLinked := by
  cases a <;> simp_all [Atom.iterable, Atom.linked, Atom.specLinked]

theorem getLast_linked (l : List Atom) (h : ∀ a, l.getLast? = some a → a.iterable = true) :
    l.getLast?.bind Atom.linked = l.getLast?.bind Atom.specLinked := by
  cases hl : l.getLast? with
  | none => rfl
  | some a => exact iterable_linked a (h a hl)

/-- what the tables say of a resolved symbol is what they say of its path -/
theorem sem_tables {r : RSym} (hw : WFR r) :
    r.isSet = pathIsSet r.atoms ∧ r.ty = pathTy r.atoms ∧
    (r.isSet = true → r.hasTail = false → r.linked = pathLinked r.atoms) := by
  obtain ⟨init, last, hch, -, hty, hset⟩ := wfr_chain hw
  refine ⟨hset, by rw [hty, hch, pathTy_append_singleton], fun hs ht => ?_⟩
  cases r with
  | atom a => cases a <;> first | rfl | cases hs
  | nonSetComp ch ty => cases hs
  | compSet iter last ty =>
    cases last with
    | nil =>
      simpa [RSym.linked, RSym.atoms, pathLinked] using
        getLast_linked iter fun a ha => List.all_eq_true.mp hw.2.2.2.2.2.1 a (List.mem_of_getLast? ha)
    | cons x xs => cases ht

theorem linked_of_last {r : RSym} (hw : WFR r) (h : ∀ a, r.atoms.getLast? = some a → a.iterable = true) :
    r.hasTail = false ∧ r.linked = pathLinked r.atoms := by
  cases r with
  | atom a => exact ⟨rfl, iterable_linked a (h a rfl)⟩
  | nonSetComp ch ty => exact ⟨rfl, getLast_linked ch h⟩
  | compSet iter last ty =>
    cases last with
    | nil =>
      simp only [RSym.atoms, List.append_nil] at h
      exact ⟨rfl, by simpa [RSym.linked, RSym.atoms, pathLinked] using getLast_linked iter h⟩
    | cons x xs =>
      -- the path ends in the last symbol of the tail, which is not iterable
      have hl : (iter ++ x :: xs).getLast? = some ((x :: xs).getLast (by simp)) := by
        simp [List.getLast?_eq_some_getLast]
      have := List.all_eq_true.mp hw.2.2.2.2.2.2.2 _ (List.getLast_mem (l := x :: xs) (by simp))
      simp [h _ hl] at this

/-- what the code reads through a resolved symbol is what the path semantics reads along its atoms -/
theorem sem_eq (db : Db F) (r : RSym) (hw : WFR r) (key : Option Bytes) :
    symVal db r key = (if r.isSet then .nil else evalChain db r.atoms key) ∧
    modelElems db r key = (if r.isSet then pathElems db r.atoms key else []) ∧
    (r.hasTail = false → cursorKeys db r key = modelElems db r key) := by
  cases r with
  | atom a => cases a <;> exact ⟨rfl, rfl, fun _ => rfl⟩
  | nonSetComp ch ty => exact ⟨rfl, rfl, fun _ => rfl⟩
  | compSet iter last ty =>
    refine ⟨rfl, ?_, fun ht => ?_⟩
    · cases last with
      | nil => simp [RSym.isSet, modelElems, RSym.atoms, stacked_eq_flatMap]
      | cons x xs =>
        obtain rfl : xs = [] := by simpa using hw.2.2.2.2.2.2.1
        simp only [RSym.isSet, modelElems, RSym.atoms, stacked_eq_flatMap, if_true, evalChain]
        exact (pathElems_snoc db x (by simpa using hw.1) iter hw.2.1 key).symm
    · cases last with
      | nil => rfl
      | cons x xs => cases ht

theorem filter_const_true {α} (l : List α) : l.filter (fun _ => true) = l :=
  List.filter_eq_self.mpr fun _ _ => rfl

theorem isEntityOf_eq (db : Db F) (st : Nat) (id : Bytes) : isEntityOf db st id = !skipped db st id := by
  simp only [isEntityOf, skipped]
  cases isChild db.defs st <;> cases present db st id <;> cases isExtended db.defs st <;> rfl

theorem cursorRows_live (db : Db F) (linked : Option Nat) (es : List (SVal F)) :
    (cursorRowsOf linked es).filter (fun c' => !(modelWorld db).nilRow c') = subRowsOf db linked es := by
  cases linked with
  | none => rfl
  | some st' =>
    simp only [cursorRowsOf, subRowsOf, modelWorld]
    induction es with
    | nil => rfl
    | cons v vs ih =>
      cases hk : linkKey v with
      | none => simpa [List.filterMap_cons, hk] using ih
      | some k =>
        by_cases hs : skipped db st' k = true
        · simpa [List.filterMap_cons, hk, isEntityOf_eq, hs] using ih
        · have hs' : skipped db st' k = false := by simpa using hs
          simpa [List.filterMap_cons, hk, isEntityOf_eq, hs'] using ih

theorem composeSet_not_atom (ch : List Atom) (ty : NodeType) (a : Atom) : composeSet ch ty ≠ .atom a := by
  simp only [composeSet]
  split
  · split <;> simp
  · simp

theorem compose_atom_eq (first : Atom) (rest : RSym) (a : Atom) (h : compose first rest = .atom a) : a = first := by
  by_cases hid : rest = .atom .id
  · subst hid; exact (RSym.atom.inj h).symm
  · rw [compose_eq first rest hid] at h
    split at h
    · cases h
    · exact absurd h (composeSet_not_atom _ _ _)

/-- a name resolves to a custom symbol only when it is that symbol's own name -/
theorem resolve_atom_custom (defs : List StoreDef) : ∀ (parts : List String) (st o : Nat) (n : String) (ty : NodeType)
    (l : Option Nat) (k : CustomKind), resolve defs st parts = some (.atom (.custom o n ty l k)) →
    ∃ p, lookupSym defs st p = some (.custom o n ty l k) := by
  intro parts st o n ty l k h
  refine resolve_ind defs
    (motive := fun st r => r = .atom (.custom o n ty l k) → ∃ p, lookupSym defs st p = some (.custom o n ty l k))
    (fun st p a ha e => ⟨p, by cases e; exact ha⟩) (fun _ _ _ _ e => nomatch e) ?_ st parts _ h rfl
  intro st first st' x hfi _ e
  cases compose_atom_eq _ _ _ e
  cases hfi

theorem extDirect_eq_path {r : RSym} (hw : WFR r) : r.extDirect = pathExtOK r.atoms := by
  cases r with
  | atom a => rfl
  | nonSetComp ch ty =>
    have : ¬ch.length ≤ 1 := by have := hw.2.1; omega
    simp only [RSym.extDirect, RSym.atoms, pathExtOK, noExt, this, decide_false, Bool.false_or]
  | compSet iter last ty =>
    have : ¬(iter ++ last).length ≤ 1 := by have := hw.2.2.2.1; omega
    simp only [RSym.extDirect, RSym.atoms, pathExtOK, noExt, this, decide_false, Bool.false_or]

theorem sym_eq (defs : List StoreDef) (t : Nat) (n : String) : (dbSigma defs).sym t n = (dbSpecSigma defs).sym t n := by
  obtain ⟨hp, hwf⟩ := resolve_path defs (splitName n) t
  simp only [dbSigma, dbSpecSigma, hp]
  cases hr : resolve defs t (splitName n) with
  | none => simp
  | some r =>
    simp [(sem_tables (hwf r hr)).1, (sem_tables (hwf r hr)).2.1]

/-- on a name that satisfies the proviso on external functions, read on an entity, the code's world is the
    specification's; where the cursor of the resolved symbol has no tail, so are the linked type and the live rows -/
theorem world_name_eq (db : Db F) (c : Ctx) (hc : c.2.isSome = true) (n : String) (he : extNameOK db.defs c.1 n = true) :
    (modelWorld db).val c n = (specWorld db).val c n ∧ (modelWorld db).elems c n = (specWorld db).elems c n ∧
    ((∀ r, resolve db.defs c.1 (splitName n) = some r → r.hasTail = false) →
      ((dbSigma db.defs).sym c.1 n).map (·.2) = some true →
      (dbSigma db.defs).setTypes c.1 n = (dbSpecSigma db.defs).setTypes c.1 n ∧
      liveRows (modelWorld db) c n = liveRows (specWorld db) c n) := by
  obtain ⟨hp, hwf⟩ := resolve_path db.defs (splitName n) c.1
  obtain ⟨st, key⟩ := c
  cases key with
  | none => simp at hc
  | some id =>
  simp only [extNameOK, hp] at he
  simp only [dbSigma, dbSpecSigma, modelWorld, specWorld, liveRows, hp]
  cases hr : resolve db.defs st (splitName n) with
  | none => simp
  | some r =>
    have hw := hwf r hr
    have hd : pathExtOK r.atoms = true := by simpa only [hr, Option.map_some] using he
    obtain ⟨h1, -, h3⟩ := sem_tables hw
    obtain ⟨h4, h5, h6⟩ := sem_eq db r hw (some id)
    simp only [Option.map_some, Option.bind_some]
    refine ⟨by rw [h4, h1, specChain_eq db _ _ (.inr ⟨hd, rfl⟩)], ?_, fun hnt hs => ?_⟩
    · rw [h5, ← h1]
      split
      · rw [specElems_eq db _ _ (.inr ⟨hd, h1 ▸ ‹_›⟩)]
      · rfl
    · have hs' : r.isSet = true := by simpa using hs
      have hps : pathIsSet r.atoms = true := by rw [← h1]; exact hs'
      have ht := hnt r rfl
      refine ⟨h3 hs' ht, ?_⟩
      simp only [hps, if_true, h6 ht, h5, hs', h3 hs' ht, Bool.not_false, filter_const_true, specElems_eq db _ _ (.inr ⟨hd, hps⟩)]
      exact cursorRows_live db _ _

theorem liveRows_spec_ctx (db : Db F) (c : Ctx) (n : String) (t' : Nat)
    (hst' : (dbSpecSigma db.defs).setTypes c.1 n = some t') :
    ∀ c' ∈ liveRows (specWorld db) c n, c'.1 = t' ∧ c'.2.isSome = true := by
  intro c' hc'
  simp only [liveRows, specWorld, Bool.not_false, filter_const_true] at hc'
  simp only [dbSpecSigma] at hst'
  cases hp : specPath db.defs c.1 (splitName n) with
  | none => simp [hp] at hc'
  | some p =>
    simp only [hp, Option.bind_some] at hst' hc'
    by_cases hps : pathIsSet p = true
    · simp only [hps, if_true, subRowsOf, hst', List.mem_filterMap] at hc'
      obtain ⟨v, _, hv⟩ := hc'
      cases hk : linkKey v with
      | none => simp [hk] at hv
      | some k =>
        simp only [hk, Option.bind_some] at hv
        split at hv
        · simp at hv; rw [← hv]; exact ⟨rfl, rfl⟩
        · simp at hv
    · simp [hps] at hc'

theorem specLinked_iterable (a : Atom) (t : Nat) (h : a.specLinked = some t) : a.iterable = true := by
  cases a <;> first | rfl | cases h

theorem setTypes_of_spec (defs : List StoreDef) (t : Nat) (n : String) (t' : Nat)
    (hl : (dbSpecSigma defs).setTypes t n = some t') :
    (dbSigma defs).setTypes t n = some t' ∧
      (∀ r, resolve defs t (splitName n) = some r → r.hasTail = false) := by
  obtain ⟨hp, hwf⟩ := resolve_path defs (splitName n) t
  simp only [dbSpecSigma, dbSigma, hp] at hl ⊢
  cases hr : resolve defs t (splitName n) with
  | none => simp [hr] at hl
  | some r =>
    simp only [hr, Option.map_some, Option.bind_some] at hl ⊢
    -- a path with a linked type ends in an fk field or a link set
    obtain ⟨ht, hlk⟩ := linked_of_last (hwf r hr) fun a ha => by
      rw [pathLinked, ha] at hl
      exact specLinked_iterable a t' hl
    exact ⟨hlk ▸ hl, fun r' hr' => by cases hr'; exact ht⟩

theorem extNameOK_of_nameOK (defs : List StoreDef) (sub : Bool) (t : Nat) (n : String) (h : nameOK defs sub t n = true) :
    extNameOK defs t n = true ∧ (sub = true → ∀ r, resolve defs t (splitName n) = some r → r.hasTail = false) := by
  obtain ⟨hp, hwf⟩ := resolve_path defs (splitName n) t
  simp only [nameOK, Bool.and_eq_true] at h
  simp only [extNameOK, hp]
  cases hr : resolve defs t (splitName n) with
  | none => exact ⟨rfl, fun _ _ h => nomatch h⟩
  | some r =>
    rw [hr] at h
    exact ⟨by simpa [← extDirect_eq_path (hwf r hr)] using h.2, fun hsub r' hr' => by cases hr'; simpa [hsub] using h.1⟩

theorem spec_typed (defs : List StoreDef) (fo : FloatOps F) {t : Nat} {f : U F} {x : Option (NodeType × Bool)}
    (h : Typing (dbSpecSigma defs) fo t f x) : Typing (dbSigma defs) fo t f x :=
  h.mono (sym_eq defs) fun t n _ t' _ hl => (setTypes_of_spec defs t n t' hl).1

/-- a filter that is well-typed under the specification's tables and uses external functions by their own names means,
    on every entity, the same over the code's tables and world as over the specification's -/
theorem spec_refines (db : Db F) (fo : FloatOps F) {t : Nat} {f : U F} {x : Option (NodeType × Bool)}
    (h : Typing (dbSpecSigma db.defs) fo t f x) : extNamesOK db.defs t f = true →
      ∀ c : Ctx, c.1 = t → c.2.isSome = true →
        match x with
        | none => sat (dbSigma db.defs) (modelWorld db) fo t c f = sat (dbSpecSigma db.defs) (specWorld db) fo t c f
        | some _ => lhsDen (dbSigma db.defs) (modelWorld db) fo t c f = lhsDen (dbSpecSigma db.defs) (specWorld db) fo t c f := by
  induction h with
  | boolC => exact fun _ _ _ _ => rfl
  | @flag t n _ | @sym t n _ _ _ | @isEmpty t n _ _ _ | @count t n _ _ _ =>
    rintro he c rfl hc2
    obtain ⟨hval, helems, -⟩ := world_name_eq db c hc2 n he
    simp only [sat, lhsDen, symType, sym_eq, hval, helems]
  | @quant t fn n _ hfn _ _ =>
    rintro he c rfl hc2
    rcases hfn with rfl | rfl <;> simp only [lhsDen, symType, sym_eq, (world_name_eq db c hc2 n he).2.1]
  | @isEmptyQ t n τ t' q so sk li hs hst _ _ _ ih | @countQ t n τ t' q so sk li hs hst _ _ _ ih =>
    -- both worlds filter, sort and page the same rows of the linked store
    rintro he c rfl hc2
    simp only [extNamesOK, hst, Bool.and_eq_true] at he
    -- the specification's typing lets `n` be the set of a sub-query: its cursor has no tail
    obtain ⟨hst', hnt⟩ := setTypes_of_spec db.defs c.1 n t' hst
    have hrows := ((world_name_eq db c hc2 n he.1).2.2 hnt (by rw [sym_eq, hs]; rfl)).2
    have hctx := liveRows_spec_ctx db c n t' hst
    have hle : (modelWorld db).rowLe = (specWorld db).rowLe := rfl
    simp only [sat, lhsDen, hst, hst', hrows, hle,
      List.filter_congr fun c' hc' => ih he.2 c' (hctx c' hc').1 (hctx c' hc').2]
  | cmp _ _ ih | inArr _ _ ih | between _ _ ih | notE _ _ ih | unot _ ih =>
    intro he c hc hc2
    simp only [sat, ih he c hc hc2]
  | logic _ _ ihl ihr =>
    intro he c hc hc2
    simp only [extNamesOK, Bool.and_eq_true] at he
    simp only [sat, ihl he.1 c hc hc2, ihr he.2 c hc hc2]

theorem modelWorld_seekOK (db : Db F) (h : WellFormedDb db) : SeekOK (modelWorld db) := by
  intro c n hs
  simp only [modelWorld] at hs ⊢
  split at hs
  · rename_i st k ty l hr
    simp only [hr, modelElems, levelVals]
    cases he : c.2.bind (findEntity db st) with
    | none => exact ⟨[], rfl, .nil⟩
    | some e =>
      obtain ⟨id, -, hf⟩ := Option.bind_eq_some_iff.mp he
      simp only
      cases hl : e.sets.lookup k with
      | none => exact ⟨[], rfl, .nil⟩
      | some es => exact h st id e hf k es hl
  · cases hs

theorem resolve_out_of_range (defs : List StoreDef) (t : Nat) (h : defs[t]? = none) :
    ∀ parts, resolve defs t parts = none
  | [] => rfl
  | [p] => by simp [resolve, lookupSym, h]
  | p :: q :: rest => by simp [resolve, h]

theorem lookupSym_plain (defs : List StoreDef) (hp : PlainDefs defs) (st : Nat) (n : String) (a : Atom)
    (h : lookupSym defs st n = some a) : a.iterable = true ∨ a = .id := by
  revert h
  fun_cases lookupSym defs st n with
  | case7 d hd o ty l k hl => exact fun _ => absurd hl (hp st d hd n o ty l k)
  | _ => intro h; cases h <;> first | exact .inl rfl | exact .inr rfl

/-- without custom symbols every symbol of a resolved chain is iterable, `id` by itself apart -/
theorem resolve_plain (defs : List StoreDef) (hp : PlainDefs defs) (parts : List String) (st : Nat) (r : RSym)
    (h : resolve defs st parts = some r) : WFR r ∧ (r.atoms.all Atom.iterable = true ∨ r = .atom .id) := by
  refine resolve_ind defs (motive := fun _ r => WFR r ∧ (r.atoms.all Atom.iterable = true ∨ r = .atom .id))
    (fun st p a ha => ⟨trivial, (lookupSym_plain defs hp st p a ha).imp (by simp [RSym.atoms, ·]) (by rintro rfl; rfl)⟩)
    (fun _ _ _ _ => ⟨trivial, .inl rfl⟩) ?_ st parts r h
  intro st first st' x hfi ⟨hw, hx⟩
  obtain ⟨hat, hwc⟩ := compose_atoms first hfi x hw
  refine ⟨hwc, .inl ?_⟩
  rw [hat]
  rcases hx with hx | rfl
  · rw [if_neg fun e => by rw [e] at hx; cases hx]
    simp [hfi, hx]
  · simp [RSym.atoms, hfi]

theorem iterable_not_ext (a : Atom) (h : a.iterable = true) : a.isExt = false := by
  cases a <;> first | rfl | cases h

theorem plain_tables {r : RSym} (h : WFR r ∧ (r.atoms.all Atom.iterable = true ∨ r = .atom .id)) :
    r.hasTail = false ∧ r.extDirect = true ∧ r.linked = pathLinked r.atoms := by
  obtain ⟨hw, h | rfl⟩ := h
  · obtain ⟨ht, hl⟩ := linked_of_last hw fun a ha => List.all_eq_true.mp h a (List.mem_of_getLast? ha)
    refine ⟨ht, ?_, hl⟩
    rw [extDirect_eq_path hw, pathExtOK, noExt, Bool.or_eq_true, List.all_eq_true]
    exact .inr fun a ha => by rw [iterable_not_ext a (List.all_eq_true.mp h a ha)]; rfl
  · exact ⟨rfl, rfl, rfl⟩

theorem nameOK_all (defs : List StoreDef) (hp : PlainDefs defs) (sub : Bool) (t : Nat) (n : String) :
    nameOK defs sub t n = true := by
  simp only [nameOK]
  cases hr : resolve defs t (splitName n) with
  | none => simp
  | some r =>
    obtain ⟨ht, he, -⟩ := plain_tables (resolve_plain defs hp _ t r hr)
    simp [ht, he]

theorem namesOK_all (defs : List StoreDef) (hp : PlainDefs defs) : ∀ (f : U F) (t : Nat), namesOK defs t f = true := by
  intro f
  induction f with
  | sym n | setFn _ n => intro t; exact nameOK_all defs hp false t n
  | setFnSub fn n q so sk li ih =>
    intro t
    simp only [namesOK, nameOK_all defs hp, Bool.true_and]
    cases (dbSigma defs).setTypes t n with
    | none => rfl
    | some t' => exact ih t'
  | boolC b => intro t; rfl
  | cmp _ _ _ ih | inArr _ _ ih | between _ _ _ ih | notE _ ih | unot _ ih => intro t; exact ih t
  | logic o l r ihl ihr => intro t; simp [namesOK, ihl t, ihr t]

/-- `PlainDefs` is needed: the code gives a `set.custom` symbol the set's linked type, the path semantics none -/
theorem dbSigma_eq_spec (defs : List StoreDef) (hpl : PlainDefs defs) : dbSigma defs = dbSpecSigma defs := by
  unfold dbSigma dbSpecSigma
  congr 1
  · funext t n; exact sym_eq defs t n
  · funext t n
    rw [(resolve_path defs (splitName n) t).1]
    cases hr : resolve defs t (splitName n) with
    | none => rfl
    | some r => simp [(plain_tables (resolve_plain defs hpl _ t r hr)).2.2]

theorem extNamesOK_all (defs : List StoreDef) (hp : PlainDefs defs) : ∀ (f : U F) (t : Nat), extNamesOK defs t f = true := by
  have key : ∀ t n, extNameOK defs t n = true := fun t n =>
    (extNameOK_of_nameOK defs false t n (nameOK_all defs hp false t n)).1
  intro f
  induction f with
  | sym n | setFn _ n => intro t; exact key t n
  | setFnSub fn n q so sk li ih =>
    intro t
    simp only [extNamesOK, key, Bool.true_and]
    cases (dbSpecSigma defs).setTypes t n with
    | none => rfl
    | some t' => exact ih t'
  | boolC b => intro t; rfl
  | cmp _ _ _ ih | inArr _ _ ih | between _ _ _ ih | notE _ ih | unot _ ih => intro t; exact ih t
  | logic o l r ihl ihr => intro t; simp [extNamesOK, ihl t, ihr t]

end StorageModel.Filter
