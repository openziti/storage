/-- two lists sorted by an asymmetric relation that have the same members are equal -/
theorem List.Pairwise.eq_of_mem_iff {α : Type} {r : α → α → Prop} (asymm : ∀ {a b}, r a b → ¬ r b a)
    {l₁ l₂ : List α} (h₁ : l₁.Pairwise r) (h₂ : l₂.Pairwise r) (h : ∀ x, x ∈ l₁ ↔ x ∈ l₂) : l₁ = l₂ :=
  have nodup {l : List α} (hl : l.Pairwise r) : l.Nodup :=
    hl.imp fun {a b} hab (e : a = b) => asymm hab (e ▸ hab)
  ((List.perm_ext_iff_of_nodup (nodup h₁) (nodup h₂)).2 h).eq_of_pairwise
    (fun _ _ _ _ hab hba => absurd hba (asymm hab)) h₁ h₂

/-- how a count `(l.filter p).length` of what is still to do drops: the filter narrows to `q` and loses `x`
    (the termination measures of C04 `growN` and C06 `liveCnt` step this way) -/
theorem List.length_filter_lt_of_imp {α : Type} {p q : α → Bool} {l : List α} (himp : ∀ x, q x = true → p x = true)
    {x : α} (hx : x ∈ l) (hpx : p x = true) (hqx : q x = false) : (l.filter q).length < (l.filter p).length := by
  have hq : l.filter q = (l.filter p).filter q := by
    rw [List.filter_filter]
    refine List.filter_congr fun y _ => ?_
    cases hy : q y with
    | false => rfl
    | true => rw [himp y hy]; rfl
  rw [hq]
  exact List.length_filter_lt_length_iff_exists.2 ⟨x, List.mem_filter.2 ⟨hx, hpx⟩, by simp [hqx]⟩
