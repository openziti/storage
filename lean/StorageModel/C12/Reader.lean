import StorageModel.C12.Readings
/-
  C12 — the executable reader `parseW` used by the driver's spec mode is the inverse of `render`,
  and on every token list the parser model answers as that reader does (`parseTokens_eq_read`); the
  listener of the pinned tree as a stack machine builds `readM` from its callbacks.
-/
namespace StorageModel.C12
variable {α : Type}

theorem parseW_not (f : Nat) (r : List (Tok α)) :
    parseW (f + 1) (.not :: r) = (parseW f r).map fun x => (.not x.1, x.2) := by
  simp only [parseW]; cases parseW f r <;> rfl

theorem parseW_atomOp (f : Nat) (a : Atom α) (o : Op) (r : List (Tok α)) :
    parseW (f + 1) (.atom a :: .op o :: r) = (parseW f r).map fun x => (.atomOp a o x.1, x.2) := by
  simp only [parseW]; cases parseW f r <;> rfl

theorem parseW_atom (f : Nat) (a : Atom α) (rest : List (Tok α)) (h : headIsOp rest = false) :
    parseW (f + 1) (.atom a :: rest) = some (.atom a, rest) := by
  cases rest with
  | nil => rfl
  | cons t r => cases t <;> first | rfl | cases h

theorem parseW_grp (f : Nat) (g : W α) (r rest : List (Tok α)) (hg : parseW f r = some (g, .rp :: rest))
    (h : headIsOp rest = false) : parseW (f + 1) (.lp :: r) = some (.grp g, rest) := by
  simp only [parseW, hg]
  cases rest with
  | nil => rfl
  | cons t r => cases t <;> first | rfl | cases h

theorem parseW_grpOp (f : Nat) (g : W α) (o : Op) (r r' : List (Tok α))
    (hg : parseW f r = some (g, .rp :: .op o :: r')) :
    parseW (f + 1) (.lp :: r) = (parseW f r').map fun x => (.grpOp g o x.1, x.2) := by
  simp only [parseW, hg]; cases parseW f r' <;> rfl

theorem parseW_render (w : W α) :
    ∀ (f : Nat) (rest : List (Tok α)), headIsOp rest = false → w.render.length < f →
      parseW f (w.render ++ rest) = some (w, rest) := by
  induction w with
  | atom a =>
    intro f rest hr hf
    obtain ⟨f, rfl⟩ := Nat.exists_eq_add_one_of_ne_zero (Nat.ne_zero_of_lt hf)
    exact parseW_atom f a rest hr
  | grp g ih =>
    intro f rest hr hf
    obtain ⟨f, rfl⟩ := Nat.exists_eq_add_one_of_ne_zero (Nat.ne_zero_of_lt hf)
    simp only [W.render, List.length_cons, List.length_append, List.length_nil] at hf
    have h1 := ih f (.rp :: rest) rfl (by omega)
    simp only [W.render, List.cons_append, List.append_assoc, List.nil_append]
    exact parseW_grp f g _ rest h1 hr
  | not w ih =>
    intro f rest hr hf
    obtain ⟨f, rfl⟩ := Nat.exists_eq_add_one_of_ne_zero (Nat.ne_zero_of_lt hf)
    rw [W.render, List.cons_append, parseW_not, ih f rest hr (Nat.lt_of_succ_lt_succ hf)]; rfl
  | atomOp a o w ih =>
    intro f rest hr hf
    obtain ⟨f, rfl⟩ := Nat.exists_eq_add_one_of_ne_zero (Nat.ne_zero_of_lt hf)
    rw [W.render, List.cons_append, List.cons_append, parseW_atomOp,
      ih f rest hr (Nat.lt_of_succ_lt (Nat.lt_of_succ_lt_succ hf))]; rfl
  | grpOp g o w ihg ih =>
    intro f rest hr hf
    obtain ⟨f, rfl⟩ := Nat.exists_eq_add_one_of_ne_zero (Nat.ne_zero_of_lt hf)
    simp only [W.render, List.length_cons, List.length_append] at hf
    have h1 := ihg f (.rp :: .op o :: (w.render ++ rest)) rfl (by omega)
    simp only [W.render, List.cons_append, List.append_assoc]
    rw [parseW_grpOp f g o _ _ h1, ih f rest hr (by omega)]; rfl

theorem readTokens_render (w : W α) : readTokens w.render = some w := by
  have := parseW_render w (w.render.length + 1) [] rfl (Nat.lt_succ_self _)
  rw [List.append_nil] at this
  simp only [readTokens, this]

theorem parseW_sound (f : Nat) : ∀ (ts : List (Tok α)) (w : W α) (rest : List (Tok α)),
    parseW f ts = some (w, rest) → ts = w.render ++ rest := by
  induction f with
  | zero => intro ts w rest h; cases h
  | succ f ih =>
    intro ts w rest h
    unfold parseW at h
    split at h
    · next r =>
      split at h
      · next w1 r' h1 => cases h; exact congrArg (Tok.not :: ·) (ih r w1 _ h1)
      · cases h
    · next a o r =>
      split at h
      · next w1 r' h1 => cases h; exact congrArg (fun l => Tok.atom a :: Tok.op o :: l) (ih r w1 _ h1)
      · cases h
    · cases h; rfl
    · next r =>
      split at h
      · next g o r' h1 =>
        split at h
        · next w1 r'' h2 =>
          cases h
          rw [ih r g _ h1, ih r' w1 _ h2, W.render, List.cons_append, List.append_assoc]; rfl
        · cases h
      · next g r' _ h1 => cases h; rw [ih r g _ h1, W.render, List.cons_append, List.append_assoc]; rfl
      · cases h
    · cases h

theorem readTokens_sound (ts : List (Tok α)) (w : W α) (h : readTokens ts = some w) : ts = w.render := by
  unfold readTokens at h
  split at h
  · next w' hp => cases h; exact (parseW_sound _ ts w [] hp).trans (List.append_nil _)
  · cases h

/-- soundness (`parseTokens_sound`) and completeness (`parseTokens_render`) of the parser model taken together -/
theorem parseTokens_eq_read (c : ParserNums) (hg : Greedy c) (ts : List (Tok α)) :
    parseTokens c ts = (readTokens ts).map W.evM := by
  cases hr : readTokens ts with
  | some w =>
    obtain rfl := readTokens_sound ts w hr
    exact parseTokens_render c hg w
  | none =>
    cases hp : parseTokens c ts with
    | none => rfl
    | some evs =>
      obtain ⟨w, rfl⟩ := parseTokens_sound c ts evs hp
      rw [readTokens_render] at hr
      cases hr

theorem runListener_append (a b : List (Ev α)) (st : List (U α)) :
    runListener (a ++ b) st = (runListener a st).bind (runListener b) := by
  induction a generalizing st with
  | nil => rfl
  | cons e es ih =>
    rw [List.cons_append, runListener, runListener]
    cases listenerStep st e with
    | none => rfl
    | some st' => exact ih st'

theorem runListener_evM (w : W α) : ∀ st : List (U α), runListener w.evM st = some (w.readM :: st) := by
  induction w using W.unitInduction with
  | atom a => intro st; rfl
  | grp g ih => intro st; rw [W.evM, runListener_append, ih]; rfl
  | not w ih => intro st; rw [W.evM, runListener_append, ih]; rfl
  | cons u o w ihu ih =>
    intro st
    rw [cons_evM, runListener_append, ihu, Option.bind_some, runListener_append, ih, cons_readM]; rfl

theorem untyped_eq_read (c : ParserNums) (hg : Greedy c) (ts : List (Tok α)) :
    untyped c ts = (readTokens ts).map W.readM := by
  rw [untyped, parseTokens_eq_read c hg]
  cases readTokens ts with
  | none => rfl
  | some w => simp only [Option.map_some, runListener_evM, queryPredicate]

theorem accept_agree' (c : ParserNums) (hg : Greedy c) (ts : List (Tok α)) :
    (untyped c ts).isSome = (readTokens ts).isSome := by
  rw [untyped_eq_read c hg, Option.isSome_map]

end StorageModel.C12
