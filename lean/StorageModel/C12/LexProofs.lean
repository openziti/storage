import StorageModel.C12.Lex
/-
  C12 — the token skeleton of a text does not depend on how it is spelled: keyword letter case,
  amount and kind of whitespace (where the grammar has `WS*` / `WS+`).  Two steps, as in Lex.lean:
  characters to raw tokens (`lex_render`: the induction carries the lexer's pending word, so nothing
  has to be known about the text that follows a word), raw tokens to skeleton (`skel_render`).
-/
namespace StorageModel.C12

def isWordChar (c : Char) : Bool := isLetter c || c == '_'

/-- `[A-Za-z][A-Za-z_]*` -/
def wordShape : List Char → Bool
  | [] => false
  | c :: w => isLetter c && w.all isWordChar

def notDangerous (w : List Char) : Bool := !dangerous true w && !dangerous false w

/-- an identifier atom the lexer-level theorem covers: a word that is neither a keyword nor a
    reserved word and would not be fused with a preceding `not` -/
def AtomWord (w : List Char) : Prop :=
  wordShape w = true ∧ classify expectedKeywords w = some (.atom (.sym w)) ∧ notDangerous w = true

def isWordTok : Tok (List Char) → Bool
  | .lp => false
  | .rp => false
  | _ => true

def isOpTok : Tok (List Char) → Bool
  | .op _ => true
  | _ => false

def isOpOrNot : Option (Tok (List Char)) → Bool
  | some (.op _) => true
  | some .not => true
  | _ => false

def prevIsWord : Option (Tok (List Char)) → Bool
  | some t => isWordTok t
  | none => false

/-- whitespace is needed between two words (lexically), before `and`/`or`, after `and`/`or`/`not` -/
def needWs (prev : Option (Tok (List Char))) (t : Tok (List Char)) : Bool :=
  (prevIsWord prev && isWordTok t) || isOpTok t || isOpOrNot prev

def TokOk : Tok (List Char) → Prop
  | .atom (.sym w) => AtomWord w
  | _ => True

def allWs (s : List Char) : Bool := s.all isWsChar

/-- a spelling the grammar admits -/
def SpellOk : Option (Tok (List Char)) → List (Tok (List Char) × Spell) → List Char → Prop
  | prev, [], trail => allWs trail = true ∧ (isOpOrNot prev = true → trail ≠ [])
  | prev, (t, sp) :: rest, trail =>
    allWs sp.pre = true ∧ (needWs prev t = true → sp.pre ≠ []) ∧ TokOk t ∧ SpellOk (some t) rest trail

theorem applyMask_norm : ∀ (w : List Char) (mask : List Bool),
    ∃ m : List Bool, m.length = w.length ∧ applyMask w mask = applyMask w m
  | [], _ => ⟨[], rfl, by cases ‹List Bool› <;> rfl⟩
  | c :: cs, [] => by
    obtain ⟨m, hm, h⟩ := applyMask_norm cs []
    exact ⟨false :: m, by simp [hm], by simp [applyMask, h]⟩
  | c :: cs, b :: bs => by
    obtain ⟨m, hm, h⟩ := applyMask_norm cs bs
    exact ⟨b :: m, by simp [hm], by simp [applyMask, h]⟩

def WordFacts (w : List Char) (t : Tok (List Char)) : Prop :=
  wordShape w = true ∧ classify expectedKeywords w = some t ∧ notDangerous w = true

instance (w : List Char) (t : Tok (List Char)) : Decidable (WordFacts w t) := by
  unfold WordFacts; infer_instance

def masks : Nat → List (List Bool)
  | 0 => [[]]
  | n + 1 => (masks n).flatMap fun m => [false :: m, true :: m]

theorem mem_masks : ∀ m : List Bool, m ∈ masks m.length
  | [] => List.mem_singleton.2 rfl
  | b :: m => List.mem_flatMap.2 ⟨m, mem_masks m, by cases b <;> simp⟩

/-- a keyword of `n` letters has `2 ^ n` spellings; longer and shorter masks repeat them -/
theorem wordFacts_of_masks (w : List Char) (t : Tok (List Char))
    (h : ∀ m ∈ masks w.length, WordFacts (applyMask w m) t) (mask : List Bool) :
    WordFacts (applyMask w mask) t := by
  obtain ⟨m, hm, e⟩ := applyMask_norm w mask
  rw [e]
  exact h m (hm ▸ mem_masks m)

theorem spell_word (t : Tok (List Char)) (mask : List Bool) (hw : isWordTok t = true) (ht : TokOk t) :
    WordFacts (spellTok t mask) t := by
  cases t with
  | atom a =>
    cases a with
    | sym w => exact ht
    | const b =>
      cases b
      · exact wordFacts_of_masks ['f','a','l','s','e'] _ (by decide +kernel) mask
      · exact wordFacts_of_masks ['t','r','u','e'] _ (by decide +kernel) mask
  | op o =>
    cases o
    · exact wordFacts_of_masks ['a','n','d'] _ (by decide +kernel) mask
    · exact wordFacts_of_masks ['o','r'] _ (by decide +kernel) mask
  | not => exact wordFacts_of_masks ['n','o','t'] _ (by decide +kernel) mask
  | lp => cases hw
  | rp => cases hw

def wsRaws (n : Nat) : List Raw := List.replicate n .ws

def rawTok (t : Tok (List Char)) (mask : List Bool) : Raw :=
  match t with
  | .lp => .lp
  | .rp => .rp
  | t => .word (spellTok t mask)

def rawOf : List (Tok (List Char) × Spell) → List Char → List Raw
  | [], trail => wsRaws trail.length
  | (t, sp) :: rest, trail => wsRaws sp.pre.length ++ rawTok t sp.mask :: rawOf rest trail

theorem ws_char_facts (c : Char) (h : isWsChar c = true) :
    isLetter c = false ∧ (c == '_') = false := by
  simp only [isWsChar, Bool.or_eq_true, beq_iff_eq] at h
  rcases h with ((h | h) | h) | h <;> subst h <;> decide

theorem lexGo_ws (c : Char) (pre R cur : List Char) (h : allWs (c :: pre) = true) :
    lexGo (c :: pre ++ R) cur = (lexGo R []).map fun r => flush cur (wsRaws (pre.length + 1) ++ r) := by
  obtain ⟨hc, hpre⟩ := Bool.and_eq_true_iff.1 (show (isWsChar c && allWs pre) = true from h)
  obtain ⟨h1, h2⟩ := ws_char_facts c hc
  have step : lexGo (c :: pre ++ R) cur = (lexGo (pre ++ R) []).map fun r => flush cur (.ws :: r) := by
    simp only [List.cons_append, lexGo, extendsWord, h1, h2, Bool.false_and, Bool.or_false, hc, if_true,
      Bool.false_eq_true, if_false]
  rw [step]
  cases pre with
  | nil => rfl
  | cons c' pre => rw [lexGo_ws c' pre R [] hpre, Option.map_map]; rfl

theorem lexGo_wordchars (w R cur : List Char) (hall : w.all isWordChar = true) (hcur : cur ≠ []) :
    lexGo (w ++ R) cur = lexGo R (w.reverse ++ cur) := by
  induction w generalizing cur with
  | nil => rfl
  | cons c w ih =>
    rw [List.all_cons, Bool.and_eq_true] at hall
    have hext : extendsWord c cur = true := by
      obtain ⟨c0, cur, rfl⟩ := List.exists_cons_of_ne_nil hcur
      simpa [extendsWord, isWordChar] using hall.1
    rw [List.cons_append, lexGo, if_pos hext, ih (c :: cur) hall.2 (List.cons_ne_nil _ _), List.reverse_cons,
      List.append_assoc]
    rfl

/-- a word is read into the pending word (reversed) and stays pending -/
theorem lexGo_word (w R : List Char) (hw : wordShape w = true) :
    lexGo (w ++ R) [] = lexGo R w.reverse ∧ ∀ X, flush w.reverse X = .word w :: X := by
  cases w with
  | nil => cases hw
  | cons c w =>
    rw [wordShape, Bool.and_eq_true] at hw
    have hext : extendsWord c [] = true := by rw [extendsWord, hw.1]; rfl
    refine ⟨?_, fun X => by simp [flush]⟩
    rw [List.cons_append, lexGo, if_pos hext, lexGo_wordchars w R [c] hw.2 (List.cons_ne_nil _ _), List.reverse_cons]

theorem rawTok_word (t : Tok (List Char)) (mask : List Bool) (h : isWordTok t = true) :
    rawTok t mask = .word (spellTok t mask) := by
  cases t <;> first | rfl | cases h

/-- One token, read with a word `cur` pending: only a parenthesis can follow a pending word; a
    word token is itself pending when what follows (`R`, lexed to `X`) is read. -/
theorem lexGo_spell (t : Tok (List Char)) (mask : List Bool) (R cur : List Char) (X : List Raw) (ht : TokOk t)
    (hcur : isWordTok t = true → cur = [])
    (hR : ∀ cur', (cur' ≠ [] → isWordTok t = true) → lexGo R cur' = some (flush cur' X)) :
    lexGo (spellTok t mask ++ R) cur = some (flush cur (rawTok t mask :: X)) := by
  cases hwt : isWordTok t with
  | true =>
    obtain ⟨h1, h2⟩ := lexGo_word _ R (spell_word t mask hwt ht).1
    rw [hcur hwt, rawTok_word t mask hwt, h1, hR _ fun _ => hwt, h2]
    rfl
  | false =>
    have := hR [] fun h => absurd rfl h
    cases t <;> first | (simp only [spellTok, List.cons_append, List.nil_append, lexGo, this]; rfl) | cases hwt

/-- The lexer on an admitted spelling, started with a word `cur` pending (then the token before
    was a word, and whitespace or a parenthesis comes next). -/
theorem lex_render (prev : Option (Tok (List Char))) (ts : List (Tok (List Char) × Spell))
    (trail : List Char) (h : SpellOk prev ts trail) (cur : List Char) (hcur : cur ≠ [] → prevIsWord prev = true) :
    lexGo (renderChars ts trail) cur = some (flush cur (rawOf ts trail)) := by
  induction ts generalizing prev cur with
  | nil =>
    cases trail with
    | nil => rfl
    | cons c cs =>
      have := lexGo_ws c cs [] cur h.1
      rw [List.append_nil] at this
      rw [renderChars, this]
      exact congrArg (fun r => some (flush cur r)) (List.append_nil _)
  | cons x rest ih =>
    obtain ⟨t, sp⟩ := x
    obtain ⟨hws, hneed, htok, hrest⟩ := h
    have tok := fun cur hc => lexGo_spell t sp.mask (renderChars rest trail) cur (rawOf rest trail) htok hc
      fun cur' h' => ih (some t) hrest cur' h'
    rw [renderChars, rawOf, List.append_assoc]
    cases hpre : sp.pre with
    | nil =>
      -- no whitespace in front of `t`: a word cannot follow a word
      refine tok cur fun hwt => ?_
      cases cur with
      | nil => rfl
      | cons a as => exact absurd hpre (hneed (by simp [needWs, hcur (List.cons_ne_nil _ _), hwt]))
    | cons c pre =>
      rw [hpre] at hws
      rw [lexGo_ws c pre _ cur hws, tok [] fun _ => rfl]
      rfl

theorem wsRaws_succ (n : Nat) : wsRaws (n + 1) = .ws :: wsRaws n := rfl

theorem skelGo_ws (kws : List KeywordDef) (pw : Bool) (n : Nat) (X : List Raw) :
    skelGo kws pw (wsRaws n ++ X) = skelGo kws (if n = 0 then pw else true) X := by
  induction n generalizing pw with
  | zero => rfl
  | succ n ih => rw [wsRaws_succ, List.cons_append, skelGo, ih true, ite_self, if_neg (Nat.succ_ne_zero n)]

theorem startsWithWs_rawOf (t : Tok (List Char)) (rest : List (Tok (List Char) × Spell)) (trail : List Char)
    (h : SpellOk (some t) rest trail) (ht : isOpOrNot (some t) = true) :
    startsWithWs (rawOf rest trail) = true := by
  cases rest with
  | nil =>
    have := h.2 ht
    cases trail with
    | nil => simp at this
    | cons c cs => rfl
  | cons x rest =>
    obtain ⟨t', sp'⟩ := x
    have := h.2.1 (by simp [needWs, ht])
    cases hp : sp'.pre with
    | nil => exact absurd hp this
    | cons c cs => rw [rawOf, hp]; rfl

theorem notFollowOk_ws (n k : Nat) (X : List Raw) :
    notFollowOk n (wsRaws k ++ X) = notFollowOk (n + k) X := by
  induction k generalizing n with
  | zero => rfl
  | succ k ih => rw [wsRaws_succ, List.cons_append, notFollowOk, ih, Nat.add_right_comm]; rfl

theorem dangerous_false (b : Bool) (w : List Char) (h : notDangerous w = true) : dangerous b w = false := by
  simp only [notDangerous, Bool.and_eq_true, Bool.not_eq_true'] at h
  cases b
  · exact h.2
  · exact h.1

theorem notFollowOk_rawOf (t : Tok (List Char)) (rest : List (Tok (List Char) × Spell)) (trail : List Char)
    (h : SpellOk (some t) rest trail) (n : Nat) : notFollowOk n (rawOf rest trail) = true := by
  cases rest with
  | nil =>
    have := notFollowOk_ws n trail.length []
    rw [List.append_nil] at this
    rw [rawOf, this]; rfl
  | cons x rest =>
    obtain ⟨t', sp'⟩ := x
    obtain ⟨_, _, htok, _⟩ := h
    rw [rawOf, notFollowOk_ws]
    cases hwt : isWordTok t' with
    | false => cases t' <;> first | rfl | cases hwt
    | true =>
      rw [rawTok_word t' _ hwt, notFollowOk, dangerous_false _ _ (spell_word t' sp'.mask hwt htok).2.2]; rfl

theorem skelGo_tok (pw : Bool) (t : Tok (List Char)) (mask : List Bool) (r : List Raw)
    (ts : List (Tok (List Char))) (ht : TokOk t) (hpw : isOpTok t = true → pw = true)
    (hws : isOpOrNot (some t) = true → startsWithWs r = true) (hnf : t = .not → notFollowOk 0 r = true)
    (ih : skelGo expectedKeywords false r = some ts) :
    skelGo expectedKeywords pw (rawTok t mask :: r) = some (t :: ts) := by
  cases t with
  | lp => simp only [rawTok, skelGo, ih, Option.map_some]
  | rp => simp only [rawTok, skelGo, ih, Option.map_some]
  | atom a => simp only [rawTok, skelGo, (spell_word (.atom a) mask rfl ht).2.1, ih, Option.map_some]
  | op o =>
    simp only [rawTok, skelGo, (spell_word (.op o) mask rfl ht).2.1, hpw rfl, hws rfl, ih, Bool.and_self, if_true,
      Option.map_some]
  | not =>
    simp only [rawTok, skelGo, (spell_word .not mask rfl ht).2.1, hws rfl, hnf rfl, ih, Bool.and_self, if_true,
      Option.map_some]

theorem skel_render (prev : Option (Tok (List Char))) (ts : List (Tok (List Char) × Spell))
    (trail : List Char) (h : SpellOk prev ts trail) (pw : Bool) :
    skelGo expectedKeywords pw (rawOf ts trail) = some (ts.map (·.1)) := by
  induction ts generalizing prev pw with
  | nil =>
    have := skelGo_ws expectedKeywords pw trail.length []
    rw [List.append_nil] at this
    rw [rawOf, this]; rfl
  | cons x rest ih =>
    obtain ⟨t, sp⟩ := x
    obtain ⟨_, hneed, htok, hrest⟩ := h
    rw [rawOf, skelGo_ws]
    refine skelGo_tok _ t sp.mask _ _ htok (fun hop => if_neg fun h0 => ?_) (startsWithWs_rawOf t rest trail hrest)
      (fun _ => notFollowOk_rawOf t rest trail hrest 0) (ih (some t) hrest false)
    exact hneed (by simp only [needWs, hop, Bool.or_true, Bool.true_or]) (List.eq_nil_of_length_eq_zero h0)

theorem lexSkeleton_render (ts : List (Tok (List Char) × Spell)) (trail : List Char)
    (h : SpellOk none ts trail) :
    lexSkeleton expectedKeywords (renderChars ts trail) = some (ts.map (·.1)) := by
  simp [lexSkeleton, lexRaw, lex_render none ts trail h [] (fun h => absurd rfl h), flush, skel_render none ts trail h false]

end StorageModel.C12
