import StorageModel.C12.Readings
/-
  C12 — the TYPED tree (`TypeTransformBool` of `BooleanLogicExprNode` / `UntypedNotExprNode`,
  ast/node_convert.go): `transform` builds one `AndExprNode` / `OrExprNode` / `NotExprNode` per untyped
  node and nothing else (`transform_eq`: the same tree in typed nodes, or a type error).  Read in
  order, the typed tree of a skeleton is the written token list without its parentheses
  (`toT_inorder`, `readS_inorder`): it differs from the text only by the grouping, and the grouping
  is the intended one — however the operands are related.
  `T.show` is `String()` of the typed nodes; it does not show the grouping of and/or, which is why
  the harness observes the tree with a Visitor and why comparing operands by `String()` is not a
  comparison of operands.
-/
namespace StorageModel.C12

variable {α : Type}

def Tok.isParen : Tok α → Bool
  | .lp => true
  | .rp => true
  | _ => false

/-- the written tokens of a skeleton without its parentheses -/
def W.flat : W α → List (Tok α)
  | .atom a => [.atom a]
  | .grp g => g.flat
  | .not w => .not :: w.flat
  | .atomOp a o w => .atom a :: .op o :: w.flat
  | .grpOp g o w => g.flat ++ .op o :: w.flat

theorem flat_eq_filter (w : W α) : w.flat = w.render.filter (fun t => !t.isParen) := by
  induction w with
  | atom a => rfl
  | grp g ih => simp [W.flat, W.render, Tok.isParen, ih]
  | not w ih => simp [W.flat, W.render, Tok.isParen, ih]
  | atomOp a o w ih => simp [W.flat, W.render, Tok.isParen, ih]
  | grpOp g o w ihg ih => simp [W.flat, W.render, Tok.isParen, ihg, ih]

def U.inorder : U α → List (Tok α)
  | .atom a => [.atom a]
  | .not e => .not :: e.inorder
  | .bin o l r => l.inorder ++ .op o :: r.inorder

def T.inorder : T α → List (Tok α)
  | .atom a => [.atom a]
  | .not e => .not :: e.inorder
  | .and l r => l.inorder ++ .op .and :: r.inorder
  | .or l r => l.inorder ++ .op .or :: r.inorder

/-- `AndExprNode` / `OrExprNode` by connective -/
def T.bin : Op → T α → T α → T α
  | .and => .and
  | .or => .or

/-- Go's `&&` / `||` -/
def Op.apply : Op → Bool → Bool → Bool
  | .and, a, b => a && b
  | .or, a, b => a || b

theorem T.bin_eval (o : Op) (l r : T α) (env : α → Bool) :
    (T.bin o l r).eval env = o.apply (l.eval env) (r.eval env) := by
  cases o <;> simp only [T.bin, T.eval, Op.apply] <;> cases l.eval env <;> simp

theorem U.eval_bin (env : α → Bool) (o : Op) (l r : U α) :
    (U.bin o l r).eval env = o.apply (l.eval env) (r.eval env) := by
  cases o <;> rfl

theorem transform_bin (isBool : α → Bool) (o : Op) (l r : U α) :
    transform isBool (.bin o l r) =
      (transform isBool l).bind (fun l' => (transform isBool r).map (fun r' => T.bin o l' r')) := by
  simp only [transform]
  cases transform isBool l <;> cases transform isBool r <;> cases o <;> rfl

theorem transform_not (isBool : α → Bool) (e : U α) :
    transform isBool (.not e) = (transform isBool e).map T.not := by
  simp only [transform]
  cases transform isBool e <;> rfl

/-- the same tree in typed nodes -/
def U.toT : U α → T α
  | .atom a => .atom a
  | .not e => .not e.toT
  | .bin o l r => T.bin o l.toT r.toT

theorem transform_eq (isBool : α → Bool) (u : U α) :
    transform isBool u = if u.allBool isBool then some u.toT else none := by
  induction u with
  | atom a => cases a <;> rfl
  | not e ih => rw [transform_not, ih, U.allBool]; cases e.allBool isBool <;> rfl
  | bin o l r ihl ihr =>
    rw [transform_bin, ihl, ihr, U.allBool]
    cases l.allBool isBool <;> cases r.allBool isBool <;> rfl

theorem toT_eval (env : α → Bool) (u : U α) : u.toT.eval env = u.eval env := by
  induction u with
  | atom a => rfl
  | not e ih => exact congrArg (!·) ih
  | bin o l r ihl ihr => rw [U.toT, T.bin_eval, U.eval_bin, ihl, ihr]

theorem toT_inorder (u : U α) : u.toT.inorder = u.inorder := by
  induction u with
  | atom a => rfl
  | not e ih => exact congrArg (Tok.not :: ·) ih
  | bin o l r ihl ihr => rw [U.inorder, ← ihl, ← ihr]; cases o <;> rfl

theorem readM_inorder (w : W α) : w.readM.inorder = w.flat := by
  induction w with
  | atom a => rfl
  | grp g ih => exact ih
  | not w ih => exact congrArg (Tok.not :: ·) ih
  | atomOp a o w ih => exact congrArg (fun l => Tok.atom a :: Tok.op o :: l) ih
  | grpOp g o w ihg ih => rw [W.readM, U.inorder, ihg, ih]; rfl

theorem readS_inorder (w : W α) : w.readS.inorder = w.flat :=
  (readS_regroups U.inorder (fun _ _ h => congrArg (Tok.not :: ·) h)
    (fun _ _ _ _ _ hl hr => by rw [U.inorder, U.inorder, hl, hr])
    (fun _ _ _ => by simp only [U.inorder, List.append_assoc, List.cons_append]) w).trans (readM_inorder w)

/-- `AndExprNode.String()` = `"%v && %v"`, `OrExprNode.String()` = `"%v || %v"`,
    `NotExprNode.String()` = `"not (%v)"`; atoms by a caller-supplied name -/
def T.show (name : Atom α → String) : T α → String
  | .atom a => name a
  | .not e => "not (" ++ e.show name ++ ")"
  | .and l r => l.show name ++ " && " ++ r.show name
  | .or l r => l.show name ++ " || " ++ r.show name

/-- Two typed trees over the same atoms and connectives in the same order print alike although
    they are different operands with different values: `p && (q || r)` and `(p && q) || r`. -/
theorem show_forgets_grouping (name : Atom α → String) (p q r : T α) :
    (T.and p (.or q r)).show name = (T.or (.and p q) r).show name := by
  simp [T.show, String.append_assoc]

example : (T.and (.atom (.const false)) (.or (.atom (.const true)) (.atom (.const true))) : T Nat).eval (fun _ => false)
    ≠ (T.or (.and (.atom (.const false)) (.atom (.const true))) (.atom (.const true)) : T Nat).eval (fun _ => false) := by
  decide

end StorageModel.C12
