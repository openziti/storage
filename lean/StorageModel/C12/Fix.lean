import StorageModel.C12.Reader
/-
  C12 — the listener of the current code (fix c2dd0be: `ExitGroup` marks parenthesised boolean
  nodes, `ExitAndExpr` re-associates `l and (q or r)` to `(l and q) or r` unless the `or` was
  parenthesised; definitions in Skel.lean) builds exactly the intended reading from the
  callbacks the generated parser issues, for ANY skeleton, and answers nothing on any other token
  list (`untypedFixed_eq_read`).
-/
namespace StorageModel.C12
variable {α : Type}

/-- A node as `ExitAndExpr` sees its right operand: an unmarked `or` is still open — its left
    side is the first `and`-group, its right side what follows the `or` — anything else is one
    closed group.  This is the shape of `W.readGo`, and the listener maintains it. -/
def UF.split : UF α → U α × Option (U α)
  | .bin .or false l r => (l.erase, some r.erase)
  | x => (x.erase, none)

theorem comb_split (x : UF α) : comb x.split = x.erase := by
  cases x with
  | bin o g l r => cases o <;> cases g <;> rfl
  | _ => rfl

theorem split_markGrouped (x : UF α) : (markGrouped x).split = (x.erase, none) := by
  cases x with
  | bin o g l r => cases o <;> rfl
  | _ => rfl

theorem split_rotAnd (l r : UF α) : (rotAnd l r).split = (.bin .and l.erase r.split.1, r.split.2) := by
  cases r with
  | bin o g rl rr => cases o <;> cases g <;> rfl
  | _ => rfl

theorem erase_markGrouped (x : UF α) : (markGrouped x).erase = x.erase := by
  cases x <;> rfl

theorem runFixed_append (a b : List (Ev α)) (st : List (UF α)) :
    runFixed (a ++ b) st = (runFixed a st).bind (runFixed b) := by
  induction a generalizing st with
  | nil => rfl
  | cons e es ih =>
    rw [List.cons_append, runFixed, runFixed]
    cases fixedStep st e with
    | none => rfl
    | some st' => exact ih st'

theorem runFixed_evM (w : W α) :
    ∀ st : List (UF α), ∃ x, runFixed w.evM st = some (x :: st) ∧ x.split = w.readGo := by
  induction w using W.unitInduction with
  | atom a => exact fun st => ⟨.atom a, rfl, rfl⟩
  | grp g ih =>
    intro st
    obtain ⟨x, hx, hs⟩ := ih st
    exact ⟨markGrouped x, by rw [W.evM, runFixed_append, hx]; rfl, by rw [split_markGrouped, ← comb_split, hs]; rfl⟩
  | not w ih =>
    intro st
    obtain ⟨x, hx, hs⟩ := ih st
    exact ⟨.not x, by rw [W.evM, runFixed_append, hx]; rfl, by rw [W.readGo, ← hs, comb_split]; rfl⟩
  | cons u o w ihu ih =>
    intro st
    obtain ⟨y, hy, hsy⟩ := ihu st
    obtain ⟨x, hx, hs⟩ := ih (y :: st)
    have hy' : y.erase = u.toW.readS := by rw [← comb_split, hsy]; rfl
    rw [cons_evM, runFixed_append, hy, Option.bind_some, runFixed_append, hx]
    cases o with
    | or => exact ⟨_, rfl, by rw [cons_readGo_or, ← hy', W.readS, ← hs, comb_split]; rfl⟩
    | and => exact ⟨_, rfl, by rw [split_rotAnd, cons_readGo_and, hy', hs]⟩

theorem untypedFixed_eq_read (c : ParserNums) (hg : Greedy c) (ts : List (Tok α)) :
    untypedFixed c ts = (readTokens ts).map W.readS := by
  rw [untypedFixed, parseTokens_eq_read c hg]
  cases readTokens ts with
  | none => rfl
  | some w =>
    obtain ⟨x, hx, hs⟩ := runFixed_evM w []
    simp only [Option.map_some, hx, ← comb_split, hs]; rfl

end StorageModel.C12
