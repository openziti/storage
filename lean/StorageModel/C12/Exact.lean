import StorageModel.C12.Clauses
/-
  C12 — the condition `ordered` is exact also semantically: a skeleton over pairwise distinct
  boolean symbols that is not `ordered` has a truth assignment on which the reading of the
  generated parser and the intended reading give different answers.
-/
namespace StorageModel.C12
variable {α : Type}

def Atom.syms : Atom α → List α
  | .sym a => [a]
  | .const _ => []

def Atom.noConst : Atom α → Bool
  | .sym _ => true
  | .const _ => false

def W.syms : W α → List α
  | .atom a => a.syms
  | .grp g => g.syms
  | .not w => w.syms
  | .atomOp a _ w => a.syms ++ w.syms
  | .grpOp g _ w => g.syms ++ w.syms

def W.noConst : W α → Bool
  | .atom a => a.noConst
  | .grp g => g.noConst
  | .not w => w.noConst
  | .atomOp a _ w => a.noConst && w.noConst
  | .grpOp g _ w => g.noConst && w.noConst

def W.Distinct (w : W α) : Prop := w.noConst = true ∧ w.syms.Nodup

theorem Atom.eval_congr (a : Atom α) (env env' : α → Bool) (h : ∀ x ∈ a.syms, env x = env' x) :
    a.eval env = a.eval env' := by
  cases a with
  | sym x => exact h x (List.mem_singleton.2 rfl)
  | const b => rfl

theorem syms_cons (u : UnitW α) (o : Op) (w : W α) : (u.cons o w).syms = u.toW.syms ++ w.syms := by
  cases u <;> rfl

theorem distinct_cons {u : UnitW α} {o : Op} {w : W α} (h : (u.cons o w).Distinct) :
    u.toW.Distinct ∧ w.Distinct ∧ ∀ x ∈ w.syms, x ∉ u.toW.syms := by
  obtain ⟨h1, h2⟩ := h
  have h1' : (u.toW.noConst && w.noConst) = true := by cases u <;> exact h1
  rw [Bool.and_eq_true] at h1'
  rw [syms_cons, List.nodup_append] at h2
  exact ⟨⟨h1'.1, h2.1⟩, ⟨h1'.2, h2.2.1⟩, fun x hx hg => h2.2.2 x hg x hx rfl⟩

theorem sem_congr (w : W α) (env env' : α → Bool) :
    (∀ x ∈ w.syms, env x = env' x) → w.readM.eval env = w.readM.eval env' ∧ sem env w = sem env' w := by
  induction w using W.unitInduction with
  | atom a => intro h; exact ⟨a.eval_congr env env' h, by rw [sem_atom, sem_atom, a.eval_congr env env' h]⟩
  | grp g ih => intro h; exact ⟨(ih h).1, by rw [sem_grp, sem_grp, val_congr (ih h).2]⟩
  | not w ih => intro h; exact ⟨congrArg (!·) (ih h).1, by rw [sem_not, sem_not, val_congr (ih h).2]⟩
  | cons u o w ihu ih =>
    intro h
    rw [syms_cons] at h
    obtain ⟨u1, u2⟩ := ihu fun x hx => h x (List.mem_append_left _ hx)
    obtain ⟨h1, h2⟩ := ih fun x hx => h x (List.mem_append_right _ hx)
    refine ⟨by rw [cons_readM, U.eval_bin, U.eval_bin, u1, h1], ?_⟩
    cases o
    · rw [sem_cons_and, sem_cons_and, val_congr u2, h2]
    · rw [sem_cons_or, sem_cons_or, val_congr u2, val_congr h2]

variable [DecidableEq α]

def mix (l : List α) (e1 e2 : α → Bool) : α → Bool := fun x => if x ∈ l then e1 x else e2 x

/-- Valuations of a unit and of what follows it, over disjoint symbols, glued: each part is read
    as under its own valuation. -/
theorem eval_mix {u : UnitW α} {w : W α} (hdis : ∀ x ∈ w.syms, x ∉ u.toW.syms) (e1 e2 : α → Bool) :
    u.toW.readM.eval (mix u.toW.syms e1 e2) = u.toW.readM.eval e1 ∧
    val (mix u.toW.syms e1 e2) u.toW = val e1 u.toW ∧
    w.readM.eval (mix u.toW.syms e1 e2) = w.readM.eval e2 ∧ sem (mix u.toW.syms e1 e2) w = sem e2 w := by
  obtain ⟨h1, h2⟩ := sem_congr u.toW _ e1 fun y hy => if_pos hy
  obtain ⟨h3, h4⟩ := sem_congr w (mix u.toW.syms e1 e2) e2 fun y hy => if_neg (hdis y hy)
  exact ⟨h1, val_congr h2, h3, h4⟩

theorem exists_env_eval_eq (w : W α) : w.Distinct → ∀ b : Bool,
    ∃ env : α → Bool, w.readM.eval env = b ∧ val env w = b := by
  induction w using W.unitInduction with
  | atom a =>
    intro hd b
    cases a with
    | const c => cases hd.1
    | sym x => exact ⟨fun _ => b, rfl, rfl⟩
  | grp g ih => exact ih
  | not w ih =>
    intro hd b
    obtain ⟨env, h1, h2⟩ := ih hd (!b)
    exact ⟨env, by rw [W.readM, U.eval, h1, Bool.not_not], (congrArg (!·) h2).trans (Bool.not_not b)⟩
  | cons u o w ihu ih =>
    intro hd b
    obtain ⟨hu, hw, hdis⟩ := distinct_cons hd
    obtain ⟨e1, a1, a2⟩ := ihu hu b
    obtain ⟨e2, b1, b2⟩ := ih hw b
    obtain ⟨m1, s1, m2, s2⟩ := eval_mix hdis e1 e2
    refine ⟨mix u.toW.syms e1 e2, by rw [cons_readM]; cases o <;> simp only [U.eval, m1, m2, a1, b1, Bool.and_self, Bool.or_self], ?_⟩
    cases o with
    | or => rw [val_cons_or, s1, a2, val_congr s2, b2, Bool.or_self]
    | and =>
      -- a unit with value `b` joins the first `and`-group of a level with value `b`
      rw [val_cons_and, s1, a2, s2, ← b2, val_eq]
      cases (sem e2 w).1 <;> cases (sem e2 w).2 <;> rfl

theorem after_or_true (w : W α) : w.Distinct → w.hasTopOr = true → ∃ env : α → Bool, (sem env w).2 = true := by
  induction w using W.unitInduction with
  | atom a => intro _ ht; cases ht
  | grp g _ => intro _ ht; cases ht
  | not w _ => intro _ ht; cases ht
  | cons u o w _ ih =>
    intro hd ht
    obtain ⟨_, hw, _⟩ := distinct_cons hd
    cases o with
    | or =>
      obtain ⟨env, _, h2⟩ := exists_env_eval_eq w hw true
      exact ⟨env, by rw [sem_cons_or]; exact h2⟩
    | and =>
      obtain ⟨env, h⟩ := ih hw (by rwa [cons_and_hasTopOr] at ht)
      exact ⟨env, by rw [sem_cons_and]; exact h⟩

/-- A difference inside one part of `u op w` survives, when the intended reading too is the
    connective of the two parts (`hto`): the other part is driven to the value `n` that lets it
    through (neutral for the connective); the two valuations are glued with `mix`. -/
theorem differs_of_part {u : UnitW α} {o : Op} {w : W α} (hd : (u.cons o w).Distinct)
    (hto : o = .and → w.hasTopOr = false) (n : Bool) (hl : ∀ x, o.apply x n = x) (hr : ∀ x, o.apply n x = x)
    (h : (∃ env, u.toW.readM.eval env ≠ val env u.toW) ∨ ∃ env, w.readM.eval env ≠ val env w) :
    ∃ env, (u.cons o w).readM.eval env ≠ val env (u.cons o w) := by
  obtain ⟨hu, hw, hdis⟩ := distinct_cons hd
  have hM : ∀ env, (u.cons o w).readM.eval env = o.apply (u.toW.readM.eval env) (w.readM.eval env) :=
    fun env => (compositional_readM env o).cons u w hto
  have hS : ∀ env, val env (u.cons o w) = o.apply (val env u.toW) (val env w) :=
    fun env => (compositional_readS env o).cons u w hto
  rcases h with ⟨e1, h⟩ | ⟨e2, h⟩
  · obtain ⟨e2, b1, b2⟩ := exists_env_eval_eq w hw n
    obtain ⟨q1, q2, q3, q4⟩ := eval_mix hdis e1 e2
    exact ⟨mix u.toW.syms e1 e2, by rw [hM, hS, q1, q2, q3, val_congr q4, b1, b2, hl, hl]; exact h⟩
  · obtain ⟨e1, a1, a2⟩ := exists_env_eval_eq u.toW hu n
    obtain ⟨q1, q2, q3, q4⟩ := eval_mix hdis e1 e2
    exact ⟨mix u.toW.syms e1 e2, by rw [hM, hS, q1, q2, q3, val_congr q4, a1, a2, hr, hr]; exact h⟩

theorem not_ordered_differs (w : W α) : w.Distinct → w.ordered = false →
    ∃ env : α → Bool, w.readM.eval env ≠ val env w := by
  induction w using W.unitInduction with
  | atom a => intro _ hn; cases hn
  | grp g ih => exact ih
  | not w ih =>
    intro hd hn
    obtain ⟨env, h⟩ := ih hd hn
    exact ⟨env, fun h' => h (Bool.not_inj h')⟩
  | cons u o w ihu ih =>
    intro hd hn
    obtain ⟨hu, hw, hdis⟩ := distinct_cons hd
    cases o with
    | or =>
      rw [ordered_cons_or, Bool.and_eq_false_iff] at hn
      exact differs_of_part hd (fun h => nomatch h) false Bool.or_false Bool.false_or (hn.imp (ihu hu) (ih hw))
    | and =>
      cases hto : w.hasTopOr with
      | true =>
        -- the readings differ in shape: make what follows the `or` true and the unit false
        obtain ⟨e2, h⟩ := after_or_true w hw hto
        obtain ⟨e1, a1, _⟩ := exists_env_eval_eq u.toW hu false
        obtain ⟨q1, _, _, q4⟩ := eval_mix hdis e1 e2
        refine ⟨mix u.toW.syms e1 e2, ?_⟩
        rw [cons_readM, val_cons_and, q4, h, Bool.or_true, U.eval, q1, a1, Bool.false_and]
        exact Bool.false_ne_true
      | false =>
        rw [ordered_cons_and, hto, Bool.not_false, Bool.and_true, Bool.and_eq_false_iff] at hn
        exact differs_of_part hd (fun _ => hto) true Bool.and_true Bool.true_and (hn.imp (ihu hu) (ih hw))

end StorageModel.C12
