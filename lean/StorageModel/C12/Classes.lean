import StorageModel.C12.Typed
import StorageModel.Generated.C10Classes
/-
  C12 — the TYPED CLASS of an operand where NOT / AND / OR meet it.

  After its own typing an atom is a node of some Go struct (`BoolSymbolNode`, `BinaryInt64ExprNode`,
  `BinaryFloat64ExprNode` — also for an int symbol against a literal with a decimal point —,
  `In…ArrayExprNode`, `…BetweenExprNode`, `NotExprNode` for `not in` / `not between`, the set nodes,
  `IsNilExprNode`, …).  Which interfaces a struct implements and what its `GetType()` reports are
  independent facts, both regenerated from ast/*.go (`Generated.C10.classTable`, extract/c10.go):
  `BinaryFloat64ExprNode` implements `BoolNode` and reports `NodeTypeFloat64`.

  The three `TypeTransformBool` methods (ast/node_convert.go, ast/node_query.go; bodies pinned by
  `transform_is_plain`) decide by the interface assertion `operand.(BoolNode)`; `transformC` follows
  that, with the class of every atom as a parameter (`cls`).  `OperandCheck.byDeclaredType` (look at
  `GetType()` first) is not the code: it is modelled to state what goes wrong with it
  (`declared_type_check_rejects_a_bool_node` in Properties/C12.lean).
-/
namespace StorageModel.C12

/-- the regenerated class table: Go struct ↦ (ast interfaces it implements, constant `GetType()` or "") -/
abbrev ClassTable := List (String × List String × String)

/-- `node.(BoolNode)` succeeds for a node of struct `c` -/
def ClassTable.isBoolNode (tbl : ClassTable) (c : String) : Bool :=
  match List.lookup c tbl with
  | some (ifs, _) => ifs.contains "BoolNode"
  | none => false

/-- the constant `GetType()` of struct `c` reports -/
def ClassTable.getType (tbl : ClassTable) (c : String) : String :=
  match List.lookup c tbl with
  | some (_, t) => t
  | none => ""

variable {α : Type}

/-- the Go struct of a typed node; `cls a` = the struct the typing stage builds for atom `a` -/
def T.cls (cls : α → String) : T α → String
  | .atom (.sym a) => cls a
  | .atom (.const _) => "BoolConstNode"
  | .not _ => "NotExprNode"
  | .and _ _ => "AndExprNode"
  | .or _ _ => "OrExprNode"

@[simp] theorem T.cls_not (cls : α → String) (e : T α) : (T.not e).cls cls = "NotExprNode" := rfl
@[simp] theorem T.cls_and (cls : α → String) (l r : T α) : (T.and l r).cls cls = "AndExprNode" := rfl
@[simp] theorem T.cls_or (cls : α → String) (l r : T α) : (T.or l r).cls cls = "OrExprNode" := rfl

theorem T.cls_bin (cls : α → String) (o : Op) (l r : T α) :
    (T.bin o l r).cls cls = (match o with | .and => "AndExprNode" | .or => "OrExprNode") := by
  cases o <;> rfl

/-- how "the operand must be boolean" can be decided:
    * `byInterface`    — `boolNode, ok := operand.(BoolNode)` (the code);
    * `byDeclaredType` — `operand.GetType()` must be `NodeTypeBool` / `NodeTypeAnyType`, then the assertion. -/
inductive OperandCheck where
  | byInterface | byDeclaredType
  deriving DecidableEq, Repr

def OperandCheck.accepts (chk : OperandCheck) (tbl : ClassTable) (c : String) : Bool :=
  match chk with
  | .byInterface => tbl.isBoolNode c
  | .byDeclaredType => (tbl.getType c == "NodeTypeBool" || tbl.getType c == "NodeTypeAnyType") && tbl.isBoolNode c

/-- `TypeTransformBool` of `UntypedNotExprNode` (operand check `chk`) and `BooleanLogicExprNode`
    (interface assertion on LHS, then RHS) over atoms whose typed struct is `cls a`; `none` = the
    "not expr must wrap bool expr" / "… is of type X, not bool" error -/
def transformC (chk : OperandCheck) (tbl : ClassTable) (cls : α → String) : U α → Option (T α)
  | .atom a => some (.atom a)
  | .not e =>
    match transformC chk tbl cls e with
    | some e' => if chk.accepts tbl (e'.cls cls) then some (.not e') else none
    | none => none
  | .bin o l r =>
    match transformC chk tbl cls l, transformC chk tbl cls r with
    | some l', some r' =>
      if tbl.isBoolNode (l'.cls cls) then
        if tbl.isBoolNode (r'.cls cls) then some (T.bin o l' r') else none
      else none
    | _, _ => none

/-- `untypedQueryNode.TypeTransformBool`: the typed predicate must be a `BoolNode`
    ("query expr predicate must be a boolean expr") -/
def typeQuery (chk : OperandCheck) (tbl : ClassTable) (cls : α → String) (u : U α) : Option (T α) :=
  match transformC chk tbl cls u with
  | some t => if tbl.isBoolNode (t.cls cls) then some t else none
  | none => none

def ConnectivesAreBoolNodes (tbl : ClassTable) : Prop :=
  tbl.isBoolNode "BoolConstNode" = true ∧ tbl.isBoolNode "NotExprNode" = true ∧
  tbl.isBoolNode "AndExprNode" = true ∧ tbl.isBoolNode "OrExprNode" = true

/-- With the interface assertion the class-parameterised typing is the typing of the skeleton
    model (`transform`) in which an atom counts as boolean iff its typed struct implements
    `BoolNode` — whatever its `GetType()` reports. -/
theorem typeQuery_eq_transform (tbl : ClassTable) (cls : α → String) (h : ConnectivesAreBoolNodes tbl)
    (u : U α) :
    typeQuery .byInterface tbl cls u = transform (fun a => tbl.isBoolNode (cls a)) u := by
  obtain ⟨hc, hn, ha, ho⟩ := h
  unfold typeQuery
  induction u with
  | atom a =>
    cases a with
    | sym x => rfl
    | const b => exact if_pos hc
  | not e ih =>
    rw [transform_not, ← ih]
    simp only [transformC, OperandCheck.accepts]
    cases transformC .byInterface tbl cls e with
    | none => rfl
    | some e' =>
      cases hb : tbl.isBoolNode (T.cls cls e') <;> simp [hb, hn]
  | bin o l r ihl ihr =>
    rw [transform_bin, ← ihl, ← ihr]
    simp only [transformC]
    cases transformC .byInterface tbl cls l with
    | none => rfl
    | some l' =>
      cases transformC .byInterface tbl cls r with
      | none => cases hl : tbl.isBoolNode (T.cls cls l') <;> simp [hl]
      | some r' =>
        cases hl : tbl.isBoolNode (T.cls cls l') <;> cases hr : tbl.isBoolNode (T.cls cls r') <;>
          cases o <;> simp [hl, hr, T.bin, ha, ho]

theorem not_operand_accepted_iff_bool_node (tbl : ClassTable) (cls : α → String) (a : α) :
    transformC .byInterface tbl cls (.not (.atom (.sym a))) =
      if tbl.isBoolNode (cls a) then some (.not (.atom (.sym a))) else none := rfl

theorem bin_operands_accepted_iff_bool_nodes (tbl : ClassTable) (cls : α → String) (o : Op) (a b : α) :
    transformC .byInterface tbl cls (.bin o (.atom (.sym a)) (.atom (.sym b))) =
      if tbl.isBoolNode (cls a) && tbl.isBoolNode (cls b) then some (T.bin o (.atom (.sym a)) (.atom (.sym b)))
      else none := by
  cases h1 : tbl.isBoolNode (cls a) <;> cases h2 : tbl.isBoolNode (cls b) <;> simp [transformC, T.cls, h1, h2]

/-- outcome of `ast.Parse` on a token skeleton whose atoms are typed as `cls` says -/
def queryC (chk : OperandCheck) (tbl : ClassTable) (sh : ListenerShape) (c : ParserNums) (cls : α → String)
    (ts : List (Tok α)) : Res α :=
  match untypedL sh c ts with
  | none => .parseError
  | some u =>
    match typeQuery chk tbl cls u with
    | none => .typeError
    | some t => .ok t

/-- used by the driver: only the pinned (`plain`) forms of the typing functions are interpreted, and
    those decide by the interface assertion -/
def queryCT (tsh : TransformShape) (tbl : ClassTable) (sh : ListenerShape) (c : ParserNums) (cls : α → String)
    (ts : List (Tok α)) : Option (Res α) :=
  if tsh = plainTransform then some (queryC .byInterface tbl sh c cls ts) else none

theorem queryC_eq_query (tbl : ClassTable) (sh : ListenerShape) (c : ParserNums) (cls : α → String)
    (h : ConnectivesAreBoolNodes tbl) (ts : List (Tok α)) :
    queryC .byInterface tbl sh c cls ts = query sh c (fun a => tbl.isBoolNode (cls a)) ts := by
  simp only [queryC, query]
  cases untypedL sh c ts with
  | none => rfl
  | some u =>
    simp only [typeQuery_eq_transform tbl cls h u]
    cases transform (fun a => tbl.isBoolNode (cls a)) u <;> rfl

end StorageModel.C12
