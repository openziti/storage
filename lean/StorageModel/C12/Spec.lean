import StorageModel.C12.Skel
/-
  C12 — the skeleton *as written* and its intended reading (the spec).

  A well-formed boolean skeleton is, at each parenthesis level,

        unit op unit op … op unit          or          unit op … op not <rest of the level>

  with `unit = atom | ( skeleton )`.  `W` is exactly that, as a right-nested spine
  (`W ::= unit | unit op W | not W`), so that `render : W → tokens` is a bijection between `W`
  and the well-formed token lists (theorems `parse_render` / `parse_sound` in Properties/C12.lean) and
  a theorem "for all `w : W`" is a theorem about every boolean skeleton.

  Intended reading `readS` (what the property text and the declared alternative order of the
  grammar — #AndExpr before #OrExpr before #NotExpr — say):
    * `or` binds loosest, `and` tighter, wherever they occur;
    * a parenthesised skeleton is a unit;
    * the prefix `not` is the loosest of all (last alternative): its operand is the rest of its
      level (so `not (P)` on its own is the negation of `P`).
  `spec_is_dnf` (Properties/C12.lean) restates it without any tree: a skeleton is true iff one of its
  `or`-separated pieces has all of its `and`-joined units true.
-/
namespace StorageModel.C12

/-- skeleton as written (one constructor per way a level can continue) -/
inductive W (α : Type) where
  | atom (a : Atom α)                          -- a
  | grp (g : W α)                              -- ( g )
  | not (w : W α)                              -- not w
  | atomOp (a : Atom α) (o : Op) (w : W α)     -- a op w
  | grpOp (g : W α) (o : Op) (w : W α)         -- ( g ) op w
  deriving DecidableEq, Repr

variable {α : Type}

/-- the token skeleton of a written skeleton -/
def W.render : W α → List (Tok α)
  | .atom a => [.atom a]
  | .grp g => .lp :: (g.render ++ [.rp])
  | .not w => .not :: w.render
  | .atomOp a o w => .atom a :: .op o :: w.render
  | .grpOp g o w => .lp :: (g.render ++ .rp :: .op o :: w.render)

/-- number of atoms -/
def W.atoms : W α → Nat
  | .atom _ => 1
  | .grp g => g.atoms
  | .not w => w.atoms
  | .atomOp _ _ w => 1 + w.atoms
  | .grpOp g _ w => g.atoms + w.atoms

/-! ### the reading the generated parser + listener give (proved in Proofs.lean and Reader.lean) -/

/-- every operator takes the whole rest of its level as right operand -/
def W.readM : W α → U α
  | .atom a => .atom a
  | .grp g => g.readM
  | .not w => .not w.readM
  | .atomOp a o w => .bin o (.atom a) w.readM
  | .grpOp g o w => .bin o g.readM w.readM

/-- walk-order callbacks of that reading -/
def W.evM : W α → List (Ev α)
  | .atom a => [.atom a]
  | .grp g => g.evM ++ [.exitGroup]
  | .not w => w.evM ++ [.exitNot]
  | .atomOp a o w => .atom a :: (w.evM ++ [.exitBin o])
  | .grpOp g o w => g.evM ++ .exitGroup :: (w.evM ++ [.exitBin o])

/-! ### the intended reading -/

/-- join of "first and-group" and "the remaining or-operands" -/
def comb : U α × Option (U α) → U α
  | (g, none) => g
  | (g, some r) => .bin .or g r

/-- `(reading of the first and-group, reading of what follows its `or`)` -/
def W.readGo : W α → U α × Option (U α)
  | .atom a => (.atom a, none)
  | .grp g => (comb g.readGo, none)
  | .not w => (.not (comb w.readGo), none)
  | .atomOp a .or w => (.atom a, some (comb w.readGo))
  | .atomOp a .and w => (.bin .and (.atom a) w.readGo.1, w.readGo.2)
  | .grpOp g .or w => (comb g.readGo, some (comb w.readGo))
  | .grpOp g .and w => (.bin .and (comb g.readGo) w.readGo.1, w.readGo.2)

/-- intended reading: `and` over `or`, parentheses are units, `not` takes the rest of its level -/
def W.readS (w : W α) : U α := comb w.readGo

/-- is there an `or` at this level (before a `not`, not inside parentheses)? -/
def W.hasTopOr : W α → Bool
  | .atom _ => false
  | .grp _ => false
  | .not _ => false
  | .atomOp _ .or _ => true
  | .atomOp _ .and w => w.hasTopOr
  | .grpOp _ .or _ => true
  | .grpOp _ .and w => w.hasTopOr

/-- **the exact condition**: no `and` has an unparenthesised `or` to its right on the same level
    (i.e. before the end of the level, a closing parenthesis or a `not`), anywhere in the
    skeleton. -/
def W.ordered : W α → Bool
  | .atom _ => true
  | .grp g => g.ordered
  | .not w => w.ordered
  | .atomOp _ .or w => w.ordered
  | .atomOp _ .and w => !w.hasTopOr && w.ordered
  | .grpOp g .or w => g.ordered && w.ordered
  | .grpOp g .and w => g.ordered && !w.hasTopOr && w.ordered

/-! ### the intended reading without trees: disjunctive pieces of conjunctive units -/

/-- a unit of a level -/
inductive Unit' (α : Type) where
  | atom (a : Atom α)
  | grp (g : W α)
  | neg (w : W α)         -- trailing `not w`
  deriving Repr

/-- the level split at its `or`s; each piece is the list of its `and`-joined units -/
def W.pieces : W α → List (List (Unit' α))
  | .atom a => [[.atom a]]
  | .grp g => [[.grp g]]
  | .not w => [[.neg w]]
  | .atomOp a .or w => [.atom a] :: w.pieces
  | .atomOp a .and w =>
    match w.pieces with
    | p :: ps => (.atom a :: p) :: ps
    | [] => [[.atom a]]
  | .grpOp g .or w => [.grp g] :: w.pieces
  | .grpOp g .and w =>
    match w.pieces with
    | p :: ps => (.grp g :: p) :: ps
    | [] => [[.grp g]]

/-- value of a unit under the intended reading -/
def Unit'.val (env : α → Bool) : Unit' α → Bool
  | .atom a => a.eval env
  | .grp g => g.readS.eval env
  | .neg w => !(w.readS.eval env)

/-! ### reading a token list back (executable spec for the driver) -/

/-- recursive-descent reader of `W ::= unit | unit op W | not W`; `none` = not a skeleton -/
def parseW : Nat → List (Tok α) → Option (W α × List (Tok α))
  | 0, _ => none
  | f + 1, ts =>
    match ts with
    | .not :: r =>
      match parseW f r with
      | some (w, r') => some (.not w, r')
      | none => none
    | .atom a :: .op o :: r =>
      match parseW f r with
      | some (w, r') => some (.atomOp a o w, r')
      | none => none
    | .atom a :: r => some (.atom a, r)
    | .lp :: r =>
      match parseW f r with
      | some (g, .rp :: .op o :: r') =>
        match parseW f r' with
        | some (w, r'') => some (.grpOp g o w, r'')
        | none => none
      | some (g, .rp :: r') => some (.grp g, r')
      | _ => none
    | _ => none

/-- the skeleton written by a token list, if it is one -/
def readTokens (ts : List (Tok α)) : Option (W α) :=
  match parseW (ts.length + 1) ts with
  | some (w, []) => some w
  | _ => none

/-- what `ast.Parse` should answer on a token skeleton -/
def specQuery (isBool : α → Bool) (ts : List (Tok α)) : Res α :=
  match readTokens ts with
  | none => .parseError
  | some w =>
    match transform isBool w.readS with
    | none => .typeError
    | some t => .ok t

end StorageModel.C12
