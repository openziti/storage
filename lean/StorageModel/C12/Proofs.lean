import StorageModel.C12.Spec
/-
  C12 — the parser model on rendered skeletons (completeness) and on arbitrary token lists
  (soundness); ANTLR's numbering of the alternatives (`antlrNumbers`).
-/
namespace StorageModel.C12
variable {α : Type}

/-- entering `boolExpr` at level `p` lets both operators through (`Precpred` always true) -/
def LevelOk (c : ParserNums) (p : Nat) : Prop := p ≤ c.andPrec ∧ p ≤ c.orPrec

instance (c : ParserNums) (p : Nat) : Decidable (LevelOk c p) := by unfold LevelOk; infer_instance

/-- every level at which the generated code enters `boolExpr` is below both precedences: the
    precedence predicates never fail and each operator swallows the rest of its level -/
def Greedy (c : ParserNums) : Prop :=
  LevelOk c c.startLevel ∧ LevelOk c c.groupLevel ∧ LevelOk c c.notLevel ∧
  LevelOk c c.andRight ∧ LevelOk c c.orRight

instance (c : ParserNums) : Decidable (Greedy c) := by unfold Greedy; infer_instance

theorem LevelOk.prec {c : ParserNums} {p : Nat} (h : LevelOk c p) (o : Op) : p ≤ c.prec o := by
  cases o
  · exact h.1
  · exact h.2

theorem Greedy.right {c : ParserNums} (h : Greedy c) (o : Op) : LevelOk c (c.right o) := by
  cases o
  · exact h.2.2.2.1
  · exact h.2.2.2.2

def headIsOp : List (Tok α) → Bool
  | .op _ :: _ => true
  | _ => false

theorem parseE_atom (c : ParserNums) (f p : Nat) (a : Atom α) (r : List (Tok α)) :
    parseE c (f + 1) p (.atom a :: r) = loop c f p [.atom a] r := by
  simp only [parseE]

theorem parseE_lp (c : ParserNums) (f p : Nat) (r r' : List (Tok α)) (evs : List (Ev α))
    (h : parseE c f c.groupLevel r = some (evs, .rp :: r')) :
    parseE c (f + 1) p (.lp :: r) = loop c f p (evs ++ [.exitGroup]) r' := by
  simp only [parseE, h]

theorem parseE_not (c : ParserNums) (f p : Nat) (r r' : List (Tok α)) (evs : List (Ev α))
    (h : parseE c f c.notLevel r = some (evs, r')) :
    parseE c (f + 1) p (.not :: r) = loop c f p (evs ++ [.exitNot]) r' := by
  simp only [parseE, h]

theorem loop_stop (c : ParserNums) (f p : Nat) (left : List (Ev α)) (ts : List (Tok α))
    (h : headIsOp ts = false) : loop c (f + 1) p left ts = some (left, ts) := by
  cases ts with
  | nil => simp only [loop]
  | cons t r =>
    cases t with
    | op o => cases h
    | _ => simp only [loop]

theorem loop_op (c : ParserNums) (f p : Nat) (left evs : List (Ev α)) (o : Op) (r r' : List (Tok α))
    (hp : p ≤ c.prec o) (h : operands c f o left r = some (evs, r')) :
    loop c (f + 1) p left (.op o :: r) = loop c f p evs r' := by
  simp only [loop, hp, h, if_true]

theorem operands_stop (c : ParserNums) (f : Nat) (o : Op) (acc evs : List (Ev α)) (ts r1 : List (Tok α))
    (hp : parseE c f (c.right o) ts = some (evs, r1)) (h : headIsOp r1 = false) :
    operands c (f + 1) o acc ts = some (acc ++ evs ++ [.exitBin o], r1) := by
  cases r1 with
  | nil => simp only [operands, hp]
  | cons t r =>
    cases t with
    | op o => cases h
    | _ => simp only [operands, hp]

/-- what the cases `a op w` and `( g ) op w` of `parseE_render` share; `ih` is that theorem's
    induction hypothesis for `w` -/
theorem loop_op_render (c : ParserNums) (hg : Greedy c) (w : W α) (o : Op)
    (ih : ∀ (f p : Nat) (rest : List (Tok α)), LevelOk c p → headIsOp rest = false →
      2 * w.render.length ≤ f → parseE c f p (w.render ++ rest) = some (w.evM, rest))
    (f p : Nat) (left : List (Ev α)) (rest : List (Tok α)) (hp : LevelOk c p)
    (hr : headIsOp rest = false) (hf : 2 * w.render.length ≤ f) :
    loop c (f + 3) p left (.op o :: (w.render ++ rest)) = some (left ++ w.evM ++ [.exitBin o], rest) := by
  have h1 := ih (f + 1) (c.right o) rest (hg.right o) hr (Nat.le_succ_of_le hf)
  rw [loop_op c _ p left _ o _ rest (hp.prec o) (operands_stop c _ o left w.evM _ rest h1 hr)]
  exact loop_stop c (f + 1) p _ rest hr

/-- fuel bookkeeping: `k` tokens use up `2 * k` units -/
theorem fuel_split (k : Nat) {n f : Nat} (h : 2 * (n + k) ≤ f) : ∃ f', f = f' + 2 * k ∧ 2 * n ≤ f' :=
  ⟨f - 2 * k, (Nat.sub_add_cancel (Nat.le_trans (Nat.mul_le_mul_left 2 (Nat.le_add_left k n)) h)).symm,
    Nat.le_sub_of_add_le (Nat.mul_add 2 n k ▸ h)⟩

theorem parseE_render (c : ParserNums) (hg : Greedy c) (w : W α) :
    ∀ (f p : Nat) (rest : List (Tok α)), LevelOk c p → headIsOp rest = false →
      2 * w.render.length ≤ f → parseE c f p (w.render ++ rest) = some (w.evM, rest) := by
  induction w with
  | atom a =>
    intro f p rest _ hr hf
    obtain ⟨f, rfl, _⟩ : ∃ f', f = f' + 2 ∧ 2 * 0 ≤ f' := fuel_split 1 hf
    exact (parseE_atom c (f + 1) p a rest).trans (loop_stop c f p _ rest hr)
  | grp g ih =>
    intro f p rest _ hr hf
    simp only [W.render, List.length_cons, List.length_append, List.length_nil] at hf
    obtain ⟨f, rfl, hw⟩ : ∃ f', f = f' + 4 ∧ 2 * g.render.length ≤ f' := fuel_split 2 hf
    have h1 := ih (f + 3) c.groupLevel (.rp :: rest) hg.2.1 rfl (Nat.le_add_right_of_le hw)
    rw [W.render, List.cons_append, List.append_assoc]
    exact (parseE_lp c (f + 3) p _ rest g.evM h1).trans (loop_stop c (f + 2) p _ rest hr)
  | not w ih =>
    intro f p rest _ hr hf
    obtain ⟨f, rfl, hw⟩ : ∃ f', f = f' + 2 ∧ 2 * w.render.length ≤ f' := fuel_split 1 hf
    have h1 := ih (f + 1) c.notLevel rest hg.2.2.1 hr (Nat.le_succ_of_le hw)
    exact (parseE_not c (f + 1) p _ rest w.evM h1).trans (loop_stop c f p _ rest hr)
  | atomOp a o w ih =>
    intro f p rest hp hr hf
    obtain ⟨f, rfl, hw⟩ : ∃ f', f = f' + 4 ∧ 2 * w.render.length ≤ f' := fuel_split 2 hf
    exact (parseE_atom c (f + 3) p a _).trans (loop_op_render c hg w o ih f p [.atom a] rest hp hr hw)
  | grpOp g o w ihg ih =>
    intro f p rest hp hr hf
    simp only [W.render, List.length_cons, List.length_append] at hf
    obtain ⟨f, rfl, hw⟩ : ∃ f', f = f' + 4 ∧ 2 * w.render.length ≤ f' :=
      fuel_split 2 (Nat.le_trans (Nat.mul_le_mul_left 2 (Nat.le_succ_of_le (Nat.le_add_left _ _))) hf)
    have hwg : 2 * g.render.length ≤ f + 3 := by omega
    have h1 := ihg (f + 3) c.groupLevel (.rp :: .op o :: (w.render ++ rest)) hg.2.1 rfl hwg
    rw [W.render, List.cons_append, List.append_assoc, List.cons_append, List.cons_append,
      parseE_lp c (f + 3) p _ _ g.evM h1, loop_op_render c hg w o ih f p _ rest hp hr hw,
      W.evM, List.append_assoc, List.append_assoc]
    rfl

theorem parseTokens_render (c : ParserNums) (hg : Greedy c) (w : W α) :
    parseTokens c w.render = some w.evM := by
  have := parseE_render c hg w (fuelFor w.render) c.startLevel [] hg.1 rfl (by simp [fuelFor])
  simp only [List.append_nil] at this
  simp [parseTokens, this]

/-- `w0 op v` when `w0` is already a level: the operator attaches at the end of the spine -/
def W.append : W α → Op → W α → W α
  | .atom a, o, v => .atomOp a o v
  | .grp g, o, v => .grpOp g o v
  | .not w, o, v => .not (W.append w o v)
  | .atomOp a o' w, o, v => .atomOp a o' (W.append w o v)
  | .grpOp g o' w, o, v => .grpOp g o' (W.append w o v)

theorem render_append (w0 : W α) (o : Op) (v : W α) :
    (W.append w0 o v).render = w0.render ++ .op o :: v.render := by
  induction w0 with
  | atom a => simp [W.append, W.render]
  | grp g _ => simp [W.append, W.render]
  | not w ih => simp [W.append, W.render, ih]
  | atomOp a o' w ih => simp [W.append, W.render, ih]
  | grpOp g o' w _ ih => simp [W.append, W.render, ih]

/-- `loop` and `operands` continue a level: whatever skeleton `w0` stands in front of their input,
    what they consume extends `w0` at the end of its spine (`W.append`) to a skeleton again.  The
    callbacks play no role. -/
theorem parse_sound_aux (c : ParserNums) (f : Nat) :
    (∀ (p : Nat) (ts : List (Tok α)) evs rest, parseE c f p ts = some (evs, rest) →
        ∃ w : W α, ts = w.render ++ rest) ∧
    (∀ (p : Nat) (left : List (Ev α)) (ts : List (Tok α)) evs rest,
        loop c f p left ts = some (evs, rest) → ∀ w0 : W α, ∃ w : W α, w0.render ++ ts = w.render ++ rest) ∧
    (∀ (o : Op) (acc : List (Ev α)) (ts : List (Tok α)) evs rest,
        operands c f o acc ts = some (evs, rest) →
        ∀ w0 : W α, ∃ w : W α, w0.render ++ .op o :: ts = w.render ++ rest) := by
  induction f with
  | zero => simp [parseE, loop, operands]
  | succ f ih =>
    obtain ⟨ihE, ihL, ihO⟩ := ih
    refine ⟨?_, ?_, ?_⟩
    · intro p ts evs rest h
      unfold parseE at h
      split at h
      · next a r => exact ihL p _ r evs rest h (.atom a)
      · next r =>
        split at h
        · next evs' r' hin =>
          obtain ⟨g, rfl⟩ := ihE _ r evs' _ hin
          obtain ⟨w, hw⟩ := ihL p _ r' evs rest h (.grp g)
          exact ⟨w, by rw [← hw, W.render, List.cons_append, List.append_assoc]; rfl⟩
        · cases h
      · next r =>
        split at h
        · next evs' r' hin =>
          obtain ⟨w1, rfl⟩ := ihE _ r evs' r' hin
          exact ihL p _ r' evs rest h (.not w1)
        · cases h
      · cases h
    · intro p left ts evs rest h w0
      unfold loop at h
      split at h
      · next o r =>
        split at h
        · split at h
          · next evs' r' hop' =>
            obtain ⟨w1, hw1⟩ := ihO o left r evs' r' hop' w0
            obtain ⟨w, hw⟩ := ihL p evs' r' evs rest h w1
            exact ⟨w, by rw [hw1, hw]⟩
          · cases h
        · cases h; exact ⟨w0, rfl⟩
      · cases h; exact ⟨w0, rfl⟩
    · intro o acc ts evs rest h w0
      unfold operands at h
      split at h
      · cases h
      · next evs' r1 hin =>
        obtain ⟨w1, rfl⟩ := ihE _ ts evs' r1 hin
        have key : w0.render ++ .op o :: (w1.render ++ r1) = (W.append w0 o w1).render ++ r1 := by
          rw [render_append, List.append_assoc]; rfl
        split at h
        · next o' r2 =>
          split at h
          · next hcond =>
            obtain rfl := eq_of_beq (Bool.and_eq_true_iff.1 hcond).2
            obtain ⟨w, hw⟩ := ihO o' _ r2 evs rest h (W.append w0 o' w1)
            exact ⟨w, key.trans hw⟩
          · cases h; exact ⟨_, key⟩
        · cases h; exact ⟨_, key⟩

theorem parseTokens_sound (c : ParserNums) (ts : List (Tok α)) (evs : List (Ev α))
    (h : parseTokens c ts = some evs) : ∃ w : W α, ts = w.render := by
  unfold parseTokens at h
  split at h
  · next evs' hp =>
    obtain ⟨w, hw⟩ := (parse_sound_aux c (fuelFor ts)).1 _ ts evs' [] hp
    exact ⟨w, hw.trans (List.append_nil _)⟩
  · cases h

/-- ANTLR 4's numbering of a left-recursive rule with `n` alternatives: alternative `i`
    (1-based) has precedence `n - i + 1`; a binary alternative `e op e` guards with its
    precedence and parses its right operand one level higher; an alternative of the form
    `e (op e)+` is a *suffix* alternative for ANTLR — only the leading `e` is rewritten, the `e`
    inside the block is an ordinary rule reference, i.e. level 0, and the block becomes a loop;
    a prefix alternative parses its operand at its own precedence; a parenthesised `e` and the
    reference from another rule are level 0. -/
def antlrNumbers (alts : List AltShape) : Option ParserNums :=
  let n := alts.length
  let idx := fun (p : AltShape → Bool) => (alts.findIdx? p).map fun i => n - i
  let isOp := fun (o : Op) (a : AltShape) =>
    match a with
    | .binary o' _ => o' == o
    | .suffixLoop o' _ => o' == o
    | _ => false
  let isLoopAlt := fun (o : Op) => alts.any fun a =>
    match a with
    | .suffixLoop o' _ => o' == o
    | _ => false
  let isNot := fun (a : AltShape) => match a with | .prefixNot _ => true | _ => false
  let wellFormed := alts.all fun a => match a with | .other _ => false | _ => true
  match idx (isOp .and), idx (isOp .or), idx isNot with
  | some pa, some po, some pn =>
    if wellFormed then
      some { andPrec := pa, andRight := if isLoopAlt .and then 0 else pa + 1, andLoop := isLoopAlt .and,
             orPrec := po, orRight := if isLoopAlt .or then 0 else po + 1, orLoop := isLoopAlt .or,
             notLevel := pn, groupLevel := 0, startLevel := 0 }
    else none
  | _, _, _ => none

end StorageModel.C12
