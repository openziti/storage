import StorageModel.C12.Typed
/-
  C12 — lemmas behind the individual clauses: the two truth values of a level (`sem`: its first
  `and`-group, what follows its `or`), the intended reading as "or of ands", chains and
  bracketings of one connective, redundant parentheses.
-/
namespace StorageModel.C12
variable {α : Type}

def evalOpt (env : α → Bool) : Option (U α) → Bool
  | none => false
  | some r => r.eval env

theorem evalOpt_some (env : α → Bool) (r : U α) : evalOpt env (some r) = r.eval env := rfl

theorem eval_comb (env : α → Bool) (x : U α × Option (U α)) :
    (comb x).eval env = (x.1.eval env || evalOpt env x.2) := by
  obtain ⟨g, _ | r⟩ := x <;> simp [comb, evalOpt, U.eval]

/-- value of the first `and`-group and of what follows its `or` -/
def sem (env : α → Bool) (w : W α) : Bool × Bool := (w.readGo.1.eval env, evalOpt env w.readGo.2)

def val (env : α → Bool) (w : W α) : Bool := w.readS.eval env

theorem val_eq (env : α → Bool) (w : W α) : val env w = ((sem env w).1 || (sem env w).2) := by
  simp [val, sem, W.readS, eval_comb]

@[simp] theorem sem_atom (env : α → Bool) (a : Atom α) : sem env (.atom a) = (a.eval env, false) := rfl
@[simp] theorem sem_grp (env : α → Bool) (g : W α) : sem env (.grp g) = (val env g, false) := rfl
@[simp] theorem sem_not (env : α → Bool) (w : W α) : sem env (.not w) = (!val env w, false) := rfl
@[simp] theorem sem_atomOp_or (env : α → Bool) (a : Atom α) (w : W α) :
    sem env (.atomOp a .or w) = (a.eval env, val env w) := rfl
@[simp] theorem sem_atomOp_and (env : α → Bool) (a : Atom α) (w : W α) :
    sem env (.atomOp a .and w) = (a.eval env && (sem env w).1, (sem env w).2) := rfl
@[simp] theorem sem_grpOp_or (env : α → Bool) (g w : W α) :
    sem env (.grpOp g .or w) = (val env g, val env w) := rfl
@[simp] theorem sem_grpOp_and (env : α → Bool) (g w : W α) :
    sem env (.grpOp g .and w) = (val env g && (sem env w).1, (sem env w).2) := rfl

theorem sem_of_noTopOr (env : α → Bool) (w : W α) (h : w.hasTopOr = false) : sem env w = (val env w, false) := by
  rw [sem, readGo_of_noTopOr w h]; rfl

theorem val_congr {env env' : α → Bool} {w w' : W α} (h : sem env w = sem env' w') : val env w = val env' w' := by
  rw [val_eq, val_eq, h]

theorem sem_cons_or (env : α → Bool) (u : UnitW α) (w : W α) :
    sem env (u.cons .or w) = (val env u.toW, val env w) := by cases u <;> rfl

theorem sem_cons_and (env : α → Bool) (u : UnitW α) (w : W α) :
    sem env (u.cons .and w) = (val env u.toW && (sem env w).1, (sem env w).2) := by cases u <;> rfl

theorem val_cons_or (env : α → Bool) (u : UnitW α) (w : W α) :
    val env (u.cons .or w) = (val env u.toW || val env w) := by rw [val_eq, sem_cons_or]

theorem val_cons_and (env : α → Bool) (u : UnitW α) (w : W α) :
    val env (u.cons .and w) = ((val env u.toW && (sem env w).1) || (sem env w).2) := by rw [val_eq, sem_cons_and]

theorem unit_pieces (env : α → Bool) (u : UnitW α) :
    ∃ x, Unit'.val env x = u.toW.readS.eval env ∧ ∀ w : W α, (u.cons .or w).pieces = [x] :: w.pieces ∧
      (u.cons .and w).pieces = (match w.pieces with | p :: ps => (x :: p) :: ps | [] => [[x]]) := by
  cases u <;> exact ⟨_, rfl, fun _ => ⟨rfl, rfl⟩⟩

theorem pieces_sem (env : α → Bool) (w : W α) :
    ∃ p ps, w.pieces = p :: ps ∧ sem env w = (p.all (Unit'.val env), ps.any fun q => q.all (Unit'.val env)) := by
  induction w using W.unitInduction with
  | atom a => exact ⟨_, _, rfl, by simp [Unit'.val]⟩
  | grp g _ => exact ⟨_, _, rfl, by simp [val, Unit'.val]⟩
  | not w _ => exact ⟨_, _, rfl, by simp [val, Unit'.val]⟩
  | cons u o w _ ih =>
    obtain ⟨p, ps, hp, h⟩ := ih
    obtain ⟨x, hx, hc⟩ := unit_pieces env u
    cases o with
    | or => exact ⟨[x], p :: ps, by rw [(hc w).1, hp], by rw [sem_cons_or, val_eq env w, h]; simp [hx, val]⟩
    | and => exact ⟨x :: p, ps, by rw [(hc w).2, hp], by rw [sem_cons_and, h]; simp [hx, val]⟩

theorem readS_eval_pieces (env : α → Bool) (w : W α) :
    w.readS.eval env = w.pieces.any (fun p => p.all (Unit'.val env)) := by
  obtain ⟨p, ps, hp, h⟩ := pieces_sem env w
  rw [← val, val_eq, h, hp, List.any_cons]

/-- the flat chain `u₁ op u₂ op … op uₙ` -/
def chain (o : Op) : UnitW α → List (UnitW α) → W α
  | u, [] => u.toW
  | u, v :: vs => u.cons o (chain o v vs)

/-- a bracketing of a chain: binary tree over units -/
inductive BT (α : Type) where
  | leaf (u : UnitW α)
  | node (l r : BT α)

def BT.leaves : BT α → List (UnitW α)
  | .leaf u => [u]
  | .node l r => l.leaves ++ r.leaves

/-- every inner node written with its own pair of parentheses -/
def BT.toUnit (o : Op) : BT α → UnitW α
  | .leaf u => u
  | .node l r => .grp ((l.toUnit o).cons o (r.toUnit o).toW)

/-- the bracketed chain as a query (no parentheses around the whole) -/
def BT.toW (o : Op) : BT α → W α
  | .leaf u => u.toW
  | .node l r => (l.toUnit o).cons o (r.toUnit o).toW

def foldOp (o : Op) (bs : List Bool) : Bool :=
  match o with
  | .and => bs.all id
  | .or => bs.any id

theorem foldOp_append (o : Op) (a b : List Bool) :
    foldOp o (a ++ b) = o.apply (foldOp o a) (foldOp o b) := by
  cases o <;> simp [foldOp, Op.apply]

theorem foldOp_singleton (o : Op) (b : Bool) : foldOp o [b] = b := by
  cases o
  · exact Bool.and_true b
  · exact Bool.or_false b

theorem chain_and_noTopOr (u : UnitW α) (us : List (UnitW α)) : (chain .and u us).hasTopOr = false := by
  induction us generalizing u with
  | nil => exact toW_noTopOr u
  | cons v vs ih => simp only [chain, cons_and_hasTopOr, ih v]

/-- A reading of skeletons into truth values that treats `u op w` as the connective of its two
    parts (for `and`: when `w` has no `or` of its own level) and parentheses as transparent.
    Both the parser's reading and the intended one are such readings; chains and bracketings are
    evaluated once, for any of them. -/
structure Compositional (o : Op) (v : W α → Bool) : Prop where
  cons : ∀ (u : UnitW α) (w : W α), (o = .and → w.hasTopOr = false) →
    v (u.cons o w) = o.apply (v u.toW) (v w)
  grp : ∀ g : W α, v (.grp g) = v g

theorem compositional_chain {o : Op} {v : W α → Bool} (hv : Compositional o v) (u : UnitW α)
    (us : List (UnitW α)) : v (chain o u us) = foldOp o ((u :: us).map fun x => v x.toW) := by
  induction us generalizing u with
  | nil => exact (foldOp_singleton o _).symm
  | cons x xs ih =>
    rw [chain, hv.cons u _ (fun ho => ho ▸ chain_and_noTopOr x xs), ih x]
    show _ = foldOp o ([v u.toW] ++ (x :: xs).map fun x => v x.toW)
    rw [foldOp_append, foldOp_singleton]

theorem compositional_bracket {o : Op} {v : W α → Bool} (hv : Compositional o v) (t : BT α) :
    v (t.toW o) = foldOp o (t.leaves.map fun x => v x.toW) := by
  -- a bracketed subtree written as a unit is its bracketing in parentheses
  have unit : ∀ t : BT α, v (t.toUnit o).toW = v (t.toW o) := fun t => by
    cases t with
    | leaf u => rfl
    | node l r => exact hv.grp _
  induction t with
  | leaf u => exact (foldOp_singleton o _).symm
  | node l r ihl ihr =>
    rw [BT.leaves, List.map_append, foldOp_append, ← ihl, ← ihr, ← unit l, ← unit r]
    exact hv.cons _ _ fun _ => toW_noTopOr _

theorem compositional_readM (env : α → Bool) (o : Op) : Compositional o fun w => w.readM.eval env :=
  ⟨fun u w _ => by rw [cons_readM, U.eval_bin], fun _ => rfl⟩

def UnitW.valM (env : α → Bool) (u : UnitW α) : Bool := u.toW.readM.eval env

theorem chain_eval (env : α → Bool) (o : Op) (u : UnitW α) (us : List (UnitW α)) :
    (chain o u us).readM.eval env = foldOp o ((u :: us).map (UnitW.valM env)) :=
  compositional_chain (compositional_readM env o) u us

theorem bracket_eval (env : α → Bool) (o : Op) (t : BT α) :
    (t.toW o).readM.eval env = foldOp o (t.leaves.map (UnitW.valM env)) :=
  compositional_bracket (compositional_readM env o) t

theorem compositional_readS (env : α → Bool) (o : Op) : Compositional o fun w => w.readS.eval env :=
  ⟨fun u w h => by rw [cons_readS u o w h, U.eval_bin], fun _ => rfl⟩

def UnitW.valS (env : α → Bool) (u : UnitW α) : Bool := u.toW.readS.eval env

theorem chain_evalS (env : α → Bool) (o : Op) (u : UnitW α) (us : List (UnitW α)) :
    (chain o u us).readS.eval env = foldOp o ((u :: us).map (UnitW.valS env)) :=
  compositional_chain (compositional_readS env o) u us

theorem bracket_evalS (env : α → Bool) (o : Op) (t : BT α) :
    (t.toW o).readS.eval env = foldOp o (t.leaves.map (UnitW.valS env)) :=
  compositional_bracket (compositional_readS env o) t

/-- `RP b w w'`: `w'` is `w` with one more pair of parentheses that is redundant under the
    intended reading: around a whole (sub-)query (`b = true` only: allowed at the root, inside
    parentheses, under `not`, as right operand of `or`), around a single unit, or around the
    right operand of `and` when that operand contains no unparenthesised `or`. -/
inductive RP : Bool → W α → W α → Prop where
  | whole (w : W α) : RP true w (.grp w)
  | atomUnit (b : Bool) (a : Atom α) (o : Op) (w : W α) : RP b (.atomOp a o w) (.grpOp (.atom a) o w)
  | grpUnit (b : Bool) (g : W α) (o : Op) (w : W α) : RP b (.grpOp g o w) (.grpOp (.grp g) o w)
  | inGrp (b : Bool) (g g' : W α) : RP true g g' → RP b (.grp g) (.grp g')
  | inNot (b : Bool) (w w' : W α) : RP true w w' → RP b (.not w) (.not w')
  | inLeft (b : Bool) (g g' : W α) (o : Op) (w : W α) : RP true g g' → RP b (.grpOp g o w) (.grpOp g' o w)
  | atomOrTail (b : Bool) (a : Atom α) (w w' : W α) : RP true w w' → RP b (.atomOp a .or w) (.atomOp a .or w')
  | grpOrTail (b : Bool) (g : W α) (w w' : W α) : RP true w w' → RP b (.grpOp g .or w) (.grpOp g .or w')
  | atomAndTail (b : Bool) (a : Atom α) (w w' : W α) : RP false w w' → RP b (.atomOp a .and w) (.atomOp a .and w')
  | grpAndTail (b : Bool) (g : W α) (w w' : W α) : RP false w w' → RP b (.grpOp g .and w) (.grpOp g .and w')
  | atomAndWrap (b : Bool) (a : Atom α) (w : W α) : w.hasTopOr = false →
      RP b (.atomOp a .and w) (.atomOp a .and (.grp w))
  | grpAndWrap (b : Bool) (g : W α) (w : W α) : w.hasTopOr = false →
      RP b (.grpOp g .and w) (.grpOp g .and (.grp w))

theorem RP.readM_eq {b : Bool} {w w' : W α} (h : RP b w w') : w.readM = w'.readM := by
  induction h with
  | whole w => rfl
  | atomUnit b a o w => rfl
  | grpUnit b g o w => rfl
  | inGrp b g g' _ ih => simpa [W.readM] using ih
  | inNot b w w' _ ih => simp [W.readM, ih]
  | inLeft b g g' o w _ ih => simp [W.readM, ih]
  | atomOrTail b a w w' _ ih => simp [W.readM, ih]
  | grpOrTail b g w w' _ ih => simp [W.readM, ih]
  | atomAndTail b a w w' _ ih => simp [W.readM, ih]
  | grpAndTail b g w w' _ ih => simp [W.readM, ih]
  | atomAndWrap b a w _ => rfl
  | grpAndWrap b g w _ => rfl

/-- the second conjunct (a pair that is not around the whole keeps the level's split into first
    `and`-group and rest) is what the `…AndTail` cases of the induction need -/
theorem RP.readGo_eq {b : Bool} {w w' : W α} (h : RP b w w') :
    w.readS = w'.readS ∧ (b = false → w.readGo = w'.readGo) := by
  have lift : ∀ {b : Bool} {w w' : W α}, w.readGo = w'.readGo →
      w.readS = w'.readS ∧ (b = false → w.readGo = w'.readGo) := fun h => ⟨congrArg comb h, fun _ => h⟩
  induction h with
  | whole w => exact ⟨rfl, fun h => nomatch h⟩
  | atomUnit b a o w => cases o <;> exact lift rfl
  | grpUnit b g o w => cases o <;> exact lift rfl
  | inGrp b g g' _ ih => exact lift (congrArg (fun x => (x, none)) ih.1)
  | inNot b w w' _ ih => exact lift (congrArg (fun x => (U.not x, none)) ih.1)
  | inLeft b g g' o w _ ih =>
    cases o
    · exact lift (congrArg (fun x => (U.bin .and x w.readGo.1, w.readGo.2)) ih.1)
    · exact lift (congrArg (fun x => (x, some w.readS)) ih.1)
  | atomOrTail b a w w' _ ih => exact lift (congrArg (fun x => (U.atom a, some x)) ih.1)
  | grpOrTail b g w w' _ ih => exact lift (congrArg (fun x => (g.readS, some x)) ih.1)
  | atomAndTail b a w w' _ ih => exact lift (congrArg (fun x => (U.bin .and (.atom a) x.1, x.2)) (ih.2 rfl))
  | grpAndTail b g w w' _ ih => exact lift (congrArg (fun x => (U.bin .and g.readS x.1, x.2)) (ih.2 rfl))
  | atomAndWrap b a w hn =>
    exact lift (congrArg (fun x => (U.bin .and (.atom a) x.1, x.2)) (readGo_of_noTopOr w hn))
  | grpAndWrap b g w hn =>
    exact lift (congrArg (fun x => (U.bin .and g.readS x.1, x.2)) (readGo_of_noTopOr w hn))

end StorageModel.C12
