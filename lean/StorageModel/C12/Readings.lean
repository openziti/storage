import StorageModel.C12.Proofs
/-
  C12 — the two readings compared, unit by unit (`UnitW`, `W.unitInduction`): exact condition
  under which the reading of the generated parser (`readM`) is the intended one (`readS`); both
  readings are typed alike, as they agree under every function of trees that does not see how
  `and` / `or` are grouped (`readS_regroups`).
-/
namespace StorageModel.C12
variable {α : Type}

/-- a unit written on its own -/
inductive UnitW (α : Type) where
  | atom (a : Atom α)
  | grp (g : W α)

def UnitW.toW : UnitW α → W α
  | .atom a => .atom a
  | .grp g => .grp g

/-- `u op w` -/
def UnitW.cons (u : UnitW α) (o : Op) (w : W α) : W α :=
  match u with
  | .atom a => .atomOp a o w
  | .grp g => .grpOp g o w

/-- Induction over skeletons with the two ways a level can continue (`a op w`, `( g ) op w`)
    taken together as "unit, operator, rest". -/
theorem W.unitInduction {motive : W α → Prop} (atom : ∀ a, motive (.atom a))
    (grp : ∀ g, motive g → motive (.grp g)) (not : ∀ w, motive w → motive (.not w))
    (cons : ∀ (u : UnitW α) (o : Op) (w : W α), motive u.toW → motive w → motive (u.cons o w)) :
    ∀ w, motive w := by
  intro w
  induction w with
  | atom a => exact atom a
  | grp g ih => exact grp g ih
  | not w ih => exact not w ih
  | atomOp a o w ih => exact cons (.atom a) o w (atom a) ih
  | grpOp g o w ihg ih => exact cons (.grp g) o w (grp g ihg) ih

theorem cons_readM (u : UnitW α) (o : Op) (w : W α) :
    (u.cons o w).readM = .bin o u.toW.readM w.readM := by
  cases u <;> rfl

theorem cons_evM (u : UnitW α) (o : Op) (w : W α) : (u.cons o w).evM = u.toW.evM ++ (w.evM ++ [.exitBin o]) := by
  cases u <;> simp [UnitW.cons, UnitW.toW, W.evM]

theorem cons_readGo_or (u : UnitW α) (w : W α) : (u.cons .or w).readGo = (u.toW.readS, some w.readS) := by
  cases u <;> rfl

theorem cons_readGo_and (u : UnitW α) (w : W α) :
    (u.cons .and w).readGo = (.bin .and u.toW.readS w.readGo.1, w.readGo.2) := by
  cases u <;> rfl

theorem toW_noTopOr (u : UnitW α) : u.toW.hasTopOr = false := by cases u <;> rfl

theorem cons_and_hasTopOr (u : UnitW α) (w : W α) : (u.cons .and w).hasTopOr = w.hasTopOr := by
  cases u <;> rfl

theorem ordered_cons_or (u : UnitW α) (w : W α) : (u.cons .or w).ordered = (u.toW.ordered && w.ordered) := by
  cases u <;> rfl

theorem ordered_cons_and (u : UnitW α) (w : W α) :
    (u.cons .and w).ordered = (u.toW.ordered && !w.hasTopOr && w.ordered) := by
  cases u <;> rfl

theorem isSome_readGo_snd (w : W α) : w.readGo.2.isSome = w.hasTopOr := by
  induction w using W.unitInduction with
  | atom a => rfl
  | grp g _ => rfl
  | not w _ => rfl
  | cons u o w _ ih =>
    cases o with
    | and => rw [cons_readGo_and, cons_and_hasTopOr]; exact ih
    | or => cases u <;> rfl

theorem readGo_of_noTopOr (w : W α) (h : w.hasTopOr = false) : w.readGo = (w.readS, none) := by
  have hn := (isSome_readGo_snd w).trans h
  rw [W.readS]
  generalize w.readGo = x at hn ⊢
  obtain ⟨g, _ | r⟩ := x
  · rfl
  · cases hn

@[simp] theorem readS_atom (a : Atom α) : (W.atom a).readS = .atom a := rfl
@[simp] theorem readS_grp (g : W α) : (W.grp g).readS = g.readS := rfl
@[simp] theorem readS_not (w : W α) : (W.not w).readS = .not w.readS := rfl
@[simp] theorem readS_atomOp_or (a : Atom α) (w : W α) :
    (W.atomOp a .or w).readS = .bin .or (.atom a) w.readS := rfl
@[simp] theorem readS_grpOp_or (g w : W α) :
    (W.grpOp g .or w).readS = .bin .or g.readS w.readS := rfl

theorem cons_readS_or (u : UnitW α) (w : W α) :
    (u.cons .or w).readS = .bin .or u.toW.readS w.readS := by
  cases u <;> rfl

theorem cons_readS_and (u : UnitW α) (w : W α) (h : w.hasTopOr = false) :
    (u.cons .and w).readS = .bin .and u.toW.readS w.readS := by
  rw [W.readS, cons_readGo_and, readGo_of_noTopOr w h]
  rfl

theorem cons_readS (u : UnitW α) (o : Op) (w : W α) (h : o = .and → w.hasTopOr = false) :
    (u.cons o w).readS = .bin o u.toW.readS w.readS := by
  cases o with
  | and => exact cons_readS_and u w (h rfl)
  | or => exact cons_readS_or u w

theorem readM_eq_readS_iff_ordered (w : W α) : w.readM = w.readS ↔ w.ordered = true := by
  induction w using W.unitInduction with
  | atom a => exact ⟨fun _ => rfl, fun _ => rfl⟩
  | grp g ih => exact ih
  | not w ih => rw [W.readM, readS_not, U.not.injEq]; exact ih
  | cons u o w ihu ih =>
    rw [cons_readM]
    cases o with
    | or =>
      rw [cons_readS_or, U.bin.injEq, ordered_cons_or, Bool.and_eq_true, ihu, ih]
      exact and_iff_right rfl
    | and =>
      rw [ordered_cons_and]
      cases hto : w.hasTopOr with
      | false =>
        rw [cons_readS_and u w hto, U.bin.injEq, Bool.not_false, Bool.and_true, Bool.and_eq_true, ihu, ih]
        exact and_iff_right rfl
      | true =>
        -- the unit has joined the first `and`-group only: the intended tree is an `or`
        obtain ⟨r, hr⟩ := Option.isSome_iff_exists.1 ((isSome_readGo_snd w).trans hto)
        rw [W.readS, cons_readGo_and, hr, Bool.not_true, Bool.and_false, Bool.false_and]
        exact ⟨fun h => (nomatch h), fun h => (nomatch h)⟩

def U.allBool (isBool : α → Bool) : U α → Bool
  | .atom (.sym a) => isBool a
  | .atom (.const _) => true
  | .not e => e.allBool isBool
  | .bin _ l r => l.allBool isBool && r.allBool isBool

def W.allBool (isBool : α → Bool) : W α → Bool
  | .atom (.sym a) => isBool a
  | .atom (.const _) => true
  | .grp g => g.allBool isBool
  | .not w => w.allBool isBool
  | .atomOp (.sym a) _ w => isBool a && w.allBool isBool
  | .atomOp (.const _) _ w => w.allBool isBool
  | .grpOp g _ w => g.allBool isBool && w.allBool isBool

theorem allBool_cons (isBool : α → Bool) (u : UnitW α) (o : Op) (w : W α) :
    (u.cons o w).allBool isBool = (u.toW.allBool isBool && w.allBool isBool) := by
  cases u with
  | atom a => cases a <;> rfl
  | grp g => rfl

theorem allBool_true (w : W α) : w.allBool (fun _ => true) = true := by
  induction w using W.unitInduction with
  | atom a => cases a <;> rfl
  | grp g ih => exact ih
  | not w ih => exact ih
  | cons u o w ihu ih => rw [allBool_cons, ihu, ih]; rfl

theorem allBool_readM (isBool : α → Bool) (w : W α) : w.readM.allBool isBool = w.allBool isBool := by
  induction w using W.unitInduction with
  | atom a => cases a <;> rfl
  | grp g ih => exact ih
  | not w ih => exact ih
  | cons u o w ihu ih => rw [cons_readM, allBool_cons, ← ihu, ← ih]; rfl

/-- The two readings differ only in how `and` / `or` are grouped: a compositional function of
    trees that cannot tell `(l and q) or r` from `l and (q or r)` takes the same value on both. -/
theorem readS_regroups {β : Type} (F : U α → β) (hnot : ∀ e e', F e = F e' → F (.not e) = F (.not e'))
    (hbin : ∀ o l l' r r', F l = F l' → F r = F r' → F (.bin o l r) = F (.bin o l' r'))
    (hrot : ∀ l q r, F (.bin .or (.bin .and l q) r) = F (.bin .and l (.bin .or q r))) (w : W α) :
    F w.readS = F w.readM := by
  induction w using W.unitInduction with
  | atom a => rfl
  | grp g ih => exact ih
  | not w ih => exact hnot _ _ ih
  | cons u o w ihu ih =>
    rw [cons_readM]
    cases o with
    | or => rw [cons_readS_or]; exact hbin _ _ _ _ _ ihu ih
    | and =>
      have key : ∀ x : U α × Option (U α),
          F (comb (.bin .and u.toW.readS x.1, x.2)) = F (.bin .and u.toW.readS (comb x)) := by
        rintro ⟨g, _ | r⟩
        · rfl
        · exact hrot _ _ _
      rw [W.readS, cons_readGo_and]
      exact (key _).trans (hbin _ _ _ _ _ ihu ih)

theorem allBool_readS (isBool : α → Bool) (w : W α) : w.readS.allBool isBool = w.allBool isBool :=
  (readS_regroups (U.allBool isBool) (fun _ _ h => h) (fun _ _ _ _ _ hl hr => by rw [U.allBool, U.allBool, hl, hr])
    (fun _ _ _ => Bool.and_assoc _ _ _) w).trans (allBool_readM isBool w)

end StorageModel.C12
