import StorageModel.C12.Clauses
/-
  C12 — redundant parentheses, complete list.  `Paren b w w'`: `w'` is `w` with one more pair of
  parentheses around a sub-expression of the intended reading:
    * the whole (sub-)query: the query itself, a parenthesised level, the operand of `not`,
      the right operand of `or`, the right operand of `and` when it contains no `or` of its level;
    * a single unit;
    * a run `u₁ op … op uₖ` of units at the start of a level or after any operator, followed by
      `or` (then the run may be any union of whole `and`-groups — after an `and`: one group) or
      followed by `and` (then the run lies inside one `and`-group: it contains no `or` of its
      level); a run does not end in a `not` (which would take what follows as its operand).
  `Paren.sem_eq`: the intended value never changes (and the split of the level into "first
  and-group / rest" is kept whenever the pair is not around the whole, which is what makes the
  statement compositional).
-/
namespace StorageModel.C12
variable {α : Type}

def W.endsInNot : W α → Bool
  | .atom _ => false
  | .grp _ => false
  | .not _ => true
  | .atomOp _ _ w => w.endsInNot
  | .grpOp _ _ w => w.endsInNot

theorem sem_append_or (env : α → Bool) (v w : W α) (hn : v.endsInNot = false) :
    sem env (W.append v .or w) = ((sem env v).1, ((sem env v).2 || val env w)) := by
  induction v with
  | atom a => simp [W.append]
  | grp g _ => simp [W.append]
  | not x _ => simp [W.endsInNot] at hn
  | atomOp a o v ih =>
    have ih' := ih (by simpa [W.endsInNot] using hn)
    cases o with
    | or => simp [W.append, val_eq, ih', Bool.or_assoc]
    | and => simp [W.append, ih']
  | grpOp g o v _ ih =>
    have ih' := ih (by simpa [W.endsInNot] using hn)
    cases o with
    | or => simp [W.append, val_eq env (W.append v .or w), val_eq env v, ih', Bool.or_assoc]
    | and => simp [W.append, ih']

theorem sem_append_and (env : α → Bool) (v w : W α) (hn : v.endsInNot = false) (ho : v.hasTopOr = false) :
    sem env (W.append v .and w) = (((sem env v).1 && (sem env w).1), (sem env w).2) := by
  induction v with
  | atom a => simp [W.append]
  | grp g _ => simp [W.append]
  | not x _ => simp [W.endsInNot] at hn
  | atomOp a o v ih =>
    cases o with
    | or => simp [W.hasTopOr] at ho
    | and =>
      have ih' := ih (by simpa [W.endsInNot] using hn) (by simpa [W.hasTopOr] using ho)
      simp [W.append, ih', Bool.and_assoc]
  | grpOp g o v _ ih =>
    cases o with
    | or => simp [W.hasTopOr] at ho
    | and =>
      have ih' := ih (by simpa [W.endsInNot] using hn) (by simpa [W.hasTopOr] using ho)
      simp [W.append, ih', Bool.and_assoc]

/-- one more pair of parentheses around a sub-expression of the intended reading; `b = true`:
    the pair may be around the whole of `w` (not allowed for the right operand of `and`) -/
inductive Paren : Bool → W α → W α → Prop where
  | whole (w : W α) : Paren true w (.grp w)
  | atomUnit (b : Bool) (a : Atom α) (o : Op) (w : W α) : Paren b (.atomOp a o w) (.grpOp (.atom a) o w)
  | grpUnit (b : Bool) (g : W α) (o : Op) (w : W α) : Paren b (.grpOp g o w) (.grpOp (.grp g) o w)
  | runOr (v w : W α) : v.endsInNot = false → Paren true (W.append v .or w) (.grpOp v .or w)
  | runOrIn (b : Bool) (v w : W α) : v.endsInNot = false → v.hasTopOr = false →
      Paren b (W.append v .or w) (.grpOp v .or w)
  | runAnd (b : Bool) (v w : W α) : v.endsInNot = false → v.hasTopOr = false →
      Paren b (W.append v .and w) (.grpOp v .and w)
  | inGrp (b : Bool) (g g' : W α) : Paren true g g' → Paren b (.grp g) (.grp g')
  | inNot (b : Bool) (w w' : W α) : Paren true w w' → Paren b (.not w) (.not w')
  | inLeft (b : Bool) (g g' : W α) (o : Op) (w : W α) : Paren true g g' → Paren b (.grpOp g o w) (.grpOp g' o w)
  | atomOrTail (b : Bool) (a : Atom α) (w w' : W α) : Paren true w w' → Paren b (.atomOp a .or w) (.atomOp a .or w')
  | grpOrTail (b : Bool) (g : W α) (w w' : W α) : Paren true w w' → Paren b (.grpOp g .or w) (.grpOp g .or w')
  | atomAndTail (b : Bool) (a : Atom α) (w w' : W α) : Paren false w w' → Paren b (.atomOp a .and w) (.atomOp a .and w')
  | grpAndTail (b : Bool) (g : W α) (w w' : W α) : Paren false w w' → Paren b (.grpOp g .and w) (.grpOp g .and w')
  | atomAndWrap (b : Bool) (a : Atom α) (w : W α) : w.hasTopOr = false →
      Paren b (.atomOp a .and w) (.atomOp a .and (.grp w))
  | grpAndWrap (b : Bool) (g : W α) (w : W α) : w.hasTopOr = false →
      Paren b (.grpOp g .and w) (.grpOp g .and (.grp w))

theorem Paren.sem_eq {b : Bool} {w w' : W α} (h : Paren b w w') (env : α → Bool) :
    val env w = val env w' ∧ (b = false → sem env w = sem env w') := by
  have lift : ∀ {b : Bool} {w w' : W α}, sem env w = sem env w' →
      val env w = val env w' ∧ (b = false → sem env w = sem env w') :=
    fun h => ⟨val_congr h, fun _ => h⟩
  induction h with
  | whole w => exact ⟨rfl, fun h => nomatch h⟩
  | atomUnit b a o w => cases o <;> exact lift rfl
  | grpUnit b g o w => cases o <;> exact lift rfl
  | runOr v w hn =>
    refine ⟨?_, fun h => nomatch h⟩
    rw [val_eq, val_eq, sem_append_or env v w hn, sem_grpOp_or, val_eq env v, Bool.or_assoc]
  | runOrIn b v w hn ho =>
    refine lift ?_
    rw [sem_append_or env v w hn, sem_grpOp_or, sem_of_noTopOr env v ho]
    rfl
  | runAnd b v w hn ho =>
    refine lift ?_
    rw [sem_append_and env v w hn ho, sem_grpOp_and, sem_of_noTopOr env v ho]
  | inGrp b g g' _ ih => exact lift (by rw [sem_grp, sem_grp, ih.1])
  | inNot b w w' _ ih => exact lift (by rw [sem_not, sem_not, ih.1])
  | inLeft b g g' o w _ ih =>
    cases o
    · exact lift (by rw [sem_grpOp_and, sem_grpOp_and, ih.1])
    · exact lift (by rw [sem_grpOp_or, sem_grpOp_or, ih.1])
  | atomOrTail b a w w' _ ih => exact lift (by rw [sem_atomOp_or, sem_atomOp_or, ih.1])
  | grpOrTail b g w w' _ ih => exact lift (by rw [sem_grpOp_or, sem_grpOp_or, ih.1])
  | atomAndTail b a w w' _ ih => exact lift (by rw [sem_atomOp_and, sem_atomOp_and, ih.2 rfl])
  | grpAndTail b g w w' _ ih => exact lift (by rw [sem_grpOp_and, sem_grpOp_and, ih.2 rfl])
  | atomAndWrap b a w hn =>
    refine lift ?_
    rw [sem_atomOp_and, sem_atomOp_and, sem_grp, sem_of_noTopOr env w hn]
  | grpAndWrap b g w hn =>
    refine lift ?_
    rw [sem_grpOp_and, sem_grpOp_and, sem_grp, sem_of_noTopOr env w hn]

end StorageModel.C12
